/-
C05 — evaluation and compilation are deterministic.

Go's map iteration order is an adversary.  Every model function that corresponds to a Go
`range` over a map takes the *visiting order* as an argument (`vis`, a list that is a
permutation of the map's entries); the theorems in `Props.lean` say for which site classes
the result does not depend on it.

The parts, in the order of the file:

Part 1  site classes (one small function per way a loop body uses the visited entries); 1a, 1b:
        listings that collect and then sort, `Set.SortedItems`, `sorted()`, the import cache;
        1c: loops that CHOOSE one entry (`VirtualOS.findMount`, with the loop as it was before its
        repair and the forbidden last-one-wins variant); 1d: the hash key of a value as a function
        of the value alone (with the promised order and the forbidden seeded-hash key)
Part 2  a fragment of the language (literals, globals, `+`, list/map/set literals, index,
        `print`) with the compiler's emission order for map literals under an adversary,
        the constant pool / symbol table, and the VM on the emitted code
Part 4  rendering an object graph as text (print, printf, sprintf, errorf, string(), string
        interpolation, error()): the ADDRESS of every allocation is a second adversarial
        parameter; the reviewed table of every object type and of PrintableValue's dispatch
Part 3  the reviewed classification of every map-range site of the source tree
Part 5  walks over a container whose elements can fail one by one (`json.marshal` over maps, sets
        and lists with SEVERAL unmarshalable values, with the forbidden range-and-return variant;
        the reviewed table of every `MarshalJSON` body; http request headers)
Part 6  several tables merged into one map (`DefaultGlobals`); candidates probed in a priority
        order (`readFileWithExtensions`)
Part 9  declarations that introduce several names at once (`from m import a, b`, `a, b := …`,
        parameters): slots follow the source

Core Lean only.
-/
namespace Risor.C05

/-! ## Part 1 — site classes -/

/-- Go's `sort.Strings` order (bytewise = code-point order on valid UTF-8) -/
def sle (a b : String) : Bool := decide (a ≤ b)

/-- insertion sort (structural, so that concrete witnesses evaluate in the kernel); any
    algorithm that returns a sorted permutation gives the same list for a total order
    (`isort_unique` in Lemmas.lean), so this also stands for Go's `sort.Strings`/`sort.Slice` -/
def insertBy (le : α → α → Bool) (a : α) : List α → List α
  | [] => [a]
  | b :: l => if le a b then a :: b :: l else b :: insertBy le a l

def isort (le : α → α → Bool) : List α → List α
  | [] => []
  | a :: l => insertBy le a (isort le l)

/-- `Map.SortedKeys`, `object.Keys`, `Config.GlobalNames`, `newGoType` attribute names,
    `compiler.New` (sorts the supplied global names): collect in visiting order, then sort. -/
def sortedKeys (vis : List String) : List String := isort sle vis

/-- a permutation given as a list of indices; anything that is not a permutation of
    `0..n-1` is read as the identity (so every annotation denotes some visiting order) -/
def validPerm (p : List Nat) (n : Nat) : Bool :=
  isort Nat.ble p == List.range n

def applyPerm (p : List Nat) (l : List α) : List α :=
  if validPerm p l.length then p.filterMap (fun i => l[i]?) else l

/-- an abstract Go map with string keys -/
def AMap (V : Type) := String → Option V

def AMap.empty : AMap V := fun _ => none
def AMap.set (m : AMap V) (k : String) (v : V) : AMap V := fun k' => if k' = k then some v else m k'
def AMap.del (m : AMap V) (k : String) : AMap V := fun k' => if k' = k then none else m k'

/-- `Map.Copy/Update/Interface`, `Set.Union/Intersection/Difference`, `AsObjects` (success
    path), `WithGlobals`, `DefaultGlobals`, `symbolTableFromDefinition`, …: every visited
    entry that passes a pure filter is written, under its own key, into another map. -/
def foldInsert (keep : String → V → Bool) (f : String → V → W) (vis : List (String × V))
    (m0 : AMap W) : AMap W :=
  vis.foldl (fun m kv => if keep kv.1 kv.2 then m.set kv.1 (f kv.1 kv.2) else m) m0

/-- `Config.applyDenylist` (top-level names): every visited key is deleted from another map -/
def foldDelete (vis : List String) (m0 : AMap V) : AMap V :=
  vis.foldl (fun m k => m.del k) m0

/-- `compileFunc`'s defaults: `defaults[paramsIdx[name]] = value` for every visited entry -/
def assignByIndex (idx : String → Nat) (vis : List (String × V)) (arr : List (Option V)) :
    List (Option V) :=
  vis.foldl (fun a kv => a.set (idx kv.1) (some kv.2)) arr

/-- `Map.Equals`, `Set.Equals`, `builtins.All`: return false at the first visited entry that
    fails a pure test, true otherwise -/
def allEntries (p : α → Bool) (vis : List α) : Bool := vis.all p
/-- `builtins.Any` -/
def anyEntry (p : α → Bool) (vis : List α) : Bool := vis.any p

/-- the loops that stop at the first visited entry that cannot be processed and return
    *its* error: `compileFunc` (unsupported default value), `AsObjects`, `FromGoType` on a
    Go map, `MapConverter.To`, `StructConverter.To` -/
def firstFailure (err : α → Option ε) (vis : List α) : Option ε := vis.findSome? err

/-- the loop body of `Config.applyOverrides` over a given order of the entries: a valid entry
    is applied; the first invalid one ends the loop (the error is dropped by `init`) and the
    entries visited so far stay applied.  BEFORE the repair of finding C05-overrides-abort-order
    the order was the visiting order of the map (`C05_fixed_overrides_abort_order`); since the
    repair it is the sorted order of the names (`applyOverridesSorted`) -/
def applyOverrides : List (String × Option V) → AMap V → AMap V
  | [], m => m
  | (k, some v) :: rest, m => applyOverrides rest (m.set k v)
  | (_, none) :: _, m => m

/-- `AsObjects`, `FromGoType` on a Go map, `MapConverter.To/From`, `StructConverter.To` SINCE
    their repair (`fix: convert the entries of a map in sorted key order`): the keys are collected
    and sorted, the entries are converted in that order and the first one that fails decides the
    error — the error of the smallest failing key (`conversion_perm_invariant`) -/
def convertSorted (err : String → Option ε) (vis : List String) : Option ε :=
  firstFailure err (sortedKeys vis)

/-- the same loops BEFORE the repair (finding C05-conversion-error-order, fixed): the entries
    were converted in visiting order (`C05_fixed_conversion_error_order`) -/
def preFixConvert (err : String → Option ε) (vis : List String) : Option ε := firstFailure err vis

/-- `compileFunc`'s defaults SINCE its repair (`fix: report the first unsupported parameter
    default in declaration order`): the PARAMETERS are walked in declaration order and each
    one's default is looked up in the map (`vis` = the map in the adversary's visiting order,
    read only through lookups); the first parameter whose default is unsupported decides -/
def funcDefaults (err : D → Option ε) (params : List String) (vis : List (String × D)) : Option ε :=
  let m : AMap D := foldInsert (fun _ _ => true) (fun _ v => v) vis AMap.empty
  firstFailure (fun p => (m p).bind err) params

/-- the same loop BEFORE the repair (finding C05-func-defaults-error-order, fixed): it ranged
    over the defaults map (`C05_fixed_func_defaults_error_order`) -/
def preFixFuncDefaults (err : D → Option ε) (_params : List String) (vis : List (String × D)) : Option ε :=
  firstFailure (fun kv => err kv.2) vis

/-- `Config.applyOverrides` SINCE its repair (`fix: apply global overrides in sorted order of
    their names`): the names are collected and sorted, every value is looked up in the map, and
    the loop still ends at the first invalid value (the error is still dropped by `init`) -/
def applyOverridesSorted (vis : List (String × Option V)) (m0 : AMap V) : AMap V :=
  let m : AMap (Option V) := foldInsert (fun _ _ => true) (fun _ v => v) vis AMap.empty
  applyOverrides ((sortedKeys (vis.map (·.1))).map fun k => (k, (m k).getD none)) m0

/-- `Map.StringKeys`, `ast.Map.String`, the emission of `compileMap` (and, before their repair,
    `VirtualOS.Environ` and `MockFS.ReadDir`): the result lists the entries in visiting order -/
def inVisitingOrder (f : α → β) (vis : List α) : List β := vis.map f

/-! ### Part 1a — the two listings that were repaired in /repo (collect, then sort) -/

/-- one `KEY=value` line of an environment listing -/
def envLine (kv : String × String) : String := kv.1 ++ "=" ++ kv.2

/-- **Impl** `VirtualOS.Environ` as repaired ("fix: return the environment of a virtual OS in
    sorted order"): the `KEY=value` strings are collected in visiting order, then `sort.Strings` -/
def environ (vis : List (String × String)) : List String := sortedKeys (inVisitingOrder envLine vis)

/-- `VirtualOS.Environ` BEFORE the repair (finding C05-virtualos-environ-order): no sort; kept so
    that the defect stays a checked statement (`C05_fixed_environ_was_visiting_order`) -/
def environPreFix (vis : List (String × String)) : List String := inVisitingOrder envLine vis

/-- the `less` of the repaired `MockFS.ReadDir`, as a `≤` on (filename, path): by filename, the
    path (the key of the Go map, so distinct for distinct entries) breaks ties -/
def entLe (a b : String × String) : Bool :=
  if a.1 != b.1 then decide (a.1 < b.1) else sle a.2 b.2

/-- **Impl** `MockFS.ReadDir` as repaired ("fix: return the entries of a MockFS directory sorted
    by filename"): the matching paths are collected in visiting order, `sort.Slice`d by
    (filename, path), and the entries (filename, file info) are built in that order.
    An entry of `vis` is (path, filename, info). -/
def readDir (vis : List (String × String × I)) : List (String × I) :=
  (isort (fun a b => entLe (a.2.1, a.1) (b.2.1, b.1)) vis).map (fun e => (e.2.1, e.2.2))

/-- `MockFS.ReadDir` BEFORE the repair (finding C05-mockfs-readdir-order): the entries in
    visiting order; kept for `C05_fixed_readdir_was_visiting_order` -/
def readDirPreFix (vis : List (String × String × I)) : List (String × I) :=
  inVisitingOrder (fun e => (e.2.1, e.2.2)) vis

/-! ### Part 1b — `Set.SortedItems`, `sorted()`, and the VM's import cache over full hash keys -/

/-- `object.HashKey`: the type name and the three value fields.  A float value is carried as
    its position in the order of the non-NaN float64 values (`flt`; -0 and +0 are one
    position, as they are one Go map key); `nan` marks a NaN, which compares unequal to and
    not less than every float, itself included. -/
structure HKey where
  ty : String
  int : Int
  str : String
  flt : Int
  nan : Bool
  deriving DecidableEq, Repr

/-- the comparator of `Set.SortedItems`, clause by clause:
    `Type`, then `IntValue`, then `StrValue`, then `FltValue`, else `false` -/
def hkLess (a b : HKey) : Bool :=
  if a.ty != b.ty then decide (a.ty < b.ty)
  else if a.int != b.int then decide (a.int < b.int)
  else if a.str != b.str then decide (a.str < b.str)
  else if a.nan || b.nan || a.flt != b.flt then !a.nan && !b.nan && decide (a.flt < b.flt)
  else false

def hkGe (a b : HKey) : Bool := !hkLess a b

/-- `Set.SortedItems`: collect the items in visiting order, then `sort.Slice` with `hkLess`.
    Written as Go's `insertionSortLessFunc` (each element in turn moves left while it is
    less than its left neighbour), which is what `sort.Slice` runs for up to 12 elements; on
    NaN-free keys `hkLess` is a strict total order and every sorting algorithm returns this
    list (`sortedItems_perm_invariant`, `isort_unique_pred` in Lemmas.lean). -/
def sortedItems (vis : List HKey) : List HKey := (isort hkGe vis.reverse).reverse

/-- `for x in set`, `list(set)`, `iter(set)`: the iterator walks the hash keys of
    `SortedItems` and looks each one up in the Go map; a NaN key is never found, which ends
    the iteration there -/
def iterItems (vis : List HKey) : List HKey := (sortedItems vis).takeWhile (fun k => !k.nan)

def noNaN (vis : List HKey) : Bool := vis.all (fun k => !k.nan)

/-- `sort.SliceStable` with `less a b := rank a < rank b` (what `sorted(x, cmp)` does when
    `cmp` is a strict weak order; `rank` names the classes of items `cmp` cannot tell apart) -/
def stableSortBy (rank : α → Int) (l : List α) : List α :=
  isort (fun a b => decide (rank a ≤ rank b)) l

/-- `builtins.Sorted` on a set (on a map: its keys, all of type string): the stable sort
    STARTS FROM `SortedItems`/`Keys()`, not from the visiting order -/
def sortedBuiltin (rank : HKey → Int) (vis : List HKey) : List HKey :=
  stableSortBy rank (sortedItems vis)

/-- `VirtualMachine.applyOptions`: every global that holds a module is entered into the
    import cache under THE GLOBAL'S name (`insertFold`); `g.1` is the global's name, `g.2` the
    module (here: its own name and an identity) or `none` for a global that is no module -/
def moduleCache (vis : List (String × Option (String × Nat))) : AMap (String × Nat) :=
  foldInsert (fun _ v => v.isSome) (fun _ v => v.getD ("", 0)) vis AMap.empty

/-- the variant that is NOT order-independent (kept for `module_cache_alias_counterexample`):
    the module is also entered under its own name -/
def moduleCacheAlias (vis : List (String × Option (String × Nat))) : AMap (String × Nat) :=
  vis.foldl (fun m g => match g.2 with
    | some mod => (m.set g.1 mod).set mod.1 mod
    | none => m) AMap.empty

/-! ### Part 1c — loops that CHOOSE one entry of a map: `VirtualOS.findMount`

Every file operation of a script under a virtual OS (`os.read_file`, `os.write_file`, `os.stat`,
`os.remove`, `os.rename`, `open`, …) goes through `findMount`, which ranges over the `mounts` Go
map: an entry whose key IS the path ends the loop at once; otherwise an entry whose key is a prefix
of the path ending at a component boundary becomes the candidate if it is STRICTLY LONGER than the
candidate held so far.  Which filesystem serves the access — result, error and side effects of the
script — is the outcome of this loop.

Since the repair "fix: choose the longest mount point in findMount by the length of its key" the
loop remembers the KEY of its candidate (`matchKey`) and compares `len(k) > len(matchKey)`: key
length against key length (`findMount`).  Before it compared `len(k) > len(match.Target)` — the
visited key against the candidate's `Target` FIELD, which nothing ties to the key
(`preFixFindMount`, finding C05-findmount-target-length, now fixed). -/

/-- the state of a choosing loop: it has returned from inside the loop (`done`), or holds the
    best candidate so far -/
inductive Sel (α : Type) where
  | done (a : α)
  | cand (best : Option α)
  deriving DecidableEq, Repr

/-- one iteration of the loop of `findMount`, abstractly: `exact x` = "return this entry now";
    `ok x` = "the entry qualifies"; a qualifying entry replaces the candidate `m` iff
    `lenNew x > lenCur m`.  The repaired code reads both lengths off the KEY (`len(k)` of the
    visited entry, `len(matchKey)` of the candidate): `findMount` instantiates `lenNew` and
    `lenCur` with the same function.  The two are kept apart because the loop before the repair
    read `len(match.Target)` off the candidate, a different field (`preFixFindMount`). -/
def selStep (exact ok : α → Bool) (lenNew lenCur : α → Nat) (s : Sel α) (x : α) : Sel α :=
  match s with
  | .done a => .done a
  | .cand best =>
    if exact x then .done x
    else if ok x then
      match best with
      | none => .cand (some x)
      | some m => if lenNew x > lenCur m then .cand (some x) else .cand (some m)
    else .cand best

/-- the choosing loop over the visiting order `vis` -/
def selectLoop (exact ok : α → Bool) (lenNew lenCur : α → Nat) (vis : List α) : Sel α :=
  vis.foldl (selStep exact ok lenNew lenCur) (.cand none)

/-- the variant that is NOT order-independent (kept for `lastSelect_counterexample`): every
    qualifying entry replaces the candidate — what the loop degenerates to when the candidate is
    compared with anything but the best length seen so far (a bound that is never updated) -/
def selStepLast (exact ok : α → Bool) (s : Sel α) (x : α) : Sel α :=
  match s with
  | .done a => .done a
  | .cand best => if exact x then .done x else if ok x then .cand (some x) else .cand best

def selectLast (exact ok : α → Bool) (vis : List α) : Sel α :=
  vis.foldl (selStepLast exact ok) (.cand none)

/-- Go's `strings.HasPrefix` on byte strings (paths are lists of bytes: no normalisation hides
    in a string type) -/
def hasPrefixB : List Nat → List Nat → Bool
  | _, [] => true
  | [], _ :: _ => false
  | a :: p, b :: k => a == b && hasPrefixB p k

/-- one entry of the mount table: the key it is registered under, `Mount.Target`, and the
    identity of the mount (which filesystem) -/
structure MountEnt where
  key : List Nat
  target : List Nat
  id : Nat
  deriving DecidableEq, Repr

/-- `k` is a string prefix of `path` that ends at a component boundary: the mount point ends
    with '/' (47) or the next byte of the path is '/' -/
def mountMatches (path k : List Nat) : Bool :=
  hasPrefixB path k && (k.getLast? == some 47 || path[k.length]? == some 47)

/-- `strings.TrimPrefix(path, target)`, `"/"` when nothing is left -/
def relOf (path target : List Nat) : List Nat :=
  let rel := if hasPrefixB path target then path.drop target.length else path
  if rel.isEmpty then [47] else rel

/-- **Impl** `VirtualOS.findMount` (as repaired) on the path string it matches (absolute,
    cleaned): which mount serves the access and the path handed to that mount's filesystem;
    `vis` = the order in which the `range` over `osObj.mounts` visits the entries.  A qualifying
    mount point replaces the candidate iff its KEY is longer than the candidate's KEY; the
    relative path is still `strings.TrimPrefix(path, match.Target)` (the repair left it alone:
    it is a function of the chosen mount, so it cannot bring the visiting order back in). -/
def findMount (path : List Nat) (vis : List MountEnt) : Option (Nat × List Nat) :=
  match selectLoop (fun e => e.key == path) (fun e => mountMatches path e.key)
      (fun e => e.key.length) (fun e => e.key.length) vis with
  | .done e => some (e.id, [47])
  | .cand (some e) => some (e.id, relOf path e.target)
  | .cand none => none

/-- `VirtualOS.findMount` BEFORE the repair (historical, kept so the defect stays documented:
    `Props.C05_fixed_findmount_target_length`): the length of the visited KEY was compared with
    the length of the candidate's `Target` FIELD -/
def preFixFindMount (path : List Nat) (vis : List MountEnt) : Option (Nat × List Nat) :=
  match selectLoop (fun e => e.key == path) (fun e => mountMatches path e.key)
      (fun e => e.key.length) (fun e => e.target.length) vis with
  | .done e => some (e.id, [47])
  | .cand (some e) => some (e.id, relOf path e.target)
  | .cand none => none

/-- the forbidden variant of `findMount`: the last qualifying mount visited wins -/
def findMountLast (path : List Nat) (vis : List MountEnt) : Option (Nat × List Nat) :=
  match selectLast (fun e => e.key == path) (fun e => mountMatches path e.key) vis with
  | .done e => some (e.id, [47])
  | .cand (some e) => some (e.id, relOf path e.target)
  | .cand none => none

/-- every mount is registered under its own `Target` (what `cmd/risor` and every caller in the
    repository does).  It WAS the guard of finding C05-findmount-target-length; since the repair
    no theorem about `findMount` needs it — it only says on which tables the loop before the
    repair chose like the repaired one (`Props.preFixFindMount_eq_on_own_targets`) -/
def targetsAreKeys (vis : List MountEnt) : Bool := vis.all (fun e => e.target == e.key)

/-! ### Part 1d — the hash key of a value is a function of the VALUE alone

`Set.SortedItems` orders the members by their hash keys, so the order in which a set prints,
iterates, converts to a list and marshals is the order of `HashKey()` of its members.  The
property ("maps and sets iterate and print in sorted order", the same in every fresh process)
therefore needs every `HashKey()` method to be a function of the value — no per-process seed,
no address — that is injective and monotone within a type. -/

/-- a hashable risor value (the seven types that implement `object.Hashable`).  A float is
    carried as its position among the non-NaN float64 values, a byte slice and a string as
    their bytes (one character per byte). -/
inductive HV where
  | int (n : Int)
  | str (s : String)
  | bool (b : Bool)
  | nil
  | byte (b : Nat)
  | bytes (s : String)
  | flt (ord : Int)
  | nan
  deriving DecidableEq, Repr

/-- **Impl** the seven `HashKey()` methods of package object, as read (tie
    `Ties.hash_keys_reviewed`): the type name and ONE value field filled with the value itself -/
def HV.key : HV → HKey
  | .int n => ⟨"int", n, "", 0, false⟩
  | .str s => ⟨"string", 0, s, 0, false⟩
  | .bool b => ⟨"bool", if b then 1 else 0, "", 0, false⟩
  | .nil => ⟨"nil", 0, "", 0, false⟩
  | .byte b => ⟨"byte", b, "", 0, false⟩
  | .bytes s => ⟨"byte_slice", 0, s, 0, false⟩
  | .flt o => ⟨"float", 0, "", o, false⟩
  | .nan => ⟨"float", 0, "", 0, true⟩

/-- the forbidden variant (kept for `hashedKey_counterexample`): a byte slice longer than `limit`
    is keyed by a hash `h` of its contents plus its first `limit` bytes — `h` standing for a hash
    function seeded per process -/
def HV.keyHashed (limit : Nat) (h : String → Int) : HV → HKey
  | .bytes s =>
    if s.length ≤ limit then ⟨"byte_slice", 0, s, 0, false⟩
    else ⟨"byte_slice", h s, String.ofList (s.toList.take limit), 0, false⟩
  | v => v.key

/-- the members of a set in the order `SortedItems` lists them, given how members are keyed:
    the VALUES, sorted by their hash keys (`sortedItems` on the keys, Part 1b) -/
def listingBy (key : HV → HKey) (vis : List HV) : List HV :=
  (isort (fun a b => hkGe (key a) (key b)) vis.reverse).reverse

/-- **Impl** printing / iterating / `list()` / `json.marshal` of a set -/
def setListing (vis : List HV) : List HV := listingBy HV.key vis

def HV.isNaN : HV → Bool
  | .nan => true
  | _ => false

/-- the type name, as `Type()` returns it -/
def HV.ty : HV → String
  | .int _ => "int" | .str _ => "string" | .bool _ => "bool" | .nil => "nil"
  | .byte _ => "byte" | .bytes _ => "byte_slice" | .flt _ => "float" | .nan => "float"

/-- **Spec** the order the property promises ("sets iterate and print in sorted order"), stated
    on VALUES without any hash key: by type name, and within a type ints and bytes numerically,
    strings and byte slices bytewise, `false` before `true`, floats numerically -/
def HV.less (a b : HV) : Bool :=
  if a.ty != b.ty then decide (a.ty < b.ty)
  else match a, b with
    | .int x, .int y => decide (x < y)
    | .str x, .str y => decide (x < y)
    | .bool x, .bool y => !x && y
    | .byte x, .byte y => decide (x < y)
    | .bytes x, .bytes y => decide (x < y)
    | .flt x, .flt y => decide (x < y)
    | _, _ => false

/-- the reviewed table of the `HashKey()` methods of package object (type, the text of the body as
    the extractor prints it: layout-insensitive).  Read at the pinned commit: every body builds ONE
    `HashKey` literal from the receiver's type name and the receiver's value — no package-level
    state, no seed, no address.  These seven are the types that can be members of a set. -/
def hashKeysReviewed : List (String × String) := [
  ("Bool", "{ var value int64 if b.value { value = 1 } else { value = 0 } return HashKey{Type: b.Type(), IntValue: value} }"),
  ("Byte", "{ return HashKey{Type: b.Type(), IntValue: int64(b.value)} }"),
  ("ByteSlice", "{ return HashKey{Type: b.Type(), StrValue: string(b.value)} }"),
  ("Float", "{ return HashKey{Type: f.Type(), FltValue: f.value} }"),
  ("Int", "{ return HashKey{Type: i.Type(), IntValue: i.value} }"),
  ("NilType", "{ return HashKey{Type: n.Type()} }"),
  ("String", "{ return HashKey{Type: s.Type(), StrValue: s.value} }")
]

/-- the choosing loop of `VirtualOS.findMount` as the extractor prints it (the one range-over-map
    statement of the function).  Read at the repaired commit against `selStep`: `k == path` →
    `done`; a prefix that does not end at a component boundary → next entry; a qualifying entry
    replaces the candidate iff there is none or `len(k) > len(matchKey)`, and then BOTH `match`
    and `matchKey` are replaced (so `matchKey` always is the key `match` is registered under). -/
def findMountLoopsReviewed : List String := [
  "for k, v := range osObj.mounts { if k == path { return v, \"/\", true } if strings.HasPrefix(path, k) { if !strings.HasSuffix(k, \"/\") && path[len(k)] != '/' { continue } if match == nil || len(k) > len(matchKey) { match, matchKey = v, k } } }"
]

/-- the loop text before the repair (historical; read against `preFixFindMount`) -/
def preFixFindMountLoops : List String := [
  "for k, v := range osObj.mounts { if k == path { return v, \"/\", true } if strings.HasPrefix(path, k) { if !strings.HasSuffix(k, \"/\") && path[len(k)] != '/' { continue } if match == nil || len(k) > len(match.Target) { match = v } } }"
]

/-! ## Part 2 — the language fragment -/

mutual
  inductive Expr where
    | int (n : Int)
    | str (s : String)
    | tru | fls | nil
    | var (name : String)
    | add (a b : Expr)
    | index (a i : Expr)
    | print (args : Items)
    | list (items : Items)
    | set (items : Items)
    /-- `perm`: the adversary's choice for this literal (the order in which Go's `range`
        over `ast.Map.items` visits the entries) -/
    | map (perm : List Nat) (entries : Entries)
  inductive Items where
    | nil
    | cons (e : Expr) (rest : Items)
  inductive Entries where
    | nil
    | cons (key : String) (value : Expr) (rest : Entries)
end

inductive Stmt where
  | decl (name : String) (e : Expr)   -- `name := e`
  | expr (e : Expr)

/-- a program: statements followed by a final expression (its value) -/
structure Prog where
  stmts : List Stmt
  last : Expr

def Items.length : Items → Nat
  | .nil => 0
  | .cons _ r => r.length + 1

def Entries.length : Entries → Nat
  | .nil => 0
  | .cons _ _ r => r.length + 1

/- the source text: all adversary annotations erased -/
mutual
  def Expr.strip : Expr → Expr
    | .add a b => .add a.strip b.strip
    | .index a i => .index a.strip i.strip
    | .print xs => .print xs.strip
    | .list xs => .list xs.strip
    | .set xs => .set xs.strip
    | .map _ es => .map [] es.strip
    | e => e
  def Items.strip : Items → Items
    | .nil => .nil
    | .cons e r => .cons e.strip r.strip
  def Entries.strip : Entries → Entries
    | .nil => .nil
    | .cons k v r => .cons k v.strip r.strip
end

def Stmt.strip : Stmt → Stmt
  | .decl n e => .decl n e.strip
  | .expr e => .expr e.strip

def Prog.strip (p : Prog) : Prog := ⟨p.stmts.map Stmt.strip, p.last.strip⟩

/- guard of the known finding: no map literal with two or more entries -/
mutual
  def Expr.noBigMap : Expr → Bool
    | .add a b => a.noBigMap && b.noBigMap
    | .index a i => a.noBigMap && i.noBigMap
    | .print xs => xs.noBigMap
    | .list xs => xs.noBigMap
    | .set xs => xs.noBigMap
    | .map _ es => decide (es.length ≤ 1) && es.noBigMap
    | _ => true
  def Items.noBigMap : Items → Bool
    | .nil => true
    | .cons e r => e.noBigMap && r.noBigMap
  def Entries.noBigMap : Entries → Bool
    | .nil => true
    | .cons _ v r => v.noBigMap && r.noBigMap
end

def Stmt.noBigMap : Stmt → Bool
  | .decl _ e => e.noBigMap
  | .expr e => e.noBigMap

def Prog.noBigMap (p : Prog) : Bool := p.stmts.all Stmt.noBigMap && p.last.noBigMap

inductive Const where
  | int (n : Int)
  | str (s : String)
  deriving DecidableEq, Repr

/-- relocatable instructions: constants and globals are still symbolic -/
inductive RIns where
  | const (c : Const)
  | loadG (name : String)
  | storeG (name : String)
  | binAdd | tru | fls | nil
  | buildList (n : Nat) | buildMap (n : Nat) | buildSet (n : Nat)
  | subscr
  | call (n : Nat)
  | popTop
  deriving DecidableEq, Repr

/- `compiler.compile` on the fragment.  `compileMap` ranges over a Go map: the entry
    blocks (key constant, value code) are emitted in the adversary's order. -/
mutual
  def compE : Expr → List RIns
    | .int n => [.const (.int n)]
    | .str s => [.const (.str s)]
    | .tru => [.tru]
    | .fls => [.fls]
    | .nil => [.nil]
    | .var x => [.loadG x]
    | .add a b => compE a ++ compE b ++ [.binAdd]
    | .index a i => compE a ++ compE i ++ [.subscr]
    | .print xs => .loadG "print" :: compItems xs ++ [.call xs.length]
    | .list xs => compItems xs ++ [.buildList xs.length]
    | .set xs => compItems xs ++ [.buildSet xs.length]
    | .map perm es => (applyPerm perm (compEntries es)).flatten ++ [.buildMap es.length]
  def compItems : Items → List RIns
    | .nil => []
    | .cons e r => compE e ++ compItems r
  def compEntries : Entries → List (List RIns)
    | .nil => []
    | .cons k v r => (.const (.str k) :: compE v) :: compEntries r
end

def compStmt : Stmt → List RIns
  | .decl x e => compE e ++ [.storeG x]
  | .expr e => compE e ++ [.popTop]

/-- `compileProgram`: every statement but the last is followed by POP_TOP when it leaves a
    value; the last one is an expression and stays on the stack -/
def compProg (p : Prog) : List RIns := (p.stmts.map compStmt).flatten ++ compE p.last

inductive Ins where
  | loadConst (i : Nat) | loadGlobal (i : Nat) | storeGlobal (i : Nat)
  | binAdd | tru | fls | nil
  | buildList (n : Nat) | buildMap (n : Nat) | buildSet (n : Nat)
  | subscr | call (n : Nat) | popTop
  | undefined (name : String)
  deriving DecidableEq, Repr

def dedup : List String → List String
  | [] => []
  | x :: xs => if xs.contains x then dedup xs else x :: dedup xs

/-- `compiler.New`: the supplied global names are sorted, then inserted once each -/
def initSymbols (globalNames : List String) : List String :=
  let s := sortedKeys globalNames
  -- keep the first occurrence of every name (IsDefined check)
  (dedup s.reverse).reverse

def declared : List Stmt → List String
  | [] => []
  | .decl x _ :: r => x :: declared r
  | .expr _ :: r => declared r

def indexOf (x : String) : List String → Nat → Option Nat
  | [], _ => none
  | y :: ys, i => if x = y then some i else indexOf x ys (i + 1)

/-- constants are appended to the pool in emission order (no de-duplication); global
    operands are positions in the symbol table -/
def link (syms : List String) : List RIns → Nat → List Ins
  | [], _ => []
  | .const _ :: r, nc => .loadConst nc :: link syms r (nc + 1)
  | .loadG x :: r, nc =>
    (match indexOf x syms 0 with | some i => Ins.loadGlobal i | none => .undefined x) :: link syms r nc
  | .storeG x :: r, nc =>
    (match indexOf x syms 0 with | some i => Ins.storeGlobal i | none => .undefined x) :: link syms r nc
  | .binAdd :: r, nc => .binAdd :: link syms r nc
  | .tru :: r, nc => .tru :: link syms r nc
  | .fls :: r, nc => .fls :: link syms r nc
  | .nil :: r, nc => .nil :: link syms r nc
  | .buildList n :: r, nc => .buildList n :: link syms r nc
  | .buildMap n :: r, nc => .buildMap n :: link syms r nc
  | .buildSet n :: r, nc => .buildSet n :: link syms r nc
  | .subscr :: r, nc => .subscr :: link syms r nc
  | .call n :: r, nc => .call n :: link syms r nc
  | .popTop :: r, nc => .popTop :: link syms r nc

def constsOf : List RIns → List Const
  | [] => []
  | .const c :: r => c :: constsOf r
  | _ :: r => constsOf r

structure Code where
  ins : List Ins
  consts : List Const
  symbols : List String
  deriving DecidableEq, Repr

/-- the compiler on a program, given the global names of the configuration (in any order) -/
def compile (globalNames : List String) (p : Prog) : Code :=
  let syms := initSymbols globalNames ++ declared p.stmts
  let r := compProg p
  ⟨link syms r 0, constsOf r, syms⟩

/-! ### the VM on the emitted code -/

inductive Val where
  | int (n : Int)
  | str (s : String)
  | bool (b : Bool)
  | nil
  | list (xs : List Val)
  | map (kvs : List (String × Val))
  | set (xs : List Val)
  | builtin (name : String)
  | unset

structure St where
  stack : List Val
  globals : List Val
  out : List String

def mapSet (kvs : List (String × Val)) (k : String) (v : Val) : List (String × Val) :=
  if kvs.any (fun kv => kv.1 == k) then kvs.map (fun kv => if kv.1 == k then (kv.1, v) else kv)
  else kvs ++ [(k, v)]

def mapGet (kvs : List (String × Val)) (k : String) : Option Val :=
  (kvs.find? (fun kv => kv.1 == k)).map (·.2)

/-- hash key of a hashable value: (type rank in the order of the type names, int, string) -/
def hashKey : Val → Option (Nat × Int × String)
  | .bool b => some (0, if b then 1 else 0, "")   -- "bool"
  | .int n => some (1, n, "")                      -- "int"
  | .nil => some (2, 0, "")                        -- "nil"
  | .str s => some (3, 0, s)                       -- "string"
  | _ => none

def keyLe (a b : Nat × Int × String) : Bool :=
  if a.1 != b.1 then decide (a.1 < b.1)
  else if a.2.1 != b.2.1 then decide (a.2.1 < b.2.1)
  else decide (a.2.2 ≤ b.2.2)

def setAdd (xs : List Val) (v : Val) : Option (List Val) :=
  match hashKey v with
  | none => none
  | some k => some (if xs.any (fun x => hashKey x == some k) then xs else xs ++ [v])

def typeName : Val → String
  | .int _ => "int" | .str _ => "string" | .bool _ => "bool" | .nil => "nil"
  | .list _ => "list" | .map _ => "map" | .set _ => "set" | .builtin _ => "builtin" | .unset => "unset"

/-- BUILD_MAP: pops value, key, value, key, … from the top; each pair is stored into a fresh
    Go map, so of two equal keys the pair that was pushed FIRST survives -/
def buildMapFrom : List Val → Nat → List (String × Val) → Option (List (String × Val) × List Val)
  | st, 0, acc => some (acc, st)
  | v :: .str k :: st, n + 1, acc => buildMapFrom st n (mapSet acc k v)
  | _, _ + 1, _ => none

def buildSetFrom : List Val → Nat → List Val → Except String (List Val × List Val)
  | st, 0, acc => .ok (acc, st)
  | v :: st, n + 1, acc =>
    match setAdd acc v with
    | some acc' => buildSetFrom st n acc'
    | none => .error "type"
  | [], _ + 1, _ => .error "stack"

def popN : List Val → Nat → Option (List Val × List Val)
  | st, 0 => some ([], st)
  | v :: st, n + 1 => (popN st n).map fun (xs, rest) => (xs ++ [v], rest)
  | [], _ + 1 => none

mutual
  def inspect : Val → String
    | .int n => toString n
    | .str s => "\"" ++ s ++ "\""
    | .bool b => if b then "true" else "false"
    | .nil => "nil"
    | .list xs => "[" ++ inspectList xs ++ "]"
    | .map kvs => "{" ++ inspectPairs kvs ++ "}"
    | .set xs => "{" ++ inspectList xs ++ "}"
    | .builtin n => "builtin(" ++ n ++ ")"
    | .unset => "<unset>"
  def inspectList : List Val → String
    | [] => ""
    | [x] => inspect x
    | x :: y :: r => inspect x ++ ", " ++ inspectList (y :: r)
  def inspectPairs : List (String × Val) → String
    | [] => ""
    | [(k, v)] => "\"" ++ k ++ "\": " ++ inspect v
    | (k, v) :: y :: r => "\"" ++ k ++ "\": " ++ inspect v ++ ", " ++ inspectPairs (y :: r)
end

/-- maps are kept sorted by key and sets by hash key (what `SortedKeys`/`SortedItems`
    produce when the value is printed or iterated) -/
def sortPairs (kvs : List (String × Val)) : List (String × Val) :=
  isort (fun a b => sle a.1 b.1) kvs

def sortSet (xs : List Val) : List Val :=
  isort (fun a b => match hashKey a, hashKey b with
    | some x, some y => keyLe x y
    | _, _ => true) xs

def printable : Val → String
  | .str s => s
  | v => inspect v

def joinSp : List String → String
  | [] => ""
  | [x] => x
  | x :: y :: r => x ++ " " ++ joinSp (y :: r)

def step (consts : List Const) (s : St) : Ins → Except String St
  | .loadConst i =>
    match consts[i]? with
    | some (.int n) => .ok { s with stack := .int n :: s.stack }
    | some (.str x) => .ok { s with stack := .str x :: s.stack }
    | none => .error "panic"
  | .loadGlobal i =>
    match s.globals[i]? with
    | some v => .ok { s with stack := v :: s.stack }
    | none => .error "panic"
  | .storeGlobal i =>
    match s.stack with
    | v :: st => .ok { s with stack := st, globals := s.globals.set i v }
    | [] => .error "stack"
  | .binAdd =>
    match s.stack with
    | .int b :: .int a :: st => .ok { s with stack := .int (a + b) :: st }
    | .str b :: .str a :: st => .ok { s with stack := .str (a ++ b) :: st }
    | _ :: _ :: _ => .error "type"
    | _ => .error "stack"
  | .tru => .ok { s with stack := .bool true :: s.stack }
  | .fls => .ok { s with stack := .bool false :: s.stack }
  | .nil => .ok { s with stack := .nil :: s.stack }
  | .buildList n =>
    match popN s.stack n with
    | some (xs, st) => .ok { s with stack := .list xs :: st }
    | none => .error "stack"
  | .buildMap n =>
    match buildMapFrom s.stack n [] with
    | some (kvs, st) => .ok { s with stack := .map (sortPairs kvs) :: st }
    | none => .error "panic"
  | .buildSet n =>
    match buildSetFrom s.stack n [] with
    | .ok (xs, st) => .ok { s with stack := .set (sortSet xs) :: st }
    | .error e => .error e
  | .subscr =>
    match s.stack with
    | .int i :: .list xs :: st =>
      let j := if i < 0 then i + xs.length else i
      if j < 0 then .error "index" else
      match xs[j.toNat]? with
      | some v => .ok { s with stack := v :: st }
      | none => .error "index"
    | .str k :: .map kvs :: st =>
      match mapGet kvs k with
      | some v => .ok { s with stack := v :: st }
      | none => .error "index"
    | k :: .set xs :: st =>
      match hashKey k with
      | some h => .ok { s with stack := .bool (xs.any fun x => hashKey x == some h) :: st }
      | none => .error "type"
    | _ :: _ :: _ => .error "type"
    | _ => .error "stack"
  | .call n =>
    match popN s.stack n with
    | some (args, .builtin "print" :: st) =>
      .ok { s with stack := .nil :: st, out := s.out ++ [joinSp (args.map printable) ++ "\n"] }
    | some (_, _ :: _) => .error "type"
    | _ => .error "stack"
  | .popTop =>
    match s.stack with
    | _ :: st => .ok { s with stack := st }
    | [] => .error "stack"
  | .undefined _ => .error "compile"

/-- run straight-line code; on an error the output written so far is kept -/
def run (consts : List Const) : List Ins → St → (Except String Val) × List String
  | [], s => (match s.stack with | v :: _ => .ok v | [] => .ok .nil, s.out)
  | i :: r, s =>
    match step consts s i with
    | .ok s' => run consts r s'
    | .error e => (.error e, s.out)

/-- the globals array the VM starts with: `print` is the builtin, every other predefined
    global is opaque, declared variables are unset -/
def initGlobals (syms : List String) : List Val :=
  syms.map fun n => if n = "print" then .builtin "print" else .unset

def evalCode (c : Code) : (Except String Val) × List String :=
  if c.ins.any (fun i => match i with | .undefined _ => true | _ => false) then (.error "compile", [])
  else run c.consts c.ins ⟨[], initGlobals c.symbols, []⟩

/-- evaluation = compile, then run in a fresh VM -/
def eval (globalNames : List String) (p : Prog) : (Except String Val) × List String :=
  evalCode (compile globalNames p)

/-! ## Part 4 — rendering an object graph; the address of every allocation is the adversary's

Every object is a Go allocation and Go's `fmt` prints the address of a pointer, channel or
func it is handed.  In the model every object carries the address the adversary chose for it
(`addr`); the theorems in `Props.lean` say for which rendering routes the text does not
depend on it.  Scalar payloads arrive already formatted (by Go's strconv/fmt for a value
without pointers): what is modelled is the DISPATCH (String() / Inspect() fallback /
Interface()) and the COMPOSITION of the texts of the objects an object refers to. -/

/-- every type of package object that implements `object.Object` (the Go type names), plus
    `pair`: one `"key": value` entry of a map (not an object; lets a map be a node with kids) -/
inductive Kind where
  | Bool | Buffer | Builtin | Byte | ByteSlice | Cell | Chan | Color | DirEntry | DynamicAttr
  | Entry | Error | File | FileInfo | FileIter | FileMode | Float | FloatSlice | Function
  | GoField | GoMethod | GoType | Int | IntIter | List | ListIter | Map | MapIter | Module
  | NilType | Partial | Proxy | Set | SetIter | SliceIter | String | Thread | Time
  | pair
  deriving DecidableEq, Repr

def Kind.goName : Kind → _root_.String
  | .Bool => "Bool" | .Buffer => "Buffer" | .Builtin => "Builtin" | .Byte => "Byte"
  | .ByteSlice => "ByteSlice" | .Cell => "Cell" | .Chan => "Chan" | .Color => "Color"
  | .DirEntry => "DirEntry" | .DynamicAttr => "DynamicAttr" | .Entry => "Entry" | .Error => "Error"
  | .File => "File" | .FileInfo => "FileInfo" | .FileIter => "FileIter" | .FileMode => "FileMode"
  | .Float => "Float" | .FloatSlice => "FloatSlice" | .Function => "Function" | .GoField => "GoField"
  | .GoMethod => "GoMethod" | .GoType => "GoType" | .Int => "Int" | .IntIter => "IntIter"
  | .List => "List" | .ListIter => "ListIter" | .Map => "Map" | .MapIter => "MapIter"
  | .Module => "Module" | .NilType => "NilType" | .Partial => "Partial" | .Proxy => "Proxy"
  | .Set => "Set" | .SetIter => "SetIter" | .SliceIter => "SliceIter" | .String => "String"
  | .Thread => "Thread" | .Time => "Time" | .pair => "pair"

def allKinds : List Kind :=
  [.Bool, .Buffer, .Builtin, .Byte, .ByteSlice, .Cell, .Chan, .Color, .DirEntry, .DynamicAttr,
   .Entry, .Error, .File, .FileInfo, .FileIter, .FileMode, .Float, .FloatSlice, .Function,
   .GoField, .GoMethod, .GoType, .Int, .IntIter, .List, .ListIter, .Map, .MapIter, .Module,
   .NilType, .Partial, .Proxy, .Set, .SetIter, .SliceIter, .String, .Thread, .Time]

/-- the reviewed table (`Ties.object_types_reviewed` re-checks it against the source on every
    run): (type, has a `String() string` method, fmt operands inside `Inspect()` that could
    print an address, the same inside `String()`).  Read at the pinned commit:
    * no `Inspect()` formats a pointer, channel, func or interface operand;
    * `Cell.String` formats the held object with `%s` (address-free iff that object has a
      `String()` method — `fmtS` below; cells are never first-class script values);
    * `Proxy.String` formats the host's Go value with `%v` (the property excludes the printed
      form of host-supplied Go pointers) and its `reflect.Type` with `%s` (a type name);
    * `DirEntry.String` formats the `os.DirEntry` the OS layer supplied with `%v`
      (a struct of name and mode, no address: probed by the harness under a virtual OS);
    * Chan, Entry, Partial, Thread, GoField, GoMethod, GoType have no `String()`: every
      route that prints them must fall back to `Inspect()`. -/
def objTypes : List (String × Bool × String × String) := [
  ("Bool", true, "", ""),
  ("Buffer", true, "", ""),
  ("Builtin", true, "", ""),
  ("Byte", true, "", ""),
  ("ByteSlice", true, "", ""),
  ("Cell", true, "", "iface:%s"),
  ("Chan", false, "", ""),
  ("Color", true, "", ""),
  ("DirEntry", true, "", "iface:%v"),
  ("DynamicAttr", true, "", ""),
  ("Entry", false, "", ""),
  ("Error", true, "", ""),
  ("File", true, "", ""),
  ("FileInfo", true, "", ""),
  ("FileIter", true, "", ""),
  ("FileMode", true, "", ""),
  ("Float", true, "", ""),
  ("FloatSlice", true, "", ""),
  ("Function", true, "", ""),
  ("GoField", false, "", ""),
  ("GoMethod", false, "", ""),
  ("GoType", false, "", ""),
  ("Int", true, "", ""),
  ("IntIter", true, "", ""),
  ("List", true, "", ""),
  ("ListIter", true, "", ""),
  ("Map", true, "", ""),
  ("MapIter", true, "", ""),
  ("Module", true, "", ""),
  ("NilType", true, "", ""),
  ("Partial", false, "", ""),
  ("Proxy", true, "", "iface:%s,iface:%v"),
  ("Set", true, "", ""),
  ("SetIter", true, "", ""),
  ("SliceIter", true, "", ""),
  ("String", true, "", ""),
  ("Thread", false, "", ""),
  ("Time", true, "", "")
]

/-- does the type implement `fmt.Stringer`?  (looked up in the reviewed table) -/
def hasString (k : Kind) : Bool :=
  match objTypes.find? (fun r => r.1 == k.goName) with
  | some r => r.2.1
  | none => false

/-- `object.PrintableValue`, case by case as the extractor renders it (tie:
    `Ties.printable_dispatch_reviewed`): primitives travel as their Go value, a time as its
    RFC3339 text, every other object as `String()` if it has one and `Inspect()` otherwise -/
def printableCases : List (String × String) := [
  ("*String,*Int,*Float,*Byte,*Error,*Bool", "obj.Interface()"),
  ("*Time", "obj.Value().Format(time.RFC3339)"),
  ("fmt.Stringer", "obj.String()"),
  ("default", "obj.Inspect()")
]

/-- which functions hand script values to a fmt verb, and how (tie: `Ties.format_sites_reviewed`).
    `builtins.Sprintf` is shadowed in the default globals by `fmt.Sprintf`; `builtins.Error` is
    the `error(fmt, …)` builtin.  Since the repair in /repo ("fix: format the arguments of error()
    and the sprintf builtin with PrintableValue") every one of them goes through
    `object.PrintableValue` (`RObj.printable`, `RObj.errorFmt` below). -/
def formatSitesReviewed : List (String × String) := [
  ("builtins.Error", "PrintableValue"),
  ("builtins.Sprintf", "PrintableValue"),
  ("errors.getFormatAndValues", "PrintableValue"),
  ("fmt.Errorf", "PrintableValue"),
  ("fmt.Printf", "PrintableValue"),
  ("fmt.Println", "PrintableValue"),
  ("fmt.Sprintf", "PrintableValue")
]

/-- the two rows as they were BEFORE that repair (finding C05-error-format-raw-go-value): both
    handed `obj.Interface()` to fmt — `ifaceV` below -/
def preFixFormatSites : List (String × String) := [
  ("builtins.Error", "Interface"),
  ("builtins.Sprintf", "Interface")
]

/- an object as the renderer sees it: kind, address of the allocation (adversary), scalar
   payloads, the objects it refers to.  `txt`: the payload as `Inspect()` shows it (already
   quoted where the code uses `%q`); `raw`: the payload as `String()`/`Interface()` under `%v`
   show it where that differs (string value, error message, `func f() { ... }`,
   `byte_slice([1 2])`, `1e+06`, RFC3339 time); `aux`: what `builtins.String` extracts
   (buffer contents, the bytes of a byte_slice). -/
mutual
  inductive RObj where
    | mk (kind : Kind) (addr : Nat) (txt raw aux : String) (kids : RObjs)
  inductive RObjs where
    | nil
    | cons (o : RObj) (rest : RObjs)
end

def RObj.kind : RObj → Kind | .mk k _ _ _ _ _ => k
def RObj.addr : RObj → Nat | .mk _ a _ _ _ _ => a
def RObj.raw : RObj → String | .mk _ _ _ r _ _ => r
def RObj.aux : RObj → String | .mk _ _ _ _ x _ => x
def RObj.kids : RObj → RObjs | .mk _ _ _ _ _ ks => ks

def RObjs.toList : RObjs → List RObj
  | .nil => []
  | .cons o r => o :: r.toList

/- the same graph with every address forgotten -/
mutual
  def RObj.eraseAddr : RObj → RObj
    | .mk k _ t r x kids => .mk k 0 t r x kids.eraseAddr
  def RObjs.eraseAddr : RObjs → RObjs
    | .nil => .nil
    | .cons o r => .cons o.eraseAddr r.eraseAddr
end

def joinWith (sep : String) : List String → String
  | [] => ""
  | [x] => x
  | x :: y :: r => x ++ sep ++ joinWith sep (y :: r)

/-- what Go's fmt prints for a pointer, channel or func: text that contains the address -/
def goPtr (a : Nat) : String := "0x" ++ String.ofList (Nat.toDigits 16 a)

/-- how `Inspect()` frames a kind -/
inductive Frame where
  /-- the payload as is: `true`, `5`, `"s"`, `nil`, `func f(a) { … }`, `slice_iter(pos=0 size=2)`,
      `file_info(…)`, `dir_entry(…)`, a file mode, a color -/
  | leaf
  /-- `name(payload)`: `chan(2)`, `builtin(len)`, `module(math)`, `error("m")`, `buffer("x")` … -/
  | wrapTxt (name : String)
  /-- opener, the referenced objects' own `Inspect()` joined with `, `, closer -/
  | wrapKids (l r : String)

def Kind.frame : Kind → Frame
  | .Chan => .wrapTxt "chan" | .Builtin => .wrapTxt "builtin" | .Module => .wrapTxt "module"
  | .Error => .wrapTxt "error" | .Buffer => .wrapTxt "buffer" | .ByteSlice => .wrapTxt "byte_slice"
  | .FloatSlice => .wrapTxt "float_slice" | .Time => .wrapTxt "time" | .IntIter => .wrapTxt "int_iter"
  | .DynamicAttr => .wrapTxt "dynamic_attr" | .GoType => .wrapTxt "go_type"
  | .GoField => .wrapTxt "go_field" | .GoMethod => .wrapTxt "go_method" | .File => .wrapTxt "file"
  | .List => .wrapKids "[" "]" | .Set => .wrapKids "{" "}" | .Map => .wrapKids "{" "}"
  | .ListIter => .wrapKids "list_iter(" ")" | .MapIter => .wrapKids "map_iter(" ")"
  | .SetIter => .wrapKids "set_iter(" ")" | .FileIter => .wrapKids "file_iter(" ")"
  | .Entry => .wrapKids "iter_entry(" ")" | .Thread => .wrapKids "thread(" ")"
  | _ => .leaf

/-- `Inspect()` of one node given the `Inspect()` texts of the objects it refers to -/
def inspectNode (k : Kind) (txt : String) (ks : List String) : String :=
  match k with
  | .pair => txt ++ ": " ++ joinWith ", " ks
  | .Partial =>
    match ks with
    | [] => "partial(, )"
    | f :: as => "partial(" ++ f ++ ", " ++ joinWith ", " as ++ ")"
  | _ =>
    match k.frame with
    | .leaf => txt
    | .wrapTxt name => name ++ "(" ++ txt ++ ")"
    | .wrapKids l r => l ++ joinWith ", " ks ++ r

/-- the kinds whose `String()` is not their `Inspect()` but the raw payload -/
def strIsRaw : Kind → Bool
  | .String | .Error | .Function | .ByteSlice | .DirEntry => true
  | _ => false

/-- the two texts every object offers: `insp` = `Inspect()`; `fmtS` = what `fmt.Sprintf("%s", obj)`
    gives (the object's `String()` if it has one, else Go's rendering of the raw pointer) -/
structure Rendered where
  insp : String
  fmtS : String

/-- `Inspect()` of one node given what the objects it refers to offer.
    `Cell.Inspect = Cell.String = fmt.Sprintf("cell(%s)", *c.value)` -/
def nodeInsp (k : Kind) (txt : String) (ks : List Rendered) : String :=
  if k = .Cell then "cell(" ++ joinWith ", " (ks.map (·.fmtS)) ++ ")"
  else inspectNode k txt (ks.map (·.insp))

mutual
  def render : RObj → Rendered
    | .mk k a txt raw _ kids =>
      let ks := renderAll kids
      ⟨nodeInsp k txt ks,
       if hasString k then (if strIsRaw k then raw else nodeInsp k txt ks) else goPtr a⟩
  def renderAll : RObjs → List Rendered
    | .nil => []
    | .cons o r => render o :: renderAll r
end

/-- `obj.Inspect()`: the evaluation result as the embedder sees it, items inside containers,
    the fallback of every other route -/
def RObj.inspect (o : RObj) : String := (render o).insp

/-- `obj.String()` (meaningful for the kinds that have the method) -/
def RObj.strM (o : RObj) : String := if strIsRaw o.kind then o.raw else o.inspect

/-- the kinds `PrintableValue` hands to fmt as their Go value (`obj.Interface()`) -/
def isPrimitive : Kind → Bool
  | .String | .Int | .Float | .Byte | .Error | .Bool => true
  | _ => false

/-- **Impl** `object.PrintableValue` followed by the verb `%v`/`%s` (print, printf, sprintf,
    errorf, fmt.*, errors.new): String() → Inspect() fallback -/
def RObj.printable (o : RObj) : String :=
  if isPrimitive o.kind then o.raw
  else if o.kind = .Time then o.raw
  else if hasString o.kind then o.strM
  else o.inspect

/-- the variant WITHOUT the `Inspect()` fallback (the object itself is handed to fmt): kept for
    `printable_without_fallback_counterexample` -/
def RObj.printableNoFallback (o : RObj) : String :=
  if isPrimitive o.kind then o.raw
  else if o.kind = .Time then o.raw
  else if hasString o.kind then o.strM
  else goPtr o.addr

/-- **Impl** `builtins.String` (`string(x)`): buffer and byte_slice yield their bytes, a string
    itself, then String() → Inspect() fallback.  (A file is read; not modelled.) -/
def RObj.stringBuiltin (o : RObj) : String :=
  if o.kind = .Buffer || o.kind = .ByteSlice then o.aux
  else if hasString o.kind then o.strM
  else o.inspect

/-- **Impl** string interpolation (`BuildString`): an error value yields its message, a string
    itself, everything else `Inspect()` -/
def RObj.interp (o : RObj) : String :=
  if o.kind = .Error || o.kind = .String then o.raw else o.inspect

/-- **Impl** the `error(fmt, args…)` builtin and `builtins.Sprintf` as repaired: every argument
    travels as `object.PrintableValue(obj)`, exactly as in `errorf`/`errors.new`/`fmt.sprintf` -/
def RObj.errorFmt (o : RObj) : String := o.printable

/- HISTORICAL (before the repair of finding C05-error-format-raw-go-value): the `error(fmt, args…)`
   builtin and `builtins.Sprintf` handed every argument to fmt as
   `obj.Interface()`, rendered by Go's `%v`.  Function, module, thread, nil: `<nil>`;
   list and set: `[a b]`; map: `map[k:v …]` (keys sorted by fmt); iterator entry:
   `map[key:K value:V]`; a cell: what it holds; channel: the Go channel, builtin: the Go func,
   file: the `*os.File`, partial: the wrapped function object, proxy/Go reflection wrappers: a
   Go pointer — fmt prints an ADDRESS for all of these.  Time, buffer, slices, iterators,
   dynamic attributes: not rendered on this route by the harness (their Go value's `%v` text
   would be a fourth payload); the model returns `raw`. -/
mutual
  def ifaceV : RObj → String
    | .mk k a _ raw _ kids =>
      match k with
      | .NilType | .Function | .Module | .Thread => "<nil>"
      | .List | .Set => "[" ++ joinWith " " (ifaceAll kids) ++ "]"
      | .Map => "map[" ++ joinWith " " (ifaceAll kids) ++ "]"
      | .pair => raw ++ ":" ++ joinWith " " (ifaceAll kids)
      | .Entry =>
        match ifaceAll kids with
        | [key, v] => "map[key:" ++ key ++ " value:" ++ v ++ "]"
        | _ => "map[]"
      | .Cell =>
        match ifaceAll kids with
        | [v] => v
        | _ => "<nil>"
      | .Chan | .Builtin | .File | .Partial | .Proxy | .GoType | .GoField | .GoMethod => goPtr a
      | _ => raw
  def ifaceAll : RObjs → List String
    | .nil => []
    | .cons o r => ifaceV o :: ifaceAll r
end

/-- the kinds whose `Interface()` is a Go pointer, channel or func -/
def rawAddrKind : Kind → Bool
  | .Chan | .Builtin | .File | .Partial | .Proxy | .GoType | .GoField | .GoMethod => true
  | _ => false

/- HISTORICAL guard of the repaired finding C05-error-format-raw-go-value: no object whose `Interface()` is a Go
   pointer, channel or func anywhere in the graph -/
mutual
  def RObj.noRawAddr : RObj → Bool
    | .mk k _ _ _ _ kids => !rawAddrKind k && kids.noRawAddr
  def RObjs.noRawAddr : RObjs → Bool
    | .nil => true
    | .cons o r => o.noRawAddr && r.noRawAddr
end

/- guard for `Inspect()`/`String()`: every cell holds an object that has a `String()` method
   (what `%s` needs to stay clear of the pointer) -/
mutual
  def RObj.cellsOk : RObj → Bool
    | .mk k _ _ _ _ kids => (k != .Cell || kids.allStringers) && kids.cellsOk
  def RObjs.cellsOk : RObjs → Bool
    | .nil => true
    | .cons o r => o.cellsOk && r.cellsOk
  def RObjs.allStringers : RObjs → Bool
    | .nil => true
    | .cons o r => hasString o.kind && r.allStringers
end

/- no cell anywhere: what holds for every value a script can get hold of -/
mutual
  def RObj.cellFree : RObj → Bool
    | .mk k _ _ _ _ kids => k != .Cell && kids.cellFree
  def RObjs.cellFree : RObjs → Bool
    | .nil => true
    | .cons o r => o.cellFree && r.cellFree
end

/-! ## Part 3 — the reviewed classification of every map-range site -/

inductive SiteClass where
  /-- entries are collected and sorted before anything observes them (`sortedKeys_perm_invariant`,
      `sortedItems_perm_invariant`, `environ_perm_invariant`, `readDir_perm_invariant`) -/
  | sortedAfter
  /-- entries collected unsorted, but every consumer in scope sorts them (`compiler.New`, `builtins.Encode` csv) (`globals_sorted_perm_invariant`) -/
  | sortedByConsumer
  /-- each entry written under its own (distinct) key into another map (`insert_fold_perm_invariant`) -/
  | insertFold
  /-- each key deleted from another map (`delete_fold_perm_invariant`) -/
  | deleteFold
  /-- `arr[idx key] = value` with an injective index (`defaults_by_index_perm_invariant`) -/
  | byIndex
  /-- conjunction / disjunction of a pure test (`all_entries_perm_invariant`) -/
  | quantifier
  /-- per-entry effect on the entry's own object only; effects on distinct objects commute -/
  | perEntry
  /-- longest matching key; unique because two prefixes of one path of equal length are equal
      (`findMount_perm_invariant`, Part 1c: every table, whatever its `Target` fields are, since
      the repair of finding C05-findmount-target-length — `C05_fixed_findmount_target_length`;
      `Risor.C13.findMount_order_independent` is the same fact in C13's path model) -/
  | maxSelect
  /-- first visited failing entry decides the error: order-independent only when at most one
      kind of failure is present (`first_failure_perm_invariant`); otherwise a finding -/
  | firstFailure (finding : String)
  /-- result lists the entries in visiting order: a finding -/
  | visitingOrder (finding : String)
  /-- only used by the package's own tests (`vm.newVM`, `vm.basicBuiltins`) -/
  | testOnly
  deriving DecidableEq, Repr

/-- (function, ordinal, body actions, sort call follows, class).  Reviewed by reading each
    loop at the pinned commit; `Ties.lean` checks on every run that the regenerated list of
    sites is exactly the first four columns of this table. -/
def mapSites : List (String × Nat × String × Bool × SiteClass) := [
  ("ast.Map.String", 0, "append,call", false, .visitingOrder "C05-map-literal-order"),
  ("builtins.All", 0, "call,return", false, .quantifier),
  ("builtins.Any", 0, "call,return", false, .quantifier),
  ("compiler.Compiler.compileMap", 0, "call,emit,return", false, .visitingOrder "C05-map-literal-order"),
  ("compiler.definitionFromSymbolTable", 0, "call,mapwrite", false, .insertFold),
  ("compiler.symbolTableFromDefinition", 0, "call,mapwrite", false, .insertFold),
  ("modules/all.Builtins", 0, "mapwrite", false, .insertFold),
  ("modules/exec.configureCommand", 0, "call,return", false, .firstFailure "C05-exec-params-order"),
  ("modules/exec.configureCommand", 1, "append,call,return", false, .firstFailure "C05-exec-params-order"),
  ("modules/http.HttpRequest.AddHeaders", 0, "call", false, .visitingOrder "C05-http-header-case-order"),
  ("modules/http.HttpRequest.GetAttr", 0, "call,mapwrite", false, .insertFold),
  ("modules/http.HttpRequest.Header", 0, "call,mapwrite", false, .insertFold),
  ("modules/http.HttpResponse.Header", 0, "call,mapwrite", false, .insertFold),
  ("object.GoType.attrMap", 0, "mapwrite", false, .insertFold),
  ("object.Keys", 0, "append", true, .sortedAfter),
  ("object.Map.Copy", 0, "mapwrite", false, .insertFold),
  ("object.Map.Equals", 0, "call,return", false, .quantifier),
  ("object.Map.Interface", 0, "call,mapwrite", false, .insertFold),
  ("object.Map.SortedKeys", 0, "append", true, .sortedAfter),
  ("object.Map.StringKeys", 0, "append", false, .sortedByConsumer),
  ("object.Map.Update", 0, "mapwrite", false, .insertFold),
  ("object.NewBuiltinsModule", 0, "mapwrite", false, .insertFold),
  ("object.NewBuiltinsModule", 1, "", false, .perEntry),
  ("object.Set.Difference", 0, "mapwrite", false, .insertFold),
  ("object.Set.Equals", 0, "call,return", false, .quantifier),
  ("object.Set.Intersection", 0, "mapwrite", false, .insertFold),
  ("object.Set.SortedItems", 0, "append", true, .sortedAfter),
  ("object.Set.Union", 0, "mapwrite", false, .insertFold),
  ("object.Set.Union", 1, "mapwrite", false, .insertFold),
  ("object.newGoType", 0, "mapwrite", true, .insertFold),
  ("object.newGoType", 1, "mapwrite", true, .insertFold),
  ("object.newGoType", 2, "append", true, .sortedAfter),
  ("object.sortedMapKeys", 0, "append", true, .sortedAfter),
  ("os.MockFS.ReadDir", 0, "append,call", true, .sortedAfter),
  ("os.VirtualOS.Environ", 0, "append", true, .sortedAfter),
  ("os.VirtualOS.findMount", 0, "call,return", false, .maxSelect),
  ("os.WithEnvironment", 0, "mapwrite", false, .insertFold),
  ("os.WithMounts", 0, "mapwrite", false, .insertFold),
  ("risor.Config.CombinedGlobals", 0, "mapwrite", false, .insertFold),
  ("risor.Config.GlobalNames", 0, "append", true, .sortedAfter),
  ("risor.Config.Globals", 0, "mapwrite", false, .insertFold),
  ("risor.Config.VMOpts", 0, "append", false, .sortedByConsumer),
  ("risor.Config.applyDefaultGlobals", 0, "mapwrite", false, .insertFold),
  ("risor.Config.applyDenylist", 0, "call,mapdelete", false, .deleteFold),
  ("risor.Config.applyOverrides", 0, "append", true, .sortedAfter),
  ("risor.DefaultGlobals", 0, "mapwrite", false, .insertFold),
  ("risor.DefaultGlobals", 1, "mapwrite", false, .insertFold),
  ("risor.WithGlobals", 0, "mapwrite", false, .insertFold),
  ("vm.VirtualMachine.Clone", 0, "mapwrite", false, .insertFold),
  ("vm.VirtualMachine.Clone", 1, "mapwrite", false, .insertFold),
  ("vm.VirtualMachine.applyOptions", 0, "mapwrite", false, .insertFold),
  -- since /repo afc3565 (the C18 repair): reloadCode deletes from vm.loadedCode every key whose Root() is the
  -- main code; which keys go is decided by the key alone, so the map left behind does not depend on the visiting order
  ("vm.VirtualMachine.reloadCode", 0, "call,mapdelete", false, .deleteFold),
  ("vm.WithGlobals", 0, "mapwrite", false, .insertFold),
  ("vm.basicBuiltins", 0, "mapwrite", false, .testOnly),
  ("vm.basicBuiltins", 1, "mapwrite", false, .testOnly),
  ("vm.newVM", 0, "mapwrite", false, .testOnly),
  ("vm.newVM", 1, "append", false, .testOnly)
]

/-- the rows of `VirtualOS.Environ` and `MockFS.ReadDir` as they were BEFORE their repair in
    /repo (no sort call after the collecting loop; the listing was in visiting order): kept so
    that the defects stay checked statements (`C05_fixed_sites_were_unsorted`) -/
def preFixSites : List (String × Nat × String × Bool × SiteClass) := [
  ("os.MockFS.ReadDir", 0, "append,call", false, .visitingOrder "C05-mockfs-readdir-order"),
  ("os.VirtualOS.Environ", 0, "append", false, .visitingOrder "C05-virtualos-environ-order")
]

/-- the rows of the first-failure loops repaired by `fix: report the first unsupported parameter
    default in declaration order`, `fix: apply global overrides in sorted order of their names`
    and `fix: convert the entries of a map in sorted key order`, as they were BEFORE (a range
    over the Go map that returns at the first failing entry).  Since the repairs compileFunc,
    AsObjects, FromGoType, MapConverter.To/From and StructConverter.To no longer range over a
    map at all (they walk the parameter list / `SortedKeys()` / `sortedMapKeys`), and
    applyOverrides only collects the names it then sorts (`C05_fixed_first_failure_sites`) -/
def preFixFirstFailureSites : List (String × Nat × String × Bool × SiteClass) := [
  ("compiler.Compiler.compileFunc", 0, "call,indexwrite,mapwrite,return", false, .firstFailure "C05-func-defaults-error-order"),
  ("object.AsObjects", 0, "call,mapwrite,return", false, .firstFailure "C05-conversion-error-order"),
  ("object.FromGoType", 0, "call,mapwrite,return", false, .firstFailure "C05-conversion-error-order"),
  ("object.MapConverter.From", 0, "call,mapwrite,return", false, .firstFailure "C05-conversion-error-order"),
  ("object.MapConverter.To", 0, "call,return", false, .firstFailure "C05-conversion-error-order"),
  ("object.StructConverter.To", 0, "call,return", false, .firstFailure "C05-conversion-error-order"),
  ("risor.Config.applyOverrides", 0, "call,mapwrite,return", false, .firstFailure "C05-overrides-abort-order")
]

/-! ## Part 5 — walks over a container whose elements can fail one by one

`json.marshal(x)` reaches `Map.MarshalJSON` / `Set.MarshalJSON` / `List.MarshalJSON`; the walk
stops at the FIRST element whose own marshalling fails and reports that element's error.  With
two or more failing elements (a function and a module, +Inf and -Inf, …) "first" must be a
function of the container's contents: `encoding/json` collects the keys of the Go map it is
handed (in map order), SORTS them and marshals the values in key order; `Set.MarshalJSON`
marshals `SortedItems()`.  The adversary's visiting order of every map and set node is part of
the tree (`perm`), as for map literals in Part 2. -/

/-- the outcome of marshalling one value: its JSON text, or the error -/
inductive MR where
  | out (text : String)
  | err (msg : String)
  deriving DecidableEq, Repr

def MR.errOf : MR → Option String
  | .err e => some e
  | .out _ => none

def MR.outOf : MR → Option String
  | .out s => some s
  | .err _ => none

mutual
  /-- a risor value as `encoding/json` walks it -/
  inductive JV where
    /-- a value whose `MarshalJSON` succeeds with this text (int, string, bool, nil, finite float, …) -/
    | ok (text : String)
    /-- a value whose `MarshalJSON` fails with this error (function, module, builtin, channel,
        iterator, error value; a float that is ±Inf or NaN) -/
    | bad (msg : String)
    | list (items : JVs)
    /-- entries in insertion order; `perm`: the order in which a Go `range` over the map's
        items (here: `reflect`'s `MapRange` inside `encoding/json`) visits them -/
    | map (perm : List Nat) (entries : JEs)
    /-- members (hash key, outcome of marshalling the member); `perm` as for maps
        (`Set.SortedItems` ranges over the set's Go map) -/
    | set (perm : List Nat) (members : List (HKey × MR))
  inductive JVs where
    | nil
    | cons (v : JV) (rest : JVs)
  inductive JEs where
    | nil
    | cons (key : String) (v : JV) (rest : JEs)
end

/-- how `encoding/json` wraps the error of a `MarshalJSON` method -/
def wrapErr (ty e : String) : String :=
  "json: error calling MarshalJSON for type *object." ++ ty ++ ": " ++ e

/-- one container level: the elements are marshalled in the order `errOrder` and the first
    failure aborts the walk (`firstFailure`); otherwise the texts are written in `outOrder` -/
def seqMarshal (ty opn cls : String) (errOrder outOrder : List MR) : MR :=
  match firstFailure MR.errOf errOrder with
  | some e => .err (wrapErr ty e)
  | none => .out (opn ++ ",".intercalate (outOrder.filterMap MR.outOf) ++ cls)

/-- `"key":value` (the stream's keys are plain ASCII words, so quoting adds the quotes only) -/
def labelled (k : String) : MR → MR
  | .out t => .out ("\"" ++ k ++ "\":" ++ t)
  | .err e => .err e

/-- the entries in the order `encoding/json` marshals a Go map: the keys are collected in
    visiting order, sorted, and each key's value is taken from the map -/
def inKeyOrder (vis : List String) (rs : List (String × MR)) : List MR :=
  (sortedKeys vis).filterMap (fun k => (rs.lookup k).map (labelled k))

/-- the entries in the order a hand-written `for k, v := range m.items` visits them -/
def inRangeOrder (vis : List String) (rs : List (String × MR)) : List MR :=
  vis.filterMap (fun k => (rs.lookup k).map (labelled k))

/-- a map node.  `sortFirst = true` (**Impl**, `return json.Marshal(m.items)`): failures are
    sought in key order.  `sortFirst = false` (the forbidden variant: values marshalled one by
    one inside a `range` over the Go map that returns at the first failure, the collected
    texts handed to `encoding/json` afterwards): failures are sought in visiting order, the
    successful output is still written in key order. -/
def mapMarshal (sortFirst : Bool) (perm : List Nat) (rs : List (String × MR)) : MR :=
  seqMarshal "Map" "{" "}"
    (if sortFirst then inKeyOrder (applyPerm perm (rs.map (·.1))) rs
     else inRangeOrder (applyPerm perm (rs.map (·.1))) rs)
    (inKeyOrder (applyPerm perm (rs.map (·.1))) rs)

/-- a set node: `json.Marshal(s.SortedItems())` -/
def setMarshal (perm : List Nat) (ms : List (HKey × MR)) : MR :=
  seqMarshal "Set" "[" "]"
    ((sortedItems (applyPerm perm (ms.map (·.1)))).filterMap (fun k => ms.lookup k))
    ((sortedItems (applyPerm perm (ms.map (·.1)))).filterMap (fun k => ms.lookup k))

mutual
  def JV.marshalW (sortFirst : Bool) : JV → MR
    | .ok t => .out t
    | .bad m => .err m
    | .list items => seqMarshal "List" "[" "]" (items.resultsW sortFirst) (items.resultsW sortFirst)
    | .map perm es => mapMarshal sortFirst perm (es.resultsW sortFirst)
    | .set perm ms => setMarshal perm ms
  def JVs.resultsW (sortFirst : Bool) : JVs → List MR
    | .nil => []
    | .cons v r => v.marshalW sortFirst :: r.resultsW sortFirst
  def JEs.resultsW (sortFirst : Bool) : JEs → List (String × MR)
    | .nil => []
    | .cons k v r => (k, v.marshalW sortFirst) :: r.resultsW sortFirst
end

/-- **Impl** (= what the property demands): `json.Marshal` of a risor value as the code does it -/
def JV.marshal (t : JV) : MR := t.marshalW true

/-- the forbidden variant: map values marshalled inside a `range` that returns at the first failure -/
def JV.marshalRange (t : JV) : MR := t.marshalW false

mutual
  /-- forget the adversary's choices -/
  def JV.strip : JV → JV
    | .ok t => .ok t
    | .bad m => .bad m
    | .list items => .list items.strip
    | .map _ es => .map [] es.strip
    | .set _ ms => .set [] ms
  def JVs.strip : JVs → JVs
    | .nil => .nil
    | .cons v r => .cons v.strip r.strip
  def JEs.strip : JEs → JEs
    | .nil => .nil
    | .cons k v r => .cons k v.strip r.strip
end

mutual
  /-- no set of the tree has a NaN member (the guard of finding C05-set-nan-order) -/
  def JV.noNaN : JV → Bool
    | .ok _ => true
    | .bad _ => true
    | .list items => items.noNaN
    | .map _ es => es.noNaN
    | .set _ ms => Risor.C05.noNaN (ms.map (·.1))
  def JVs.noNaN : JVs → Bool
    | .nil => true
    | .cons v r => v.noNaN && r.noNaN
  def JEs.noNaN : JEs → Bool
    | .nil => true
    | .cons _ v r => v.noNaN && r.noNaN
end

/-- `http.Header.Add` under the canonical form of the header name, for every visited entry of
    the `headers` map (`HttpRequest.AddHeaders`): the values filed under one canonical name, in
    the order they were added -/
def headerValues (canon : String → String) (name : String) (vis : List (String × String)) : List String :=
  inVisitingOrder (·.2) (vis.filter (fun kv => canon kv.1 == name))

/-- the `MarshalJSON` method of every object type, as regenerated from object/*.go:
    `fails` (a single `return nil, <error>`), `json.Marshal(<expression>)` (a single return of
    that call; `struct` for a struct literal), `bytes` (returns of literal byte texts only);
    anything else — a loop, a `range`, several statements — is printed as `other…` and is not
    in this table.  `Map` hands the Go map itself to `encoding/json` (keys sorted there), `Set`
    its sorted listing, `List` its slice. -/
def marshalPathsReviewed : List (String × String) := [
  ("Bool", "bytes"),
  ("Buffer", "bytes"),
  ("Builtin", "fails"),
  ("Byte", "bytes"),
  ("ByteSlice", "json.Marshal(string(b.value))"),
  ("Cell", "fails"),
  ("Chan", "fails"),
  ("Color", "json.Marshal(struct)"),
  ("DirEntry", "json.Marshal(struct)"),
  ("DynamicAttr", "fails"),
  ("Entry", "fails"),
  ("Error", "fails"),
  ("File", "fails"),
  ("FileInfo", "json.Marshal(struct)"),
  ("FileIter", "fails"),
  ("FileMode", "json.Marshal(struct)"),
  ("Float", "json.Marshal(f.value)"),
  ("FloatSlice", "json.Marshal(f.value)"),
  ("Function", "fails"),
  ("GoField", "json.Marshal(struct)"),
  ("GoMethod", "json.Marshal(struct)"),
  ("GoType", "json.Marshal(struct)"),
  ("Int", "json.Marshal(i.value)"),
  ("IntIter", "fails"),
  ("List", "json.Marshal(ls.items)"),
  ("ListIter", "fails"),
  ("Map", "json.Marshal(m.items)"),
  ("MapIter", "fails"),
  ("Module", "fails"),
  ("NilType", "bytes"),
  ("Partial", "fails"),
  ("Proxy", "json.Marshal(p.obj)"),
  ("Set", "json.Marshal(s.SortedItems())"),
  ("SetIter", "fails"),
  ("SliceIter", "fails"),
  ("String", "json.Marshal(s.value)"),
  ("Thread", "fails"),
  ("Time", "json.Marshal(t.value.Format(time.RFC3339))")
]

/-- the operations of the harness's failing-element stream and the site or marshal path each
    one reaches (asked for by the harness: an operation named here without a script there, or
    the other way round, is reported) -/
def walkOps : List (String × String) := [
  ("json.marshal", "object.Map.MarshalJSON / Set.MarshalJSON / List.MarshalJSON"),
  ("json.marshal-indent", "object.Map.MarshalJSON / Set.MarshalJSON / List.MarshalJSON"),
  ("json.marshal-try", "object.Map.MarshalJSON / Set.MarshalJSON / List.MarshalJSON"),
  ("json.marshal-nested-list", "object.List.MarshalJSON over object.Map.MarshalJSON"),
  ("json.marshal-nested-map", "object.Map.MarshalJSON over itself"),
  ("go-json.Marshal", "object.Map.MarshalJSON called by the host"),
  ("encode-json", "object.Map.Interface + encoding/json"),
  ("http-data", "object.Map.Interface + encoding/json"),
  ("exec-params", "modules/exec.configureCommand 0"),
  ("exec-env-values", "modules/exec.configureCommand 1"),
  ("exec-env-order", "modules/exec.configureCommand 1"),
  ("http-headers", "modules/http.HttpRequest.AddHeaders 0")
]

/-! ## Part 6 — several tables merged into one map; candidates probed in a priority order

Two places where the code walks a SLICE (a fixed order) and the result is a function of that
order: `DefaultGlobals` writes the builtin tables of five packages one after the other into the
globals map (two tables may define the same name: the LATER table wins), and
`readFileWithExtensions` tries the configured extensions one after the other (the FIRST file that
exists is the module).  The adversaries: the visiting order inside each table; the order in which
the answers of the filesystem arrive. -/

/-- `DefaultGlobals`: `tabs` are the tables in the order of the slice, each one in the visiting
    order of its own `range`; every entry is written under its own key -/
def mergeTables (tabs : List (List (String × V))) (m0 : AMap V) : AMap V :=
  tabs.foldl (fun m t => foldInsert (fun _ _ => true) (fun _ v => v) t m) m0

/-- Spec: the binding of a name is that of the LAST table (in slice order) that defines it -/
def lastDefining (tabs : List (List (String × V))) (m0 : AMap V) (k : String) : Option V :=
  match tabs.reverse.findSome? (fun t => (t.find? (fun kv => kv.1 == k)).map (·.2)) with
  | some v => some v
  | none => m0 k

/-- the forbidden variant: the tables themselves are held in a Go map and visited in ITS order -/
def mergeTablesRanged (perm : List Nat) (tabs : List (List (String × V))) (m0 : AMap V) : AMap V :=
  mergeTables (applyPerm perm tabs) m0

/-- `readFileWithExtensions`: the extensions are tried one after the other, the first one whose
    file exists (and can be read) is the module's file; `present` = the filesystem -/
def pickExtension (exts : List String) (present : String → Bool) : Option String :=
  exts.find? present

/-- the forbidden variant: all candidates are probed at once and the first answer that ARRIVES
    wins (`arrival` = the order in which the probes finish: scheduling, latency per file) -/
def pickExtensionRaced (arrival : List Nat) (exts : List String) (present : String → Bool) : Option String :=
  (applyPerm arrival exts).find? present

/-! ## Part 9 — declarations that introduce several names at once

`from m import a, b as c, d`, `a, b := [1, 2]`, `func f(p, q) {…}`: every name gets the next free
slot of the symbol table of its scope (a global slot at top level, a local slot inside a
function) unless it is already there.  The property demands that the slots follow the SOURCE:
`compileFromImport` builds a Go map name → alias, but declares the names by walking the import
list, so the map's visiting order (the adversary's parameter `vis`) is never consulted. -/

/-- get-or-insert: a name that is already in the table keeps its slot, a new one is appended -/
def declare (tab : List String) (n : String) : List String := if tab.contains n then tab else tab ++ [n]

/-- the names are declared one after the other in the order of the list -/
def declareAll (ns : List String) (tab : List String) : List String := ns.foldl declare tab

/-- `aliases[name]` after the map was filled in source order: the LAST alias written for a name -/
def aliasOf (ims : List (String × String)) (name : String) : String :=
  match ims.reverse.find? (fun p => p.1 == name) with
  | some p => p.2
  | none => name

/-- the names one statement declares, in source order (for a from-import: the alias the map
    holds for each imported name; for the other forms name = alias) -/
def declNames (ims : List (String × String)) : List String := ims.map fun p => aliasOf ims p.1

/-- one declaring statement as the code compiles it: the table afterwards and the operands of
    the stores (the slot of each declared name, in source order).  `vis` is the adversary's
    visiting order of the alias map: the loop walks the import list, not the map -/
def declStmt (_vis : List Nat) (ims : List (String × String)) (tab : List String) : List String × List Nat :=
  let ns := declNames ims
  let tab' := declareAll ns tab
  (tab', ns.map tab'.idxOf)

/-- the forbidden variant: the names are declared by ranging over the alias map -/
def declStmtMapOrdered (vis : List Nat) (ims : List (String × String)) (tab : List String) : List String × List Nat :=
  let ns := declNames ims
  let tab' := declareAll (applyPerm vis ns.eraseDups) tab
  (tab', ns.map tab'.idxOf)

/-- a sequence of declaring statements of one scope, each with its own adversary annotation -/
def declProgram (step : List Nat → List (String × String) → List String → List String × List Nat) :
    List (List Nat × List (String × String)) → List String → List String × List (List Nat)
  | [], tab => (tab, [])
  | (vis, ims) :: rest, tab =>
    let r := step vis ims tab
    let r' := declProgram step rest r.1
    (r'.1, r.2 :: r'.2)

end Risor.C05
