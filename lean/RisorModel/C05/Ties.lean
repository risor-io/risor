import RisorModel.C05.Model
import RisorModel.Generated.C05
/-!
C05 ties: tables regenerated from the source tree on this run (go/types over the packages
`scope_is_complete` lists) against the reviewed tables of `Model.lean`, each by equality.

The first is the list of `range`-over-map sites: it is exactly the reviewed list every entry of
which carries a classification in `Risor.C05.mapSites`.  A new `range` over a map anywhere in
scope, a removed one, a loop body that starts doing something else (writes, appends, emits,
returns), or a removed `sort` call after a collecting loop breaks `map_range_sites_classified`.
The others: the object types and what their `Inspect()` / `String()` print, the dispatch of
`PrintableValue`, the functions that format script values, the scope itself, the `MarshalJSON`
and `HashKey` methods, the choosing loop of `VirtualOS.findMount`.
-/
namespace Risor.C05

/-- every regenerated site is in the reviewed table, with the reviewed body shape, and
    the table has no stale entries -/
theorem map_range_sites_classified :
    Risor.Generated.C05.mapRangeSites = mapSites.map (fun s => (s.1, s.2.1, s.2.2.1, s.2.2.2.1)) :=
  rfl

/-- every site classified "sorted afterwards" is followed by a sort call in its function,
    on this run's source -/
theorem sorted_sites_have_sort :
    (mapSites.filter (fun s => s.2.2.2.2 == SiteClass.sortedAfter)).all (fun s => s.2.2.2.1) = true := by
  decide

/-- every type of package object that implements object.Object is in the reviewed inventory,
    with the reviewed answers to: does it have a `String()` method; do the fmt calls inside its
    `Inspect()` / `String()` have an operand that could print an address.  A new object type,
    a removed `String()`, a `%p`, or a pointer/channel/func/interface operand added to any
    `Inspect()`/`String()` breaks this lemma. -/
theorem object_types_reviewed : Risor.Generated.C05.objectTypes = objTypes :=
  rfl

/-- the inventory the rendering theorems quantify over (`Kind`) names exactly these types -/
theorem kinds_are_the_object_types : allKinds.map Kind.goName = objTypes.map (·.1) :=
  rfl

/-- `object.PrintableValue` still dispatches primitives → Go value, time → RFC3339,
    Stringer → `String()`, everything else → `Inspect()` (the model's `RObj.printable`) -/
theorem printable_dispatch_reviewed : Risor.Generated.C05.printableDispatch = printableCases :=
  rfl

/-- the functions that hand script values to a fmt verb, and through what -/
theorem format_sites_reviewed : Risor.Generated.C05.formatSites = formatSitesReviewed :=
  rfl

/-- the packages the extractor walked are the property's scope -/
theorem scope_is_complete :
    Risor.Generated.C05.scope =
      ["risor", "ast", "builtins", "compiler", "errz", "importer", "object", "op", "os", "parser", "vm",
       "arg", "lexer", "limits", "token",
       "modules/all", "modules/base64", "modules/bytes", "modules/dns", "modules/errors", "modules/exec",
       "modules/filepath", "modules/fmt", "modules/http", "modules/json", "modules/math", "modules/net",
       "modules/os", "modules/rand", "modules/regexp", "modules/strconv", "modules/strings", "modules/time"] :=
  rfl

/-- every directory under modules/ that belongs to the root module (what the default globals
    of `risor.Eval` can hold) is walked: a new module directory breaks this lemma -/
theorem root_modules_in_scope :
    Risor.Generated.C05.rootModules.all (fun m => Risor.Generated.C05.scope.contains m) = true := by
  decide +kernel

/-- the json paths: the `MarshalJSON` method of every object type is what was reviewed — the
    containers hand their Go map / sorted listing / slice to `encoding/json` in ONE call (which
    sorts map keys before it marshals the values), the unmarshalable types fail outright.  A
    `MarshalJSON` that starts walking the elements itself (a `range`, a loop, several
    statements) is printed as `other…` and breaks this lemma. -/
theorem marshal_paths_reviewed : Risor.Generated.C05.marshalPaths = marshalPathsReviewed :=
  rfl

/-- the hash keys: the `HashKey()` method of every type that can be a member of a set is what was
    reviewed — one `HashKey` literal built from the type name and the value itself (the model's
    `HV.key`).  A method that starts hashing, truncating, or reading package-level state (a seed),
    a new hashable type or a removed one breaks this lemma. -/
theorem hash_keys_reviewed : Risor.Generated.C05.hashKeys = hashKeysReviewed :=
  rfl

/-- the choosing loop of `VirtualOS.findMount` is the loop that was read against the model's
    `selStep`: exact match returns, a qualifying mount point replaces the candidate only when its
    key is longer than the KEY of the candidate (`len(k) > len(matchKey)`, `match` and `matchKey`
    replaced together — the loop as repaired in risor; the text it had before the repair, with
    `len(k) > len(match.Target)`, is kept as `preFixFindMountLoops` in `Model.lean`, compared
    with nothing) -/
theorem find_mount_loop_reviewed : Risor.Generated.C05.findMountLoops = findMountLoopsReviewed :=
  rfl

end Risor.C05
