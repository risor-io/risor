import RisorModel.C07.Lemmas
/-!
C07 — property theorems.  "Runs on a reused VM are independent of earlier runs and their
contexts."

Everything is stated for ALL histories: lists of `Inv` of any length, every invocation
being Run, RunCode or Call, ending normally, with a runtime error at any depth, with a
recovered Go panic, with a frame-stack overflow or by cancellation of its own context,
with any placement of `cancel(ctx_i)` of any context before (`pre`) or of other contexts
during (`during`) each invocation, with context objects SHARED by any number of invocations
(`ctx`; possibly cancelled before the invocation that is handed them starts) and code
objects re-supplied after the host compiled further snippets into them (`same`, `grows`).  `pairs h` lists, for every invocation of `h`, the
outcome on the reused VM (Impl model of vm/vm.go) and the outcome the Spec demands (the
same invocation on a fresh VM with the same globals).
-/
namespace Risor.C07

/-- **The property, in full**: in every history every invocation's outcome on the reused
    VM is the outcome the Spec demands.  It does NOT hold for the code as it is. -/
def C07_full : Prop := ∀ h : List Inv, ∀ p ∈ pairs h, p.1 = p.2

/-- the witness replayed on the real code: `RunCode(ctx₀)`, then `RunCode(ctx₁)` whose
    script (two frames deep, one pending operand) is running when `ctx₀` is cancelled -/
def witnessStale : List Inv :=
  [ { kind := .runCode, beh := .normal, depth := 0, pend := 0, v := 2, bump := 1, bg := false,
      imp := false, pre := [], during := [] },
    { kind := .runCode, beh := .normal, depth := 2, pend := 1, v := 3, bump := 1, bg := false,
      imp := false, pre := [], during := [0] } ]

/-- three `RunCode`s of a script that imports a module supplied as a global -/
def witnessImport : List Inv :=
  List.replicate 3 { kind := .runCode, beh := .normal, depth := 0, pend := 0, v := 2, bump := 1,
                     bg := false, imp := true, pre := [], during := [] }

/-- Counterexample 1 (stale context watcher): the second invocation returns success with
    the host callback's value instead of 2003. -/
theorem C07_counterexample_stale_watcher : ¬ C07_full := by
  intro h
  have := h witnessStale (.okHook, .ok 2003) (by decide +kernel)
  exact absurd this (by decide)

/-- Counterexample 2 (reset drops the modules supplied as globals): the second `RunCode`
    fails with "imports are disabled" where a fresh VM returns 2002. -/
theorem C07_counterexample_reset_drops_modules : ¬ C07_full := by
  intro h
  have := h witnessImport (.errImport, .ok 2002) (by decide +kernel)
  exact absurd this (by decide)

/-- what the witnesses look like in the model (outcome on the reused VM, Spec) -/
example : pairs witnessStale = [(.ok 1002, .ok 1002), (.okHook, .ok 2003)] := by decide +kernel
example : pairs witnessImport =
    [(.ok 1002, .ok 1002), (.errImport, .ok 2002), (.errImport, .ok 2002)] := by decide +kernel

/-- **Exact characterisation, one invocation.**  From every state that any history can
    leave behind (`Good`), the outcome of an invocation equals the Spec if and only if the
    invocation is not `harms`-ed, i.e. neither (a) imports a global module after a reset nor
    (b) has a watcher of an earlier context fire while it runs (unless it cancels its own
    context as well, in which case `context.Canceled` is the right answer anyway) nor (c) is a
    `RunCode` whose reset wipes the cancellation of its own context (`lostFires`; see `harms`). -/
theorem C07_step_exact (s : St) (k : Nat) (inv : Inv) (g : Good s k) :
    (invoke s k inv).2 = specAt s k inv ↔ harms s k inv = false := by
  rw [step_outcome s k inv g]
  cases harms s k inv <;> simp [harmOutcome_ne_spec]

/-- the same for a history continued from any `Good` state -/
theorem pairsFrom_exact (s : St) (k : Nat) (h : List Inv) (g : Good s k) :
    (∀ p ∈ pairsFrom s k h, p.1 = p.2) ↔ anyFrom harms s k h = false := by
  induction h generalizing s k with
  | nil => simp [pairsFrom, anyFrom]
  | cons inv rest ih =>
    have hrest := ih (invoke s k inv).1 (k + 1) (step_good s k inv g)
    have hstep := C07_step_exact s k inv g
    simp only [pairsFrom, anyFrom, List.mem_cons, forall_eq_or_imp, Bool.or_eq_false_iff]
    rw [hrest, hstep]

/-- **C07, exact form (histories of any length).**  All invocations of a history have the
    outcome the Spec demands if and only if the history is not `harmed`.  `harmed` is the
    decidable guard: it names exactly the histories on which the code as it is violates
    the property. -/
theorem C07_exact (h : List Inv) : (∀ p ∈ pairs h, p.1 = p.2) ↔ harmed h = false :=
  pairsFrom_exact (fresh 0) 0 h (good_fresh 0 0)

theorem anyFrom_false_of (f g : St → Nat → Inv → Bool)
    (hfg : ∀ s k inv, g s k inv = true → f s k inv = true) (s : St) (k : Nat) (h : List Inv)
    (hf : anyFrom f s k h = false) : anyFrom g s k h = false := by
  induction h generalizing s k with
  | nil => rfl
  | cons inv rest ih =>
    simp only [anyFrom, Bool.or_eq_false_iff] at hf ⊢
    refine ⟨?_, ih _ _ hf.2⟩
    cases hg : g s k inv with
    | false => rfl
    | true => rw [hfg s k inv hg] at hf; exact absurd hf.1 (by simp)

theorem harmed_of_guards (h : List Inv) (h1 : staleCancel h = false)
    (h2 : importAfterReset h = false) (h3 : lostCancel h = false) : harmed h = false := by
  unfold harmed staleCancel importAfterReset lostCancel at *
  generalize fresh 0 = s at *
  generalize 0 = k at *
  induction h generalizing s k with
  | nil => rfl
  | cons inv rest ih =>
    simp only [anyFrom, Bool.or_eq_false_iff] at h1 h2 h3 ⊢
    refine ⟨?_, ih _ _ h1.2 h2.2 h3.2⟩
    unfold harms
    rw [h1.1, h2.1, h3.1]; rfl

/-- an invocation during which nothing is cancelled is harmed only by a failing import or by a
    reset that loses its cancellation -/
theorem harms_false_of (s : St) (k : Nat) (inv : Inv) (hdu : inv.during = [])
    (hi : importFails s k inv = false) (hl : lostFires s k inv = false) : harms s k inv = false := by
  unfold harms staleFires
  rw [hl, hi, hdu]
  simp [others]

/-- **The property under the guards of the three findings.**  For every
    history of ANY length in which no watcher of a finished invocation's context fires
    while a later invocation executes (`staleCancel h = false`), no module supplied as a
    global is imported after a `RunCode` reset (`importAfterReset h = false`) and no `RunCode`
    reset wipes the cancellation of its own context (`lostCancel h = false`): every
    invocation's outcome on the reused VM equals its outcome on a fresh VM with the same
    globals - whatever the kinds (Run/RunCode/Call) and endings (normal, error at any depth,
    recovered panic, frame overflow, own cancellation) of the earlier invocations, and
    wherever earlier contexts were cancelled BETWEEN invocations. -/
theorem C07_partial (h : List Inv) (h1 : staleCancel h = false)
    (h2 : importAfterReset h = false) (h3 : lostCancel h = false) : ∀ p ∈ pairs h, p.1 = p.2 :=
  (C07_exact h).2 (harmed_of_guards h h1 h2 h3)

/-- the guards are decidable and true of interesting histories (non-vacuity): six
    invocations of all three kinds ending in every possible way, with contexts of finished
    invocations cancelled before later ones start, one of them a Background context -/
def sampleGood : List Inv :=
  [ { kind := .run, beh := .err, depth := 3, pend := 2, v := 5, bump := 1, bg := false, imp := true, pre := [], during := [] },
    { kind := .call, beh := .panic, depth := 1, pend := 0, v := 6, bump := 2, bg := false, imp := false, pre := [0], during := [] },
    { kind := .run, beh := .selfCancel, depth := 2, pend := 1, v := 7, bump := 0, bg := false, imp := true, pre := [], during := [0] },
    { kind := .runCode, beh := .overflow, depth := 0, pend := 1, v := 8, bump := 1, bg := true, imp := false, pre := [1, 2], during := [] },
    { kind := .call, beh := .selfCancel, depth := 4, pend := 0, v := 9, bump := 1, bg := false, imp := false, pre := [], during := [2, 1] },
    { kind := .runCode, beh := .normal, depth := 7, pend := 2, v := 10, bump := 3, bg := false, imp := false, pre := [4], during := [0, 3] } ]

example : staleCancel sampleGood = false ∧ importAfterReset sampleGood = false := by decide +kernel
example : (pairs sampleGood).map (·.1) =
    [.errRuntime, .errPanic, .errCanceled, .errOverflow, .errCanceled, .ok 8010] := by decide +kernel
example : harmed witnessStale = true ∧ harmed witnessImport = true := by decide +kernel

/-- **What a harmed invocation returns.**  In every history, an invocation whose outcome
    differs from the Spec returns either "success" carrying the host callback's value (the
    run was cut short: a missing/wrong value, or a swallowed error/panic), or the import
    error, or - when the Spec demands `context.Canceled` because the context was cancelled
    before the start and the reset wiped the watcher's store - whatever the script does when it
    is left to run; nothing else can go wrong in the model. -/
theorem C07_harm_shape (s : St) (k : Nat) (h : List Inv) (g : Good s k) :
    ∀ p ∈ pairsFrom s k h, p.1 ≠ p.2 →
      p.1 = .okHook ∨ p.1 = .errImport ∨ (p.2 = .errCanceled ∧ p.1 ≠ .errCanceled) := by
  induction h generalizing s k with
  | nil => intro p hp; simp [pairsFrom] at hp
  | cons inv rest ih =>
    intro p hp hne
    simp only [pairsFrom, List.mem_cons] at hp
    rcases hp with hp | hp
    · subst hp
      simp only at hne ⊢
      rw [step_outcome s k inv g] at hne ⊢
      cases hh : harms s k inv
      · rw [hh] at hne; exact absurd rfl hne
      · exact harmOutcome_shape s k inv
    · exact ih _ _ (step_good s k inv g) p hp hne

/-- **Between invocations** of every history the VM is not running and the frame pointer
    is back at the base frame (the deferred `resumeFrame` calls ran on every way out), and
    no invocation is ever refused with "vm is already running". -/
theorem C07_between_invocations (s : St) (k : Nat) (h : List Inv) (g : Good s k) :
    ∀ r ∈ runFrom s k h, r.1.running = false ∧ r.1.fp = 0 ∧ r.2 ≠ .errBusy := by
  induction h generalizing s k with
  | nil => intro r hr; simp [runFrom] at hr
  | cons inv rest ih =>
    intro r hr
    simp only [runFrom, List.mem_cons] at hr
    rcases hr with hr | hr
    · subst hr
      have g' := step_good s k inv g
      refine ⟨g'.quiet, g'.fp0, ?_⟩
      rw [step_outcome s k inv g]
      have hb : ∀ a g, behOutcome inv.beh inv.v a g ≠ .errBusy := by
        intro a g; unfold behOutcome; cases inv.beh <;> simp
      unfold harmOutcome specAt specOutcome
      split
      · split
        · simp
        split
        · exact hb _ _
        · simp
      · split
        · simp
        · exact hb _ _
    · exact ih _ _ (step_good s k inv g) r hr

theorem C07_between_invocations_run (h : List Inv) :
    ∀ r ∈ run h, r.1.running = false ∧ r.1.fp = 0 ∧ r.2 ≠ .errBusy :=
  C07_between_invocations (fresh 0) 0 h (good_fresh 0 0)

/-- **`start` clears what earlier contexts left.**  Cancelling contexts BETWEEN invocations
    (so that their watchers have fired before the next `start`) is harmless in every history:
    with no cancellation during a run, no import and no reset that wipes the cancellation of
    a dead context (`sched ≠ lost`), every outcome equals the Spec although `halt` may be set
    when the invocation begins - and an invocation whose OWN context is among the cancelled
    ones returns `context.Canceled`, as the Spec demands. -/
theorem C07_cancel_between_is_harmless (h : List Inv)
    (hd : ∀ inv ∈ h, inv.during = [] ∧ inv.imp = false ∧ inv.sched ≠ .lost) :
    ∀ p ∈ pairs h, p.1 = p.2 := by
  apply (C07_exact h).2
  unfold harmed
  generalize fresh 0 = s
  generalize 0 = k
  induction h generalizing s k with
  | nil => rfl
  | cons inv rest ih =>
    simp only [anyFrom, Bool.or_eq_false_iff]
    have hi := hd inv (by simp)
    refine ⟨?_, ih (fun x hx => hd x (by simp [hx])) _ _⟩
    have hl : lostFires s k inv = false := by
      unfold lostFires loses
      cases hs : inv.sched <;> simp_all
    exact harms_false_of s k inv hi.1 (by simp [importFails, hi.2.1]) hl

/-- `halt` really can be set when such an invocation begins (non-vacuity of the previous
    theorem): here context 0 is cancelled before invocation 1 starts -/
example : (preState ((run [witnessStale.head!]).head!.1) 1
    { witnessStale.head! with pre := [0] }).halt = true := by decide +kernel

/-- **The Spec is the Impl on a fresh VM**: for every invocation, index, value of the host
    global, contents of the code object (`g` growth snippets) and state of the context
    (`d`: already cancelled), running the invocation on a fresh VM (no events concerning other
    contexts) gives exactly `specOutcome`. -/
theorem C07_spec_is_fresh_vm (inv : Inv) (k acc g : Nat) (d : Bool) :
    freshOutcome inv k acc g d =
      specOutcome inv acc (if inv.kind = .runCode then g else 0) (!inv.bg && d) := by
  unfold freshOutcome
  generalize hs : freshWorld inv k acc g d = s
  have gd : Good s k := by subst hs; exact ⟨rfl, rfl, fun _ => rfl⟩
  have hsc : s.startCount = 0 := by subst hs; rfl
  have hacc : s.acc = acc := by subst hs; rfl
  have hev : events s { inv with pre := [], during := [], grows := [] } = s := by
    subst hs; rfl
  have hm : (bodyState s k { inv with pre := [], during := [], grows := [] }).mods = true := by
    subst hs
    unfold bodyState prep preState enter start setup reset
    rw [hev]
    unfold freshWorld fresh
    cases inv.kind <;> simp
  have hh := (C07_step_exact s k { inv with pre := [], during := [], grows := [] } gd).2
    (harms_false_of s k _ rfl (by simp [importFails, hm]) (by simp [lostFires, loses, hsc]))
  rw [hh]
  unfold specAt curGen dead preState genOf
  rw [hev, hacc]
  subst hs
  -- the fresh world holds `g` growth snippets of the code object and the context iff it is dead
  show specOutcome inv acc
      (if inv.kind = .runCode then (List.replicate g (codeOf k inv)).count (codeOf k inv) else 0)
    (!inv.bg && (if d then [ctxOf k inv] else []).contains (ctxOf k inv)) = _
  rw [List.count_replicate_self]
  cases d <;> simp

/-- state in which a history leaves the VM -/
def finalFrom (s : St) (k : Nat) : List Inv → St
  | [] => s
  | inv :: rest => finalFrom (invoke s k inv).1 (k + 1) rest

theorem finalFrom_good (s : St) (k : Nat) (h : List Inv) (g : Good s k) :
    Good (finalFrom s k h) (k + h.length) := by
  induction h generalizing s k with
  | nil => exact g
  | cons inv rest ih =>
    have := ih _ _ (step_good s k inv g)
    simp only [finalFrom, List.length_cons]
    rw [show k + (rest.length + 1) = k + 1 + rest.length by omega]
    exact this

/-- **Independence of the past.**  Take ANY two histories `h₁`, `h₂` (different lengths,
    kinds, endings, cancellations) that leave the host global with the same value, the
    invocation's context in the same state (cancelled or not) and the code object it is handed
    with the same contents, and run the same invocation after each.  Unless the invocation is harmed in one of them, it
    returns the same outcome after both. -/
theorem C07_independent_of_history (h₁ h₂ : List Inv) (inv : Inv)
    (hacc : (finalFrom (fresh 0) 0 h₁).acc = (finalFrom (fresh 0) 0 h₂).acc)
    (hdead : dead (finalFrom (fresh 0) 0 h₁) h₁.length inv = dead (finalFrom (fresh 0) 0 h₂) h₂.length inv)
    (hgen : curGen (finalFrom (fresh 0) 0 h₁) h₁.length inv = curGen (finalFrom (fresh 0) 0 h₂) h₂.length inv)
    (n1 : harms (finalFrom (fresh 0) 0 h₁) h₁.length inv = false)
    (n2 : harms (finalFrom (fresh 0) 0 h₂) h₂.length inv = false) :
    (invoke (finalFrom (fresh 0) 0 h₁) h₁.length inv).2 =
    (invoke (finalFrom (fresh 0) 0 h₂) h₂.length inv).2 := by
  have g1 := finalFrom_good (fresh 0) 0 h₁ (good_fresh 0 0)
  have g2 := finalFrom_good (fresh 0) 0 h₂ (good_fresh 0 0)
  rw [Nat.zero_add] at g1 g2
  rw [(C07_step_exact _ _ inv g1).2 n1, (C07_step_exact _ _ inv g2).2 n2]
  unfold specAt
  rw [hacc, hdead, hgen]

/-! ### Re-supplied code objects and the file-module cache -/

/-- **Re-supplying a code object is invisible.**  From every state a history can leave
    behind: running a `*compiler.Code` object the VM has seen before (`same := some j`) gives
    exactly the outcome, and leaves exactly the state (up to which objects `vm.loadedCode`
    names: `forget`), that a newly compiled code object with the same CURRENT contents gives
    (`freshCode inv`; `curGen` = how many snippets the object contains beyond its first):
    `resetForNewCode` forgets `loadedCode`, so the look-up of `RunCode` never finds an older
    wrapper and no other transition reads `same`.  (The harness re-runs the very same Go
    object, grown or not, and compares outcome, sp, fp and the stack headroom with this
    model.) -/
theorem C07_same_code_irrelevant (s : St) (k : Nat) (inv : Inv) (g : Good s k)
    (hg : curGen s k (freshCode inv) = curGen s k inv) :
    (invoke s k (freshCode inv)).2 = (invoke s k inv).2 ∧
    forget (invoke s k (freshCode inv)).1 = forget (invoke s k inv).1 := by
  have := invoke_freshCode s s.loaded k inv g g hg
  exact ⟨this.2, this.1⟩

/-- a code object that never grew has the contents of a newly compiled one -/
theorem curGen_freshCode_of_no_growth (s : St) (k : Nat) (inv : Inv) (h0 : s.grown = [])
    (hn : inv.grows = []) : curGen s k (freshCode inv) = curGen s k inv := by
  have he : (events s inv).grown = [] := by rw [events_grown, h0, hn]; rfl
  unfold curGen genOf preState
  show (if inv.kind = .runCode then (events s inv).grown.count _ else 0) = _
  rw [he]; simp

/-- the same for whole histories of any length in which no code object grows: outcomes and
    states (up to the names in the wrapper cache) are those of the history in which every
    `RunCode` compiles its code anew -/
theorem C07_same_code_irrelevant_history (s : St) (l : List (Nat × Nat)) (k : Nat) (h : List Inv)
    (g : Good s k) (g' : Good { s with loaded := l } k) (h0 : s.grown = [])
    (hn : ∀ inv ∈ h, inv.grows = []) :
    (runFrom { s with loaded := l } k (h.map freshCode)).map (fun r => (forget r.1, r.2)) =
    (runFrom s k h).map (fun r => (forget r.1, r.2)) := by
  induction h generalizing s l k with
  | nil => rfl
  | cons inv rest ih =>
    have hi := hn inv (by simp)
    have hstep := invoke_freshCode s l k inv g g' (curGen_freshCode_of_no_growth s k inv h0 hi)
    have hg1 : (invoke s k inv).1.grown = [] := by rw [invoke_grown s k inv g, hi, h0]; rfl
    have e := eq_of_forget hstep.1.symm
    have g1 := step_good s k inv g
    have g1' := step_good _ k (freshCode inv) g'
    rw [e] at g1'
    have := ih (invoke s k inv).1 _ (k + 1) g1 g1' hg1 (fun x hx => hn x (by simp [hx]))
    simp only [List.map_cons, runFrom]
    rw [hstep.1, hstep.2]
    rw [e]
    rw [this]

/-- non-vacuity and necessity of the hypothesis: once the object has grown, re-supplying it
    is NOT the same as compiling the first snippet anew - the grown object runs its current
    contents (1 002 003 = 3 + 1000·2 + 1 000 000·1) -/
example : (pairs [ { kind := .runCode, beh := .normal, depth := 0, pend := 0, v := 2, bump := 1, bg := false, imp := false, pre := [], during := [] },
                   { kind := .runCode, beh := .normal, depth := 0, pend := 0, v := 3, bump := 1, bg := false, imp := false, pre := [], during := [], same := some 0, grows := [0] } ]).map (·.1)
    = [.ok 1002, .ok 1002003] := by decide +kernel

/-- **A run that ends inside a module's top-level code caches nothing.**  From every state a
    history can leave behind: if invocation `k` ends (runtime error, recovered panic, frame
    overflow, cancellation of its own context) while the top-level code of the imported file
    module is executing (and its context was live when it started), the module is NOT in the
    VM's import cache afterwards, the outcome is
    the one the Spec demands, and the module cache has the size it had when the body started. -/
theorem C07_aborted_import_caches_nothing (s : St) (k : Nat) (inv : Inv) (g : Good s k)
    (hd : dead s k inv = false)
    (hi : importFails s k inv = false) (hm : modEnds (bodyState s k inv) inv = true) :
    (invoke s k inv).1.fmod = false ∧ (invoke s k inv).2 = specAt s k inv ∧
    modCount (invoke s k inv).1 = modCount (bodyState s k inv) := by
  have hc : cut s k inv = false := by unfold cut; rw [hd]; rfl
  have he : eff s k inv = inv := by unfold eff; simp [hd]
  have hl : lostFires s k inv = false := by unfold lostFires; rw [hd]; rfl
  have hnot : ¬(inv.imp = true ∧ (bodyState s k inv).mods = false) := by
    intro h; unfold importFails at hi; simp [h.1, h.2, hc] at hi
  have hgone : (bodyState s k inv).gone = false := (bodyState_facts s k inv g).gone.trans hd
  have hcore : core (bodyState s k inv) (ctxOf k inv) (eff s k inv)
      = modEnd (bodyState s k inv) (ctxOf k inv) inv := by
    rw [he]; unfold core; simp only [hnot, hm, hgone, Bool.false_eq_true, false_and, ↓reduceIte]
  have hf : (bodyState s k inv).fmod = false := by
    unfold modEnds modRuns at hm
    cases h : (bodyState s k inv).fmod <;> simp_all
  have hs : staleFires s k inv = false := by unfold staleFires; rw [he, hm]; simp
  refine ⟨?_, ?_, ?_⟩
  · rw [invoke_body s k inv g hc, hcore]
    show (modEnd (bodyState s k inv) (ctxOf k inv) inv).1.fmod = false
    unfold modEnd
    simp only
    split
    · rw [cancel_eq]; exact hf
    · exact hf
  · exact (C07_step_exact s k inv g).2 (by simp [harms, hi, hs, hl])
  · rw [invoke_body s k inv g hc, hcore]
    unfold modCount modEnd
    simp only
    split
    · rw [cancel_eq]; rfl
    · rfl

/-- **The module cache never decides an outcome.**  Whether the file module is cached
    (`fmod`) when an invocation starts changes where a run can end, not what it returns: from
    every state a history can leave behind, flipping the cache gives the same outcome unless
    the invocation is harmed (stale watcher / import of a global module after a reset / lost
    cancellation) in one of the two situations. -/
theorem C07_module_cache_irrelevant (s : St) (k : Nat) (inv : Inv) (b : Bool) (g : Good s k)
    (n1 : harms s k inv = false) (n2 : harms { s with fmod := b } k inv = false) :
    (invoke { s with fmod := b } k inv).2 = (invoke s k inv).2 := by
  have g' : Good { s with fmod := b } k := ⟨g.quiet, g.fp0, g.cold⟩
  rw [(C07_step_exact _ _ inv g).2 n1, (C07_step_exact _ _ inv g').2 n2]
  have he : events { s with fmod := b } inv = { events s inv with fmod := b } := by
    rw [events_eq, events_eq]; rfl
  unfold specAt curGen dead preState genOf
  rw [he]

/-- non-vacuity: seven invocations on one VM that import the file module; three of them end
    inside the module's top-level code (error, own cancellation, panic), later ones import it
    again through Call / Run / a re-supplied code object; no guard is violated, every
    outcome is the Spec's, and the module is cached only by the runs that completed it -/
def sampleModule : List Inv :=
  [ { kind := .call, beh := .err, depth := 1, pend := 0, v := 5, bump := 1, bg := false, imp := false, pre := [], during := [], fimp := true, mfail := true },
    { kind := .call, beh := .selfCancel, depth := 0, pend := 0, v := 6, bump := 1, bg := false, imp := false, pre := [], during := [], fimp := true, mfail := true },
    { kind := .run, beh := .panic, depth := 2, pend := 1, v := 7, bump := 1, bg := false, imp := false, pre := [1], during := [], fimp := true, mfail := true },
    { kind := .call, beh := .normal, depth := 0, pend := 0, v := 8, bump := 1, bg := false, imp := false, pre := [], during := [], fimp := true, mfail := true },
    { kind := .run, beh := .err, depth := 0, pend := 2, v := 9, bump := 1, bg := false, imp := false, pre := [], during := [], fimp := true, mfail := true },
    { kind := .runCode, beh := .normal, depth := 0, pend := 0, v := 10, bump := 0, bg := true, imp := false, pre := [], during := [], fimp := true },
    { kind := .runCode, beh := .overflow, depth := 0, pend := 0, v := 10, bump := 0, bg := true, imp := false, pre := [], during := [], fimp := true, mfail := true, same := some 5 } ]

example : harmed sampleModule = false := by decide +kernel
example : (pairs sampleModule).map (·.1) =
    [.errRuntime, .errCanceled, .errPanic, .ok 1008, .errRuntime, .ok 2010, .errOverflow] := by decide +kernel
example : (run sampleModule).map (·.1.fmod) = [false, false, false, true, true, true, false] := by decide +kernel
example : modEnds (bodyState (fresh 0) 0 sampleModule.head!) sampleModule.head! = true := by decide +kernel

/-! ### Shared contexts, already cancelled contexts, growing code objects -/

/-- **An already cancelled context stops the run, whatever happened before.**  From every
    state a history can leave behind - whichever earlier invocations were handed the same
    context object, however they ended, whether the context was cancelled during one of them,
    while the VM was idle, or before it was ever used -: an invocation (Run, RunCode or Call)
    that is handed a context which is already cancelled when it starts returns
    `context.Canceled`.  `start` clears `halt` but arms a NEW watcher for every invocation, and
    a watcher armed for a cancelled context fires at once.  The one exception is the recorded
    race of `RunCode` on a used VM (`loses`: `resetForNewCode` runs after `start` and may wipe
    the watcher's store). -/
theorem cancelled_ctx_stops_every_later_run (s : St) (k : Nat) (inv : Inv) (g : Good s k)
    (hd : dead s k inv = true) (hl : loses s k inv = false) :
    (invoke s k inv).2 = .errCanceled := by
  have : cut s k inv = true := by unfold cut; rw [hd, hl]; rfl
  rw [invoke_eq s k inv g, this]; rfl

/-- ... and nothing of the script is executed beyond its first instruction: the host global
    is untouched, the leaf is not reached, the frame pointer is at the base -/
theorem cancelled_ctx_run_does_nothing (s : St) (k : Nat) (inv : Inv) (g : Good s k)
    (hd : dead s k inv = true) (hl : loses s k inv = false) :
    (invoke s k inv).1.acc = s.acc ∧ leafReached s k inv = false ∧ (invoke s k inv).1.fp = 0 ∧
    (invoke s k inv).1.halt = true := by
  have hc : cut s k inv = true := by unfold cut; rw [hd, hl]; rfl
  have b := bodyState_facts s k inv g
  rw [invoke_eq s k inv g, hc]
  refine ⟨b.acc, ?_, b.fp, rfl⟩
  unfold leafReached; rw [hc]; rfl

/-- Run and Call never lose the cancellation, nor does the first start of a VM -/
theorem cancelled_ctx_stops_run_and_call (s : St) (k : Nat) (inv : Inv) (g : Good s k)
    (hd : dead s k inv = true) (hk : inv.kind ≠ .runCode ∨ s.startCount = 0) :
    (invoke s k inv).2 = .errCanceled := by
  apply cancelled_ctx_stops_every_later_run s k inv g hd
  unfold loses
  rcases hk with hk | hk
  · cases h : inv.kind <;> simp_all
  · simp [hk]

/-- the same for whole histories: in every history of any length in which the reset race does
    not strike (`lostFires` nowhere), EVERY invocation that is handed an already cancelled
    context returns `context.Canceled` -/
theorem cancelled_ctx_stops_every_later_run_history (s : St) (k : Nat) (h : List Inv)
    (g : Good s k) (hl : anyFrom lostFires s k h = false) :
    ∀ o ∈ deadOutcomesFrom s k h, o = .errCanceled := by
  induction h generalizing s k with
  | nil => intro o ho; simp [deadOutcomesFrom] at ho
  | cons inv rest ih =>
    simp only [anyFrom, Bool.or_eq_false_iff] at hl
    intro o ho
    simp only [deadOutcomesFrom, List.mem_append] at ho
    rcases ho with ho | ho
    · cases hd : dead s k inv with
      | false => rw [hd] at ho; simp at ho
      | true =>
        rw [hd] at ho
        simp only [↓reduceIte, List.mem_singleton] at ho
        have hls : loses s k inv = false := by
          have := hl.1; unfold lostFires at this; rw [hd] at this; simpa using this
        rw [ho]
        exact cancelled_ctx_stops_every_later_run s k inv g hd hls
    · exact ih _ _ (step_good s k inv g) hl.2 o ho

/-- Counterexample 3 (the reset of `RunCode` wipes the cancellation): context 7 is cancelled
    before it is ever used; the first RunCode that is handed it returns `context.Canceled`,
    a second one - in the schedule in which the watcher stores `halt` before
    `resetForNewCode` clears it - runs to the end and returns 1003. -/
def witnessLost : List Inv :=
  [ { kind := .runCode, beh := .normal, depth := 0, pend := 0, v := 2, bump := 1, bg := false,
      imp := false, pre := [7], during := [], ctx := some 7 },
    { kind := .runCode, beh := .normal, depth := 0, pend := 0, v := 3, bump := 1, bg := false,
      imp := false, pre := [], during := [], ctx := some 7, sched := .lost } ]

theorem C07_counterexample_reset_loses_cancellation : ¬ C07_full := by
  intro h
  have := h witnessLost (.ok 1003, .errCanceled) (by decide +kernel)
  exact absurd this (by decide)

example : pairs witnessLost = [(.errCanceled, .errCanceled), (.ok 1003, .errCanceled)] := by decide +kernel
example : lostCancel witnessLost = true ∧ staleCancel witnessLost = false := by decide +kernel

/-- **`RunCode` executes the code object's CURRENT contents.**  From every state a history
    can leave behind, whatever the VM ran before - the same code object when it was shorter,
    other code objects, Run, Call -: the snapshot that `RunCode` executes contains exactly
    the snippets the code object contains when the invocation starts.  (`resetForNewCode`
    empties `vm.loadedCode`, and a VM that was never started has wrapped nothing: the look-up
    never finds a wrapper made before the object grew.) -/
theorem run_uses_current_code (s : St) (k : Nat) (inv : Inv) (g : Good s k) :
    (bodyState s k inv).cur = curGen s k inv :=
  (bodyState_facts s k inv g).cur

/-- the same for whole histories of any length: every `RunCode` of every history executes
    the generation its code object has at that moment -/
theorem run_uses_current_code_history (s : St) (k : Nat) (h : List Inv) (g : Good s k) :
    ∀ p ∈ gensFrom s k h, p.1 = p.2 := by
  induction h generalizing s k with
  | nil => intro p hp; simp [gensFrom] at hp
  | cons inv rest ih =>
    intro p hp
    simp only [gensFrom, List.mem_append] at hp
    rcases hp with hp | hp
    · split at hp
      · simp only [List.mem_singleton] at hp
        rw [hp]; exact run_uses_current_code s k inv g
      · simp at hp
    · exact ih _ _ (step_good s k inv g) p hp

/-- ... hence a successful `RunCode` of a grown code object returns the value of its LAST
    snippet: with a live context, no import and no cancellation during the run, the outcome of
    a normally ending RunCode is `v + 1000·len(acc) + 1 000 000·(current generation)` -/
theorem run_uses_current_code_outcome (s : St) (k : Nat) (inv : Inv) (g : Good s k)
    (hk : inv.kind = .runCode) (hb : inv.beh = .normal) (hd : dead s k inv = false)
    (hi : inv.imp = false) (hdu : inv.during = []) :
    (invoke s k inv).2 =
      .ok (inv.v + 1000 * (s.acc + inv.bump) + 1000000 * genOf (preState s k inv) (codeOf k inv)) := by
  have hh : harms s k inv = false :=
    harms_false_of s k inv hdu (by simp [importFails, hi]) (by simp [lostFires, hd])
  rw [(C07_step_exact s k inv g).2 hh]
  unfold specAt specOutcome curGen ownCancel behOutcome
  rw [hd, hb, if_pos hk]; simp

/-- why the wrapper cache must be forgotten (what a VM that kept its wrappers across resets
    would do): from a state that is NOT one a history of the unchanged code can leave behind -
    never started, yet holding a wrapper of code object 0 made when it had no growth snippet -
    `RunCode` of the grown object executes the OLD snapshot -/
example :
    let s : St := { loaded := [(0, 0)], grown := [0] }
    let inv : Inv := { kind := .runCode, beh := .normal, depth := 0, pend := 0, v := 3, bump := 0,
                       bg := false, imp := false, pre := [], during := [], same := some 0 }
    (bodyState s 1 inv).cur = 0 ∧ curGen s 1 inv = 1 ∧ (invoke s 1 inv).2 = .ok 3 ∧
    specAt s 1 inv = .ok 1000003 := by decide +kernel

/-- non-vacuity: eight invocations on one VM that share two context objects (50 and 60) and one
    growing code object (0).  Context 50 is used by three invocations and cancelled in the
    middle of the second; context 60 is cancelled before it is ever used; the code object of
    invocation 0 grows twice and is run again after each growth, with Run and Call in
    between.  No guard is violated and every outcome is the Spec's. -/
def sampleShared : List Inv :=
  [ { kind := .runCode, beh := .normal, depth := 1, pend := 1, v := 5, bump := 1, bg := false, imp := false, pre := [], during := [], ctx := some 50 },
    { kind := .call, beh := .selfCancel, depth := 2, pend := 0, v := 6, bump := 1, bg := false, imp := false, pre := [], during := [], ctx := some 50 },
    { kind := .runCode, beh := .normal, depth := 0, pend := 1, v := 7, bump := 1, bg := false, imp := false, pre := [], during := [], same := some 0, grows := [0] },
    { kind := .run, beh := .normal, depth := 3, pend := 2, v := 8, bump := 1, bg := false, imp := false, pre := [], during := [], ctx := some 50, sched := .early },
    { kind := .call, beh := .err, depth := 0, pend := 0, v := 9, bump := 1, bg := false, imp := false, pre := [60], during := [], ctx := some 60 },
    { kind := .runCode, beh := .normal, depth := 0, pend := 1, v := 10, bump := 0, bg := false, imp := false, pre := [], during := [50, 60], same := some 0, grows := [0], fimp := true },
    { kind := .runCode, beh := .panic, depth := 0, pend := 0, v := 11, bump := 0, bg := false, imp := false, pre := [], during := [], ctx := some 60 },
    { kind := .runCode, beh := .normal, depth := 0, pend := 0, v := 12, bump := 0, bg := true, imp := false, pre := [], during := [], ctx := some 60 } ]

example : harmed sampleShared = false ∧ staleCancel sampleShared = false ∧
    lostCancel sampleShared = false := by decide +kernel
example : (pairs sampleShared).map (·.1) =
    [.ok 1005, .errCanceled, .ok 1003007, .errCanceled, .errCanceled, .ok 2003010, .errCanceled,
     .ok 3012] := by decide +kernel
example : gensFrom (fresh 0) 0 sampleShared = [(0, 0), (1, 1), (2, 2), (0, 0), (0, 0)] := by decide +kernel
example : deadOutcomesFrom (fresh 0) 0 sampleShared = [.errCanceled, .errCanceled, .errCanceled] := by
  decide +kernel

/-! ### Depth -/

theorem frameStep_leafSig (halt own : Bool) (b : Beh) (v acc g : Nat) :
    frameStep halt own (leafSig halt own b v acc g) = leafSig halt own b v acc g := by
  cases halt <;> cases own <;> cases b <;> rfl

theorem unwind_leafSig (halt own : Bool) (b : Beh) (v acc g : Nat) (d : Nat) :
    unwind halt own d (leafSig halt own b v acc g) = leafSig halt own b v acc g := by
  induction d with
  | zero => rfl
  | succ n ih => rw [unwind, frameStep_leafSig, ih]

/-- **The depth at which a run ends does not matter.**  For every number `d` of enclosing
    script frames, carrying the leaf's signal (value, error, Go panic, or the cut-short
    "success") up through `d` frames that each poll `halt` gives exactly the outcome the
    run-state model uses (`leafOutcome`): an error raised at depth `d` surfaces unchanged,
    and a run cut short by a stale watcher is cut short at EVERY level and returns
    "success" with the host callback's value. -/
theorem C07_depth_irrelevant (s : St) (k : Nat) (inv : Inv) (d : Nat) :
    sigOutcome (unwind s.halt (s.gone || (!inv.bg && s.cancelled.contains k)) d
      (leafSig s.halt (s.gone || (!inv.bg && s.cancelled.contains k)) inv.beh inv.v s.acc s.cur))
      = leafOutcome s k inv := by
  rw [unwind_leafSig]
  unfold leafOutcome leafSig behOutcome
  cases s.halt <;> cases (s.gone || (!inv.bg && s.cancelled.contains k)) <;> cases inv.beh <;> rfl

/-! ## Names looked up on a reused VM (`vm.Get`, `vm.GlobalNames`, `risor.Call`'s RunCode + Get + Call)

The code objects a reused VM runs lay their globals out differently, so one NAME lives in
different SLOTS from one invocation to the next.  `lookPairs h` lists, for every look-up the host
makes after an invocation of the history `h` (`LInv`: the invocation, the layout of the code
object compiled for it, the names asked for before and after it), the answer on the reused VM
(Impl: `get`, a scan of the active code's symbol table) and the answer the Spec demands (the same
look-up after the same invocation on a fresh VM; `none` where the property demands nothing by
itself, see `specGet`). -/

/-- **The property for look-ups, in full**: every name resolves after every invocation as it
    does after the same invocation on a fresh VM.  It does NOT hold for the code as it is (a
    `RunCode` whose cancellation the reset lost executes definitions that a fresh VM never
    reaches: `C07_lookups_counterexample_lost`). -/
def C07_lookups_full : Prop :=
  ∀ h : List LInv, ∀ p ∈ lookPairs h, ∀ x, p.2 = some x → p.1 = x

/-- **One invocation, any reused VM**: for every run-state `s` and name storage `g` that earlier
    invocations (any number, any kinds, any endings, any layouts, any look-ups) can leave, every
    invocation `inv`, every layout and every name `n`: unless the reset loses the cancellation of
    the invocation's context (known finding), the name resolves after the invocation exactly as
    the Spec demands - whatever slot it had in the code objects that ran before. -/
theorem C07_lookup_step (g : GSt) (s : St) (k : Nat) (inv : Inv) (lay : Lay) (n : GName) (x : Got)
    (hg : Good s k) (gg : GGood g s k) (hl : lostFires s k inv = false)
    (hs : specGet s k inv lay n = some x) : get (ginvoke g s k inv lay) n = x := by
  have hcut : cut s k inv = dead s k inv := by
    unfold cut; unfold lostFires at hl
    cases hd : dead s k inv <;> cases hlo : loses s k inv <;> simp_all
  unfold specGet at hs
  cases hk : inv.kind with
  | runCode =>
    simp only [hk] at hs
    rw [(get_after_runCode g s k inv lay n hg gg hk).1, hcut]
    exact Option.some.inj hs
  | call =>
    simp only [hk] at hs
    split at hs
    · cases hs
    · rename_i h
      rw [(get_after_setup g s k inv lay n hg hk (by simpa using h)).1]
      exact Option.some.inj hs
  | run =>
    simp only [hk] at hs
    split at hs
    · rename_i h
      rw [get_after_run g s k inv lay n hg gg hk h, hcut]
      exact Option.some.inj hs
    · cases hs

/-- `vm.GlobalNames()` after an invocation that loads code is the symbol table of that code,
    whatever the VM ran before (no guard needed) -/
theorem C07_globalNames_step (g : GSt) (s : St) (k : Nat) (inv : Inv) (lay : Lay)
    (ns : List GName) (hg : Good s k) (gg : GGood g s k)
    (hs : specNames s k inv lay = some ns) : globalNames (ginvoke g s k inv lay) = ns := by
  unfold specNames at hs
  cases hk : inv.kind with
  | runCode =>
    simp only [hk] at hs
    rw [(get_after_runCode g s k inv lay .nosuch hg gg hk).2]
    exact Option.some.inj hs
  | call =>
    simp only [hk] at hs
    split at hs
    · cases hs
    · rename_i h
      rw [(get_after_setup g s k inv lay .nosuch hg hk (by simpa using h)).2]
      exact Option.some.inj hs
  | run => simp [hk] at hs

theorem lookPairsFrom_ok (s : St) (g : GSt) (k : Nat) (h : List LInv) (hg : Good s k)
    (gg : GGood g s k) (hl : anyFrom lostFires s k (h.map (·.inv)) = false) :
    ∀ l ∈ lrunFrom s g k h, ∀ p ∈ l.post, ∀ x, p.2 = some x → p.1 = x := by
  induction h generalizing s g k with
  | nil => intro l hl'; simp [lrunFrom] at hl'
  | cons a rest ih =>
    simp only [List.map_cons, anyFrom, Bool.or_eq_false_iff] at hl
    intro l hmem
    simp only [lrunFrom, List.mem_cons] at hmem
    rcases hmem with hmem | hmem
    · subst hmem
      intro p hp x hx
      simp only [looked, List.mem_map] at hp
      obtain ⟨n, _, rfl⟩ := hp
      exact C07_lookup_step g s k a.inv a.lay n x hg gg hl.1 hx
    · exact ih _ _ _ (step_good s k a.inv hg) (ggood_step g s k a.inv a.lay hg gg) hl.2 l hmem

/-- **The property for look-ups under the guard of the recorded defect**: in every history (any
    length, any kinds, endings, contexts, code objects, LAYOUTS and look-ups) in which no `RunCode`
    loses the cancellation of its context, every name the host looks up after an invocation
    resolves as after the same invocation on a fresh VM. -/
theorem C07_lookups_partial (h : List LInv) (hl : lostCancel (h.map (·.inv)) = false) :
    ∀ p ∈ lookPairs h, ∀ x, p.2 = some x → p.1 = x := by
  intro p hp
  simp only [lookPairs, lrun, List.mem_flatMap] at hp
  obtain ⟨l, hl', hp⟩ := hp
  exact lookPairsFrom_ok (fresh 0) {} 0 h (good_fresh 0 0) (ggood_fresh 0 0) hl l hl' p hp


/-- a context that is cancelled during the first `RunCode` is handed to a second one, whose
    cancellation the reset loses: its definitions are executed; the host looks `who` up -/
def witnessLookLost : List LInv :=
  [ { inv := { kind := .runCode, beh := .selfCancel, depth := 0, pend := 0, v := 2, bump := 0, bg := false, imp := false, pre := [], during := [] } },
    { inv := { kind := .runCode, beh := .normal, depth := 0, pend := 0, v := 3, bump := 0, bg := false, imp := false, pre := [], during := [], ctx := some 0, sched := .lost },
      post := [.who] } ]

theorem C07_lookups_counterexample_lost : ¬ C07_lookups_full := by
  intro h
  have := h witnessLookLost (.val (.int 101), some (.val .unbound)) (by decide +kernel) _ rfl
  exact absurd this (by decide)

example : lookPairs witnessLookLost = [(.val (.int 101), some (.val .unbound))] := by decide +kernel
example : lostCancel (witnessLookLost.map (·.inv)) = true := by decide +kernel

/-- **Independent of the VM's history**: after a `RunCode` the answer to every look-up is the
    same on ANY two reused VMs (whatever they ran, loaded, defined and were asked before), given
    only that the run is or is not stopped at once by its dead context on both. -/
theorem C07_lookup_independent_of_history (g₁ g₂ : GSt) (s₁ s₂ : St) (k : Nat) (inv : Inv)
    (lay : Lay) (n : GName) (h₁ : Good s₁ k) (h₂ : Good s₂ k) (gg₁ : GGood g₁ s₁ k)
    (gg₂ : GGood g₂ s₂ k) (hk : inv.kind = .runCode) (hc : cut s₁ k inv = cut s₂ k inv) :
    get (ginvoke g₁ s₁ k inv lay) n = get (ginvoke g₂ s₂ k inv lay) n ∧
    globalNames (ginvoke g₁ s₁ k inv lay) = globalNames (ginvoke g₂ s₂ k inv lay) := by
  obtain ⟨a1, a2⟩ := get_after_runCode g₁ s₁ k inv lay n h₁ gg₁ hk
  obtain ⟨b1, b2⟩ := get_after_runCode g₂ s₂ k inv lay n h₂ gg₂ hk
  rw [a1, a2, b1, b2, hc]
  exact ⟨rfl, rfl⟩

/-- **A name's slot does not matter**: after `RunCode` of a code object with ANY layout (wherever
    the layout puts them, wherever the code objects that ran before had them) `who` is the mark of
    THAT code object and every host name it was compiled with is the host's object. -/
theorem C07_who_and_hosts_after_runCode (g : GSt) (s : St) (k : Nat) (inv : Inv) (lay : Lay)
    (hg : Good s k) (gg : GGood g s k) (hk : inv.kind = .runCode) (hc : cut s k inv = false) :
    get (ginvoke g s k inv lay) .who = .val (.int (100 + codeOf k inv)) ∧
    ∀ i, GName.host i ∈ hostTbl lay.hset → get (ginvoke g s k inv lay) (.host i) = .val (.host i) := by
  refine ⟨?_, fun i hi => ?_⟩
  · rw [(get_after_runCode g s k inv lay .who hg gg hk).1, hc]
    have h1 : GName.who ∈ defNames lay := by unfold defNames; simp
    have h2 : GName.who ∈ codeTbl lay := by unfold codeTbl; exact List.mem_append_right _ h1
    simp [codeGet, h1, h2, defVal, whoVal]
  · rw [(get_after_runCode g s k inv lay (.host i) hg gg hk).1, hc]
    have h2 : GName.host i ∈ codeTbl lay := by unfold codeTbl; exact List.mem_append_left _ hi
    have h1 : GName.host i ∉ defNames lay := by
      unfold defNames; cases lay.swap <;> simp
    simp [codeGet, h1, h2, initVal]

/-- **A `Call` of a function of the code an earlier invocation loaded changes no answer**: every
    name resolves after the Call as before it, and `GlobalNames()` is unchanged -/
theorem C07_call_keeps_globals (g : GSt) (s : St) (k : Nat) (inv : Inv) (lay : Lay) (n : GName)
    (hg : Good s k) (hk : inv.kind = .call) (hc : (preState s k inv).hasCode = true) :
    get (ginvoke g s k inv lay) n = get g n ∧
    globalNames (ginvoke g s k inv lay) = globalNames g := by
  rw [call_keeps_globals g s k inv lay hg hk hc]
  exact ⟨rfl, rfl⟩

/-- the pair (run-state, name storage) after a history -/
def lfinalFrom (s : St) (g : GSt) (k : Nat) : List LInv → St × GSt
  | [] => (s, g)
  | x :: rest => lfinalFrom (invoke s k x.inv).1 (ginvoke g s k x.inv x.lay) (k + 1) rest

theorem lfinalFrom_good (s : St) (g : GSt) (k : Nat) (h : List LInv) (hg : Good s k)
    (gg : GGood g s k) (hl : Linked g s) :
    Good (lfinalFrom s g k h).1 (k + h.length) ∧ GGood (lfinalFrom s g k h).2 (lfinalFrom s g k h).1 (k + h.length) ∧
    Linked (lfinalFrom s g k h).2 (lfinalFrom s g k h).1 := by
  induction h generalizing s g k with
  | nil => exact ⟨hg, gg, hl⟩
  | cons a rest ih =>
    have := ih _ _ _ (step_good s k a.inv hg) (ggood_step g s k a.inv a.lay hg gg)
      (linked_step g s k a.inv a.lay hg gg hl)
    simp only [lfinalFrom, List.length_cons]
    rw [show k + (rest.length + 1) = k + 1 + rest.length by omega]
    exact this

/-- **`Get` + `Call` fetches the right function, after any history**: after every history of
    invocations with any layouts and look-ups, a further `Call` - whether it has to load
    definitions or calls into the code an earlier invocation left active - finds under the name it
    asks for the function of that name OF THE ACTIVE CODE (never a function, a variable or a host
    object that happens to live in the slot the name had in a code object that ran earlier). -/
theorem C07_call_fetches_active_function (h : List LInv) (inv : Inv) (lay : Lay)
    (hk : inv.kind = .call) :
    let s := (lfinalFrom (fresh 0) {} 0 h).1
    let g := ginvoke (lfinalFrom (fresh 0) {} 0 h).2 s h.length inv lay
    ∃ w, activeWrap g = some w ∧ get g (callTarget g) = .val (.fn (callTarget g) w.owner) := by
  intro s g
  obtain ⟨hg, gg, hl⟩ := lfinalFrom_good (fresh 0) {} 0 h (good_fresh 0 0) (ggood_fresh 0 0)
    (linked_fresh 0)
  simp only [Nat.zero_add] at hg gg
  have hstep := linked_step _ s h.length inv lay hg gg hl
  have hc : (invoke s h.length inv).1.hasCode = true := by
    rw [invoke_hasCode s h.length inv hg]; simp [hk]
  obtain ⟨w, hw, hs⟩ := hstep hc
  refine ⟨w, hw, ?_⟩
  show (match activeWrap g with | none => Got.noCode | some w => scan w.slots (callTarget g)) = _
  rw [hw]
  exact hs


/-- the name storage after each invocation of a history -/
def gstatesFrom (s : St) (g : GSt) (k : Nat) : List LInv → List GSt
  | [] => []
  | x :: rest =>
    ginvoke g s k x.inv x.lay :: gstatesFrom (invoke s k x.inv).1 (ginvoke g s k x.inv x.lay) (k + 1) rest

/-- **Look-ups leave no trace**: the storage every later look-up (and every later invocation)
    reads is the same whichever names the host asked for, and however often, before: two
    histories that differ only in their look-ups pass through the same states.  (`get` is a
    function of the state - `Get` and `GlobalNames` assign no field of the VM, tie
    `get_is_read_only_tie`.) -/
theorem lookups_leave_no_trace (s : St) (g : GSt) (k : Nat) (h h' : List LInv)
    (e : h.map (fun x => (x.inv, x.lay)) = h'.map (fun x => (x.inv, x.lay))) :
    gstatesFrom s g k h = gstatesFrom s g k h' := by
  induction h generalizing s g k h' with
  | nil => cases h' <;> simp_all [gstatesFrom]
  | cons a rest ih =>
    cases h' with
    | nil => simp at e
    | cons b rest' =>
      simp only [List.map_cons, List.cons.injEq, Prod.mk.injEq] at e
      obtain ⟨⟨e1, e2⟩, e3⟩ := e
      simp only [gstatesFrom, e1, e2]
      rw [ih _ _ _ rest' e3]

/-- the answers of a history's look-ups are the answers of `get` in those states -/
theorem lrunFrom_post (s : St) (g : GSt) (k : Nat) (h : List LInv) :
    (lrunFrom s g k h).map (fun l => l.post.map (·.1)) =
      List.zipWith (fun g' (x : LInv) => x.post.map (get g')) (gstatesFrom s g k h) h := by
  induction h generalizing s g k with
  | nil => rfl
  | cons a rest ih =>
    simp only [lrunFrom, gstatesFrom, List.map_cons, List.zipWith_cons_cons, ih, looked,
      List.map_map]
    rfl

/-- two code objects that differ by one filler function: `act` lives in slot 8 of the first and
    in slot 9 of the second; the host asks for `act` after each -/
def witnessMoved : List LInv :=
  [ { inv := { kind := .runCode, beh := .normal, depth := 0, pend := 0, v := 2, bump := 0, bg := false, imp := false, pre := [], during := [] },
      post := [.act 0] },
    { inv := { kind := .runCode, beh := .normal, depth := 0, pend := 0, v := 3, bump := 0, bg := false, imp := false, pre := [], during := [] },
      lay := { fills := 1 }, post := [.act 0] } ]

/-- **The forbidden variant is not independent of the VM's history** (contrast): with a per-VM
    cache name ↦ slot that survives `RunCode`'s switch to another code object, the look-up of
    `act` after the second `RunCode` answers with the function `over` (what lives in the slot `act`
    had in the FIRST code object); asked on a VM that ran the second code object alone it answers
    `act`, as `get` does in both cases. -/
theorem cachedGet_depends_on_history :
    lrunCachedFrom [] (fresh 0) {} 0 witnessMoved =
      [[.val (.fn (.act 0) (.code 0))], [.val (.fn (.over 0) (.code 1))]] ∧
    lrunCachedFrom [] (fresh 0) {} 1 (witnessMoved.drop 1) = [[.val (.fn (.act 0) (.code 1))]] ∧
    (lrun witnessMoved).map (fun l => l.post.map (·.1)) =
      [[.val (.fn (.act 0) (.code 0))], [.val (.fn (.act 0) (.code 1))]] := by
  decide +kernel

example : lostCancel (witnessMoved.map (·.inv)) = false := by decide +kernel
example : (lrun witnessMoved).map (·.names) =
    [codeTbl {}, codeTbl { fills := 1 }] := by decide +kernel
example : slotOf ((codeTbl {}).map (fun n => (n, GVal.unbound))) (.act 0) = some 8 ∧
    slotOf ((codeTbl { fills := 1 }).map (fun n => (n, GVal.unbound))) (.act 0) = some 9 := by decide +kernel

/-! ## Host DATA globals converted by copy (round 6)

All histories of `RunCode` invocations (any length), any Go data the host constructs the VM with
or hands in later with `WithGlobals`, any in-place updates by the scripts, however each run ends. -/

/-- **One step**: from ANY state of the VM (whatever earlier invocations did to their copies of
    the host's data), a `RunCode` sees - and leaves for the host to read - exactly what the same
    invocation sees on a fresh VM constructed with the host's current Go data; and the host's Go
    data changes only by the host's own `WithGlobals`. -/
theorem C07_data_step (s : DSt) (v : DInv) :
    (dRunCode s v).2 = dSpecAt s.input v ∧ (dRunCode s v).1.input = v.give.getD s.input := by
  cases hv : v.give <;> simp [dRunCode, dSpecAt, dApplyOptions, dNew, hv]

/-- the scripts never reach the host's Go data: after any history `vm.inputGlobals` is what the
    host supplied last (invariant between invocations). -/
theorem C07_data_host_untouched (d0 : DVal) (h : List DInv) :
    (dAfter d0 h).input = dCurrent d0 h := by
  unfold dAfter dCurrent
  have key : ∀ (h : List DInv) (s : DSt),
      (dAfterFrom s h).input = h.foldl (fun d v => v.give.getD d) s.input := by
    intro h
    induction h with
    | nil => intro s; rfl
    | cons v rest ih =>
      intro s
      show (dAfterFrom (dRunCode s v).1 rest).input = _
      rw [ih, (C07_data_step s v).2]
      rfl
  exact key h (dNew d0)

/-- **The property for data globals, all histories**: after ANY history `h` on the VM, the
    invocation `v` sees what it sees on a fresh VM constructed with the host's current data. -/
theorem C07_data_after_any_history (d0 : DVal) (h : List DInv) (v : DInv) :
    (dRunCode (dAfter d0 h) v).2 = dSpecAt (dCurrent d0 h) v := by
  rw [(C07_data_step _ v).1, C07_data_host_untouched]

/-- … hence two VMs with different pasts whose hosts hold the same Go data now agree on every
    next invocation: the outcome depends on the code and the host-supplied globals only. -/
theorem C07_data_independent_of_history (d0 d0' : DVal) (h h' : List DInv) (v : DInv)
    (hcur : dCurrent d0 h = dCurrent d0' h') :
    (dRunCode (dAfter d0 h) v).2 = (dRunCode (dAfter d0' h') v).2 := by
  rw [C07_data_after_any_history, C07_data_after_any_history, hcur]

/-- the same, as lists: what the invocations of a history see one after the other on ONE VM is
    what the Spec demands for each of them. -/
theorem C07_data_full (d0 : DVal) (h : List DInv) : dRun d0 h = dSpecFrom d0 h := by
  unfold dRun
  have key : ∀ (h : List DInv) (s : DSt), dRunFrom s h = dSpecFrom s.input h := by
    intro h
    induction h with
    | nil => intro s; rfl
    | cons v rest ih =>
      intro s
      show (dRunCode s v).2 :: dRunFrom (dRunCode s v).1 rest = dSpecAt s.input v :: dSpecFrom (v.give.getD s.input) rest
      rw [ih, (C07_data_step s v).1, (C07_data_step s v).2]
  exact key h (dNew d0)

/-- a `RunCode` without `WithGlobals` starts from the host's data as constructed, whatever the
    scripts before it did: `data` has the host's elements followed by the own appends only. -/
theorem C07_data_no_options_sees_host_data (d0 : DVal) (h : List DInv) (ops : List DOp)
    (hno : ∀ v ∈ h, v.give = none) :
    (dRunCode (dAfter d0 h) { ops := ops }).2 = dApplyAll d0 ops := by
  rw [C07_data_after_any_history]
  have : dCurrent d0 h = d0 := by
    unfold dCurrent
    induction h with
    | nil => rfl
    | cons v rest ih =>
      have hv := hno v (List.mem_cons_self)
      show rest.foldl _ (v.give.getD d0) = d0
      rw [hv]
      exact ih (fun w hw => hno w (List.mem_cons_of_mem _ hw))
  rw [this]
  rfl

/-- two invocations of one script (`data.append(1)`, `cfg["n"]` decremented) without options -/
def witnessData : List DInv := [{ ops := [.app 1, .dec] }, { ops := [.app 1, .dec] }]

/-- **The forbidden variant is not independent of the VM's history** (contrast): when the
    conversion is repeated only if `WithGlobals` was among the options, the second invocation sees
    the first one's updates (`[7, 1, 1]`, 1 instead of `[7, 1]`, 2); with the option handed in
    again it agrees with the code as it is. -/
theorem dirtyFlag_depends_on_history :
    dRunDirtyFrom (dNew { items := [7], ctr := 3 }) witnessData =
      [{ items := [7, 1], ctr := 2 }, { items := [7, 1, 1], ctr := 1 }] ∧
    dRun { items := [7], ctr := 3 } witnessData =
      [{ items := [7, 1], ctr := 2 }, { items := [7, 1], ctr := 2 }] ∧
    dRunDirtyFrom (dNew { items := [7], ctr := 3 })
        (witnessData.map (fun v => { v with give := some { items := [7], ctr := 3 } })) =
      [{ items := [7, 1], ctr := 2 }, { items := [7, 1], ctr := 2 }] := by
  decide +kernel

example : dRun {} [{ give := some { items := [1] }, ops := [.app 2] }, { ops := [.dec] }] =
    [{ items := [1, 2] }, { items := [1], ctr := -1 }] := by decide +kernel

/-! ## Objects the host keeps across invocations (round 7)

All statements are about `kStep` (Impl: `activateFunction` resolves a function's code in the
current `vm.loadedCode`), for ALL machine states - hence after every history of RunCode (same,
other, grown code objects; ending with a value, an error or a panic; firing kept callbacks from a
host builtin), `vm.Get`-and-keep, calls of kept objects and reads of kept lists. -/

/-- **A kept function sees the current globals.**  Whatever state a history left behind: a call of
    a kept function/closure `f` of code object `c`, while a load `g` of `c` is current, executes
    the function's body on exactly that array `g`, stores the result there and touches nothing
    else - in particular no array of an earlier load (`old`) and not the host's table. -/
theorem kept_function_sees_current_globals (s : KSt) (i : Nat) (c : Nat) (f : KFn) (n : Int) (g : KG)
    (hk : s.kept[i]? = some (.fn c f)) (hc : s.cur = some g) (hg : g.code = c) :
    kStep s (.call i n) = ({ s with cur := some (kApply f n g).1 }, (kApply f n g).2) := by
  simp [kStep, kCallObj, kCallFn, hk, hc, hg]

/-- the same after any history on a new VM -/
theorem kept_function_sees_current_globals_history (h : List KInv) (i c : Nat) (f : KFn) (n : Int) (g : KG)
    (hk : (kAfter h).kept[i]? = some (.fn c f)) (hc : (kAfter h).cur = some g) (hg : g.code = c) :
    (kStep (kAfter h) (.call i n)).2 = (kApply f n g).2 ∧
    (kStep (kAfter h) (.call i n)).1.cur = some (kApply f n g).1 ∧
    (kStep (kAfter h) (.call i n)).1.old = (kAfter h).old := by
  rw [kept_function_sees_current_globals _ i c f n g hk hc hg]
  exact ⟨rfl, rfl, rfl⟩

/-- a kept function whose root code object is not the loaded one fails (`loadChildCode` on a nil
    root: recovered panic) and changes nothing - whatever else the history did -/
theorem kept_function_of_unloaded_code_fails (s : KSt) (i c : Nat) (f : KFn) (n : Int)
    (hk : s.kept[i]? = some (.fn c f)) (hc : ∀ g, s.cur = some g → g.code ≠ c) :
    kStep s (.call i n) = (s, .notLoaded) := by
  simp only [kStep, kCallObj, hk, kCallFn]
  cases hcur : s.cur with
  | none => rfl
  | some g => simp [hc g hcur]

/-- **Calling a kept function object = fetching it again and calling that** (`bump`, `peek`):
    same result, same machine afterwards. -/
theorem kept_call_equals_fresh_fetch_call (s : KSt) (i : Nat) (g : KG) (n : Int)
    (hc : s.cur = some g) :
    (s.kept[i]? = some (.fn g.code .bump) → kStep s (.call i n) = kStep s (.callFresh .bump n)) ∧
    (s.kept[i]? = some (.fn g.code .peek) → kStep s (.call i n) = kStep s (.callFresh .peek n)) := by
  constructor <;> intro hk <;> simp [kStep, kCallObj, kFetch, hk, hc]

/-- … for a kept closure (captured value `k`, possibly of an earlier load): the globals end up
    exactly as after a call of the freshly fetched closure; only the captured value is its own. -/
theorem kept_closure_call_equals_fresh_fetch_call (s : KSt) (i : Nat) (g : KG) (k n : Int)
    (hc : s.cur = some g) (hk : s.kept[i]? = some (.fn g.code (.clo k))) :
    (kStep s (.call i n)).1 = (kStep s (.callFresh .cl n)).1 ∧
    (kStep s (.call i n)).2 = .ok k (g.x + n) ∧ (kStep s (.callFresh .cl n)).2 = .ok g.k (g.x + n) := by
  simp [kStep, kCallObj, kCallFn, kFetch, hk, hc, kApply]

/-- two machines with the same view: the same array of the current load, the same kept functions -/
def KEq (s₁ s₂ : KSt) : Prop := s₁.cur = s₂.cur ∧ s₁.kept.map KObj.callee = s₂.kept.map KObj.callee

theorem kEq_iff_view (s₁ s₂ : KSt) : KEq s₁ s₂ ↔ kView s₁ = kView s₂ := by
  simp [KEq, kView]

theorem kCallFn_eq (s₁ s₂ : KSt) (e : KEq s₁ s₂) (c : Nat) (f : KFn) (n : Int) :
    (kCallFn s₁ c f n).2 = (kCallFn s₂ c f n).2 ∧ KEq (kCallFn s₁ c f n).1 (kCallFn s₂ c f n).1 := by
  obtain ⟨hc, hk⟩ := e
  unfold kCallFn
  rw [hc]
  cases s₂.cur with
  | none => exact ⟨rfl, hc, hk⟩
  | some g =>
    dsimp only
    by_cases hg : g.code = c
    · rw [if_pos hg, if_pos hg]; exact ⟨rfl, rfl, hk⟩
    · rw [if_neg hg, if_neg hg]; exact ⟨rfl, hc, hk⟩

/-- a call looks at the object it is handed through `callee` only -/
theorem kCallObj_callee (s : KSt) (o : Option KObj) (n : Int) :
    kCallObj s o n = match (o.map KObj.callee).join with
      | some (c, f) => kCallFn s c f n
      | none => (s, .badTarget) := by
  rcases o with _ | ⟨_, _⟩ | _ <;> rfl

theorem kCallObj_eq (s₁ s₂ : KSt) (e : KEq s₁ s₂) (o₁ o₂ : Option KObj)
    (ho : o₁.map KObj.callee = o₂.map KObj.callee) (n : Int) :
    (kCallObj s₁ o₁ n).2 = (kCallObj s₂ o₂ n).2 ∧ KEq (kCallObj s₁ o₁ n).1 (kCallObj s₂ o₂ n).1 := by
  rw [kCallObj_callee, kCallObj_callee, ho]
  split
  · exact kCallFn_eq s₁ s₂ e _ _ n
  · exact ⟨rfl, e⟩

theorem kept_get_callee (s₁ s₂ : KSt) (e : KEq s₁ s₂) (i : Nat) :
    (s₁.kept[i]?).map KObj.callee = (s₂.kept[i]?).map KObj.callee := by
  rw [← List.getElem?_map, ← List.getElem?_map, e.2]

theorem kFinish_eq (fl : Bool) (sn : Nat) (r₁ r₂ : KSt × KRes) (h2 : r₁.2 = r₂.2) (h1 : KEq r₁.1 r₂.1) :
    (kFinish fl sn r₁).2 = (kFinish fl sn r₂).2 ∧ KEq (kFinish fl sn r₁).1 (kFinish fl sn r₂).1 := by
  unfold kFinish
  rw [h2]
  split
  · exact ⟨rfl, h1⟩
  split
  · exact ⟨rfl, h1⟩
  · exact ⟨rfl, congrArg (Option.map _) h1.1, h1.2⟩

/-- a RunCode does not even depend on the array of the load it replaces -/
theorem kRunCode_eq (s₁ s₂ : KSt) (hk : s₁.kept.map KObj.callee = s₂.kept.map KObj.callee)
    (c : Nat) (p : Int) (sn : Nat) (fr : Option (Nat × Int)) (fl : Bool) :
    (kRunCode s₁ c p sn fr fl).2 = (kRunCode s₂ c p sn fr fl).2 ∧
      KEq (kRunCode s₁ c p sn fr fl).1 (kRunCode s₂ c p sn fr fl).1 := by
  have e1 : KEq (kLoad s₁ c p) (kLoad s₂ c p) := by
    refine ⟨rfl, ?_⟩
    simp only [kLoad, List.map_append, hk]
  unfold kRunCode
  cases fr with
  | none => exact kFinish_eq fl sn _ _ rfl e1
  | some q =>
    have := kCallObj_eq _ _ e1 _ _ (kept_get_callee _ _ e1 q.1) q.2
    exact kFinish_eq fl sn _ _ this.1 this.2

/-- **One step depends on the view only**: two machines that agree on the array of the current
    load and on which functions the host keeps (and may differ in every array of an earlier load,
    i.e. in everything earlier invocations accumulated) answer every invocation - RunCode with or
    without a fired callback, keep, call of a kept object, fresh call - alike and agree afterwards.
    (Reading a kept LIST is excluded: its contents are the list's own state.) -/
theorem C07_kept_step (s₁ s₂ : KSt) (e : KEq s₁ s₂) (v : KInv) (hv : ∀ i, v ≠ .read i) :
    (kStep s₁ v).2 = (kStep s₂ v).2 ∧ KEq (kStep s₁ v).1 (kStep s₂ v).1 := by
  cases v with
  | read i => exact absurd rfl (hv i)
  | call i n => exact kCallObj_eq s₁ s₂ e _ _ (kept_get_callee s₁ s₂ e i) n
  | runCode c p sn fr fl => exact kRunCode_eq s₁ s₂ e.2 c p sn fr fl
  | keep w =>
    -- what `vm.Get` returns is made from the current array (a list: from the load number, but
    -- a list has no callee)
    dsimp only [kStep, kFetch]
    rw [e.1]
    cases s₂.cur with
    | none => exact ⟨rfl, e⟩
    | some g => exact ⟨rfl, rfl, by simp only [List.map_append, e.2]; cases w <;> rfl⟩
  | callFresh w n =>
    dsimp only [kStep, kFetch]
    cases hc : s₂.cur with
    | none => rw [e.1, hc]; exact ⟨rfl, e⟩
    | some g => rw [e.1, hc]; exact kCallObj_eq s₁ s₂ e _ _ (by cases w <;> rfl) n

/-- **Independence of the past, with kept objects.**  Take ANY two histories `h₁`, `h₂` (different
    lengths; RunCode of any code objects with any parameters and endings; any calls of kept
    functions, which accumulate values in the arrays of their loads) after which the array of the
    current load reads the same and the host keeps the same functions, and continue both with the
    same invocations `t` (RunCode - same, other, grown code object, firing kept callbacks -,
    `vm.Get`-and-keep, calls of kept functions and closures made in ANY earlier load, fresh calls):
    every one of them gives the same result after both. -/
theorem C07_kept_independent_of_history (h₁ h₂ : List KInv) (t : List KInv)
    (hv : kView (kAfter h₁) = kView (kAfter h₂)) (ht : ∀ v ∈ t, ∀ i, v ≠ .read i) :
    kRunFrom (kAfter h₁) t = kRunFrom (kAfter h₂) t := by
  have e := (kEq_iff_view _ _).2 hv
  generalize kAfter h₁ = s₁ at e
  generalize kAfter h₂ = s₂ at e
  clear hv
  induction t generalizing s₁ s₂ with
  | nil => rfl
  | cons v rest ih =>
    have hs := C07_kept_step s₁ s₂ e v (ht v List.mem_cons_self)
    simp only [kRunFrom]
    rw [hs.1, ih (fun w hw => ht w (List.mem_cons_of_mem _ hw)) _ _ hs.2]

/-- the hypothesis is satisfiable by different histories: one with, one without a call that
    accumulated a value in the first load -/
example : kView (kAfter [.runCode 0 5 0 none false, .call 0 7, .runCode 0 5 0 none false]) =
    kView (kAfter [.runCode 0 5 0 none false, .runCode 0 5 0 none false]) := by decide +kernel

/-- **The Impl result is the Spec** for every invocation in every state: a call of a kept
    function answers as the freshly fetched one (own captured value for a closure), or fails
    because its code is not loaded; a RunCode answers as on a VM that has forgotten every
    earlier load. -/
theorem C07_kept_full (s : KSt) (v : KInv) : (kStep s v).2 = kSpecRes s v := by
  cases v with
  | read i => rfl
  | keep w => exact (C07_kept_step s { s with old := [] } ⟨rfl, rfl⟩ (.keep w) (by intro i h; cases h)).1
  | callFresh w n =>
    exact (C07_kept_step s { s with old := [] } ⟨rfl, rfl⟩ (.callFresh w n) (by intro i h; cases h)).1
  | runCode c p sn fr fl => exact (kRunCode_eq s { s with old := [], cur := none } rfl c p sn fr fl).1
  | call i n =>
    simp only [kSpecRes, kStep]
    cases hk : s.kept[i]? with
    | none => rfl
    | some o =>
      cases o with
      | list g => cases s.cur <;> rfl
      | fn c f =>
        cases hc : s.cur with
        | none => simp [kCallObj, kCallFn, hc]
        | some g =>
          by_cases hg : g.code = c
          · cases f <;> simp [kCallObj, kCallFn, kFetch, hc, hg, kApply]
          · simp [kCallObj, kCallFn, hc, hg]

/-- **The arrays of earlier loads are frozen**: no invocation changes one (the list only grows at
    its end, when a RunCode retires the current array) … -/
theorem kept_dead_arrays_frozen (s : KSt) (v : KInv) : ∃ t, (kStep s v).1.old = s.old ++ t := by
  have ho : ∀ (s : KSt) o n, (kCallObj s o n).1.old = s.old := by
    intro s o n
    rw [kCallObj_callee]
    split
    · unfold kCallFn
      split
      · split <;> rfl
      · rfl
    · rfl
  cases v with
  | runCode c p sn fr fl =>
    -- the only invocation that retires an array
    refine ⟨s.cur.toList, ?_⟩
    have hfin : ∀ r : KSt × KRes, (kFinish fl sn r).1.old = r.1.old := by
      intro r
      unfold kFinish
      split
      · rfl
      · split <;> rfl
    show (kRunCode s c p sn fr fl).1.old = _
    unfold kRunCode
    rw [hfin]
    cases fr with
    | none => rfl
    | some q => exact ho _ _ _
  | call i n => exact ⟨[], by rw [List.append_nil]; exact ho _ _ _⟩
  | read i => exact ⟨[], by rw [List.append_nil]; dsimp only [kStep]; split <;> rfl⟩
  | keep w => exact ⟨[], by rw [List.append_nil]; dsimp only [kStep]; split <;> rfl⟩
  | callFresh w n =>
    refine ⟨[], ?_⟩
    rw [List.append_nil]
    dsimp only [kStep]
    split
    · exact ho _ _ _
    · rfl

/-- … so a list the host kept from an earlier load reads the same after every later invocation,
    whatever kept functions are called (they append to the CURRENT load's list). -/
theorem kept_list_of_dead_load_is_frozen (s : KSt) (v : KInv) (gen : Nat) (h : gen < s.old.length) :
    kReadList (kStep s v).1 gen = kReadList s gen := by
  obtain ⟨t, ht⟩ := kept_dead_arrays_frozen s v
  unfold kReadList
  rw [ht]
  have h1 : gen ≠ s.old.length := by omega
  have h2 : gen ≠ (s.old ++ t).length := by simp; omega
  simp only [h1, h2, if_false]
  rw [List.getElem?_append_left h]

/-- RunCode(A, p=100); Call(the registered callback, 5); RunCode(A, p=100); Call(the callback
    kept from the FIRST run, 5); Call(the freshly fetched `bump`, 0) -/
def witnessKept : List KInv :=
  [.runCode 0 100 0 none false, .call 0 5, .runCode 0 100 0 none false, .call 0 5, .callFresh .peek 0]

/-- **The forbidden variant is not independent of the history** (contrast): when a function
    object remembers the loaded code of its first call, the kept callback called after the second
    RunCode works on the FIRST load's array (121 = 111 + 5 + 5, and the VM's current global stays
    111); as the code is it returns 116 and the current global is 116.  Without the first call
    (nothing remembered before the reset) the variant agrees with the code as it is. -/
theorem cachedCode_depends_on_history :
    kcRunFrom {} witnessKept = [.ranOk, .ok 0 116, .ranOk, .ok 0 121, .ok 0 111] ∧
    kRunFrom {} witnessKept = [.ranOk, .ok 0 116, .ranOk, .ok 0 116, .ok 0 116] ∧
    kcRunFrom {} (witnessKept.eraseIdx 1) = kRunFrom {} (witnessKept.eraseIdx 1) := by
  decide +kernel

example : kRunFrom {} [.runCode 0 1 0 none false, .keep .cl, .keep .items, .runCode 1 2 0 (some (0, 3)) false,
    .call 1 4, .read 2] = [.ranOk, .kept, .kept, .ranPanic, .notLoaded, .listIs [1]] := by decide +kernel


end Risor.C07
