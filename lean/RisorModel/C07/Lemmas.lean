import RisorModel.C07.Model
/-!
C07 — helper lemmas: what a cancellation can and cannot change, what one invocation does to
the state any history can leave behind, and the look-ups by name.
-/
namespace Risor.C07

/-- what a cancellation reads and writes: `halt`, the cancelled contexts, the armed watchers -/
structure Watch where
  halt : Bool
  cancelled : List Nat
  armed : List Nat

def watch (s : St) : Watch := ⟨s.halt, s.cancelled, s.armed⟩

def setWatch (s : St) (w : Watch) : St :=
  { s with halt := w.halt, cancelled := w.cancelled, armed := w.armed }

/-- `cancel` on the part of the state it looks at -/
def Watch.cancel (w : Watch) (i : Nat) : Watch := watch (C07.cancel (setWatch {} w) i)

theorem cancel_eq (s : St) (i : Nat) : cancel s i = setWatch s ((watch s).cancel i) := by
  by_cases hc : i ∈ s.cancelled <;> by_cases ha : i ∈ s.armed <;>
    simp [Watch.cancel, C07.cancel, watch, setWatch, hc, ha]

theorem cancelAll_eq (s : St) (is : List Nat) :
    cancelAll s is = setWatch s (is.foldl Watch.cancel (watch s)) := by
  induction is generalizing s with
  | nil => rfl
  | cons i t ih => exact (ih (cancel s i)).trans (by rw [cancel_eq]; rfl)

theorem fires_iff (s : St) (i : Nat) : fires s i = true ↔ i ∈ s.armed ∧ i ∉ s.cancelled := by
  unfold fires; simp

theorem cancel_halt (s : St) (i : Nat) : (cancel s i).halt = (s.halt || fires s i) := by
  by_cases hc : i ∈ s.cancelled <;> by_cases ha : i ∈ s.armed <;> simp [cancel, fires, hc, ha]

theorem cancel_halt_mono (s : St) (i : Nat) (h : s.halt = true) : (cancel s i).halt = true := by
  rw [cancel_halt, h]; rfl

theorem mem_cancel_cancelled (s : St) (i x : Nat) :
    x ∈ (cancel s i).cancelled ↔ x ∈ s.cancelled ∨ x = i := by
  unfold cancel
  split
  · rename_i h
    have : i ∈ s.cancelled := by simpa using h
    exact ⟨Or.inl, fun h => h.elim id (· ▸ this)⟩
  · dsimp only; split <;> simp [or_comm]

/-- after cancelling `i`, cancelling `j` fires iff it would have fired before and `j` is another context -/
theorem fires_cancel (s : St) (i j : Nat) : fires (cancel s i) j = (fires s j && j != i) := by
  by_cases hc : i ∈ s.cancelled <;> by_cases ha : i ∈ s.armed <;> by_cases hj : j = i <;>
    simp [cancel, fires, hc, ha, hj]

theorem cancel_armed_keep (s : St) (i k : Nat) (hne : k ≠ i) (hk : k ∈ s.armed) :
    k ∈ (cancel s i).armed := by
  unfold cancel
  split
  · exact hk
  · dsimp only; split
    · simp [List.mem_filter, hk, hne]
    · exact hk

theorem cancelAll_armed_keep (s : St) (is : List Nat) (k : Nat) (hk : k ∈ s.armed)
    (hn : k ∉ is) : k ∈ (cancelAll s is).armed := by
  induction is generalizing s with
  | nil => exact hk
  | cons i t ih =>
    rw [List.mem_cons, not_or] at hn
    exact ih (cancel s i) (cancel_armed_keep s i k hn.1 hk) hn.2

theorem mem_cancelAll_cancelled (s : St) (is : List Nat) (x : Nat) :
    x ∈ (cancelAll s is).cancelled ↔ x ∈ s.cancelled ∨ x ∈ is := by
  induction is generalizing s with
  | nil => simp [cancelAll]
  | cons i t ih =>
    show x ∈ (cancelAll (cancel s i) t).cancelled ↔ _
    rw [ih, mem_cancel_cancelled, List.mem_cons, or_assoc]

/-- `halt` after a list of cancellations: it was set before, or one of them fired a
    watcher that was armed and whose context was not yet cancelled -/
theorem cancelAll_halt (s : St) (is : List Nat) :
    (cancelAll s is).halt = (s.halt || is.any (fires s)) := by
  induction is generalizing s with
  | nil => simp [cancelAll]
  | cons i t ih =>
    show (cancelAll (cancel s i) t).halt = _
    rw [ih, cancel_halt, List.any_cons, Bool.or_assoc]
    congr 1
    cases hf : fires s i
    · -- the head does not fire, now or at a later occurrence; the other contexts are not affected
      rw [Bool.false_or]
      apply List.any_congr rfl
      intro j
      rw [fires_cancel]
      by_cases hj : j = i
      · rw [hj, hf]; rfl
      · simp [hj]
    · rfl

theorem mem_others (c : Nat) (is : List Nat) (x : Nat) : x ∈ others c is ↔ x ∈ is ∧ x ≠ c := by
  simp [others]

/-- the invariant that holds between invocations, for histories of any length: the VM is
    not running, the frame pointer is back at the base frame, and a VM that has never been
    started has no wrapped code.  `halt`, `sp`, the armed watchers, the module cache, which
    contexts are cancelled and what the code objects contain are deliberately NOT constrained:
    they are whatever the earlier invocations and the host left.  (The index `k` is kept for
    the statements' sake; nothing depends on it.) -/
structure Good (s : St) (k : Nat) : Prop where
  quiet : s.running = false
  fp0 : s.fp = 0
  cold : s.startCount = 0 → s.loaded = []

theorem good_fresh (acc k : Nat) : Good (fresh acc) k :=
  ⟨rfl, rfl, fun _ => rfl⟩

/-- the events before an invocation grow code objects and move the watch; nothing else -/
theorem events_eq (s : St) (inv : Inv) :
    events s inv =
      setWatch { s with grown := inv.grows ++ s.grown } (inv.pre.foldl Watch.cancel (watch s)) :=
  cancelAll_eq _ _

theorem events_grown (s : St) (inv : Inv) : (events s inv).grown = inv.grows ++ s.grown := by
  rw [events_eq]; rfl

theorem prep_facts (s : St) (k : Nat) (inv : Inv) (g : Good s k) :
    (prep s k inv).running = false ∧ (prep s k inv).acc = s.acc ∧ (prep s k inv).fp = 0 ∧
    (prep s k inv).cancelled = (preState s k inv).cancelled ∧
    (prep s k inv).grown = inv.grows ++ s.grown ∧
    ((prep s k inv).startCount = 0 → (prep s k inv).loaded = []) ∧
    (0 < s.startCount → 0 < (prep s k inv).startCount) := by
  have hc := g.cold
  unfold prep preState
  rw [events_eq]
  dsimp only
  split
  · unfold setup
    split
    · exact ⟨g.quiet, rfl, g.fp0, rfl, rfl, hc, id⟩
    · exact ⟨g.quiet, rfl, rfl, rfl, rfl, fun h => absurd h (Nat.succ_ne_zero _), fun _ => Nat.succ_pos _⟩
  · exact ⟨g.quiet, rfl, g.fp0, rfl, rfl, hc, id⟩


theorem enter_facts (s : St) (k : Nat) (inv : Inv) :
    (enter s k inv).halt = false ∧ (enter s k inv).running = true ∧
    (enter s k inv).hasCode = true ∧
    (enter s k inv).acc = s.acc ∧ (enter s k inv).cancelled = s.cancelled ∧
    (enter s k inv).armed =
      (if inv.bg || (!inv.bg && s.cancelled.contains (ctxOf k inv)) then s.armed
       else ctxOf k inv :: s.armed) ∧
    (s.fp = 0 → (enter s k inv).fp = 0) ∧ (enter s k inv).grown = s.grown ∧
    (enter s k inv).startCount = s.startCount + 1 ∧
    (enter s k inv).gone = (!inv.bg && s.cancelled.contains (ctxOf k inv)) := by
  unfold enter
  simp only
  split <;> split <;> simp [start, reset]

/-- **`RunCode` wraps the code object as it is NOW**: on a VM whose wrapper cache is empty
    whenever it has never been started, the snapshot that is executed has the code object's
    current generation (after a reset the cache is empty; before the first start it is empty
    by assumption) -/
theorem enter_cur (s : St) (k : Nat) (inv : Inv) (hc : s.startCount = 0 → s.loaded = []) :
    (enter s k inv).cur = if inv.kind = .runCode then genOf s (codeOf k inv) else 0 := by
  unfold enter
  simp only
  by_cases hk : inv.kind = .runCode
  · simp only [hk, true_and, ↓reduceIte]
    by_cases h1 : 0 < s.startCount
    · simp [h1, reset, genOf, start]
    · have h0 : s.startCount = 0 := by omega
      simp [h0, start, hc h0, genOf]
  · simp [hk]

/-- the watcher armed for a dead context exits at once: the invocation goes on as one without a
    Done channel -/
theorem eff_eq (s : St) (k : Nat) (inv : Inv) :
    eff s k inv = { inv with bg := inv.bg || dead s k inv } := by
  unfold eff
  cases dead s k inv <;> simp

/-- the state in which the body of invocation `k` starts, under the invariant -/
structure BodyFacts (s : St) (k : Nat) (inv : Inv) : Prop where
  halt : (bodyState s k inv).halt = false
  running : (bodyState s k inv).running = true
  hasCode : (bodyState s k inv).hasCode = true
  fp : (bodyState s k inv).fp = 0
  acc : (bodyState s k inv).acc = s.acc
  startCount : (bodyState s k inv).startCount = (prep s k inv).startCount + 1
  grown : (bodyState s k inv).grown = inv.grows ++ s.grown
  gone : (bodyState s k inv).gone = dead s k inv
  cur : (bodyState s k inv).cur = curGen s k inv
  cancelled : (bodyState s k inv).cancelled = (preState s k inv).cancelled
  /-- a watcher is armed for the invocation's context, which is live, unless it has none -/
  armed : (eff s k inv).bg = false →
    ctxOf k inv ∈ (bodyState s k inv).armed ∧ ctxOf k inv ∉ (bodyState s k inv).cancelled

theorem bodyState_facts (s : St) (k : Nat) (inv : Inv) (g : Good s k) : BodyFacts s k inv := by
  obtain ⟨_, p2, p3, p4, p5, p6, _⟩ := prep_facts s k inv g
  obtain ⟨e1, e2, e3, e4, e5, e6, e7, e8, e9, e10⟩ := enter_facts (prep s k inv) k inv
  have hd : (bodyState s k inv).gone = dead s k inv := by rw [dead, ← p4]; exact e10
  refine ⟨e1, e2, e3, e7 p3, e4.trans p2, e9, e8.trans p5, hd, ?_, e5.trans p4, fun hb => ?_⟩
  · rw [bodyState, enter_cur _ _ _ p6, curGen, genOf, genOf, p5, preState, events_grown]
  · rw [eff_eq] at hb
    have hb : inv.bg = false ∧ dead s k inv = false := by simpa using hb
    have hc : ctxOf k inv ∉ (prep s k inv).cancelled := by
      have := hb.2; rw [dead, hb.1, ← p4] at this; simpa using this
    refine ⟨?_, fun h => hc (e5 ▸ h)⟩
    rw [bodyState, e6, hb.1]
    simp [hc]


/-- the leaf moves the watch, pushes `depth + 1` frames and appends to the host global; nothing else -/
theorem leaf_eq (b : St) (c : Nat) (e : Inv) :
    ∃ w, leaf b c e = setWatch { b with fp := b.fp + e.depth + 1, acc := b.acc + e.bump } w := by
  unfold leaf
  dsimp only
  split
  · exact ⟨_, by rw [cancel_eq, cancelAll_eq]; rfl⟩
  · exact ⟨_, cancelAll_eq _ _⟩

theorem ownCancel_iff (e : Inv) : ownCancel e = true ↔ e.beh = .selfCancel ∧ e.bg = false := by
  simp [ownCancel]

/-- the watch at the leaf of an invocation with context `c`, started with `halt` clear and a
    watcher armed for its live context unless it has none: is `halt` set, and is the
    invocation's own context cancelled -/
theorem leaf_watch (b : St) (c : Nat) (e : Inv) (hh : b.halt = false)
    (hw : e.bg = false → c ∈ b.armed ∧ c ∉ b.cancelled) :
    (leaf b c e).halt = (ownCancel e || (others c e.during).any (fires b)) ∧
    (c ∈ (leaf b c e).cancelled ↔ ownCancel e = true ∨ c ∈ b.cancelled) := by
  let s1 : St := { b with fp := b.fp + e.depth + 1, acc := b.acc + e.bump }
  have hc : c ∈ (cancelAll s1 (others c e.during)).cancelled ↔ c ∈ b.cancelled := by
    simp [mem_cancelAll_cancelled, mem_others, s1]
  have hhalt : (cancelAll s1 (others c e.during)).halt = (others c e.during).any (fires b) := by
    rw [cancelAll_halt]
    show (b.halt || _) = _
    rw [hh]; rfl
  show (if _ then cancel (cancelAll s1 _) c else cancelAll s1 _).halt = _ ∧
    (c ∈ (if _ then cancel (cancelAll s1 _) c else cancelAll s1 _).cancelled ↔ _)
  by_cases hown : e.beh = .selfCancel ∧ e.bg = false
  · -- the invocation cancels its own context: its own watcher is still armed and fires
    have hf := (fires_iff (cancelAll s1 (others c e.during)) c).2
      ⟨cancelAll_armed_keep s1 _ c (hw hown.2).1 (by simp [mem_others]), fun h => (hw hown.2).2 (hc.1 h)⟩
    rw [if_pos hown, (ownCancel_iff e).2 hown, cancel_halt, mem_cancel_cancelled, hf]
    simp
  · have hoc : ownCancel e = false := by
      rw [← Bool.not_eq_true]; exact mt (ownCancel_iff e).1 hown
    rw [if_neg hown, hoc, hhalt, hc]
    simp

/-- no script ending yields `context.Canceled` by itself -/
theorem beh_ne_canceled (b : Beh) (v a g : Nat) : behOutcome b v a g ≠ .errCanceled := by
  unfold behOutcome; cases b <;> simp

/-- what ends a run inside the module's top-level code yields the outcome the Spec demands -/
theorem modEnd_outcome (s : St) (c : Nat) (inv : Inv) (h : modEnds s inv = true) :
    (modEnd s c inv).2 = specOutcome inv s.acc s.cur false := by
  unfold modEnd specOutcome
  simp only
  cases hoc : ownCancel inv with
  | true => simp
  | false =>
    simp only [Bool.false_eq_true, ↓reduceIte, Bool.or_self]
    unfold modEnds at h
    rw [hoc] at h
    unfold behOutcome
    cases hb : inv.beh <;> simp_all

/-- the outcome of the body, started with `halt` clear and a watcher armed for its live context
    `c` unless it has none: the Spec's, unless an import fails or a watcher of another context
    fires at the leaf -/
theorem core_outcome (b : St) (c : Nat) (e : Inv) (hh : b.halt = false)
    (hw : e.bg = false → c ∈ b.armed ∧ c ∉ b.cancelled) :
    (core b c e).2 =
      if e.imp ∧ b.mods = false then .errImport
      else if b.gone ∧ modRuns b e = true ∧ b.icache = false then .errCanceled
      else if !modEnds b e && (others c e.during).any (fires b) && !ownCancel e then
        (if b.gone then .errCanceled else .okHook)
      else specOutcome e b.acc b.cur false := by
  unfold core
  split
  · rfl
  split
  · rfl
  cases hme : modEnds b e
  · obtain ⟨w, hl⟩ := leaf_eq b c e
    obtain ⟨h1, h2⟩ := leaf_watch b c e hh hw
    have h2' : (leaf b c e).cancelled.contains c = (ownCancel e || b.cancelled.contains c) := by
      rw [Bool.eq_iff_iff]; simpa using h2
    simp only [Bool.false_eq_true, ↓reduceIte, leafOutcome, h1, h2']
    rw [hl]
    simp only [setWatch, specOutcome, Bool.false_or, Bool.not_false, Bool.true_and]
    cases hown : ownCancel e
    · cases (others c e.during).any (fires b)
      · simp
      · cases hbg : e.bg
        · have := (hw hbg).2; simp [this]
        · simp
    · have := ((ownCancel_iff e).1 hown).2
      simp [this]
  · simp only [↓reduceIte, Bool.not_true, Bool.false_and, Bool.false_eq_true]
    exact modEnd_outcome b c e hme

/-- what the body of an invocation leaves of the state it starts in -/
theorem core_frame (b : St) (c : Nat) (e : Inv) :
    (core b c e).1.fp = b.fp ∧ (core b c e).1.startCount = b.startCount ∧
    (core b c e).1.hasCode = b.hasCode ∧ (core b c e).1.grown = b.grown := by
  unfold core
  split
  · exact ⟨rfl, rfl, rfl, rfl⟩
  split
  · exact ⟨rfl, rfl, rfl, rfl⟩
  split
  · unfold modEnd
    dsimp only
    split
    · rw [cancel_eq]; exact ⟨rfl, rfl, rfl, rfl⟩
    · exact ⟨rfl, rfl, rfl, rfl⟩
  · obtain ⟨w, hl⟩ := leaf_eq b c e
    dsimp only
    rw [hl]
    exact ⟨by show b.fp + e.depth + 1 - (e.depth + 1) = b.fp; omega, rfl, rfl, rfl⟩


/-- `invoke` under the invariant: never refused; stopped at once by a dead context, or the body runs -/
theorem invoke_eq (s : St) (k : Nat) (inv : Inv) (g : Good s k) :
    invoke s k inv =
      if cut s k inv then
        (cutState (bodyState s k inv) inv, .errCanceled)
      else ({ (core (bodyState s k inv) (ctxOf k inv) (eff s k inv)).1 with running := false },
            (core (bodyState s k inv) (ctxOf k inv) (eff s k inv)).2) := by
  have hp := (prep_facts s k inv g).1
  unfold invoke
  simp [hp]

theorem invoke_body (s : St) (k : Nat) (inv : Inv) (g : Good s k) (hc : cut s k inv = false) :
    invoke s k inv =
      ({ (core (bodyState s k inv) (ctxOf k inv) (eff s k inv)).1 with running := false },
       (core (bodyState s k inv) (ctxOf k inv) (eff s k inv)).2) := by
  rw [invoke_eq s k inv g, hc]; rfl

/-- what every invocation, however (and wherever) it ends, leaves of the state it starts in -/
theorem invoke_frame (s : St) (k : Nat) (inv : Inv) (g : Good s k) :
    (invoke s k inv).1.running = false ∧ (invoke s k inv).1.fp = 0 ∧
    (invoke s k inv).1.startCount = (prep s k inv).startCount + 1 ∧
    (invoke s k inv).1.grown = inv.grows ++ s.grown ∧
    (invoke s k inv).1.hasCode = (!cut s k inv || inv.kind == .call) := by
  have b := bodyState_facts s k inv g
  rw [invoke_eq s k inv g]
  cases cut s k inv
  · obtain ⟨c1, c2, c3, c4⟩ := core_frame (bodyState s k inv) (ctxOf k inv) (eff s k inv)
    exact ⟨rfl, c1.trans b.fp, c2.trans b.startCount, c4.trans b.grown, c3.trans b.hasCode⟩
  · exact ⟨rfl, b.fp, b.startCount, b.grown, by simp [cutState]⟩

/-- the invariant is re-established by every invocation -/
theorem step_good (s : St) (k : Nat) (inv : Inv) (g : Good s k) :
    Good (invoke s k inv).1 (k + 1) := by
  obtain ⟨h1, h2, h3, _⟩ := invoke_frame s k inv g
  exact ⟨h1, h2, fun h => by omega⟩

/-- while the host callback runs the VM is marked running: a re-entrant Run/RunCode/Call
    from the callback is refused -/
theorem leaf_running (s : St) (k : Nat) (inv : Inv) (g : Good s k) :
    (leaf (bodyState s k inv) (ctxOf k inv) (eff s k inv)).running = true := by
  obtain ⟨w, hl⟩ := leaf_eq (bodyState s k inv) (ctxOf k inv) (eff s k inv)
  rw [hl]
  exact (bodyState_facts s k inv g).running

/-- what an invocation that is `harms`-ed returns -/
def harmOutcome (s : St) (k : Nat) (inv : Inv) : Outcome :=
  if importFails s k inv then .errImport
  else if lostFires s k inv then behOutcome inv.beh inv.v (s.acc + inv.bump) (curGen s k inv)
  else .okHook

/-- **One invocation, any state an arbitrary history can leave behind.**  Its outcome is
    the Spec's (own code AS IT IS NOW, arguments, current globals, own context) unless the
    invocation is `harms`-ed: the import of a global module fails, a stale watcher fires, or the
    reset wipes the cancellation of its already cancelled context.  In particular the outcome does
    not depend on whether the file module is cached, on where (module top-level code or leaf) the
    run ends, on which other invocations used the same context object, or on whether the code
    object was run before it grew. -/
theorem step_outcome (s : St) (k : Nat) (inv : Inv) (g : Good s k) :
    (invoke s k inv).2 = if harms s k inv then harmOutcome s k inv else specAt s k inv := by
  have b := bodyState_facts s k inv g
  have hco := core_outcome _ _ _ b.halt b.armed
  rw [b.gone, b.acc, b.cur] at hco
  rw [invoke_eq s k inv g]
  unfold harms harmOutcome specAt staleFires lostImport importFails lostFires cut
  cases hd : dead s k inv
  · -- a live context: the invocation runs as it is
    have he : eff s k inv = inv := by simp [eff, hd]
    rw [hd, he] at hco
    rw [he]
    simp only [Bool.false_and, Bool.false_eq_true, ↓reduceIte]
    rw [hco]
    cases inv.imp <;> cases (bodyState s k inv).mods <;> simp
  · -- an already cancelled context stops the run at once, unless the reset loses the
    -- cancellation: then the run goes on as one without a Done channel
    have he : eff s k inv = { inv with bg := true } := by simp [eff, hd]
    cases hl : loses s k inv
    · simp [specOutcome]
    · obtain ⟨e1, e2, e3, e4, e5⟩ : (eff s k inv).imp = inv.imp ∧ (eff s k inv).during = inv.during ∧
          ownCancel (eff s k inv) = false ∧
          modRuns (bodyState s k inv) (eff s k inv) = modRuns (bodyState s k inv) inv ∧
          specOutcome (eff s k inv) s.acc (curGen s k inv) false =
            behOutcome inv.beh inv.v (s.acc + inv.bump) (curGen s k inv) := by
        rw [he]; exact ⟨rfl, rfl, by simp [ownCancel], rfl, by simp [specOutcome, ownCancel]⟩
      rw [hd, e1, e2, e3, e4, e5] at hco
      simp only [Bool.not_true, Bool.and_false, Bool.false_eq_true, ↓reduceIte, Bool.not_false,
        Bool.true_and, Bool.and_true]
      rw [hco]
      have hsp : specOutcome inv s.acc (curGen s k inv) true = .errCanceled := rfl
      rw [hsp]
      -- what is left is an identity between two `if` cascades over six Booleans
      generalize modEnds (bodyState s k inv) (eff s k inv) = me
      generalize (others (ctxOf k inv) inv.during).any (fires (bodyState s k inv)) = stale
      cases inv.imp <;> cases (bodyState s k inv).mods <;>
        cases modRuns (bodyState s k inv) inv <;> cases (bodyState s k inv).icache <;>
        cases me <;> cases stale <;> rfl

/-- the Spec never yields the two outcomes that only a harmed invocation produces -/
theorem spec_ne (inv : Inv) (a g : Nat) (d : Bool) :
    specOutcome inv a g d ≠ .errImport ∧ specOutcome inv a g d ≠ .okHook := by
  unfold specOutcome
  split
  · exact ⟨by simp, by simp⟩
  · unfold behOutcome
    cases inv.beh <;> exact ⟨by simp, by simp⟩

/-- a harmed invocation returns "success" carrying the host callback's value, or the import
    error, or - where the Spec demands `context.Canceled` and the reset wiped the watcher's
    store - whatever the script does when it is left to run -/
theorem harmOutcome_shape (s : St) (k : Nat) (inv : Inv) :
    harmOutcome s k inv = .okHook ∨ harmOutcome s k inv = .errImport ∨
      (specAt s k inv = .errCanceled ∧ harmOutcome s k inv ≠ .errCanceled) := by
  unfold harmOutcome
  split
  · exact .inr (.inl rfl)
  split
  · rename_i hl
    have hd : dead s k inv = true := by
      simp only [lostFires, Bool.and_eq_true] at hl; exact hl.1
    exact .inr (.inr ⟨by simp [specAt, specOutcome, hd], beh_ne_canceled _ _ _ _⟩)
  · exact .inl rfl

/-- ... none of which is what the Spec demands -/
theorem harmOutcome_ne_spec (s : St) (k : Nat) (inv : Inv) : harmOutcome s k inv ≠ specAt s k inv := by
  obtain ⟨n1, n2⟩ := spec_ne inv s.acc (curGen s k inv) (dead s k inv)
  rcases harmOutcome_shape s k inv with h | h | ⟨h1, h2⟩
  · rw [h]; exact n2.symm
  · rw [h]; exact n1.symm
  · rw [h1]; exact h2

/-! ### Nothing but `RunCode`'s look-up reads the wrapper cache, and nothing but the look-up
reads which code OBJECT an invocation is handed -/

def forget (s : St) : St := { s with loaded := [] }

def freshCode (inv : Inv) : Inv := { inv with same := none }

theorem forget_loaded (s : St) (l : List (Nat × Nat)) : forget { s with loaded := l } = forget s := rfl

theorem eq_of_forget {a b : St} (h : forget a = forget b) : b = { a with loaded := b.loaded } := by
  cases a; cases b
  simp only [forget, St.mk.injEq] at h ⊢
  simp [h]

theorem cancel_loaded (s : St) (i : Nat) (l : List (Nat × Nat)) :
    cancel { s with loaded := l } i = { cancel s i with loaded := l } := by
  rw [cancel_eq, cancel_eq]; rfl

theorem cancelAll_loaded (s : St) (is : List Nat) (l : List (Nat × Nat)) :
    cancelAll { s with loaded := l } is = { cancelAll s is with loaded := l } := by
  rw [cancelAll_eq, cancelAll_eq]; rfl

theorem events_loaded (s : St) (inv : Inv) (l : List (Nat × Nat)) :
    events { s with loaded := l } inv = { events s inv with loaded := l } :=
  cancelAll_loaded { s with grown := inv.grows ++ s.grown } inv.pre l

theorem prep_loaded (s : St) (k : Nat) (inv : Inv) (l : List (Nat × Nat)) :
    prep { s with loaded := l } k inv = { prep s k inv with loaded := l } := by
  unfold prep preState
  simp only
  rw [events_loaded]
  split
  · unfold setup
    simp only
    split <;> rfl
  · rfl

theorem leaf_loaded (s : St) (c : Nat) (inv : Inv) (l : List (Nat × Nat)) :
    leaf { s with loaded := l } c inv = { leaf s c inv with loaded := l } := by
  unfold leaf
  simp only
  have h := cancelAll_loaded { s with fp := s.fp + inv.depth + 1, acc := s.acc + inv.bump }
    (others c inv.during) l
  split
  · exact (congrArg (fun x => cancel x c) h).trans (cancel_loaded _ _ _)
  · exact h

theorem modEnd_loaded (s : St) (c : Nat) (inv : Inv) (l : List (Nat × Nat)) :
    modEnd { s with loaded := l } c inv =
      ({ (modEnd s c inv).1 with loaded := l }, (modEnd s c inv).2) := by
  unfold modEnd
  dsimp only
  cases ownCancel inv
  · rfl
  · simp only [↓reduceIte]
    rw [cancel_loaded]

theorem core_loaded (s : St) (c : Nat) (inv : Inv) (l : List (Nat × Nat)) :
    core { s with loaded := l } c inv = ({ (core s c inv).1 with loaded := l }, (core s c inv).2) := by
  have hm : modEnds { s with loaded := l } inv = modEnds s inv := rfl
  have hr : modRuns { s with loaded := l } inv = modRuns s inv := rfl
  unfold core
  dsimp only
  rw [hm, hr, leaf_loaded, modEnd_loaded]
  split
  · rfl
  split
  · rfl
  split <;> rfl

/-- the state in which the body starts, up to the wrapper cache, is the same whatever the
    cache held and whichever code object (with the same current contents) is handed in -/
theorem enter_forget (p : St) (k : Nat) (inv : Inv) (l : List (Nat × Nat))
    (hc : p.startCount = 0 → p.loaded = []) (hc' : p.startCount = 0 → l = [])
    (hg : inv.kind = .runCode → genOf p (codeOf k (freshCode inv)) = genOf p (codeOf k inv)) :
    forget (enter { p with loaded := l } k (freshCode inv)) = forget (enter p k inv) := by
  unfold enter
  simp only
  by_cases hk : inv.kind = .runCode
  · have hk' : (freshCode inv).kind = .runCode := hk
    have hgk := hg hk
    simp only [hk, hk', true_and, ↓reduceIte]
    by_cases h1 : 0 < p.startCount
    · simp [h1, reset, start, forget, genOf, ctxOf, freshCode] at hgk ⊢
      simp [codeOf] at hgk
      exact hgk
    · have h0 : p.startCount = 0 := by omega
      simp [h0, start, forget, genOf, hc h0, hc' h0, ctxOf, freshCode] at hgk ⊢
      simp [codeOf] at hgk
      exact hgk
  · have hk' : ¬ (freshCode inv).kind = .runCode := hk
    simp only [hk, hk', false_and, ↓reduceIte]
    rfl

/-- **One invocation never reads the wrapper cache nor the code object's identity** (only
    the code object's current contents): from states that differ in the cache only, handing in
    a newly compiled code object instead of a re-supplied one with the same current contents
    gives the same outcome and the same state up to the cache. -/
theorem invoke_freshCode (s : St) (l : List (Nat × Nat)) (k : Nat) (inv : Inv) (g : Good s k)
    (g' : Good { s with loaded := l } k)
    (hg : curGen s k (freshCode inv) = curGen s k inv) :
    forget (invoke { s with loaded := l } k (freshCode inv)).1 = forget (invoke s k inv).1 ∧
    (invoke { s with loaded := l } k (freshCode inv)).2 = (invoke s k inv).2 := by
  obtain ⟨_, _, _, _, p5, p6, _⟩ := prep_facts s k inv g
  have hprep : prep { s with loaded := l } k (freshCode inv) = { prep s k inv with loaded := l } :=
    prep_loaded s k inv l
  have hdead : dead { s with loaded := l } k (freshCode inv) = dead s k inv := by
    unfold dead preState
    show (!inv.bg && (events { s with loaded := l } inv).cancelled.contains (ctxOf k inv)) = _
    rw [events_loaded]
  have hcut : cut { s with loaded := l } k (freshCode inv) = cut s k inv := by
    unfold cut; rw [hdead]; rfl
  have heff : eff { s with loaded := l } k (freshCode inv) = freshCode (eff s k inv) := by
    unfold eff; rw [hdead]; split <;> rfl
  have hpc : (prep s k inv).startCount = 0 → l = [] := by
    intro h0
    have := (prep_facts _ k (freshCode inv) g').2.2.2.2.2.1
    rw [hprep] at this
    exact this h0
  have hbody : forget (bodyState { s with loaded := l } k (freshCode inv)) = forget (bodyState s k inv) := by
    unfold bodyState
    rw [hprep]
    apply enter_forget _ _ _ _ p6 hpc
    intro hk
    unfold curGen at hg
    have hk' : (freshCode inv).kind = .runCode := hk
    rw [if_pos hk, if_pos hk'] at hg
    simp only [preState, genOf, events_grown] at hg
    rw [genOf, genOf, p5]
    exact hg
  have hb := eq_of_forget hbody.symm
  rw [invoke_eq _ k (freshCode inv) g', invoke_eq s k inv g, hcut]
  split
  · constructor
    · rw [hb]; rfl
    · rfl
  · rw [heff, hb]
    have hcc : ∀ (b : St) (c : Nat) (e : Inv), core b c (freshCode e) = core b c e := fun _ _ _ => rfl
    show forget _ = forget _ ∧ _
    rw [hcc, core_loaded]
    exact ⟨rfl, rfl⟩

/-- an invocation changes the contents of code objects only through its `grows` events -/
theorem invoke_grown (s : St) (k : Nat) (inv : Inv) (g : Good s k) :
    (invoke s k inv).1.grown = inv.grows ++ s.grown :=
  (invoke_frame s k inv g).2.2.2.1

/-! ### Look-ups by name: slots -/

/-- the symbol table of a wrapper, in slot order -/
def names (sl : Slots) : List GName := sl.map (·.1)

@[simp] theorem names_nil : names [] = [] := rfl
@[simp] theorem names_cons (m : GName) (v : GVal) (rest : Slots) :
    names ((m, v) :: rest) = m :: names rest := rfl
@[simp] theorem scan_nil (n : GName) : scan [] n = .notFound := rfl
/-- (the test is turned round: a name is looked up, `n ∈ m :: …` unfolds to `n = m`) -/
theorem scan_cons (m : GName) (v : GVal) (rest : Slots) (n : GName) :
    scan ((m, v) :: rest) n = if n = m then .val v else scan rest n :=
  ite_congr (propext eq_comm) (fun _ => rfl) (fun _ => rfl)
@[simp] theorem store_nil (n : GName) (x : GVal) : store [] n x = [] := rfl
theorem store_cons (m : GName) (v : GVal) (rest : Slots) (n : GName) (x : GVal) :
    store ((m, v) :: rest) n x = if m = n then (m, x) :: rest else (m, v) :: store rest n x := rfl

theorem scan_notFound_of_not_mem (sl : Slots) (n : GName) (h : n ∉ names sl) : scan sl n = .notFound := by
  induction sl with
  | nil => rfl
  | cons a rest ih =>
    obtain ⟨m, v⟩ := a
    simp only [names_cons, List.mem_cons, not_or] at h
    rw [scan_cons, if_neg h.1]
    exact ih h.2

/-- `StoreGlobal` then `Get`: the slot the compiler resolved the name to is the slot `Get` finds -/
theorem scan_store (sl : Slots) (m n : GName) (x : GVal) :
    scan (store sl m x) n = if n = m ∧ n ∈ names sl then .val x else scan sl n := by
  induction sl with
  | nil => simp
  | cons a rest ih =>
    obtain ⟨a, v⟩ := a
    rw [store_cons]
    by_cases ham : a = m
    · subst ham
      simp only [↓reduceIte, scan_cons, names_cons, List.mem_cons]
      by_cases han : n = a <;> simp [han]
    · simp only [ham, ↓reduceIte, scan_cons, names_cons, List.mem_cons, ih]
      by_cases han : n = a
      · subst han; simp [ham]
      · simp [han]

theorem names_store (sl : Slots) (m : GName) (x : GVal) : names (store sl m x) = names sl := by
  induction sl with
  | nil => rfl
  | cons a rest ih =>
    obtain ⟨a, v⟩ := a
    rw [store_cons]
    split
    · rfl
    · simp only [names_cons, ih]

theorem names_defs (f : GName → GVal) (ns : List GName) (sl : Slots) :
    names (ns.foldl (fun sl m => store sl m (f m)) sl) = names sl := by
  induction ns generalizing sl with
  | nil => rfl
  | cons m t ih => simp only [List.foldl_cons]; rw [ih, names_store]

/-- executing the definitions `ns`: every defined name that has a slot holds its value, every
    other slot is untouched -/
theorem scan_defs (f : GName → GVal) (ns : List GName) (sl : Slots) (n : GName) :
    scan (ns.foldl (fun sl m => store sl m (f m)) sl) n =
      if n ∈ ns ∧ n ∈ names sl then .val (f n) else scan sl n := by
  induction ns generalizing sl with
  | nil => simp
  | cons m t ih =>
    simp only [List.foldl_cons]
    rw [ih, names_store, scan_store]
    by_cases hm : n = m
    · subst hm
      by_cases hin : n ∈ names sl <;> simp [hin]
    · simp [hm]

theorem scan_init (tbl : List GName) (n : GName) :
    scan (tbl.map (fun m => (m, initVal m))) n = if n ∈ tbl then .val (initVal n) else .notFound := by
  induction tbl with
  | nil => simp
  | cons a t ih =>
    simp only [List.map_cons, List.mem_cons, scan_cons, ih]
    by_cases han : n = a <;> simp [han]

theorem names_init (tbl : List GName) : names (tbl.map (fun m => (m, initVal m))) = tbl := by
  induction tbl with
  | nil => rfl
  | cons a t ih => simp only [List.map_cons, names_cons, ih]

theorem names_append (a b : Slots) : names (a ++ b) = names a ++ names b := by
  simp [names]

theorem scan_append (a b : Slots) (n : GName) :
    scan (a ++ b) n = if n ∈ names a then scan a n else scan b n := by
  induction a with
  | nil => simp
  | cons x t ih =>
    obtain ⟨m, v⟩ := x
    simp only [List.cons_append, names_cons, List.mem_cons, scan_cons, ih]
    by_cases hm : n = m <;> simp [hm]

/-! ### Look-ups by name: the wrappers of a reused VM -/

/-- `Get` on a freshly wrapped code object: the closed form -/
theorem scan_fresh_code (o : Owner) (lay : Lay) (bound : Bool) (n : GName) :
    scan (if bound then execDefs (loadRoot o (codeTbl lay)) (defNames lay)
          else loadRoot o (codeTbl lay)).slots n = codeGet lay o bound n := by
  have hsub : n ∈ defNames lay → n ∈ codeTbl lay := fun h => by
    unfold codeTbl; exact List.mem_append_right _ h
  cases bound with
  | false =>
    simp only [Bool.false_eq_true, ↓reduceIte, loadRoot, scan_init, codeGet, Bool.false_and]
  | true =>
    simp only [↓reduceIte, execDefs, loadRoot, scan_defs, names_init, scan_init, codeGet,
      Bool.true_and, decide_eq_true_eq]
    by_cases h1 : n ∈ defNames lay
    · simp [h1, hsub h1]
    · simp [h1]

theorem names_fresh_code (o : Owner) (lay : Lay) (bound : Bool) :
    names (if bound then execDefs (loadRoot o (codeTbl lay)) (defNames lay)
           else loadRoot o (codeTbl lay)).slots = codeTbl lay := by
  cases bound <;> simp [execDefs, loadRoot, names_defs, names_init]

theorem ginvoke_runCode (g : GSt) (s : St) (k : Nat) (inv : Inv) (lay : Lay)
    (hk : inv.kind = .runCode) (hq : (prep s k inv).running = false) :
    ginvoke g s k inv lay =
      { (if 0 < (prep s k inv).startCount then greset g else g) with
        codeW := some (if cut s k inv then
            loadCode (if 0 < (prep s k inv).startCount then greset g else g) (.code (codeOf k inv)) lay
          else execDefs (loadCode (if 0 < (prep s k inv).startCount then greset g else g)
            (.code (codeOf k inv)) lay) (defNames lay)),
        active := some false, cur := 0 } := by
  unfold ginvoke
  simp [hk, hq]

theorem ginvoke_call (g : GSt) (s : St) (k : Nat) (inv : Inv) (lay : Lay)
    (hk : inv.kind = .call) (hq : (prep s k inv).running = false) :
    ginvoke g s k inv lay =
      if (preState s k inv).hasCode = false then gsetup g (preState s k inv) lay else g := by
  unfold ginvoke
  simp only [hk, hq]
  split <;> simp_all

theorem ginvoke_run (g : GSt) (s : St) (k : Nat) (inv : Inv) (lay : Lay)
    (hk : inv.kind = .run) (hq : (prep s k inv).running = false) :
    ginvoke g s k inv lay =
      { g with
        mainTbl := g.mainTbl ++ snippetNames k,
        mainW := some (if cut s k inv then
            (match g.mainW with
              | some old => reload old (g.mainTbl ++ snippetNames k)
              | none => loadRoot .main (g.mainTbl ++ snippetNames k))
          else execDefs (match g.mainW with
              | some old => reload old (g.mainTbl ++ snippetNames k)
              | none => loadRoot .main (g.mainTbl ++ snippetNames k)) (snippetNames k)),
        active := some true, cur := k + 1 } := by
  obtain ⟨mt, mw, cw, ac, cu⟩ := g
  cases mw <;> simp [ginvoke, hk, hq]

/-- the invariant of the name storage between invocations (`k` = index of the next invocation):
    a VM that has never been started has wrapped nothing; the REPL compiler's table is the host's
    names followed by names of snippets of EARLIER invocations; the wrapper of the main code, when
    there is one, belongs to main, its table is a prefix of the compiler's and its host slots hold
    the host's objects -/
structure GGood (g : GSt) (s : St) (k : Nat) : Prop where
  cold : s.startCount = 0 → g.codeW = none ∧ g.mainW = none
  tbl : ∃ t, g.mainTbl = hostTbl 0 ++ t ∧ ∀ n ∈ t, ∃ j, j < k ∧ n ∈ snippetNames j
  wrap : ∀ w, g.mainW = some w → w.owner = .main ∧ (∃ t, g.mainTbl = names w.slots ++ t) ∧
          ∀ n ∈ hostTbl 0, scan w.slots n = .val (initVal n)

theorem ggood_fresh (acc k : Nat) : GGood {} (fresh acc) k :=
  ⟨fun _ => ⟨rfl, rfl⟩, ⟨[], by simp, by simp⟩, fun w h => by simp at h⟩

/-- `RunCode`'s look-up finds no wrapper: the reset forgot them, and a VM that was never started
    has none -/
theorem loadCode_fresh (g : GSt) (s : St) (k : Nat) (inv : Inv) (lay : Lay) (o : Owner)
    (hg : Good s k) (gg : GGood g s k) :
    loadCode (if 0 < (prep s k inv).startCount then greset g else g) o lay =
      loadRoot o (codeTbl lay) := by
  by_cases h0 : 0 < (prep s k inv).startCount
  · simp [h0, greset, loadCode]
  · have hs : s.startCount = 0 := by
      have := (prep_facts s k inv hg).2.2.2.2.2.2
      omega
    simp [h0, loadCode, (gg.cold hs).1]

/-- **after `RunCode` every name resolves in the code object it was handed, freshly wrapped**:
    nothing an earlier invocation loaded, defined or looked up is left -/
theorem get_after_runCode (g : GSt) (s : St) (k : Nat) (inv : Inv) (lay : Lay) (n : GName)
    (hg : Good s k) (gg : GGood g s k) (hk : inv.kind = .runCode) :
    get (ginvoke g s k inv lay) n = codeGet lay (.code (codeOf k inv)) (!cut s k inv) n ∧
    globalNames (ginvoke g s k inv lay) = codeTbl lay := by
  have hq := (prep_facts s k inv hg).1
  rw [ginvoke_runCode g s k inv lay hk hq]
  rw [loadCode_fresh g s k inv lay _ hg gg]
  have e := scan_fresh_code (.code (codeOf k inv)) lay (!cut s k inv) n
  have e2 := names_fresh_code (.code (codeOf k inv)) lay (!cut s k inv)
  cases hc : cut s k inv <;> simp only [hc, Bool.not_true, Bool.not_false, Bool.false_eq_true,
    ↓reduceIte] at e e2 ⊢
  · exact ⟨e, e2⟩
  · exact ⟨e, e2⟩


/-- a `Call` on a VM without code: the names resolve in the definitions it loads, freshly wrapped -/
theorem get_after_setup (g : GSt) (s : St) (k : Nat) (inv : Inv) (lay : Lay) (n : GName)
    (hg : Good s k) (hk : inv.kind = .call) (hc : (preState s k inv).hasCode = false) :
    get (ginvoke g s k inv lay) n = codeGet lay .setup true n ∧
    globalNames (ginvoke g s k inv lay) = codeTbl lay := by
  have hq := (prep_facts s k inv hg).1
  rw [ginvoke_call g s k inv lay hk hq, if_pos hc]
  have e := scan_fresh_code .setup lay true n
  have e2 := names_fresh_code .setup lay true
  simp only [↓reduceIte] at e e2
  exact ⟨e, e2⟩

/-- **a `Call` of a function of the code an earlier invocation loaded leaves the name storage
    as it is**: every name resolves after the Call as it did before -/
theorem call_keeps_globals (g : GSt) (s : St) (k : Nat) (inv : Inv) (lay : Lay)
    (hg : Good s k) (hk : inv.kind = .call) (hc : (preState s k inv).hasCode = true) :
    ginvoke g s k inv lay = g := by
  have hq := (prep_facts s k inv hg).1
  rw [ginvoke_call g s k inv lay hk hq, if_neg (by simp [hc])]

theorem mem_snippetNames (k : Nat) (n : GName) :
    n ∈ snippetNames k ↔ n = .over (k + 1) ∨ n = .act (k + 1) := by
  simp [snippetNames]

theorem snippet_not_host (j : Nat) (n : GName) (h : n ∈ snippetNames j) : n ∉ hostTbl 0 := by
  rw [mem_snippetNames] at h
  rcases h with h | h <;> subst h <;> simp [hostTbl]

theorem ownName_snippet (k j : Nat) (n : GName) (h : n ∈ snippetNames j) (ho : ownName k n = true) :
    j = k := by
  rw [mem_snippetNames] at h
  rcases h with h | h <;> subst h <;> simpa [ownName] using ho

/-- the wrapper `Run` executes: main re-based on its old wrapper, or wrapped afresh -/
def runWrap (g : GSt) (k : Nat) : Wrap :=
  match g.mainW with
  | some old => reload old (g.mainTbl ++ snippetNames k)
  | none => loadRoot .main (g.mainTbl ++ snippetNames k)

theorem runWrap_facts (g : GSt) (s : St) (k : Nat) (gg : GGood g s k) :
    (runWrap g k).owner = .main ∧ names (runWrap g k).slots = g.mainTbl ++ snippetNames k ∧
    (∀ n ∈ hostTbl 0, scan (runWrap g k).slots n = .val (initVal n)) ∧
    (∀ n ∈ snippetNames k, scan (runWrap g k).slots n = .val .unbound) := by
  obtain ⟨t, ht, hts⟩ := gg.tbl
  have hfreshk : ∀ n ∈ snippetNames k, n ∉ g.mainTbl := by
    intro n hn hm
    rw [ht, List.mem_append] at hm
    rcases hm with hm | hm
    · exact snippet_not_host k n hn hm
    · obtain ⟨j, hj, hnj⟩ := hts n hm
      rw [mem_snippetNames] at hn hnj
      rcases hn with hn | hn <;> subst hn <;> simp at hnj <;> omega
  have hinit : ∀ n ∈ snippetNames k, initVal n = .unbound := by
    intro n hn; rw [mem_snippetNames] at hn; rcases hn with hn | hn <;> subst hn <;> rfl
  unfold runWrap
  cases hm : g.mainW with
  | none =>
    refine ⟨rfl, names_init _, ?_, ?_⟩
    · intro n hn
      have : n ∈ g.mainTbl ++ snippetNames k := by rw [ht]; simp [hn]
      simp only [loadRoot, scan_init, this, ↓reduceIte]
    · intro n hn
      have : n ∈ g.mainTbl ++ snippetNames k := by simp [hn]
      simp only [loadRoot, scan_init, this, ↓reduceIte, hinit n hn]
  | some old =>
    obtain ⟨ho, ⟨t', ht'⟩, hh⟩ := gg.wrap old hm
    have hlen : old.slots.length = (names old.slots).length := by simp [names]
    have hdrop : List.drop old.slots.length (g.mainTbl ++ snippetNames k) = t' ++ snippetNames k := by
      rw [ht', hlen, List.append_assoc, List.drop_left]
    refine ⟨ho, ?_, ?_, ?_⟩
    · simp only [reload, hdrop, names_append, names_init]
      rw [ht', List.append_assoc]
    · intro n hn
      have hin : n ∈ names old.slots := by
        by_cases hin : n ∈ names old.slots
        · exact hin
        · have := hh n hn
          rw [scan_notFound_of_not_mem _ _ hin] at this
          cases this
      simp only [reload, scan_append, hin, ↓reduceIte, hh n hn]
    · intro n hn
      have hnot : n ∉ names old.slots := fun hin => hfreshk n hn (by rw [ht']; simp [hin])
      have hmem : n ∈ t' ++ snippetNames k := by simp [hn]
      simp only [reload, hdrop, scan_append, hnot, ↓reduceIte, scan_init, hmem, hinit n hn]

/-- **after `Run` the names of its own snippet, the host's names and every name that is not a
    REPL snippet's resolve as on a fresh VM that ran the snippet alone** (the names of EARLIER
    snippets are the REPL's memory, by design) -/
theorem get_after_run (g : GSt) (s : St) (k : Nat) (inv : Inv) (lay : Lay) (n : GName)
    (hg : Good s k) (gg : GGood g s k) (hk : inv.kind = .run) (ho : ownName k n = true) :
    get (ginvoke g s k inv lay) n = snippetGet k (!cut s k inv) n := by
  have hq := (prep_facts s k inv hg).1
  rw [ginvoke_run g s k inv lay hk hq]
  obtain ⟨w1, w2, w3, w4⟩ := runWrap_facts g s k gg
  obtain ⟨t, ht, hts⟩ := gg.tbl
  show scan (if cut s k inv then runWrap g k else execDefs (runWrap g k) (snippetNames k)).slots n = _
  unfold snippetGet
  by_cases hh : n ∈ hostTbl 0
  · have hns : n ∉ snippetNames k := fun h => snippet_not_host k n h hh
    cases cut s k inv <;> simp [hh, execDefs, scan_defs, hns, w3 n hh]
  · by_cases hs : n ∈ snippetNames k
    · have hin : n ∈ names (runWrap g k).slots := by rw [w2]; simp [hs]
      cases cut s k inv <;> simp [hh, hs, execDefs, scan_defs, hin, w4 n hs, w1]
    · have hnot : n ∉ names (runWrap g k).slots := by
        rw [w2, ht]
        intro hm
        simp only [List.mem_append] at hm
        rcases hm with (hm | hm) | hm
        · exact hh hm
        · obtain ⟨j, hj, hnj⟩ := hts n hm
          have := ownName_snippet k j n hnj ho
          omega
        · exact hs hm
      cases cut s k inv <;>
        simp [hh, hs, execDefs, scan_defs, scan_notFound_of_not_mem _ _ hnot]


/-- an invocation on a quiet VM always starts it -/
theorem invoke_started (s : St) (k : Nat) (inv : Inv) (g : Good s k) :
    0 < (invoke s k inv).1.startCount := by
  rw [(invoke_frame s k inv g).2.2.1]
  exact Nat.succ_pos _

theorem ggood_of (g g' : GSt) (s s' : St) (k : Nat) (gg : GGood g s k) (hs : 0 < s'.startCount)
    (ht : g'.mainTbl = g.mainTbl) (hw : g'.mainW = g.mainW ∨ g'.mainW = none) :
    GGood g' s' (k + 1) := by
  obtain ⟨t, h1, h2⟩ := gg.tbl
  refine ⟨fun h => by omega, ⟨t, by rw [ht, h1], fun n hn => ?_⟩, fun w hw' => ?_⟩
  · obtain ⟨j, hj, hnj⟩ := h2 n hn
    exact ⟨j, by omega, hnj⟩
  · rcases hw with hw | hw
    · rw [hw] at hw'
      rw [ht]
      exact gg.wrap w hw'
    · rw [hw] at hw'; cases hw'

/-- the invariant of the name storage is re-established by every invocation -/
theorem ggood_step (g : GSt) (s : St) (k : Nat) (inv : Inv) (lay : Lay)
    (hg : Good s k) (gg : GGood g s k) :
    GGood (ginvoke g s k inv lay) (invoke s k inv).1 (k + 1) := by
  have hq := (prep_facts s k inv hg).1
  have hs := invoke_started s k inv hg
  cases hk : inv.kind with
  | runCode =>
    rw [ginvoke_runCode g s k inv lay hk hq]
    apply ggood_of g _ s _ k gg hs
    · split <;> rfl
    · split
      · exact Or.inr rfl
      · exact Or.inl rfl
  | call =>
    rw [ginvoke_call g s k inv lay hk hq]
    split
    · apply ggood_of g _ s _ k gg hs
      · unfold gsetup; dsimp only; split <;> rfl
      · unfold gsetup; dsimp only
        split
        · exact Or.inr rfl
        · exact Or.inl rfl
    · exact ggood_of g g s _ k gg hs rfl (Or.inl rfl)
  | run =>
    rw [ginvoke_run g s k inv lay hk hq]
    obtain ⟨w1, w2, w3, w4⟩ := runWrap_facts g s k gg
    obtain ⟨t, h1, h2⟩ := gg.tbl
    refine ⟨fun h => by omega, ⟨t ++ snippetNames k, by simp [h1], fun n hn => ?_⟩, fun w hw => ?_⟩
    · rw [List.mem_append] at hn
      rcases hn with hn | hn
      · obtain ⟨j, hj, hnj⟩ := h2 n hn
        exact ⟨j, by omega, hnj⟩
      · exact ⟨k, by omega, hn⟩
    · have hw' : w = (if cut s k inv then runWrap g k else execDefs (runWrap g k) (snippetNames k)) := by
        have : some (if cut s k inv then runWrap g k else execDefs (runWrap g k) (snippetNames k)) = some w := hw
        exact (Option.some.inj this).symm
      show w.owner = .main ∧ (∃ t, g.mainTbl ++ snippetNames k = names w.slots ++ t) ∧ _
      subst hw'
      cases cut s k inv
      · simp only [Bool.false_eq_true, ↓reduceIte, execDefs, names_defs, scan_defs]
        refine ⟨w1, ⟨[], by rw [w2]; simp⟩, fun n hn => ?_⟩
        have : n ∉ snippetNames k := fun h => snippet_not_host k n h hn
        simp [this, w3 n hn]
      · simp only [↓reduceIte]
        exact ⟨w1, ⟨[], by rw [w2]; simp⟩, w3⟩

/-- after an invocation the VM has code whose definitions were executed, unless a Run/RunCode was
    stopped at once by its own dead context -/
theorem invoke_hasCode (s : St) (k : Nat) (inv : Inv) (g : Good s k) :
    (invoke s k inv).1.hasCode = (!cut s k inv || inv.kind == .call) :=
  (invoke_frame s k inv g).2.2.2.2

theorem preState_hasCode (s : St) (k : Nat) (inv : Inv) : (preState s k inv).hasCode = s.hasCode := by
  rw [preState, events_eq]; rfl

theorem act0_mem_defNames (lay : Lay) : GName.act 0 ∈ defNames lay := by
  unfold defNames
  cases lay.swap <;> simp

/-- the link between the run-state and the name storage: when the VM has code (`hasCode`: a
    `Call` needs no definitions loaded), the name under which the host fetches the function it
    calls is bound, in the ACTIVE code, to that code's own function of that name -/
def Linked (g : GSt) (s : St) : Prop :=
  s.hasCode = true →
    ∃ w, activeWrap g = some w ∧ scan w.slots (callTarget g) = .val (.fn (callTarget g) w.owner)

theorem linked_fresh (acc : Nat) : Linked {} (fresh acc) := fun h => by simp [fresh] at h

/-- in freshly wrapped code whose definitions were executed, `act` is that code's own function -/
theorem scan_act0 (o : Owner) (lay : Lay) :
    scan (execDefs (loadRoot o (codeTbl lay)) (defNames lay)).slots (.act 0) = .val (.fn (.act 0) o) := by
  have e := scan_fresh_code o lay true (.act 0)
  simp only [↓reduceIte] at e
  rw [e]
  have h1 := act0_mem_defNames lay
  have h2 : GName.act 0 ∈ codeTbl lay := by unfold codeTbl; exact List.mem_append_right _ h1
  simp [codeGet, h1, h2, defVal]

theorem linked_setup (g : GSt) (p : St) (lay : Lay) (s' : St) : Linked (gsetup g p lay) s' :=
  fun _ => ⟨_, rfl, scan_act0 .setup lay⟩

theorem linked_step (g : GSt) (s : St) (k : Nat) (inv : Inv) (lay : Lay)
    (hg : Good s k) (gg : GGood g s k) (hl : Linked g s) :
    Linked (ginvoke g s k inv lay) (invoke s k inv).1 := by
  have hq := (prep_facts s k inv hg).1
  intro hc
  rw [invoke_hasCode s k inv hg] at hc
  cases hk : inv.kind with
  | call =>
    rw [ginvoke_call g s k inv lay hk hq]
    split
    · exact linked_setup g _ lay (invoke s k inv).1 (by rw [invoke_hasCode s k inv hg]; exact hc)
    · rename_i h
      have : s.hasCode = true := by
        rw [← preState_hasCode s k inv]; simpa using h
      exact hl this
  | runCode =>
    have hcut : cut s k inv = false := by simpa [hk] using hc
    rw [ginvoke_runCode g s k inv lay hk hq, loadCode_fresh g s k inv lay _ hg gg, hcut]
    exact ⟨_, rfl, scan_act0 _ lay⟩
  | run =>
    have hcut : cut s k inv = false := by simpa [hk] using hc
    obtain ⟨w1, w2, w3, w4⟩ := runWrap_facts g s k gg
    rw [ginvoke_run g s k inv lay hk hq, hcut]
    refine ⟨execDefs (runWrap g k) (snippetNames k), rfl, ?_⟩
    show scan _ (GName.act (k + 1)) = _
    have hs : GName.act (k + 1) ∈ snippetNames k := by simp [snippetNames]
    have hin : GName.act (k + 1) ∈ names (runWrap g k).slots := by rw [w2]; simp [hs]
    simp [execDefs, scan_defs, hs, hin, defVal, w1, callTarget]

end Risor.C07
