/-!
C07 — run-state model of a reused `vm.VirtualMachine` (vm/vm.go), core Lean only.

What is modelled (the code AS IT IS, defects included):

* the run-state shared by every invocation on one VM: `halt`, `running`, `startCount`,
  the context watcher goroutines spawned by `start()` (`armed`; `stop()` never disarms
  them), and the storage that survives an invocation: `sp`, `fp`, whether code is active;
* the world outside the VM: which contexts have been cancelled (`cancelled`) and the one
  mutable host global the scripts use (`acc`, the length of a host list);
* the three entry points `Run`, `RunCode`, `Call` as transitions: `start` (clears `halt`,
  arms a watcher unless the context has no Done channel), `resetForNewCode` for `RunCode`
  when `startCount > 1`, descent through `depth+1` call frames, the leaf where the script
  calls back into the host (the only place where contexts are cancelled *during* a run),
  the poll of `halt` at the next instruction of every enclosing `eval`
  (`return ctx.Err()` of the CURRENT context), the deferred `resumeFrame` unwinding on
  every way out (normal, error, Go panic, frame overflow), and `stop`.

* the import cache `vm.modules`: the modules supplied as globals (`mods`, dropped by
  `resetForNewCode`) and one FILE module `fmod` that the VM's importer loads (`fmod`): its
  top-level code is executed by `importModule` in a frame of its own when the module is not
  cached, it calls back into the host, and the invocation may END there (`mfail`: runtime
  error, Go panic, frame overflow, cancellation of the invocation's own context) - the
  module is cached only after its code ran to the end (`core`, `modEnd`);
* `same`: `RunCode` may be handed the very `*compiler.Code` object of an earlier invocation.
  `resetForNewCode` forgets `loadedCode`, so no transition reads the field
  (`C07_same_code_irrelevant`); the harness does re-run the same Go object and compares.

* context OBJECTS and code OBJECTS have an identity and may be REUSED: `ctx := some c` hands
  the invocation the context object `c` (several invocations may name the same one; it may be
  cancelled already - `start` still clears `halt` and arms a NEW watcher, which fires at once);
  `same := some j` re-supplies code object `j`, into which the host may have compiled further
  snippets in the meantime (`grows`: incremental compilation, `compiler.New` + `Compile`);
  `vm.loadedCode` (`loaded`: code object ↦ the generation its wrapper is a snapshot of) is
  what `RunCode` consults before it wraps a code object, and what `resetForNewCode` forgets;
* Go scheduling where the code leaves the order open (`sched`): a watcher armed for an already
  cancelled context stores `halt` before the first poll, after the first instruction, or - for
  `RunCode` on a used VM - before `resetForNewCode` clears `halt` again (then nothing is left
  to stop the run).

* what the host reads from the VM BY NAME between invocations (`vm.Get`, `vm.GlobalNames`, the
  function a `Call` fetches): code objects lay their globals out differently (`Lay`), the
  wrappers hold symbol table and `Globals` array in slot order (`GSt`), `get` scans the ACTIVE
  table - see the section "Global names" below; `LInv` adds the layout and the names looked up
  before and after an invocation to `Inv`;
* host DATA globals converted by copy at construction and at every `RunCode` (`DSt`), and objects
  with identity the HOST keeps across invocations and calls or reads later (`KSt`) - see the two
  sections of those names at the end of the file.

A history is a list of invocations.  Contexts and code objects are named by natural numbers;
the context / the code object created for the `k`-th invocation (0-based) has id `k`.
`pre` names contexts cancelled before the invocation starts (ANY context: of an earlier
invocation, the invocation's own - it then starts with a cancelled context -, or one that is
used later or never); `during` names OTHER contexts cancelled by the host callback while the
invocation runs (an entry naming the invocation's own context is ignored: cancelling the own
context mid-run is the ending `selfCancel`); `grows` names the code objects the host compiles
one more snippet into before the invocation starts.
-/
namespace Risor.C07

inductive Kind where
  | run | runCode | call
  deriving DecidableEq, Repr, Inhabited

/-- how the script of an invocation behaves at its leaf (after the host callback) -/
inductive Beh where
  | normal      -- returns `v + 1000 * len(acc)`
  | err         -- runtime error (`int + string`) at frame depth `depth+1`
  | panic       -- a host builtin panics (Go panic, recovered by Run/RunCode/Call)
  | overflow    -- unbounded recursion: `vm.frames[1024]` index panic, recovered
  | selfCancel  -- the host callback cancels the invocation's OWN context
  deriving DecidableEq, Repr, Inhabited

/-- when the watcher that `start()` arms for an ALREADY CANCELLED context stores `halt`
    (consulted for such invocations only; Go scheduling decides) -/
inductive Sched where
  | early   -- before the first poll of `eval`: no instruction is executed
  | first   -- after the first instruction was dispatched (the harness holds the run there until the watcher has exited)
  | lost    -- RunCode on a used VM only: before `resetForNewCode` stores `halt = 0` again - the store is wiped and no watcher is left
  deriving DecidableEq, Repr, Inhabited

structure Inv where
  kind : Kind
  beh : Beh
  depth : Nat          -- script frames above the leaf frame
  pend : Nat           -- operands pending on the stack at depth 0 (`[1, 2, act(…)]`); unused by Call
  v : Nat              -- the value the invocation computes with
  bump : Nat           -- how many times the script appends to the host global `acc`
  bg : Bool            -- context.Background(): no Done channel, no watcher, cannot be cancelled
  imp : Bool           -- the script executes `import hostmod` (a module supplied as a global) first
  pre : List Nat       -- earlier contexts cancelled (watcher settled) before the invocation starts
  during : List Nat    -- earlier contexts cancelled by the host callback while it runs
  fimp : Bool := false -- the script then executes `import fmod` (a module the VM's importer loads from a file)
  mfail : Bool := false -- the ending `beh` happens INSIDE fmod's top-level code (when that code is executed)
  same : Option Nat := none -- RunCode re-supplies the *compiler.Code object compiled for that earlier invocation
  ctx : Option Nat := none  -- the context OBJECT handed to the invocation: `none` = one created for it (id = its index), `some c` = the context with id `c` (shared with every invocation that names `c`)
  grows : List Nat := []    -- code objects into which the host compiles one more snippet before the invocation starts
  sched : Sched := .first   -- see `Sched`
  deriving DecidableEq, Repr, Inhabited

inductive Outcome where
  | ok (v : Nat)       -- success with an integer result
  | okHook             -- "success" whose value is the host callback's return value (-7): a cut-short run
  | errCanceled        -- context.Canceled
  | errRuntime         -- risor type error
  | errPanic           -- "panic: boom"
  | errOverflow        -- "panic: runtime error: index out of range [1024] …"
  | errBusy            -- "vm is already running"
  | errImport          -- "imports are disabled"
  deriving DecidableEq, Repr, Inhabited

/-- state of one VM plus the world it shares with its host -/
structure St where
  halt : Bool := false
  running : Bool := false
  startCount : Nat := 0
  armed : List Nat := []        -- contexts whose watcher goroutine is still waiting on Done
  cancelled : List Nat := []    -- contexts that have been cancelled
  sp : Int := -1
  fp : Nat := 0
  hasCode : Bool := false       -- some code is active (`vm.activeCode != nil`)
  mods : Bool := true           -- the modules supplied as globals are in the import cache `vm.modules`
  fmod : Bool := false          -- the file module `fmod` is in the import cache `vm.modules` (fully initialised)
  acc : Nat := 0                -- len(acc), the host global
  grown : List Nat := []        -- world: one entry per snippet compiled into a code object after its creation (generation of `j` = occurrences of `j`)
  loaded : List (Nat × Nat) := []  -- `vm.loadedCode`, entry codes only: code object ↦ generation its wrapper is a snapshot of
  cur : Nat := 0                -- number of growth snippets in the snapshot the active RunCode executes (0 for Run/Call)
  icache : Bool := false        -- the VM's importer has parsed and compiled the file module before (`LocalImporter.codeCache`; survives `resetForNewCode`)
  gone : Bool := false          -- the context of the (last) started invocation was already cancelled when it started: its `Err()` is non-nil throughout
  deriving DecidableEq, Repr, Inhabited

def fresh (acc : Nat) : St := { acc := acc }

/-- `cancel(ctx_i)`, and the harness waits until the watchers armed for it (one per invocation
    that was started with this context object) have stored `halt := 1`.  A watcher fires once. -/
def cancel (s : St) (i : Nat) : St :=
  if s.cancelled.contains i then s
  else
    let s := { s with cancelled := i :: s.cancelled }
    if s.armed.contains i then { s with halt := true, armed := s.armed.filter (· != i) } else s

/-- the context object handed to invocation `k` -/
def ctxOf (k : Nat) (inv : Inv) : Nat := inv.ctx.getD k

/-- the code object handed to invocation `k` (RunCode) -/
def codeOf (k : Nat) (inv : Inv) : Nat := inv.same.getD k

/-- `during` names OTHER contexts (the own context is cancelled mid-run by `selfCancel`) -/
def others (c : Nat) (is : List Nat) : List Nat := is.filter (· != c)

/-- current generation of code object `j`: how many snippets were compiled into it since its creation -/
def genOf (s : St) (j : Nat) : Nat := s.grown.count j

def cancelAll (s : St) (is : List Nat) : St := is.foldl cancel s

/-- `vm.start(ctx)` (the `running` check is done by the caller of this function) -/
def start (s : St) (k : Nat) (bg : Bool) : St :=
  { s with running := true, startCount := s.startCount + 1, halt := false,
           armed := if bg then s.armed else k :: s.armed }

/-- `resetForNewCode` -/
def reset (s : St) : St :=
  { s with sp := -1, fp := 0, halt := false, mods := false, fmod := false, loaded := [] }

/-- result of the leaf when no halt is pending; `g` = number of growth snippets the executed
    code contains after the call (each evaluates `v + 1000*len(acc) + 1000000*i`; the last one
    is the result) -/
def behOutcome (b : Beh) (v acc : Nat) (g : Nat := 0) : Outcome :=
  match b with
  | .normal => .ok (v + 1000 * acc + 1000000 * g)
  | .selfCancel => .ok (v + 1000 * acc + 1000000 * g)   -- only reached when no watcher can stop the run
  | .err => .errRuntime
  | .panic => .errPanic
  | .overflow => .errOverflow

/-- stack slots the invocation leaves above its base.  Since the `fix:` commit in vm/vm.go
    (`callFunction` drops the leftovers of a call that ends in an error) a cancelled or failing
    call leaves nothing behind; a cut-short "success" (`okHook`) still carries the abandoned
    frame's top down as a "frame result" (`resumeFrame`).  Every growth snippet of the executed
    code (`g` of them) is an expression statement of its own and leaves its value. -/
def spDelta (kind : Kind) (pend : Nat) (g : Nat) (o : Outcome) : Int :=
  match kind, o with
  | .call, _ => 0
  | _, .ok _ => 1 + g
  | _, .okHook => pend + 1
  | _, _ => pend

/-- a `Call` on a VM that has no active code first loads the definitions with
    `RunCode(context.Background(), defs)` (what `risor.Call` does) -/
def setup (s : St) : St :=
  if s.hasCode then s
  else
    -- on a VM that has been started before (its last Run/RunCode was stopped before the
    -- definitions were executed) this RunCode resets the VM like any other
    { s with startCount := s.startCount + 1, halt := false, sp := 0, fp := 0, hasCode := true,
             mods := s.mods && s.startCount == 0, fmod := s.fmod && s.startCount == 0 }

/-- what happens in the world before the invocation starts: the host compiles further
    snippets into code objects, contexts are cancelled (their watchers fire) -/
def events (s : St) (inv : Inv) : St :=
  cancelAll { s with grown := inv.grows ++ s.grown } inv.pre

/-- state of the VM just before `start` of invocation `k` (after the `grows`/`pre` events) -/
def preState (s : St) (k : Nat) (inv : Inv) : St := events s inv

/-- the events placed before the invocation, and `Call`'s loading of definitions -/
def prep (s : St) (k : Nat) (inv : Inv) : St :=
  let s := preState s k inv
  if inv.kind = .call then setup s else s

/-- the invocation is handed a context that is ALREADY cancelled when it starts -/
def dead (s : St) (k : Nat) (inv : Inv) : Bool :=
  !inv.bg && (preState s k inv).cancelled.contains (ctxOf k inv)

/-- the schedule in which the cancellation of a dead context is lost: `RunCode` on a VM that
    has been started before calls `start` (the watcher is launched, stores `halt = 1`, exits)
    and THEN `resetForNewCode` (`halt = 0`) -/
def loses (s : St) (k : Nat) (inv : Inv) : Bool :=
  inv.sched == .lost && inv.kind == .runCode && decide (0 < s.startCount)

/-- the run is stopped by its own, already cancelled, context before it gets anywhere -/
def cut (s : St) (k : Nat) (inv : Inv) : Bool := dead s k inv && !loses s k inv

/-- the watcher armed for a dead context exits at once: for the rest of the invocation there is
    no watcher for its context, as with a context that has no Done channel -/
def eff (s : St) (k : Nat) (inv : Inv) : Inv :=
  if dead s k inv then { inv with bg := true } else inv

/-- `start(ctx)`, followed by `resetForNewCode` when `RunCode` runs on a VM that has been
    started before, followed by `RunCode`'s look-up of the code object in `vm.loadedCode`: an
    existing wrapper (a snapshot of the instructions at the time it was made) is reused AS IS,
    otherwise the code object is wrapped now -/
def enter (s : St) (k : Nat) (inv : Inv) : St :=
  -- a watcher armed for an already cancelled context fires at once and exits: it never stays armed
  let d := !inv.bg && s.cancelled.contains (ctxOf k inv)
  let s : St := { start s (ctxOf k inv) (inv.bg || d) with hasCode := true, gone := d }
  let s : St := if inv.kind = .runCode ∧ s.startCount > 1 then reset s else s
  if inv.kind = .runCode then
    let g := (s.loaded.lookup (codeOf k inv)).getD (genOf s (codeOf k inv))
    { s with cur := g, loaded := (codeOf k inv, g) :: s.loaded }
  else
    -- `Run` resumes the main code: what the previous runs left on the operand stack is dropped first
    -- (fix: drop the previous result from the stack when Run resumes the main code); `Call` keeps it
    { s with cur := 0, sp := if inv.kind = .run then -1 else s.sp }

/-- the script reaches its leaf: `depth+1` frames are active, the appends to the host global
    are done, the host callback cancels what it was told to cancel (other contexts and,
    for `selfCancel`, the invocation's own context `c`) and waits for the watchers to fire -/
def leaf (s : St) (c : Nat) (inv : Inv) : St :=
  let s := { s with fp := s.fp + inv.depth + 1, acc := s.acc + inv.bump }
  let s := cancelAll s (others c inv.during)
  if inv.beh = .selfCancel ∧ inv.bg = false then cancel s c else s

/-- what the next instruction after the host callback does: every enclosing `eval` polls
    `halt` and returns `ctx.Err()` of ITS (the current) context `c`; otherwise the script goes
    on (and the growth snippets of the executed snapshot follow) -/
def leafOutcome (s : St) (c : Nat) (inv : Inv) : Outcome :=
  if s.halt then (if s.gone || (!inv.bg && s.cancelled.contains c) then .errCanceled else .okHook)
  else behOutcome inv.beh inv.v s.acc s.cur

/-- the invocation cancels its own context (possible only if a watcher is armed for it) -/
def ownCancel (inv : Inv) : Bool := inv.beh == .selfCancel && !inv.bg

/-- `import fmod` executes the module's top-level code: the module is not in `vm.modules`
    (`importModule` looks there first; the importer returns a new Module object otherwise) -/
def modRuns (s : St) (inv : Inv) : Bool := inv.fimp && !s.fmod

/-- the invocation ENDS while fmod's top-level code is executing: that code runs, the
    invocation was told to end there (`mfail`), and its ending is one that ends a run -/
def modEnds (s : St) (inv : Inv) : Bool :=
  modRuns s inv && inv.mfail &&
    (ownCancel inv || inv.beh == .err || inv.beh == .panic || inv.beh == .overflow)

/-- the slot that executing a module's top-level code USED to leave in the importing frame
    (`importModule`'s `resumeFrame` carried the module frame's top of stack down as a "frame
    result"; an ending that skipped the importing function's return - a Go panic, or the
    cut-short "success" - left it on the stack).  Repaired in risor (`fix: drop what a module's
    code leaves on the stack when it is imported`): `importModule` now pops down to the importer's
    stack pointer on every way out, so nothing is left.  `preFixModResidue` keeps the old amount. -/
def preFixModResidue (s : St) (inv : Inv) (o : Outcome) : Int :=
  if modRuns s inv then
    (match o with
     | .okHook => 1 | .errPanic => 1 | .errOverflow => 1 | _ => 0)
  else 0

def modResidue (_s : St) (_inv : Inv) (_o : Outcome) : Int := 0

/-- the run ends inside the module's top-level code (the module's host callback cancels the
    invocation's own context, or the module code fails): `importModule` returns before
    `vm.modules[name] = module`, so NOTHING is cached; its deferred `resumeFrame` restores
    fp/sp; the appends and the leaf's host callback (hence the `during` cancellations) are
    never reached -/
def modEnd (s : St) (c : Nat) (inv : Inv) : St × Outcome :=
  let s' := if ownCancel inv then cancel s c else s
  let o := if ownCancel inv then Outcome.errCanceled else behOutcome inv.beh inv.v s.acc s.cur
  ({ s' with sp := s'.sp + spDelta inv.kind inv.pend s.cur o, icache := true }, o)

/-- the body of an invocation between `start`(+reset, +load) and `stop`; `c` = its context -/
def core (s : St) (c : Nat) (inv : Inv) : St × Outcome :=
  if inv.imp ∧ s.mods = false then
    -- `import hostmod` in the leaf frame: not in vm.modules any more and the importer does not
    -- know it: "imports are disabled" / "module not found"; the appends and the host callback
    -- are never reached
    ({ s with sp := s.sp + spDelta inv.kind inv.pend s.cur .errImport }, .errImport)
  else if s.gone ∧ modRuns s inv = true ∧ s.icache = false then
    -- `import fmod` with a context that is already cancelled (reached only when the reset wiped
    -- the watcher's store): the importer hands the invocation's context to the parser, which
    -- gives up with its error before any module code runs - unless the importer has compiled
    -- the file before (its own cache)
    ({ s with sp := s.sp + spDelta inv.kind inv.pend s.cur .errCanceled }, .errCanceled)
  else if modEnds s inv then modEnd s c inv
  else
    let l := leaf s c inv
    let o := leafOutcome l c inv
    -- the deferred resumeFrame calls restore fp on every way out; sp as computed by spDelta;
    -- a module whose top-level code ran to its end is cached, however the invocation ends later
    ({ l with fp := l.fp - (inv.depth + 1),
              sp := s.sp + spDelta inv.kind inv.pend s.cur o + modResidue s inv o,
              fmod := s.fmod || inv.fimp, icache := s.icache || modRuns s inv }, o)

/-- state in which the body of invocation `k` starts -/
def bodyState (s : St) (k : Nat) (inv : Inv) : St := enter (prep s k inv) k inv

/-- what a run that its own dead context stops at once leaves on the stack: nothing, or the
    value the first instruction of a Run/RunCode script pushed (a failing `Call` drops its
    leftovers) -/
def cutResidue (inv : Inv) : Int :=
  if inv.kind = .call then 0 else if inv.sched = .early then 0 else 1

/-- the VM after a run that its own dead context stopped at once: the watcher has stored
    `halt`, the next poll returned `ctx.Err()` -/
def cutState (b : St) (inv : Inv) : St :=
  -- a Run/RunCode that is stopped there has not executed its function definitions: a later
  -- `Call` has to load definitions first (`setup`)
  { b with halt := true, running := false, sp := b.sp + cutResidue inv,
           hasCode := inv.kind == .call }

/-- one invocation on the (possibly reused) VM -/
def invoke (s : St) (k : Nat) (inv : Inv) : St × Outcome :=
  let p := prep s k inv
  if p.running then (p, .errBusy)
  else
    let b := bodyState s k inv
    if cut s k inv then
      (cutState b inv, .errCanceled)
    else
      let r := core b (ctxOf k inv) (eff s k inv)
      ({ r.1 with running := false }, r.2)

/-- the script reaches its leaf (the appends and the host callback `hook()`) -/
def leafReached (s : St) (k : Nat) (inv : Inv) : Bool :=
  !cut s k inv && !(inv.imp && !(bodyState s k inv).mods) &&
    !(dead s k inv && modRuns (bodyState s k inv) inv && !(bodyState s k inv).icache) &&
    !modEnds (bodyState s k inv) (eff s k inv)

/-- fmod's top-level code is executed by this invocation (observed: the module's own host
    callback is called) -/
def modRan (s : St) (k : Nat) (inv : Inv) : Bool :=
  !cut s k inv && !(inv.imp && !(bodyState s k inv).mods) &&
    !(dead s k inv && !(bodyState s k inv).icache) && modRuns (bodyState s k inv) inv

/-- `len(vm.modules)` (observed through the `verif` hook) -/
def modCount (s : St) : Nat := (if s.mods then 1 else 0) + (if s.fmod then 1 else 0)

/-- frame pointer while the host callback runs (observed through the `verif` hook) -/
def leafFp (s : St) (k : Nat) (inv : Inv) : Nat :=
  (leaf (bodyState s k inv) (ctxOf k inv) (eff s k inv)).fp

/-- run a history from state `s`, the first invocation having index `k`; returns every
    intermediate state and outcome -/
def runFrom (s : St) (k : Nat) : List Inv → List (St × Outcome)
  | [] => []
  | inv :: rest => invoke s k inv :: runFrom (invoke s k inv).1 (k + 1) rest

def run (h : List Inv) : List (St × Outcome) := runFrom (fresh 0) 0 h

/-- **Spec**: what the property demands of invocation `inv` when the host global has the
    value `acc`, the code object it is handed contains `g` growth snippets NOW and its context
    is (`dead`) or is not cancelled already: the outcome of that invocation alone, on a fresh
    VM, where nothing that concerns another invocation's context exists. -/
def specOutcome (inv : Inv) (acc : Nat) (g : Nat) (dead : Bool) : Outcome :=
  if dead || ownCancel inv then .errCanceled else behOutcome inv.beh inv.v (acc + inv.bump) g

/-- the generation of the code object handed to invocation `k`, as it is when the invocation
    starts (only `RunCode` is handed a code object) -/
def curGen (s : St) (k : Nat) (inv : Inv) : Nat :=
  if inv.kind = .runCode then genOf (preState s k inv) (codeOf k inv) else 0

/-- the Spec of invocation `k` in the world `s` (reads only the world: the host global, the
    code objects' contents, which contexts are cancelled) -/
def specAt (s : St) (k : Nat) (inv : Inv) : Outcome :=
  specOutcome inv s.acc (curGen s k inv) (dead s k inv)

/-- the Impl on a fresh VM whose host global has the value `acc`, handed a code object with
    `g` growth snippets and a context that is (`d`) or is not cancelled already, with no events
    that concern other contexts (proved equal to the Spec in Props) -/
def freshWorld (inv : Inv) (k acc : Nat) (g : Nat) (d : Bool) : St :=
  { fresh acc with cancelled := if d then [ctxOf k inv] else [],
                   grown := List.replicate g (codeOf k inv) }

def freshOutcome (inv : Inv) (k acc : Nat) (g : Nat) (d : Bool) : Outcome :=
  (invoke (freshWorld inv k acc g d) k { inv with pre := [], during := [], grows := [] }).2

/-- guard of the finding `C07-reset-drops-global-modules`: the invocation imports a module
    that was supplied as a global after some `RunCode` has reset `vm.modules` -/
def importFails (s : St) (k : Nat) (inv : Inv) : Bool :=
  !cut s k inv && inv.imp && !(bodyState s k inv).mods

/-- will cancelling context `i` in state `s` make a watcher of this VM fire? -/
def fires (s : St) (i : Nat) : Bool := s.armed.contains i && !s.cancelled.contains i

/-- guard of the finding `C07-stale-context-watcher`: a watcher armed for ANOTHER context (by
    an earlier invocation) fires while invocation `k` executes from state `s` (the `during`
    cancellations are made by the leaf's host callback, so the leaf must be reached) -/
def staleFires (s : St) (k : Nat) (inv : Inv) : Bool :=
  !cut s k inv && !importFails s k inv &&
    !(dead s k inv && modRuns (bodyState s k inv) inv && !(bodyState s k inv).icache) &&
    !modEnds (bodyState s k inv) (eff s k inv) &&
    (others (ctxOf k inv) inv.during).any (fires (bodyState s k inv))

/-- a run that lost the cancellation of its context is stopped after all, by the importer, when
    it imports a file module that neither the VM nor its importer has cached -/
def lostImport (s : St) (k : Nat) (inv : Inv) : Bool :=
  !cut s k inv && !importFails s k inv &&
    (dead s k inv && modRuns (bodyState s k inv) inv && !(bodyState s k inv).icache)

/-- guard of the finding `C07-runcode-reset-loses-cancellation`: `RunCode` on a used VM is
    handed an already cancelled context and the watcher's store is wiped by the reset -/
def lostFires (s : St) (k : Nat) (inv : Inv) : Bool := dead s k inv && loses s k inv

/-- exactly the invocations whose outcome on the reused VM differs from the Spec -/
def harms (s : St) (k : Nat) (inv : Inv) : Bool :=
  importFails s k inv ||
    (if lostFires s k inv then !(staleFires s k inv || lostImport s k inv)
     else staleFires s k inv && !ownCancel inv)

/-- (outcome on the reused VM, outcome the Spec demands) of every invocation of a history -/
def pairsFrom (s : St) (k : Nat) : List Inv → List (Outcome × Outcome)
  | [] => []
  | inv :: rest =>
    ((invoke s k inv).2, specAt s k inv) :: pairsFrom (invoke s k inv).1 (k + 1) rest

def pairs (h : List Inv) : List (Outcome × Outcome) := pairsFrom (fresh 0) 0 h

def anyFrom (f : St → Nat → Inv → Bool) (s : St) (k : Nat) : List Inv → Bool
  | [] => false
  | inv :: rest => f s k inv || anyFrom f (invoke s k inv).1 (k + 1) rest

/-- somewhere in the history a watcher of another, earlier used, context fires during a later invocation -/
def staleCancel (h : List Inv) : Bool := anyFrom staleFires (fresh 0) 0 h
/-- somewhere in the history a global module is imported after a reset -/
def importAfterReset (h : List Inv) : Bool := anyFrom importFails (fresh 0) 0 h
/-- somewhere in the history the reset of a `RunCode` wipes the cancellation of its context -/
def lostCancel (h : List Inv) : Bool := anyFrom lostFires (fresh 0) 0 h
/-- the exact guard: some invocation of the history is harmed -/
def harmed (h : List Inv) : Bool := anyFrom harms (fresh 0) 0 h

/-- (generation of the snapshot a `RunCode` executes, generation of the code object when the
    invocation starts) for every `RunCode` of a history that is not stopped at once -/
def gensFrom (s : St) (k : Nat) : List Inv → List (Nat × Nat)
  | [] => []
  | inv :: rest =>
    (if inv.kind = .runCode then [((bodyState s k inv).cur, curGen s k inv)] else []) ++
      gensFrom (invoke s k inv).1 (k + 1) rest

/-- outcomes of the invocations of a history that are handed an already cancelled context -/
def deadOutcomesFrom (s : St) (k : Nat) : List Inv → List Outcome
  | [] => []
  | inv :: rest =>
    (if dead s k inv then [(invoke s k inv).2] else []) ++
      deadOutcomesFrom (invoke s k inv).1 (k + 1) rest


/-! ### Frame-level refinement of the unwinding

`leafOutcome` summarises what reaches Run/RunCode/Call.  The definitions below spell out how
that signal travels through `d` enclosing script frames (`callFunction` → `callObject` →
the caller's `eval`), so that "the depth does not matter" is a theorem
(`C07_depth_irrelevant`) and not an assumption. -/

/-- what a frame hands to its caller -/
inductive Sig where
  | val (hook : Bool) (v : Nat)   -- a value on top of the stack (`hook`: the host callback's value)
  | err (o : Outcome)             -- `eval` returned an error
  | pan (o : Outcome)             -- a Go panic is unwinding (deferred `resumeFrame`s run)
  deriving DecidableEq, Repr

/-- the leaf frame after the host callback returned -/
def leafSig (halt ownCancelled : Bool) (b : Beh) (v acc : Nat) (g : Nat) : Sig :=
  if halt then (if ownCancelled then .err .errCanceled else .val true 0)
  else match b with
    | .normal => .val false (v + 1000 * acc + 1000000 * g)
    | .selfCancel => .val false (v + 1000 * acc + 1000000 * g)
    | .err => .err .errRuntime
    | .panic => .pan .errPanic
    | .overflow => .pan .errOverflow

/-- one enclosing script frame: an error or panic is handed on unchanged; a value is pushed
    and the frame's next instruction polls `halt` (returning `ctx.Err()`, i.e. nil = "success"
    with whatever is on top of the stack when the current context is live) -/
def frameStep (halt ownCancelled : Bool) : Sig → Sig
  | .val h v => if halt then (if ownCancelled then .err .errCanceled else .val h v) else .val h v
  | s => s

def unwind (halt ownCancelled : Bool) : Nat → Sig → Sig
  | 0, s => s
  | n + 1, s => unwind halt ownCancelled n (frameStep halt ownCancelled s)

/-- what Run/RunCode/Call report for the signal that reaches them -/
def sigOutcome : Sig → Outcome
  | .val true _ => .okHook
  | .val false v => .ok v
  | .err o => o
  | .pan o => o

/-! ### Global names: what the host reads from a reused VM BY NAME

`vm.Get(name)` and `vm.GlobalNames()` answer from the ACTIVE code: `Get` scans the symbol table
of `vm.activeCode` (slot order, bounded by the length of its `Globals` array) for the name and
returns `Globals[slot]`.  `risor.Call` is `RunCode` + `Get(name)` + `Call`, and hosts that reuse a
VM do the same by hand.  Code objects lay their globals out differently (the order of the names
the host supplies, how many definitions precede a name, the order of the definitions), so ONE
name lives in DIFFERENT slots of the code objects a reused VM runs one after the other.

The layer below models the storage these look-ups read, as it is in vm/vm.go and vm/code.go:
the wrapper (`Wrap`: symbol table zipped with the `Globals` array, in slot order) of the REPL
main code (`vm.loadedCode[main]`, kept and re-based by `reloadCode` on every `Run`) and of the
code object handed to the last `RunCode` (`risor.Call`'s / the harness's definitions for a `Call`
on a VM without code included), which of the two is active, `resetForNewCode` forgetting both,
`loadRootCode` filling the host's values in by name, and the definitions of the script storing
their values in the slot the compiler gave the name.  It is driven by the run-state model
(`St`): whether the reset happens, whether `Call` has to load definitions, whether the run was
stopped before it executed its definitions (`cut`). -/

/-- a global NAME (the harness maps the strings) -/
inductive GName where
  | host (i : Nat)   -- the i-th name of the host's globals, sorted as the compiler sorts them (acc, boom, hook, hostmod, len, modhook, p)
  | extra            -- `aaa`: a global name some code objects are compiled with (it sorts before all others) although the host supplies no such global
  | act (s : Nat)    -- `act` (s = 0: code objects handed to RunCode / Call's definitions) or `act_k` (s = k+1: REPL snippet of invocation k)
  | over (s : Nat)   -- `over` / `over_k`
  | fill (i : Nat)   -- `f<i>`: a function defined before act/over
  | pad (i : Nat)    -- `g<i>`: a variable defined before `who`
  | who              -- `who`: a variable holding the identity of the code object
  | nosuch           -- a name no code object defines
  deriving DecidableEq, Repr, Inhabited

/-- which root code object a wrapper (and the functions made from its constants) belongs to -/
inductive Owner where
  | main             -- the REPL main code `Run` executes
  | code (j : Nat)   -- the code object compiled for RunCode invocation `j`
  | setup            -- the definitions loaded for a `Call` on a VM without code
  deriving DecidableEq, Repr, Inhabited

/-- what a slot of a `Globals` array holds -/
inductive GVal where
  | unbound                       -- Go nil: the definition has not been executed
  | host (i : Nat)                -- the object the host supplied under its i-th name
  | fn (n : GName) (o : Owner)    -- the function named `n` of code object `o`
  | int (v : Nat)
  deriving DecidableEq, Repr, Inhabited

/-- the answer of `vm.Get` -/
inductive Got where
  | val (v : GVal) | notFound | noCode
  deriving DecidableEq, Repr, Inhabited

/-- how a code object lays out its globals: the global names it was compiled with (the compiler
    sorts them; `hset` bit 0: the additional name `aaa`, which moves every other name up one
    slot; bit 1: without `modhook`; bit 2: without `hostmod`), then the functions (hoisted by
    the compiler, in source order: `fills` fillers, then over/act in either order), then the
    variables (`pads` of them, then `who`) -/
structure Lay where
  hset : Nat := 0
  fills : Nat := 0
  swap : Bool := false
  pads : Nat := 0
  deriving DecidableEq, Repr, Inhabited

def nHost : Nat := 7

def hostTbl (m : Nat) : List GName :=
  (if m % 2 = 1 then [.extra] else []) ++
    ((List.range nHost).filter
      (fun i => !((i == 5 && (m / 2) % 2 == 1) || (i == 3 && (m / 4) % 2 == 1)))).map .host

/-- the names a code object with layout `l` defines itself, in slot order -/
def defNames (l : Lay) : List GName :=
  (List.range l.fills).map .fill ++ (if l.swap then [.act 0, .over 0] else [.over 0, .act 0]) ++
    (List.range l.pads).map .pad ++ [.who]

/-- the symbol table of a code object with layout `l` -/
def codeTbl (l : Lay) : List GName := hostTbl l.hset ++ defNames l

/-- the names REPL snippet `k` adds to the main code's symbol table -/
def snippetNames (k : Nat) : List GName := [.over (k + 1), .act (k + 1)]

/-- symbol table zipped with the `Globals` array: slot `i` ↦ (its name, its value) -/
abbrev Slots := List (GName × GVal)

structure Wrap where
  owner : Owner
  slots : Slots
  deriving DecidableEq, Repr, Inhabited

/-- `Get`'s loop: the first slot whose symbol has the name -/
def scan : Slots → GName → Got
  | [], _ => .notFound
  | (m, v) :: rest, n => if m = n then .val v else scan rest n

/-- `StoreGlobal idx`: the compiler resolved the name to the index of its symbol -/
def store : Slots → GName → GVal → Slots
  | [], _, _ => []
  | (m, v) :: rest, n, x => if m = n then (m, x) :: rest else (m, v) :: store rest n x

/-- `loadRootCode`: a fresh `Globals` array; the host's objects are filled in by NAME -/
def initVal : GName → GVal
  | .host i => .host i
  | _ => .unbound

def loadRoot (o : Owner) (tbl : List GName) : Wrap := ⟨o, tbl.map (fun n => (n, initVal n))⟩

def whoVal : Owner → Nat
  | .code j => 100 + j
  | .setup => 99
  | .main => 0

/-- the value the definition of `n` in code object `o` stores -/
def defVal (o : Owner) : GName → GVal
  | .act s => .fn (.act s) o
  | .over s => .fn (.over s) o
  | .fill i => .fn (.fill i) o
  | .pad i => .int (10 + i)
  | .who => .int (whoVal o)
  | .host i => .host i
  | .extra => .unbound
  | .nosuch => .unbound

/-- the top-level definitions `ns` of the active code are executed -/
def execDefs (w : Wrap) (ns : List GName) : Wrap :=
  { w with slots := ns.foldl (fun sl n => store sl n (defVal w.owner n)) w.slots }

/-- `reloadCode`: the main code is wrapped again (its table may have grown - symbols are only
    ever appended) and the old `Globals` are copied over the new array, slot by slot -/
def reload (old : Wrap) (tbl : List GName) : Wrap :=
  { old with slots := old.slots ++ (tbl.drop old.slots.length).map (fun n => (n, initVal n)) }

/-- the storage `Get` reads, per VM, plus the symbol table of the REPL compiler (world) -/
structure GSt where
  mainTbl : List GName := hostTbl 0   -- world: symbol table of the main code the host's REPL compiler grows
  mainW : Option Wrap := none         -- `vm.loadedCode[main]`
  codeW : Option Wrap := none         -- the wrapper of the root code object loaded by the last RunCode
  active : Option Bool := none        -- `vm.activeCode`: none | main (`true`) | the RunCode object (`false`)
  cur : Nat := 0                      -- host bookkeeping: suffix of the functions of the code run last (`act`: 0, `act_k`: k+1)
  deriving DecidableEq, Repr, Inhabited

/-- `resetForNewCode`: `loadedCode = {}`, `activeCode = nil` -/
def greset (g : GSt) : GSt := { g with mainW := none, codeW := none, active := none }

/-- `RunCode`'s look-up in `vm.loadedCode`: a wrapper that exists is reused as it is -/
def loadCode (g : GSt) (o : Owner) (lay : Lay) : Wrap :=
  match g.codeW with
  | some w => if w.owner = o then w else loadRoot o (codeTbl lay)
  | none => loadRoot o (codeTbl lay)

/-- the definitions for a `Call` on a VM without code: `RunCode(Background, defs)` with a newly
    compiled code object; `p` = the run-state just before -/
def gsetup (g : GSt) (p : St) (lay : Lay) : GSt :=
  let g := if 0 < p.startCount then greset g else g
  { g with codeW := some (execDefs (loadRoot .setup (codeTbl lay)) (defNames lay)),
           active := some false, cur := 0 }

/-- one invocation, seen from the storage `Get` reads (`s` = run-state before it) -/
def ginvoke (g : GSt) (s : St) (k : Nat) (inv : Inv) (lay : Lay) : GSt :=
  let p := preState s k inv
  -- the host compiles the REPL snippet into the main code
  let g := if inv.kind = .run then { g with mainTbl := g.mainTbl ++ snippetNames k } else g
  let g := if inv.kind = .call ∧ p.hasCode = false then gsetup g p lay else g
  let q := prep s k inv
  if q.running then g
  else match inv.kind with
    | .call => g
    | .runCode =>
      let g := if 0 < q.startCount then greset g else g
      let w := loadCode g (.code (codeOf k inv)) lay
      let w := if cut s k inv then w else execDefs w (defNames lay)
      { g with codeW := some w, active := some false, cur := 0 }
    | .run =>
      let w := match g.mainW with
        | some old => reload old g.mainTbl
        | none => loadRoot .main g.mainTbl
      let w := if cut s k inv then w else execDefs w (snippetNames k)
      { g with mainW := some w, active := some true, cur := k + 1 }

def activeWrap (g : GSt) : Option Wrap :=
  match g.active with
  | none => none
  | some true => g.mainW
  | some false => g.codeW

/-- **Impl** `vm.Get(name)`: reads, changes nothing -/
def get (g : GSt) (n : GName) : Got :=
  match activeWrap g with
  | none => .noCode
  | some w => scan w.slots n

/-- `vm.GlobalNames()` -/
def globalNames (g : GSt) : List GName :=
  match activeWrap g with
  | none => []
  | some w => w.slots.map (·.1)

/-- the name of the function a `Call` fetches with `Get` -/
def callTarget (g : GSt) : GName := .act g.cur

/-- `Get` on a freshly wrapped code object with layout `lay` whose definitions have (`bound`)
    or have not been executed -/
def codeGet (lay : Lay) (o : Owner) (bound : Bool) (n : GName) : Got :=
  if n ∈ codeTbl lay then
    .val (if bound && decide (n ∈ defNames lay) then defVal o n else initVal n)
  else .notFound

/-- `Get` on a fresh VM whose main code consists of REPL snippet `k` alone -/
def snippetGet (k : Nat) (bound : Bool) (n : GName) : Got :=
  if n ∈ hostTbl 0 then .val (initVal n)
  else if n ∈ snippetNames k then .val (if bound then defVal .main n else .unbound)
  else .notFound

/-- the name is not one that ANOTHER REPL snippet defines (the REPL keeps the globals of earlier
    snippets by design: the property says nothing about them) -/
def ownName (k : Nat) : GName → Bool
  | .act (j + 1) => j == k
  | .over (j + 1) => j == k
  | _ => true

/-- **Spec** of a look-up right after invocation `k`: what the name resolves to after the same
    invocation on a FRESH VM (same code object contents, context in the same state).  `none`:
    the property demands nothing by itself - a `Call` of a function of the code an earlier
    invocation loaded (the look-ups must then read what they read before the Call,
    `call_keeps_globals`), the names of earlier REPL snippets after a `Run`. -/
def specGet (s : St) (k : Nat) (inv : Inv) (lay : Lay) (n : GName) : Option Got :=
  match inv.kind with
  | .runCode => some (codeGet lay (.code (codeOf k inv)) (!dead s k inv) n)
  | .call => if (preState s k inv).hasCode then none else some (codeGet lay .setup true n)
  | .run => if ownName k n then some (snippetGet k (!dead s k inv) n) else none

/-- `GlobalNames()` after the same invocation on a fresh VM (`none` as for `specGet`; the REPL's
    table holds the names of all snippets by design) -/
def specNames (s : St) (k : Nat) (inv : Inv) (lay : Lay) : Option (List GName) :=
  match inv.kind with
  | .runCode => some (codeTbl lay)
  | .call => if (preState s k inv).hasCode then none else some (codeTbl lay)
  | .run => none

/-- an invocation with the layout of the code object compiled for it (RunCode: the object it is
    handed; Call: the definitions loaded when the VM has no code) and the names the host looks up
    before and after it -/
structure LInv where
  inv : Inv
  lay : Lay := {}
  pre : List GName := []
  post : List GName := []
  deriving DecidableEq, Repr, Inhabited

/-- what the look-ups of one invocation return: before it, after it (with the Spec), and the
    answer of `GlobalNames()` after it -/
structure Looked where
  pre : List Got
  post : List (Got × Option Got)
  names : List GName
  deriving DecidableEq, Repr, Inhabited

def looked (g : GSt) (s : St) (k : Nat) (x : LInv) : Looked :=
  let g' := ginvoke g s k x.inv x.lay
  { pre := x.pre.map (get g),
    post := x.post.map (fun n => (get g' n, specGet s k x.inv x.lay n)),
    names := globalNames g' }

/-- run a history with look-ups on the pair (run-state, name storage) -/
def lrunFrom (s : St) (g : GSt) (k : Nat) : List LInv → List Looked
  | [] => []
  | x :: rest =>
    looked g s k x :: lrunFrom (invoke s k x.inv).1 (ginvoke g s k x.inv x.lay) (k + 1) rest

def lrun (h : List LInv) : List Looked := lrunFrom (fresh 0) {} 0 h

/-- (Impl, Spec) of every look-up made after an invocation of the history -/
def lookPairs (h : List LInv) : List (Got × Option Got) := (lrun h).flatMap (·.post)

/-! #### The variant the property forbids: a per-VM cache name ↦ slot that `Get` fills and trusts
whenever the slot is within the active code's `Globals`, dropped when `Run` reloads the main code
but not when `RunCode` switches the VM to another code object (kept as a contrast: Props proves
that it is not independent of the VM's history, `cachedGet_depends_on_history`). -/

def slotOf : Slots → GName → Option Nat
  | [], _ => none
  | (m, _) :: rest, n => if m = n then some 0 else (slotOf rest n).map (· + 1)

/-- `Get` with the slot cache: (new cache, answer) -/
def getCached (cache : List (GName × Nat)) (g : GSt) (n : GName) : List (GName × Nat) × Got :=
  match activeWrap g with
  | none => (cache, .noCode)
  | some w =>
    match cache.lookup n with
    | some i =>
      if i < w.slots.length then (cache, .val ((w.slots.getD i (n, .unbound)).2))
      else (match slotOf w.slots n with
            | some j => ((n, j) :: cache, .val ((w.slots.getD j (n, .unbound)).2))
            | none => (cache, .notFound))
    | none =>
      match slotOf w.slots n with
      | some j => ((n, j) :: cache, .val ((w.slots.getD j (n, .unbound)).2))
      | none => (cache, .notFound)

def lookCached (cache : List (GName × Nat)) (g : GSt) : List GName → List (GName × Nat) × List Got
  | [] => (cache, [])
  | n :: ns =>
    let r := getCached cache g n
    let r' := lookCached r.1 g ns
    (r'.1, r.2 :: r'.2)

/-- the answers of the look-ups made after each invocation, with the cache -/
def lrunCachedFrom (cache : List (GName × Nat)) (s : St) (g : GSt) (k : Nat) : List LInv → List (List Got)
  | [] => []
  | x :: rest =>
    let g' := ginvoke g s k x.inv x.lay
    let cache := if x.inv.kind = .run then [] else cache
    let r := lookCached cache g' x.post
    r.2 :: lrunCachedFrom r.1 (invoke s k x.inv).1 g' (k + 1) rest

/-! ### What the model assumes about the text of vm/vm.go (tied in Ties.lean to the facts the
extractor regenerates from the source on every run) -/

def expectStartAssigns : List String := ["halt", "running", "startCount"]
/-- `stop` only clears `running`: it does not disarm the watcher `start` spawned -/
def expectStopAssigns : List String := ["running"]
def expectStopCalls : List String := ["vm.runMutex.Lock()", "vm.runMutex.Unlock()"]
def expectResetAssigns : List String :=
  ["activeCode", "activeFrame", "fp", "frames", "halt", "ip", "loadedCode", "modules", "sp", "stack", "tmp"]
def expectResetCondition : String := "resetState && vm.startCount > 1"
def expectMaxFrameDepth : Nat := 1024
def expectMaxStackDepth : Nat := 1024
/-- `Get` and `GlobalNames` assign nothing: a look-up leaves no trace on the VM (model: `get` is a
    function of the state) -/
def expectGetAssigns : List String := []
/-- the only field of the VM `Get` / `GlobalNames` read is the active code (model: `activeWrap`) -/
def expectGetReads : List String := ["activeCode"]
/-- every field of `VirtualMachine` (sorted): the storage that can survive an invocation.
    Accounted for: ip/sp/fp/halt/startCount/running - `St`; stack/frames/tmp - `sp`, `fp` (what
    lies above the pointers is dead); activeFrame/activeCode/main/loadedCode - `hasCode`,
    `loaded`, `cur`, `GSt`; modules/importer - `mods`, `fmod`, `icache`; importing - empty between
    invocations (pushed and popped around a module's code by `importModule`); callDepth - 0 between
    invocations (raised and lowered around a call by `callFunction`'s own Go defer, also on the
    error and panic paths); inputGlobals/
    globals - `DSt` (host DATA converted by copy; `applyOptions` converts on every RunCode); for
    host OBJECTS constant after construction;
    concAllowed/os - options, constant after construction; runMutex/cloneMutex - locks.
    A field that is not in this list is storage the model does not know of. -/
def expectVmFields : List String :=
  ["activeCode", "activeFrame", "callDepth", "cloneMutex", "concAllowed", "fp", "frames", "globals", "halt",
   "importer", "importing", "inputGlobals", "ip", "loadedCode", "main", "modules", "os",
   "runMutex", "running", "sp", "stack", "startCount", "tmp"]

/-! ## Host DATA globals, converted by copy (round 6)

A host global that is plain Go data (`[]any`, `map[string]any`, `[]int`, …) - not an
`object.Object` - is CONVERTED to a new Risor list/map by `applyOptions` (`object.AsObjects`),
which runs at construction and at the start of every `RunCode`; `loadRootCode` then puts the
objects of that conversion into the slots of the code object.  The converted objects are mutable
and scripts update them in place, so when the conversion happens is observable.  Modelled: two
data globals, `data` (a slice of ints) and `cfg` (a map with the entry `"n"`), histories of
`RunCode` invocations that are or are not handed `WithGlobals` (with the same or with changed Go
data) and whose scripts perform any in-place updates before they end - however they end. -/

/-- the value of the data globals: the elements of `data` and the entry `cfg["n"]` -/
structure DVal where
  items : List Int := []
  ctr : Int := 0
deriving DecidableEq, Repr

/-- an in-place update a script performs: `data.append(x)` / `cfg["n"] = cfg["n"] - 1` -/
inductive DOp where
  | app (x : Int)
  | dec
deriving DecidableEq, Repr

def dApply (d : DVal) : DOp → DVal
  | .app x => { d with items := d.items ++ [x] }
  | .dec => { d with ctr := d.ctr - 1 }

def dApplyAll (d : DVal) (ops : List DOp) : DVal := ops.foldl dApply d

/-- one `RunCode` invocation as far as the data globals are concerned.  `give`: the Go data of a
    `WithGlobals` option handed to this RunCode (`none`: no options at all, or only other options
    such as `WithConcurrency`); `ops`: the updates the script has performed when it ends - with a
    value, a runtime error at depth or a recovered panic, possibly half way through its updates. -/
structure DInv where
  give : Option DVal := none
  ops : List DOp := []
deriving DecidableEq, Repr

/-- `input` = `vm.inputGlobals` (the host's Go data; no script can reach it, the conversion
    copies); `conv` = the contents of the Risor objects in `vm.globals`, to which the slots of the
    code object loaded last refer. -/
structure DSt where
  input : DVal
  conv : DVal
deriving DecidableEq, Repr

/-- `vm.New(main, WithGlobals(d))` (or `vm.New(main)` followed by a first RunCode that is handed
    them: `give`) -/
def dNew (d : DVal) : DSt := { input := d, conv := d }

/-- `applyOptions` as it is: the options are applied, then the input globals are converted -
    unconditionally. -/
def dApplyOptions (s : DSt) (give : Option DVal) : DSt :=
  let input := give.getD s.input
  { input := input, conv := input }

/-- `RunCode`: options, reset, `loadRootCode` from `vm.globals`, the script's updates.  Second
    component: what `data`/`cfg` hold when the invocation has ended (the script's last read, and
    the host's `vm.Get` afterwards). -/
def dRunCode (s : DSt) (v : DInv) : DSt × DVal :=
  let s1 := dApplyOptions s v.give
  let c := dApplyAll s1.conv v.ops
  ({ s1 with conv := c }, c)

def dAfterFrom (s : DSt) (h : List DInv) : DSt := h.foldl (fun s v => (dRunCode s v).1) s
/-- the reused VM after the history `h` -/
def dAfter (d0 : DVal) (h : List DInv) : DSt := dAfterFrom (dNew d0) h

def dRunFrom (s : DSt) : List DInv → List DVal
  | [] => []
  | v :: rest => (dRunCode s v).2 :: dRunFrom (dRunCode s v).1 rest
/-- what every invocation of the history sees on ONE VM constructed with the data `d0` -/
def dRun (d0 : DVal) (h : List DInv) : List DVal := dRunFrom (dNew d0) h

/-- the host's Go data after the history: changed only by the host (`WithGlobals`) -/
def dCurrent (d0 : DVal) (h : List DInv) : DVal := h.foldl (fun d v => v.give.getD d) d0

/-- **Spec**: the same invocation on a fresh VM constructed with the host's current Go data -/
def dSpecAt (cur : DVal) (v : DInv) : DVal := (dRunCode (dNew cur) v).2

def dSpecFrom (cur : DVal) : List DInv → List DVal
  | [] => []
  | v :: rest => dSpecAt cur v :: dSpecFrom (v.give.getD cur) rest

/-- the forbidden variant (contrast): convert only when `WithGlobals` was among the options -/
def dApplyOptionsDirty (s : DSt) : Option DVal → DSt
  | some d => { input := d, conv := d }
  | none => s

def dRunCodeDirty (s : DSt) (v : DInv) : DSt × DVal :=
  let s1 := dApplyOptionsDirty s v.give
  let c := dApplyAll s1.conv v.ops
  ({ s1 with conv := c }, c)

def dRunDirtyFrom (s : DSt) : List DInv → List DVal
  | [] => []
  | v :: rest => (dRunCodeDirty s v).2 :: dRunDirtyFrom (dRunCodeDirty s v).1 rest

/-! ## Objects the HOST keeps across invocations (round 7)

Objects with identity survive an invocation on the host's side: a function object or a closure
the host obtained with `vm.Get` (or was handed as a callback by the script through a host
builtin) in invocation i and calls with `vm.Call` - or from a host builtin of a running script -
in invocation j > i; a list it obtained in one invocation and reads in a later one.  In between
the VM runs `RunCode` of the same, of another or of a grown code object: `resetForNewCode`
replaces `vm.loadedCode`, and with it the `Globals` array of the load.  As the code is: a call
looks the function's code up in the CURRENT `vm.loadedCode` (`activateFunction` -> `loadCode`),
so a kept function works on the globals of the load that is current when it is called; when the
root code object of the function is not loaded, `loadChildCode` dereferences a nil root (a
recovered Go panic - an error that depends on the loaded code only).

Script family (one per code object; `p`, `fails` and the target of `fire` are read from the host):
`x := param(); items := [param()]; func bump(n) {x = x + n; items.append(n); return [0, x]};
func peek(n) {return [0, x]}; func mk(k) {return func(n) {x = x + n; return [k, x]}};
cl := mk(param()); reg(bump); x = x + 1; fire(); if fail() {1 + "s"}; x = x + 10` followed by one
`x = x + 1000` per snippet the host has compiled into the code object since. -/

/-- one `Globals` array: made by `loadRootCode` when a RunCode loads the root code object `code`;
    `k` is the value the closure in slot `cl` captured. -/
structure KG where
  code : Nat
  x : Int
  items : List Int
  k : Int
deriving DecidableEq, Repr

/-- the functions of the script: `bump`, `peek`, and the closure `cl` with its captured value -/
inductive KFn where
  | bump
  | peek
  | clo (k : Int)
deriving DecidableEq, Repr

/-- an object the host keeps: a function/closure of (a load of) code object `code`; the list
    object in slot `items` of the array of load number `gen` -/
inductive KObj where
  | fn (code : Nat) (f : KFn)
  | list (gen : Nat)
deriving DecidableEq, Repr

/-- what the host fetches by name with `vm.Get` -/
inductive KWhat where
  | bump | peek | cl | items
deriving DecidableEq, Repr

inductive KRes where
  | ok (k : Int) (x : Int)   -- result `[k, x]` of a function call
  | ranOk | ranErr | ranPanic -- how a RunCode ended
  | notLoaded                -- the function's root code object is not loaded (recovered nil dereference)
  | noCode                   -- vm.Get: no active code
  | kept                     -- vm.Get succeeded, the host keeps the object
  | badTarget                -- not a function / no such kept object (never generated)
  | listIs (xs : List Int)
deriving DecidableEq, Repr

/-- `old`: the arrays of earlier loads, oldest first - unreachable from the VM, reachable from the
    objects the host kept; `cur`: the array of the loaded root code (its load number is
    `old.length`); `kept`: the host's table. -/
structure KSt where
  old : List KG := []
  cur : Option KG := none
  kept : List KObj := []
deriving DecidableEq, Repr

/-- the body of a function, executed on one `Globals` array -/
def kApply (f : KFn) (n : Int) (g : KG) : KG × KRes :=
  match f with
  | .bump => ({ g with x := g.x + n, items := g.items ++ [n] }, .ok 0 (g.x + n))
  | .peek => (g, .ok 0 g.x)
  | .clo k => ({ g with x := g.x + n }, .ok k (g.x + n))

/-- a call of the function `f` of code object `c` as the code is: `loadCode` resolves the
    function's code in the CURRENT table of loaded code -/
def kCallFn (s : KSt) (c : Nat) (f : KFn) (n : Int) : KSt × KRes :=
  match s.cur with
  | some g => if g.code = c then ({ s with cur := some (kApply f n g).1 }, (kApply f n g).2) else (s, .notLoaded)
  | none => (s, .notLoaded)

def kCallObj (s : KSt) (o : Option KObj) (n : Int) : KSt × KRes :=
  match o with
  | some (.fn c f) => kCallFn s c f n
  | _ => (s, .badTarget)

/-- the object `vm.Get` returns for a name -/
def kFetch (s : KSt) (w : KWhat) : Option KObj :=
  match s.cur with
  | none => none
  | some g => some (match w with
    | .bump => .fn g.code .bump
    | .peek => .fn g.code .peek
    | .cl => .fn g.code (.clo g.k)
    | .items => .list s.old.length)

/-- the contents of the list object of load `gen` -/
def kReadList (s : KSt) (gen : Nat) : Option (List Int) :=
  if gen = s.old.length then s.cur.map (·.items) else s.old[gen]?.map (·.items)

inductive KInv where
  /-- `RunCode` of code object `code` (into which the host has compiled `snips` further snippets);
      `fire = some (i, n)`: the host builtin `fire` calls the kept object `i` with `n` -/
  | runCode (code : Nat) (p : Int) (snips : Nat) (fire : Option (Nat × Int)) (fails : Bool)
  | keep (w : KWhat)
  | call (i : Nat) (n : Int)
  | callFresh (w : KWhat) (n : Int)
  | read (i : Nat)
deriving DecidableEq, Repr

/-- reset + `loadRootCode`: a new array; the definitions, `reg(bump)`, `x = x + 1` -/
def kLoad (s : KSt) (c : Nat) (p : Int) : KSt :=
  { old := s.old ++ s.cur.toList, cur := some { code := c, x := p + 1, items := [p], k := p },
    kept := s.kept ++ [.fn c .bump] }

/-- the rest of the script after `fire()`: a fired callback whose code is not loaded is a Go panic
    that ends the run; `if fail() {1 + "s"}`; `x = x + 10` and the grown snippets -/
def kFinish (fails : Bool) (snips : Nat) (r : KSt × KRes) : KSt × KRes :=
  if r.2 = .notLoaded then (r.1, .ranPanic)
  else if fails then (r.1, .ranErr)
  else ({ r.1 with cur := r.1.cur.map (fun g => { g with x := g.x + 10 + 1000 * snips }) }, .ranOk)

def kRunCode (s : KSt) (c : Nat) (p : Int) (snips : Nat) (fire : Option (Nat × Int)) (fails : Bool) : KSt × KRes :=
  let s1 := kLoad s c p
  let r := match fire with
    | some (i, n) => kCallObj s1 s1.kept[i]? n
    | none => (s1, .ok 0 0)
  kFinish fails snips r

def kStep (s : KSt) : KInv → KSt × KRes
  | .runCode c p sn fr fl => kRunCode s c p sn fr fl
  | .keep w => match kFetch s w with
    | some o => ({ s with kept := s.kept ++ [o] }, .kept)
    | none => (s, .noCode)
  | .call i n => kCallObj s s.kept[i]? n
  | .callFresh w n => match kFetch s w with
    | some o => kCallObj s (some o) n
    | none => (s, .noCode)
  | .read i => match s.kept[i]? with
    | some (.list g) => (s, match kReadList s g with | some xs => .listIs xs | none => .badTarget)
    | _ => (s, .badTarget)

def kAfterFrom (s : KSt) (h : List KInv) : KSt := h.foldl (fun s v => (kStep s v).1) s
/-- the machine after the history `h` on a new VM -/
def kAfter (h : List KInv) : KSt := kAfterFrom {} h

def kRunFrom (s : KSt) : List KInv → List KRes
  | [] => []
  | v :: rest => (kStep s v).2 :: kRunFrom (kStep s v).1 rest

/-- what a later invocation can depend on, by the property: the array of the CURRENT load and
    which functions the host keeps - not the arrays of earlier loads -/
def KObj.callee : KObj → Option (Nat × KFn)
  | .fn c f => some (c, f)
  | .list _ => none

def kView (s : KSt) : Option KG × List (Option (Nat × KFn)) := (s.cur, s.kept.map KObj.callee)

/-- **Spec** of one invocation: a call of a kept function of the loaded code = fetching the
    function again (`vm.Get`) and calling that; a RunCode = the same RunCode on a VM that has
    forgotten every earlier load (the kept functions of other code objects stay foreign) -/
def kSpecRes (s : KSt) : KInv → KRes
  | .call i n => match s.kept[i]?, s.cur with
    | some (.fn c f), some g =>
      if g.code = c then
        (kStep s (.callFresh (match f with | .bump => .bump | .peek => .peek | .clo _ => .cl) n)).2 |>
          (fun r => match r, f with | .ok _ x, .clo k => .ok k x | r, _ => r)
      else .notLoaded
    | some (.fn _ _), none => .notLoaded
    | _, _ => .badTarget
  | .read i => (kStep s (.read i)).2
  | .runCode c p sn fr fl => (kStep { s with old := [], cur := none } (.runCode c p sn fr fl)).2
  | v => (kStep { s with old := [] } v).2

/-! #### The variant the property forbids: every function object remembers the loaded code (and
with it the `Globals` array) of its first call, and nothing invalidates that -/

structure KCSt where
  st : KSt := {}
  /-- per kept object: the load number whose array the function object remembers -/
  bound : List (Option Nat) := []
deriving DecidableEq, Repr

def kcArr (s : KSt) (g : Nat) : Option KG := if g = s.old.length then s.cur else s.old[g]?

def kcSetArr (s : KSt) (g : Nat) (a : KG) : KSt :=
  if g = s.old.length then { s with cur := some a } else { s with old := s.old.set g a }

def kcCallObj (s : KCSt) (i : Nat) (n : Int) : KCSt × KRes :=
  match s.st.kept[i]? with
  | some (.fn c f) =>
    match (s.bound[i]?).join with
    | some g => match kcArr s.st g with
      | some a => ({ s with st := kcSetArr s.st g (kApply f n a).1 }, (kApply f n a).2)
      | none => (s, .badTarget)
    | none =>
      let r := kCallFn s.st c f n
      ({ st := r.1, bound := if r.2 = .notLoaded then s.bound else s.bound.set i (some s.st.old.length) }, r.2)
  | _ => (s, .badTarget)

def kcPad (s : KCSt) : KCSt := { s with bound := s.bound ++ List.replicate (s.st.kept.length - s.bound.length) none }

def kcStep (s : KCSt) : KInv → KCSt × KRes
  | .runCode c p sn fr fl =>
    let s1 : KCSt := kcPad { s with st := kLoad s.st c p }
    let r := match fr with
      | some (i, n) => kcCallObj s1 i n
      | none => (s1, .ok 0 0)
    let f := kFinish fl sn (r.1.st, r.2)
    ({ r.1 with st := f.1 }, f.2)
  | .call i n => kcCallObj s i n
  | v => let r := kStep s.st v; (kcPad { s with st := r.1 }, r.2)

def kcRunFrom (s : KCSt) : List KInv → List KRes
  | [] => []
  | v :: rest => (kcStep s v).2 :: kcRunFrom (kcStep s v).1 rest


end Risor.C07
