import RisorModel.C07.Model
import RisorModel.Generated.C07
/-!
C07 ties: the structural facts regenerated from `vm/vm.go` by the extractor on this run
equal what the hand-written run-state model assumes.  A source edit to `start`, `stop`,
`resetForNewCode`, the reset condition, `eval`'s halt poll, `callFunction`'s deferred
unwinding or the recover/stop wrappers breaks exactly one named lemma.
-/
namespace Risor.C07
open Risor.Generated.C07

/-- `start` clears `halt` (model: `start` sets `halt := false`) and touches nothing else
    but `running` and `startCount` -/
theorem start_clears_halt_tie : startClearsHalt = true ∧ startAssigns = expectStartAssigns := ⟨rfl, rfl⟩

/-- `start` arms exactly one watcher, only for contexts with a Done channel
    (model: `armed := if bg then armed else k :: armed`) -/
theorem start_arms_watcher_tie :
    startArmsWatcher = true ∧ watcherOnlyWithDoneChan = true ∧ startGoStmts = 1 := ⟨rfl, rfl, rfl⟩

/-- `stop` only clears `running` and calls nothing: the watcher is never disarmed
    (model: `armed` survives the invocation) -/
theorem stop_never_disarms_tie :
    stopAssigns = expectStopAssigns ∧ stopCalls = expectStopCalls := ⟨rfl, rfl⟩

/-- `resetForNewCode` resets sp, fp, ip, halt, the code caches AND `modules`
    (model: `reset`), under the condition `resetState && vm.startCount > 1` (model: `enter`) -/
theorem reset_tie :
    resetAssigns = expectResetAssigns ∧ resetCondition = expectResetCondition := ⟨rfl, rfl⟩

/-- `Run` resumes at `vm.ip` (the harness drives it with the REPL protocol) -/
theorem run_resumes_at_ip_tie : runResumesAtIP = true := rfl

/-- `eval` polls `halt` and returns `ctx.Err()` of the CURRENT context (model: `leafOutcome`) -/
theorem poll_returns_ctx_err_tie : pollReturnsCtxErr = true := rfl

/-- every way out of a call runs the deferred `resumeFrame`, and Run/RunCode/Call recover
    panics and always reach `stop` (model: `core` restores `fp`, `invoke` clears `running`) -/
theorem unwind_and_stop_tie :
    callFunctionDefersResume = true ∧ runRecoversAndStops = true ∧ callRecoversAndStops = true := ⟨rfl, rfl, rfl⟩

/-- modules supplied as globals live in `vm.modules` (model: `mods`, initially true) -/
theorem global_modules_tie : applyOptionsRegistersModules = true := rfl

/-- `Get` and `GlobalNames` assign no field of the VM and read only the active code: a look-up
    leaves no trace and its answer depends on nothing but the active code (model: `get`,
    `globalNames` are functions of `activeWrap`; `lookups_leave_no_trace`) -/
theorem get_is_read_only_tie :
    getAssigns = expectGetAssigns ∧ globalNamesAssigns = expectGetAssigns ∧
    getReads = expectGetReads ∧ globalNamesReads = expectGetReads := ⟨rfl, rfl, rfl, rfl⟩

/-- the fields of `VirtualMachine` are exactly the ones the model accounts for
    (`expectVmFields`): a new field is per-VM storage the model does not know of -/
theorem vm_fields_tie : vmFields = expectVmFields := rfl

theorem limits_tie :
    maxFrameDepth = expectMaxFrameDepth ∧ maxStackDepth = expectMaxStackDepth := ⟨rfl, rfl⟩

end Risor.C07
