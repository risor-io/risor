import RisorModel.C03.Model
import RisorModel.C03.Lemmas
import RisorModel.Generated.C03
import RisorModel.Generated.C03Front
/-!
C03 ties: facts regenerated from /repo on this run (extract/c03.go; extract/c03front.go for
the front-end section) against the reviewed lists.  The comparisons of panic sites, unchecked
type assertions, recover scopes, re-entries of `vm.eval` and parser loops that drop the result of
`nextToken` are one-sided on purpose: a NEW panic site, a NEW unchecked type assertion, a REMOVED
recover scope, a NEW re-entry or dropping loop breaks a lemma; deleting a panic or adding a
recover (an improvement) does not.  The others are equalities (the frame array, the uses of the call depth,
the array limits, the emit sites' operand counts against op/op.go, the index / slice sites of
lexer and parser with their classes, the parser's recursion points): any change breaks them.
-/
namespace Risor.C03
open Risor.Generated.C03

/-- Every entry of the regenerated table `gen` is, literally, an entry of the reviewed table `rev`:
    each is found at its position, and an entry that `rev` lacks is left over as the goal, with
    its text.  (Evaluating `contains` instead makes the kernel compare strings byte by byte,
    which is slow for entries of this length.) -/
macro "found_in_table" gen:ident rev:ident : tactic =>
  `(tactic| simp only [$gen:ident, $rev:ident, List.all_cons, List.all_nil, List.contains_cons,
      beq_self_eq_true, Bool.true_or, Bool.or_true, Bool.and_true])

/-- Explicit panics on the parse/compile path, each read against its callers:
* `compile#0` (unknown node type) fires for a nil `ast.Node` interface — reachable today
  through the parser's nil children (finding C03-parser-nil-node);
* `makeInstruction#0` cannot fire: `emit_arity_ok` below;
* `GetLineText#0/#1` cannot fire for tokens the lexer produced: `C03_partial_lineText`
  (Props) + the per-token correspondence check. -/
def reviewedPanicSites : List String := [
  "compiler.Compiler.compile#0: panic(fmt.Sprintf(\"compile error: unknown ast node type: %T\", node))",
  "compiler.makeInstruction#0: panic(\"compile error: wrong operand count\")",
  "lexer.Lexer.GetLineText#0: panic(fmt.Errorf(\"invalid token start position: %d token: %q input length: %…)",
  "lexer.Lexer.GetLineText#1: panic(fmt.Errorf(\"invalid token start line: %d\", tokenStart.Line))"
]

/-- `parseGetAttr` asserts `p.parseIdent().(*ast.Ident)` right after checking that the
    current token is an IDENT; `parseIdent` returns nil only for an empty literal, which
    `readIdentifier` never produces. -/
def reviewedAsserts : List String := [
  "parser.Parser.parseGetAttr#0: p.parseIdent().(*ast.Ident)"
]

/-- vm/: `New` panics only when a host global cannot be converted (not with the default
    globals; `risor.Eval` uses `Run`→`createVM` which returns the error); `reloadCode` and
    `wrapCode` are reached only under `runCodeInternal`'s recover. -/
def reviewedVmPanicSites : List String := [
  "vm.New#0: panic(err)",
  "vm.VirtualMachine.reloadCode#0: panic(\"main code not loaded\")",
  "vm.wrapCode#0: panic(fmt.Sprintf(\"unsupported constant type: %T\", constant))"
]

/-- `Parser.nextToken` stops advancing once `p.err` is set, so a loop of the parser that
    calls it and DROPS its result must end some other way when an error is recorded.  These
    are all such loops (function#ordinal of the `for` in the function, condition, number of
    dropped calls directly in the loop), each read against the code:
* `parseVar#0`, `parseDeclaration#0` (`for p.peekTokenIs(COMMA)`): the dropped call moves to
  the comma and is followed by `expectPeek(IDENT)`, which fails — and returns — when the
  token did not move (the peek token is still the comma);
* `parseSwitch#0` (the outer loop, Model: `switchLoop`): the dropped call moves past `case`;
  every path of a round then returns or reaches the CHECKED `nextToken` before the block of
  the case (`switchLoop_terminates`; that call and the two of the comma loop `parseSwitch#1`
  were dropped calls until the repair of `C03-switch-error-loop`: with them the list has
  `parseSwitch#0 … 2 unchecked` and `parseSwitch#1 … 2 unchecked`, which are NOT reviewed);
* `parseFromImport#2` (`for {`): after `as` and after `,` the next statement is
  `expectPeek(IDENT)`, which fails when the token did not move (or the loop breaks);
* `parseFuncParams#0`: every round starts with a return (EOF, not an identifier) or with
  the checked `nextToken` after the parameter name;
* `parsePipe#0` (`for {`): the dropped call is followed by `continue`, and the round starts
  with a checked `nextToken`;
* `parseMapOrSet#1`: the dropped call is followed by `break`; `parseMapOrSet#5`: the dropped
  call (move to the comma) ends the round, the next round starts with a checked `nextToken`. -/
def reviewedAdvanceLoops : List String := [
  "parser.Parser.parseDeclaration#0: for p.peekTokenIs(token.COMMA): 1 unchecked nextToken()",
  "parser.Parser.parseFromImport#2: for (no condition): 2 unchecked nextToken()",
  "parser.Parser.parseFuncParams#0: for !p.curTokenIs(token.RPAREN): 3 unchecked nextToken()",
  "parser.Parser.parseMapOrSet#1: for !p.peekTokenIs(token.RBRACE): 1 unchecked nextToken()",
  "parser.Parser.parseMapOrSet#5: for !p.peekTokenIs(token.RBRACE): 1 unchecked nextToken()",
  "parser.Parser.parsePipe#0: for (no condition): 1 unchecked nextToken()",
  "parser.Parser.parseSwitch#0: for !p.curTokenIs(token.RBRACE): 1 unchecked nextToken()",
  "parser.Parser.parseVar#0: for p.peekTokenIs(token.COMMA): 1 unchecked nextToken()"
]

/-- no loop of the parser drops the result of `nextToken` outside the reviewed list: in
    particular the comma loop of a case list does not (it is not in the table at all) and the
    outer loop of parseSwitch drops only the call after `case` — the two loops are the ones
    `caseLoop` / `switchLoop` model, with their `nextToken` results tested -/
theorem parser_advance_loops_reviewed :
    parserAdvanceLoops.all (reviewedAdvanceLoops.contains ·) = true := by
  found_in_table parserAdvanceLoops reviewedAdvanceLoops

/-- the two entries the table had before the repair of `C03-switch-error-loop` (the comma
    loop dropping both results, the outer loop dropping two) are gone -/
theorem preFix_switch_loops_absent :
    parserAdvanceLoops.contains "parser.Parser.parseSwitch#1: for p.peekTokenIs(token.COMMA): 2 unchecked nextToken()" = false ∧
    parserAdvanceLoops.contains "parser.Parser.parseSwitch#0: for !p.curTokenIs(token.RBRACE): 2 unchecked nextToken()" = false := by
  decide +kernel

/-- no explicit panic on the parse/compile path outside the reviewed list -/
theorem panic_sites_reviewed : panicSites.all (reviewedPanicSites.contains ·) = true := by
  found_in_table panicSites reviewedPanicSites

/-- no unchecked type assertion on the parse/compile/option path outside the reviewed list -/
theorem unchecked_asserts_reviewed : uncheckedAsserts.all (reviewedAsserts.contains ·) = true := by
  found_in_table uncheckedAsserts reviewedAsserts

/-- no explicit panic in vm/ outside the reviewed list -/
theorem vm_panic_sites_reviewed : vmPanicSites.all (reviewedVmPanicSites.contains ·) = true := by
  found_in_table vmPanicSites reviewedVmPanicSites

/-- `Run`/`RunCode`, `Call` and spawned threads still recover -/
theorem recover_scopes_present : requiredRecovers.all (vmRecovers.contains ·) = true := by
  found_in_table requiredRecovers vmRecovers

/-- … hence, with the recover scopes the extractor finds in the code of THIS run, no
    evaluation — whatever its entry point, whatever panics in its main code and in any of
    the threads it starts — ends with the process killed (model level; the harness's
    `thread|…` cases observe the same on the real code with concurrency enabled). -/
theorem code_scopes_contain_panics (x : Exec) : x.killed vmRecovers = false :=
  exec_not_killed vmRecovers recover_scopes_present x

/-- the array sizes of the VM model are the ones in vm/vm.go -/
theorem vm_limits_match : maxStackDepth = maxStack ∧ maxFrameDepth = maxFrames := by decide +kernel

/-! ### Native nesting (Model 4c) -/

/-- `frames` and `stack` of `vm.VirtualMachine` are Go ARRAYS of the two limits: every index
    into them is bounds-checked by Go and an index past the end is a Go panic (which the
    recover scopes contain), whichever function computes the index.  A slice that grows has no
    such end: `each_reentry_needs_bound`. -/
theorem frames_fixed_array :
    vmArrays = ["frames: [MaxFrameDepth]frame", "stack: [MaxStackDepth]object.Object"] := rfl

/-- the three places where `vm.eval` is called, each after claiming a frame: frame 0 for the
    entry point, frame `fp+1` for every function call (`callFunction`: the Call opcode,
    callbacks of builtins through the context's CallFunc, `vm.Call`, deferred calls) and for
    every module body (`importModule`) — the frame-index test of the `enter` step of `nestStep`;
    `callFunction` is the only one of them that can be re-entered at the SAME frame index (its
    deferred calls), and it is the one that counts its nesting: `call_depth_discipline` -/
def reviewedEvalReentries : List String := [
  "vm.VirtualMachine.callFunction: activateFunction(vm.fp + 1, …) then eval",
  "vm.VirtualMachine.importModule: activateCode(vm.fp + 1, …) then eval",
  "vm.VirtualMachine.runCodeInternal: activateCode(0, …) then eval"
]

/-- no re-entry of `vm.eval` outside the reviewed list (none that claims no frame, or another
    frame than `fp+1`) -/
theorem eval_reentries_reviewed :
    evalReentries.all (reviewedEvalReentries.contains ·) = true := by
  found_in_table evalReentries reviewedEvalReentries

/-- what `callFunction` does with its nesting counter, in source order: it TESTS `vm.callDepth`
    against `MaxFrameDepth` (= `maxCalls`: `vm_limits_match`) and returns the error before
    anything is claimed; raises it; lowers it in the Go `defer` that is registered FIRST — which
    therefore runs LAST, after the `defer` registered later that runs the frame's deferred calls
    (`range callFrame.defers`): the counter is still raised while those run; `activateFunction`
    and `eval` come after the test.  No other function of vm/ reads or writes the counter
    (`Clone` builds the clone's struct without it: a clone starts at 0, like `Nest.init`).
    This is the `enter` step of `nestStep` with `checked = true`, and the `leave` / `defersDone`
    steps' `calls - 1`. -/
def reviewedCallDepthUses : List String := [
  "vm.VirtualMachine.callFunction: if vm.callDepth >= MaxFrameDepth { return }; callDepth++; defer{; callDepth--; }; activateFunction; defer{; range defers; }; eval"
]

/-- the nesting counter of `callFunction` is used exactly as reviewed (since the repair of
    `C03-defer-recursion-stack-overflow`; on the pre-fix code the list was
    `["…callFunction: defer{; }; activateFunction; defer{; range defers; }; eval"]` — no test:
    `preFixNestRun`) -/
theorem call_depth_discipline : callDepthUses = reviewedCallDepthUses := rfl

/-! ### Mutexes (Model 4d) -/

/-- the mutex calls of a function are `m.Lock()` then `defer m.Unlock()` on the same `m` (or
    the read-lock pair), and nothing else: on every path through the function the mutex is
    taken once and released once, at the return -/
def lockThenDeferUnlock (ops : List (String × String × Bool)) : Bool :=
  match ops with
  | [(m1, "Lock", false), (m2, "Unlock", true)] => m1 == m2
  | [(m1, "RLock", false), (m2, "RUnlock", true)] => m1 == m2
  | _ => false

/-- every function of importer/, vm/, compiler/ and the root package that touches a mutex
    follows that discipline: no `Unlock` by hand anywhere on the evaluation path, hence no
    path on which a deferred `Unlock` can meet a mutex that was already released -/
theorem mutex_discipline : mutexOps.all (fun f => lockThenDeferUnlock f.2) = true := by decide +kernel

/-- a mutex call of the table as an event of the model -/
def evOf : String × String × Bool → Option MuEv
  | (_, "Lock", false) => some .lock
  | (_, "Unlock", false) => some .unlock
  | (_, "Unlock", true) => some .deferUnlock
  | _ => none

/-- the mutex events of `LocalImporter.Import` and `FSImporter.Import` in the code of THIS run
    are the ones of the Impl model, on every path — so `import_never_fatal` (Props) speaks
    about this code: no sequence of imports, whatever the module files contain, ends the
    process or leaves the importer locked (the harness's `importer|…` and `import|…` cases
    observe the same on the real importers) -/
theorem importer_lock_discipline (cached : Bool) (f : FileSt) :
    (mutexOps.lookup "importer.LocalImporter.Import").map (·.filterMap evOf) = some (implPaths cached f) ∧
    (mutexOps.lookup "importer.FSImporter.Import").map (·.filterMap evOf) = some (implPaths cached f) := by
  unfold implPaths
  constructor <;> decide +kernel

/-- every emit site names its opcode as a constant and passes operands one by one -/
theorem emit_all_static : emitDynamic = [] := rfl

/-- emit_arity_ok: at EVERY `c.emit(op.X, …)` site of compiler/ the number of operands
    passed equals the operand count op/op.go registers for `X` … -/
theorem emit_arity_ok :
    emitSites.all (fun s => opOperands.lookup s.2.1 == some s.2.2) = true := by decide +kernel

/-- … hence `makeInstruction`'s "wrong operand count" panic cannot fire at any of them. -/
theorem emit_never_panics (s : String × String × Nat) (hs : s ∈ emitSites) :
    ∃ c, opOperands.lookup s.2.1 = some c ∧ (makeInstruction c s.2.2).isPanic = false := by
  have h := emit_arity_ok
  rw [List.all_eq_true] at h
  have := h s hs
  simp only [beq_iff_eq] at this
  refine ⟨s.2.2, this, ?_⟩
  simp [makeInstruction, Out.isPanic]

/-! ### Front end: index / slice bounds, nesting depth (extract/c03front.go) -/

open Risor.Generated.C03Front in
/-- Every index `x[i]` and slice expression `x[a:b]` on a slice, array or string (maps are not
    listed) of lexer/lexer.go and parser/*.go, with what the extractor could establish
    SYNTACTICALLY about its upper bound (`bound-check`: dominated by a test against `len(x)` that
    names the index; `loop-len`; `const-fixed`; `slice-len-derived`; `UNGUARDED`: nothing
    established — each of those is read against the code below).  A Go index out of range is
    a run-time panic, and nothing on the parse path recovers (the regenerated list
    `Generated.C03.frontRecovers` of the functions there that call `recover()` is empty in the code
    of this run; no tie states that): each entry here
    is a place where `parser.Parse` could let a Go panic out.

    The classified entries, for the record: `GetLineText|l.characters[end]` is right of
    `end < len(l.characters) &&`; `peekChar` returns NUL first when
    `l.nextPosition >= len(l.characters)`; `readChar` indexes inside
    `if l.position < len(l.characters)`; `parseInt|lit[1:]` is inside `… && len(lit) > 1`;
    `parseString|statements[0]` is in the else-branch of `len(statements) == 0`.
    (The extractor does not look at LOWER bounds: `end` in `GetLineText` is negative only for an
    EOF token at offset 0 of a non-empty input, `C03_counterexample_lineText`, outside
    `lineTextGuard`; the other classified indices are lexer positions ≥ 0 and constants.) -/
def reviewedFrontIndexSites : List String := [
  "lexer.Lexer.GetLineText|l.characters[end]|bound-check",
  -- REVIEW: `start` is `tokenStart.Char` (minus 1 for EOF), the panic guard above admits
  -- `Char ≤ len+1`, the loop tests only `start > 0`: for a token inside `lineTextGuard`
  -- (Props: non-EOF `Char ≤ len`, EOF `1 ≤ Char ≤ len+1`) `0 < start ≤ len`, so `start-1` is
  -- in range — `C03_partial_lineText`.  OUTSIDE the guard it is NOT: a non-EOF token with
  -- `Char = len+1` indexes `l.characters[len]`.  The lexer produces no such token (its token
  -- starts are positions it has read, EOF at `len`); the harness compares every token.
  "lexer.Lexer.GetLineText|l.characters[start-1]|UNGUARDED",
  -- REVIEW: same function, same theorem: inside `lineTextGuard` the two scans return
  -- `0 ≤ s ≤ e ≤ len` (`C03_partial_lineText`: "a slice `[s, e)` inside the input").
  "lexer.Lexer.GetLineText|l.characters[start:end]|UNGUARDED",
  "lexer.Lexer.peekChar|l.characters[l.nextPosition]|bound-check",
  -- REVIEW: `position = l.position+1` at the opening backtick; the loop calls `readChar` at
  -- least once before `break` (so `l.position ≥ position`: `readChar` is the only writer of
  -- `position`/`nextPosition` and moves by one) and only after `peekChar() != 0`, i.e.
  -- `l.nextPosition < len(l.characters)`: at `break` `l.position < len`.  In range.
  "lexer.Lexer.readBacktick|l.characters[position:l.position]|UNGUARDED",
  "lexer.Lexer.readChar|l.characters[l.position]|bound-check",
  -- REVIEW: `allChars` is the 16-byte constant "0123456789abcdef"; `base` is a parameter of
  -- the unexported `readEscapeSequence`, whose seven call sites (all in `readString`) pass
  -- the literals 16 or 8.  In range.
  "lexer.Lexer.readEscapeSequence|allChars[:base]|UNGUARDED",
  -- REVIEW: `idents` starts as the one-element literal `[]*ast.Ident{ast.NewIdent(p.curToken)}`
  -- and is only appended to (the test before it is `len(idents) > 1 → return`).  In range.
  "parser.Parser.parseDeclaration|idents[0]|UNGUARDED",
  "parser.Parser.parseInt|lit[1:]|bound-check",
  -- REVIEW: inside `if strings.HasPrefix(lit, "0x")`, hence `len(lit) ≥ 2`.  In range.
  "parser.Parser.parseInt|lit[2:]|UNGUARDED",
  "parser.Parser.parseString|statements[0]|bound-check",
  -- REVIEW: as parseDeclaration: one-element literal, only appended to.  In range.
  "parser.Parser.parseVar|idents[0]|UNGUARDED"
]

/-- the UNGUARDED entries of the table above, on their own: a NEW index or slice expression
    that no test against `len` dominates is named by the lemma that fails -/
def reviewedUnguardedFrontSites : List String := [
  "lexer.Lexer.GetLineText|l.characters[start-1]|UNGUARDED",
  "lexer.Lexer.GetLineText|l.characters[start:end]|UNGUARDED",
  "lexer.Lexer.readBacktick|l.characters[position:l.position]|UNGUARDED",
  "lexer.Lexer.readEscapeSequence|allChars[:base]|UNGUARDED",
  "parser.Parser.parseDeclaration|idents[0]|UNGUARDED",
  "parser.Parser.parseInt|lit[2:]|UNGUARDED",
  "parser.Parser.parseVar|idents[0]|UNGUARDED"
]

/-- the index and slice expressions of lexer/lexer.go and parser/*.go in the code of THIS run,
    with their classes, are exactly the reviewed ones (two-sided: a new site, a site whose
    dominating test was removed — its class changes — and a removed site all break it) -/
theorem front_index_sites_reviewed :
    Risor.Generated.C03Front.frontIndexSites = reviewedFrontIndexSites := rfl

/-- the sites with no dominating test are exactly the seven read by hand above (the extractor
    emits them as a list of their own; `front_unguarded_is_filter` ties that list to the table) -/
theorem front_unguarded_sites_reviewed :
    Risor.Generated.C03Front.frontUnguardedSites = reviewedUnguardedFrontSites := rfl

/-- the short list is the UNGUARDED part of the full table, nothing dropped: every entry of
    `frontIndexSites` is in `frontUnguardedSites` or in the reviewed table with another class -/
theorem front_unguarded_is_filter :
    Risor.Generated.C03Front.frontIndexSites.all (fun s =>
      Risor.Generated.C03Front.frontUnguardedSites.contains s ||
      (reviewedFrontIndexSites.contains s && !reviewedUnguardedFrontSites.contains s)) = true := by
  decide +kernel

/-- The real recursive-descent parser has NO nesting-depth guard: no constant, variable, field,
    parameter, local or function of parser/*.go has "depth" in its name (no `depth`, no
    `maxDepth`).  The nesting-depth theorem of the Pratt model (C03/FrontProps.lean: the depth
    of the tree is at most the number of tokens) is therefore the ONLY bound there is: the
    native recursion of `parseExpression` grows with the input, and a source of about a million
    nested brackets ends the process with a fatal stack overflow — finding
    `C03-deep-nesting-stack-overflow` (known, listed).  If a guard is added to the parser this
    lemma breaks: its constant must then be tied here and the finding re-judged. -/
theorem parser_has_no_depth_guard : Risor.Generated.C03Front.parserDepthGuards = [] := rfl

/-- the recursion points of the parser: every function of parser/parser.go that calls
    `parseExpression` directly.  Each is reached from `parseExpression` through the prefix /
    infix / postfix tables or from `parseStatement`, so each adds native frames per level of
    nesting of its construct (brackets, calls, `[`, `{`, prefix operators, `if`, `switch`,
    `func` bodies through `parseStatement`, …) with nothing counting them
    (`parser_has_no_depth_guard`). -/
theorem parser_recursion_points_reviewed :
    Risor.Generated.C03Front.parserRecursiveEntry = [
      "parser.Parser.parseAssign",
      "parser.Parser.parseAssignmentValue",
      "parser.Parser.parseDefer",
      "parser.Parser.parseExprList",
      "parser.Parser.parseFor",
      "parser.Parser.parseFuncParams",
      "parser.Parser.parseGetAttr",
      "parser.Parser.parseGo",
      "parser.Parser.parseGroupedExpr",
      "parser.Parser.parseIf",
      "parser.Parser.parseIn",
      "parser.Parser.parseIndex",
      "parser.Parser.parseInfixExpr",
      "parser.Parser.parseKeyValue",
      "parser.Parser.parseMapOrSet",
      "parser.Parser.parseNotIn",
      "parser.Parser.parsePipe",
      "parser.Parser.parsePrefixExpr",
      "parser.Parser.parseRange",
      "parser.Parser.parseReceive",
      "parser.Parser.parseReturn",
      "parser.Parser.parseSend",
      "parser.Parser.parseSwitch",
      "parser.Parser.parseTernary"
    ] := rfl

end Risor.C03
