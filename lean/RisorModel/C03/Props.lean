import RisorModel.C03.Model
import RisorModel.C03.Lemmas
/-!
C03 — no source text or script can crash or panic the embedding process.

The property quantifies over all source strings and all scripts.  What is proved here, for
ALL inputs (no bound on length, nesting, steps or heap size), is that each modelled place
where the Go code can fault either cannot fault or faults only under a named, decidable
condition:

* error rendering: `FriendlyErrorMessage` over ALL spans (same line or not), `GetLineText` over
  every token position the lexer's registers can produce;
* the VM's fixed arrays: an out-of-range index is always the recovered error;
* recover scopes: a Go panic on any goroutine a script can start stays an error;
* native nesting of `vm.eval`: for every sequence of calls, callbacks of builtins, host calls,
  imports and deferred calls, the frame array and the call depth of `callFunction` keep the
  nesting below `2 * maxFrames`; recursion through `defer` alone ends with a returned error;
* the importer's mutex: every sequence of `Import` calls, whatever the module files contain at
  the time of each call, returns what the mutex-free Spec returns and leaves the mutex free; an
  `Unlock` by hand on the error path ends the process;
* `Inspect` terminates on every heap, cyclic ones included; `Equals` does not (the finding),
  and does on every heap without cycles;
* the two loops of `parseSwitch` that depend on `nextToken` end on EVERY token stream, error
  recorded or not;
* one VM entered many times: for every sequence of Run / RunCode / Call entries under contexts
  without a Done channel, cancellable or cancelled ones, each entry returns what it returns
  alone and no Go panic leaves an entry point;
* integer-literal initialisers: with `uint(count)` shifts only a zero divisor panics, and the VM
  turns that into the error of the run;
* `vm.Get` on one VM pointed at one code object after another: each lookup is answered from the
  code loaded last and no Go panic leaves `Get`; a name → slot memo is as good iff it is dropped
  at every switch;
* one file object closed by the script and by the watcher goroutine of the opening context: for
  every order of closes, cancellation and watcher progress no event panics on either goroutine.

A full statement is `C03_full_…`.  Where the unchanged code violates it (`C03_full_lineText`,
`C03_full_equals`) it is a `def … : Prop` with a proved counterexample, a decidable guard and a
`_partial` theorem.  Where it holds it is a theorem (`C03_full_caret`, `C03_full_caseLoop`) or a
`def … : Prop` with a theorem that proves it (`C03_full_native`, `C03_full_life`); `C03_full_get`
and `C03_full_file` take the variant of the machine as a parameter and are proved for the code
as it is and refuted for the defective variant.  For the defects repaired in risor
(`C03-friendly-multiline-span`, `C03-defer-recursion-stack-overflow`, `C03-switch-error-loop`)
the pre-fix machine, its counterexample (`C03_fixed_…`) and the guarded theorem
(`C03_preFix_partial_…`) are kept in the sections marked historical.  The parser and
the compiler as a whole are NOT modelled: their panics are covered by the regenerated
panic-site/emit-site tables (Ties.lean) and by search (harness), see checks/C03.json.
-/
namespace Risor.C03

/-! ## Error rendering -/

/-- Within one line the column register only grows: if the lexer goes from state `s` to
    state `t` by any number of `readChar` calls and is still on the same line, then
    `s.col ≤ t.col`.  For every input, every start state, every number of steps. -/
theorem same_line_col_le (cs : Array Nat) (k : Nat) :
    ∀ s : LexSt, (readChars cs k s).line = s.line → s.col ≤ (readChars cs k s).col := by
  induction k with
  | zero => intro s _; exact Int.le_refl _
  | succ k ih =>
    intro s h
    rw [readChars_succ] at h ⊢
    have hm := line_mono cs k (readChar cs s)
    rcases readChar_cases cs s with h1 | h1 | h1
    · rw [h1] at h ⊢; exact ih s h
    · have := ih (readChar cs s) (by omega)
      omega
    · omega

theorem padLen_nonneg (sc : Int) : 0 ≤ padLen sc := by
  unfold padLen; simp only; split <;> omega

theorem padLen_of_nonneg {sc : Int} (h : 0 ≤ sc) : padLen sc = sc := by
  unfold padLen; simp only; split <;> omega

theorem caretLen_pos (sl sc el ec lineLen : Int) : 1 ≤ caretLen sl sc el ec lineLen := by
  unfold caretLen; simp only; split <;> omega

/-- neither count is negative, so neither `strings.Repeat` panics -/
theorem friendly_eq (sl sc el ec lineLen : Int) :
    friendly sl sc el ec lineLen = .ok ((padLen sc).toNat, (caretLen sl sc el ec lineLen).toNat) := by
  have hp := padLen_nonneg sc
  have hn := caretLen_pos sl sc el ec lineLen
  unfold friendly
  simp only
  rw [if_neg (by omega), if_neg (by omega)]

/-- **`FriendlyErrorMessage` cannot panic, whatever span it is given** (before risor's repair
    `fix: keep the caret line of a parse error inside the quoted line` this held only under the
    guard `singleLineSpan`, see the historical section below).  For ALL integers —
    start line/column, end line/column, number of runes of the quoted line; no relation
    between them is assumed, so every `ParserError` a host can build is covered, not only
    those the parser builds — both `strings.Repeat` counts are non-negative and there is at
    least one caret. -/
theorem C03_caret_nonneg (startLine startCol endLine endCol lineLen : Int) :
    ∃ pad n, friendly startLine startCol endLine endCol lineLen = .ok (pad, n) ∧ 1 ≤ n := by
  have hn := caretLen_pos startLine startCol endLine endCol lineLen
  exact ⟨_, _, friendly_eq startLine startCol endLine endCol lineLen, by omega⟩

/-- The full statement (the code before the repair of risor violated it:
    `C03_fixed_caret_panicked`): `FriendlyErrorMessage` never panics, whatever span
    (start = the lexer at rune `a`, end = `k` characters later, on the same line or not) an
    error carries and whatever line it quotes. -/
theorem C03_full_caret (cs : Array Nat) (a k : Nat) (lineLen : Int) :
    (friendly (stateAt cs a).line (stateAt cs a).col
      (readChars cs k (stateAt cs a)).line (readChars cs k (stateAt cs a)).col lineLen).isPanic = false := by
  obtain ⟨pad, n, h, _⟩ := C03_caret_nonneg (stateAt cs a).line (stateAt cs a).col
    (readChars cs k (stateAt cs a)).line (readChars cs k (stateAt cs a)).col lineLen
  rw [h]; rfl

/-- a span that ends on a later line is underlined from its start column to the end of the
    quoted line: for every start column `0 ≤ sc` inside a quoted line of `lineLen > sc` runes,
    padding and carets together are exactly as long as the quoted line -/
theorem friendly_multi_line (sl sc el ec lineLen : Int) (hl : el ≠ sl) (h0 : 0 ≤ sc) (h1 : sc < lineLen) :
    friendly sl sc el ec lineLen = .ok (sc.toNat, (lineLen - sc).toNat) := by
  have hp : padLen sc = sc := padLen_of_nonneg h0
  have hn : caretLen sl sc el ec lineLen = lineLen - sc := by
    unfold caretLen; simp only; rw [if_pos hl, hp]; split <;> omega
  rw [friendly_eq, hp, hn]

/-- the guard the partial theorem carried before the repair: the span ends on the line it
    starts on -/
def singleLineSpan (cs : Array Nat) (a k : Nat) : Bool :=
  (readChars cs k (stateAt cs a)).line == (stateAt cs a).line

/-- three spaces, then a backtick string that contains a newline:  `␣␣␣`a⏎``  -/
def twoLineBacktick : Array Nat := #[32, 32, 32, 96, 97, 10, 96]

/-- the pre-fix counterexample renders now: the backtick token of `twoLineBacktick` starts in
    column 3 of line 0 (quoted line `␣␣␣`a`, 5 runes) and ends in column 0 of line 1:
    3 blanks and 2 carets -/
example : friendly (stateAt twoLineBacktick 3).line (stateAt twoLineBacktick 3).col
    (readChars twoLineBacktick 3 (stateAt twoLineBacktick 3)).line
    (readChars twoLineBacktick 3 (stateAt twoLineBacktick 3)).col 5 = .ok (3, 2) := by decide +kernel

/-! ### Historical: the caret computation before the repair -/

theorem preFixFriendly_ok (sc tc : Int) (h0 : 0 ≤ sc) (h : sc ≤ tc) :
    preFixFriendly sc tc = .ok (sc.toNat, (tc - sc + 1).toNat) := by
  unfold preFixFriendly
  have e1 : sc + 1 - 1 = sc := by omega
  have e2 : tc + 1 - (sc + 1) + 1 = tc - sc + 1 := by omega
  simp only [e1, e2]
  rw [if_neg (by omega), if_neg (by omega)]

/-- the full statement about the PRE-FIX computation (false): it never panics, whatever span
    (start = the lexer at rune `a`, end = `k` characters later) an error carries. -/
def C03_preFix_full_caret : Prop :=
  ∀ (cs : Array Nat) (a k : Nat),
    (preFixFriendly (stateAt cs a).col (readChars cs k (stateAt cs a)).col).isPanic = false

/-- HISTORICAL (finding `C03-friendly-multiline-span`, repaired): before the fix the backtick
    token of `twoLineBacktick`, which starts in column 3 of line 0 and ends in column 0 of
    line 1, gave `colEnd - colStart + 1 = -2` and `strings.Repeat` panicked. -/
theorem C03_fixed_caret_panicked : ¬ C03_preFix_full_caret := by
  intro h
  have := h twoLineBacktick 3 3
  revert this
  decide +kernel

/-- HISTORICAL: what could be proved of the pre-fix computation — for every input, every
    token start and every span that stays on one line it computed a non-negative padding and
    at least one caret. -/
theorem C03_preFix_partial_caret (cs : Array Nat) (a k : Nat) (hg : singleLineSpan cs a k = true) :
    ∃ pad n, preFixFriendly (stateAt cs a).col (readChars cs k (stateAt cs a)).col = .ok (pad, n) ∧ 1 ≤ n := by
  simp only [singleLineSpan, beq_iff_eq] at hg
  have h0 := stateAt_col_nonneg cs a
  have h1 := same_line_col_le cs k (stateAt cs a) hg
  refine ⟨_, _, preFixFriendly_ok _ _ h0 h1, ?_⟩
  omega

/-- **The repair changes nothing inside one line.**  For every input, every token start and
    every span that stays on one line (exactly the spans that rendered before), the repaired
    `FriendlyErrorMessage` draws the padding and the carets the old one drew, whatever line
    it quotes. -/
theorem friendly_single_line_unchanged (cs : Array Nat) (a k : Nat) (lineLen : Int)
    (hg : singleLineSpan cs a k = true) :
    friendly (stateAt cs a).line (stateAt cs a).col
      (readChars cs k (stateAt cs a)).line (readChars cs k (stateAt cs a)).col lineLen
    = preFixFriendly (stateAt cs a).col (readChars cs k (stateAt cs a)).col := by
  simp only [singleLineSpan, beq_iff_eq] at hg
  have h0 := stateAt_col_nonneg cs a
  have h1 := same_line_col_le cs k (stateAt cs a) hg
  have hn : caretLen (stateAt cs a).line (stateAt cs a).col (readChars cs k (stateAt cs a)).line
      (readChars cs k (stateAt cs a)).col lineLen
      = (readChars cs k (stateAt cs a)).col - (stateAt cs a).col + 1 := by
    unfold caretLen; simp only; rw [if_neg (by omega)]; split <;> omega
  rw [preFixFriendly_ok _ _ h0 h1, friendly_eq, padLen_of_nonneg h0, hn]

example : singleLineSpan #[120, 32, 58, 61, 32, 49, 50, 51] 5 2 = true := by decide +kernel
example : singleLineSpan twoLineBacktick 3 3 = false := by decide +kernel

/-- guard of `GetLineText`: what the lexer guarantees about the token it is given -/
def lineTextGuard (cs : Array Nat) (char line : Int) (isEOF : Bool) : Bool :=
  decide (0 ≤ char) && decide (char ≤ cs.size + 1) && decide (0 ≤ line) &&
  (if isEOF then decide (1 ≤ char) else decide (char ≤ cs.size))

/-- FULL statement (false): `GetLineText` returns for every token position. -/
def C03_full_lineText : Prop :=
  ∀ (cs : Array Nat) (char line : Int) (isEOF : Bool), (getLineText cs char line isEOF).isPanic = false

/-- COUNTEREXAMPLE: an EOF token at offset 0 of a non-empty input (`start--` gives −1 and
    `l.characters[-1]` is indexed).  The parser never asks for it (an EOF at offset 0 is the
    first token, so there is nothing to report); the harness checks that on every input. -/
theorem C03_counterexample_lineText : ¬ C03_full_lineText := by
  intro h
  have := h #[0, 97] 0 0 true
  revert this
  decide +kernel

/-- PARTIAL: for every input and every token position inside the guard, `GetLineText`
    returns a slice `[s, e)` inside the input — no range panic, no index panic. -/
theorem C03_partial_lineText (cs : Array Nat) (char line : Int) (isEOF : Bool)
    (hg : lineTextGuard cs char line isEOF = true) :
    ∃ s e, getLineText cs char line isEOF = .ok (s, e) ∧ 0 ≤ s ∧ s ≤ e ∧ e ≤ cs.size := by
  simp only [lineTextGuard, Bool.and_eq_true, decide_eq_true_eq] at hg
  obtain ⟨⟨⟨h0, h1⟩, h2⟩, h3⟩ := hg
  unfold getLineText
  split
  · rename_i hlen
    exact ⟨0, 0, rfl, Int.le_refl _, Int.le_refl _, by omega⟩
  · rw [if_neg (by omega), if_neg (by omega)]
    have hc : 0 ≤ (if isEOF = true then char - 1 else char) ∧
        (if isEOF = true then char - 1 else char) ≤ cs.size := by
      cases isEOF
      · simp only [Bool.false_eq_true, if_false, decide_eq_true_eq] at h3 ⊢; omega
      · simp only [if_true, decide_eq_true_eq] at h3 ⊢; omega
    obtain ⟨s, hs, hs0, hs1⟩ := scanBack_ok cs (cs.size + 2) _ hc.1 hc.2
    obtain ⟨e, he, he0, he1⟩ := scanFwd_ok cs (cs.size + 2) _ hc.1 hc.2
    simp only [hs, he]
    rw [if_neg (by omega)]
    exact ⟨s, e, rfl, hs0, by omega, he1⟩

example : lineTextGuard #[97, 10, 98] 2 1 false = true := by decide +kernel
example : lineTextGuard #[97, 10, 98] 4 1 true = true := by decide +kernel

/-! ## VM arrays -/

/-- a step that succeeds has tested the index it writes, so the new state is in bounds -/
theorem vmStep_inBounds (s s' : Vm) (o : VmOp) (hb : InBounds s) (h : vmStep s o = .ok s') :
    InBounds s' := by
  unfold InBounds at *
  cases o with
  | push | pop | call =>
    simp only [vmStep] at h
    split at h
    · cases h; simp only; unfold maxStack maxFrames at *; omega
    · cases h
  | ret =>
    simp only [vmStep] at h
    cases h; simp only; unfold maxStack maxFrames at *; omega

/-- vm_bounds_are_errors: for EVERY sequence of pushes, pops, calls and returns (any length)
    started from an in-bounds state, the run either ends in an in-bounds state — every
    `vm.stack[sp]` / `vm.frames[fp]` access it made was inside the 1024-slot arrays — or it
    stopped at the first out-of-range access with the recovered error.  There is no third
    outcome: nothing is written outside the arrays and nothing is stuck. -/
theorem vm_bounds_are_errors (ops : List VmOp) :
    ∀ s : Vm, InBounds s →
      (∃ s', vmRun s ops = .ok s' ∧ InBounds s') ∨ (∃ w, vmRun s ops = .recovered w) := by
  induction ops with
  | nil => intro s hb; exact Or.inl ⟨s, rfl, hb⟩
  | cons o os ih =>
    intro s hb
    unfold vmRun
    cases hs : vmStep s o with
    | ok s' => exact ih s' (vmStep_inBounds s s' o hb hs)
    | recovered w => exact Or.inr ⟨w, rfl⟩

theorem init_inBounds : InBounds Vm.init := by
  unfold InBounds Vm.init maxStack maxFrames; simp

/-- exactly 1024 values fit; the 1025th push is the recovered error (not a crash) -/
example : vmStep ⟨1022, 0⟩ .push = .ok ⟨1023, 0⟩ := by decide +kernel
example : vmStep ⟨1023, 0⟩ .push = .recovered "index out of range (stack)" := by decide +kernel
example : vmStep ⟨5, 1022⟩ .call = .ok ⟨5, 1023⟩ := by decide +kernel
example : vmStep ⟨5, 1023⟩ .call = .recovered "index out of range (frames)" := by decide +kernel
example : vmRun Vm.init (List.replicate 20 .push ++ List.replicate 21 .pop) = .recovered "index out of range (stack)" := by decide +kernel
example : vmRun Vm.init [.pop] = .recovered "index out of range (stack)" := by decide +kernel

/-! ## Recover scopes: a Go panic on any goroutine a script can start stays an error -/

/-- recover_scopes_contain: for EVERY set of recovering functions that includes the three
    required ones (`runCodeInternal`, `Call`, `object.NewThread`), EVERY evaluation — entered
    through Run/RunCode or Call, with any main body and any number of thread bodies, each of
    which may raise a Go panic — leaves the process alive: each panic becomes the error of
    its own entry.  Quantifies over all scope lists, entries and bodies; the tie
    `recover_scopes_present` instantiates `scopes` with what the extractor reads from the
    code (`code_scopes_contain_panics`). -/
theorem recover_scopes_contain (scopes : List String)
    (h : requiredRecovers.all (scopes.contains ·) = true) (x : Exec) :
    x.killed scopes = false :=
  exec_not_killed scopes h x

/-- … in particular for every VM operation sequence run on a thread's fresh VM: either it
    stays inside the arrays, or the thread's result is the error `panic: index out of
    range …`; the process is never killed. -/
theorem thread_vm_panics_are_errors (ops : List VmOp) :
    enterImpl .thread (Body.ofVm (vmRun Vm.init ops)) = .value ∨
    ∃ w, enterImpl .thread (Body.ofVm (vmRun Vm.init ops)) = .error ("panic: " ++ w) := by
  cases h : vmRun Vm.init ops with
  | ok s => exact Or.inl rfl
  | recovered w => exact Or.inr ⟨w, by simp [Body.ofVm, enterImpl, enter, requiredRecovers, Entry.scope]⟩

/-- every one of the three scopes is needed: without a scope, a panic under the entry it
    guards kills the process (so the hypothesis of `recover_scopes_contain` cannot be
    weakened, and a `recover()` that no longer recovers — e.g. one moved out of the deferred
    closure into a helper — is a violation the harness must be able to exhibit). -/
theorem each_scope_needed (e : Entry) (w : String) :
    enter (requiredRecovers.filter (· != e.scope)) e (.panics w) = .killed w := by
  -- what was filtered out is not there
  have h : (requiredRecovers.filter (· != e.scope)).contains e.scope = false := by simp
  show (if (requiredRecovers.filter (· != e.scope)).contains e.scope = true then
    ProcRes.error ("panic: " ++ w) else ProcRes.killed w) = ProcRes.killed w
  rw [h]; rfl

/-- the concrete shape of such a failure: main code that returns and one spawned thread in
    which a Go panic is raised (the frame array overrun by unbounded recursion); only
    `object.NewThread`'s scope is missing -/
example : (Exec.mk .run .returns [.panics "index out of range (frames)"]).killed
    ["vm.VirtualMachine.Call", "vm.VirtualMachine.runCodeInternal"] = true := by decide +kernel
/-- the same evaluation with all three scopes -/
example : (Exec.mk .run .returns [.panics "index out of range (frames)"]).killed requiredRecovers = false := by decide +kernel
-- 1024 nested calls on a thread's fresh VM are such a body
set_option maxRecDepth 20000 in
example : Body.ofVm (vmRun Vm.init (List.replicate 1024 .call)) = .panics "index out of range (frames)" := by decide +kernel
example : enterImpl .thread (.panics "x") = .error "panic: x" := by decide +kernel
example : enterImpl .run .returns = .value := by decide +kernel
example : requiredRecovers.all (requiredRecovers.contains ·) = true := by decide +kernel

/-! ## Native nesting of `vm.eval`: bounded by the frame array and by the call depth -/

/-- the part of the invariant that both machines (repaired and pre-fix) keep: every native
    activation holds a frame or is a `callFunction` in its deferred-call stage, and the frame
    index is inside the array -/
def Nest.Framed (s : Nest) : Prop := s.native ≤ s.fp + s.opened ∧ s.fp < maxFrames

/-- the invariant of the repaired machine: `Framed`, every deferred-call stage belongs to an
    open `callFunction`, and at most `maxCalls` of those are open -/
def Nest.Inv (s : Nest) : Prop := s.Framed ∧ s.opened ≤ s.calls ∧ s.calls ≤ maxCalls

theorem Nest.init_inv : Nest.init.Inv := by
  unfold Nest.Inv Nest.Framed Nest.init maxFrames maxCalls maxFrames; simp

/-- an `enter` that succeeds has passed the array test and, where `callFunction` tests its
    nesting, the depth test; it adds a frame and a native activation -/
theorem nestStepG_enter_ok {checked : Bool} {limit : Nat} {s s' : Nest} {r : Reentry}
    (h : nestStepG allBounded checked limit s (.enter r) = .ok s') :
    s.fp + 1 < maxFrames ∧ ((checked && r.viaCallFunction) = true → s.calls < maxCalls) ∧
    s' = ⟨s.fp + 1, s.native + 1, s.opened, if r.viaCallFunction then s.calls + 1 else s.calls⟩ := by
  simp only [nestStepG, allBounded, Bool.true_and] at h
  split at h
  · cases h
  · rename_i hd
    split at h
    · cases h
    · rename_i hf
      split at h
      · cases h
        exact ⟨by simpa using hf, fun hc => by simpa [hc] using hd, rfl⟩
      · cases h

/-- only an `enter` that passed the array test and found the stack full ends the process -/
theorem nestStepG_killed {checked : Bool} {limit : Nat} {s : Nest} {o : NOp} {w : String}
    (h : nestStepG allBounded checked limit s o = .killed w) :
    s.fp + 1 < maxFrames ∧ limit < s.native + 1 := by
  cases o with
  | enter r =>
    simp only [nestStepG, allBounded, Bool.true_and] at h
    split at h
    · cases h
    · split at h
      · cases h
      · rename_i hf
        split at h
        · cases h
        · exact ⟨by simpa using hf, by omega⟩
  | leave | exitDefers | defersDone | leaveMod => simp only [nestStepG] at h; split at h <;> cases h

/-- one step keeps `native ≤ fp + opened` and `fp < maxFrames`, with or without the depth test -/
theorem nestStepG_framed (checked : Bool) (limit : Nat) (s s' : Nest) (o : NOp)
    (hi : s.Framed) (h : nestStepG allBounded checked limit s o = .ok s') : s'.Framed := by
  obtain ⟨hi, hf⟩ := hi
  unfold Nest.Framed
  cases o with
  | enter r =>
    obtain ⟨c, -, rfl⟩ := nestStepG_enter_ok h
    exact ⟨by simp only; omega, c⟩
  | leave | exitDefers | defersDone | leaveMod =>
    simp only [nestStepG] at h
    split at h <;> cases h
    · exact ⟨by simp only; omega, by simp only; omega⟩
    · exact ⟨hi, hf⟩

/-- one step of the repaired machine keeps the whole invariant: a `callFunction` activation is
    added only while fewer than `maxCalls` are open -/
theorem nestStep_inv (limit : Nat) (s s' : Nest) (o : NOp)
    (hi : s.Inv) (h : nestStep limit s o = .ok s') : s'.Inv := by
  obtain ⟨hfr, ho, hc⟩ := hi
  refine ⟨nestStepG_framed true limit s s' o hfr h, ?_⟩
  cases o with
  | enter r =>
    obtain ⟨-, hd, rfl⟩ := nestStepG_enter_ok h
    cases hv : r.viaCallFunction
    · exact ⟨ho, hc⟩
    · have := hd (by rw [hv]; rfl)
      exact ⟨by simp only [if_true]; omega, by simp only [if_true]; omega⟩
  | leave | exitDefers | defersDone | leaveMod =>
    simp only [nestStep, nestStepG] at h
    split at h <;> cases h
    · exact ⟨by simp only; omega, by simp only; omega⟩
    · exact ⟨ho, hc⟩

/-- a run is never killed when some property of the state and the rest of the sequence is kept
    by every step and, below the end of the frame array, leaves room on the stack for one more
    activation -/
theorem nestRunG_not_killed {checked : Bool} {limit : Nat} (P : Nest → List NOp → Prop)
    (keep : ∀ s o r s', P s (o :: r) → nestStepG allBounded checked limit s o = .ok s' → P s' r)
    (room : ∀ s o r, P s (o :: r) → s.fp + 1 < maxFrames → s.native + 1 ≤ limit) (ops : List NOp) :
    ∀ s, P s ops → ∀ w, nestRunG allBounded checked limit s ops ≠ .killed w := by
  induction ops with
  | nil => intro s _ w h; cases h
  | cons o r ih =>
    intro s hp w
    simp only [nestRunG]
    cases hs : nestStepG allBounded checked limit s o with
    | ok s' => exact ih s' (keep s o r s' hp hs) w
    | recovered w' => simp
    | failed w' => simp
    | killed w' =>
      have ⟨hf, hn⟩ := nestStepG_killed hs
      have := room s o r hp hf
      omega

/-- **`C03_partial_native` (unguarded since the repair of `C03-defer-recursion-stack-overflow`)**:
    for EVERY sequence of re-entries, exits and deferred-call stages (any length, any mix of the
    five ways compiled code is entered, deferred calls included), from every state that satisfies
    the invariant, and for EVERY native stack that holds `2 * maxFrames` activations of `vm.eval`
    (at most `maxFrames - 1` frames in use plus at most `maxCalls = maxFrames` open
    `callFunction` activations in their deferred-call stage), the run is never killed.  It stays
    inside the two bounds, or stops with the recoverable index panic or the returned
    `max call depth exceeded` error. -/
theorem C03_partial_native (limit : Nat) (hl : 2 * maxFrames ≤ limit) (ops : List NOp) :
    ∀ s : Nest, s.Inv → ∀ w, nestRun limit s ops ≠ .killed w :=
  nestRunG_not_killed (fun s _ => s.Inv) (fun s o _ s' hi h => nestStep_inv limit s s' o hi h)
    (fun s _ _ ⟨⟨h1, _⟩, h3, h4⟩ _ => by unfold maxCalls at h4; omega) ops

/-- FULL statement: some finite goroutine stack is enough for every sequence. -/
def C03_full_native : Prop :=
  ∃ limit, ∀ (ops : List NOp) (w : String), nestRun limit Nest.init ops ≠ .killed w

/-- **The full statement holds** (it was false before the repair:
    `C03_fixed_native_was_unbounded`): a stack of `2 * maxFrames` activations is enough for
    everything a script can do. -/
theorem C03_native_never_killed : C03_full_native :=
  ⟨2 * maxFrames, fun ops w => C03_partial_native _ (Nat.le_refl _) ops Nest.init Nest.init_inv w⟩

/-- … and under every entry point, with the three recover scopes, every run is a value or an
    error for the host — never the death of the process (no guard on the sequence). -/
theorem nest_contained (limit : Nat) (hl : 2 * maxFrames ≤ limit) (ops : List NOp) (e : Entry) :
    (enterNest requiredRecovers e (nestRun limit Nest.init ops)).isKilled = false := by
  have h := C03_partial_native limit hl ops Nest.init Nest.init_inv
  cases hr : nestRun limit Nest.init ops with
  | ok s => rfl
  | recovered w =>
    simp only [enterNest]
    exact enter_not_killed requiredRecovers (by simp) e (.panics w)
  | failed w => rfl
  | killed w => exact absurd hr (h w)

/-! ### the finer bound by the number of deferred-call stages (both machines) -/

theorem peakOpen_ge (ops : List NOp) : ∀ o, o ≤ peakOpen o ops := by
  induction ops with
  | nil => intro o; exact Nat.le_refl _
  | cons op r _ =>
    intro o
    cases op <;> simp only [peakOpen] <;> exact Nat.le_max_left _ _

theorem peakOpen_mono (ops : List NOp) : ∀ o o', o ≤ o' → peakOpen o ops ≤ peakOpen o' ops := by
  induction ops with
  | nil => intro o o' h; exact h
  | cons op r ih =>
    intro o o' h
    cases op with
    | exitDefers =>
      simp only [peakOpen]
      have := ih (o + 1) (o' + 1) (by omega)
      omega
    | defersDone =>
      simp only [peakOpen]
      have := ih (o - 1) (o' - 1) (by omega)
      omega
    | enter _ | leave | leaveMod =>
      simp only [peakOpen]
      have := ih o o' h
      omega

/-- the `opened` counter after a step is at most what `peakOpen` continues with -/
theorem peakOpen_step (checked : Bool) (limit : Nat) (s s' : Nest) (o : NOp) (r : List NOp)
    (h : nestStepG allBounded checked limit s o = .ok s') :
    peakOpen s'.opened r ≤ peakOpen s.opened (o :: r) := by
  cases o with
  | enter q =>
    obtain ⟨-, -, rfl⟩ := nestStepG_enter_ok h
    simp only [peakOpen]; exact Nat.le_max_right _ _
  | leave | leaveMod =>
    simp only [nestStepG] at h
    split at h <;> cases h <;> (simp only [peakOpen]; exact Nat.le_max_right _ _)
  | exitDefers =>
    simp only [nestStepG] at h
    split at h <;> cases h
    · simp only [peakOpen]; exact Nat.le_max_right _ _
    · simp only [peakOpen]
      have := peakOpen_mono r s.opened (s.opened + 1) (by omega)
      omega
  | defersDone =>
    simp only [nestStepG] at h
    split at h <;> cases h
    · simp only [peakOpen]; exact Nat.le_max_right _ _
    · rename_i hz
      have hz' : s.opened = 0 := by omega
      simp only [peakOpen, hz']
      exact Nat.le_max_right _ _

/-- for EVERY sequence, from every framed state, on either machine: if the stack holds
    `maxFrames` activations plus as many as deferred-call stages are ever open at once
    (`peakOpen`, a decidable function of the sequence), the run is never killed.  This was the
    strongest true statement before the repair (`C03_preFix_partial_native`); on the repaired
    machine it is a finer bound than `C03_partial_native` for sequences with few stages. -/
theorem nest_peak_bound (checked : Bool) (limit : Nat) (ops : List NOp) :
    ∀ s : Nest, s.Framed → peakOpen s.opened ops + maxFrames ≤ limit →
      ∀ w, nestRunG allBounded checked limit s ops ≠ .killed w :=
  fun s hf hp => nestRunG_not_killed
    (fun s ops => s.Framed ∧ peakOpen s.opened ops + maxFrames ≤ limit)
    (fun s o r s' ⟨hf, hp⟩ h => ⟨nestStepG_framed checked limit s s' o hf h, by
      have := peakOpen_step checked limit s s' o r h
      omega⟩)
    (fun s o r ⟨⟨h1, _⟩, hp⟩ _ => by
      have := peakOpen_ge (o :: r) s.opened
      omega)
    ops s ⟨hf, hp⟩

/-- … in particular without deferred-call stages: every stack that holds `maxFrames`
    activations is enough for EVERY sequence of calls, callbacks of builtins, host calls and
    imports, however they are mixed — recursion through a builtin's callback is stopped by
    the frame array exactly as recursion through the Call opcode is. -/
theorem native_bounded_by_frames (limit : Nat) (hl : maxFrames ≤ limit) (ops : List NOp)
    (hg : peakOpen 0 ops = 0) (w : String) : nestRun limit Nest.init ops ≠ .killed w := by
  apply nest_peak_bound true limit ops Nest.init
  · unfold Nest.Framed Nest.init maxFrames; simp
  · show peakOpen 0 ops + maxFrames ≤ limit
    omega

/-- the repair changes nothing for nesting that grows the frame index: on every sequence without
    a deferred-call stage (calls, callbacks of builtins, host calls, imports, their exits) the
    repaired machine and the pre-fix machine do the same, step by step — the frame array ends
    such recursion first, with the same recovered index panic as before. -/
theorem repair_unchanged_without_defer_stages (limit : Nat) (ops : List NOp) :
    ∀ s : Nest, s.opened = 0 → s.calls ≤ s.fp → s.fp < maxFrames → peakOpen 0 ops = 0 →
      nestRun limit s ops = preFixNestRun limit s ops := by
  induction ops with
  | nil => intro s _ _ _ _; rfl
  | cons o r ih =>
    intro s h0 hc hf hp
    show nestRunG allBounded true limit s (o :: r) = nestRunG allBounded false limit s (o :: r)
    -- fewer `callFunction` activations than frames are open, so the depth test passes
    have hstep : nestStepG allBounded true limit s o = nestStepG allBounded false limit s o := by
      cases o with
      | enter q =>
        have : decide (maxCalls ≤ s.calls) = false := by
          unfold maxCalls; simp only [decide_eq_false_iff_not]; omega
        simp [nestStepG, this]
      | _ => rfl
    simp only [nestRunG, hstep]
    cases hs : nestStepG allBounded false limit s o with
    | ok s' =>
      simp only
      -- the step keeps the three hypotheses; it is not `exitDefers`, whose peak is at least 1
      cases o with
      | exitDefers =>
        simp only [peakOpen] at hp
        have := peakOpen_ge r (0 + 1)
        omega
      | enter q =>
        obtain ⟨c, -, rfl⟩ := nestStepG_enter_ok hs
        simp only [peakOpen] at hp
        refine ih _ h0 ?_ c (by omega)
        show (if q.viaCallFunction = true then s.calls + 1 else s.calls) ≤ s.fp + 1
        split <;> omega
      | leave | defersDone | leaveMod =>
        simp only [peakOpen, Nat.zero_sub] at hp
        simp only [nestStepG] at hs
        split at hs <;> cases hs
        · exact ih _ (by simp only; omega) (by simp only; omega) (by simp only; omega) (by omega)
        · exact ih _ h0 hc hf (by omega)
    | recovered w' => rfl
    | failed w' => rfl
    | killed w' => rfl

/-! ### recursion through `defer` alone: stopped by the call depth; before the repair, by nothing -/

/-- the first call of a run: one frame, one native activation, one `callFunction` activation -/
theorem nestRunG_first_call {checked : Bool} {limit : Nat} (hl : 1 ≤ limit) (r : List NOp) :
    nestRunG allBounded checked limit Nest.init (.enter .callOp :: r)
      = nestRunG allBounded checked limit ⟨1, 1, 0, 1⟩ r := by
  have hm : (0 : Nat) + 1 < maxFrames := by unfold maxFrames; omega
  have hz : ¬ maxCalls ≤ 0 := by unfold maxCalls maxFrames; omega
  simp [nestRunG, nestStepG, allBounded, Reentry.viaCallFunction, Nest.init, hm, hz, hl]

/-- one round of a recursion through `defer` alone that is let through (by the depth test, if
    there is one, and by the stack): the body ends and gives its frame back, the deferred call
    claims it again — the frame index is 1 as before, one native activation and one
    `callFunction` activation more are open -/
theorem deferRound {checked : Bool} {limit k o c : Nat} (h1 : o < c)
    (hd : checked = true → c < maxCalls) (hk : k + 1 ≤ limit) (r : List NOp) :
    nestRunG allBounded checked limit ⟨1, k, o, c⟩ (.exitDefers :: .enter .deferred :: r)
      = nestRunG allBounded checked limit ⟨1, k + 1, o + 1, c + 1⟩ r := by
  have hm : (0 : Nat) + 1 < maxFrames := by unfold maxFrames; omega
  have hc : ¬ (checked = true ∧ maxCalls ≤ c) := fun ⟨a, b⟩ => by have := hd a; omega
  simp [nestRunG, nestStepG, allBounded, Reentry.viaCallFunction, h1, hm, hk, hc]

/-- the rounds of a recursion through `defer` alone on the repaired machine: the round that
    finds `maxCalls` activations of `callFunction` open is refused -/
theorem deferRounds_fail (limit : Nat) (n : Nat) :
    ∀ k o c, o < c → c ≤ maxCalls → k + (maxCalls - c) ≤ limit → maxCalls - c < n →
      nestRun limit ⟨1, k, o, c⟩ (deferRounds n) = .failed "max call depth exceeded" := by
  induction n with
  | zero => intro k o c _ _ _ h; omega
  | succ n ih =>
    intro k o c h1 h2 h3 h4
    show nestRunG allBounded true limit ⟨1, k, o, c⟩ (.exitDefers :: .enter .deferred :: deferRounds n) = _
    by_cases cc : maxCalls ≤ c
    · simp [nestRunG, nestStepG, Reentry.viaCallFunction, h1, cc]
    · rw [deferRound h1 (fun _ => by omega) (by omega)]
      exact ih (k + 1) (o + 1) (c + 1) (by omega) (by omega) (by omega) (by omega)

/-- `func w(x) { defer w(x+1) }; w(0)` on the repaired machine: on every stack that holds
    `maxFrames` activations, `maxFrames` or more rounds end with the returned error
    `max call depth exceeded` — an ordinary evaluation error, not the death of the process. -/
theorem pure_defer_recursion_fails (limit : Nat) (hl : maxFrames ≤ limit) (n : Nat) (hn : maxFrames ≤ n) :
    nestRun limit Nest.init (pureDeferRecursion n) = .failed "max call depth exceeded" := by
  have hm : 1 < maxFrames := by unfold maxFrames; omega
  show nestRunG allBounded true limit Nest.init (.enter .callOp :: deferRounds n) = _
  rw [nestRunG_first_call (by omega)]
  exact deferRounds_fail limit n 1 0 1 (by omega) (by unfold maxCalls; omega)
    (by unfold maxCalls; omega) (by unfold maxCalls; omega)

/-- HISTORICAL — the rounds of a recursion through `defer` alone on the pre-fix machine: one
    native activation is added per round, until the stack limit is passed -/
theorem preFix_deferRounds_kill (limit : Nat) (n : Nat) :
    ∀ k o c, o < c → k ≤ limit → limit < k + n →
      preFixNestRun limit ⟨1, k, o, c⟩ (deferRounds n) = .killed "stack overflow" := by
  induction n with
  | zero => intro k o c _ h1 h2; omega
  | succ n ih =>
    intro k o c h0 h1 h2
    show nestRunG allBounded false limit ⟨1, k, o, c⟩ (.exitDefers :: .enter .deferred :: deferRounds n) = _
    have hm : (0 : Nat) + 1 < maxFrames := by unfold maxFrames; omega
    by_cases cc : k + 1 ≤ limit
    · rw [deferRound h0 (fun h => by cases h) cc]
      exact ih (k + 1) (o + 1) (c + 1) (by omega) cc (by omega)
    · simp [nestRunG, nestStepG, allBounded, h0, hm, cc]

/-- HISTORICAL (`C03_fixed_…`: the defect `C03-defer-recursion-stack-overflow` as it was) —
    `func w(x) { defer w(x+1) }; w(0)` on the pre-fix machine: whatever the stack limit,
    `limit + 1` rounds pass it — the frame index never gets past 1, so the frame array never
    ends the recursion, and nothing else did. -/
theorem C03_fixed_pure_defer_recursion_killed (limit : Nat) :
    preFixNestRun limit Nest.init (pureDeferRecursion (limit + 1)) = .killed "stack overflow" := by
  show nestRunG allBounded false limit Nest.init (.enter .callOp :: deferRounds (limit + 1)) = _
  have hm : (0 : Nat) + 1 < maxFrames := by unfold maxFrames; omega
  by_cases c : 1 ≤ limit
  · rw [nestRunG_first_call c]
    exact preFix_deferRounds_kill limit (limit + 1) 1 0 1 (by omega) c (by omega)
  · simp [nestRunG, nestStepG, allBounded, Nest.init, hm, c]

/-- HISTORICAL — before the repair the full statement was false: no finite stack was enough. -/
theorem C03_fixed_native_was_unbounded :
    ¬ ∃ limit, ∀ (ops : List NOp) (w : String), preFixNestRun limit Nest.init ops ≠ .killed w := by
  intro ⟨limit, h⟩
  exact h _ _ (C03_fixed_pure_defer_recursion_killed limit)

/-- HISTORICAL — the strongest true statement before the repair (was `C03_partial_native`): the
    pre-fix machine is never killed when the stack allows `maxFrames + peakOpen`. -/
theorem C03_preFix_partial_native (limit : Nat) (ops : List NOp) :
    ∀ s : Nest, s.Framed → peakOpen s.opened ops + maxFrames ≤ limit →
      ∀ w, preFixNestRun limit s ops ≠ .killed w :=
  nest_peak_bound false limit ops

/-- every way of entering compiled code needs one of the two bounds: if entering through `r`
    does not index the fixed array (say the frames become a slice that grows, and the depth is
    tested on another path only) and does not pass the depth test of `callFunction` either (a
    module body; or the test is gone), then for EVERY stack limit `limit + 1` nested entries
    through `r` end the process. -/
theorem each_reentry_needs_bound (bounded : Reentry → Bool) (checked : Bool) (r : Reentry)
    (hr : bounded r = false) (hc : (checked && r.viaCallFunction) = false) (limit : Nat) :
    ∀ s : Nest, s.native ≤ limit → ∀ n, limit < s.native + n →
      nestRunG bounded checked limit s (List.replicate n (.enter r)) = .killed "stack overflow" := by
  intro s hs n
  induction n generalizing s with
  | zero => intro h; omega
  | succ n ih =>
    intro h
    simp only [List.replicate, nestRunG, nestStepG, hr, hc, Bool.false_and]
    by_cases c : s.native + 1 ≤ limit
    · simp only [Bool.false_eq_true, if_false, c, if_true]
      exact ih ⟨s.fp + 1, s.native + 1, s.opened, _⟩ c (by simp only; omega)
    · simp [c]

-- recursion through a callback is stopped at the end of the array, like recursion through Call
set_option maxRecDepth 20000 in
example : nestRun 100000 Nest.init (List.replicate 1024 (.enter .callback))
    = .recovered "index out of range (frames)" := by decide +kernel
example : nestRun 5000 Nest.init (List.replicate 3 (.enter .callback) ++ List.replicate 3 .leave)
    = .ok ⟨0, 0, 0, 0⟩ := by decide +kernel
example : peakOpen 0 (List.replicate 3 (.enter .callback) ++ List.replicate 3 .leave) = 0 := by decide +kernel
-- a function with a deferred call, called in a loop: one stage open at a time, the counter returns to 0
example : peakOpen 0 [.enter .callOp, .exitDefers, .enter .deferred, .leave, .defersDone,
    .enter .callOp, .exitDefers, .enter .deferred, .leave, .defersDone] = 1 := by decide +kernel
example : nestRun 5000 Nest.init [.enter .callOp, .exitDefers, .enter .deferred, .leave, .defersDone,
    .enter .callOp, .exitDefers, .enter .deferred, .leave, .defersDone] = .ok ⟨0, 0, 0, 0⟩ := by decide +kernel
-- an import with a call inside, both ended
example : nestRun 5000 Nest.init [.enter .importMod, .enter .callOp, .leave, .leaveMod] = .ok ⟨0, 0, 0, 0⟩ := by decide +kernel
example : peakOpen 0 (pureDeferRecursion 7) = 7 := by decide +kernel
-- the same recursion on the two machines (small stack): refused / killed
example : preFixNestRun 10 Nest.init (pureDeferRecursion 11) = .killed "stack overflow" := by decide +kernel
example : nestRun 5000 ⟨1, 1018, 1017, 1018⟩ (deferRounds 7) = .failed "max call depth exceeded" := by decide +kernel
-- `func a(x) { defer b(x) }; func b(x) { a(x+1) }`: one frame and two calls per round — near the
-- end of the array it is the array that ends it, after 512 rounds from the start the call depth
example : nestRun 10 ⟨1022, 0, 0, 0⟩ [.enter .callOp, .exitDefers, .enter .deferred, .enter .callOp]
    = .recovered "index out of range (frames)" := by decide +kernel
example : nestRun 10 ⟨511, 0, 511, 1022⟩ [.enter .callOp, .exitDefers, .enter .deferred, .enter .callOp]
    = .failed "max call depth exceeded" := by decide +kernel
-- the hypotheses of the theorems are satisfiable by non-trivial states
example : (⟨511, 1022, 511, 1022⟩ : Nest).Inv := by
  unfold Nest.Inv Nest.Framed maxCalls maxFrames; simp

/-! ## The importer's mutex -/

theorem muPath_lock_defer : muPath false [.lock, .deferUnlock] = .done false := rfl

/-- for EVERY assignment of mutex events to the four paths of
    `Import` that leaves the mutex free on each of them, EVERY sequence of `Import` calls — any
    names, any state of each file at the time of its call, any length — returns exactly what
    the mutex-free Spec returns (a module when cached or compilable, else an error) and leaves
    the mutex free: no call ends the process, none blocks. -/
theorem balanced_paths_never_fatal (paths : Paths)
    (hb : ∀ c f, muPath false (paths c f) = .done false) (steps : List (String × FileSt)) :
    ∀ s : Imp, s.held = false →
      ∃ s', importSeq paths s steps = .ok (specSeq s.cache steps) s' ∧ s'.held = false := by
  induction steps with
  | nil => intro s h; exact ⟨s, rfl, h⟩
  | cons st rest ih =>
    intro s h
    obtain ⟨n, f⟩ := st
    simp only [importSeq, importOne, specSeq, h, hb]
    by_cases c : s.cache.contains n = true
    · simp only [c, if_true]
      obtain ⟨s', h1, h2⟩ := ih { s with held := false } rfl
      simp only at h1
      rw [h1]
      exact ⟨s', rfl, h2⟩
    · simp only [c, Bool.false_eq_true, if_false]
      cases f with
      | missing | bad =>
        obtain ⟨s', h1, h2⟩ := ih { s with held := false } rfl
        simp only at h1 ⊢
        rw [h1]; exact ⟨s', rfl, h2⟩
      | good =>
        obtain ⟨s', h1, h2⟩ := ih ⟨n :: s.cache, false⟩ rfl
        simp only at h1 ⊢
        rw [h1]; exact ⟨s', rfl, h2⟩

/-- (the code as it is: `Lock(); defer Unlock()` on every path) every
    sequence of `Import` calls on a fresh or used importer returns what the Spec returns; the
    process is never terminated by the mutex, whatever the module files contain. -/
theorem import_never_fatal (steps : List (String × FileSt)) (s : Imp) (h : s.held = false) :
    ∃ s', importSeq implPaths s steps = .ok (specSeq s.cache steps) s' ∧ s'.held = false :=
  balanced_paths_never_fatal implPaths (fun _ _ => rfl) steps s h

/-- a module whose source does not parse or compile is an ERROR of that `Import` call and
    nothing else: the importer is exactly as it was (nothing cached, mutex free) -/
theorem import_bad_module_is_error (s : Imp) (n : String) (h : s.held = false)
    (hc : s.cache.contains n = false) :
    importOne implPaths s n .bad = .ret (.error "parse or compile error") s := by
  cases s with
  | mk cache held =>
    simp only at h hc
    subst h
    have hm : n ∉ cache := by simpa using hc
    simp [importOne, implPaths, muPath, muRun, muReturn, hm]

/-- why the discipline matters: with the lock released by hand around parseAndCompile and the
    early return for a compile error taken before the lock is re-acquired, the first import of
    a module that does not compile ends the process, for every importer state and name … -/
theorem unbalanced_error_path_kills (s : Imp) (n : String) (h : s.held = false)
    (hc : s.cache.contains n = false) :
    importOne unbalancedPaths s n .bad = .fatal "sync: unlock of unlocked mutex" := by
  have hm : n ∉ s.cache := by simpa using hc
  simp [importOne, unbalancedPaths, muPath, muRun, muReturn, hm, h]

/-- … while modules that compile, cached modules and missing modules behave as before, which
    is why only a search that imports BROKEN modules can see it. -/
theorem unbalanced_other_paths_return (s : Imp) (n : String) (f : FileSt) (h : s.held = false)
    (hf : s.cache.contains n = true ∨ f ≠ .bad) :
    importOne unbalancedPaths s n f = importOne implPaths s n f := by
  cases s with
  | mk cache held =>
    simp only at h hf
    subst h
    by_cases c : n ∈ cache
    · simp [importOne, unbalancedPaths, implPaths, muPath, muRun, muReturn, c]
    · cases f with
      | bad => simp [c] at hf
      | missing => simp [importOne, unbalancedPaths, implPaths, muPath, muRun, muReturn, c]
      | good => simp [importOne, unbalancedPaths, implPaths, muPath, muRun, muReturn, c]

example : importSeq implPaths Imp.init [("a", .good), ("b", .bad), ("a", .missing), ("b", .good), ("c", .missing)]
    = .ok [.module, .error "parse or compile error", .module, .module, .error "import error: module not found"]
        ⟨["b", "a"], false⟩ := by decide +kernel
example : importSeq unbalancedPaths Imp.init [("a", .good), ("b", .bad), ("a", .good)]
    = .fatal 1 "sync: unlock of unlocked mutex" := by decide +kernel
example : muPath false [.lock, .lock] = .blocked := rfl
example : muPath false [.lock, .deferUnlock, .deferUnlock] = .fatal "sync: unlock of unlocked mutex" := rfl

/-! ## Inspect terminates on every heap; Equals does not -/

/-- With `u` containers not yet being inspected, recursion depth `u + 1` suffices: the
    measure "number of clear `inspectActive` flags" drops at every nested container. -/
theorem inspect_fuel_suffices (h : Heap) (f : Nat) :
    ∀ (act : List Bool) (v : Val), act.length = h.length → unvisited act < f →
      (inspect h f act v).isSome = true := by
  induction f with
  | zero => intro act v _ hu; omega
  | succ f ih =>
    intro act v hl hu
    cases v with
    | int n => simp [inspect]
    | ref k =>
      unfold inspect
      cases hk : h[k]? with
      | none => rfl
      | some c =>
        simp only
        by_cases hact : act.getD k false = true
        · rw [if_pos hact]; rfl
        · rw [if_neg hact]
          have hklt : k < h.length := by
            rcases Nat.lt_or_ge k h.length with hlt | hge
            · exact hlt
            · rw [List.getElem?_eq_none hge] at hk; cases hk
          have hget : act[k]? = some false := by
            have hk2 : k < act.length := by omega
            rw [List.getD_eq_getElem?_getD, List.getElem?_eq_getElem hk2] at hact
            rw [List.getElem?_eq_getElem hk2]
            simp at hact
            simp [hact]
          have hcnt := count_false_set act k hget
          have hu' : unvisited (act.set k true) < f := by unfold unvisited at *; omega
          have hl' : (act.set k true).length = h.length := by simp [hl]
          cases c with
          | list items =>
            simp only [Option.isSome_map]
            exact mapOpt_isSome _ _ (fun x _ => ih _ x hl' hu')
          | map es =>
            simp only [Option.isSome_map]
            exact mapOpt_isSome _ _ (fun x _ => by
              simp only [Option.isSome_map]; exact ih _ x.2 hl' hu')

/-- inspect_terminates: on EVERY heap — any number of containers, any cycles, self
    references, shared sub-structures — `Inspect` of any value returns a string within a
    recursion depth of (number of containers + 1). -/
theorem inspect_terminates (h : Heap) (v : Val) : (inspectTop h v).isSome = true := by
  unfold inspectTop
  apply inspect_fuel_suffices
  · simp
  · unfold unvisited; simp

/-- the heap `a = [a]` (what `a := [1]; a[0] = a` or `a.append(a)` builds) -/
def selfList : Heap := [.list [.ref 0]]

example : inspectTop selfList (.ref 0) = some "[[...]]" := by decide +kernel

/-- FULL statement (false): comparing two values needs only finitely much native stack. -/
def C03_full_equals : Prop := ∀ (h : Heap) (a b : Val), ∃ n, equalsF h n a b ≠ .overflow

/-- equals_needs_fuel: on `a = [a]`, `a == a` exhausts EVERY amount of stack — the
    termination proof that cannot be given. -/
theorem equals_needs_fuel (n : Nat) : equalsF selfList n (.ref 0) (.ref 0) = .overflow := by
  induction n with
  | zero => rfl
  | succ n ih => unfold selfList at ih; simp [equalsF, selfList, allEq, ih]

/-- COUNTEREXAMPLE to the full statement -/
theorem C03_counterexample_equals : ¬ C03_full_equals := by
  intro h
  obtain ⟨n, hn⟩ := h selfList (.ref 0) (.ref 0)
  exact hn (equals_needs_fuel n)

/-- PARTIAL: on every heap without cycles (container k refers only to containers below k —
    any depth, any size, any sharing) `Equals` returns with recursion depth ≤ rank + 1. -/
theorem C03_partial_equals (h : Heap) (hr : ranked 0 h = true) :
    ∀ (n : Nat) (a b : Val), rank a < n → equalsF h n a b ≠ .overflow := by
  have hR : ∀ k c, h[k]? = some c → contBelow k c = true := by
    intro k c hc
    have := ranked_sound_aux h 0 hr k c hc
    simpa using this
  intro n
  induction n with
  | zero => intro a b hlt; omega
  | succ n ih =>
    intro a b hlt
    cases a with
    | int x =>
      cases b with
      | int y => simp only [equalsF]; split <;> simp
      | ref j => simp [equalsF]
    | ref i =>
      cases b with
      | int y => simp [equalsF]
      | ref j =>
        simp only [equalsF]
        split
        · rename_i xs ys hx hy
          split
          · simp
          · apply allEq_no_overflow
            intro x hxm y
            apply ih
            have hb := hR i _ hx
            simp only [contBelow, List.all_eq_true] at hb
            have := hb x hxm
            simp only [rank] at hlt
            cases x with
            | int _ => simp [rank]; omega
            | ref q => simp only [valBelow, decide_eq_true_eq] at this; simp only [rank]; omega
        · simp

/-- a deep acyclic heap satisfies the guard; the self-referential one does not -/
example : ranked 0 [.list [.int 1], .list [.ref 0, .ref 0], .list [.ref 1, .int 2]] = true := by decide +kernel
example : ranked 0 selfList = false := by decide +kernel
example : equalsImpl selfList (.ref 0) (.ref 0) = .overflow := by decide +kernel
example : equalsImpl [.list [.int 1], .list [.int 1]] (.ref 0) (.ref 1) = .t := by decide +kernel

/-! ## The loops of parseSwitch (finding C03-switch-error-loop, repaired)

`Parser.nextToken` returns without advancing once `p.err` is set.  A loop that tests only the
current/peek token therefore never ends after an error.  Two loops of `parseSwitch` did that
until the repair `fix: stop parsing a switch statement once a parse error is recorded`: the
comma loop of a case list (`switch 5 {⏎case go 0, 10:⏎ 1⏎}`) and the outer loop over the
cases (`switch 1 {⏎case case:⏎}`).  Both now look at the result of `nextToken`. -/

theorem PSt.next_of_err {s : PSt} (h : s.err = true) : s.next = s := by
  simp [PSt.next, h]

theorem PSt.next_err (s : PSt) : s.next.err = s.err := by
  unfold PSt.next; split <;> rfl

/-- without a recorded error `nextToken` uses up one token (none at the end of the input) -/
theorem PSt.next_length {s : PSt} (h : s.err = false) : s.next.toks.length = s.toks.length - 1 := by
  simp [PSt.next, h]

theorem length_pos_of_head {s : PSt} {t : Tk} (h : s.toks.head? = some t) : 0 < s.toks.length := by
  cases hs : s.toks with
  | nil => rw [hs] at h; cases h
  | cons => exact Nat.succ_pos _

/-- `parseExpression` never un-records an error, leaves an erroring parser where it is, and
    never puts tokens back -/
def WellBehaved (pe : PSt → PSt) : Prop :=
  ∀ s, (s.err = true → pe s = s) ∧ (pe s).toks.length ≤ s.toks.length

/-- the comma loop of a case list ends on EVERY token stream, with
    or without a recorded error, whatever `parseExpression` does to the error flag, as long
    as it does not put tokens back: at most one round per remaining token. -/
theorem caseLoop_terminates (pe : PSt → PSt)
    (hpe : ∀ s, (pe s).toks.length ≤ s.toks.length) (f : Nat) :
    ∀ s : PSt, s.toks.length < f → caseLoop pe f s ≠ none := by
  induction f with
  | zero => intro s h; omega
  | succ f ih =>
    intro s hl
    simp only [caseLoop]
    split
    · rename_i hc
      split
      · simp
      · split
        · simp
        · rename_i he1 he2
          apply ih
          -- both calls of `nextToken` returned no error, so each used up a token
          have e1 : s.err = false := by rw [← s.next_err]; exact Bool.eq_false_iff.2 he1
          have e2 : s.next.err = false := by rw [s.next_err]; exact e1
          have l1 := PSt.next_length e1
          have l2 := PSt.next_length e2
          have := length_pos_of_head hc
          have := hpe s.next.next
          omega
    · simp

/-- … and when an error is recorded and a comma follows — the situation in which the loop
    used to spin — it is over after ONE test of `nextToken`'s result, in the same state,
    error still recorded (parseSwitch returns nil, Parse reports `p.err`). -/
theorem caseLoop_error_stops (pe : PSt → PSt) (f : Nat) (s : PSt) (he : s.err = true) :
    caseLoop pe (f + 1) s = some s := by
  simp only [caseLoop, PSt.next_of_err he, he, if_true]
  split <;> rfl

/-- the loop never loses a recorded error: whatever state it ends in, if `parseExpression`
    keeps errors, an error recorded before the loop (the first expression of the list
    failed) is still recorded after it -/
theorem caseLoop_keeps_error (pe : PSt → PSt) (f : Nat) (s r : PSt) (he : s.err = true)
    (h : caseLoop pe f s = some r) : r.err = true := by
  cases f with
  | zero => simp [caseLoop] at h
  | succ f => rw [caseLoop_error_stops pe f s he] at h; cases h; exact he

/-- The full statement (the code before the repair of risor violated it:
    `C03_fixed_caseLoop_diverged`): the loop over `case a, b, c:` always ends. -/
theorem C03_full_caseLoop :
    ∀ (pe : PSt → PSt) (s : PSt), WellBehaved pe → ∃ f, caseLoop pe f s ≠ none :=
  fun pe s hpe => ⟨s.toks.length + 1,
    caseLoop_terminates pe (fun t => (hpe t).2) _ s (Nat.lt_succ_self _)⟩

/-- `switch 5 {⏎case go 0, 10:⏎ 1⏎}` after the failed `go 0`: an error and `, 10 :` -/
example : caseLoop id 1 ⟨[.comma, .other, .colon], true⟩ = some ⟨[.comma, .other, .colon], true⟩ := by decide +kernel
example : caseLoop id 10 ⟨[.comma, .other, .comma, .other, .other], false⟩ = some ⟨[.other], false⟩ := by decide +kernel
/-- the second expression of three fails (`pe` records an error at the second call) -/
example : caseLoop (fun s => if s.toks.length = 3 then { s with err := true } else s) 10
    ⟨[.comma, .other, .comma, .other, .comma, .other, .colon], false⟩
    = some ⟨[.comma, .other, .colon], true⟩ := by decide +kernel

/-- **The repair changes nothing for a case list whose expressions parse.**  As long as
    `parseExpression` records no error, the repaired loop computes what the old one computed,
    for every token stream and every fuel. -/
theorem caseLoop_unchanged_without_error (pe : PSt → PSt)
    (hpe : ∀ s, s.err = false → (pe s).err = false) (f : Nat) :
    ∀ s : PSt, s.err = false → caseLoop pe f s = preFixCaseLoop pe f s := by
  induction f with
  | zero => intro s _; rfl
  | succ f ih =>
    intro s he
    have hne : s.next.err = false := by rw [s.next_err]; exact he
    have hn2 : s.next.next.err = false := by rw [s.next.next_err]; exact hne
    simp only [caseLoop, preFixCaseLoop, hne, hn2]
    split
    · exact ih _ (hpe _ hn2)
    · rfl

/-! ### The outer loop over the cases -/

/-- HEAD and BLOCK never put tokens back -/
def NoPutBack (g : PSt → Part) : Prop :=
  ∀ s s', g s = .goes s' → s'.toks.length ≤ s.toks.length

/-- the outer loop of parseSwitch ends on EVERY token stream,
    error recorded or not, for every HEAD and BLOCK that do not put tokens back: every round
    that does not return has passed a `nextToken` that advanced. -/
theorem switchLoop_terminates (head block : PSt → Part)
    (hh : NoPutBack head) (hb : NoPutBack block) (f : Nat) :
    ∀ s : PSt, s.toks.length < f → switchLoop head block f s ≠ none := by
  induction f with
  | zero => intro s h; omega
  | succ f ih =>
    intro s hl
    simp only [switchLoop]
    split
    · simp
    · split
      · simp
      · rename_i hne
        split
        · simp
        · rename_i s1 h1
          split
          · simp
          · rename_i he
            split
            · simp
            · rename_i s2 h2
              apply ih
              have l1 := hh s s1 h1
              have l2 := hb s1.next s2 h2
              have e1 : s1.err = false := by rw [← s1.next_err]; exact Bool.eq_false_iff.2 he
              have l3 := PSt.next_length e1
              have hpos : 0 < s.toks.length := List.length_pos_iff.2 hne
              omega

/-- a round whose HEAD leaves an error recorded is the last one: the loop is over right
    after HEAD, in HEAD's state (parseSwitch returns nil, Parse reports `p.err`) -/
theorem switchLoop_error_stops (head block : PSt → Part) (f : Nat) (s s1 : PSt)
    (h0 : s.toks.head? ≠ some Tk.rbrace) (h1 : s.toks ≠ [])
    (hh : head s = .goes s1) (he : s1.err = true) :
    switchLoop head block (f + 1) s = some s1 := by
  simp only [switchLoop, if_neg h0, if_neg h1, hh, PSt.next_of_err he, he, if_true]

/-- `switch 1 {⏎case case:⏎}` from the first `case` on -/
def caseCaseToks : List Tk := [.kwCase, .kwCase, .colon, .other, .rbrace]

/-- the repaired loop ends in its first round, error recorded -/
example : switchLoop caseCaseHead emptyBlock 1 ⟨caseCaseToks, false⟩
    = some ⟨[.kwCase, .colon, .other, .rbrace], true⟩ := by decide +kernel
/-- a switch with two empty cases and no error: `case x: case x: }` (three rounds of fuel) -/
example : switchLoop (fun s => .goes { s with toks := s.toks.drop 2 }) emptyBlock 3
    ⟨[.kwCase, .other, .colon, .kwCase, .other, .colon, .rbrace], false⟩
    = some ⟨[.rbrace], false⟩ := by decide +kernel

/-! ### Historical: the two loops before the repair -/

/-- the full statement about the PRE-FIX comma loop (false): it always ends. -/
def C03_preFix_full_caseLoop : Prop :=
  ∀ (pe : PSt → PSt) (s : PSt), WellBehaved pe → ∃ f, preFixCaseLoop pe f s ≠ none

/-- HISTORICAL: with an error recorded and a comma as the next token the pre-fix loop never
    ended, whatever the fuel: `nextToken` does not advance, the comma stays, one nil is
    appended per round. -/
theorem preFixCaseLoop_diverges (pe : PSt → PSt) (hpe : WellBehaved pe) (f : Nat) :
    ∀ s : PSt, s.err = true → s.toks.head? = some Tk.comma → preFixCaseLoop pe f s = none := by
  induction f with
  | zero => intro s _ _; rfl
  | succ f ih =>
    intro s he hc
    simp only [preFixCaseLoop, hc, if_true, PSt.next_of_err he, (hpe s).1 he]
    exact ih s he hc

/-- HISTORICAL (finding `C03-switch-error-loop`, repaired; `switch 5 { case go 0, 10: … }`:
    the first expression fails, a comma follows): the pre-fix comma loop did not end. -/
theorem C03_fixed_caseLoop_diverged : ¬ C03_preFix_full_caseLoop := by
  intro h
  have wb : WellBehaved id := fun s => ⟨fun _ => rfl, Nat.le_refl _⟩
  obtain ⟨f, hf⟩ := h id ⟨[Tk.comma], true⟩ wb
  exact hf (preFixCaseLoop_diverges id wb f _ rfl rfl)

/-- HISTORICAL: what could be proved of the pre-fix comma loop — as long as no expression of
    the list failed to parse it ended after at most one round per remaining token. -/
theorem C03_preFix_partial_caseLoop (pe : PSt → PSt)
    (hpe : ∀ s, s.err = false → (pe s).err = false ∧ (pe s).toks.length ≤ s.toks.length) (f : Nat) :
    ∀ s : PSt, s.err = false → s.toks.length < f → preFixCaseLoop pe f s ≠ none := by
  induction f with
  | zero => intro s _ h; omega
  | succ f ih =>
    intro s he hl
    simp only [preFixCaseLoop]
    split
    · rename_i hc
      have hne : s.next.err = false := by rw [s.next_err]; exact he
      have hne2 : s.next.next.err = false := by rw [s.next.next_err]; exact hne
      have l1 := PSt.next_length he
      have l2 := PSt.next_length hne
      have := length_pos_of_head hc
      have := hpe s.next.next hne2
      exact ih _ this.1 (by omega)
    · simp

/-- the state in which the pre-fix outer loop spun on `switch 1 {⏎case case:⏎}`: the error
    recorded, the current token still the second `case`, `:` behind it -/
def caseCaseStuck : PSt := ⟨[.kwCase, .colon, .other, .rbrace], true⟩

theorem preFixSwitchLoop_stuck (f : Nat) :
    preFixSwitchLoop caseCaseHead emptyBlock f caseCaseStuck = none := by
  induction f with
  | zero => rfl
  | succ f ih =>
    have h1 : caseCaseHead caseCaseStuck = .goes caseCaseStuck := rfl
    have h2 : caseCaseStuck.next = caseCaseStuck := rfl
    have h3 : emptyBlock caseCaseStuck = .goes caseCaseStuck := rfl
    have h4 : caseCaseStuck.toks.head? ≠ some Tk.rbrace := by decide +kernel
    have h5 : caseCaseStuck.toks ≠ [] := by decide +kernel
    simp only [preFixSwitchLoop, if_neg h4, if_neg h5, h1, h2, h3]
    exact ih

/-- HISTORICAL (finding `C03-switch-error-loop`, second form): on `switch 1 {⏎case case:⏎}`
    the pre-fix outer loop never ended, whatever the fuel — `expectPeek(COLON)` succeeds on
    the unmoved `:`, the unmoved `case` is taken for an empty case and appended for ever. -/
theorem C03_fixed_switchLoop_diverged (f : Nat) :
    preFixSwitchLoop caseCaseHead emptyBlock f ⟨caseCaseToks, false⟩ = none := by
  cases f with
  | zero => rfl
  | succ f =>
    have h1 : caseCaseHead ⟨caseCaseToks, false⟩ = .goes caseCaseStuck := rfl
    have h2 : caseCaseStuck.next = caseCaseStuck := rfl
    have h3 : emptyBlock caseCaseStuck = .goes caseCaseStuck := rfl
    have h4 : (⟨caseCaseToks, false⟩ : PSt).toks.head? ≠ some Tk.rbrace := by decide +kernel
    have h5 : (⟨caseCaseToks, false⟩ : PSt).toks ≠ [] := by decide +kernel
    simp only [preFixSwitchLoop, if_neg h4, if_neg h5, h1, h2, h3]
    exact preFixSwitchLoop_stuck f

/-! ## One VM, many runs (Model 4e): no sequence of entries lets a Go panic out of `stop` -/

theorem enterImpl_panics_is_error (e : Entry) (w : String) :
    enterImpl e (.panics w) = .error ("panic: " ++ w) := by
  cases e <;> simp [enterImpl, enter, requiredRecovers, Entry.scope]

/-- the outcome of the entered code itself is a value, a returned error or a recovered panic —
    never a panic that leaves the entry point.  All entry points, contexts, bodies. -/
theorem lifeBody_not_killed (st : LStep) : (lifeBody st).isKilled = false := by
  unfold lifeBody
  split
  · rfl
  · split
    · rfl
    · rfl
    · rw [enterImpl_panics_is_error]; rfl

/-- one entry on a VM that is not running (the code as it is: `stop` only clears the running
    flag): the entry is admitted, returns the outcome of the entered code and leaves the VM not
    running, whatever earlier runs left in it -/
theorem life_step_untracked (s : Life) (st : LStep) (h : s.running = false) :
    lifeStep .untracked s st = (lifeBody st, ⟨false, s.ch⟩) := by
  simp [lifeStep, h, lifeStop]

/-- for EVERY sequence of entries on one VM — any mix of Run /
    RunCode / Call, of contexts without a Done channel, cancellable ones and cancelled ones, of
    code that returns, fails, raises a Go panic or is halted — every entry returns exactly what
    that entry alone returns (`lifeBody`: no outcome depends on what ran before), and the VM is
    left not running.  Quantifies over all sequences and all start states that are not
    running. -/
theorem life_runs_independent (steps : List LStep) :
    ∀ s : Life, s.running = false →
      lifeSeq .untracked s steps = (steps.map lifeBody, ⟨false, s.ch⟩) := by
  induction steps with
  | nil =>
    intro s h
    cases s with
    | mk r c => simp only at h; subst h; rfl
  | cons st rest ih =>
    intro s h
    simp only [lifeSeq, life_step_untracked s st h, ih ⟨false, s.ch⟩ rfl, List.map_cons]

/-- the full statement for a reused VM: no entry of any sequence ends with a Go panic in the
    embedding program, and none is refused as `vm is already running` -/
def C03_full_life : Prop :=
  ∀ steps : List LStep, ∀ r ∈ (lifeSeq .untracked Life.init steps).1,
    r.isKilled = false ∧ r ≠ .raised "vm is already running"

/-- the full statement holds for the code as it is. -/
theorem C03_life_never_escapes : C03_full_life := by
  intro steps r hr
  rw [life_runs_independent steps Life.init rfl] at hr
  simp only [List.mem_map] at hr
  obtain ⟨st, _, rfl⟩ := hr
  refine ⟨lifeBody_not_killed st, ?_⟩
  unfold lifeBody
  split
  · decide
  · split
    · decide
    · decide
    · rw [enterImpl_panics_is_error]; intro h; cases h

/-- a watcher channel that `stop` closes AND clears is as good: from a VM whose field is nil,
    every sequence returns what the code as it is returns -/
theorem closeCleared_never_escapes (steps : List LStep) :
    lifeSeq .closeCleared Life.init steps = (steps.map lifeBody, Life.init) := by
  induction steps with
  | nil => rfl
  | cons st rest ih =>
    have h1 : lifeStep .closeCleared Life.init st = (lifeBody st, Life.init) := by
      cases hc : st.ctx <;> simp [lifeStep, Life.init, lifeStop, closeChan, CtxK.cancellable, hc]
    simp only [lifeSeq, h1, ih, List.map_cons]

/-- why the release must not depend on what an earlier run left behind — one entry under
    `closeKept` (stop closes the recorded channel and keeps the field), exactly: a cancellable
    context always gets a fresh channel and returns; a context WITHOUT a Done channel returns
    only while no cancellable run came before, and otherwise `stop` closes the channel of that
    earlier run a second time: the Go panic `close of closed channel` leaves the entry point.
    For every entry point, body and state with no run in progress. -/
theorem closeKept_step_exact (c : Chan) (hc : c ≠ .opened) (st : LStep) :
    lifeStep .closeKept ⟨false, c⟩ st =
      if st.ctx.cancellable then (lifeBody st, ⟨false, .closed⟩)
      else if c = .nil then (lifeBody st, ⟨false, .nil⟩)
      else (.killed "close of closed channel", ⟨false, .closed⟩) := by
  cases hk : st.ctx <;> cases c <;>
    first
    | exact absurd rfl hc
    | simp [lifeStep, lifeStop, closeChan, CtxK.cancellable, hk]

/-- the shortest such sequence: any run under a cancellable context, then any entry under
    context.Background() -/
theorem closeKept_escapes (a b : LStep) (ha : a.ctx.cancellable = true) (hb : b.ctx = .plain) :
    (lifeSeq .closeKept Life.init [a, b]).1 = [lifeBody a, .killed "close of closed channel"] := by
  have h1 := closeKept_step_exact .nil (by decide) a
  have h2 := closeKept_step_exact .closed (by decide) b
  simp only [ha, if_true] at h1
  have hb' : b.ctx.cancellable = false := by rw [hb]; rfl
  simp [hb'] at h2
  simp only [lifeSeq, Life.init, h1, h2]

/-- … and why a test that always uses the same kind of context cannot see it -/
theorem closeKept_one_kind_returns (steps : List LStep)
    (h : (∀ st ∈ steps, st.ctx.cancellable = true) ∨ (∀ st ∈ steps, st.ctx = .plain)) :
    (lifeSeq .closeKept Life.init steps).1 = steps.map lifeBody := by
  rcases h with h | h
  · -- all cancellable: after the first step the field is `closed`, each start replaces it
    have gen : ∀ (steps : List LStep) (c : Chan), c ≠ .opened →
        (∀ st ∈ steps, st.ctx.cancellable = true) →
        (lifeSeq .closeKept ⟨false, c⟩ steps).1 = steps.map lifeBody := by
      intro steps
      induction steps with
      | nil => intros; rfl
      | cons st rest ih =>
        intro c hc hall
        have h1 := closeKept_step_exact c hc st
        simp only [hall st (List.mem_cons_self), if_true] at h1
        have h2 := ih .closed (by decide) (fun x hx => hall x (List.mem_cons_of_mem _ hx))
        simp only [lifeSeq, h1, List.map_cons, h2]
    exact gen steps .nil (by decide) h
  · have gen : ∀ (steps : List LStep), (∀ st ∈ steps, st.ctx = .plain) →
        (lifeSeq .closeKept ⟨false, .nil⟩ steps).1 = steps.map lifeBody := by
      intro steps
      induction steps with
      | nil => intros; rfl
      | cons st rest ih =>
        intro hall
        have h1 := closeKept_step_exact .nil (by decide) st
        have hp : st.ctx.cancellable = false := by rw [hall st (List.mem_cons_self)]; rfl
        simp [hp] at h1
        have h2 := ih (fun x hx => hall x (List.mem_cons_of_mem _ hx))
        simp only [lifeSeq, h1, List.map_cons, h2]
    exact gen steps h

example : (lifeSeq .untracked Life.init
    [⟨.runCode, .live, .returns⟩, ⟨.call, .plain, .panics⟩, ⟨.run, .done, .returns⟩]).1
    = [.value, .error "panic: go panic", .raised "context canceled"] := by decide +kernel
example : (lifeSeq .closeKept Life.init [⟨.runCode, .live, .raises⟩, ⟨.runCode, .plain, .returns⟩]).1
    = [.raised "evaluation error", .killed "close of closed channel"] := by decide +kernel

/-! ## Integer operators on literal operands (Model 4f) -/

/-- with the count converted by `uint(…)`, as `runOperationInt` does, an integer operator
    raises a Go panic exactly for `/` and `%` with a zero divisor.  All operators, all operands
    (in particular every shift count, negative ones included). -/
theorem intBin_panics_iff (o : IOp) (l r : Int) :
    (intBin false o l r).isPanic = true ↔ (o = .div ∨ o = .mod) ∧ r = 0 := by
  by_cases h : r = 0 <;> cases o <;> simp [intBin, Out.isPanic, h]

/-- used as a signed integer, a negative shift count is a Go panic, for every left operand -/
theorem signed_shift_panics (l r : Int) (h : r < 0) :
    intBin true .shl l r = .panic "runtime error: negative shift amount" ∧
    intBin true .shr l r = .panic "runtime error: negative shift amount" := by
  simp [intBin, h]

/-- … where the VM's conversion gives 0 (left shift) or the sign (right shift) -/
theorem unsigned_shift_of_negative_count (l r : Int) (h : r < 0) :
    intBin false .shl l r = .ok 0 ∧ intBin false .shr l r = .ok (if l < 0 then -1 else 0) := by
  simp [intBin, shCount, h, shl64, shr64]

/-- a declaration whose initialiser is ANY expression over integer
    literals, negation and the integer operators evaluates to a value or to the recovered
    error of the entry (`panic: runtime error: integer divide by zero`) — the Go panic never
    reaches the embedding program.  Quantifies over all expressions. -/
theorem decl_contained (e : IExpr) :
    (declRun implConst e).1 = .value ∨ ∃ w, (declRun implConst e).1 = .error ("panic: " ++ w) := by
  unfold declRun
  cases evalI implConst.signedShift e with
  | ok v => exact Or.inl rfl
  | panic w => exact Or.inr ⟨w, by simp [implConst, enterImpl_panics_is_error]⟩

theorem decl_never_killed (e : IExpr) : (declRun implConst e).1.isKilled = false := by
  rcases decl_contained e with h | ⟨w, h⟩ <;> rw [h] <;> rfl

/-- the compiler has no recover scope: if it computes the initialiser itself, the declaration
    lets a Go panic out exactly when some operator application in the initialiser panics — so
    every operator it evaluates has to be total the way it evaluates it.  All expressions, both
    readings of the shift count. -/
theorem fold_escapes_iff (sg : Bool) (e : IExpr) :
    (declRun ⟨true, sg⟩ e).1.isKilled = true ↔ (evalI sg e).isPanic = true := by
  unfold declRun
  cases evalI sg e with
  | ok v => simp [ProcRes.isKilled, Out.isPanic]
  | panic w => simp [ProcRes.isKilled, Out.isPanic]

/-- `const s = 1 << -1`: a value in the VM, a Go panic out of compiler.Compile when folded with
    a signed count; `const z = 1 / 0`: the recovered error in the VM -/
example : declRun implConst (.bin .shl (.lit 1) (.neg (.lit 1))) = (.value, some 0) := by decide +kernel
example : declRun ⟨true, true⟩ (.bin .shl (.lit 1) (.neg (.lit 1)))
    = (.killed "runtime error: negative shift amount", none) := by decide +kernel
example : declRun implConst (.bin .div (.lit 1) (.lit 0))
    = (.error "panic: runtime error: integer divide by zero", none) := by decide +kernel
example : declRun implConst (.bin .shr (.neg (.lit 256)) (.bin .sub (.lit 2) (.lit 3))) = (.value, some (-1)) := by decide +kernel
example : declRun implConst (.bin .div (.neg (.lit 9223372036854775808)) (.neg (.lit 1)))
    = (.value, some (-9223372036854775808)) := by decide +kernel

/-! ## nil children of the AST (guard of the parser findings; executable, not a theorem
about parser.go) -/

/-- `return if`: the statement list holds a typed-nil `*ast.Return` -/
example : illegalNil (.node "Program" [.slot "Program.statements" (.list [.nil true])])
    = some "Program.statements" := by decide +kernel

/-- `return` without a value is legitimate (`Return.value` is optional) -/
example : illegalNil (.node "Program" [.slot "Program.statements" (.list
    [.node "Return" [.slot "Return.value" (.nil false)]])]) = none := by decide +kernel

/-- `[1, (⏎2)]`: a nil element in `List.items` -/
example : illegalNil (.node "List" [.slot "List.items" (.list [.node "Int" [], .nil false])])
    = some "List.items" := by decide +kernel

/-- `makeInstruction` returns exactly when the operand count matches -/
theorem makeInstruction_ok (c g : Nat) : (makeInstruction c g).isPanic = false ↔ g = c := by
  unfold makeInstruction
  by_cases h : g = c
  · simp [h, Out.isPanic]
  · simp [h, Out.isPanic]

/-! ## 4g. `vm.Get` on a VM that runs one code object after another -/

theorem scanFrom_spec (name : String) (names : List String) (k i : Nat)
    (h : scanFrom name names k = some i) :
    k ≤ i ∧ i - k < names.length ∧ names[i - k]? = some name := by
  induction names generalizing k with
  | nil => simp [scanFrom] at h
  | cons n ns ih =>
    unfold scanFrom at h
    split at h
    · rename_i hn
      cases h
      simp [hn]
    · have := ih (k + 1) h
      obtain ⟨h1, h2, h3⟩ := this
      refine ⟨by omega, by simp; omega, ?_⟩
      have e : i - k = (i - (k + 1)) + 1 := by omega
      rw [e, List.getElem?_cons_succ]
      exact h3

/-- whatever the Spec answers with `found i` IS a global of that code
    with the asked name (slot in range, name at that slot) — for every code and name. -/
theorem get_found_is_named (names : List String) (name : String) (i : Nat)
    (h : specGet names name = .found i) : i < names.length ∧ names[i]? = some name := by
  unfold specGet at h
  split at h
  · rename_i j hj
    cases h
    have := scanFrom_spec name names 0 _ hj
    simpa using this.2
  · cases h

/-- for EVERY sequence of code switches and lookups on one VM, from every
    state, the code as it is (`scan`) answers each lookup exactly as the Spec does: from the
    code object loaded last before it, whatever was loaded or looked up earlier. -/
theorem get_scan_exact (ops : List GetOp) :
    ∀ s : GetVm, getSeq .scan s ops = specGetSeq s.active ops := by
  induction ops with
  | nil => intro s; rfl
  | cons o rest ih =>
    intro s
    cases o with
    | load names =>
      simp only [getSeq, getStep, specGetSeq]
      exact ih _
    | get name =>
      cases ha : s.active with
      | none =>
        simp only [getSeq, getStep, ha, specGetSeq]
        rw [ih s, ha]
      | some names =>
        have e : getStep .scan s (.get name) = (some (specGet names name), s) := by
          simp only [getStep, ha, specGet, if_true]
          cases scanFrom name names 0 <;> rfl
        simp only [getSeq, e, specGetSeq]
        rw [ih s, ha]

theorem specGet_not_escaped (names : List String) (name w : String) :
    specGet names name ≠ .escaped w := by
  unfold specGet; split <;> simp

theorem specGetSeq_not_escaped (ops : List GetOp) :
    ∀ a : Option (List String), ∀ r ∈ specGetSeq a ops, ∀ w, r ≠ .escaped w := by
  induction ops with
  | nil => intro a r hr; simp [specGetSeq] at hr
  | cons o rest ih =>
    intro a r hr w
    cases o with
    | load names => exact ih _ r (by simpa [specGetSeq] using hr) w
    | get name =>
      cases a with
      | none =>
        simp only [specGetSeq, List.mem_cons] at hr
        rcases hr with h | h
        · subst h; simp
        · exact ih _ r h w
      | some names =>
        simp only [specGetSeq, List.mem_cons] at hr
        rcases hr with h | h
        · subst h; exact specGet_not_escaped _ _ _
        · exact ih _ r h w

/-- the full statement for lookups: on every sequence of code switches and lookups, starting
    from a fresh VM, no Go panic leaves `Get` -/
def C03_full_get (m : GetMode) : Prop :=
  ∀ ops : List GetOp, ∀ r ∈ getSeq m GetVm.init ops, ∀ w, r ≠ .escaped w

/-- the full statement holds for the code as it is. -/
theorem C03_get_never_escapes : C03_full_get .scan := by
  intro ops r hr w
  rw [get_scan_exact] at hr
  exact specGetSeq_not_escaped ops _ r hr w

/-- the memo is right for the active code -/
def MemoOk (s : GetVm) : Prop :=
  ∀ names, s.active = some names → ∀ name i, memoFind name s.memo = some i →
    scanFrom name names 0 = some i

theorem slotOf_of_scan (names : List String) (name : String) (i : Nat)
    (h : scanFrom name names 0 = some i) : slotOf names i = .found i := by
  have := scanFrom_spec name names 0 i h
  unfold slotOf
  rw [if_pos (by omega)]

/-- one lookup through a memo (kept or cleared) that is right for the active code: the Spec's
    answer, and the memo is still right -/
theorem getStep_memo (m : GetMode) (hm : m ≠ .scan) {s : GetVm} {names : List String}
    (ha : s.active = some names) (hs : MemoOk s) (name : String) :
    ∃ s', getStep m s (.get name) = (some (specGet names name), s') ∧
      s'.active = some names ∧ MemoOk s' := by
  simp only [getStep, ha, specGet, if_neg hm]
  cases hf : memoFind name s.memo with
  | some i =>
    have h1 := hs names ha name i hf
    exact ⟨s, by simp only [h1, slotOf_of_scan names name i h1], ha, hs⟩
  | none =>
    cases hsc : scanFrom name names 0 with
    | none => exact ⟨s, rfl, ha, hs⟩
    | some i =>
      refine ⟨⟨some names, (name, i) :: s.memo⟩, rfl, rfl, ?_⟩
      intro names' hn' name' j hj
      simp only [Option.some.injEq] at hn'
      subst hn'
      unfold memoFind at hj
      split at hj
      · rename_i hnn; cases hj; rw [← hnn]; exact hsc
      · exact hs names ha name' j hj

/-- a memo that is dropped at every code switch is as good as the
    scan — for every sequence, from every state whose memo is right for its active code. -/
theorem get_memoCleared_exact (ops : List GetOp) :
    ∀ s : GetVm, MemoOk s → getSeq .memoCleared s ops = specGetSeq s.active ops := by
  induction ops with
  | nil => intro s _; rfl
  | cons o rest ih =>
    intro s hs
    cases o with
    | load names =>
      simp only [getSeq, getStep, specGetSeq, if_true]
      refine ih ⟨some names, []⟩ ?_
      intro _ _ name i h; simp [memoFind] at h
    | get name =>
      cases ha : s.active with
      | none =>
        simp only [getSeq, getStep, ha, specGetSeq]
        rw [ih s hs, ha]
      | some names =>
        obtain ⟨s', e, ha', hs'⟩ := getStep_memo .memoCleared (by decide) ha hs name
        simp only [getSeq, e, specGetSeq]
        rw [ih s' hs', ha']

theorem C03_get_memoCleared_never_escapes : C03_full_get .memoCleared := by
  intro ops r hr w
  rw [get_memoCleared_exact ops GetVm.init (by intro _ h; simp [GetVm.init] at h)] at hr
  exact specGetSeq_not_escaped ops _ r hr w

/-- (contrast) a memo that survives a code switch answers with the slot
    the name had in the PREVIOUS code.  Two scripts with the same entrypoint, the second one
    smaller: the second lookup indexes past the new code's globals and the Go panic leaves
    `Get` (and `risor.Call`). -/
theorem memoKept_escapes :
    getSeq .memoKept GetVm.init
      [.load ["helper", "handler"], .get "handler", .load ["handler"], .get "handler"]
      = [.found 1, .escaped "index out of range"] := by decide +kernel

theorem C03_counterexample_get_memoKept : ¬ C03_full_get .memoKept := by
  intro h
  exact h [.load ["helper", "handler"], .get "handler", .load ["handler"], .get "handler"]
    (.escaped "index out of range") (by rw [memoKept_escapes]; simp) _ rfl

/-- (contrast) when the stale slot is in range, `Get` silently
    returns ANOTHER global of the new code. -/
theorem memoKept_wrong_global :
    getSeq .memoKept GetVm.init
      [.load ["helper", "handler"], .get "handler", .load ["handler", "other"], .get "handler"]
      = [.found 1, .found 1] ∧
    specGetSeq none
      [.load ["helper", "handler"], .get "handler", .load ["handler", "other"], .get "handler"]
      = [.found 1, .found 0] := by decide +kernel

/-- without a code switch after the first load the kept memo is
    harmless — which is why tests that stay on one code object see nothing. -/
theorem memoKept_one_code_exact (names : List String) (gets : List String) :
    ∀ s : GetVm, s.active = some names → MemoOk s →
      getSeq .memoKept s (gets.map .get) = specGetSeq (some names) (gets.map .get) := by
  induction gets with
  | nil => intro s _ _; rfl
  | cons name rest ih =>
    intro s ha hs
    obtain ⟨s', e, ha', hs'⟩ := getStep_memo .memoKept (by decide) ha hs name
    simp only [List.map_cons, getSeq, e, specGetSeq]
    rw [ih s' ha' hs']

example : getSeq .scan GetVm.init
    [.get "f", .load ["a", "f"], .get "f", .load ["f"], .get "f", .get "a"]
    = [.noCode, .found 1, .found 0, .notFound] := by decide +kernel


/-! ## 4h. One file, two closers -/

/-- what the code as it is maintains: `f.closed` is open exactly as long as `f.once` has not
    fired -/
def FileInv (s : FileObj) : Prop := s.once = false → s.ch = .opened

theorem fileStep_impl_ok (s : FileObj) (e : FEv) (h : FileInv s) :
    (fileStep false s e).1 = .ok ∧ FileInv (fileStep false s e).2 := by
  obtain ⟨ch, once, cancelled, w⟩ := s
  cases e with
  | close =>
    cases once with
    | true => simp [fileStep, FileInv]
    | false =>
      have hc : ch = .opened := h rfl
      subst hc
      simp [fileStep, closeChan, FileInv]
  | cancel =>
    by_cases hw : w = .waiting
    · simp [fileStep, hw, FileInv] at h ⊢; exact h
    · simp [fileStep, hw, FileInv] at h ⊢; exact h
  | resume =>
    by_cases hw : w = .inCtxBranch
    · simp [fileStep, hw, FileInv] at h ⊢; exact h
    · simp [fileStep, hw, FileInv] at h ⊢; exact h

/-- for EVERY order of script closes, cancellation of the
    opening context and progress of the watcher goroutine — from every state in which the
    channel is open while `once` has not fired — no event panics, neither on the caller's
    goroutine nor on the watcher's. -/
theorem file_two_closers_never_panic (evs : List FEv) :
    ∀ s : FileObj, FileInv s → ∀ r ∈ fileSeq false s evs, r = .ok := by
  induction evs with
  | nil => intro s _ r hr; simp [fileSeq] at hr
  | cons e rest ih =>
    intro s hs r hr
    have h1 := fileStep_impl_ok s e hs
    simp only [fileSeq, List.mem_cons] at hr
    rcases hr with h | h
    · rw [h]; exact h1.1
    · exact ih _ h1.2 r h

/-- the full statement for one file object -/
def C03_full_file (records : Bool) : Prop :=
  ∀ evs : List FEv, ∀ r ∈ fileSeq records FileObj.init evs, ∀ w, r ≠ .killed w

/-- the full statement holds for the code as it is. -/
theorem C03_file_never_killed : C03_full_file false := by
  intro evs r hr w
  have := file_two_closers_never_panic evs FileObj.init (by intro _; rfl) r hr
  rw [this]; simp

/-- (contrast) a watcher that also closes `f.closed` outside
    `f.once` — the context ends, the watcher takes its branch, the script closes the file,
    the watcher runs on: `close of closed channel` on a goroutine nothing recovers. -/
theorem recording_watcher_kills :
    fileSeq true FileObj.init [.cancel, .close, .resume]
      = [.ok, .ok, .killed "close of closed channel"] := by decide +kernel

theorem C03_counterexample_file_recording : ¬ C03_full_file true := by
  intro h
  exact h [.cancel, .close, .resume] (.killed "close of closed channel")
    (by rw [recording_watcher_kills]; simp) _ rfl

/-- (contrast) in the other order the same double close
    is raised on the caller's goroutine (the VM turns it into an error) — the fault is
    intermittent. -/
theorem recording_watcher_other_order :
    fileSeq true FileObj.init [.cancel, .resume, .close]
      = [.ok, .ok, .callerPanic "close of closed channel"] := by decide +kernel

/-- without cancellation the recording watcher is harmless: tests that never cancel see nothing -/
theorem recording_without_cancel_ok (n : Nat) :
    ∀ r ∈ fileSeq true FileObj.init (List.replicate n .close ++ [.resume]), r = .ok := by
  intro r hr
  cases n with
  | zero => simp [fileSeq, fileStep, FileObj.init] at hr; exact hr
  | succ k =>
    have key : ∀ m, ∀ r ∈ fileSeq true ⟨.closed, true, false, .ended⟩ (List.replicate m .close ++ [.resume]), r = .ok := by
      intro m
      induction m with
      | zero => intro r hr; simp [fileSeq, fileStep] at hr; exact hr
      | succ j ih =>
        intro r hr
        simp only [List.replicate_succ, List.cons_append, fileSeq, List.mem_cons] at hr
        rcases hr with h | h
        · rw [h]; simp [fileStep]
        · exact ih r (by simpa [fileStep] using h)
    simp only [List.replicate_succ, List.cons_append, fileSeq, List.mem_cons] at hr
    rcases hr with h | h
    · rw [h]; simp [fileStep, FileObj.init, closeChan]
    · exact key k r (by simpa [fileStep, FileObj.init, closeChan] using h)

example : fileSeq false FileObj.init [.cancel, .close, .resume, .close]
    = [.ok, .ok, .ok, .ok] := by decide +kernel


end Risor.C03
