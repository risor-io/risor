import RisorModel.C03.Model
/-! C03 — helper lemmas: invariants of `readChar`, the scans of `GetLineText`, `inspect` (flag
    counting, `mapOpt`), `equals` without overflow, recover scopes. -/
namespace Risor.C03

/-! ### readChar -/

theorem readChar_cases (cs : Array Nat) (s : LexSt) :
    readChar cs s = s ∨
    ((readChar cs s).line = s.line ∧ (readChar cs s).col = s.col + 1) ∨
    ((readChar cs s).line = s.line + 1 ∧ (readChar cs s).col = 0) := by
  unfold readChar
  split
  · exact Or.inl rfl
  · split
    · exact Or.inr (Or.inr ⟨rfl, rfl⟩)
    · exact Or.inr (Or.inl ⟨rfl, rfl⟩)

theorem readChars_succ (cs : Array Nat) (k : Nat) (s : LexSt) :
    readChars cs (k + 1) s = readChars cs k (readChar cs s) := rfl

theorem line_mono (cs : Array Nat) (k : Nat) : ∀ s : LexSt, s.line ≤ (readChars cs k s).line := by
  induction k with
  | zero => intro s; exact Int.le_refl _
  | succ k ih =>
    intro s
    rw [readChars_succ]
    have h1 := ih (readChar cs s)
    rcases readChar_cases cs s with h | h | h
    · rw [h]; rw [h] at h1; exact h1
    · omega
    · omega

theorem col_nonneg_step (cs : Array Nat) (s : LexSt) (h : 0 ≤ s.col) : 0 ≤ (readChar cs s).col := by
  rcases readChar_cases cs s with h1 | h1 | h1
  · rw [h1]; exact h
  · omega
  · omega

theorem col_nonneg_steps (cs : Array Nat) (k : Nat) :
    ∀ s : LexSt, 0 ≤ s.col → 0 ≤ (readChars cs k s).col := by
  induction k with
  | zero => intro s h; exact h
  | succ k ih => intro s h; rw [readChars_succ]; exact ih _ (col_nonneg_step cs s h)

theorem first_readChar_col (cs : Array Nat) : (readChar cs LexSt.init).col = 0 := by
  have hlen : ¬ ((-1 : Int) > (cs.size : Int)) := by omega
  simp [readChar, LexSt.init, hlen]

/-- once the lexer has read its first character the column register is never negative -/
theorem stateAt_col_nonneg (cs : Array Nat) (p : Nat) : 0 ≤ (stateAt cs p).col := by
  unfold stateAt
  rw [readChars_succ]
  apply col_nonneg_steps
  rw [first_readChar_col]
  exact Int.le_refl _

/-! ### scans of GetLineText -/

theorem scanBack_ok (cs : Array Nat) (f : Nat) :
    ∀ s : Int, 0 ≤ s → s ≤ cs.size → ∃ r, scanBack cs f s = .ok r ∧ 0 ≤ r ∧ r ≤ s := by
  induction f with
  | zero => intro s h0 _; exact ⟨s, rfl, h0, Int.le_refl _⟩
  | succ f ih =>
    intro s h0 hl
    unfold scanBack
    split
    · rw [if_pos (by omega)]
      split
      · obtain ⟨r, hr, h1, h2⟩ := ih (s - 1) (by omega) (by omega)
        exact ⟨r, hr, h1, by omega⟩
      · exact ⟨s, rfl, h0, Int.le_refl _⟩
    · exact ⟨s, rfl, h0, Int.le_refl _⟩

theorem scanFwd_ok (cs : Array Nat) (f : Nat) :
    ∀ e : Int, 0 ≤ e → e ≤ cs.size → ∃ r, scanFwd cs f e = .ok r ∧ e ≤ r ∧ r ≤ cs.size := by
  induction f with
  | zero => intro e _ hl; exact ⟨e, rfl, Int.le_refl _, hl⟩
  | succ f ih =>
    intro e h0 hl
    unfold scanFwd
    split
    · rw [if_neg (by omega)]
      split
      · obtain ⟨r, hr, h1, h2⟩ := ih (e + 1) (by omega) (by omega)
        exact ⟨r, hr, by omega, h2⟩
      · exact ⟨e, rfl, Int.le_refl _, hl⟩
    · exact ⟨e, rfl, Int.le_refl _, hl⟩

/-! ### inspect -/

theorem count_false_set (act : List Bool) :
    ∀ k : Nat, act[k]? = some false → (act.set k true).count false + 1 = act.count false := by
  induction act with
  | nil => intro k h; simp at h
  | cons b bs ih =>
    intro k h
    cases k with
    | zero =>
      simp at h
      subst h
      simp
    | succ k =>
      simp at h
      have := ih k h
      simp only [List.set_cons_succ, List.count_cons]
      omega

theorem mapOpt_isSome {α β : Type} (g : α → Option β) (xs : List α)
    (h : ∀ x, x ∈ xs → (g x).isSome = true) : (mapOpt g xs).isSome = true := by
  induction xs with
  | nil => rfl
  | cons x xs ih =>
    have hx := h x (by simp)
    have hxs := ih (fun y hy => h y (by simp [hy]))
    unfold mapOpt
    cases hg : g x with
    | none => rw [hg] at hx; cases hx
    | some y =>
      cases hm : mapOpt g xs with
      | none => rw [hm] at hxs; cases hxs
      | some ys => rfl

/-! ### equals -/

theorem allEq_no_overflow (g : Val → Val → EqR) :
    ∀ (xs ys : List Val), (∀ x, x ∈ xs → ∀ y, g x y ≠ .overflow) → allEq g xs ys ≠ .overflow := by
  intro xs
  induction xs with
  | nil => intro ys _; simp [allEq]
  | cons x xs ih =>
    intro ys h
    cases ys with
    | nil => simp [allEq]
    | cons y ys =>
      unfold allEq
      have hx := h x (by simp) y
      cases hg : g x y with
      | t => exact ih ys (fun z hz => h z (by simp [hz]))
      | f => simp
      | overflow => exact absurd hg hx

theorem ranked_sound_aux (h : Heap) :
    ∀ k : Nat, ranked k h = true → ∀ i c, h[i]? = some c → contBelow (k + i) c = true := by
  induction h with
  | nil => intro k _ i c hc; simp at hc
  | cons c0 cs ih =>
    intro k hr i c hc
    simp only [ranked, Bool.and_eq_true] at hr
    cases i with
    | zero => simp at hc; subst hc; simpa using hr.1
    | succ i =>
      simp at hc
      have := ih (k + 1) hr.2 i c hc
      have e : k + (i + 1) = k + 1 + i := by omega
      rw [e]; exact this

/-! ### recover scopes -/

theorem entry_scope_required (e : Entry) : e.scope ∈ requiredRecovers := by
  cases e <;> simp [Entry.scope, requiredRecovers]

theorem enter_not_killed (scopes : List String)
    (h : requiredRecovers.all (scopes.contains ·) = true) (e : Entry) (b : Body) :
    (enter scopes e b).isKilled = false := by
  cases b with
  | returns => rfl
  | panics w =>
    have hc : scopes.contains e.scope = true := by
      rw [List.all_eq_true] at h
      exact h _ (entry_scope_required e)
    show (if scopes.contains e.scope = true then ProcRes.error ("panic: " ++ w)
      else ProcRes.killed w).isKilled = false
    rw [if_pos hc]
    rfl

theorem exec_not_killed (scopes : List String)
    (h : requiredRecovers.all (scopes.contains ·) = true) (x : Exec) :
    x.killed scopes = false := by
  unfold Exec.killed
  rw [enter_not_killed scopes h, Bool.false_or, List.any_eq_false]
  intro b _
  simp [enter_not_killed scopes h]

end Risor.C03
