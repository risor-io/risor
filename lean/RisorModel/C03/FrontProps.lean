import RisorModel.C03.Front
import RisorModel.C03.FrontLemmas
/-!
C03 — the front end inside the model: TOTALITY of the lexer machine (and, further down, of the
Pratt parser model) on EVERY input.

The lexer is C20's character-level machine (`Risor.C20.stepChar`, `run`, `scan`, `lexPos`,
`lexAll`), the function C20's harness compares token by token — kinds, literals and positions —
with lexer/lexer.go, and that the stream `front` of C03's harness compares by outcome and token
count on random bytes, mutated programs, broken UTF-8 and deep nesting.  All theorems quantify
over ALL rune lists (`List Nat`: valid programs, garbage, NUL runes, code points that are not
Unicode at all) and, through `goRunes`, over all BYTE strings; none is a bounded `decide`.
-/
namespace Risor.C03.Front
open Risor.C20

/-! ### 1. every read is guarded -/

/-- **The array-and-position form of the machine is the list machine, and it never reads past
    the sentinel.**  For every input `src`, every state satisfying the invariant, every position
    `p ≤ src.length` and every fuel of at least the `src.length + 1 - p` remaining reads
    (sentinel included): `runAt`, which reads ONLY through `readAt` (`readChar`'s
    `if position < len(characters) { characters[position] } else { 0 }`) and does not itself
    look at the length, returns what `run` returns on the rest of the input (in particular it
    never runs out of fuel), and every position it read is `≤ src.length`. -/
theorem lex_reads_guarded (src : Chars) (s : St) (p i st f : Nat) (hs : stOk s = true)
    (hp : p ≤ src.length) (hf : src.length + 1 - p ≤ f) :
    (runAt src f s p i st).1 = run s (src.drop p) i st ∧
    ∀ q ∈ (runAt src f s p i st).2, q ≤ src.length :=
  runAt_run src f s p i st hs hp hf

/-- a read below the length is the array element, the read AT (or past) the length is the NUL
    sentinel — for every input and position: exactly the two branches of `readChar` / `peekChar` -/
theorem read_is_element_or_sentinel (src : Chars) (p : Nat) :
    (∃ h : p < src.length, readAt src p = src[p]) ∨ (src.length ≤ p ∧ readAt src p = 0) := by
  by_cases h : p < src.length
  · exact .inl ⟨h, readAt_lt src p h⟩
  · exact .inr ⟨by omega, readAt_ge src p (by omega)⟩

/-- **No stuck state.**  At the sentinel no state that satisfies the invariant asks for another
    rune (`stepChar s 0` is never `more`), and the invariant is kept by every step — for all
    states and all runes. -/
theorem lex_never_stuck (s : St) (hs : stOk s = true) :
    (∀ s' m, stepChar s 0 ≠ .more s' m) ∧ (∀ c s' m, stepChar s c = .more s' m → stOk s' = true) := by
  constructor
  · intro s' m e
    have := step_nul s hs
    rw [e] at this
    simp [nulOk] at this
  · intro c s' m e
    have := step_ok s c hs
    rw [e] at this
    exact this

/-- one call of `Next` looks at most at the sentinel: for every rest of the input and previous
    token type, the number of runes looked at is `≤ rest.length + 1` -/
theorem scan_looks_at_most_one_past (rest : Chars) (prev : String) :
    (scan rest prev).seen ≤ rest.length + 1 := (scan_good rest prev).2.1

/-! ### 2. the token loop ends, with a bounded number of tokens, inside the input -/

theorem tokOk_mono {b b' n : Nat} {t : PTok} (h : tokOk b' n t) (hb : b ≤ b') : tokOk b n t := by
  obtain ⟨h1, h2, h3, h4⟩ := h
  exact ⟨h1, h2, h3, fun hp => by have := h4 hp; omega⟩

/-- a stream of one element that is the EOF token or an error value, inside the input -/
theorem last_good {base n m : Nat} {t : PTok} (hp : isPlainTok t = false)
    (h1 : t.out ≠ .err "stuck") (h2 : t.start ≤ n) (h3 : t.stop ≤ n + 1) :
    [t].length ≤ m + 1 ∧ wellEnded [t] = true ∧ ∀ u ∈ [t], tokOk base n u := by
  refine ⟨by simp, by simp [wellEnded, hp], ?_⟩
  intro u hu
  rw [List.mem_singleton.1 hu]
  exact ⟨h1, h2, h3, fun h => by rw [hp] at h; cases h⟩

/-- the loop `lexPos` with fuel for at least `rest.length + 1` calls of `Next`, on every rest
    of an input of `n` runes that begins at offset `base` -/
theorem lexPos_good : ∀ (f : Nat) (rest : Chars) (base : Nat) (prev : String) (n : Nat),
    base + rest.length = n → rest.length + 1 ≤ f →
    (lexPos f rest base prev).length ≤ rest.length + 1 ∧
    wellEnded (lexPos f rest base prev) = true ∧
    ∀ t ∈ lexPos f rest base prev, tokOk base n t
  | 0, rest, base, prev, n, _, hf => by omega
  | f + 1, rest, base, prev, n, hn, hf => by
    obtain ⟨g1, _, g3, g4, g5⟩ := scan_good rest prev
    unfold lexPos
    simp only []
    cases ho : (scan rest prev).out with
    | tok k l =>
      simp only []
      by_cases hk : k = "EOF"
      · subst hk
        simp only [beq_self_eq_true, if_true]
        exact last_good (by simp [isPlainTok]) (by simp) (by simp only; omega) (by simp only; omega)
      · have hb : (k == "EOF") = false := by simp [hk]
        simp only [hb, Bool.false_eq_true, if_false]
        obtain ⟨a1, a2, a3, a4⟩ := g5 k l ho hk
        have hlen : (rest.drop (scan rest prev).next).length = rest.length - (scan rest prev).next := by simp
        obtain ⟨r1, r2, r3⟩ := lexPos_good f (rest.drop (scan rest prev).next) (base + (scan rest prev).next) k n
          (by rw [hlen]; omega) (by rw [hlen]; omega)
        refine ⟨?_, ?_, ?_⟩
        · simp only [List.length_cons]; rw [hlen] at r1; omega
        · simp only [wellEnded, isPlainTok, bne_iff_ne, ne_eq, hk, not_false_eq_true, if_true]
          exact r2
        · intro t ht
          cases List.mem_cons.1 ht with
          | inl e =>
            subst e
            exact ⟨by simp, by simp only; omega, by simp only; omega, fun _ => by simp only; omega⟩
          | inr e => exact tokOk_mono (r3 t e) (by omega)
    | errT k l c =>
      simp only []
      exact last_good rfl (by simp) (by simp only; omega) (by simp only; omega)
    | err c =>
      simp only []
      rw [ho] at g1
      exact last_good rfl (by simpa using g1) (Nat.zero_le _) (Nat.zero_le _)

/-- **Lexer totality (termination).**  For EVERY rune list the lexer's token stream `lexAll src`
    is ended by the lexer itself: every element but the last is a token other than EOF, the last
    is the EOF token or a lexical error value — the fuel `src.length + 2` of `lexAll` is never
    what ends it, and no element is the model's "stuck" marker. -/
theorem lex_terminates (src : Chars) :
    wellEnded (lexAll src) = true ∧ ∀ t ∈ lexAll src, t.out ≠ .err "stuck" := by
  obtain ⟨_, h2, h3⟩ := lexPos_good (src.length + 2) src 0 "" src.length (by simp) (by omega)
  exact ⟨h2, fun t ht => (h3 t ht).1⟩

/-- **At most one token per rune, plus the final one**: for every rune list,
    `(lexAll src).length ≤ src.length + 1` (the final EOF / error element included). -/
theorem lex_token_count (src : Chars) : (lexAll src).length ≤ src.length + 1 :=
  (lexPos_good (src.length + 2) src 0 "" src.length (by simp) (by omega)).1

/-- **Token spans lie inside the input.**  For every rune list and every element of its stream:
    `start ≤ src.length` and `stop ≤ src.length + 1` (the `+ 1` is reached only by the EOF token
    of an unterminated block comment, whose end `readChar` puts one past the sentinel); a token
    other than EOF has `start ≤ stop < src.length`: its first and last rune are real indices. -/
theorem lex_spans_inside (src : Chars) : ∀ t ∈ lexAll src,
    t.start ≤ src.length ∧ t.stop ≤ src.length + 1 ∧
    (isPlainTok t = true → t.start ≤ t.stop ∧ t.stop < src.length) := by
  intro t ht
  obtain ⟨_, h2, h3, h4⟩ := (lexPos_good (src.length + 2) src 0 "" src.length (by simp) (by omega)).2.2 t ht
  exact ⟨h2, h3, fun hp => (h4 hp).2⟩

/-- a stream that is `wellEnded` is classified `eof` or `lexErr`, never `cut` -/
theorem endOf_of_wellEnded : ∀ ts : List PTok, wellEnded ts = true → endOf ts ≠ .cut
  | [], h => by simp [wellEnded] at h
  | [t], h => by
    simp only [wellEnded, List.isEmpty_nil] at h
    unfold endOf
    cases ho : t.out with
    | tok k l =>
      simp only [isPlainTok, ho] at h
      by_cases hk : k = "EOF"
      · simp [hk]
      · simp [hk] at h
    | errT k l c => simp
    | err c => simp
  | t :: u :: ts, h => by
    simp only [wellEnded] at h
    unfold endOf
    by_cases hp : isPlainTok t = true
    · rw [if_pos hp] at h
      exact endOf_of_wellEnded (u :: ts) h
    · rw [if_neg hp] at h
      simp at h

/-- the outcome class the harness compares with the real lexer is never `cut`, for every input -/
theorem lex_outcome_total (src : Chars) : endOf (lexAll src) = .eof ∨ endOf (lexAll src) = .lexErr := by
  have := endOf_of_wellEnded _ (lex_terminates src).1
  cases h : endOf (lexAll src) <;> simp_all

/-! ### 3. byte strings -/

theorem snd_ite_pos {c : Prop} [Decidable c] {a b : Nat × Nat} (ha : 1 ≤ a.2) (hb : 1 ≤ b.2) :
    1 ≤ (if c then a else b).2 := by
  split
  · exact ha
  · exact hb

/-- every decoding step uses at least one byte: each leaf of `decodeRune` is a pair whose width
    is the literal 1 (ASCII, or U+FFFD for invalid input), 2, 3 or 4 -/
theorem decodeRune_width (bs : List Nat) : 1 ≤ (decodeRune bs).2 := by
  have one (r : Nat) : 1 ≤ (r, 1).2 := Nat.le_refl 1
  have wide (r : Nat) {w : Nat} (h : 1 ≤ w) : 1 ≤ (r, w).2 := h
  unfold decodeRune
  split
  · exact one _
  · refine snd_ite_pos (one _) (snd_ite_pos ?_ (snd_ite_pos ?_ (snd_ite_pos ?_ (one _))))
    · split
      · exact snd_ite_pos (wide _ (by decide)) (one _)
      · exact one _
    · split
      · exact snd_ite_pos (wide _ (by decide)) (one _)
      · exact one _
    · split
      · exact snd_ite_pos (wide _ (by decide)) (one _)
      · exact one _

theorem goRunesF_length : ∀ (f : Nat) (bs : List Nat), (goRunesF f bs).length ≤ bs.length
  | 0, bs => by simp [goRunesF]
  | f + 1, [] => by simp [goRunesF]
  | f + 1, b :: bs => by
    have hw := decodeRune_width (b :: bs)
    have := goRunesF_length f ((b :: bs).drop (decodeRune (b :: bs)).2)
    simp only [goRunesF, List.length_cons]
    simp only [List.length_drop, List.length_cons] at this
    omega

/-- `[]rune(s)` is never longer than `s` (every decoding step uses at least one byte) -/
theorem goRunes_length (bytes : List Nat) : (goRunes bytes).length ≤ bytes.length :=
  goRunesF_length _ _

/-- **Lexer totality on byte strings.**  For EVERY byte string `bytes` (valid UTF-8 or not), the
    lexer run on `[]rune(bytes)` — what `lexer.New` does — ends with the EOF token or a lexical
    error value, returns at most `len(bytes) + 1` elements, and every span lies within
    `[0, len(bytes) + 1]`. -/
theorem lex_bytes_total (bytes : List Nat) :
    wellEnded (lexBytes bytes) = true ∧
    (endOf (lexBytes bytes) = .eof ∨ endOf (lexBytes bytes) = .lexErr) ∧
    (lexBytes bytes).length ≤ bytes.length + 1 ∧
    ∀ t ∈ lexBytes bytes, t.out ≠ .err "stuck" ∧ t.start ≤ bytes.length ∧ t.stop ≤ bytes.length + 1 := by
  have hl := goRunes_length bytes
  refine ⟨(lex_terminates _).1, lex_outcome_total _, ?_, ?_⟩
  · have := lex_token_count (goRunes bytes)
    unfold lexBytes; omega
  · intro t ht
    have h1 := (lex_terminates (goRunes bytes)).2 t ht
    obtain ⟨h2, h3, _⟩ := lex_spans_inside (goRunes bytes) t ht
    exact ⟨h1, by omega, by omega⟩

/-! ### non-vacuity -/

/-- the invariant holds in the state every call of `Next` starts in, and in the string states
    `dispatch` creates -/
example : stOk (.start false) = true ∧ stOk (.str 39 "'" []) = true ∧ stOk (.strEsc 34 "STRING" []) = true := by decide +kernel

/-- `x = "a\` — an unterminated escape at the end of the input: the array machine reads
    positions 0 … 7 (7 = the length: the sentinel) and nothing beyond -/
example : (runAt [120, 32, 61, 32, 34, 97, 92] 8 (.start false) 4 0 0).2 = [4, 5, 6, 7] := by decide +kernel

/-- the streams of `x=1`, of a lone `~` and of an unterminated block comment end as EOF, as an
    error, and as EOF with `stop = length + 1` -/
example : endOf (lexAll [120, 61, 49]) = .eof ∧ (lexAll [120, 61, 49]).length = 4 := by decide +kernel
example : endOf (lexAll [126]) = .lexErr := by decide +kernel
example : (lexAll [47, 42, 120]).map (·.stop) = [4] := by decide +kernel

/-- invalid bytes become U+FFFD one by one: `ff c3 28` ↦ U+FFFD U+FFFD `(` -/
example : goRunes [0xFF, 0xC3, 0x28] = [0xFFFD, 0xFFFD, 0x28] := by decide +kernel

/-! ### 4. the parser model of the expression core (C01's Pratt model) is total

`Risor.C01.Pratt.parseNode fuel tern prec tokens` is the model of `parser.parseNode` that C01 ties
to parser/parser.go (regenerated precedence / prefix / infix tables, `PrattTies.lean`, and a
token-by-token comparison with the real parser).  It is defined by recursion on `fuel` and
answers `none` both for a parse error and for exhausted fuel.  The theorems below separate the
two: from the fuel `4 * tokens.length + 4` on the answer no longer depends on the fuel, for
EVERY token list — so with that fuel `none` is a parse error and never exhaustion — and a tree it
returns is nested no deeper than the number of tokens it was built from.

The real parser has NO nesting-depth guard to which the depth bound could correspond (no
`p.depth`, no maximum; `Ties.parser_has_no_depth_guard` regenerates the — empty — list of
depth-like identifiers of parser/*.go on every run): its recursion depth is bounded by the
number of tokens only, exactly as in the model, which is why a source of 1.5 million `(`
exhausts the goroutine stack (finding C03-deep-nesting-stack-overflow). -/

section Pratt
open Risor.C01.Pratt

/-- the fuel that is always enough: linear in the number of tokens -/
def parseFuel (toks : List Token) : Nat := 4 * toks.length + 4

/-- **Fuel bound.**  For EVERY token list, ternary flag and precedence: any fuel of at least
    `4 * toks.length + 4` gives the result that exactly that fuel gives. -/
theorem parse_fuel_linear (t : Bool) (p : Nat) (toks : List Token) :
    ∀ k, parseNode (parseFuel toks + k) t p toks = parseNode (parseFuel toks) t p toks
  | 0 => rfl
  | k + 1 => by
    rw [← parse_fuel_linear t p toks k]
    exact (stable (parseFuel toks + k)).1 t p toks (by unfold parseFuel; omega)

/-- **Depth and progress.**  For every fuel and every token list: a tree that `parseNode`
    returns used at least one token, and its nesting depth (`Expr.depth`: nesting along operand
    positions) is at most the number of tokens used — `depth + |rest| ≤ |tokens|`. -/
theorem parse_depth_le_tokens (f : Nat) (t : Bool) (p : Nat) (toks : List Token) (e : Expr)
    (rest : List Token) (h : parseNode f t p toks = some (e, rest)) :
    rest.length < toks.length ∧ e.depth + rest.length ≤ toks.length :=
  (bounds f).1 t p toks e rest h

/-- **Parser totality for the modelled expression core.**  For EVERY token list and precedence,
    `parseExpr` with the linear fuel `4 * toks.length + 4` ends in one of two ways, and every
    larger fuel ends in the same way: a parse ERROR (`none` — not exhaustion: no larger fuel finds
    a tree), or a tree together with the unread tokens, the tree nested no deeper than the
    number of tokens read. -/
theorem parse_total (p : Nat) (toks : List Token) :
    (parseExpr (parseFuel toks) p toks = none ∧ ∀ k, parseExpr (parseFuel toks + k) p toks = none) ∨
    (∃ e rest, parseExpr (parseFuel toks) p toks = some (e, rest) ∧
       (∀ k, parseExpr (parseFuel toks + k) p toks = some (e, rest)) ∧
       rest.length < toks.length ∧ e.depth + rest.length ≤ toks.length ∧ e.depth ≤ toks.length) := by
  unfold parseExpr
  cases h : parseNode (parseFuel toks) false p toks with
  | none =>
    exact .inl ⟨rfl, fun k => by rw [parse_fuel_linear, h]⟩
  | some v =>
    obtain ⟨e, rest⟩ := v
    have := parse_depth_le_tokens _ _ _ _ _ _ h
    exact .inr ⟨e, rest, rfl, fun k => by rw [parse_fuel_linear, h], this.1, this.2, by omega⟩

/-- a smaller fuel can be too small: the bound is about `parseFuel`, not about every fuel
    (`- - - 1` needs more than 4 units) -/
example : parseExpr 4 0 [tk .MINUS, tk .MINUS, tk .MINUS, ⟨.INT, "1"⟩] = none ∧
    (parseExpr (parseFuel [tk .MINUS, tk .MINUS, tk .MINUS, ⟨.INT, "1"⟩]) 0
      [tk .MINUS, tk .MINUS, tk .MINUS, ⟨.INT, "1"⟩]).isSome = true := by decide +kernel

/-- both outcomes occur: `( 1` is a parse error at every fuel, `1 + 2` a tree of depth 2 from
    3 tokens -/
example : parseExpr (parseFuel [tk .LPAREN, ⟨.INT, "1"⟩]) 0 [tk .LPAREN, ⟨.INT, "1"⟩] = none := by decide +kernel
example : (parseExpr (parseFuel [⟨.INT, "1"⟩, tk .PLUS, ⟨.INT, "2"⟩]) 0 [⟨.INT, "1"⟩, tk .PLUS, ⟨.INT, "2"⟩]).map
    (fun r => (r.1.depth, r.2.length)) = some (2, 0) := by decide +kernel

end Pratt

end Risor.C03.Front
