import RisorModel.C03.Front
import RisorModel.C20.Lemmas
/-! Helper lemmas for C03/FrontProps.lean: what one step of C20's lexer machine can return
    (at the NUL sentinel, from the start state, as an error class), and how `run` / `runAt`
    and the token loop depend on them; then, for C01's Pratt model, what a successful call has
    consumed and from which fuel on its result is the same (`Bounds`, `Stable`). -/
namespace Risor.C03.Front
open Risor.C20

/-! ### one step -/

/-- the error classes the machine can report -/
def knownCls (cls : String) : Bool :=
  cls == "unexpected-char" || cls == "invalid-identifier" || cls == "invalid-decimal"

theorem knownCls_char : knownCls "unexpected-char" = true := by
  simp only [knownCls, beq_self_eq_true, Bool.true_or]
theorem knownCls_ident : knownCls "invalid-identifier" = true := by
  simp only [knownCls, beq_self_eq_true, Bool.true_or, Bool.or_true]
theorem knownCls_decimal : knownCls "invalid-decimal" = true := by
  simp only [knownCls, beq_self_eq_true, Bool.or_true]

theorem knownCls_ne_stuck (cls : String) (h : knownCls cls = true) : cls ≠ "stuck" := by
  intro e; subst e; revert h; decide +kernel

/-- a step result whose successor state (if any) keeps the invariant, whose bare error class
    (if any) is one of the three of lexer.go — in particular not the model's "stuck" marker —,
    that steps past the end only with EOF and never gives back the rune at which it set the
    token start -/
def stepOk : Step → Bool
  | .more s _ => stOk s
  | .fail cls => knownCls cls
  | .emit k _ .past _ => k == "EOF"
  | .emit _ _ .pushback f => !f
  | _ => true

theorem stepOk_ite (p : Prop) [Decidable p] {a b : Step} (ha : stepOk a = true) (hb : stepOk b = true) :
    stepOk (if p then a else b) = true := by
  split <;> assumption

/-- what a step from the start state may return: a state that keeps the invariant, a token that
    ends with the rune just seen, or a bare error of a known class — never a token or error that
    gives the rune back -/
def firstOk : Step → Bool
  | .more s _ => stOk s
  | .emit _ _ .consume _ => true
  | .fail cls => knownCls cls
  | _ => false

theorem firstOk_ite (p : Prop) [Decidable p] {a b : Step} (ha : firstOk a = true)
    (hb : firstOk b = true) : firstOk (if p then a else b) = true := by
  split <;> assumption

theorem stepOk_of_first {r : Step} (h : firstOk r = true) : stepOk r = true := by
  cases r with
  | emit k l m f => cases m <;> first | rfl | exact nomatch h
  | failT => exact nomatch h
  | _ => exact h

theorem stripFresh_first {r : Step} (h : firstOk r = true) : firstOk (stripFresh r) = true := by
  cases r with
  | emit k l m f => cases m <;> exact h
  | _ => exact h

/-- one arm of the `switch l.ch` after the other -/
theorem dispatch_first (c : Nat) : firstOk (dispatch c) = true := by
  unfold dispatch
  refine firstOk_ite _ rfl ?_
  cases lookup1 c with
  | some k => rfl
  | none =>
    repeat' apply firstOk_ite
    all_goals first | rfl | exact knownCls_char | exact knownCls_ident

theorem step_start_first (ab : Bool) (c : Nat) : firstOk (stepChar (.start ab) c) = true := by
  have hd := dispatch_first c
  exact firstOk_ite _ rfl (firstOk_ite _ rfl (firstOk_ite _ rfl (firstOk_ite _ (stripFresh_first hd) hd)))


/-- what a step may return at the NUL sentinel: never `more`; a token that consumes the
    sentinel is EOF -/
def nulOk : Step → Bool
  | .more _ _ => false
  | .emit _ _ .pushback _ => true
  | .emit k _ _ _ => k == "EOF"
  | .failT _ _ _ _ => true
  | .fail _ => true

def isMore : Step → Bool
  | .more _ _ => true
  | _ => false

theorem isMore_false_of_ne {r : Step} (h : ∀ s m, r ≠ .more s m) : isMore r = false := by
  cases r with
  | more s m => exact absurd rfl (h s m)
  | _ => rfl

theorem isMore_of_nulOk {r : Step} (h : nulOk r = true) : isMore r = false := by
  cases r with
  | more => exact nomatch h
  | _ => rfl

/-! ### one call of `Next` -/

/-- what the proofs need of the result `r` of a (sub)run that began at offset `lo` with the
    recorded token start `st`, `n` = offset of the end of the input: it is not the model's
    "stuck" marker; it resumes at or after `lo` and at most one past the end; it looked no further
    than the sentinel; its span lies in `[0, n]` (`n + 1` for the EOF of an unterminated block
    comment); a token other than EOF resumes inside the input and its last rune has an index
    below `n` -/
def Good (r : Res) (lo st n : Nat) : Prop :=
  r.out ≠ .err "stuck" ∧ lo ≤ r.next ∧ r.next ≤ n + 1 ∧ r.seen ≤ n + 1 ∧ r.start ≤ n ∧ r.stop ≤ n + 1 ∧
  (∀ k lit, r.out = .tok k lit → k ≠ "EOF" →
     r.next ≤ n ∧ (1 ≤ lo → r.stop < n) ∧ (st < lo → r.start ≤ r.stop))

/-- the result of a step that ends the call at offset `i` of an input of `n` runes; at the
    sentinel (`i = n`) the step is one that `nulOk` allows -/
theorem finish_good (r : Step) (i st n : Nat) (hst : st ≤ i) (hin : i ≤ n)
    (hr : stepOk r = true) (hm : isMore r = false) (hz : i = n → nulOk r = true) :
    Good (finish r i st) i st n := by
  cases r with
  | more s m => exact nomatch hm
  | fail cls =>
    have := knownCls_ne_stuck cls hr
    simp [Good, finish, this]; omega
  | failT k l c m => cases m <;> simp [Good, finish] <;> omega
  | emit k l m f =>
    by_cases hk : k = "EOF"
    · cases m <;> cases f <;> simp [Good, finish, hk] <;> omega
    · -- a token other than EOF that uses the rune at `i` is not at the sentinel
      have hlt : m = .pushback ∨ i < n := by
        cases m
        · exact .inl rfl
        · exact .inr (Nat.lt_of_le_of_ne hin fun e => hk (beq_iff_eq.1 (hz e)))
        · exact absurd (beq_iff_eq.1 hr) hk
      cases m <;> cases f <;> simp [Good, finish, hk, stepOk] at hr hlt ⊢ <;> omega


theorem numTail_ok (m : NumMode) (acc : Chars) (c : Nat) : stepOk (numTail m acc c) = true := by
  unfold numTail
  refine stepOk_ite _ (stepOk_ite _ knownCls_decimal rfl)
    (stepOk_ite _ knownCls_decimal (stepOk_ite _ ?_ rfl))
  cases m <;> first | rfl | exact knownCls_decimal

theorem step_ok (s : St) (c : Nat) (h : stOk s = true) : stepOk (stepChar s c) = true := by
  cases s with
  | start ab => exact stepOk_of_first (step_start_first ab c)
  | num0 | num =>
    simp only [stepChar]
    repeat' split
    all_goals first | rfl | exact numTail_ok _ _ _
  | strEsc =>
    unfold stepChar
    repeat' apply stepOk_ite
    all_goals first | rfl | exact h
  | _ =>
    simp only [stepChar]
    repeat' split
    all_goals first | rfl | exact h | exact knownCls_char | exact knownCls_ident | exact knownCls_decimal

theorem lookup2_zero (a : Nat) : lookup2 a 0 = none := by
  simp [lookup2]

theorem step_nul (s : St) (h : stOk s = true) : nulOk (stepChar s 0) = true := by
  cases s with
  | start ab => cases ab <;> rfl
  | block star => cases star <;> rfl
  | op1 a =>
    simp only [stepChar, lookup2_zero]
    cases lookup1 a <;> rfl
  | num m acc => cases m <;> rfl
  | strEsc q k acc =>
    have : (0 == q) = false := by
      simp only [stOk, bne_iff_ne, ne_eq] at h
      simp; omega
    simp [stepChar, this, nulOk]
  | _ => rfl

theorem run_cons_done {s : St} {c : Nat} (cs : Chars) (i st : Nat) (h : isMore (stepChar s c) = false) :
    run s (c :: cs) i st = finish (stepChar s c) i st := by
  unfold run
  split
  · rename_i h'
    rw [h'] at h
    exact nomatch h
  · rfl

theorem Good.weaken {r : Res} {i st st' n : Nat} (h : Good r (i + 1) st' n) (hst : st' < i + 1) :
    Good r i st n := by
  obtain ⟨h1, h2, h3, h4, h5, h6, h7⟩ := h
  refine ⟨h1, by omega, h3, h4, h5, h6, ?_⟩
  intro k lit hk hne
  obtain ⟨a, b, c⟩ := h7 k lit hk hne
  exact ⟨a, fun _ => b (by omega), fun _ => c hst⟩

/-- every (sub)run of the machine from a state that satisfies the invariant is `Good` -/
theorem run_good : ∀ (l : Chars) (s : St) (i st : Nat), stOk s = true → st ≤ i →
    Good (run s l i st) i st (i + l.length)
  | [], s, i, st, hs, hst => by
    have hz := step_nul s hs
    rw [run_nil]
    exact finish_good _ i st i hst (Nat.le_refl i) (step_ok s 0 hs) (isMore_of_nulOk hz) fun _ => hz
  | c :: cs, s, i, st, hs, hst => by
    have hok := step_ok s c hs
    have hlen : i + (c :: cs).length = i + 1 + cs.length := by simp; omega
    cases h : stepChar s c with
    | more s' m =>
      rw [run_cons_more cs i st h, hlen]
      rw [h] at hok
      have hst' : (if m then i else st) < i + 1 := by split <;> omega
      exact (run_good cs s' (i + 1) _ hok (by omega)).weaken hst'
    | _ =>
      rw [run_cons_done cs i st (by rw [h]; rfl), hlen]
      exact finish_good _ i st _ hst (by omega) hok (by rw [h]; rfl) (by omega)


/-- a call that ends with its first step, taken from the start state -/
theorem finish_first {r : Step} (n : Nat) (hr : firstOk r = true) (hm : isMore r = false) :
    Good (finish r 0 0) 1 0 (1 + n) := by
  cases r with
  | more => exact nomatch hm
  | emit k l m f =>
    cases m with
    | consume => cases f <;> simp [Good, finish] <;> omega
    | _ => exact nomatch hr
  | failT => exact nomatch hr
  | fail cls =>
    have := knownCls_ne_stuck cls hr
    simp [Good, finish, this]

/-- a call of `Next` on a non-empty rest: the first step does not give its rune back, so the call
    is `Good` as a run that began at offset 1 -/
theorem first_good (c : Nat) (cs : Chars) :
    Good (run (.start false) (c :: cs) 0 0) 1 0 (1 + cs.length) := by
  have hf := step_start_first false c
  cases h : stepChar (.start false) c with
  | more s' m =>
    rw [h] at hf
    rw [run_cons_more cs 0 0 h, ite_self]
    exact run_good cs s' 1 0 hf (by omega)
  | _ =>
    rw [run_cons_done cs 0 0 (by rw [h]; rfl)]
    exact finish_first _ hf (by rw [h]; rfl)

/-- one call of `Next` from the start state on the rest `l` of the input: a token other than
    EOF uses at least one rune and at most all of them, and `start ≤ stop < l.length` -/
theorem start_good (l : Chars) :
    let r := run (.start false) l 0 0
    r.out ≠ .err "stuck" ∧ r.seen ≤ l.length + 1 ∧ r.start ≤ l.length ∧ r.stop ≤ l.length + 1 ∧
    (∀ k lit, r.out = .tok k lit → k ≠ "EOF" →
      1 ≤ r.next ∧ r.next ≤ l.length ∧ r.start ≤ r.stop ∧ r.stop < l.length) := by
  cases l with
  | nil =>
    refine ⟨by decide, by decide, by decide, by decide, fun k lit hk hne => ?_⟩
    cases hk
    exact absurd rfl hne
  | cons c cs =>
    obtain ⟨h1, h2, h3, h4, h5, h6, h7⟩ := first_good c cs
    simp only [List.length_cons]
    refine ⟨h1, by omega, by omega, by omega, fun k lit hk hne => ?_⟩
    obtain ⟨a, b, c⟩ := h7 k lit hk hne
    exact ⟨h2, by omega, c (by omega), by have := b (by omega); omega⟩


/-! ### `runAt` = `run`, and where it reads -/

theorem readAt_lt (src : Chars) (p : Nat) (h : p < src.length) : readAt src p = src[p] := by
  simp [readAt, h]

theorem readAt_ge (src : Chars) (p : Nat) (h : src.length ≤ p) : readAt src p = 0 := by
  simp [readAt]; omega

theorem runAt_run (src : Chars) : ∀ (f : Nat) (s : St) (p i st : Nat), stOk s = true →
    p ≤ src.length → src.length + 1 - p ≤ f →
    (runAt src f s p i st).1 = run s (src.drop p) i st ∧ ∀ q ∈ (runAt src f s p i st).2, q ≤ src.length
  | 0, s, p, i, st, _, hp, hf => by omega
  | f + 1, s, p, i, st, hs, hp, hf => by
    by_cases hlt : p < src.length
    · rw [List.drop_eq_getElem_cons hlt]
      simp only [runAt, readAt_lt src p hlt]
      cases h : stepChar s src[p] with
      | more s' m =>
        have hok := step_ok s src[p] hs
        rw [h] at hok
        obtain ⟨a, b⟩ := runAt_run src f s' (p + 1) (i + 1) (if m then i else st) hok (by omega) (by omega)
        rw [run_cons_more _ i st h]
        refine ⟨a, fun q hq => ?_⟩
        cases hq with
        | head => omega
        | tail _ e => exact b q e
      | _ => simp [run, h]; omega
    · have hz := step_nul s hs
      rw [List.drop_eq_nil_of_le (by omega), run_nil]
      simp only [runAt, readAt_ge src p (by omega)]
      cases h : stepChar s 0 with
      | more s' m => rw [h] at hz; exact nomatch hz
      | _ => simp; omega

/-! ### the token loop -/

theorem fixOut_tok_eof (prev : String) (l : List Nat) : fixOut prev (.tok "EOF" l) = .tok "EOF" l := by
  simp [fixOut]

theorem fixOut_tok_inv {prev : String} {o : Out} {k' : String} {l' : List Nat}
    (h : fixOut prev o = .tok k' l') (hne : k' ≠ "EOF") : ∃ k l, o = .tok k l ∧ k ≠ "EOF" := by
  cases o with
  | tok k l =>
    refine ⟨k, l, rfl, ?_⟩
    intro e
    subst e
    rw [fixOut_tok_eof] at h
    injection h with h1 _
    exact hne h1.symm
  | errT k l c => simp [fixOut] at h
  | err c => simp [fixOut] at h

theorem fixOut_not_stuck {prev : String} {o : Out} (h : o ≠ .err "stuck") : fixOut prev o ≠ .err "stuck" := by
  cases o with
  | tok k l => unfold fixOut; split <;> simp_all
  | errT k l c => exact h
  | err c => exact h

/-- one call of `Next` on the rest of the input -/
theorem scan_good (rest : Chars) (prev : String) :
    (scan rest prev).out ≠ .err "stuck" ∧ (scan rest prev).seen ≤ rest.length + 1 ∧
    (scan rest prev).start ≤ rest.length ∧ (scan rest prev).stop ≤ rest.length + 1 ∧
    (∀ k lit, (scan rest prev).out = .tok k lit → k ≠ "EOF" →
      1 ≤ (scan rest prev).next ∧ (scan rest prev).next ≤ rest.length ∧
      (scan rest prev).start ≤ (scan rest prev).stop ∧ (scan rest prev).stop < rest.length) := by
  obtain ⟨h1, h2, h3, h4, h5⟩ := start_good rest
  refine ⟨fixOut_not_stuck h1, h2, h3, h4, ?_⟩
  intro k lit hk hne
  obtain ⟨k0, l0, e, hne0⟩ := fixOut_tok_inv hk hne
  exact h5 k0 l0 e hne0

/-! ### the Pratt model (C01): what a successful call has consumed, and from which fuel on the
    result no longer depends on the fuel -/

section Pratt
open Risor.C01.Pratt

theorem skipNl_length_le : ∀ toks : List Token, (skipNl toks).length ≤ toks.length
  | [] => by simp [skipNl]
  | tok :: rest => by
    unfold skipNl
    split
    · have := skipNl_length_le rest; simp; omega
    · simp

theorem tail_length_le {α} (l : List α) : l.tail.length ≤ l.length := by simp

/-- what a successful call of each of the seven functions of the Pratt model has consumed -/
def Bounds (f : Nat) : Prop :=
  (∀ t p toks e rest, parseNode f t p toks = some (e, rest) →
     rest.length < toks.length ∧ e.depth + rest.length ≤ toks.length) ∧
  (∀ t toks e rest, prefixP f t toks = some (e, rest) →
     rest.length < toks.length ∧ e.depth + rest.length ≤ toks.length) ∧
  (∀ t p l toks e rest, loop f t p l toks = some (e, rest) →
     rest.length ≤ toks.length ∧ e.depth + rest.length ≤ l.depth + toks.length) ∧
  (∀ t fn l tok rest e rest', infixP f t fn l tok rest = some (e, rest') →
     rest'.length ≤ rest.length ∧ e.depth + rest'.length ≤ l.depth + 1 + rest.length) ∧
  (∀ t l lo toks e rest, sliceTail f t l lo toks = some (e, rest) →
     rest.length ≤ toks.length ∧ e.depth + rest.length ≤ l.depth + 1 + toks.length) ∧
  (∀ t en toks a rest, exprList f t en toks = some (a, rest) → rest.length ≤ toks.length) ∧
  (∀ t en toks a rest, listTail f t en toks = some (a, rest) → rest.length ≤ toks.length)

theorem bounds_zero : Bounds 0 := by
  refine ⟨?_, ?_, ?_, ?_, ?_, ?_, ?_⟩ <;> intros <;> rename_i h
  · simp only [parseNode] at h; cases h
  · simp only [prefixP] at h; cases h
  · simp only [loop] at h; cases h
  · simp only [infixP] at h; cases h
  · simp only [sliceTail] at h; cases h
  · simp only [exprList] at h; cases h
  · simp only [listTail] at h; cases h

theorem bounds_succ (f : Nat) (ih : Bounds f) : Bounds (f + 1) := by
  refine ⟨?_, ?_, ?_, ?_, ?_, ?_, ?_⟩
  · obtain ⟨-, iB, iC, -, -, -, -⟩ := ih
    intro t p toks e rest h
    simp only [parseNode] at h
    split at h
    · simp at h
    · rename_i l r0 hp
      have a := iB t toks l r0 hp
      have b := iC t p l r0 e rest h
      omega
  · obtain ⟨iA, -, -, -, -, iF, -⟩ := ih
    intro t toks e rest h
    cases toks with
    | nil => simp [prefixP] at h
    | cons tok rs =>
      simp only [prefixP] at h
      repeat' (split at h)
      all_goals cases h
      all_goals simp only [Expr.depth, List.length_cons, List.length_tail]
      -- a literal uses one token; the other arms make one call, whose bound is the hypothesis
      all_goals first
        | omega
        | (have := iA _ _ _ _ _ ‹parseNode f _ _ _ = some _›; omega)
        | (have := iF _ _ _ _ _ ‹exprList f _ _ _ = some _›; omega)
  · obtain ⟨-, -, iC, iD, -, -, -⟩ := ih
    intro t p l toks e rest h
    cases toks with
    | nil => simp [loop] at h; obtain ⟨h1, h2⟩ := h; subst h1; subst h2; simp
    | cons tok rs =>
      simp only [loop] at h
      repeat' (split at h)
      all_goals try cases h
      -- the loop stops at `tok` (no infix function, or a weaker operator), or goes on with the
      -- result of the infix function
      · exact ⟨Nat.le_refl _, Nat.le_refl _⟩
      · have a := iD _ _ _ _ _ _ _ ‹infixP f _ _ _ _ _ = some _›
        have b := iC _ _ _ _ _ _ h
        simp only [List.length_cons]
        omega
      · exact ⟨Nat.le_refl _, Nat.le_refl _⟩
  · obtain ⟨iA, -, -, -, iE, iF, -⟩ := ih
    intro t fn l tok rest e rest' h
    have hs := skipNl_length_le rest
    cases fn
    all_goals simp only [infixP] at h
    all_goals repeat' (split at h)
    all_goals try cases h
    all_goals try simp only [Expr.depth]
    -- what is left is one goal per arm that returns (`parseIndex` has three); each follows from
    -- the bounds of the one or two calls the arm makes
    -- parseInfixExpr: the right operand, after the newlines
    · have := iA _ _ _ _ _ ‹parseNode f _ _ (skipNl rest) = some _›
      omega
    -- parseIn
    · have := iA _ _ _ _ _ ‹parseNode f _ _ rest = some _›
      omega
    -- parseIndex: `l[:hi]`, `l[i]`, `l[i:hi]`
    · have := iE _ _ _ _ _ _ h
      simp only [List.length_tail] at this
      omega
    · have := iA _ _ _ _ _ ‹parseNode f _ _ rest = some _›
      simp only [List.length_tail]
      omega
    · have a := iA _ _ _ _ _ ‹parseNode f _ _ rest = some _›
      have b := iE _ _ _ _ _ _ h
      simp only [List.length_tail] at b
      omega
    -- parseCall
    · have := iF _ _ _ _ _ ‹exprList f _ _ rest = some _›
      omega
    -- parseNotIn
    · have := iA _ _ _ _ _ ‹parseNode f _ _ rest.tail = some _›
      simp only [List.length_tail] at this
      omega
    -- parseGetAttr: the name and `(` come after the newlines
    · have := iF _ _ _ _ _ ‹exprList f _ _ (List.tail _) = some _›
      rw [‹skipNl rest = _›] at hs
      simp only [List.length_tail, List.length_cons] at this hs
      omega
    -- parseTernary: the second branch is parsed on what the first left
    · have a := iA _ _ _ _ _ ‹parseNode f _ _ rest = some _›
      have b := iA _ _ _ _ _ ‹parseNode f _ _ (List.tail _) = some _›
      simp only [List.length_tail] at b
      omega
  · obtain ⟨iA, -, -, -, -, -, -⟩ := ih
    intro t l lo toks e rest h
    simp only [sliceTail] at h
    repeat' (split at h)
    all_goals cases h
    all_goals simp only [Expr.depth]
    · simp only [List.length_tail]
      omega
    · have := iA _ _ _ _ _ ‹parseNode f _ _ _ = some _›
      simp only [List.length_tail]
      omega
  · obtain ⟨iA, -, -, -, -, -, iG⟩ := ih
    intro t en toks a rest h
    simp only [exprList] at h
    repeat' (split at h)
    all_goals cases h
    · simp only [List.length_tail]
      omega
    · have a := iA _ _ _ _ _ ‹parseNode f _ _ _ = some _›
      have b := iG _ _ _ _ _ ‹listTail f _ _ _ = some _›
      have := skipNl_length_le toks
      omega
  · obtain ⟨iA, -, -, -, -, -, iG⟩ := ih
    intro t en toks a rest h
    simp only [listTail] at h
    repeat' (split at h)
    all_goals cases h
    -- after a comma (a trailing one, or one more element), or at the closing bracket
    · have := skipNl_length_le toks.tail
      simp only [List.length_tail] at this ⊢
      omega
    · have a := iA _ _ _ _ _ ‹parseNode f _ _ _ = some _›
      have b := iG _ _ _ _ _ ‹listTail f _ _ _ = some _›
      have := skipNl_length_le toks.tail
      simp only [List.length_tail] at this
      omega
    · have := skipNl_length_le toks
      simp only [List.length_tail]
      omega

theorem bounds : ∀ f, Bounds f
  | 0 => bounds_zero
  | f + 1 => bounds_succ f (bounds f)

def Stable (f : Nat) : Prop :=
  (∀ t p toks, 4 * toks.length + 4 ≤ f → parseNode (f + 1) t p toks = parseNode f t p toks) ∧
  (∀ t toks, 4 * toks.length + 3 ≤ f → prefixP (f + 1) t toks = prefixP f t toks) ∧
  (∀ t p l toks, 4 * toks.length + 3 ≤ f → loop (f + 1) t p l toks = loop f t p l toks) ∧
  (∀ t fn l tok rest, 4 * rest.length + 6 ≤ f → infixP (f + 1) t fn l tok rest = infixP f t fn l tok rest) ∧
  (∀ t l lo toks, 4 * toks.length + 5 ≤ f → sliceTail (f + 1) t l lo toks = sliceTail f t l lo toks) ∧
  (∀ t en toks, 4 * toks.length + 5 ≤ f → exprList (f + 1) t en toks = exprList f t en toks) ∧
  (∀ t en toks, 4 * toks.length + 6 ≤ f → listTail (f + 1) t en toks = listTail f t en toks)

theorem stable_succ (f : Nat) (ih : Stable f) : Stable (f + 1) := by
  refine ⟨?_, ?_, ?_, ?_, ?_, ?_, ?_⟩
  · obtain ⟨-, iB, iC, -, -, -, -⟩ := ih
    obtain ⟨-, bB, -, -, -, -, -⟩ := bounds f
    intro t p toks hb
    simp only [parseNode]
    rw [iB t toks (by omega)]
    split
    · rfl
    · rename_i l rest hp
      have := bB t toks l rest hp
      exact iC t p l rest (by omega)
  · obtain ⟨iA, -, -, -, -, iF, -⟩ := ih
    intro t toks hb
    cases toks with
    | nil => simp [prefixP]
    | cons tok rs =>
      simp only [List.length_cons] at hb
      have e1 := fun p => iA t p rs (by omega)
      have e2 := fun en => iF t en rs (by omega)
      simp only [prefixP, e1, e2]
  · obtain ⟨-, -, iC, iD, -, -, -⟩ := ih
    obtain ⟨-, -, -, bD, -, -, -⟩ := bounds f
    intro t p l toks hb
    cases toks with
    | nil => simp [loop]
    | cons tok rs =>
      simp only [List.length_cons] at hb
      have e1 := fun fn => iD t fn l tok rs (by omega)
      simp only [loop, e1]
      -- the next round runs on what the infix function left, which is at most as long as `rs`
      cases infixFn tok.kind with
      | none => rfl
      | some fn =>
        dsimp only
        cases hI : infixP f t fn l tok rs with
        | none => rfl
        | some v =>
          obtain ⟨e, rest'⟩ := v
          have := bD _ _ _ _ _ _ _ hI
          dsimp only
          rw [iC t p e rest' (by omega)]
  · obtain ⟨iA, -, -, -, iE, iF, -⟩ := ih
    obtain ⟨bA, -, -, -, -, -, -⟩ := bounds f
    intro t fn l tok rest hb
    have hs := skipNl_length_le rest
    have ht := tail_length_le rest
    -- the calls on `rest` itself, on `skipNl rest` and on `rest.tail`
    have e1 := fun t' p => iA t' p rest (by omega)
    have e2 := fun p => iA t p (skipNl rest) (by omega)
    have e3 := fun en => iF t en rest (by omega)
    have e4 := fun p => iA t p rest.tail (by omega)
    have e5 := fun lo => iE t l lo rest.tail (by omega)
    cases fn
    -- a second call, on what a first call left: shorter than `rest` by `bounds`
    case parseTernary =>
      simp only [infixP, e1]
      split
      · rfl
      · split
        · rename_i a rest' hp
          have := (bA _ _ _ _ _ hp).1
          have := tail_length_le rest'
          rw [iA true _ rest'.tail (by omega)]
        · rfl
    case parseIndex =>
      simp only [infixP, e1, e5]
      split
      · rfl
      · split
        · rename_i i rest' hp
          have := (bA _ _ _ _ _ hp).1
          have := tail_length_le rest'
          rw [iE t l (.some i) rest'.tail (by omega)]
        · rfl
    case parseGetAttr =>
      simp only [infixP]
      split
      · rename_i nameTok rest' hsk
        have := congrArg List.length hsk
        have := tail_length_le rest'
        rw [iF t .RPAREN rest'.tail (by simp only [List.length_cons] at *; omega)]
      · rfl
    all_goals simp only [infixP, e1, e2, e3, e4]
  · obtain ⟨iA, -, -, -, -, -, -⟩ := ih
    intro t l lo toks hb
    have e1 := fun p => iA t p toks (by omega)
    simp only [sliceTail, e1]
  · obtain ⟨iA, -, -, -, -, -, iG⟩ := ih
    obtain ⟨bA, -, -, -, -, -, -⟩ := bounds f
    intro t en toks hb
    have hs := skipNl_length_le toks
    have e1 := fun p => iA t p (skipNl toks) (by omega)
    simp only [exprList, e1]
    cases hP : parseNode f t Level.LOWEST.num (skipNl toks) with
    | none => rfl
    | some v =>
      obtain ⟨e, rest'⟩ := v
      have := bA t _ _ e rest' hP
      dsimp only
      rw [iG t en rest' (by omega)]
  · obtain ⟨iA, -, -, -, -, -, iG⟩ := ih
    obtain ⟨bA, -, -, -, -, -, -⟩ := bounds f
    intro t en toks hb
    cases toks with
    | nil => simp [listTail, headIs, skipNl]
    | cons tok rs =>
      simp only [List.length_cons] at hb
      have hs := skipNl_length_le rs
      have e1 := fun p => iA t p (skipNl rs) (by omega)
      conv => lhs; rw [listTail]
      conv => rhs; rw [listTail]
      simp only [List.tail_cons, e1]
      cases hP : parseNode f t Level.LOWEST.num (skipNl rs) with
      | none => rfl
      | some v =>
        obtain ⟨e, rest'⟩ := v
        have := bA t _ _ e rest' hP
        have e2 := iG t en rest' (by omega)
        dsimp only
        rw [e2]
        rfl

theorem stable : ∀ f, Stable f
  | 0 => by
    refine ⟨?_, ?_, ?_, ?_, ?_, ?_, ?_⟩ <;> intros <;> omega
  | f + 1 => stable_succ f (stable f)


end Pratt

end Risor.C03.Front
