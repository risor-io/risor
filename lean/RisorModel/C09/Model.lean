/-
C09 — evaluations on separate VMs are safe to run concurrently.

Seven executable models, core Lean only.

1. A trace model of threads acquiring/releasing mutexes (exclusive or shared mode, as Go's
   `sync.Mutex` / `sync.RWMutex`) and accessing shared locations.  An access event carries
   the *site* it is an instance of; a site claims the locks that are syntactically held
   around it (the extractor's E8 table), and `step` rejects an access whose claimed locks
   are not in fact held.  `Ordered` is the release→acquire edge between two accesses.

2. The lockset discipline over a table of sites (`pairOK`, `locksetOK`) and the reviewed
   table `implSites` of the code AS IT IS (frozen from the extractor's output at the pinned
   tree, compared with the regenerated one in `Ties.lean`).  At the pinned commit
   `GoType.GetConverter` took no lock, so the sites below it had an empty lockset
   (`preFixRows`); that defect was repaired in /repo and the table follows the repaired code.
   What remains is `Clone` against a re-run of the same VM.

3. A small VM model for `isolated_results`: each evaluation owns its globals and its wrapped
   copy of the compiled code; the compiled code, the converter cache and the importer cache
   are shared.  One step = one statement.

4. State handed out to evaluations by process-wide allocators (§4): the machine behind `vm.Run`
   and the objects that come out of registries (`GoType.GetAttr` …), as resources that agents
   acquire, write through, observe and release under an allocation policy (`fresh` = the code as
   it is; `pooled`, `cached` = contrast variants); reviewed twins of the regenerated tables
   `machineSources`, `registryReturns`, `registryTypes`.

5. Contexts shared by evaluations (§5): evaluations start, make trips round the eval loop and finish
   under contexts that end; `perRun` = the code as it is (one watcher goroutine per run), `registry` =
   the contrast (a process-wide table of watches released by the first run that ends); reviewed
   twin of `haltWrites`.

6. Configurations (§6): `DefaultGlobals` calls, in-place edits of standard-library modules by
   configuration options and attribute reads, as the resource model of §4 once per module attribute;
   reviewed twin of `libVars`.

7. One importer shared by several evaluations whose contexts may end during a first load (§7):
   `codeOnly` = the code as it is (only compiled code is kept), `negative` = the contrast.
-/
namespace Risor.C09

/-! ## 1. Locks and traces -/

abbrev Tid := Nat
/-- a mutex: (class name, object instance); instance 0 for package-level mutexes -/
abbrev Lock := String × Nat

structure LockReq where
  name : String
  excl : Bool      -- held by `Lock()` (true) or `RLock()` (false)
  perObj : Bool    -- a field of the object the location belongs to
  deriving DecidableEq, Repr

structure Site where
  loc : String     -- package-level variable `pkg.name` or per-object field `pkg.Type.field`
  perObj : Bool
  fn : String      -- function containing the access
  write : Bool
  locks : List LockReq   -- must-hold lockset (interprocedural intersection over static callers)
  init : Bool      -- executed only during package initialisation
  deriving DecidableEq, Repr

inductive Ev where
  | acq (t : Tid) (l : Lock) (x : Bool)
  | rel (t : Tid) (l : Lock) (x : Bool)
  | acc (t : Tid) (inst : Nat) (s : Site)
  deriving DecidableEq, Repr

/-- lock state: exclusive holder and shared holders of every mutex -/
structure LS where
  w : Lock → Option Tid
  r : Lock → List Tid

def LS.init : LS := { w := fun _ => none, r := fun _ => [] }

def upd {α : Type} (f : Lock → α) (l : Lock) (v : α) : Lock → α :=
  fun k => if k = l then v else f k

/-- thread `t` holds `l` exclusively (`x = true`) resp. in shared mode -/
def holds (s : LS) (t : Tid) (l : Lock) (x : Bool) : Bool :=
  if x then s.w l == some t else (s.r l).contains t

def lockOf (q : LockReq) (inst : Nat) : Lock := (q.name, if q.perObj then inst else 0)

/-- one event; `none` when the event is not enabled (mutex semantics) or when an access
    claims a lock its thread does not hold -/
def step (s : LS) : Ev → Option LS
  | .acq t l true => if s.w l = none ∧ s.r l = [] then some { s with w := upd s.w l (some t) } else none
  | .acq t l false => if s.w l = none then some { s with r := upd s.r l (t :: s.r l) } else none
  | .rel t l true => if s.w l = some t then some { s with w := upd s.w l none } else none
  | .rel t l false => if t ∈ s.r l then some { s with r := upd s.r l ((s.r l).erase t) } else none
  | .acc t inst site =>
    if (site.perObj || inst == 0) && site.locks.all (fun q => holds s t (lockOf q inst) q.excl)
    then some s else none

def run : LS → List Ev → Option LS
  | s, [] => some s
  | s, e :: es => match step s e with
    | none => none
    | some s' => run s' es

/-- `t1` releases a mutex and later `t2` acquires the same mutex inside `mid`:
    the synchronisation edge that orders what `t1` did before `mid` before what `t2` does after -/
def Ordered (t1 t2 : Tid) (mid : List Ev) : Prop :=
  ∃ l x1 x2 a b c, mid = a ++ Ev.rel t1 l x1 :: (b ++ Ev.acq t2 l x2 :: c)

/-! ## 2. The lockset discipline over a table of sites -/

/-- host-configuration API: not called by any evaluation nor by the library itself
    (`Generated.unlockedWriters` shows who mentions them: nobody / cmd only) -/
def hostConfig : List String := ["errz.SetTypeErrorsAreFatal", "os.SetScriptArgs"]

/-- per-VM state: every function but `Clone` runs on the goroutine that owns the VM
    (serialised by `runMutex`/`running`) -/
def vmLocs : List String :=
  ["vm.VirtualMachine.globals", "vm.VirtualMachine.inputGlobals",
   "vm.VirtualMachine.loadedCode", "vm.VirtualMachine.modules"]

def ownerOnly (s : Site) : Bool := vmLocs.contains s.loc && s.fn != "vm.VirtualMachine.Clone"

/-- may run while another evaluation runs -/
def concurrent (s : Site) : Bool := !s.init && !hostConfig.contains s.fn

def commonLock (a b : Site) : Bool :=
  a.locks.any fun la => b.locks.any fun lb =>
    la.name == lb.name && la.perObj == lb.perObj && (la.excl || lb.excl)

def conflicting (a b : Site) : Bool :=
  a.loc == b.loc && (a.write || b.write) && concurrent a && concurrent b
    && !(ownerOnly a && ownerOnly b)

def pairOK (a b : Site) : Bool := !conflicting a b || commonLock a b

def locksetOK (T : List Site) : Bool := T.all fun a => T.all fun b => pairOK a b

def violations (T : List Site) : List (Site × Site) :=
  T.flatMap fun a => (T.filter fun b => !pairOK a b).map fun b => (a, b)

/-- row shape written by the extractor -/
abbrev Row := String × Bool × String × Bool × List (String × Bool × Bool) × Bool

def ofRow : Row → Site
  | (loc, po, fn, w, ls, i) =>
    { loc := loc, perObj := po, fn := fn, write := w,
      locks := ls.map (fun q => { name := q.1, excl := q.2.1, perObj := q.2.2 }), init := i }

private def gm : List (String × Bool × Bool) := [("object.goTypeMutex", true, false)]
private def cm : List (String × Bool × Bool) := [("vm.VirtualMachine.cloneMutex", true, true)]
private def rm : List (String × Bool × Bool) := [("vm.VirtualMachine.runMutex", true, true)]

/-- The reviewed inventory.  Read with the source next to it: `createTypeConverter`,
    `getTypeConverter`, `newGoType` say "the caller must hold goTypeMutex", and
    `NewTypeConverter`/`NewGoType`/`SetTypeConverter` take it.  At the pinned commit
    `GoType.GetConverter` (called by `Proxy.call` for every argument and result of a Go method)
    called `getTypeConverter` WITHOUT it, so the must-hold lockset of those rows was empty
    (`preFixRows`, finding C09-getconverter-unlocked); since the repair in /repo ("fix: take
    goTypeMutex in GoType.GetConverter") `GetConverter` locks and delegates to `getConverter`,
    and every path to these rows holds `goTypeMutex`. -/
def implRows : List Row := [
  ("builtins.codecs", false, "builtins.<pkg-init>", true, [], true),
  ("builtins.codecs", false, "builtins.GetCodec", false, [("builtins.mutex", false, false)], false),
  ("builtins.codecs", false, "builtins.RegisterCodec", false, [("builtins.mutex", true, false)], false),
  ("builtins.codecs", false, "builtins.RegisterCodec", true, [("builtins.mutex", true, false)], false),
  ("errz.typeErrorsAreFatal", false, "errz.<pkg-init>", true, [], true),
  ("errz.typeErrorsAreFatal", false, "errz.AreTypeErrorsFatal", false, [], false),
  ("errz.typeErrorsAreFatal", false, "errz.NewTypeError", false, [], false),
  ("errz.typeErrorsAreFatal", false, "errz.SetTypeErrorsAreFatal", true, [], false),
  ("importer.FSImporter.codeCache", true, "importer.FSImporter.Import", false, [("importer.FSImporter.mutex", true, true)], false),
  ("importer.FSImporter.codeCache", true, "importer.FSImporter.Import", true, [("importer.FSImporter.mutex", true, true)], false),
  ("importer.LocalImporter.codeCache", true, "importer.LocalImporter.Import", false, [("importer.LocalImporter.mutex", true, true)], false),
  ("importer.LocalImporter.codeCache", true, "importer.LocalImporter.Import", true, [("importer.LocalImporter.mutex", true, true)], false),
  ("importer.defaultExtensions", false, "importer.<pkg-init>", true, [], true),
  ("importer.defaultExtensions", false, "<readers>", false, [], false),
  ("object.False", false, "<readers>", false, [], false),
  ("object.False", false, "object.<pkg-init>", true, [], true),
  ("object.GoType.converter", true, "object.GoType.getConverter", false, gm, false),
  ("object.GoType.converter", true, "object.GoType.getConverter", true, gm, false),
  ("object.Nil", false, "<readers>", false, [], false),
  ("object.Nil", false, "object.<pkg-init>", true, [], true),
  ("object.True", false, "<readers>", false, [], false),
  ("object.True", false, "object.<pkg-init>", true, [], true),
  ("object.basicTypes", false, "object.<pkg-init>", true, [], true),
  ("object.basicTypes", false, "<readers>", false, [], false),
  ("object.byteCache", false, "object.<pkg-init>", true, [], true),
  ("object.byteCache", false, "<readers>", false, [], false),
  ("object.byteCache", false, "object.init", true, [], true),
  ("object.contextInterface", false, "object.<pkg-init>", true, [], true),
  ("object.contextInterface", false, "<readers>", false, [], false),
  ("object.errorInterface", false, "object.<pkg-init>", true, [], true),
  ("object.errorInterface", false, "<readers>", false, [], false),
  ("object.goTypeRegistry", false, "object.<pkg-init>", true, [], true),
  ("object.goTypeRegistry", false, "object.newGoType", false, gm, false),
  ("object.goTypeRegistry", false, "object.newGoType", true, gm, false),
  ("object.intCache", false, "object.<pkg-init>", true, [], true),
  ("object.intCache", false, "<readers>", false, [], false),
  ("object.intCache", false, "object.init", true, [], true),
  ("object.kindConverters", false, "object.<pkg-init>", true, [], true),
  ("object.kindConverters", false, "<readers>", false, [], false),
  ("object.typeConverters", false, "object.<pkg-init>", true, [], true),
  ("object.typeConverters", false, "object.SetTypeConverter", true, gm, false),
  ("object.typeConverters", false, "object.createTypeConverter", false, gm, false),
  ("object.typeConverters", false, "object.createTypeConverter", true, gm, false),
  ("object.typeConverters", false, "object.getTypeConverter", false, gm, false),
  ("op.infos", false, "op.<pkg-init>", true, [], true),
  ("op.infos", false, "<readers>", false, [], false),
  ("op.infos", false, "op.init", true, [], true),
  ("os.globalScriptargs", false, "os.<pkg-init>", true, [], true),
  ("os.globalScriptargs", false, "os.GetScriptArgs", false, [], false),
  ("os.globalScriptargs", false, "os.NewSimpleOS", false, [], false),
  ("os.globalScriptargs", false, "os.SetScriptArgs", true, [], false),
  ("vm.VirtualMachine.globals", true, "vm.VirtualMachine.Clone", false, cm, false),
  ("vm.VirtualMachine.globals", true, "vm.VirtualMachine.applyOptions", false, rm, false),
  ("vm.VirtualMachine.globals", true, "vm.VirtualMachine.applyOptions", true, rm, false),
  ("vm.VirtualMachine.globals", true, "vm.VirtualMachine.loadCode", false, [], false),
  ("vm.VirtualMachine.inputGlobals", true, "vm.VirtualMachine.Clone", false, cm, false),
  ("vm.VirtualMachine.inputGlobals", true, "vm.VirtualMachine.applyOptions", false, rm, false),
  ("vm.VirtualMachine.inputGlobals", true, "vm.WithGlobals", true, [], false),
  ("vm.VirtualMachine.loadedCode", true, "vm.VirtualMachine.Clone", false, cm, false),
  ("vm.VirtualMachine.loadedCode", true, "vm.VirtualMachine.loadCode", false, [], false),
  ("vm.VirtualMachine.loadedCode", true, "vm.VirtualMachine.loadCode", true, cm, false),
  ("vm.VirtualMachine.loadedCode", true, "vm.VirtualMachine.reloadCode", false, [], false),
  ("vm.VirtualMachine.loadedCode", true, "vm.VirtualMachine.reloadCode", true, cm, false),
  ("vm.VirtualMachine.loadedCode", true, "vm.VirtualMachine.resetForNewCode", true, [], false),
  ("vm.VirtualMachine.loadedCode", true, "vm.VirtualMachine.runCodeInternal", false, [], false),
  ("vm.VirtualMachine.modules", true, "vm.VirtualMachine.Clone", false, cm, false),
  ("vm.VirtualMachine.modules", true, "vm.VirtualMachine.applyOptions", true, rm, false),
  ("vm.VirtualMachine.modules", true, "vm.VirtualMachine.importModule", false, [], false),
  ("vm.VirtualMachine.modules", true, "vm.VirtualMachine.importModule", true, cm, false),
  ("vm.VirtualMachine.modules", true, "vm.VirtualMachine.resetForNewCode", true, [], false)
]

def implSites : List Site := implRows.map ofRow

/-- the rows of the converter registries as they were BEFORE the repair of `GetConverter`
    (empty must-hold locksets): kept so that the defect stays a checked statement -/
def preFixRows : List Row := [
  ("object.GoType.converter", true, "object.GoType.GetConverter", false, [], false),
  ("object.GoType.converter", true, "object.GoType.GetConverter", true, [], false),
  ("object.goTypeRegistry", false, "object.<pkg-init>", true, [], true),
  ("object.goTypeRegistry", false, "object.newGoType", false, [], false),
  ("object.goTypeRegistry", false, "object.newGoType", true, [], false),
  ("object.typeConverters", false, "object.<pkg-init>", true, [], true),
  ("object.typeConverters", false, "object.SetTypeConverter", true, gm, false),
  ("object.typeConverters", false, "object.createTypeConverter", false, [], false),
  ("object.typeConverters", false, "object.createTypeConverter", true, [], false),
  ("object.typeConverters", false, "object.getTypeConverter", false, [], false)
]

/-- the three locations reached through `GoType.GetConverter` (finding C09-getconverter-unlocked,
    repaired: they are now covered by the discipline like every other location) -/
def getConverterLocs : List String :=
  ["object.typeConverters", "object.goTypeRegistry", "object.GoType.converter"]

/-- guard of finding C09-clone-during-rerun: per-VM maps read by `Clone` under `cloneMutex`
    but replaced/modified by a re-run of the same VM without it -/
def cloneRerunLocs : List String := vmLocs

def knownRacyLoc (loc : String) : Bool := cloneRerunLocs.contains loc

/-- which known finding (if any) a racy pair of sites falls under -/
def findingOf (a b : Site) : String :=
  if a.loc != b.loc then ""
  else if cloneRerunLocs.contains a.loc
      && (a.fn == "vm.VirtualMachine.Clone" || b.fn == "vm.VirtualMachine.Clone") then "C09-clone-during-rerun"
  else ""

/-- the table after the obvious repairs: (historical, for `preFixRows`) `GetConverter` takes
    `goTypeMutex`; the re-run paths take `cloneMutex` around their writes -/
def repair (s : Site) : Site :=
  if getConverterLocs.contains s.loc && s.locks.isEmpty && concurrent s then
    { s with locks := [{ name := "object.goTypeMutex", excl := true, perObj := false }] }
  else if cloneRerunLocs.contains s.loc && s.write && s.fn != "vm.VirtualMachine.Clone" then
    { s with locks := [{ name := "vm.VirtualMachine.cloneMutex", excl := true, perObj := true }] }
  else s

/-- facts about shared compiled code (reviewed twins of the generated lists) -/
def codeCallsReviewed : List String :=
  ["Code.Constant", "Code.ConstantsCount", "Code.Global", "Code.GlobalNames", "Code.GlobalsCount",
   "Code.Instruction", "Code.InstructionCount", "Code.IsNamed", "Code.LocalsCount", "Code.Name",
   "Code.NameCount", "Code.Root", "Code.Source", "Function.Code", "Function.Default",
   "Function.DefaultsCount", "Function.Name", "Function.Parameter", "Function.ParametersCount"]

def disjoint (xs ys : List String) : Bool := xs.all fun x => !ys.contains x

/-! ## 3. VM model for result isolation -/

inductive Expr where
  | lit (n : Nat)
  | glob (i : Nat)
  | add (a b : Expr)
  | conv (ty : Nat) (e : Expr)     -- call a Go method whose parameter type is `ty` (first use fills the cache)
  | imp (m : Nat)                  -- import module `m` through the shared importer (cached compiled code)
  deriving Repr, DecidableEq

/-- `set i e` is the risor statement `g<i> = e` -/
structure Stmt where
  target : Nat
  rhs : Expr
  deriving Repr, DecidableEq

/-- what the converter for type `ty` computes (the Go methods used by the harness) -/
def convFn (ty v : Nat) : Nat := v % 1000 + ty + 1
/-- the value a module exports (the harness's module files) -/
def modFn (m : Nat) : Nat := 100 + m

abbrev Cache := List (Nat × Nat)

/-- package-level / importer state shared by all evaluations -/
structure Shared where
  code : List Stmt          -- the compiled code, shared read-only
  convCache : Cache         -- typeConverters / GoType.converter: type ↦ converter (its tag)
  modCache : Cache          -- importer codeCache: module ↦ compiled module (its export)
  deriving Repr

/-- one evaluation's own state -/
structure VM where
  ip : Nat
  globals : List Nat
  wrapped : List Stmt       -- `wrapCode`'s private copy of the shared code
  deriving Repr, DecidableEq

def lookupOr (c : Cache) (k : Nat) (mk : Nat → Nat) : Nat × Cache :=
  match c.lookup k with
  | some v => (v, c)
  | none => (mk k, (k, mk k) :: c)

/-- converter tag of a type: its own number (a converter is determined by its type) -/
def mkConv (ty : Nat) : Nat := ty

def evalE (g : List Nat) : Expr → Cache × Cache → Nat × (Cache × Cache)
  | .lit n, cs => (n, cs)
  | .glob i, cs => (g.getD i 0, cs)
  | .add a b, cs =>
    let (x, cs1) := evalE g a cs
    let (y, cs2) := evalE g b cs1
    (x + y, cs2)
  | .conv ty e, cs =>
    let (v, cs1) := evalE g e cs
    let (tag, cc) := lookupOr cs1.1 ty mkConv
    (convFn tag v, (cc, cs1.2))
  | .imp m, cs =>
    let (v, mc) := lookupOr cs.2 m modFn
    (v, (cs.1, mc))

/-- `wrapCode`/`loadCode`: the VM's own copy of the shared compiled code -/
def load (sh : Shared) (nGlobals : Nat) : VM :=
  { ip := 0, globals := List.replicate nGlobals 0, wrapped := sh.code.map id }

/-- one statement of one evaluation -/
def vmStep (sh : Shared) (vm : VM) : Shared × VM :=
  match vm.wrapped[vm.ip]? with
  | none => (sh, vm)
  | some st =>
    let (v, cs) := evalE vm.globals st.rhs (sh.convCache, sh.modCache)
    ({ sh with convCache := cs.1, modCache := cs.2 },
     { vm with ip := vm.ip + 1, globals := vm.globals.set st.target v })

/-- an evaluation run alone for `k` steps on its own shared state -/
def runAlone (sh : Shared) (vm : VM) : Nat → Shared × VM
  | 0 => (sh, vm)
  | k + 1 => let (sh', vm') := vmStep sh vm; runAlone sh' vm' k

/-- any interleaving: `sched` names the evaluation that takes the next step -/
def runSched (sh : Shared) (pool : Nat → VM) : List Nat → Shared × (Nat → VM)
  | [] => (sh, pool)
  | t :: ts =>
    let (sh', vm') := vmStep sh (pool t)
    runSched sh' (fun k => if k = t then vm' else pool k) ts

/-- caches are transparent: whatever they hold is what would be computed -/
def CacheOK (c : Cache) (mk : Nat → Nat) : Prop := ∀ k v, (k, v) ∈ c → v = mk k

def SharedOK (sh : Shared) : Prop := CacheOK sh.convCache mkConv ∧ CacheOK sh.modCache modFn

/-- final result of an evaluation of `code` with `n` globals, run alone from empty caches -/
def aloneResult (code : List Stmt) (n : Nat) : List Nat :=
  (runAlone { code := code, convCache := [], modCache := [] }
    (load { code := code, convCache := [], modCache := [] } n) code.length).2.globals

/-! ## 4. State handed out to evaluations by process-wide allocators

Two things an evaluation receives from state that OUTLIVES it:

* its machine: `vm.Run` (behind `risor.Eval` / `EvalCode`) obtains a `*VirtualMachine`.  The
  code as it is allocates one per call (`New` → `createVM` → `&VirtualMachine{}`).  A context
  watcher goroutine (`start`: `<-ctx.Done(); atomic.StoreInt32(&vm.halt, 1)`) keeps a
  reference to the machine after the evaluation has returned;
* objects from process-wide registries: `GoType.GetAttr("attributes")` and friends hand a
  script an object that comes out of `goTypeRegistry`.  The script keeps it and may edit it.

Both are instances of one machine: agents (`t`) obtain a resource (`acq`), write through the
reference they hold (`wr`: a script edits the map; the watcher of a finished evaluation stores
`halt`), observe it (`rd`: the eval loop loads `halt` before every instruction; a script prints
the map) and end (`rel`: the resource goes back to the allocator — the agent KEEPS its
reference, that is the point).  The allocator's policy is the only difference between the code
as it is (`fresh`) and the two contrast variants (`pooled`: a recycled machine, reset on reuse;
`cached`: one object for everybody, built on first use). -/

inductive Policy where
  | fresh     -- a new resource per request (the code as it is: `New(...)`, `NewMap(t.attrMap())`)
  | pooled    -- released resources are reset and handed out again (a `sync.Pool` of machines)
  | cached    -- the first resource ever built is handed to every request (a cache field in the registry)
  deriving DecidableEq, Repr

inductive REv where
  | acq (t : Nat)
  | wr (t : Nat) (v : Nat)
  | wrUnless (t : Nat) (bad v : Nat)   -- write `v` unless the resource holds `bad` (a refused edit: §6)
  | rd (t : Nat)
  | rel (t : Nat)
  deriving DecidableEq, Repr

def REv.agent : REv → Nat
  | .acq t => t
  | .wr t _ => t
  | .wrUnless t _ _ => t
  | .rd t => t
  | .rel t => t

structure RState where
  cells : List Nat             -- resource `i` currently holds `cells[i]`
  free : List Nat              -- released resources (used by `pooled` only)
  held : Nat → Option Nat      -- the reference agent `t` holds (kept after `rel`)
  log : Nat → List Nat         -- what agent `t` has observed so far

def RState.empty : RState := { cells := [], free := [], held := fun _ => none, log := fun _ => [] }

/-- the allocator: which resource a request gets, and the state afterwards -/
def alloc (p : Policy) (s : RState) : Nat × RState :=
  match p with
  | .fresh => (s.cells.length, { s with cells := s.cells ++ [0] })
  | .pooled =>
    match s.free with
    | r :: fr => (r, { s with cells := s.cells.set r 0, free := fr })   -- `reset()`
    | [] => (s.cells.length, { s with cells := s.cells ++ [0] })
  | .cached =>
    if s.cells.isEmpty then (0, { s with cells := [0] }) else (0, s)

def rstep (p : Policy) (s : RState) : REv → RState
  | .acq t =>
    let (r, s') := alloc p s
    { s' with held := fun k => if k = t then some r else s'.held k }
  | .wr t v =>
    match s.held t with
    | some r => { s with cells := s.cells.set r v }
    | none => s
  | .wrUnless t bad v =>
    match s.held t with
    | some r => if s.cells.getD r 0 = bad then s else { s with cells := s.cells.set r v }
    | none => s
  | .rd t =>
    match s.held t with
    | some r => { s with log := fun k => if k = t then s.log t ++ [s.cells.getD r 0] else s.log k }
    | none => s
  | .rel t =>
    match p, s.held t with
    | .pooled, some r => { s with free := r :: s.free }
    | _, _ => s

def rrun (p : Policy) (s : RState) : List REv → RState
  | [] => s
  | e :: es => rrun p (rstep p s e) es

/-- what agent `t` observes in a schedule, from the empty state -/
def observed (p : Policy) (evs : List REv) (t : Nat) : List Nat := (rrun p RState.empty evs).log t

/-- … and what it observes when only its own events happen (the stand-alone run) -/
def observedAlone (p : Policy) (evs : List REv) (t : Nat) : List Nat :=
  observed p (evs.filter fun e => e.agent == t) t

/-! ### 4a. machines: the events of evaluations through `vm.Run` -/

inductive MEv where
  | start (e : Nat)     -- `vm.Run`: obtain a machine, `start()` (halt := 0, spawn the watcher of e's context)
  | instr (e : Nat)     -- one trip round the eval loop: load `halt`, then dispatch
  | finish (e : Nat)    -- the evaluation returns; the machine is dropped / put back
  | cancel (e : Nat)    -- e's OWN context is cancelled (at any time: during, right after, long after its run)
  deriving DecidableEq, Repr

def MEv.toR : MEv → REv
  | .start e => .acq e
  | .instr e => .rd e
  | .finish e => .rel e
  | .cancel e => .wr e 1

def MEv.eval : MEv → Nat
  | .start e => e
  | .instr e => e
  | .finish e => e
  | .cancel e => e

/-- outcome of evaluation `e`: how many instructions it dispatched before it saw `halt = 1`
    (`none`: it never saw it) -/
def haltedAt (log : List Nat) : Option Nat := log.idxOf? 1

structure MOutcome where
  loads : Nat               -- trips round the eval loop
  halted : Option Nat       -- the trip at which `halt` was seen set
  deriving DecidableEq, Repr

def machineOutcome (p : Policy) (evs : List MEv) (e : Nat) : MOutcome :=
  let log := observed p (evs.map MEv.toR) e
  { loads := log.length, halted := haltedAt log }

def machineOutcomeAlone (p : Policy) (evs : List MEv) (e : Nat) : MOutcome :=
  machineOutcome p (evs.filter fun ev => ev.eval == e) e

/-! ### 4b. the table of what registry-resident objects hand out

`Generated.C09.registryReturns` lists, for every method (and every builtin closure built in a
method) of the Risor object types that live in process-wide registries and that returns an
`object.Object`, where each returned object comes from: `fresh` (constructed in the method body
or by a constructor all of whose returns are fresh), `field` / `elem` (read from the resident
object), `global`, `self`, `param`.  `registryTypes` lists those types with the receiver fields
that any method of theirs assigns. -/

/-- (method, source kind, detail, Go type of the returned expression) -/
abbrev RegRow := String × String × String × String

/-- Go types whose values a script cannot change: no method assigns a receiver field
    (`registryTypes`), `SetAttr` is `base`'s (always an error), and the only lazily written
    field (`GoType.converter`) is written under `goTypeMutex` and is not visible to scripts -/
def immutableObjTypes : List String :=
  ["*object.String", "*object.Int", "*object.Bool", "*object.NilType", "*object.Byte",
   "*object.GoType", "*object.GoField", "*object.GoMethod"]

def regRowOK (r : RegRow) : Bool :=
  r.2.1 == "fresh" || immutableObjTypes.contains r.2.2.2

/-- internal, lock-protected caches that are not reachable from scripts -/
def internalCacheFields : List (String × String) := [("object.GoType", "converter")]

def regTypeOK (t : String × List String) : Bool :=
  t.2.all fun f => internalCacheFields.contains (t.1, f)

/-- reviewed twin of `Generated.C09.registryTypes`: the Risor object types reachable from package-level
    state, with the receiver fields their methods assign.  (A `*object.Map`, `*object.List`, … here
    would mean a mutable container is kept in a registry.) -/
def registryTypeRows : List (String × List String) := [
  ("object.Bool", []),
  ("object.Byte", []),
  ("object.GoField", []),
  ("object.GoMethod", []),
  ("object.GoType", ["converter"]),
  ("object.Int", []),
  ("object.NilType", []),
  ("object.String", [])
]

/-- reviewed twin of `Generated.C09.registryReturns` (read with go_type.go / go_field.go /
    go_method.go next to it): `GoType.GetAttr("attributes")` builds a NEW map per request
    (`NewMap(t.attrMap())`), `GoMethod.GetAttr("error_indices")` a new list, `in_type` / `out_type`
    new builtins that hand out `*GoType` elements; everything read from a field is a `*String`,
    `*Int` or `*GoType`. -/
def registryRows : List RegRow := [
  ("object.Bool.Equals", "global", "object.False", "*object.Bool"),
  ("object.Bool.Equals", "global", "object.True", "*object.Bool"),
  ("object.Byte.Equals", "global", "object.False", "*object.Bool"),
  ("object.Byte.Equals", "global", "object.True", "*object.Bool"),
  ("object.Byte.RunOperation", "global", "object.byteCache[…]", "*object.Byte"),
  ("object.Byte.RunOperation", "global", "object.intCache[…]", "*object.Int"),
  ("object.Byte.runOperationByte", "global", "object.byteCache[…]", "*object.Byte"),
  ("object.Byte.runOperationInt", "global", "object.intCache[…]", "*object.Int"),
  ("object.GoField.Equals", "global", "object.False", "*object.Bool"),
  ("object.GoField.Equals", "global", "object.True", "*object.Bool"),
  ("object.GoField.GetAttr", "field", "fieldType", "*object.GoType"),
  ("object.GoField.GetAttr", "field", "name", "*object.String"),
  ("object.GoField.GetAttr", "field", "tag", "*object.String"),
  ("object.GoField.RunOperation", "fresh", "", "*object.Error"),
  ("object.GoMethod.Equals", "global", "object.False", "*object.Bool"),
  ("object.GoMethod.Equals", "global", "object.True", "*object.Bool"),
  ("object.GoMethod.GetAttr", "field", "name", "*object.String"),
  ("object.GoMethod.GetAttr", "field", "numIn", "*object.Int"),
  ("object.GoMethod.GetAttr", "field", "numOut", "*object.Int"),
  ("object.GoMethod.GetAttr", "fresh", "", "*object.Builtin"),
  ("object.GoMethod.GetAttr", "fresh", "", "*object.List"),
  ("object.GoMethod.GetAttr$func", "elem", "inputTypes", "*object.GoType"),
  ("object.GoMethod.GetAttr$func", "elem", "outputTypes", "*object.GoType"),
  ("object.GoMethod.GetAttr$func", "fresh", "", "*object.Error"),
  ("object.GoMethod.RunOperation", "fresh", "", "*object.Error"),
  ("object.GoType.Equals", "global", "object.False", "*object.Bool"),
  ("object.GoType.Equals", "global", "object.True", "*object.Bool"),
  ("object.GoType.GetAttr", "field", "name", "*object.String"),
  ("object.GoType.GetAttr", "field", "packagePath", "*object.String"),
  ("object.GoType.GetAttr", "fresh", "", "*object.Map"),
  ("object.GoType.GetAttr", "global", "object.False", "*object.Bool"),
  ("object.GoType.GetAttr", "global", "object.True", "*object.Bool"),
  ("object.GoType.RunOperation", "fresh", "", "*object.Error"),
  ("object.Int.Equals", "global", "object.False", "*object.Bool"),
  ("object.Int.Equals", "global", "object.True", "*object.Bool"),
  ("object.Int.RunOperation", "global", "object.intCache[…]", "*object.Int"),
  ("object.Int.runOperationFloat", "global", "object.intCache[…]", "*object.Int"),
  ("object.Int.runOperationInt", "global", "object.intCache[…]", "*object.Int"),
  ("object.NilType.Equals", "global", "object.False", "*object.Bool"),
  ("object.NilType.Equals", "global", "object.True", "*object.Bool"),
  ("object.String.Count", "global", "object.intCache[…]", "*object.Int"),
  ("object.String.Equals", "global", "object.False", "*object.Bool"),
  ("object.String.Equals", "global", "object.True", "*object.Bool"),
  ("object.String.GetAttr$func", "global", "object.False", "*object.Bool"),
  ("object.String.GetAttr$func", "global", "object.True", "*object.Bool"),
  ("object.String.GetAttr$func", "global", "object.intCache[…]", "*object.Int"),
  ("object.String.HasPrefix", "global", "object.False", "*object.Bool"),
  ("object.String.HasPrefix", "global", "object.True", "*object.Bool"),
  ("object.String.HasSuffix", "global", "object.False", "*object.Bool"),
  ("object.String.HasSuffix", "global", "object.True", "*object.Bool"),
  ("object.String.Index", "global", "object.intCache[…]", "*object.Int"),
  ("object.String.LastIndex", "global", "object.intCache[…]", "*object.Int")
]

/-- reviewed twin of `Generated.C09.machineSources`: `vm.Run` → `New` → `createVM` → `&VirtualMachine{}` -/
def machineSourceRows : List (String × String) := [
  ("vm.New", "call:vm.createVM"),
  ("vm.NewEmpty", "call:vm.createVM"),
  ("vm.Run", "call:vm.createVM"),
  ("vm.VirtualMachine.Clone", "new"),
  ("vm.VirtualMachine.cloneCallAsync", "call:vm.VirtualMachine.Clone"),
  ("vm.VirtualMachine.cloneCallSync", "call:vm.VirtualMachine.Clone"),
  ("vm.createVM", "new"),
  ("vm.newVM", "call:vm.New"),
  ("vm.run", "call:vm.newVM")
]

/-- a function of package vm hands out only machines that were allocated for this request:
    `new`, or the result of a function for which the same holds (fuel bounds the call depth) -/
def machineFresh (tbl : List (String × String)) : Nat → String → Bool
  | 0, _ => false
  | fuel + 1, fn =>
    let srcs := (tbl.filter fun r => r.1 == fn).map (·.2)
    !srcs.isEmpty && srcs.all fun src =>
      src == "new" || tbl.any fun r => src == "call:" ++ r.1 && machineFresh tbl fuel r.1

/-- reviewed list of package-level variables that are mutable in effect (name, kind): assigned
    outside initialisation, or of map/slice/pointer/chan type, or a non-`error` interface value, or a
    struct/array stored in the variable itself that carries references or is of a `sync` type
    (`sync.Pool`, `sync.Map`, `bytes.Buffer`, …), or whose storage is written / escapes (`v.f = …`,
    `v[i] = …`, `&v`, `v[:]`, a pointer-receiver method call).  A scratch buffer, pool or cache
    added at package level therefore shows up here and breaks the tie until it is reviewed.
    `object.contextInterface` / `object.errorInterface` are `reflect.Type` values that are only read. -/
def reviewedVars : List (String × String) := [
  ("builtins.codecs", "state"), ("builtins.mutex", "lock"), ("errz.typeErrorsAreFatal", "state"),
  ("importer.defaultExtensions", "state"), ("object.False", "state"), ("object.Nil", "state"),
  ("object.True", "state"), ("object.basicTypes", "state"), ("object.byteCache", "state"), ("object.contextInterface", "state"),
  ("object.errorInterface", "state"), ("object.goTypeMutex", "lock"),
  ("object.goTypeRegistry", "state"), ("object.intCache", "state"), ("object.kindConverters", "state"),
  ("object.typeConverters", "state"), ("op.infos", "state"), ("os.globalScriptargs", "state")]

/-- reviewed: the only unlocked writers of package-level variables outside initialisation, and
    who in the repository calls them (top-level directories, non-test files) -/
def reviewedUnlockedWriters : List (String × String × List String) := [
  ("errz.typeErrorsAreFatal", "errz.SetTypeErrorsAreFatal", []),
  ("os.globalScriptargs", "os.SetScriptArgs", ["cmd"])]

/-! ## 5. Contexts: several evaluations under ONE context

`vm.start` makes the machine's `halt` flag follow the context of the run: the code as it is parks one
goroutine PER RUN on `ctx.Done()` (`<-doneChan; atomic.StoreInt32(&vm.halt, 1)`).  A request context
is routinely shared: two scripts of one request, a worker pool under one deadline.  The property
demands that cancelling context `c` stops every evaluation running under `c` — exactly as it stops
that evaluation when it runs under `c` alone — and nobody else, whatever the other evaluations
under `c` do (start, finish, start again) in the meantime.

Machines are per evaluation (§4a, `fresh`), so the flag is indexed by the evaluation.  The contrast
policy `registry` is a package-level table context ↦ watched flags with ONE callback per context that
is torn down when a run under the context ends. -/

inductive WatchPolicy where
  | perRun     -- the code as it is: each run has its own watcher goroutine
  | registry   -- contrast: one callback per context in a process-wide table, released by the first `stop()`
  deriving DecidableEq, Repr

inductive CEv where
  | start (e c : Nat)   -- evaluation `e` starts a run under context `c`
  | instr (e : Nat)     -- one trip round `e`'s eval loop: load `halt`, then dispatch
  | finish (e : Nat)    -- `e`'s run returns (`stop()`)
  | cancel (c : Nat)    -- context `c` is cancelled / its deadline passes
  deriving DecidableEq, Repr

structure CState where
  ctxOf : Nat → Option Nat     -- the context `e`'s current (or last) run was started under
  done : Nat → Bool            -- context `c` is done
  halt : Nat → Nat             -- the halt flag of `e`'s machine
  log : Nat → List Nat         -- what `e`'s eval loop has loaded so far
  watch : Nat → List Nat       -- `registry` only: context ↦ evaluations whose flag its callback sets

def CState.empty : CState :=
  { ctxOf := fun _ => none, done := fun _ => false, halt := fun _ => 0, log := fun _ => [], watch := fun _ => [] }

def cstep : WatchPolicy → CState → CEv → CState
  | .perRun, s, .start e c =>
    { s with ctxOf := fun k => if k = e then some c else s.ctxOf k,
             halt := fun k => if k = e then (if s.done c then 1 else 0) else s.halt k }
  | .perRun, s, .instr e => { s with log := fun k => if k = e then s.log e ++ [s.halt e] else s.log k }
  | .perRun, s, .finish _ => s      -- the watcher stays parked: it refers to this run's machine only
  | .perRun, s, .cancel c =>
    { s with done := fun k => if k = c then true else s.done k,
             halt := fun k => if s.ctxOf k = some c then 1 else s.halt k }
  | .registry, s, .start e c =>
    { s with ctxOf := fun k => if k = e then some c else s.ctxOf k,
             halt := fun k => if k = e then (if s.done c then 1 else 0) else s.halt k,
             watch := fun k => if k = c then (if s.done c then s.watch c else s.watch c ++ [e]) else s.watch k }
  | .registry, s, .instr e => { s with log := fun k => if k = e then s.log e ++ [s.halt e] else s.log k }
  | .registry, s, .finish e =>
    match s.ctxOf e with
    | some c => { s with watch := fun k => if k = c then [] else s.watch k }   -- `unwatchContext`: the whole entry
    | none => s
  | .registry, s, .cancel c =>
    { s with done := fun k => if k = c then true else s.done k,
             halt := fun k => if (s.watch c).contains k then 1 else s.halt k,
             watch := fun k => if k = c then [] else s.watch k }

def crun (p : WatchPolicy) (s : CState) : List CEv → CState
  | [] => s
  | ev :: evs => crun p (cstep p s ev) evs

/-- does the event concern evaluation `e` in the schedule `evs`: its own events, and the end of
    every context it is ever started under in `evs` -/
def CEv.concerns (evs : List CEv) (e : Nat) : CEv → Bool
  | .start e' _ => e' == e
  | .instr e' => e' == e
  | .finish e' => e' == e
  | .cancel c => evs.contains (.start e c)

def ctxOutcome (p : WatchPolicy) (evs : List CEv) (e : Nat) : MOutcome :=
  let log := (crun p CState.empty evs).log e
  { loads := log.length, halted := haltedAt log }

/-- … and in the schedule that contains only what concerns `e`: `e` under its context(s), alone -/
def ctxOutcomeAlone (p : WatchPolicy) (evs : List CEv) (e : Nat) : MOutcome :=
  ctxOutcome p (evs.filter (CEv.concerns evs e)) e

/-- reviewed twin of `Generated.C09.haltWrites`: every place in package vm that writes the `halt`
    field of a machine or lets its address out of an atomic load/store: (function, how, what).
    `start` clears it and starts the goroutine literal that stores 1 after `<-doneChan`;
    `resetForNewCode` clears it.  Nothing else holds a reference to the flag. -/
def haltWriteRows : List (String × String × String) := [
  ("vm.VirtualMachine.resetForNewCode", "assign", "0"),
  ("vm.VirtualMachine.start", "assign", "0"),
  ("vm.VirtualMachine.start", "go-literal:atomic.StoreInt32", "1")
]

/-- every writer is a method of the machine itself, the only store of 1 sits in a goroutine started by
    `start`, and the flag's address is handed to nothing but `sync/atomic` -/
def haltRowOK (r : String × String × String) : Bool :=
  "vm.VirtualMachine.".toList.isPrefixOf r.1.toList && (r.2.1 == "assign" && r.2.2 == "0"
    || r.1 == "vm.VirtualMachine.start" && r.2.1 == "go-literal:atomic.StoreInt32")

/-! ## 6. Configurations: what an evaluation's options do to the standard library it is given

`risor.NewConfig` calls `DefaultGlobals()` (`build`), which constructs every module of the standard
library; `WithoutGlobal("m.a")` then removes attribute `a` from the module the Config holds
(`deny`: `Module.Override(a, nil)` — an IN-PLACE edit of the module object),
`WithGlobalOverride("m.a", v)` replaces it (`override`: refused when the attribute is not there), and
the script reads `m.a` (`use`).  Attributes are independent cells, so the library is the resource
model of §4 once per cell `(m, a)`: content 0 = as built, 1 = removed, `v + 2` = replaced by `v`.
`fresh` = the code as it is (a library per `DefaultGlobals` call); `cached` = the contrast (module
objects built once and handed to every Config). -/

inductive GEv where
  | build (e : Nat)
  | deny (e m a : Nat)
  | override (e m a v : Nat)
  | use (e m a : Nat)
  deriving DecidableEq, Repr

def GEv.agent : GEv → Nat
  | .build e => e
  | .deny e _ _ => e
  | .override e _ _ _ => e
  | .use e _ _ => e

/-- an in-place edit of a module -/
def GEv.isEdit : GEv → Bool
  | .deny .. => true
  | .override .. => true
  | _ => false

/-- the event as seen by the cell `(m, a)` -/
def GEv.toR (m a : Nat) : GEv → Option REv
  | .build e => some (.acq e)
  | .deny e m' a' => if m' = m ∧ a' = a then some (.wr e 1) else none
  | .override e m' a' v => if m' = m ∧ a' = a then some (.wrUnless e 1 (v + 2)) else none
  | .use e m' a' => if m' = m ∧ a' = a then some (.rd e) else none

/-- what evaluation `e` finds in attribute `a` of module `m`, use after use -/
def attrSeen (p : Policy) (evs : List GEv) (e m a : Nat) : List Nat :=
  observed p (evs.filterMap (GEv.toR m a)) e

/-- … when only its own configuration and uses happen -/
def attrSeenAlone (p : Policy) (evs : List GEv) (e m a : Nat) : List Nat :=
  attrSeen p (evs.filter fun ev => ev.agent == e) e m a

/-- reviewed twin of `Generated.C09.libVars`: the package-level variables of the root package and of
    the module packages `DefaultGlobals` builds the standard library from, with the functions that
    write them.  There is ONE, a literal map of option names that is only read: the root package
    and the standard-library modules have no place to keep an object between two calls, so what
    `DefaultGlobals` hands out is constructed by that call (the state of `object` and `builtins`
    is in the inventory of §2). -/
def libVarRows : List (String × String × List String) := [
  ("modules/exec.allowedKeys", "map[string]bool", [])
]

/-! ## 7. One importer, several evaluations, contexts that end during a first load

`LocalImporter` / `FSImporter` keep ONE piece of state between `Import` calls: the compiled code of
the modules loaded so far (`codeCache`, under the importer's mutex).  An import statement of
evaluation `e` for module `m` reaches `Importer.Import` (`IEv`); `live = false` says that `e`'s own
context ends between that call and the end of the parser's run over the module (the parser polls
`ctx.Done()` before every top-level statement).  A first load searches the source directory
(`fs m`: 0 = no such file, 1 = a file that does not compile, `v + 2` = a module exporting `v`),
parses and compiles under the CALLER's context; the outcome (`0` not found, `1` compile error,
`2` the caller's context ended, `v + 3` the module) belongs to that call.  `codeOnly` = the code as
it is (only compiled code is kept); `negative` = the contrast (a failure is kept as well, whatever
its cause). -/

inductive ImpPolicy where
  | codeOnly
  | negative
  deriving DecidableEq, Repr

structure IEv where
  e : Nat
  m : Nat
  live : Bool
  deriving DecidableEq, Repr

structure IState where
  code : List (Nat × Nat)
  errs : List (Nat × Nat)
  log : Nat → List (IEv × Nat)

def IState.empty : IState := { code := [], errs := [], log := fun _ => [] }

def ilook : List (Nat × Nat) → Nat → Option Nat
  | [], _ => none
  | (k, v) :: c, m => if m = k then some v else ilook c m

/-- a first load of `m` by a caller whose context is (not) live until the parser is done -/
def loadRes (fs : Nat → Nat) (m : Nat) (live : Bool) : Nat :=
  match fs m with
  | 0 => 0
  | k + 1 => if live = false then 2 else if k = 0 then 1 else k + 2

def ilog (s : IState) (ev : IEv) (r : Nat) : IState :=
  { s with log := fun t => if t = ev.e then s.log t ++ [(ev, r)] else s.log t }

def istep (p : ImpPolicy) (fs : Nat → Nat) (s : IState) (ev : IEv) : IState :=
  match ilook s.code ev.m with
  | some v => ilog s ev (v + 3)
  | none =>
    match (if p = .negative then ilook s.errs ev.m else none) with
    | some r => ilog s ev r
    | none =>
      let r := loadRes fs ev.m ev.live
      if 3 ≤ r then ilog { s with code := (ev.m, r - 3) :: s.code } ev r
      else if p = .negative then ilog { s with errs := (ev.m, r) :: s.errs } ev r
      else ilog s ev r

def irun (p : ImpPolicy) (fs : Nat → Nat) (s : IState) : List IEv → IState
  | [] => s
  | ev :: rest => irun p fs (istep p fs s ev) rest

/-- what evaluation `e`'s import statements get, import after import -/
def importsSeen (p : ImpPolicy) (fs : Nat → Nat) (evs : List IEv) (e : Nat) : List Nat :=
  ((irun p fs IState.empty evs).log e).map (·.2)

/-- … when `e` is the only evaluation that uses the importer -/
def importsSeenAlone (p : ImpPolicy) (fs : Nat → Nat) (evs : List IEv) (e : Nat) : List Nat :=
  importsSeen p fs (evs.filter fun ev => ev.e == e) e

/-- Spec: what the property demands of ONE import: under a context that stays live it gets what a
    first load under that context gets (the module, or the module's own, permanent failure),
    whatever other evaluations did to the importer before; only an import whose OWN context ended
    may report that (and may as well get a module somebody else finished loading). -/
def ImpOK (fs : Nat → Nat) (ev : IEv) (r : Nat) : Prop :=
  r = loadRes fs ev.m true ∨ (ev.live = false ∧ r = loadRes fs ev.m false)

end Risor.C09
