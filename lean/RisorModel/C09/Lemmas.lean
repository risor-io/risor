import RisorModel.C09.Model
/-!
C09 — helper lemmas: mutex invariants along a trace, the "release then acquire" lemma,
transparency of the caches in the VM model; then, for Model §4–§6, resources handed out by a
process-wide allocator, immutable resources shared under any policy, contexts shared by
evaluations, configurations and the standard library; last, sweeps over the reviewed tables.
-/
namespace Risor.C09

/-! ### lock state -/

/-- an exclusively held mutex has no shared holders -/
def Inv (s : LS) : Prop := ∀ l t, s.w l = some t → s.r l = []

theorem inv_init : Inv LS.init := by
  intro l t h; simp [LS.init] at h

theorem upd_same {α : Type} (f : Lock → α) (l : Lock) (v : α) : upd f l v l = v := by
  simp [upd]

theorem upd_other {α : Type} (f : Lock → α) (l k : Lock) (v : α) (h : k ≠ l) : upd f l v k = f k := by
  simp [upd, h]

theorem holds_true_iff (s : LS) (t : Tid) (l : Lock) : holds s t l true = true ↔ s.w l = some t := by
  simp [holds]

theorem holds_false_iff (s : LS) (t : Tid) (l : Lock) : holds s t l false = true ↔ t ∈ s.r l := by
  simp [holds]

theorem step_inv (s s' : LS) (e : Ev) (hi : Inv s) (h : step s e = some s') : Inv s' := by
  cases e with
  | acc t i site =>
    simp only [step] at h
    split at h <;> cases h
    exact hi
  | acq t l x | rel t l x =>
    -- `w` or `r` changes at `l` only, and the guard of the event keeps the invariant there
    cases x <;> simp only [step] at h <;> split at h <;> cases h <;> intro k u hk <;>
      have := hi k <;> simp only [upd] at hk ⊢ <;> grind

theorem run_inv (es : List Ev) (s s' : LS) (hi : Inv s) (h : run s es = some s') : Inv s' := by
  induction es generalizing s with
  | nil => simp only [run] at h; cases h; exact hi
  | cons e es ih =>
    simp only [run] at h
    split at h
    · cases h
    · rename_i s1 hs
      exact ih s1 (step_inv s s1 e hi hs) h

theorem run_append (a b : List Ev) (s : LS) :
    run s (a ++ b) = (run s a).bind (fun s' => run s' b) := by
  induction a generalizing s with
  | nil => simp [run]
  | cons e es ih =>
    simp only [List.cons_append, run]
    split
    · simp
    · rename_i s1 _; exact ih s1

/-- two different threads cannot hold one mutex when at least one of them holds it exclusively -/
theorem excl_holds (s : LS) (hi : Inv s) (t1 t2 : Tid) (l : Lock) (x1 x2 : Bool)
    (h1 : holds s t1 l x1 = true) (h2 : holds s t2 l x2 = true) (hx : (x1 || x2) = true) : t1 = t2 := by
  cases x1 <;> cases x2
  · simp at hx
  · rw [holds_false_iff] at h1; rw [holds_true_iff] at h2
    have := hi l t2 h2; rw [this] at h1; cases h1
  · rw [holds_true_iff] at h1; rw [holds_false_iff] at h2
    have := hi l t1 h1; rw [this] at h2; cases h2
  · rw [holds_true_iff] at h1 h2
    rw [h1] at h2; cases h2; rfl

/-- a thread that does not hold `l` in mode `x` can come to hold it only by its own acquire -/
theorem step_holds_false (s s' : LS) (e : Ev) (t : Tid) (l : Lock) (x : Bool)
    (h : step s e = some s') (hne : e ≠ Ev.acq t l x) (hf : holds s t l x = false) :
    holds s' t l x = false := by
  cases e with
  | acc u i site =>
    simp only [step] at h
    split at h <;> cases h
    exact hf
  | acq u k y | rel u k y =>
    -- every other event rewrites `w` or `r` at one lock, with a holder that is not `t` in mode `x`
    cases y <;> cases x <;> simp only [step] at h <;> split at h <;> cases h <;>
      simp only [holds, upd, Bool.false_eq_true, ↓reduceIte] at hf ⊢ <;> grind

/-- a thread keeps holding `l` in mode `x` until its own release -/
theorem step_holds_true (s s' : LS) (e : Ev) (t : Tid) (l : Lock) (x : Bool)
    (h : step s e = some s') (hne : e ≠ Ev.rel t l x) (hi : Inv s) (ht : holds s t l x = true) :
    holds s' t l x = true := by
  have hil := hi l
  cases e with
  | acc u i site =>
    simp only [step] at h
    split at h <;> cases h
    exact ht
  | acq u k y | rel u k y =>
    -- an acquire of `l` by another thread is not enabled while `t` holds it (`hil`)
    cases y <;> cases x <;> simp only [step] at h <;> split at h <;> cases h <;>
      simp only [holds, upd, Bool.false_eq_true, ↓reduceIte] at ht ⊢ <;> grind

/-- right after `t1` releases `l` (mode `x1`), another thread `t2` does not hold it in a
    mode `x2` that conflicts with `x1` -/
theorem after_release (s s' : LS) (t1 t2 : Tid) (l : Lock) (x1 x2 : Bool) (hi : Inv s)
    (h : step s (Ev.rel t1 l x1) = some s') (_hne : t1 ≠ t2) (hx : (x1 || x2) = true) :
    holds s' t2 l x2 = false := by
  cases x1 with
  | true =>
    simp only [step] at h
    split at h
    · rename_i hc
      cases h
      cases x2 with
      | true => simp [holds, upd_same]
      | false =>
        have := hi l t1 hc
        simp [holds, this]
    · cases h
  | false =>
    have hx2 : x2 = true := by simpa using hx
    subst hx2
    simp only [step] at h
    split at h
    · rename_i hc
      cases h
      cases hw : s.w l with
      | none => simp [holds, hw]
      | some u =>
        have := hi l u hw
        rw [this] at hc
        cases hc
    · cases h

theorem acquire_needed (mid : List Ev) (s s' : LS) (t : Tid) (l : Lock) (x : Bool)
    (h : run s mid = some s') (hf : holds s t l x = false) (ht : holds s' t l x = true) :
    ∃ b c, mid = b ++ Ev.acq t l x :: c := by
  induction mid generalizing s with
  | nil =>
    simp only [run] at h; cases h
    rw [hf] at ht; cases ht
  | cons e es ih =>
    simp only [run] at h
    split at h
    · cases h
    · rename_i s1 hs
      by_cases he : e = Ev.acq t l x
      · exact ⟨[], es, by simp [he]⟩
      · obtain ⟨b, c, hbc⟩ := ih s1 h (step_holds_false s s1 e t l x hs he hf)
        exact ⟨e :: b, c, by simp [hbc]⟩

/-- **release → acquire**: if `t1` holds `l` before `mid` and a different thread `t2` holds it
    after `mid`, at least one of them exclusively, then inside `mid` `t1` releases `l` and
    later `t2` acquires it. -/
theorem release_then_acquire (mid : List Ev) (s s' : LS) (t1 t2 : Tid) (l : Lock) (x1 x2 : Bool)
    (h : run s mid = some s') (hi : Inv s) (h1 : holds s t1 l x1 = true)
    (h2 : holds s' t2 l x2 = true) (hne : t1 ≠ t2) (hx : (x1 || x2) = true) :
    ∃ a b c, mid = a ++ Ev.rel t1 l x1 :: (b ++ Ev.acq t2 l x2 :: c) := by
  induction mid generalizing s with
  | nil =>
    simp only [run] at h; cases h
    exact absurd (excl_holds _ hi t1 t2 l x1 x2 h1 h2 hx) hne
  | cons e es ih =>
    simp only [run] at h
    split at h
    · cases h
    · rename_i s1 hs
      by_cases he : e = Ev.rel t1 l x1
      · subst he
        have hf := after_release s s1 t1 t2 l x1 x2 hi hs hne hx
        obtain ⟨b, c, hbc⟩ := acquire_needed es s1 s' t2 l x2 h hf h2
        exact ⟨[], b, c, by simp [hbc]⟩
      · have h1' := step_holds_true s s1 e t1 l x1 hs he hi h1
        obtain ⟨a, b, c, habc⟩ := ih s1 h (step_inv s s1 e hi hs) h1'
        exact ⟨e :: a, b, c, by simp [habc]⟩

/-- an enabled access holds every lock its site claims -/
theorem acc_holds (s s' : LS) (t : Tid) (i : Nat) (site : Site) (q : LockReq)
    (h : step s (Ev.acc t i site) = some s') (hq : q ∈ site.locks) :
    s' = s ∧ holds s t (lockOf q i) q.excl = true := by
  simp only [step] at h
  split at h
  · rename_i hc
    cases h
    simp only [Bool.and_eq_true, List.all_eq_true] at hc
    exact ⟨rfl, hc.2 q hq⟩
  · cases h

/-! ### caches -/

theorem lookup_mem (c : Cache) (k v : Nat) (h : c.lookup k = some v) : (k, v) ∈ c := by
  induction c with
  | nil => simp [List.lookup] at h
  | cons p ps ih =>
    obtain ⟨a, b⟩ := p
    simp only [List.lookup] at h
    split at h
    · rename_i heq
      have : k = a := by simpa using heq
      cases h; subst this; simp
    · exact List.mem_cons_of_mem _ (ih h)

theorem lookupOr_ok (c : Cache) (k : Nat) (mk : Nat → Nat) (h : CacheOK c mk) :
    (lookupOr c k mk).1 = mk k ∧ CacheOK (lookupOr c k mk).2 mk := by
  unfold lookupOr
  cases hl : c.lookup k with
  | none =>
    refine ⟨rfl, ?_⟩
    intro a b hab
    simp only [List.mem_cons, Prod.mk.injEq] at hab
    rcases hab with ⟨ha, hb⟩ | hab
    · subst ha; exact hb
    · exact h a b hab
  | some v =>
    exact ⟨h k v (lookup_mem c k v hl), h⟩

/-- the value of an expression does not depend on what the (transparent) caches hold, and
    evaluation keeps them transparent -/
theorem evalE_ok (g : List Nat) (e : Expr) (cs cs' : Cache × Cache)
    (h1 : CacheOK cs.1 mkConv) (h2 : CacheOK cs.2 modFn)
    (h1' : CacheOK cs'.1 mkConv) (h2' : CacheOK cs'.2 modFn) :
    (evalE g e cs).1 = (evalE g e cs').1
      ∧ CacheOK (evalE g e cs).2.1 mkConv ∧ CacheOK (evalE g e cs).2.2 modFn := by
  induction e generalizing cs cs' with
  | lit n => exact ⟨rfl, h1, h2⟩
  | glob i => exact ⟨rfl, h1, h2⟩
  | add a b iha ihb =>
    obtain ⟨ea, ca1, ca2⟩ := iha cs cs' h1 h2 h1' h2'
    obtain ⟨_, ca1', ca2'⟩ := iha cs' cs h1' h2' h1 h2
    obtain ⟨eb, cb1, cb2⟩ := ihb (evalE g a cs).2 (evalE g a cs').2 ca1 ca2 ca1' ca2'
    simp only [evalE]
    exact ⟨by rw [ea, eb], cb1, cb2⟩
  | conv ty e ih =>
    obtain ⟨ee, c1, c2⟩ := ih cs cs' h1 h2 h1' h2'
    obtain ⟨_, c1', _⟩ := ih cs' cs h1' h2' h1 h2
    have l1 := lookupOr_ok (evalE g e cs).2.1 ty mkConv c1
    have l2 := lookupOr_ok (evalE g e cs').2.1 ty mkConv c1'
    simp only [evalE]
    exact ⟨by rw [l1.1, l2.1, ee], l1.2, c2⟩
  | imp m =>
    have l1 := lookupOr_ok cs.2 m modFn h2
    have l2 := lookupOr_ok cs'.2 m modFn h2'
    simp only [evalE]
    exact ⟨by rw [l1.1, l2.1], h1, l1.2⟩

theorem vmStep_ok (sh sh' : Shared) (vm : VM) (h : SharedOK sh) (h' : SharedOK sh') :
    (vmStep sh vm).2 = (vmStep sh' vm).2 ∧ SharedOK (vmStep sh vm).1 := by
  unfold vmStep
  cases hw : vm.wrapped[vm.ip]? with
  | none => exact ⟨rfl, h⟩
  | some st =>
    obtain ⟨e, c1, c2⟩ := evalE_ok vm.globals st.rhs (sh.convCache, sh.modCache)
      (sh'.convCache, sh'.modCache) h.1 h.2 h'.1 h'.2
    simp only
    exact ⟨by rw [e], c1, c2⟩

theorem vmStep_code (sh : Shared) (vm : VM) : (vmStep sh vm).1.code = sh.code := by
  unfold vmStep
  cases vm.wrapped[vm.ip]? <;> rfl

theorem runAlone_ok (k : Nat) (sh sh' : Shared) (vm : VM) (h : SharedOK sh) (h' : SharedOK sh') :
    (runAlone sh vm k).2 = (runAlone sh' vm k).2 ∧ SharedOK (runAlone sh vm k).1 := by
  induction k generalizing sh sh' vm with
  | zero => exact ⟨rfl, h⟩
  | succ k ih =>
    have s1 := vmStep_ok sh sh' vm h h'
    have s2 := vmStep_ok sh' sh vm h' h
    simp only [runAlone]
    rw [s1.1]
    exact ih (vmStep sh vm).1 (vmStep sh' vm).1 (vmStep sh' vm).2 s1.2 s2.2

/-- running `k` more steps after one step = running `k+1` steps (alone, any transparent caches) -/
theorem runAlone_snoc (k : Nat) (sh sh' : Shared) (vm : VM) (h : SharedOK sh) (h' : SharedOK sh') :
    (vmStep sh' (runAlone sh vm k).2).2 = (runAlone sh vm (k + 1)).2 := by
  induction k generalizing sh sh' vm with
  | zero =>
    simp only [runAlone]
    exact (vmStep_ok sh' sh vm h' h).1
  | succ k ih =>
    have s1 := vmStep_ok sh sh vm h h
    have := ih (vmStep sh vm).1 sh' (vmStep sh vm).2 s1.2 h'
    simp only [runAlone] at this ⊢
    exact this

/-- empty caches are transparent -/
theorem sharedOK_empty (code : List Stmt) :
    SharedOK { code := code, convCache := [], modCache := [] } := by
  constructor <;> (intro k v hm; cases hm)


/-! ### resources handed out by a process-wide allocator (Model §4) -/

/-- every reference points at an existing resource, and no resource is referenced by two agents -/
def RInv (s : RState) : Prop :=
  (∀ u i, s.held u = some i → i < s.cells.length) ∧
  (∀ u v i, s.held u = some i → s.held v = some i → u = v)

/-- agent `t` is in the same situation in `s` (the full run) and `s'` (its stand-alone run):
    same observations so far, and the resources it holds (if any) have the same content -/
def RRel (t : Nat) (s s' : RState) : Prop :=
  s.log t = s'.log t ∧
  ((s.held t = none ∧ s'.held t = none) ∨
   (∃ i j, s.held t = some i ∧ s'.held t = some j ∧ s.cells.getD i 0 = s'.cells.getD j 0
      ∧ i < s.cells.length ∧ j < s'.cells.length))

theorem rinv_empty : RInv RState.empty := by
  constructor
  · intro u i h; simp [RState.empty] at h
  · intro u v i h; simp [RState.empty] at h

theorem rrel_empty (t : Nat) : RRel t RState.empty RState.empty :=
  ⟨rfl, Or.inl ⟨rfl, rfl⟩⟩

theorem rstep_fresh_acq (s : RState) (t : Nat) :
    rstep .fresh s (.acq t) =
      { s with cells := s.cells ++ [0], held := fun k => if k = t then some s.cells.length else s.held k } := rfl

theorem rstep_fresh_rel (s : RState) (t : Nat) : rstep .fresh s (.rel t) = s := by
  simp only [rstep]

theorem getD_set_self (l : List Nat) (i v : Nat) (h : i < l.length) : (l.set i v).getD i 0 = v := by
  simp [List.getD, h]

theorem getD_set_other (l : List Nat) (i k v : Nat) (h : k ≠ i) : (l.set k v).getD i 0 = l.getD i 0 := by
  simp [List.getD, h]

theorem getD_append_lt (l : List Nat) (i : Nat) (h : i < l.length) : (l ++ [0]).getD i 0 = l.getD i 0 := by
  simp [List.getD, List.getElem?_append_left h]

theorem getD_append_len (l : List Nat) : (l ++ [0]).getD l.length 0 = 0 := by
  simp [List.getD]

theorem RInv.set {s : RState} (h : RInv s) (r v : Nat) : RInv { s with cells := s.cells.set r v } :=
  ⟨fun u i hu => by simp only [List.length_set]; exact h.1 u i hu, h.2⟩

theorem rstep_inv (s : RState) (e : REv) (h : RInv s) : RInv (rstep .fresh s e) := by
  cases e with
  | acq t =>
    obtain ⟨hb, hi⟩ := h
    rw [rstep_fresh_acq]
    constructor
    · intro u i hu
      simp only at hu
      simp only [List.length_append, List.length_cons, List.length_nil]
      split at hu
      · cases hu; omega
      · have := hb u i hu; omega
    · intro u v i hu hv
      simp only at hu hv
      split at hu <;> split at hv
      · subst_vars; rfl
      · cases hu; have := hb v _ hv; omega
      · cases hv; have := hb u _ hu; omega
      · exact hi u v i hu hv
  | wr t v =>
    simp only [rstep]
    split
    · exact h.set _ _
    · exact h
  | wrUnless t bad v =>
    simp only [rstep]
    split
    · split
      · exact h
      · exact h.set _ _
    · exact h
  | rd t =>
    simp only [rstep]
    split <;> exact h
  | rel t => rw [rstep_fresh_rel]; exact h

/-- a write to a resource held by another agent is not a write to `t`'s: no two agents hold
    the same resource -/
theorem RRel.set_other {t u r : Nat} {s s' : RState} (h : RInv s) (hr : RRel t s s')
    (hur : s.held u = some r) (hne : u ≠ t) (v : Nat) : RRel t { s with cells := s.cells.set r v } s' := by
  obtain ⟨hlog, hheld⟩ := hr
  refine ⟨hlog, ?_⟩
  rcases hheld with hn | ⟨i, j, h1, h2, h3, h4, h5⟩
  · exact Or.inl hn
  · have hri : r ≠ i := by
      intro e; subst e
      exact hne (h.2 u t r hur h1)
    refine Or.inr ⟨i, j, h1, h2, ?_, ?_, h5⟩
    · simp only; rw [getD_set_other _ _ _ _ hri]; exact h3
    · simp only [List.length_set]; exact h4

/-- an event of another agent leaves `t`'s situation unchanged (fresh allocation) -/
theorem rstep_other (t : Nat) (s s' : RState) (e : REv) (h : RInv s) (hr : RRel t s s')
    (hne : e.agent ≠ t) : RRel t (rstep .fresh s e) s' := by
  cases e with
  | acq u =>
    obtain ⟨hlog, hheld⟩ := hr
    have hut : ¬ t = u := fun e => hne e.symm
    rw [rstep_fresh_acq]
    refine ⟨hlog, ?_⟩
    simp only [hut, ↓reduceIte]
    rcases hheld with hn | ⟨i, j, h1, h2, h3, h4, h5⟩
    · exact Or.inl hn
    · refine Or.inr ⟨i, j, h1, h2, ?_, ?_, h5⟩
      · rw [getD_append_lt _ _ h4]; exact h3
      · simp only [List.length_append, List.length_cons, List.length_nil]; omega
  | wr u v =>
    simp only [rstep]
    split
    · rename_i r hur; exact RRel.set_other h hr hur hne v
    · exact hr
  | wrUnless u bad v =>
    simp only [rstep]
    split
    · rename_i r hur
      split
      · exact hr
      · exact RRel.set_other h hr hur hne v
    · exact hr
  | rd u =>
    simp only [REv.agent] at hne
    have hut : ¬ t = u := fun e => hne e.symm
    simp only [rstep]
    split
    · refine ⟨?_, hr.2⟩
      simp only [hut, ↓reduceIte]; exact hr.1
    · exact hr
  | rel u => rw [rstep_fresh_rel]; exact hr

/-- `t` writes the same value to the resource it holds in either run -/
theorem RRel.set_same {t i j : Nat} {s s' : RState} (hlog : s.log t = s'.log t) (h1 : s.held t = some i)
    (h2 : s'.held t = some j) (h4 : i < s.cells.length) (h5 : j < s'.cells.length) (v : Nat) :
    RRel t { s with cells := s.cells.set i v } { s' with cells := s'.cells.set j v } :=
  ⟨hlog, Or.inr ⟨i, j, h1, h2, by simp only; rw [getD_set_self _ _ _ h4, getD_set_self _ _ _ h5],
    by simp only [List.length_set]; exact h4, by simp only [List.length_set]; exact h5⟩⟩

/-- `t`'s own event does the same to `t` in the full run and in its stand-alone run -/
theorem rstep_same (t : Nat) (s s' : RState) (e : REv) (hr : RRel t s s')
    (he : e.agent = t) : RRel t (rstep .fresh s e) (rstep .fresh s' e) := by
  obtain ⟨hlog, hheld⟩ := hr
  cases e with
  | acq u =>
    simp only [REv.agent] at he; subst he
    rw [rstep_fresh_acq, rstep_fresh_acq]
    refine ⟨hlog, Or.inr ⟨s.cells.length, s'.cells.length, by simp, by simp, ?_, ?_, ?_⟩⟩
    · simp only; rw [getD_append_len, getD_append_len]
    · simp
    · simp
  | wr u v =>
    simp only [REv.agent] at he; subst he
    rcases hheld with ⟨h1, h2⟩ | ⟨i, j, h1, h2, h3, h4, h5⟩
    · simp only [rstep, h1, h2]
      exact ⟨hlog, Or.inl ⟨h1, h2⟩⟩
    · simp only [rstep, h1, h2]
      exact RRel.set_same hlog h1 h2 h4 h5 v
  | wrUnless u bad v =>
    simp only [REv.agent] at he; subst he
    rcases hheld with ⟨h1, h2⟩ | ⟨i, j, h1, h2, h3, h4, h5⟩
    · simp only [rstep, h1, h2]
      exact ⟨hlog, Or.inl ⟨h1, h2⟩⟩
    · -- the two resources have the same content, so the test goes the same way in both runs
      simp only [rstep, h1, h2, h3]
      split
      · exact ⟨hlog, Or.inr ⟨i, j, h1, h2, h3, h4, h5⟩⟩
      · exact RRel.set_same hlog h1 h2 h4 h5 v
  | rd u =>
    simp only [REv.agent] at he; subst he
    rcases hheld with ⟨h1, h2⟩ | ⟨i, j, h1, h2, h3, h4, h5⟩
    · simp only [rstep, h1, h2]
      exact ⟨hlog, Or.inl ⟨h1, h2⟩⟩
    · simp only [rstep, h1, h2]
      refine ⟨?_, Or.inr ⟨i, j, h1, h2, h3, h4, h5⟩⟩
      simp only [↓reduceIte]; rw [hlog, h3]
  | rel u => rw [rstep_fresh_rel, rstep_fresh_rel]; exact ⟨hlog, hheld⟩

theorem rrun_sim (t : Nat) (evs : List REv) (s s' : RState) (h : RInv s) (hr : RRel t s s') :
    RRel t (rrun .fresh s evs) (rrun .fresh s' (evs.filter fun e => e.agent == t)) := by
  induction evs generalizing s s' with
  | nil => exact hr
  | cons e es ih =>
    by_cases he : e.agent = t
    · have : (e.agent == t) = true := by simpa using he
      simp only [List.filter_cons, this, ↓reduceIte, rrun]
      exact ih _ _ (rstep_inv s e h) (rstep_same t s s' e hr he)
    · have : (e.agent == t) = false := by simpa using he
      simp only [List.filter_cons, this, rrun]
      exact ih _ _ (rstep_inv s e h) (rstep_other t s s' e h hr he)

/-! ### immutable resources may be shared under any policy -/

def AllZero (s : RState) : Prop := ∀ i, s.cells.getD i 0 = 0

def REv.isWr : REv → Bool
  | .wr _ _ => true
  | .wrUnless _ _ _ => true
  | _ => false

theorem allZero_empty : AllZero RState.empty := by
  intro i; simp [RState.empty, List.getD]

theorem alloc_log (p : Policy) (s : RState) : (alloc p s).2.log = s.log := by
  cases p <;> simp only [alloc] <;> split <;> rfl

theorem alloc_held (p : Policy) (s : RState) : (alloc p s).2.held = s.held := by
  cases p <;> simp only [alloc] <;> split <;> rfl

theorem getD_append_zero (l : List Nat) (h : ∀ k, l.getD k 0 = 0) (i : Nat) : (l ++ [0]).getD i 0 = 0 := by
  by_cases hi : i < l.length
  · rw [getD_append_lt _ _ hi]; exact h i
  · rw [List.getD, List.getElem?_append_right (Nat.le_of_not_lt hi)]
    cases i - l.length <;> simp

theorem alloc_allZero (p : Policy) (s : RState) (h : AllZero s) : AllZero (alloc p s).2 := by
  intro i
  cases p with
  | fresh => exact getD_append_zero _ h i
  | pooled =>
    simp only [alloc]
    split
    · rename_i r fr _
      by_cases hri : r = i
      · subst hri
        simp only [List.getD, List.getElem?_set, ↓reduceIte]
        split <;> rfl
      · simp only; rw [getD_set_other _ _ _ _ hri]; exact h i
    · exact getD_append_zero _ h i
  | cached =>
    simp only [alloc]
    split
    · simp only [List.getD]
      cases i <;> simp
    · exact h i

theorem rstep_allZero (p : Policy) (s : RState) (e : REv) (h : AllZero s) (hw : e.isWr = false) :
    AllZero (rstep p s e) := by
  cases e with
  | acq t =>
    intro i
    have := alloc_allZero p s h i
    simpa [rstep] using this
  | wr t v | wrUnless t bad v => cases hw
  | rd t | rel t =>
    simp only [rstep]
    split <;> exact h

/-- same observations so far, and a reference in the one run iff in the other -/
def ZRel (t : Nat) (s s' : RState) : Prop :=
  s.log t = s'.log t ∧ (s.held t).isSome = (s'.held t).isSome

theorem rstep_log_held_rel (p : Policy) (s : RState) (u : Nat) :
    (rstep p s (.rel u)).log = s.log ∧ (rstep p s (.rel u)).held = s.held := by
  simp only [rstep]
  split <;> exact ⟨rfl, rfl⟩

theorem zstep_other (p : Policy) (t : Nat) (s s' : RState) (e : REv) (hr : ZRel t s s')
    (hne : e.agent ≠ t) : ZRel t (rstep p s e) s' := by
  obtain ⟨hlog, hh⟩ := hr
  cases e with
  | acq u =>
    have hut : ¬ t = u := fun e => hne e.symm
    simp only [rstep, alloc_log, alloc_held, ZRel, hut, ↓reduceIte]
    exact ⟨hlog, hh⟩
  | wr u v | wrUnless u bad v =>
    -- a write touches neither the log nor the references
    simp only [rstep]
    repeat' split
    all_goals exact ⟨hlog, hh⟩
  | rd u =>
    simp only [REv.agent] at hne
    have hut : ¬ t = u := fun e => hne e.symm
    simp only [rstep]
    split
    · simp only [ZRel, hut, ↓reduceIte]; exact ⟨hlog, hh⟩
    · exact ⟨hlog, hh⟩
  | rel u =>
    obtain ⟨h1, h2⟩ := rstep_log_held_rel p s u
    simp only [ZRel, h1, h2]; exact ⟨hlog, hh⟩

theorem zstep_same (p : Policy) (t : Nat) (s s' : RState) (e : REv) (hz : AllZero s) (hz' : AllZero s')
    (hr : ZRel t s s') (he : e.agent = t) (hw : e.isWr = false) :
    ZRel t (rstep p s e) (rstep p s' e) := by
  obtain ⟨hlog, hh⟩ := hr
  cases e with
  | acq u =>
    simp only [REv.agent] at he; subst he
    simp only [rstep, alloc_log, ZRel, ↓reduceIte, Option.isSome_some]
    exact ⟨hlog, trivial⟩
  | wr u v | wrUnless u bad v => cases hw
  | rd u =>
    simp only [REv.agent] at he; subst he
    cases h1 : s.held u <;> cases h2 : s'.held u <;> simp only [h1, h2, Option.isSome_some, Option.isSome_none] at hh
    · simp only [rstep, h1, h2]; exact ⟨hlog, by simp [h1, h2]⟩
    · cases hh
    · cases hh
    · rename_i r r'
      simp only [rstep, h1, h2, ZRel, ↓reduceIte, Option.isSome_some]
      rw [hlog, hz r, hz' r']
      exact ⟨rfl, trivial⟩
  | rel u =>
    obtain ⟨h1, h2⟩ := rstep_log_held_rel p s u
    obtain ⟨h1', h2'⟩ := rstep_log_held_rel p s' u
    simp only [ZRel, h1, h2, h1', h2']; exact ⟨hlog, hh⟩

theorem zrun_sim (p : Policy) (t : Nat) (evs : List REv) (s s' : RState) (hz : AllZero s) (hz' : AllZero s')
    (hr : ZRel t s s') (hw : ∀ e ∈ evs, e.isWr = false) :
    ZRel t (rrun p s evs) (rrun p s' (evs.filter fun e => e.agent == t)) := by
  induction evs generalizing s s' with
  | nil => exact hr
  | cons e es ih =>
    have hwe : e.isWr = false := hw e (List.mem_cons_self ..)
    have hws : ∀ x ∈ es, x.isWr = false := fun x hx => hw x (List.mem_cons_of_mem _ hx)
    by_cases he : e.agent = t
    · have : (e.agent == t) = true := by simpa using he
      simp only [List.filter_cons, this, ↓reduceIte, rrun]
      exact ih _ _ (rstep_allZero p s e hz hwe) (rstep_allZero p s' e hz' hwe) (zstep_same p t s s' e hz hz' hr he hwe) hws
    · have : (e.agent == t) = false := by simpa using he
      simp only [List.filter_cons, this, rrun]
      exact ih _ _ (rstep_allZero p s e hz hwe) hz' (zstep_other p t s s' e hr he) hws

/-! ### contexts shared by evaluations (Model §5) -/

theorem crun_append (p : WatchPolicy) (s : CState) (xs ys : List CEv) :
    crun p s (xs ++ ys) = crun p (crun p s xs) ys := by
  induction xs generalizing s with
  | nil => rfl
  | cons x xs ih => simp only [List.cons_append, crun]; exact ih _

/-- the events kept for evaluation `e` when `C` says which contexts' ends are kept -/
def keepFor (C : Nat → Bool) (e : Nat) : CEv → Bool
  | .start e' _ => e' == e
  | .instr e' => e' == e
  | .finish e' => e' == e
  | .cancel c => C c

/-- evaluation `e` is in the same situation in the full run `s` and in its own run `s'`: same
    context, same flag, same loads so far; the contexts in `C` are done in the one iff in the other;
    and `e`'s context is one of `C` -/
def CRel (C : Nat → Bool) (e : Nat) (s s' : CState) : Prop :=
  s.ctxOf e = s'.ctxOf e ∧ s.halt e = s'.halt e ∧ s.log e = s'.log e
    ∧ (∀ c, C c = true → s.done c = s'.done c) ∧ (∀ c, s.ctxOf e = some c → C c = true)

theorem cstep_keep (C : Nat → Bool) (e : Nat) (s s' : CState) (ev : CEv) (hr : CRel C e s s')
    (hk : keepFor C e ev = true) (hst : ∀ c, ev = .start e c → C c = true) :
    CRel C e (cstep .perRun s ev) (cstep .perRun s' ev) := by
  obtain ⟨hc, hh, hl, hd, hin⟩ := hr
  cases ev with
  | start e' c =>
    have he : e' = e := by simpa [keepFor] using hk
    subst he
    have hC : C c = true := hst c rfl
    refine ⟨?_, ?_, hl, hd, ?_⟩
    · simp only [cstep, ↓reduceIte]
    · simp only [cstep, ↓reduceIte, hd c hC]
    · intro c' h
      simp only [cstep, ↓reduceIte, Option.some.injEq] at h
      subst h; exact hC
  | instr e' =>
    have he : e' = e := by simpa [keepFor] using hk
    subst he
    refine ⟨hc, hh, ?_, hd, hin⟩
    simp only [cstep, ↓reduceIte, hl, hh]
  | finish e' => exact ⟨hc, hh, hl, hd, hin⟩
  | cancel c =>
    refine ⟨hc, ?_, hl, ?_, hin⟩
    · simp only [cstep, hc, hh]
    · intro c' hc'
      simp only [cstep]
      rw [hd c' hc']

theorem cstep_drop (C : Nat → Bool) (e : Nat) (s s' : CState) (ev : CEv) (hr : CRel C e s s')
    (hk : keepFor C e ev = false) : CRel C e (cstep .perRun s ev) s' := by
  obtain ⟨hc, hh, hl, hd, hin⟩ := hr
  cases ev with
  | start e' c =>
    have he : ¬ e = e' := by
      intro h; subst h; simp [keepFor] at hk
    refine ⟨?_, ?_, hl, hd, ?_⟩
    · simp only [cstep, he, ↓reduceIte]; exact hc
    · simp only [cstep, he, ↓reduceIte]; exact hh
    · intro c' h
      simp only [cstep, he, ↓reduceIte] at h
      exact hin c' h
  | instr e' =>
    have he : ¬ e = e' := by
      intro h; subst h; simp [keepFor] at hk
    refine ⟨hc, hh, ?_, hd, hin⟩
    simp only [cstep, he, ↓reduceIte]; exact hl
  | finish e' => exact ⟨hc, hh, hl, hd, hin⟩
  | cancel c =>
    have hCc : C c = false := by simpa [keepFor] using hk
    have hne : ¬ s.ctxOf e = some c := by
      intro h
      have := hin c h
      rw [hCc] at this; cases this
    refine ⟨hc, ?_, hl, ?_, hin⟩
    · simp only [cstep, hne, ↓reduceIte]; exact hh
    · intro c' hc'
      have : ¬ c' = c := by
        intro h; subst h; rw [hCc] at hc'; cases hc'
      simp only [cstep, this, ↓reduceIte]
      exact hd c' hc'

theorem crun_sim (C : Nat → Bool) (e : Nat) (evs : List CEv) (s s' : CState) (hr : CRel C e s s')
    (hst : ∀ c, CEv.start e c ∈ evs → C c = true) :
    CRel C e (crun .perRun s evs) (crun .perRun s' (evs.filter (keepFor C e))) := by
  induction evs generalizing s s' with
  | nil => exact hr
  | cons ev es ih =>
    have hst' : ∀ c, CEv.start e c ∈ es → C c = true := fun c h => hst c (List.mem_cons_of_mem _ h)
    cases hk : keepFor C e ev with
    | true =>
      simp only [List.filter_cons, hk, ↓reduceIte, crun]
      exact ih _ _ (cstep_keep C e s s' ev hr hk (fun c h => hst c (h ▸ List.mem_cons_self ..))) hst'
    | false =>
      simp only [List.filter_cons, hk, crun]
      exact ih _ _ (cstep_drop C e s s' ev hr hk) hst'

theorem crel_empty (C : Nat → Bool) (e : Nat) : CRel C e CState.empty CState.empty :=
  ⟨rfl, rfl, rfl, fun _ _ => rfl, fun c h => by simp [CState.empty] at h⟩

/-- a set flag stays set until the evaluation is started again -/
theorem halt_sticks (mid : List CEv) (s : CState) (e : Nat) (h : s.halt e = 1)
    (hns : ∀ c, CEv.start e c ∉ mid) : (crun .perRun s mid).halt e = 1 := by
  induction mid generalizing s with
  | nil => exact h
  | cons ev es ih =>
    simp only [crun]
    apply ih
    · cases ev with
      | start e' c =>
        have he : ¬ e = e' := by
          intro hh; subst hh; exact hns c (List.mem_cons_self ..)
        simp only [cstep, he, ↓reduceIte]; exact h
      | instr e' => exact h
      | finish e' => exact h
      | cancel c =>
        simp only [cstep]
        split
        · rfl
        · exact h
    · intro c hc; exact hns c (List.mem_cons_of_mem _ hc)

/-- the context an evaluation runs under changes only when it is started again -/
theorem ctxOf_sticks (mid : List CEv) (s : CState) (e : Nat)
    (hns : ∀ c, CEv.start e c ∉ mid) : (crun .perRun s mid).ctxOf e = s.ctxOf e := by
  induction mid generalizing s with
  | nil => rfl
  | cons ev es ih =>
    simp only [crun]
    rw [ih _ (fun c hc => hns c (List.mem_cons_of_mem _ hc))]
    cases ev with
    | start e' c =>
      have he : ¬ e = e' := by
        intro hh; subst hh; exact hns c (List.mem_cons_self ..)
      simp only [cstep, he, ↓reduceIte]
    | instr e' => rfl
    | finish e' => rfl
    | cancel c => rfl

/-! ### configurations and the standard library (Model §6) -/

theorem toR_agent (m a : Nat) (ev : GEv) (r : REv) (h : GEv.toR m a ev = some r) : r.agent = ev.agent := by
  cases ev with
  | build e => simp only [GEv.toR, Option.some.injEq] at h; subst h; rfl
  | deny e m' a' =>
    simp only [GEv.toR] at h
    split at h
    · simp only [Option.some.injEq] at h; subst h; rfl
    · cases h
  | override e m' a' v =>
    simp only [GEv.toR] at h
    split at h
    · simp only [Option.some.injEq] at h; subst h; rfl
    · cases h
  | use e m' a' =>
    simp only [GEv.toR] at h
    split at h
    · simp only [Option.some.injEq] at h; subst h; rfl
    · cases h

/-- projecting onto a cell commutes with restricting to one evaluation -/
theorem filterMap_toR_filter (m a e : Nat) (evs : List GEv) :
    (evs.filter fun ev => ev.agent == e).filterMap (GEv.toR m a)
      = (evs.filterMap (GEv.toR m a)).filter fun r => r.agent == e := by
  induction evs with
  | nil => rfl
  | cons ev es ih =>
    cases hr : GEv.toR m a ev with
    | none =>
      by_cases he : (ev.agent == e) = true
      · simp only [List.filter_cons, he, ↓reduceIte, List.filterMap_cons, hr]; exact ih
      · simp only [List.filter_cons, he, List.filterMap_cons, hr]; exact ih
    | some r =>
      have ha := toR_agent m a ev r hr
      by_cases he : (ev.agent == e) = true
      · have hre : (r.agent == e) = true := by rw [ha]; exact he
        simp only [List.filter_cons, he, ↓reduceIte, List.filterMap_cons, hr, hre, ih]
      · have hre : ¬ (r.agent == e) = true := by rw [ha]; exact he
        simp only [List.filter_cons, he, List.filterMap_cons, hr, hre]; exact ih

theorem toR_isWr (m a : Nat) (ev : GEv) (r : REv) (h : GEv.toR m a ev = some r) (hne : ev.isEdit = false) :
    r.isWr = false := by
  cases ev with
  | build e => simp only [GEv.toR, Option.some.injEq] at h; subst h; rfl
  | deny e m' a' => simp [GEv.isEdit] at hne
  | override e m' a' v => simp [GEv.isEdit] at hne
  | use e m' a' =>
    simp only [GEv.toR] at h
    split at h
    · simp only [Option.some.injEq] at h; subst h; rfl
    · cases h

/-! ### sweeps over the reviewed tables, used by the property theorems and by the ties alike -/

theorem haltWriteRows_ok : haltWriteRows.all haltRowOK = true := by decide +kernel

theorem libVarRows_unwritten : libVarRows.all (fun r => r.2.2.isEmpty) = true := by decide +kernel

theorem registryRows_ok : registryRows.all regRowOK = true := by decide +kernel

theorem registryTypeRows_ok : registryTypeRows.all regTypeOK = true := by decide +kernel

end Risor.C09
