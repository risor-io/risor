import RisorModel.C09.Lemmas
import RisorModel.Generated.C09
/-!
C09 ties: the tables regenerated from /repo's working tree by the extractor (E8) on this run
equal the reviewed tables the theorems in `Props.lean` are stated over.
-/
namespace Risor.C09

/-- the package-level variables that are mutable in effect are exactly the reviewed ones -/
theorem shared_state_inventory_matches :
    Risor.Generated.C09.vars.map (fun v => (v.1, v.2.1)) = reviewedVars := rfl

/-- every access site (location, function, read/write, must-hold lockset, init phase) found in
    the source is the reviewed one, and vice versa -/
theorem access_sites_match : Risor.Generated.C09.sites = implRows := rfl

/-- package vm/object call only methods of compiler.Code / compiler.Function that do not assign
    to their receiver; none of the methods hands out an internal slice or map; package vm never
    assigns to Instructions/Constants/Names of an existing wrapped code object -/
theorem compiled_code_shared_readonly :
    disjoint Risor.Generated.C09.codeCalls Risor.Generated.C09.codeMut = true
      ∧ Risor.Generated.C09.codeLeak = []
      ∧ Risor.Generated.C09.vmCodeFieldWrites = []
      ∧ Risor.Generated.C09.codeCalls = codeCallsReviewed :=
  ⟨by decide +kernel, rfl, rfl, rfl⟩

/-- the unlocked writers of package-level variables are the reviewed ones: two setters nobody
    in the library calls (host configuration) -/
theorem unlocked_writers_match :
    Risor.Generated.C09.unlockedWriters = reviewedUnlockedWriters := rfl

/-- the Risor object types that live in process-wide registries / caches, and the fields their
    methods assign, are the reviewed ones (a mutable container type appearing here breaks the tie) -/
theorem registry_types_match : Risor.Generated.C09.registryTypes = registryTypeRows := rfl

/-- every object a method of a registry-resident type hands out comes from where the reviewed
    table says: constructed per request, or read from a field / global of an immutable type -/
theorem registry_returns_match : Risor.Generated.C09.registryReturns = registryRows := rfl

/-- stated directly on the regenerated tables (so that a cached mutable object is named here, too) -/
theorem registry_generated_fresh_or_immutable :
    Risor.Generated.C09.registryReturns.all regRowOK = true
      ∧ Risor.Generated.C09.registryTypes.all regTypeOK = true :=
  ⟨by decide +kernel, by decide +kernel⟩

/-- where package vm gets its machines from is what was reviewed, and `vm.Run` (behind
    `risor.Eval` / `EvalCode`), `vm.New`, `vm.NewEmpty` and `Clone` allocate theirs per request -/
theorem machine_sources_match :
    Risor.Generated.C09.machineSources = machineSourceRows
      ∧ ["vm.Run", "vm.New", "vm.NewEmpty", "vm.VirtualMachine.Clone"].all
          (machineFresh Risor.Generated.C09.machineSources 6) = true :=
  ⟨rfl, by decide +kernel⟩

/-- who writes a machine's `halt` flag and where its address goes is what was reviewed: the machine's own
    methods, with the only store of 1 in the goroutine `start` parks on the run's context (the hypothesis
    `perRun` of `isolated_results_shared_contexts`; a flag handed to a process-wide table of watches
    shows up as an `escapes:` row) -/
theorem halt_writes_match :
    Risor.Generated.C09.haltWrites = haltWriteRows
      ∧ Risor.Generated.C09.haltWrites.all haltRowOK = true :=
  ⟨rfl, haltWriteRows_ok⟩

/-- the root package and the module packages `DefaultGlobals` builds the standard library from have no
    package-level variable that is ever written: nowhere to keep a module between two calls (the
    hypothesis `fresh` of `config_isolated`; a cache of built modules shows up here) -/
theorem lib_vars_match :
    Risor.Generated.C09.libVars = libVarRows
      ∧ Risor.Generated.C09.libVars.all (fun r => r.2.2.isEmpty) = true :=
  ⟨rfl, libVarRows_unwritten⟩

end Risor.C09
