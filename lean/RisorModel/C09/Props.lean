import RisorModel.C09.Lemmas
/-!
C09 — property theorems.  Evaluations on separate VMs are safe to run concurrently.

* `lockset_sound`: for ANY table of access sites that passes the lockset check, ANY number of
  threads, ANY mutex-respecting interleaving (trace) of any length: two conflicting accesses
  by different threads are ordered by a release→acquire edge on a common mutex – no data race.
* the code as it is does NOT pass the check (`C09_counterexample_*`): a re-run of a VM replaces
  `loadedCode`/`modules` without the `cloneMutex` that `Clone` reads them under.  Everything
  else passes (`lockset_ok_except_known`, `C09_partial_no_race`) — including, since the repair
  of `GoType.GetConverter` in /repo, the converter registries (`C09_fixed_getconverter_*`,
  `C09_converter_registries_locked`).
* `vm_never_writes_code`, `isolated_results`: on the VM model, under sequentially consistent
  (i.e. race-free) execution, every interleaving of any number of evaluations gives each
  evaluation exactly the state it reaches alone, and never changes the shared compiled code.
* `isolated_results_machines`, `registry_isolated`, `shared_immutable_isolated`: what an evaluation
  gets from state that outlives it — its machine (`vm.Run`), objects out of process-wide registries
  (`x.__type__.attributes`, …) — is allocated for it or immutable, so writers that outlive other
  evaluations (context watchers, scripts editing what they were given) never reach it; the pooled /
  cached variants are kept as contrast definitions with counterexamples
  (`C09_contrast_pooled_machines`, `C09_contrast_cached_registry`);
  `registry_hands_out_fresh_or_immutable` checks the hypothesis on the regenerated table.
* `isolated_results_shared_contexts`, `cancel_reaches_every_run`: several evaluations under ONE context —
  whether and when a cancellation reaches an evaluation does not depend on what the other evaluations
  under that context (or any other) do; contrast `C09_contrast_watch_registry` (a process-wide table of
  watches released by the first run that ends).
* `config_isolated`, `config_readonly_may_share`: configuration options that edit modules in place
  (`WithoutGlobal("m.a")`, `WithGlobalOverride("m.a", v)`) reach only the evaluation they configure, because
  every `DefaultGlobals` call constructs its modules; contrast `C09_contrast_cached_modules`.
* `import_isolated`, `import_isolated_live`: evaluations sharing ONE importer, any of their contexts ending
  during any load — an import under a live context gets what it gets when its evaluation is the importer's
  only user, because the importer keeps compiled code only; contrast `C09_contrast_negative_import_cache`
  (an importer that remembers failures hands one evaluation's cancellation to the others).
-/
namespace Risor.C09

/-! ### the discipline is sound -/

theorem locksetOK_iff {T : List Site} :
    locksetOK T = true ↔ ∀ a ∈ T, ∀ b ∈ T, pairOK a b = true := by
  simp only [locksetOK, List.all_eq_true]

theorem mem_violations {T : List Site} {a b : Site} :
    (a, b) ∈ violations T ↔ a ∈ T ∧ b ∈ T ∧ pairOK a b = false := by
  simp only [violations, List.mem_flatMap, List.mem_map, List.mem_filter, Prod.mk.injEq,
    Bool.not_eq_true']
  constructor
  · rintro ⟨_, ha, _, ⟨hb, hp⟩, rfl, rfl⟩
    exact ⟨ha, hb, hp⟩
  · rintro ⟨ha, hb, hp⟩
    exact ⟨a, ha, b, ⟨hb, hp⟩, rfl, rfl⟩

/-- the part of a table that stays clear of every failing pair satisfies the discipline -/
theorem locksetOK_filter_of_violations (T : List Site) (f : Site → Bool)
    (h : ∀ p ∈ violations T, f p.1 = false) : locksetOK (T.filter f) = true := by
  rw [locksetOK_iff]
  intro a ha b hb
  obtain ⟨haT, hfa⟩ := List.mem_filter.1 ha
  cases hp : pairOK a b with
  | true => rfl
  | false =>
    have := h (a, b) (mem_violations.2 ⟨haT, (List.mem_filter.1 hb).1, hp⟩)
    rw [hfa] at this
    cases this

/-- **Lockset soundness.**  Let `T` be any table of access sites with `locksetOK T`.  Take any
    trace (any number of threads, any length) that respects mutex semantics from a lock state
    satisfying the mutex invariant, in which two accesses `s1` by thread `t1` and, later, `s2`
    by a different thread `t2` touch the same object (`i`) of the same location, at least one
    writing, both sites from `T`, both able to run during evaluations, and not both confined
    to the owner goroutine of the object.  Then between them `t1` releases a mutex that `t2`
    afterwards acquires: the two accesses are ordered by synchronisation, they do not race. -/
theorem lockset_sound (T : List Site) (hT : locksetOK T = true)
    (s0 sN : LS) (hinv : Inv s0) (pre mid post : List Ev) (t1 t2 : Tid) (i : Nat) (s1 s2 : Site)
    (hrun : run s0 (pre ++ Ev.acc t1 i s1 :: (mid ++ Ev.acc t2 i s2 :: post)) = some sN)
    (h1 : s1 ∈ T) (h2 : s2 ∈ T) (hconf : conflicting s1 s2 = true) (hne : t1 ≠ t2) :
    Ordered t1 t2 mid := by
  -- a common lock, by the static check
  have hcl : commonLock s1 s2 = true := by
    have hp := locksetOK_iff.1 hT s1 h1 s2 h2
    simp only [pairOK, hconf, Bool.not_true, Bool.false_or] at hp
    exact hp
  simp only [commonLock, List.any_eq_true, Bool.and_eq_true, beq_iff_eq] at hcl
  obtain ⟨la, hla, lb, hlb, ⟨hname, hpo⟩, hx⟩ := hcl
  -- split the run
  rw [run_append] at hrun
  cases hA : run s0 pre with
  | none => rw [hA] at hrun; simp at hrun
  | some sA =>
    rw [hA] at hrun
    simp only [Option.bind_some, run] at hrun
    split at hrun
    · cases hrun
    · rename_i sA' hstep1
      obtain ⟨hsame, hold1⟩ := acc_holds sA sA' t1 i s1 la hstep1 hla
      subst hsame
      rw [run_append] at hrun
      cases hB : run sA' mid with
      | none => rw [hB] at hrun; simp at hrun
      | some sB =>
        rw [hB] at hrun
        simp only [Option.bind_some, run] at hrun
        split at hrun
        · cases hrun
        · rename_i sB' hstep2
          obtain ⟨_, hold2⟩ := acc_holds sB sB' t2 i s2 lb hstep2 hlb
          have hlock : lockOf lb i = lockOf la i := by simp [lockOf, hname, hpo]
          rw [hlock] at hold2
          have hinvA : Inv sA' := run_inv pre s0 sA' hinv hA
          obtain ⟨a, b, c, habc⟩ := release_then_acquire mid sA' sB t1 t2 (lockOf la i) la.excl lb.excl
            hB hinvA hold1 hold2 hne hx
          exact ⟨lockOf la i, la.excl, lb.excl, a, b, c, habc⟩

/-- the same from the initial lock state (no mutex held) -/
theorem lockset_sound_from_init (T : List Site) (hT : locksetOK T = true)
    (sN : LS) (pre mid post : List Ev) (t1 t2 : Tid) (i : Nat) (s1 s2 : Site)
    (hrun : run LS.init (pre ++ Ev.acc t1 i s1 :: (mid ++ Ev.acc t2 i s2 :: post)) = some sN)
    (h1 : s1 ∈ T) (h2 : s2 ∈ T) (hconf : conflicting s1 s2 = true) (hne : t1 ≠ t2) :
    Ordered t1 t2 mid :=
  lockset_sound T hT LS.init sN inv_init pre mid post t1 t2 i s1 s2 hrun h1 h2 hconf hne

/-! ### the code as it is -/

/-- the full demand on the inventory of the code as it is: every conflicting pair of access
    sites that can run during evaluations holds a common mutex -/
def C09_full_lockset : Prop := locksetOK implSites = true

def cloneRead : Site := ofRow ("vm.VirtualMachine.loadedCode", true, "vm.VirtualMachine.Clone", false,
  [("vm.VirtualMachine.cloneMutex", true, true)], false)
def rerunWrite : Site := ofRow ("vm.VirtualMachine.loadedCode", true, "vm.VirtualMachine.resetForNewCode", true, [], false)
def cmLock1 : Lock := ("vm.VirtualMachine.cloneMutex", 1)

-- both are rows of the inventory: compared with the row at their index, no table search
theorem cloneRead_mem : cloneRead ∈ implSites := List.mem_of_getElem? (i := 58) rfl
theorem rerunWrite_mem : rerunWrite ∈ implSites := List.mem_of_getElem? (i := 63) rfl

theorem cloneRead_rerunWrite_conflicting : conflicting cloneRead rerunWrite = true := by decide +kernel

/-- it does not hold: `Clone` reads `loadedCode` / `modules` / `globals` under `cloneMutex` while
    a re-run of the same VM (`resetForNewCode`, `reloadCode`, `applyOptions`) replaces them
    without it -/
theorem C09_counterexample_lockset : ¬ C09_full_lockset := by
  intro h
  -- the pair conflicts, and `rerunWrite` holds no lock at all
  have hp := locksetOK_iff.1 h _ cloneRead_mem _ rerunWrite_mem
  simp only [pairOK, cloneRead_rerunWrite_conflicting, Bool.not_true, Bool.false_or] at hp
  simp [commonLock, rerunWrite, ofRow] at hp

/-- the racy interleaving on VM object 1: thread 1 is inside `Clone` (holding that VM's
    `cloneMutex`) and reads `loadedCode`; thread 2, re-running the same VM, replaces the map in
    `resetForNewCode` without any lock -/
def racyTrace : List Ev :=
  [Ev.acq 1 cmLock1 true, Ev.acc 1 1 cloneRead, Ev.acc 2 1 rerunWrite, Ev.rel 1 cmLock1 true]

/-- a concrete, mutex-respecting trace over sites of the code as it is in which a read and a
    write of one VM's `loadedCode` by different threads are adjacent: no synchronisation orders
    them (a data race) -/
theorem C09_counterexample_trace :
    (run LS.init racyTrace).isSome = true ∧ cloneRead ∈ implSites ∧ rerunWrite ∈ implSites
      ∧ conflicting cloneRead rerunWrite = true ∧ ¬ Ordered 1 2 [] := by
  refine ⟨by decide +kernel, cloneRead_mem, rerunWrite_mem, cloneRead_rerunWrite_conflicting, ?_⟩
  rintro ⟨l, x1, x2, a, b, c, h⟩
  cases a <;> simp at h

/-! ### the repaired defect, kept as checked statements -/

/-- BEFORE the repair ("fix: take goTypeMutex in GoType.GetConverter") the rows of the converter
    registries violated the discipline: `createTypeConverter`'s map write and
    `getTypeConverter`'s map read had an empty must-hold lockset -/
theorem C09_fixed_getconverter_was_racy : locksetOK (preFixRows.map ofRow) = false := by decide +kernel

/-- the repair that was made is the one the model predicted: adding `goTypeMutex` to exactly
    the unlocked concurrent rows of `preFixRows` gives the rows of the code as it is now, up to
    the renaming of the function that holds the accesses (`GetConverter` → `getConverter`) -/
theorem C09_fixed_getconverter_repair_predicted :
    ((preFixRows.map ofRow).map repair).map (fun s => (s.loc, s.write, s.locks, s.init))
      = ((implSites.filter fun s => getConverterLocs.contains s.loc).map fun s => (s.loc, s.write, s.locks, s.init)) := by
  decide +kernel

/-- decidable guard: the locations of the recorded finding (Clone during a re-run) -/
def guardKnown (s : Site) : Bool := knownRacyLoc s.loc

theorem conflicting_concurrent {a b : Site} (h : conflicting a b = true) :
    concurrent a = true ∧ concurrent b = true := by
  simp only [conflicting, Bool.and_eq_true] at h
  exact ⟨h.1.1.2, h.1.2⟩

/-- One pass over the inventory, for the two facts below that need one: a conflicting pair has a
    common mutex or falls under the recorded finding, and has a common mutex after `repair`.
    Only sites that can run during evaluations conflict, so only their pairs are visited. -/
theorem inventory_conflicts {a b : Site} (ha : a ∈ implSites) (hb : b ∈ implSites)
    (hcf : conflicting a b = true) :
    (commonLock a b || findingOf a b != "") = true ∧ commonLock (repair a) (repair b) = true := by
  have sweep : ((implSites.filter concurrent).all fun a => (implSites.filter concurrent).all fun b =>
      !conflicting a b || ((commonLock a b || findingOf a b != "") && commonLock (repair a) (repair b)))
        = true := by decide +kernel
  obtain ⟨ca, cb⟩ := conflicting_concurrent hcf
  have := List.all_eq_true.1 (List.all_eq_true.1 sweep a (List.mem_filter.2 ⟨ha, ca⟩)) b
    (List.mem_filter.2 ⟨hb, cb⟩)
  rw [hcf] at this
  exact Bool.and_eq_true _ _ ▸ this

/-- every failing pair of the inventory falls under the finding's guard -/
theorem violations_are_known :
    (violations implSites).all (fun p => findingOf p.1 p.2 != "") = true := by
  rw [List.all_eq_true]
  rintro ⟨a, b⟩ hp
  obtain ⟨ha, hb, hpo⟩ := mem_violations.1 hp
  -- a failing pair conflicts and has no common mutex
  simp only [pairOK, Bool.or_eq_false_iff, Bool.not_eq_false'] at hpo
  have := (inventory_conflicts ha hb hpo.1).1
  rw [hpo.2] at this
  exact this

theorem guardKnown_of_violation {p : Site × Site} (hp : p ∈ violations implSites) :
    guardKnown p.1 = true := by
  have h := List.all_eq_true.1 violations_are_known p hp
  -- `findingOf` names a finding only for a location of `cloneRerunLocs`
  unfold findingOf at h
  split at h
  · cases h
  · split at h
    · rename_i hc
      exact (Bool.and_eq_true _ _ ▸ hc).1
    · cases h

/-- all other sites satisfy the discipline (tie: `implRows` is regenerated on every run) -/
theorem lockset_ok_except_known :
    locksetOK (implSites.filter fun s => !guardKnown s) = true :=
  locksetOK_filter_of_violations _ _ fun p hp => by rw [guardKnown_of_violation hp]; rfl

/-- AFTER it: the converter registries satisfy the discipline, so `C09_partial_no_race` below
    covers them (their locations are outside `guardKnown`) -/
theorem C09_converter_registries_locked :
    locksetOK (implSites.filter fun s => getConverterLocs.contains s.loc) = true
      ∧ getConverterLocs.all (fun l => !knownRacyLoc l) = true := by
  have hout : getConverterLocs.all (fun l => !knownRacyLoc l) = true := by decide +kernel
  refine ⟨locksetOK_filter_of_violations _ _ fun p hp => ?_, hout⟩
  cases hc : getConverterLocs.contains p.1.loc with
  | false => rfl
  | true =>
    have := List.all_eq_true.1 hout _ (List.contains_iff_mem.1 hc)
    rw [show knownRacyLoc p.1.loc = true from guardKnown_of_violation hp] at this
    cases this

/-- with `cloneMutex` taken around the re-run's writes the whole inventory satisfies the
    discipline -/
theorem lockset_ok_after_repair : locksetOK (implSites.map repair) = true := by
  -- `repair` changes nothing but the lockset, so the repaired sites conflict as before, and
  -- only the conflicting pairs have to be looked at after the repair
  have hkeep : ∀ s, (repair s).loc = s.loc ∧ (repair s).fn = s.fn ∧ (repair s).write = s.write
      ∧ (repair s).init = s.init := by
    intro s
    unfold repair
    split
    · exact ⟨rfl, rfl, rfl, rfl⟩
    · split <;> exact ⟨rfl, rfl, rfl, rfl⟩
  have hconf : ∀ a b, conflicting (repair a) (repair b) = conflicting a b := by
    intro a b
    simp only [conflicting, concurrent, ownerOnly, hkeep]
  simp only [locksetOK, pairOK, List.all_map, Function.comp_def, hconf, List.all_eq_true]
  intro a ha b hb
  cases hcf : conflicting a b with
  | false => rfl
  | true => exact (inventory_conflicts ha hb hcf).2

/-- **No data race outside the known findings.**  In every mutex-respecting trace of any
    number of threads over the sites of the code as it is, two conflicting accesses by
    different threads to a location outside the guards are ordered by a release→acquire edge. -/
theorem C09_partial_no_race
    (sN : LS) (pre mid post : List Ev) (t1 t2 : Tid) (i : Nat) (s1 s2 : Site)
    (hrun : run LS.init (pre ++ Ev.acc t1 i s1 :: (mid ++ Ev.acc t2 i s2 :: post)) = some sN)
    (h1 : s1 ∈ implSites) (h2 : s2 ∈ implSites) (hg : guardKnown s1 = false)
    (hconf : conflicting s1 s2 = true) (hne : t1 ≠ t2) :
    Ordered t1 t2 mid := by
  have hloc : s1.loc = s2.loc := by
    simp only [conflicting, Bool.and_eq_true, beq_iff_eq] at hconf
    exact hconf.1.1.1.1
  have hg2 : guardKnown s2 = false := by simpa [guardKnown, ← hloc] using hg
  refine lockset_sound_from_init _ lockset_ok_except_known sN pre mid post t1 t2 i s1 s2 hrun ?_ ?_ hconf hne
  · exact List.mem_filter.2 ⟨h1, by simp [hg]⟩
  · exact List.mem_filter.2 ⟨h2, by simp [hg2]⟩

/-! ### compiled code is shared read-only; results are isolated -/

/-- no interleaving of any number of evaluations ever changes the shared compiled code -/
theorem vm_never_writes_code (sh : Shared) (pool : Nat → VM) (sched : List Nat) :
    (runSched sh pool sched).1.code = sh.code := by
  induction sched generalizing sh pool with
  | nil => rfl
  | cons t ts ih =>
    simp only [runSched]
    rw [ih]
    exact vmStep_code sh (pool t)

/-- **Isolated results.**  For every schedule (every interleaving, any number of evaluations),
    starting from any transparent shared caches: the state of evaluation `t` afterwards is
    exactly the state it reaches when it runs alone, for as many steps as the schedule gave
    it, on any (other) transparent shared state `sh0`. -/
theorem isolated_results (sched : List Nat) (sh sh0 : Shared) (pool : Nat → VM)
    (h : SharedOK sh) (h0 : SharedOK sh0) (t : Nat) :
    (runSched sh pool sched).2 t = (runAlone sh0 (pool t) (sched.count t)).2 := by
  induction sched generalizing sh pool with
  | nil => rfl
  | cons u ts ih =>
    have st := vmStep_ok sh sh0 (pool u) h h0
    simp only [runSched]
    rw [ih (vmStep sh (pool u)).1 _ st.2]
    by_cases hut : u = t
    · subst hut
      have st0 := vmStep_ok sh0 sh (pool u) h0 h
      simp only [↓reduceIte, List.count_cons_self, runAlone]
      rw [st.1]
      exact (runAlone_ok _ sh0 (vmStep sh0 (pool u)).1 _ h0 st0.2).1
    · have : (u == t) = false := by simpa using hut
      have htu : ¬ t = u := fun e => hut e.symm
      simp [List.count_cons, this, htu]

/-- the final globals of an evaluation that got exactly its `code.length` steps in an arbitrary
    interleaving with arbitrarily many others equal its result when run alone from empty caches -/
theorem isolated_results_final (sched : List Nat) (sh : Shared) (pool : Nat → VM) (n t : Nat)
    (h : SharedOK sh) (hload : pool t = load sh n) (hcount : sched.count t = sh.code.length) :
    ((runSched sh pool sched).2 t).globals = aloneResult sh.code n := by
  have h0 : SharedOK { code := sh.code, convCache := [], modCache := [] } := sharedOK_empty _
  rw [isolated_results sched sh _ pool h h0 t, hload, hcount]
  rfl

/-! ### state handed out by process-wide allocators: machines and registry objects -/

/-- **Isolated results for resources handed out per request.**  Under `fresh` allocation, for EVERY
    schedule of acquire / write / observe / release events of any number of agents — including
    writes by agents whose evaluation has long ended and who kept their reference (a context
    watcher) — what agent `t` observes is exactly what it observes when only its own events
    happen. -/
theorem isolated_results_resources (evs : List REv) (t : Nat) :
    observed .fresh evs t = observedAlone .fresh evs t :=
  (rrun_sim t evs RState.empty RState.empty rinv_empty (rrel_empty t)).1

/-- **Isolated results, machines.**  Evaluations started through `vm.Run` (`risor.Eval`,
    `risor.EvalCode`): every schedule of start / eval-loop trip / finish / cancel events of any number
    of evaluations, each under its own context that may be cancelled at any time (during its run,
    right after it returned, much later while other evaluations run).  Hypothesis `hfresh`: the
    allocator hands every evaluation a machine of its own (the code as it is, tie
    `machine_sources_match`).  Then the outcome of evaluation `e` — how many trips it made, and the
    trip at which it saw `halt` set — is its outcome in the schedule that contains only its own
    events: nothing that outlives another evaluation reaches `e`'s machine. -/
theorem isolated_results_machines (p : Policy) (hfresh : p = .fresh) (evs : List MEv) (e : Nat) :
    machineOutcome p evs e = machineOutcomeAlone p evs e := by
  subst hfresh
  have hcomm : (evs.filter fun ev => ev.eval == e).map MEv.toR
      = (evs.map MEv.toR).filter fun r => r.agent == e := by
    rw [List.filter_map]
    congr 1
    apply List.filter_congr
    intro ev _
    cases ev <;> rfl
  have h := isolated_results_resources (evs.map MEv.toR) e
  simp only [machineOutcomeAlone, machineOutcome, hcomm]
  unfold observedAlone at h
  rw [h]

/-- the full demand on a POOLED allocator (released machines are reset and handed out again) -/
def C09_full_pooled_machines : Prop :=
  ∀ (evs : List MEv) (e : Nat), machineOutcome .pooled evs e = machineOutcomeAlone .pooled evs e

/-- evaluation 0 runs and finishes; its machine is recycled for evaluation 1; then 0's context is
    cancelled (the server pattern `Eval(ctx, …); cancel()`): its watcher halts evaluation 1 -/
def pooledWitness : List MEv :=
  [.start 0, .instr 0, .finish 0, .start 1, .instr 1, .cancel 0, .instr 1, .finish 1]

/-- **Contrast: a pool of machines breaks it**, however thorough the reset: the watcher goroutine of a
    finished evaluation still refers to the machine.  Evaluation 1, whose own context is never
    cancelled, sees `halt` at its second trip. -/
theorem C09_contrast_pooled_machines : ¬ C09_full_pooled_machines := by
  intro h
  have := h pooledWitness 1
  revert this
  decide +kernel

/-- with fresh machines the same schedule leaves evaluation 1 alone (and the model is not trivial:
    evaluation 0 cancelled DURING its own run does see it) -/
example : machineOutcome .fresh pooledWitness 1 = { loads := 2, halted := none }
    ∧ machineOutcome .fresh [.start 0, .instr 0, .cancel 0, .instr 0] 0 = { loads := 2, halted := some 1 } := by
  constructor <;> decide +kernel

/-- **Objects from registries.**  Scripts obtain an object from a process-wide registry
    (`x.__type__.attributes`, `m.error_indices`, …), keep it, edit it (`wr`) and print it (`rd`) in any
    interleaving: when every request is answered with a newly built object, each evaluation
    observes what it observes alone. -/
theorem registry_isolated (evs : List REv) (t : Nat) :
    observed .fresh evs t = observedAlone .fresh evs t := isolated_results_resources evs t

/-- objects nobody can write to may be shared under ANY policy (cached in the registry, pooled,
    or fresh): schedules without write events -/
theorem shared_immutable_isolated (p : Policy) (evs : List REv) (t : Nat)
    (him : ∀ e ∈ evs, e.isWr = false) : observed p evs t = observedAlone p evs t :=
  (zrun_sim p t evs RState.empty RState.empty allZero_empty allZero_empty ⟨rfl, rfl⟩ him).1

/-- the full demand on a registry that CACHES a mutable object and hands it to every request -/
def C09_full_cached_registry : Prop :=
  ∀ (evs : List REv) (t : Nat), observed .cached evs t = observedAlone .cached evs t

/-- **Contrast: a cached mutable object breaks it**: evaluation 0 edits the map it was given,
    evaluation 1 — which never wrote — prints a different map than alone -/
theorem C09_contrast_cached_registry : ¬ C09_full_cached_registry := by
  intro h
  have := h [.acq 0, .acq 1, .wr 0 7, .rd 1] 1
  revert this
  decide +kernel

/-- **What the registries of the code as it is hand out.**  For every method of a Risor object
    type that lives in package-level state (`GoType`, `GoField`, `GoMethod` in `goTypeRegistry`;
    the `Int` / `Byte` caches; `Nil`, `True`, `False`) and every builtin built in such a method:
    each `object.Object` it returns is constructed for this request, or is of a type whose values no
    script can change.  (Table regenerated on every run: ties `registry_returns_match`,
    `registry_types_match`.)  Together with `registry_isolated` (fresh) and
    `shared_immutable_isolated` (immutable) this covers every row. -/
theorem registry_hands_out_fresh_or_immutable :
    ∀ r ∈ registryRows, r.2.1 = "fresh" ∨ r.2.2.2 ∈ immutableObjTypes := by
  intro r hr
  have := List.all_eq_true.1 registryRows_ok r hr
  simp only [regRowOK, Bool.or_eq_true, beq_iff_eq, List.contains_iff_mem] at this
  exact this

/-- the types called immutable are: none of their methods assigns a receiver field, except the
    lock-protected converter cache of `GoType` that scripts cannot reach -/
theorem registry_types_immutable :
    (∀ t ∈ immutableObjTypes, ∃ r ∈ registryTypeRows, "*" ++ r.1 = t)
      ∧ ∀ r ∈ registryTypeRows, ∀ f ∈ r.2, (r.1, f) ∈ internalCacheFields := by
  constructor
  · decide +kernel
  · intro r hr f hf
    have := List.all_eq_true.1 registryTypeRows_ok r hr
    simp only [regTypeOK, List.all_eq_true, List.contains_iff_mem] at this
    exact this f hf

/-- the rule is not vacuous: it rejects the row a cached attributes map would produce, and the type
    row a resident `Map` would produce -/
example : regRowOK ("object.GoType.GetAttr", "field", "attributesMap", "*object.Map") = false
    ∧ regRowOK ("object.GoType.GetAttr", "fresh", "", "*object.Map") = true
    ∧ regTypeOK ("object.Map", ["inspectActive", "items"]) = false := by decide +kernel

/-- `vm.Run` and the other constructors allocate per request, and a pool is told apart -/
example : machineFresh machineSourceRows 6 "vm.Run" = true
    ∧ machineFresh [("vm.Run", "call:vm.acquireVM"), ("vm.acquireVM", "assert:vmPool.Get()")] 6 "vm.Run" = false := by
  decide +kernel

/-! ### several evaluations under one context (Model §5) -/

/-- **Isolated results, shared contexts.**  EVERY schedule of start / eval-loop trip / finish events of
    any number of evaluations and of cancellations (or expiries) of any number of contexts, with ANY
    assignment of evaluations to contexts — several evaluations under one context, evaluations that
    finish while others under the same context still run, evaluations started again under another
    context.  With one watcher per run (the code as it is; tie `halt_writes_match`) the outcome of
    evaluation `e` — how many trips it made and the trip at which it saw `halt` set — is its outcome
    in the schedule that contains only what concerns `e`: its own events and the ends of the
    contexts it is started under.  Nothing another evaluation does, under the same context or
    another one, changes whether and when a cancellation reaches `e`. -/
theorem isolated_results_shared_contexts (evs : List CEv) (e : Nat) :
    ctxOutcome .perRun evs e = ctxOutcomeAlone .perRun evs e := by
  have hk : CEv.concerns evs e = keepFor (fun c => evs.contains (.start e c)) e := by
    funext ev; cases ev <;> rfl
  have h := crun_sim (fun c => evs.contains (.start e c)) e evs CState.empty CState.empty
    (crel_empty _ e) (fun c hc => by simpa using hc)
  simp only [ctxOutcomeAlone, ctxOutcome, hk]
  rw [h.2.2.1]

/-- **A cancellation reaches every run under the context.**  In any schedule (`pre`) after which `e`
    runs under context `c`: once `c` is cancelled, whatever else happens afterwards (`mid`: other
    evaluations under `c` finish, new ones start, other contexts end) short of `e` being started
    again, the next trip of `e`'s eval loop finds `halt` set. -/
theorem cancel_reaches_every_run (pre mid : List CEv) (s : CState) (e c : Nat)
    (hctx : (crun .perRun s pre).ctxOf e = some c) (hns : ∀ c', CEv.start e c' ∉ mid) :
    (crun .perRun s (pre ++ .cancel c :: (mid ++ [.instr e]))).log e
      = (crun .perRun s (pre ++ .cancel c :: mid)).log e ++ [1] := by
  have h1 : (cstep .perRun (crun .perRun s pre) (.cancel c)).halt e = 1 := by
    simp only [cstep, hctx, ↓reduceIte]
  have h2 := halt_sticks mid _ e h1 hns
  have hsplit : pre ++ .cancel c :: (mid ++ [.instr e]) = (pre ++ .cancel c :: mid) ++ [.instr e] := by simp
  rw [hsplit, crun_append]
  have hmid : crun .perRun s (pre ++ .cancel c :: mid)
      = crun .perRun (cstep .perRun (crun .perRun s pre) (.cancel c)) mid := by
    rw [crun_append]; rfl
  simp only [crun, cstep, ↓reduceIte]
  rw [hmid, h2]

/-- the full demand on a process-wide TABLE of context watches (one callback per context, released by
    the first run under the context that ends) -/
def C09_full_watch_registry : Prop :=
  ∀ (evs : List CEv) (e : Nat), ctxOutcome .registry evs e = ctxOutcomeAlone .registry evs e

/-- evaluations 0 and 1 run under context 7; 0 finishes; then the context is cancelled -/
def registryWitness : List CEv :=
  [.start 0 7, .start 1 7, .instr 0, .instr 1, .finish 0, .cancel 7, .instr 1, .instr 1]

/-- **Contrast: a table of watches keyed by the context breaks it.**  The end of evaluation 0's run
    releases the watch of everybody under context 7, so the cancellation never reaches evaluation 1,
    which alone under the same context is halted at its second trip. -/
theorem C09_contrast_watch_registry : ¬ C09_full_watch_registry := by
  intro h
  have := h registryWitness 1
  revert this
  decide +kernel

/-- with per-run watchers the same schedule halts evaluation 1, and an evaluation under ANOTHER context
    is left alone (the model is not trivial) -/
example : ctxOutcome .perRun registryWitness 1 = { loads := 3, halted := some 1 }
    ∧ ctxOutcome .registry registryWitness 1 = { loads := 3, halted := none }
    ∧ ctxOutcome .perRun [.start 0 7, .start 1 8, .cancel 7, .instr 0, .instr 1] 1 = { loads := 1, halted := none } := by
  refine ⟨by decide +kernel, by decide +kernel, by decide +kernel⟩

/-- every writer of a machine's `halt` flag is a method of that machine, the only store of 1 is the
    goroutine `start` parks on the run's context, and the flag's address goes nowhere else: the
    reviewed table (tie `halt_writes_match`) is an instance of `perRun` -/
theorem halt_written_per_run : haltWriteRows.all haltRowOK = true
    ∧ haltRowOK ("vm.VirtualMachine.start", "escapes:watchContext", "&vm.halt") = false
    ∧ haltRowOK ("vm.watchContext$func", "atomic.StoreInt32", "1") = false :=
  ⟨haltWriteRows_ok, by decide +kernel, by decide +kernel⟩

/-! ### configurations and the standard library (Model §6) -/

/-- **Isolated results, configurations.**  EVERY schedule of `DefaultGlobals` calls, in-place module edits
    made by configuration options (`WithoutGlobal("m.a")`, `WithGlobalOverride("m.a", v)`) and attribute
    reads by scripts, of any number of evaluations, for every attribute `a` of every module `m`: when
    every `DefaultGlobals` call constructs its modules (the code as it is; tie `lib_vars_match`), what
    evaluation `e` finds in `m.a`, read after read, is what it finds when only its own configuration
    and reads happen. -/
theorem config_isolated (evs : List GEv) (e m a : Nat) :
    attrSeen .fresh evs e m a = attrSeenAlone .fresh evs e m a := by
  simp only [attrSeenAlone, attrSeen, filterMap_toR_filter]
  exact isolated_results_resources _ e

/-- module objects may be shared under ANY policy (built once and handed to every Config) as long as no
    configuration edits them in place: schedules without `deny` / `override` events -/
theorem config_readonly_may_share (p : Policy) (evs : List GEv) (e m a : Nat)
    (hro : ∀ ev ∈ evs, ev.isEdit = false) : attrSeen p evs e m a = attrSeenAlone p evs e m a := by
  simp only [attrSeenAlone, attrSeen, filterMap_toR_filter]
  apply shared_immutable_isolated
  intro r hr
  obtain ⟨ev, hev, hto⟩ := List.mem_filterMap.1 hr
  exact toR_isWr m a ev r hto (hro ev hev)

/-- the full demand on a standard library whose module objects are built once and handed to every Config -/
def C09_full_cached_modules : Prop :=
  ∀ (evs : List GEv) (e m a : Nat), attrSeen .cached evs e m a = attrSeenAlone .cached evs e m a

/-- **Contrast: cached module objects break it.**  Evaluation 0 is configured without `m3.a1`; evaluation 1,
    with no such option, no longer finds the attribute (1 = removed; alone: 0 = as built) -/
theorem C09_contrast_cached_modules : ¬ C09_full_cached_modules := by
  intro h
  have := h [.build 0, .build 1, .deny 0 3 1, .use 1 3 1] 1 3 1
  revert this
  decide +kernel

/-- the model distinguishes the cases (and an override of a removed attribute is refused, as
    `Module.Override` refuses it) -/
example : attrSeen .fresh [.build 0, .build 1, .deny 0 3 1, .use 1 3 1, .use 0 3 1] 1 3 1 = [0]
    ∧ attrSeen .fresh [.build 0, .build 1, .deny 0 3 1, .use 1 3 1, .use 0 3 1] 0 3 1 = [1]
    ∧ attrSeen .fresh [.build 0, .deny 0 3 1, .override 0 3 1 5, .override 0 2 0 5, .use 0 3 1] 0 3 1 = [1]
    ∧ attrSeen .fresh [.build 0, .override 0 2 0 5, .use 0 2 0, .use 0 2 1] 0 2 0 = [7]
    ∧ attrSeen .cached [.build 0, .build 1, .override 0 2 0 5, .use 1 2 0] 1 2 0 = [7] := by
  refine ⟨by decide +kernel, by decide +kernel, by decide +kernel, by decide +kernel, by decide +kernel⟩

/-- no package-level variable of the root package or of a standard-library module package is ever
    written (the reviewed table, tie `lib_vars_match`): nothing `DefaultGlobals` builds can be kept
    there between two calls -/
theorem lib_has_no_mutable_state : libVarRows.all (fun r => r.2.2.isEmpty) = true := libVarRows_unwritten

/-! ### non-vacuity -/

def codecsRead : Site := ofRow ("builtins.codecs", false, "builtins.GetCodec", false, [("builtins.mutex", false, false)], false)
def codecsWrite : Site := ofRow ("builtins.codecs", false, "builtins.RegisterCodec", true, [("builtins.mutex", true, false)], false)
def cmLock : Lock := ("builtins.mutex", 0)

/-- the hypotheses of `C09_partial_no_race` are satisfiable: a reader under `RLock` then a
    writer under `Lock` on the codec registry, from two threads -/
example : (run LS.init ([Ev.acq 1 cmLock false] ++ Ev.acc 1 0 codecsRead ::
      ([Ev.rel 1 cmLock false, Ev.acq 2 cmLock true] ++ Ev.acc 2 0 codecsWrite :: [Ev.rel 2 cmLock true]))).isSome = true
    ∧ codecsRead ∈ implSites ∧ codecsWrite ∈ implSites ∧ guardKnown codecsRead = false
    ∧ conflicting codecsRead codecsWrite = true := by
  refine ⟨by decide +kernel, by decide +kernel, by decide +kernel, by decide +kernel, by decide +kernel⟩

/-- the mutex semantics really excludes an unlocked-looking interleaving: the writer cannot
    enter while the reader holds the registry mutex -/
example : run LS.init [Ev.acq 1 cmLock false, Ev.acq 2 cmLock true] = none := by decide +kernel

def demoCode : List Stmt :=
  [⟨0, .conv 3 (.lit 5)⟩, ⟨1, .add (.glob 0) (.imp 2)⟩, ⟨0, .conv 3 (.glob 1)⟩]
def demoShared : Shared := { code := demoCode, convCache := [], modCache := [] }

/-- `isolated_results_final` applies to a non-trivial program and schedule (three evaluations
    sharing code, converter cache and importer cache), and the result is not trivial -/
example : SharedOK demoShared ∧ [0, 1, 2, 2, 1, 0, 0, 1, 2].count 1 = demoShared.code.length
    ∧ aloneResult demoCode 2 = [115, 111] := by
  refine ⟨sharedOK_empty _, by decide +kernel, by decide +kernel⟩

/-! ### §7: one importer shared by evaluations whose contexts may end during a first load -/

/-- what `codeCache` holds is what a load finds, and every import so far got what the Spec allows -/
def IInv (fs : Nat → Nat) (s : IState) : Prop :=
  (∀ m v, ilook s.code m = some v → fs m = v + 2) ∧ ∀ t x, x ∈ s.log t → ImpOK fs x.1 x.2

theorem loadRes_of_module {fs : Nat → Nat} {m v : Nat} (h : fs m = v + 2) :
    loadRes fs m true = v + 3 := by
  simp [loadRes, h]

theorem loadRes_ge3 {fs : Nat → Nat} {m : Nat} {live : Bool} (h : 3 ≤ loadRes fs m live) :
    fs m = loadRes fs m live - 3 + 2 := by
  cases hf : fs m with
  | zero => simp [loadRes, hf] at h
  | succ k =>
    cases live with
    | false => simp [loadRes, hf] at h
    | true =>
      by_cases h2 : k = 0
      · simp [loadRes, hf, h2] at h
      · simp [loadRes, hf, h2] at h ⊢
        omega

theorem loadRes_ok (fs : Nat → Nat) (ev : IEv) : ImpOK fs ev (loadRes fs ev.m ev.live) := by
  cases hl : ev.live with
  | true => exact Or.inl rfl
  | false => exact Or.inr ⟨hl, rfl⟩

theorem iinv_ilog {fs : Nat → Nat} {s : IState} {ev : IEv} {r : Nat}
    (h : IInv fs s) (hr : ImpOK fs ev r) : IInv fs (ilog s ev r) := by
  refine ⟨h.1, ?_⟩
  intro t x hx
  simp only [ilog] at hx
  split at hx
  · rcases List.mem_append.1 hx with hx | hx
    · exact h.2 t x hx
    · have : x = (ev, r) := by simpa using hx
      subst this; exact hr
  · exact h.2 t x hx

theorem iinv_step {fs : Nat → Nat} {s : IState} (ev : IEv) (h : IInv fs s) :
    IInv fs (istep .codeOnly fs s ev) := by
  unfold istep
  cases hc : ilook s.code ev.m with
  | some v =>
    exact iinv_ilog h (Or.inl (by rw [loadRes_of_module (h.1 _ _ hc)]))
  | none =>
    have hp : (ImpPolicy.codeOnly = ImpPolicy.negative) = False := by simp
    simp only [hp, if_false]
    by_cases h3 : 3 ≤ loadRes fs ev.m ev.live
    · simp only [h3, if_true]
      refine iinv_ilog ⟨?_, h.2⟩ (loadRes_ok fs ev)
      intro m v hm
      simp only [ilook] at hm
      by_cases hmk : m = ev.m
      · simp only [hmk, if_true] at hm
        have hv : loadRes fs ev.m ev.live - 3 = v := by simpa using hm
        rw [hmk, ← hv]; exact loadRes_ge3 h3
      · simp only [hmk, if_false] at hm
        exact h.1 m v hm
    · simp only [h3, if_false]
      exact iinv_ilog h (loadRes_ok fs ev)

theorem iinv_run {fs : Nat → Nat} (evs : List IEv) :
    ∀ {s : IState}, IInv fs s → IInv fs (irun .codeOnly fs s evs) := by
  induction evs with
  | nil => intro s h; exact h
  | cons ev rest ih => intro s h; exact ih (iinv_step ev h)

theorem iinv_empty (fs : Nat → Nat) : IInv fs IState.empty :=
  ⟨fun _ _ h => by simp [IState.empty, ilook] at h, fun _ _ h => by simp [IState.empty] at h⟩

/-- every step logs exactly one outcome, for the evaluation that imports -/
theorem istep_log (p : ImpPolicy) (fs : Nat → Nat) (s : IState) (ev : IEv) :
    ∃ r, (istep p fs s ev).log = (ilog s ev r).log := by
  unfold istep
  split
  · exact ⟨_, rfl⟩
  · split
    · exact ⟨_, rfl⟩
    · simp only []
      split
      · exact ⟨_, rfl⟩
      · split <;> exact ⟨_, rfl⟩

/-- the imports an evaluation is answered for are its own import statements, in order (any policy) -/
theorem irun_log_events (p : ImpPolicy) (fs : Nat → Nat) (evs : List IEv) (e : Nat) :
    ∀ s : IState, ((irun p fs s evs).log e).map (·.1)
      = (s.log e).map (·.1) ++ evs.filter (fun ev => ev.e == e) := by
  induction evs with
  | nil => intro s; simp [irun]
  | cons ev rest ih =>
    intro s
    obtain ⟨r, hr⟩ := istep_log p fs s ev
    rw [irun, ih, hr]
    by_cases he : ev.e = e
    · simp [ilog, he]
    · have he' : ¬ e = ev.e := fun h => he h.symm
      have hb : (ev.e == e) = false := by simpa using he
      simp [ilog, hb, he']

/-- **Imports through a shared importer.**  For every source tree, every schedule of import
    statements of any number of evaluations sharing one importer, with any of their contexts ending
    during any load: every import of every evaluation gets what the Spec allows — under a live
    context exactly what a first load under that context gets, whatever the other evaluations (and
    the ends of THEIR contexts) did to the importer. -/
theorem import_isolated (fs : Nat → Nat) (evs : List IEv) (e : Nat) :
    ∀ x ∈ (irun .codeOnly fs IState.empty evs).log e, ImpOK fs x.1 x.2 :=
  fun x hx => (iinv_run evs (iinv_empty fs)).2 e x hx

theorem imports_seen_live (fs : Nat → Nat) (evs : List IEv) (e : Nat)
    (hl : ∀ ev ∈ evs, ev.e = e → ev.live = true) :
    importsSeen .codeOnly fs evs e
      = (evs.filter fun ev => ev.e == e).map fun ev => loadRes fs ev.m true := by
  have hm := irun_log_events .codeOnly fs evs e IState.empty
  have hs := import_isolated fs evs e
  simp only [IState.empty, List.map_nil, List.nil_append] at hm
  unfold importsSeen
  rw [← hm, List.map_map]
  apply List.map_congr_left
  intro x hx
  have hx1 : x.1 ∈ evs.filter (fun ev => ev.e == e) := by
    rw [← hm]; exact List.mem_map_of_mem hx
  have hx2 := List.mem_filter.1 hx1
  rcases hs x hx with h | ⟨h, _⟩
  · exact h
  · have := hl x.1 hx2.1 (by simpa using hx2.2)
    rw [this] at h; cases h

/-- **Result isolation for imports.**  An evaluation whose own context stays live through its
    imports gets from a shared importer, in every schedule, exactly the sequence of modules and
    errors it gets when it is the only user of the importer — the ends of other evaluations'
    contexts during their loads included. -/
theorem import_isolated_live (fs : Nat → Nat) (evs : List IEv) (e : Nat)
    (hl : ∀ ev ∈ evs, ev.e = e → ev.live = true) :
    importsSeen .codeOnly fs evs e = importsSeenAlone .codeOnly fs evs e := by
  unfold importsSeenAlone
  rw [imports_seen_live fs evs e hl,
    imports_seen_live fs (evs.filter fun ev => ev.e == e) e
      (fun ev hev h => hl ev (List.mem_filter.1 hev).1 h)]
  simp [List.filter_filter]

/-- contrast: an importer that also remembers FAILURES (whatever their cause) lets the end of one
    evaluation's context reach another: evaluation 0's context ends during the first load of module
    1; evaluation 1, context live, is told so too, although alone it gets the module. -/
theorem C09_contrast_negative_import_cache :
    importsSeen .negative (fun _ => 9) [⟨0, 1, false⟩, ⟨1, 1, true⟩] 1 = [2]
      ∧ importsSeenAlone .negative (fun _ => 9) [⟨0, 1, false⟩, ⟨1, 1, true⟩] 1 = [10]
      ∧ importsSeen .codeOnly (fun _ => 9) [⟨0, 1, false⟩, ⟨1, 1, true⟩] 1 = [10] := by
  refine ⟨by decide +kernel, by decide +kernel, by decide +kernel⟩

/-- non-vacuity: a schedule with a missing module, a module that does not compile, a context that
    ends during a first load and a cache hit under an ended context -/
example : importsSeen .codeOnly (fun m => m) [⟨0, 5, false⟩, ⟨1, 5, true⟩, ⟨0, 5, false⟩, ⟨1, 0, true⟩, ⟨1, 1, true⟩] 0 = [2, 6]
    ∧ importsSeen .codeOnly (fun m => m) [⟨0, 5, false⟩, ⟨1, 5, true⟩, ⟨0, 5, false⟩, ⟨1, 0, true⟩, ⟨1, 1, true⟩] 1 = [6, 0, 1] := by
  refine ⟨by decide +kernel, by decide +kernel⟩

end Risor.C09
