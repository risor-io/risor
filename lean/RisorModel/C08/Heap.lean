import RisorModel.C08.Model
/-!
C08 — a HEAP of Go objects shared between host and script, and HISTORIES over it.

`Model.lean` converts one value at a time.  Here the Go side is an object graph with identities
(structs with scalar fields, `*struct` fields, struct-by-value fields, slices / string-keyed maps
of `*struct` and of structs) that the host keeps mutating while the script reads and writes it
through proxies (object/proxy.go `GetAttr` / `SetAttr`, object/typeconv.go `StructConverter`,
`SliceConverter`, `MapConverter`, `NewProxy`).

* `Node`, `Heap`, `Loc`     Go values with identities: object `a` is `heap[a]`, a slot is an object
                            plus a path of by-value steps inside it
* `locate` / `goRead` / `goWrite`   the **Spec**: Go's own meaning of `root.f.g[k].h` — every
                            access re-resolves the whole path on the heap as it is NOW
* `Handle`, `SObj`, `hGet`, `hSet`, `walk`   the **Impl**: the chain of proxies the script walks.
                            The unchanged code keeps no state in a proxy but the Go pointer it
                            wraps and re-reads the field on every `GetAttr`
* `HOp`, `specStep`, `implStep`, `runImpl`   the history machine: script reads / writes and Go-side
                            mutations interleaved, several global names for one Go object
* `cGet` …, `runCached`     CONTRAST: a proxy that caches the child proxies it handed out for
                            struct-typed fields (seeded change C08-r3m1); refuted in HeapProps.lean

Modelled simplifications: scalars are `Int`s; a map is a sequence (the generator uses the keys
`k0`, `k1`, … so that key `k<i>` is present iff `i <` length); pointers point to heap objects
only (no interior pointers: a script assignment of a by-value struct's proxy to a pointer field is
answered `error` and never generated).  Core Lean only.
-/
namespace Risor.C08

mutual
/-- a Go value inside the object graph -/
inductive Node
  | int (i : Int)              -- a scalar field
  | ref (a : Option Nat)       -- a `*struct`: nil or the address of a heap object
  | struct (fs : Nodes)        -- a struct held BY VALUE (and the body of every heap object)
  | seq (xs : Nodes)           -- a slice or a string-keyed map, entries in index / key order
  deriving DecidableEq, Repr
inductive Nodes
  | nil | cons (n : Node) (rest : Nodes)
  deriving DecidableEq, Repr
end

def Nodes.get? : Nodes → Nat → Option Node
  | .nil, _ => none
  | .cons n _, 0 => some n
  | .cons _ r, i + 1 => r.get? i

def Nodes.set : Nodes → Nat → Node → Nodes
  | .nil, _, _ => .nil
  | .cons _ r, 0, v => .cons v r
  | .cons n r, i + 1, v => .cons n (r.set i v)

def Nodes.length : Nodes → Nat
  | .nil => 0
  | .cons _ r => r.length + 1

def Nodes.ofList : List Node → Nodes
  | [] => .nil
  | n :: r => .cons n (Nodes.ofList r)

/-- object `a` is `heap[a]`; objects are never freed, `goNew` / `scriptNew` append -/
abbrev Heap := List Node

def child : Node → Nat → Option Node
  | .struct fs, i => fs.get? i
  | .seq xs, i => xs.get? i
  | _, _ => none

/-- descend by-value steps inside one object -/
def nodeAt : Node → List Nat → Option Node
  | n, [] => some n
  | n, i :: q => (child n i).bind fun c => nodeAt c q

def setChild : Node → Nat → Node → Option Node
  | .struct fs, i, v => if i < fs.length then some (.struct (fs.set i v)) else none
  | .seq xs, i, v => if i < xs.length then some (.seq (xs.set i v)) else none
  | _, _, _ => none

def nodeSet : Node → List Nat → Node → Option Node
  | _, [], v => some v
  | n, i :: q, v => (child n i).bind fun c => (nodeSet c q v).bind fun c' => setChild n i c'

/-- a slot: object `a`, then the by-value path `q` inside it -/
structure Loc where
  a : Nat
  q : List Nat
  deriving Repr

def slotAt (h : Heap) (l : Loc) : Option Node := h[l.a]?.bind fun o => nodeAt o l.q

def setSlot (h : Heap) (l : Loc) (v : Node) : Option Heap :=
  h[l.a]?.bind fun o => (nodeSet o l.q v).map fun o' => h.set l.a o'

/-! ### Spec: Go's meaning of a path -/

/-- Go's `x.f` / `x[k]` where `x` lives in slot `l`: a pointer is followed into the object it
    points to NOW, a struct / slice / map held by value is entered in place -/
def stepLoc (h : Heap) (l : Loc) (i : Nat) : Option Loc :=
  match slotAt h l with
  | some (.ref (some b)) => some ⟨b, [i]⟩
  | some (.struct _) => some ⟨l.a, l.q ++ [i]⟩
  | some (.seq _) => some ⟨l.a, l.q ++ [i]⟩
  | _ => none

def locate (h : Heap) : Loc → List Nat → Option Loc
  | l, [] => some l
  | l, i :: p => (stepLoc h l i).bind fun l' => locate h l' p

/-- what Go holds at `root.p` NOW (`root` = the object at address `a`; the empty path is the
    pointer to it) -/
def goRead (h : Heap) (a : Nat) : List Nat → Option Node
  | [] => some (.ref (some a))
  | i :: p => (locate h ⟨a, []⟩ (i :: p)).bind fun l => slotAt h l

/-- Go's static types: a slot keeps its kind -/
def compat : Node → Node → Bool
  | .int _, .int _ => true
  | .ref _, .ref _ => true
  | .struct _, .struct _ => true
  | .seq _, .seq _ => true
  | _, _ => false

/-- Go's `root.p = v` -/
def goWrite (h : Heap) (a : Nat) (p : List Nat) (v : Node) : Option Heap :=
  match p with
  | [] => none
  | i :: p => (locate h ⟨a, []⟩ (i :: p)).bind fun l =>
    match slotAt h l with
    | some old => if compat old v then setSlot h l v else none
    | none => none

/-- what a read is compared by: a scalar's value, a pointer's identity -/
inductive View
  | int (i : Int) | ptr (a : Option Nat) | agg
  deriving DecidableEq, Repr

def view : Node → View
  | .int i => .int i
  | .ref a => .ptr a
  | _ => .agg

/-! ### Impl: proxies -/

/-- what a proxy wraps -/
inductive Handle
  | at (a : Nat) (q : List Nat)   -- a Go pointer: to object `a` (`q = []`) or to the by-value struct at `q` inside it (`value.Addr()`)
  | nilp                          -- a nil `*struct`
  | copy (n : Node)               -- a pointer to a private COPY of a struct value (`NewProxy` of a struct value: slice / map elements)
  deriving Repr

/-- what the script holds -/
inductive SObj
  | int (i : Int)
  | px (hd : Handle)
  | list (xs : Nodes)         -- a list / map made by `SliceConverter.From` / `MapConverter.From`: a snapshot, elements converted on indexing
  deriving Repr

/-- `conv.From(value)` for the field `c` found at by-value path `q` of object `a` (addressable) -/
def fromField (a : Nat) (q : List Nat) : Node → SObj
  | .int i => .int i
  | .ref (some b) => .px (.at b [])
  | .ref none => .px .nilp
  | .struct _ => .px (.at a q)
  | .seq xs => .list xs

/-- the same for an element of a converted slice / map and for a field of a private copy:
    a struct value is copied (`NewProxy`: "create a pointer to a copy of the struct") -/
def fromElem : Node → SObj
  | .int i => .int i
  | .ref (some b) => .px (.at b [])
  | .ref none => .px .nilp
  | .struct fs => .px (.copy (.struct fs))
  | .seq xs => .list xs

/-- `Proxy.GetAttr` / list index / map index on the heap as it is NOW -/
def hGet (h : Heap) : SObj → Nat → Outcome SObj
  | .px (.at a q), i => match slotAt h ⟨a, q⟩ with
    | some (.struct fs) => match fs.get? i with
      | some c => .ok (fromField a (q ++ [i]) c)
      | none => .error
    | _ => .error
  | .px .nilp, _ => .panic            -- reflect: FieldByName on the zero Value
  | .px (.copy (.struct fs)), i => match fs.get? i with
    | some c => .ok (fromElem c)
    | none => .error
  | .px (.copy _), _ => .error
  | .list xs, k => match xs.get? k with
    | some c => .ok (fromElem c)
    | none => .error                  -- index error / key error
  | .int _, _ => .error

def walk (h : Heap) : SObj → List Nat → Outcome SObj
  | o, [] => .ok o
  | o, i :: p => (hGet h o i).bind fun o' => walk h o' p

def sview : SObj → View
  | .int i => .int i
  | .px (.at b []) => .ptr (some b)
  | .px .nilp => .ptr none
  | _ => .agg

/-- the script evaluates `root.p` (root: a global whose proxy wraps the pointer to object `a`) -/
def implRead (h : Heap) (a : Nat) (p : List Nat) : Outcome SObj := walk h (.px (.at a [])) p

/-- `conv.To` + `field.Set` outcome by kinds: a struct-typed field takes the `*S` converter, so
    `Set` panics (C08-struct-field-set-panics) -/
def setKind : Node → Node → Outcome Unit
  | .int _, .int _ => .ok ()
  | .ref _, .ref _ => .ok ()
  | .struct _, .ref _ => .panic
  | _, _ => .error

/-- `Proxy.SetAttr(field i, v)` -/
def hSet (h : Heap) : SObj → Nat → Node → Outcome Heap
  | .px (.at a q), i, v => match slotAt h ⟨a, q⟩ with
    | some (.struct fs) => match fs.get? i with
      | some old => match setKind old v with
        | .ok _ => (match setSlot h ⟨a, q ++ [i]⟩ v with
          | some h' => .ok h'
          | none => .error)
        | .error => .error
        | .panic => .panic
      | none => .error
    | _ => .error
  | .px .nilp, _, _ => .panic
  | .px (.copy (.struct fs)), i, v => match fs.get? i with
    | some old => match setKind old v with
      | .ok _ => .ok h                -- accepted: the write lands in the private copy
      | .error => .error
      | .panic => .panic
    | none => .error
  | _, _, _ => .error                 -- lists, maps, ints have no attributes to set

/-- the script executes `root.p = v`: `GetAttr` along the path, `SetAttr` at the end -/
def walkSet (h : Heap) : SObj → List Nat → Node → Outcome Heap
  | _, [], _ => .error
  | o, [i], v => hSet h o i v
  | o, i :: j :: p, v => (hGet h o i).bind fun o' => walkSet h o' (j :: p) v

def implWrite (h : Heap) (a : Nat) (p : List Nat) (v : Node) : Outcome Heap :=
  walkSet h (.px (.at a [])) p v

/-- `StructConverter.To(proxy)`: the pointer the proxy wraps -/
def handleRef : SObj → Outcome Node
  | .px (.at b []) => .ok (.ref (some b))
  | .px .nilp => .ok (.ref none)
  | _ => .error

/-! ### Histories -/

/-- one step of a history.  `r` is a global NAME: `roots[r]` is the address its proxy wraps
    (several names may stand for one object). -/
inductive HOp
  | scriptGet (r : Nat) (p : List Nat)                                -- x := g_r.p
  | scriptSet (r : Nat) (p : List Nat) (i : Int)                      -- g_r.p = i
  | scriptLink (r : Nat) (p : List Nat) (r' : Nat) (p' : List Nat)    -- g_r.p = g_r'.p'   (a pointer)
  | scriptNew (r : Nat) (p : List Nat) (body : Node)                  -- g_r.p = {X: …}    (a fresh struct)
  | goSet (r : Nat) (p : List Nat) (i : Int)                          -- Go: root.p = i
  | goRepoint (r : Nat) (p : List Nat) (t : Option Nat)               -- Go: root.p = &object t / nil
  | goReplace (r : Nat) (p : List Nat) (v : Node)                     -- Go: root.p = a new slice / map / struct value
  | goNew (body : Node)                                               -- Go: allocate an object
  deriving Repr

inductive Res
  | val (v : View) | done | error | panic
  deriving DecidableEq, Repr

def ofWrite (h : Heap) : Option Heap → Heap × Res
  | some h' => (h', .done)
  | none => (h, .error)

/-- the reference machine: every access resolves its path on the current heap -/
def specStep (roots : List Nat) (h : Heap) : HOp → Heap × Res
  | .goNew body => (h ++ [body], .done)
  | .scriptGet r p => match roots[r]? with
    | some a => (match goRead h a p with
      | some n => (h, .val (view n))
      | none => (h, .error))
    | none => (h, .error)
  | .scriptSet r p i => match roots[r]? with
    | some a => ofWrite h (goWrite h a p (.int i))
    | none => (h, .error)
  | .goSet r p i => match roots[r]? with
    | some a => ofWrite h (goWrite h a p (.int i))
    | none => (h, .error)
  | .goRepoint r p t => match roots[r]? with
    | some a => ofWrite h (goWrite h a p (.ref t))
    | none => (h, .error)
  | .goReplace r p v => match roots[r]? with
    | some a => ofWrite h (goWrite h a p v)
    | none => (h, .error)
  | .scriptNew r p body => match roots[r]? with
    | some a => ofWrite h (goWrite (h ++ [body]) a p (.ref (some h.length)))
    | none => (h, .error)
  | .scriptLink r p r' p' => match roots[r]?, roots[r']? with
    | some a, some a' => (match goRead h a' p' with
      | some (.ref t) => ofWrite h (goWrite h a p (.ref t))
      | _ => (h, .error))
    | _, _ => (h, .error)

def ofOutcome (h : Heap) : Outcome Heap → Heap × Res
  | .ok h' => (h', .done)
  | .error => (h, .error)
  | .panic => (h, .panic)

/-- the machine of the unchanged code: the script's steps walk proxies, Go's steps are Go's -/
def implStep (roots : List Nat) (h : Heap) : HOp → Heap × Res
  | .scriptGet r p => match roots[r]? with
    | some a => (match implRead h a p with
      | .ok o => (h, .val (sview o))
      | .error => (h, .error)
      | .panic => (h, .panic))
    | none => (h, .error)
  | .scriptSet r p i => match roots[r]? with
    | some a => ofOutcome h (implWrite h a p (.int i))
    | none => (h, .error)
  | .scriptNew r p body => match roots[r]? with
    | some a => (match implWrite (h ++ [body]) a p (.ref (some h.length)) with
      | .ok h' => if h' = h ++ [body] then (h, .done)   -- stored into a private copy: the new struct is garbage
        else (h', .done)
      | .error => (h, .error)
      | .panic => (h, .panic))
    | none => (h, .error)
  | .scriptLink r p r' p' => match roots[r]?, roots[r']? with
    | some a, some a' => (match (implRead h a' p').bind handleRef with
      | .ok v => ofOutcome h (implWrite h a p v)
      | .error => (h, .error)
      | .panic => (h, .panic))
    | _, _ => (h, .error)
  | op => specStep roots h op

def runImpl (roots : List Nat) : Heap → List HOp → Heap × List Res
  | h, [] => (h, [])
  | h, op :: ops =>
    let (h', r) := implStep roots h op
    let (h'', rs) := runImpl roots h' ops
    (h'', r :: rs)

/-- the heap after every step (what the harness compares with the Go side) -/
def traceImpl (roots : List Nat) : Heap → List HOp → List (Heap × Res)
  | _, [] => []
  | h, op :: ops =>
    let s := implStep roots h op
    s :: traceImpl roots s.1 ops

/-! ### guards -/

/-- a proper prefix of the path ends in a nil pointer (Go itself would panic on `x.f`):
    the proxy of a nil pointer panics in `reflect` instead of rejecting (C08-proxy-type-unchecked) -/
def nilOnPath (h : Heap) : Loc → List Nat → Bool
  | _, [] => false
  | l, i :: p => (match slotAt h l with
      | some (.ref none) => true
      | _ => false) || (match stepLoc h l i with
      | some l' => nilOnPath h l' p
      | none => false)

/-- the path enters a struct held by value inside a slice / map: the script gets a proxy of a
    private copy, a write through it is accepted and lost -/
def copyStep (h : Heap) (l l' : Loc) : Bool :=
  match slotAt h l, slotAt h l' with
  | some (.seq _), some (.struct _) => true
  | _, _ => false

def copyOnPath (h : Heap) : Loc → List Nat → Bool
  | _, [] => false
  | l, i :: p => match stepLoc h l i with
    | some l' => copyStep h l l' || copyOnPath h l' p
    | none => false

/-- the guard of one step on heap `h`: a script read / scalar write whose path runs through a nil
    pointer (C08-proxy-type-unchecked) or, for a write, through a by-value element of a slice /
    map (C08-slice-element-write-lost) -/
def stepGuard (roots : List Nat) (h : Heap) : HOp → Bool
  | .scriptGet r p => match roots[r]? with
    | some a => nilOnPath h ⟨a, []⟩ p
    | none => false
  | .scriptSet r p _ => match roots[r]? with
    | some a => nilOnPath h ⟨a, []⟩ p || copyOnPath h ⟨a, []⟩ p
    | none => false
  | _ => false

/-- the operations `C08_partial_history` covers: reads, scalar writes and every Go-side step
    (pointer stores from the script are covered by `write_is_go_write` and the correspondence) -/
def basicOp : HOp → Bool
  | .scriptLink .. | .scriptNew .. => false
  | _ => true

def isScriptOp : HOp → Bool
  | .scriptGet .. | .scriptSet .. | .scriptLink .. | .scriptNew .. => true
  | _ => false

/-! ### Spec as a judge of results (evaluated on the real code's results too) -/

def heapEq (h h' : Heap) : Bool := decide (h = h')

/-- is `(h', res)` an acceptable answer to `op` on heap `h`?  A script step may be REJECTED (an
    error, the heap untouched) but never panic, never answer with anything but what Go holds now,
    and an accepted write must be exactly Go's write.  Go's own steps are the reference. -/
def stepOK (roots : List Nat) (h : Heap) (op : HOp) (out : Heap × Res) : Bool :=
  let ref := specStep roots h op
  if isScriptOp op then
    match out.2 with
    | .panic => false
    | .error => heapEq out.1 h
    | r => decide (r = ref.2) && heapEq out.1 ref.1
  else decide (out.2 = ref.2) && heapEq out.1 ref.1

/-- the judge over a whole trace: every step against the heap reported for the step before -/
def histOK (roots : List Nat) : Heap → List HOp → List (Heap × Res) → Bool
  | _, [], [] => true
  | h, op :: ops, out :: outs => stepOK roots h op out && histOK roots out.1 ops outs
  | _, _, _ => false

/-- no step of the history, executed by the unchanged code, falls under a guard -/
def histGuarded (roots : List Nat) : Heap → List HOp → Bool
  | _, [] => true
  | h, op :: ops => basicOp op && !stepGuard roots h op && histGuarded roots (implStep roots h op).1 ops

/-- index of the first step the judge refuses -/
def firstRefused (roots : List Nat) : Heap → List HOp → List (Heap × Res) → Nat → Option Nat
  | h, op :: ops, out :: outs, k =>
    if stepOK roots h op out then firstRefused roots out.1 ops outs (k + 1) else some k
  | _, [], [], _ => none
  | _, _, _, k => some k

/-! ### CONTRAST: a proxy that caches its struct-typed children (seeded change C08-r3m1)

A proxy OBJECT that persists is named by the global it was reached from and the fields walked:
`(r, fields)`.  Proxies made for list / map elements are fresh on every evaluation (no key). -/

abbrev CKey := Nat × List Nat

structure CSt where
  heap : Heap
  cache : List (CKey × Handle)

def cacheFind (c : List (CKey × Handle)) (k : CKey) : Option Handle :=
  match c.find? (fun e => e.1.1 == k.1 && e.1.2 == k.2) with
  | some e => some e.2
  | none => none

def isStructTyped : Node → Bool
  | .ref _ => true
  | .struct _ => true
  | _ => false

/-- the node of field `i` as the proxy sees it -/
def fieldNode (h : Heap) : SObj → Nat → Option Node
  | .px (.at a q), i => (slotAt h ⟨a, q⟩).bind fun s => child s i
  | .px (.copy n), i => child n i
  | _, _ => none

/-- `GetAttr` with the per-proxy cache: for a struct-typed field return the child proxy handed
    out before, else compute it and remember it -/
def cGet (s : CSt) (key : Option CKey) (o : SObj) (i : Nat) : Outcome (SObj × Option CKey) × List (CKey × Handle) :=
  match key, fieldNode s.heap o i with
  | some k, some c =>
    if isStructTyped c then
      let k' : CKey := (k.1, k.2 ++ [i])
      match cacheFind s.cache k' with
      | some hd => (.ok (.px hd, some k'), s.cache)
      | none => match hGet s.heap o i with
        | .ok (.px hd) => (.ok (.px hd, some k'), (k', hd) :: s.cache)
        | .ok o' => (.ok (o', none), s.cache)
        | .error => (.error, s.cache)
        | .panic => (.panic, s.cache)
    else ((hGet s.heap o i).map fun o' => (o', none), s.cache)
  | _, _ => ((hGet s.heap o i).map fun o' => (o', none), s.cache)

def cWalk (s : CSt) : Option CKey → SObj → List Nat → Outcome SObj × List (CKey × Handle)
  | _, o, [] => (.ok o, s.cache)
  | key, o, i :: p => match cGet s key o i with
    | (.ok (o', key'), c) => cWalk ⟨s.heap, c⟩ key' o' p
    | (.error, c) => (.error, c)
    | (.panic, c) => (.panic, c)

/-- the cached machine reads `g_r.p` -/
def cRead (roots : List Nat) (s : CSt) (r : Nat) (p : List Nat) : CSt × Res :=
  match roots[r]? with
  | some a => match cWalk s (some (r, [])) (.px (.at a [])) p with
    | (.ok o, c) => (⟨s.heap, c⟩, .val (sview o))
    | (.error, c) => (⟨s.heap, c⟩, .error)
    | (.panic, c) => (⟨s.heap, c⟩, .panic)
  | none => (s, .error)

/-- `SetAttr` through the proxy named `k` drops the child remembered for field `i` (and with the
    child object everything it remembered) -/
def cacheDrop (c : List (CKey × Handle)) (k : CKey) : List (CKey × Handle) :=
  c.filter fun e => !(e.1.1 == k.1 && k.2.isPrefixOf e.1.2)

/-- walk to the parent with the cache, then `SetAttr` -/
def cWalkSet (s : CSt) : Option CKey → SObj → List Nat → Node → Outcome Heap × List (CKey × Handle)
  | _, _, [], _ => (.error, s.cache)
  | key, o, [i], v =>
    (hSet s.heap o i v, match key with
      | some k => cacheDrop s.cache (k.1, k.2 ++ [i])
      | none => s.cache)
  | key, o, i :: j :: p, v => match cGet s key o i with
    | (.ok (o', key'), c) => cWalkSet ⟨s.heap, c⟩ key' o' (j :: p) v
    | (.error, c) => (.error, c)
    | (.panic, c) => (.panic, c)

def cStep (roots : List Nat) (s : CSt) : HOp → CSt × Res
  | .scriptGet r p => cRead roots s r p
  | .scriptSet r p i => match roots[r]? with
    | some a => match cWalkSet s (some (r, [])) (.px (.at a [])) p (.int i) with
      | (.ok h', c) => (⟨h', c⟩, .done)
      | (.error, c) => (⟨s.heap, c⟩, .error)
      | (.panic, c) => (⟨s.heap, c⟩, .panic)
    | none => (s, .error)
  | op =>   -- Go's steps never touch a proxy; scriptLink / scriptNew are not needed for the contrast
    let (h', r) := specStep roots s.heap op
    (⟨h', s.cache⟩, r)

def runCached (roots : List Nat) : CSt → List HOp → CSt × List Res
  | s, [] => (s, [])
  | s, op :: ops =>
    let (s', r) := cStep roots s op
    let (s'', rs) := runCached roots s' ops
    (s'', r :: rs)

end Risor.C08
