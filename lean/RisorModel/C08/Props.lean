import RisorModel.C08.Lemmas
/-!
C08 — property theorems: Go values cross the host/script boundary faithfully or are rejected
cleanly.  Everything is for ALL Go types of the universe `GoTy` (any nesting depth), all values,
both converter entry points and every float semantics `F`.

The unchanged code violates the property in several ways; for each the full statement is kept as
a `def … : Prop`, refuted by a concrete witness, and the strongest true part is proved under a
decidable guard (`clean`, `setGuards`, `callGuards`, all lists of named findings).

Seven of the recorded defects were repaired in risor since (uint64 ≥ 2⁶³ wrapping negative, the
untyped nil global, `risor.Eval` panicking on a global without a converter, surplus method
arguments, integers that do not fit the target integer type, lists longer than the array,
declared types of a basic kind such as time.Duration).  For
each the model follows the repaired code, its disjunct is gone from the guards (the partial
theorems are stronger), the counterexample is replaced by the positive statement
(`C08_uint_from_exact`, `C08_nil_global`, `C08_global_error_is_error`, `C08_surplus_rejected`,
`C08_int_write_exact`, `C08_array_longer_rejected`, `C08_named_scalar_unguarded`), and what the code did before is kept as a
`preFix…` definition with a checked `C08_fixed_…` statement.
-/
namespace Risor.C08

/-- trivial float operations, used only to evaluate closed witnesses -/
def F0 : FOps := ⟨id, id, fun _ => 0, fun _ => 0, fun _ => 0, fun _ => none⟩

/-! ## 1. Go → script → Go -/

/-- **Full statement, crossing a value.**  For every Go type and every value of it, through
    either converter entry point: `From` does not panic; if it is not an error, the object it
    gives represents the value (`repr`: contents equal) and handing that object back to Go
    (`To` + assignment into a slot of the same type) neither panics nor errs and yields a value
    with the same representation, the identical value when no `interface{}` is involved. -/
def C08_full_roundtrip : Prop :=
  ∀ (F : FOps) (m : Mode) (ty : GoTy) (v : GoVal), hasTy ty v = true →
    specRoundTrip F ty v (implRoundTrip F m ty v) = true

/-- **Repaired (C08-named-type-panic, declared types of a basic kind).**  A declared type whose
    underlying type is a basic type — `time.Duration`, `type MyInt int`, `type Name string`, at any
    nesting of declarations — carries no type-level guard any more: it crosses like its basic type
    (`C08_partial_roundtrip`, `C08_partial_write`, … apply to it). -/
theorem C08_named_scalar_unguarded : ∀ (ty : GoTy), isScalarKind ty = true → tyGuards ty = []
  | .named id u, h => by
    have hu : isScalarKind u = true := by simpa [isScalarKind, under] using h
    have ih := C08_named_scalar_unguarded u hu
    obtain ⟨h1, h2⟩ := tyGuards_nil u ih
    simp [tyGuards, namedBad, ptrIfaceBad, hu, h1, h2]
  | .bool, _ | .int _, _ | .uint _, _ | .f32, _ | .f64, _ | .str, _ => by
    simp [tyGuards, namedBad, ptrIfaceBad]
  | .time, h | .iface, h | .chan, h | .ptr _, h | .slice _, h | .array _ _, h | .mapStr _, h
  | .struct _, h => by simp [isScalarKind, under] at h

/-- `WithGlobal("x", time.Second)`: the script sees 1000000000, and handing it back gives Go a
    `time.Duration` of that value — for every float semantics. -/
theorem C08_named_duration (F : FOps) :
    fromGlobal F (some (.named 1 (.int .w64), .int 1000000000)) = .ok (.int 1000000000) ∧
    implRoundTrip F .create (.named 1 (.int .w64)) (.int 1000000000)
      = .ok (.int 1000000000, .ok (.int 1000000000)) := ⟨rfl, rfl⟩

/-- historical: before the repair the kind converter was handed the `time.Duration` itself and its
    `obj.(int64)` panicked; and `To` returned an `int64`, which reflect refuses to store in a
    `time.Duration` slot -/
theorem C08_fixed_named_duration_panicked (F : FOps) :
    preFixFromLeafScalar F (.named 1 (.int .w64)) (.int 1000000000) = .panic ∧
    (preFixNamedTo F (.named 1 (.int .w64)) (.int 3)).bind (assignField (.named 1 (.int .w64))) = .panic :=
  ⟨rfl, rfl⟩

/-- what is left of that finding: a pointer to a declared slice type never converts back (`To`
    allocates a `*[]int`, which is not a `*IDs`) -/
theorem C08_counterexample_declared_container (F : FOps) :
    implRoundTrip F .create (.ptr (.named 10 (.slice (.int .w0)))) (.ptr (.seq (.cons (.int 1) .nil)))
      = .ok (.list (.cons (.int 1) .nil), .panic) := rfl

/-- **Repaired (C08-uint64-wraps-negative).**  An unsigned value crosses as the integer it is, or
    is rejected: for every width, both entry points and every well-typed value, `From` gives the
    script exactly `i` when `i < 2⁶³` (a byte object for `byte` through `createTypeConverter`) and
    an error otherwise — never a different number. -/
theorem C08_uint_from_exact (F : FOps) (m : Mode) (w : W) (i : Int)
    (ht : hasTy (.uint w) (.int i) = true) :
    fromGo F m (.uint w) (.int i) =
      if m = .create ∧ w = .w8 then .ok (.byte i.toNat)
      else if i ≥ two63 then .error else .ok (.int i) := by
  by_cases hb : m = .create ∧ w = .w8
  · obtain ⟨rfl, rfl⟩ := hb
    simp [fromGo, convOK, fromLeaf, sel, byteFrom]
  · have hsel : sel m (.uint w) = .scalar := by
      unfold sel
      simp [getSel, isScalarKind, under]
      exact fun h1 h2 => hb ⟨h1, h2⟩
    simp [fromGo, convOK, fromLeaf, hsel, under, scalarFrom, hb]

/-- `uint64(1) << 63` is now rejected -/
theorem C08_uint64_top_bit_rejected (F : FOps) :
    fromGo F .create (.uint .w64) (.int 9223372036854775808) = .error := rfl

/-- historical: before the repair `From` did `int64(v)`, and `uint64(1) << 63` reached the script
    as −9223372036854775808 -/
theorem C08_fixed_uint64_wrapped (F : FOps) :
    preFixScalarFrom F (.uint .w64) (.int 9223372036854775808) = .ok (.int (-9223372036854775808)) := rfl

/-- `[]*int{nil}`: the script sees `[nil]`, and handing that list back panics -/
theorem C08_counterexample_nil_element (F : FOps) :
    implRoundTrip F .create (.slice (.ptr (.int .w0))) (.seq (.cons .nilv .nil))
      = .ok (.list (.cons .nil .nil), .panic) := rfl

/-- `map[string]any{"a": nil}` comes back as the empty map -/
theorem C08_counterexample_nil_map_entry (F : FOps) :
    implRoundTrip F .create (.mapStr .iface) (.map [[97]] (.cons .nilv .nil))
      = .ok (.map [[97]] (.cons .nil .nil), .ok (.map [] .nil)) := rfl

/-- a non-nil `**int` pointing to a nil `*int` becomes `nil` -/
theorem C08_counterexample_nil_collapse (F : FOps) :
    implRoundTrip F .create (.ptr (.ptr (.int .w0))) (.ptr .nilv) = .ok (.nil, .ok .nilv) := rfl

/-- a `*interface{}` never converts back: `To` allocates a `*int64` -/
theorem C08_counterexample_ptr_iface (F : FOps) :
    implRoundTrip F .create (.ptr .iface) (.ptr (.iface (.int .w64) (.int 5)))
      = .ok (.int 5, .panic) := rfl

/-- **Repaired (C08-nil-global-panic).**  `WithGlobal("x", nil)` gives the script `nil`. -/
theorem C08_nil_global (F : FOps) : fromGlobal F none = .ok .nil ∧ evalGlobal F none = .ok .nil :=
  ⟨rfl, rfl⟩

/-- **Repaired (C08-global-error-panics).**  `risor.Eval` with a global reports exactly what the
    conversion of that global reports — in particular a global without a converter is an error
    of `Eval`, not a panic. -/
theorem C08_global_error_is_error (F : FOps) (g : Option (GoTy × GoVal)) :
    evalGlobal F g = fromGlobal F g ∧ (fromGlobal F g = .error → evalGlobal F g = .error) :=
  ⟨rfl, fun h => h⟩
theorem C08_chan_global_rejected (F : FOps) : evalGlobal F (some (.chan, .nilv)) = .error := rfl

/-- historical: before the repairs `AsObjects` dereferenced the nil type of an untyped nil, and
    `vm.Run` built its VM with `vm.New`, which panics on the error of `applyOptions` -/
theorem C08_fixed_nil_global_panicked (F : FOps) : preFixFromGlobal F none = .panic := rfl
theorem C08_fixed_global_error_panicked (F : FOps) :
    preFixFromGlobal F (some (.chan, .nilv)) = .error ∧ preFixEvalGlobal F (some (.chan, .nilv)) = .panic :=
  ⟨rfl, rfl⟩

/-- the unchanged code violates the full statement -/
theorem C08_counterexample_roundtrip : ¬ C08_full_roundtrip := by
  intro h
  have := h F0 .create (.slice (.ptr (.int .w0))) (.seq (.cons .nilv .nil)) (by decide +kernel)
  revert this
  decide +kernel

/-- **Partial statement (round trip).**  Under the guard `clean` — no declared container type
    (declared types of a basic kind and declared struct types are fine),
    no pointer to an interface type, no nil pointer / nil interface as a
    container element, no non-nil pointer to a nil pointer / interface — the full statement holds,
    for all types of any depth, all values, both entry points, and every float semantics in which
    widening a float32 and narrowing it again is the identity. -/
theorem C08_partial_roundtrip (F : FOps) (hF : ∀ b, F.narrow (F.widen b) = b)
    (m : Mode) (ty : GoTy) (v : GoVal) (ht : hasTy ty v = true) (hclean : clean m ty v = true) :
    specRoundTrip F ty v (implRoundTrip F m ty v) = true := by
  by_cases hc : convOK ty = true
  · have hcg : crossGuards m ty v = [] := by
      unfold clean at hclean
      cases h : crossGuards m ty v with
      | nil => rfl
      | cons a b => rw [h] at hclean; cases hclean
    unfold crossGuards at hcg
    obtain ⟨hg, hv⟩ := List.append_eq_nil_iff.mp hcg
    rcases good_val F hF v m ty hc ht hg hv with he | ⟨o, h1, _, h2, h3⟩
    · simp [implRoundTrip, he, Outcome.map, specRoundTrip]
    · rcases h3 with ⟨rfl, h4, rfl⟩ | ⟨_, d, x, h4, h5, h6, h7⟩
      · have hz : zero ty = .nilv := by
          rw [zero_under]
          unfold hasTy at ht
          split at ht <;> simp_all [zero]
        simp [implRoundTrip, h1, Outcome.map, specRoundTrip, toSlot, h4, Outcome.bind, assignField, hz, h2]
      · simp only [implRoundTrip, h1, Outcome.map, specRoundTrip, toSlot, h4, Outcome.bind, assignField,
          assignable_of ty d h5, if_true, h2, h6, Bool.true_and]
        cases hm : mentionsIface ty with
        | true => simp
        | false => simp [h7 hm]
  · have hc' : convOK ty = false := by simpa using hc
    have : fromGo F m ty v = .error := by unfold fromGo; simp [hc']
    simp [implRoundTrip, this, Outcome.map, specRoundTrip]

/-- In particular conversion never panics under the guard, in either direction of the round trip. -/
theorem C08_partial_no_panic (F : FOps) (hF : ∀ b, F.narrow (F.widen b) = b)
    (m : Mode) (ty : GoTy) (v : GoVal) (ht : hasTy ty v = true) (hclean : clean m ty v = true) :
    fromGo F m ty v ≠ .panic ∧ ∀ o, fromGo F m ty v = .ok o → toSlot F m ty o ≠ .panic := by
  have h := C08_partial_roundtrip F hF m ty v ht hclean
  unfold implRoundTrip at h
  constructor
  · intro hp; simp [hp, Outcome.map, specRoundTrip] at h
  · intro o ho hp; simp [ho, Outcome.map, specRoundTrip, hp] at h

/-- **Globals through `risor.Eval` (repaired: C08-nil-global-panic, C08-global-error-panics).**
    For the untyped nil, and for every well-typed value of every type under the guard `clean`:
    `risor.Eval(…, WithGlobal(name, v))` does not panic; the script sees `nil` for nil, and
    otherwise either `Eval` returns an error or the script sees an object representing `v`.  No
    guard is left for the untyped nil or for types without a converter. -/
theorem C08_partial_global (F : FOps) (hF : ∀ b, F.narrow (F.widen b) = b)
    (g : Option (GoTy × GoVal)) :
    match g with
    | none => evalGlobal F g = .ok .nil
    | some (ty, v) => hasTy ty v = true → clean .create ty v = true →
        specRead F ty v (evalGlobal F g) = true := by
  cases g with
  | none => rfl
  | some p =>
    obtain ⟨ty, v⟩ := p
    intro ht hcl
    have h := C08_partial_roundtrip F hF .create ty v ht hcl
    unfold implRoundTrip at h
    show specRead F ty v (fromGo F .create ty v) = true
    cases hfg : fromGo F .create ty v with
    | error => rfl
    | panic => simp [hfg, Outcome.map, specRoundTrip] at h
    | ok o' =>
      simp only [hfg, Outcome.map, specRoundTrip, Bool.and_eq_true] at h
      simpa [specRead] using h.1

/-! ### Non-vacuity -/

-- a depth-3 type with a declared struct, a pointer, a map and a slice, and a value of it
example : clean .create
    (.mapStr (.slice (.ptr (.named 13 (.struct (.cons (.int .w0) (.cons .str .nil)))))))
    (.map [[97]] (.cons (.seq (.cons (.ptr (.struct (.cons (.int 7) (.cons (.str [104]) .nil)))) (.cons .nilv .nil))) .nil))
    = true := by decide +kernel
example : hasTy
    (.mapStr (.slice (.ptr (.named 13 (.struct (.cons (.int .w0) (.cons .str .nil)))))))
    (.map [[97]] (.cons (.seq (.cons (.ptr (.struct (.cons (.int 7) (.cons (.str [104]) .nil)))) (.cons .nilv .nil))) .nil))
    = true := by decide +kernel
example : clean .get (.array 2 (.uint .w8)) (.seq (.cons (.int 255) (.cons (.int 0) .nil))) = true := by decide +kernel
example : clean .create (.slice .iface) (.seq (.cons (.iface (.int .w32) (.int (-5))) .nil)) = true := by decide +kernel
-- the guard is violated by the witnesses
-- a declared type of a basic kind is no longer excluded; a declared slice type is
example : clean .create (.named 1 (.int .w64)) (.int 1) = true := by decide +kernel
example : clean .create (.ptr (.named 10 (.slice (.int .w0)))) (.ptr (.seq .nil)) = false := by decide +kernel
-- unsigned values ≥ 2⁶³ are no longer excluded: they are rejected with an error
example : clean .create (.uint .w64) (.int 9223372036854775808) = true := by decide +kernel
example : clean .create (.slice (.ptr (.int .w0))) (.seq (.cons .nilv .nil)) = false := by decide +kernel


/-! ## 2. script → Go: field writes and method arguments -/

/-- **Full statement, writing into Go.**  For every slot type and every script object: the
    conversion (`To` + assignment) never panics, and when it is accepted the Go value stored
    represents exactly the object the script passed. -/
def C08_full_write : Prop :=
  ∀ (F : FOps) (m : Mode) (ty : GoTy) (o : Obj), wfW o = true →
    specWrite F ty o (toSlot F m ty o) = true

/-- 2.7 written to an `int` slot is stored as 2 (a float object is still converted with a plain Go
    conversion; here for the float semantics `F0'` in which `trunc` of that float is 2) -/
theorem C08_counterexample_narrowing :
    toSlot ⟨id, id, fun _ => 0, fun _ => 0, fun _ => 2, fun _ => none⟩ .get (.int .w0) (.float 4613262278296967578)
      = .ok (.int 2) := rfl

/-- **Repaired (C08-lossy-narrowing, the integer part).**  An integer object written into an
    integer slot of any width, through either entry point, for every float semantics: Go holds
    exactly that integer when the type can represent it, and the write is rejected with an error
    otherwise — never a wrapped value. -/
theorem C08_int_write_exact (F : FOps) (m : Mode) (w : W) (i : Int) :
    toSlot F m (.int w) (.int i) = (if inRangeS w.bits i then .ok (.int i) else .error) ∧
    toSlot F m (.uint w) (.int i) = (if inRangeU w.bits i then .ok (.int i) else .error) := by
  constructor
  · cases hr : inRangeS w.bits i <;> cases m <;>
      simp [toSlot, toGo, convOK, peel, liftPtr, baseMode, toBase, toLeaf, sel, getSel, isScalarKind,
        under, scalarTo, hr, Outcome.bind, assignField, assignable, store, isIfaceKind]
  · by_cases hb : m = .create ∧ w = .w8
    · obtain ⟨rfl, rfl⟩ := hb
      cases hr : inRangeU W.w8.bits i <;>
        simp [toSlot, toGo, convOK, peel, liftPtr, baseMode, toBase, toLeaf, sel,
          under, scalarTo, hr, Outcome.bind, assignField, assignable, store, isIfaceKind]
    · have hsel : sel m (.uint w) = .scalar := by
        unfold sel
        simp [getSel, isScalarKind, under]
        exact fun h1 h2 => hb ⟨h1, h2⟩
      cases hr : inRangeU w.bits i <;>
        simp [toSlot, toGo, convOK, peel, liftPtr, baseMode, toBase, toLeaf, hsel,
          under, scalarTo, hr, Outcome.bind, assignField, assignable, store, isIfaceKind]

/-- 300 into an `int8` slot and −1 into a `uint64` slot are now rejected -/
theorem C08_int_out_of_range_rejected (F : FOps) :
    toSlot F .get (.int .w8) (.int 300) = .error ∧ toSlot F .get (.uint .w64) (.int (-1)) = .error :=
  ⟨rfl, rfl⟩

/-- an integer object never falls under the narrowing guard of an integer slot any more -/
theorem C08_int_narrowing_gone (F : FOps) (m : Mode) (w : W) (i : Int) :
    writeGuards F m (.int w) (.int i) = [] ∧ writeGuards F m (.uint w) (.int i) = [] := by
  constructor
  · cases hr : inRangeS w.bits i <;> cases m <;>
      simp [writeGuards, peel, baseMode, toLeaf, sel, getSel, isScalarKind, under, scalarTo, hr, repr, numIs]
  · by_cases hb : m = .create ∧ w = .w8
    · obtain ⟨rfl, rfl⟩ := hb
      cases hr : inRangeU W.w8.bits i <;>
        simp [writeGuards, peel, baseMode, toLeaf, sel, under, scalarTo, hr, repr, numIs]
    · have hsel : sel m (.uint w) = .scalar := by
        unfold sel
        simp [getSel, isScalarKind, under]
        exact fun h1 h2 => hb ⟨h1, h2⟩
      cases hr : inRangeU w.bits i <;>
        simp [writeGuards, peel, baseMode, toLeaf, hsel, under, scalarTo, hr, repr, numIs]

/-- historical: before the repair `To` used plain Go conversions — 300 written to an `int8` slot
    was stored as 44, −1 to a `uint64` slot as 2⁶⁴−1 (for every float semantics) -/
theorem C08_fixed_int_narrowing_wrapped (F : FOps) :
    preFixScalarTo F (.int .w8) (.int 300) = .ok (some (.int .w8, .int 44)) ∧
    preFixScalarTo F (.uint .w64) (.int (-1)) = .ok (some (.uint .w64, .int 18446744073709551615)) := by
  constructor <;> rfl

/-- a one-element list written to a `[2]int` slot is zero-padded (kept: risor's own
    `TestArrayConverterInt` expects it) -/
theorem C08_counterexample_array_length (F : FOps) :
    toSlot F .get (.array 2 (.int .w0)) (.list (.cons (.int 1) .nil)) = .ok (.seq (.cons (.int 1) (.cons (.int 0) .nil))) := by
  rfl

/-- **Repaired (C08-array-length-unchecked, the panic half).**  A list with more items than the
    array has elements is rejected with an error, whatever the element type, the items, the entry
    point and the float semantics — no element is converted, nothing panics. -/
theorem C08_array_longer_rejected (F : FOps) (m : Mode) (b : GoTy) (n : Nat) (t : GoTy) (os : Objs)
    (hs : sel m b = .array n t) (hl : os.length > n) : toBase F m b (.list os) = .error := by
  simp [toBase, hs, hl]

theorem C08_array_longer_rejected_slot (F : FOps) :
    toSlot F .get (.array 2 (.int .w0)) (.list (.cons (.int 1) (.cons (.int 2) (.cons (.int 3) .nil)))) = .error := rfl

/-- historical: before the repair `ArrayConverter.To` entered its loop without comparing the
    lengths, and the loop runs into reflect's "array index out of range" on the third item -/
theorem C08_fixed_array_longer_panicked (F : FOps) :
    toArr F (.int .w0) 2 (.cons (.int 1) (.cons (.int 2) (.cons (.int 3) .nil))) = .panic := rfl

/-- a proxy of another struct type is accepted by `To` and the assignment panics -/
theorem C08_counterexample_proxy_type (F : FOps) :
    toSlot F .get (.named 13 (.struct (.cons (.int .w0) .nil)))
      (.proxy (.ptr (.named 14 (.struct .nil))) (.ptr (.struct .nil))) = .panic := rfl

theorem C08_counterexample_write : ¬ C08_full_write := by
  intro h
  have := h F0 .get (.array 2 (.int .w0)) (.list (.cons (.int 1) .nil)) (by decide +kernel)
  revert this
  decide +kernel

/-- **Partial statement (writes).**  Under the guard `writeAllGuards … = []` — no declared
    non-struct type and no pointer to an interface in the slot type; float objects exactly
    representable in the target type and integers exactly representable in a float target (an
    integer that does not fit an integer target is rejected, no guard needed); no nil element for
    pointer / interface / slice / map element types; lists not shorter than the array (a longer
    one is rejected, no guard needed); proxies of exactly the target struct type — the conversion of
    ANY script object into a slot of ANY type never panics, and when accepted Go holds exactly
    what the script passed. -/
theorem C08_partial_write (F : FOps) (m : Mode) (ty : GoTy) (o : Obj) (hw : wfW o = true)
    (hg : writeAllGuards F m ty o = []) : specWrite F ty o (toSlot F m ty o) = true := by
  rcases toSlot_good F m ty o hw hg with he | ⟨v, h1, h2⟩
  · simp [he, specWrite]
  · simp [h1, specWrite, h2]

/-! ### struct fields through a proxy -/

/-- **Full statement, field write.**  Writing any script object to any field of a proxied struct
    never panics; when accepted, that field of the Go struct holds what was written and the other
    fields are unchanged. -/
def C08_full_setattr : Prop :=
  ∀ (F : FOps) (pty : GoTy) (xs : Vals) (i : Nat) (ft : GoTy) (o : Obj),
    proxyField pty i = some ft → wfW o = true →
    match setAttr F pty (.ptr (.struct xs)) i o with
    | .panic => False
    | .error => True
    | .ok pv' => ∃ x, pv' = .ptr (.struct (xs.set i x)) ∧ repr F ft x o = true

/-- a struct-typed field cannot be written at all: assigning a proxy of exactly the field's
    struct type panics (the field's converter is the one for `*S`) -/
theorem C08_counterexample_struct_field (F : FOps) :
    setAttr F (.ptr (.struct (.cons (.named 13 (.struct (.cons (.int .w0) .nil))) .nil)))
      (.ptr (.struct (.cons (.struct (.cons (.int 0) .nil)) .nil))) 0
      (.proxy (.ptr (.named 13 (.struct (.cons (.int .w0) .nil)))) (.ptr (.struct (.cons (.int 2) .nil))))
    = .panic := rfl

theorem C08_counterexample_setattr : ¬ C08_full_setattr := by
  intro h
  -- a float object written to an `int8` field is truncated (in `F0` every float truncates to 0)
  have := h F0 (.ptr (.struct (.cons (.int .w8) .nil))) (.cons (.int 7) .nil) 0 (.int .w8) (.float 300) rfl rfl
  have hs : setAttr F0 (.ptr (.struct (.cons (.int .w8) .nil))) (.ptr (.struct (.cons (.int 7) .nil))) 0 (.float 300)
      = .ok (.ptr (.struct (.cons (.int 0) .nil))) := by decide +kernel
  rw [hs] at this
  obtain ⟨x, hx, hr⟩ := this
  simp only [Vals.set, GoVal.ptr.injEq, GoVal.struct.injEq, Vals.cons.injEq, and_true] at hx
  subst hx
  revert hr
  decide +kernel

/-- **Partial statement (field write).**  Under `setGuards … = []` (the field is not of struct
    kind, plus the write guards above) `SetAttr` never panics; when it succeeds exactly field `i`
    changes and its new Go value represents the object written. -/
theorem C08_partial_setattr (F : FOps) (pty : GoTy) (xs : Vals) (i : Nat) (ft : GoTy) (o : Obj)
    (hpf : proxyField pty i = some ft) (hw : wfW o = true) (hg : setGuards F ft o = []) :
    setAttr F pty (.ptr (.struct xs)) i o = .error ∨
    ∃ x, setAttr F pty (.ptr (.struct xs)) i o = .ok (.ptr (.struct (xs.set i x))) ∧
      repr F ft x o = true := by
  unfold setGuards at hg
  obtain ⟨hs, hgw⟩ := List.append_eq_nil_iff.mp hg
  have hsk : isStructKind ft = false := by
    cases h : isStructKind ft with
    | false => rfl
    | true => simp [h] at hs
  have hft : fieldConvTy ft = ft := by simp [fieldConvTy, hsk]
  rw [hft] at hgw
  unfold setAttr
  by_cases hc : convOK pty = false
  · left; simp [hc]
  · simp only [hc, hpf, hft]
    have hts := toSlot_good F .get ft o hw hgw
    unfold toSlot at hts
    cases hto : toGo F .get ft o with
    | error => left; rfl
    | panic => rw [hto] at hts; simp [Outcome.bind] at hts
    | ok r =>
      rw [hto] at hts
      simp only [Outcome.bind] at hts
      rcases hts with he | ⟨v, h1, h2⟩
      · left; simp [he]
      · right; exact ⟨v, by simp [h1], h2⟩

/-- **A field written from a script reads back as the value written.**  After a successful
    `SetAttr` of field `i`, `GetAttr` of the same field converts exactly the Go value just stored
    (nothing else intervenes); so whenever that value is one the Go → script direction handles
    (`clean`), the script reads back an object representing the value Go holds, which by
    `C08_partial_setattr` represents what was written. -/
theorem C08_partial_setattr_getattr (F : FOps) (hF : ∀ b, F.narrow (F.widen b) = b)
    (pty : GoTy) (xs : Vals) (i : Nat) (ft : GoTy) (o : Obj) (x : GoVal)
    (hpf : proxyField pty i = some ft) (hi : (xs.nth i).isSome = true)
    (hsk : isStructKind ft = false)
    (hset : setAttr F pty (.ptr (.struct xs)) i o = .ok (.ptr (.struct (xs.set i x))))
    (htx : hasTy ft x = true) (hcl : clean .get ft x = true) :
    specRead F ft x (getAttr F pty (.ptr (.struct (xs.set i x))) i) = true := by
  have hc : convOK pty = true := by
    cases h : convOK pty with
    | true => rfl
    | false => unfold setAttr at hset; simp [h] at hset
  have hft : fieldConvTy ft = ft := by simp [fieldConvTy, hsk]
  have hget : getAttr F pty (.ptr (.struct (xs.set i x))) i = fromGo F .get ft x := by
    unfold getAttr getAttrCore
    simp [hc, hpf, Vals.nth_set xs i x hi, hft, hsk]
  rw [hget]
  have h := C08_partial_roundtrip F hF .get ft x htx hcl
  unfold implRoundTrip at h
  cases hfg : fromGo F .get ft x with
  | error => rfl
  | panic => simp [hfg, Outcome.map, specRoundTrip] at h
  | ok o' =>
    simp only [hfg, Outcome.map, specRoundTrip, Bool.and_eq_true] at h
    simpa [specRead] using h.1

/-! ### method arguments -/

/-- **Full statement, method call.**  A Go method receives exactly the argument the script
    passed, or the call is rejected with an error; never a panic. -/
def C08_full_call : Prop :=
  ∀ (F : FOps) (pt : GoTy) (o : Obj), wfW o = true → specWrite F pt o (callArg F pt o) = true

/-- `h.TakeInt(nil)`: the method is called with 0 -/
theorem C08_counterexample_nil_argument (F : FOps) : callArg F (.int .w0) .nil = .ok (.int 0) := rfl

theorem C08_counterexample_call : ¬ C08_full_call := by
  intro h
  have := h F0 (.int .w0) .nil rfl
  revert this
  decide +kernel

/-- **Partial statement (method arguments).**  Under `callGuards … = []` (a nil argument only
    for a pointer / interface / slice / map parameter, plus the write guards) `Proxy.call` never
    panics while converting the argument, and the method receives exactly what the script passed. -/
theorem C08_partial_call (F : FOps) (pt : GoTy) (o : Obj) (hw : wfW o = true)
    (hg : callGuards F pt o = []) : specWrite F pt o (callArg F pt o) = true := by
  unfold callGuards at hg
  obtain ⟨hnil, hgw⟩ := List.append_eq_nil_iff.mp hg
  by_cases hc : convOK pt = true
  · unfold writeAllGuards at hgw
    obtain ⟨hgt, hgw'⟩ := List.append_eq_nil_iff.mp hgw
    have hgood := wgood F .get pt o hc hgt hw hgw'
    by_cases ho : o = .nil
    · subst ho
      rcases hgood with he | ⟨_, _, h2, _⟩ | ⟨hne, _⟩
      · -- `To(nil)` is an error for this type, yet the call passes the zero value: excluded by nilArg
        have hnt : nilTo pt = true := by
          cases h : nilTo pt with
          | true => rfl
          | false => simp [h] at hnil
        -- nilTo: the converter accepts nil
        exfalso
        unfold toGo at he
        simp only [hc, Bool.true_eq_false, if_false] at he
        unfold nilTo at hnt
        cases hk : (peel pt).1 with
        | zero =>
          have h2 := peel_fst_zero pt hk
          rw [hk, h2] at he
          simp only [liftPtr, baseMode, if_true] at he
          have hsel : sel .get pt = sel .create pt ∨ pt = .uint .w8 := by
            unfold sel; by_cases h8 : pt = .uint .w8 <;> simp [h8]
          rcases hsel with hsel | h8
          · cases hs : sel .create pt <;> simp [hs] at hnt <;> simp [toBase, hsel, hs] at he
            -- a pointer converter at the base: only a declared pointer type, excluded by the guard
            rename_i t
            obtain ⟨hu, hst⟩ := sel_inv hs
            obtain rfl := eq_of_under (tyGuards_nil pt hgt).1 hu rfl rfl
            rw [peel_ptr_other t hst] at hk
            simp at hk
          · subst h8; simp [sel] at hnt
        | succ k => rw [hk] at he; simp [liftPtr] at he
      · simp [callArg, hc, specWrite, h2]
      · exact absurd rfl hne
    · rcases hgood with he | ⟨h0, _⟩ | ⟨_, d, x, h1, h2, h3⟩
      · have : callArg F pt o = .error := by rw [callArg_ne_nil F pt o hc ho, he]
        simp [this, specWrite]
      · exact absurd h0 ho
      · have : callArg F pt o = .ok (store pt d x) := by
          rw [callArg_ne_nil F pt o hc ho, h1]; simp [assignable_of pt d h2]
        simp [this, specWrite, h3]
  · have hc' : convOK pt = false := by simpa using hc
    simp [callArg, hc', specWrite]

/-! ### every argument position -/

/-- **Full statement, argument list.**  For every parameter list and every argument list: the
    call never panics, and when the method is invoked it receives exactly the arguments the
    script passed — argument `i` in parameter `i`, none missing, none dropped. -/
def C08_full_call_args : Prop :=
  ∀ (F : FOps) (pts : Fields) (os : Objs), wfWs os = true →
    specArgs F pts os (callArgs F pts os) = true

/-- **Repaired (C08-surplus-arguments-dropped).**  A call with more arguments than the method has
    parameters never reaches the Go method: for parameter and argument lists of any length, any
    types and objects, `Proxy.call` does not return normally (it reports the args error — or the
    failure of an earlier argument's conversion). -/
theorem C08_surplus_rejected (F : FOps) (pts : Fields) (os : Objs) (h : pts.length < os.length)
    (vs : Vals) : callArgs F pts os ≠ .ok vs := by
  unfold callArgs
  cases hc : convArgs F pts os with
  | error => simp [Outcome.bind]
  | panic => simp [Outcome.bind]
  | ok xs =>
    simp only [Outcome.bind]
    split
    · simp
    · simp

/-- `h.TakeInt(1, 2)` is an args error -/
theorem C08_surplus_argument_rejected :
    callArgs F0 (.cons (.int .w0) .nil) (.cons (.int 1) (.cons (.int 2) .nil)) = .error := by decide +kernel

/-- historical: before the repair `h.TakeInt(1, 2)` made the call with `1` and silently dropped
    the second argument -/
theorem C08_fixed_surplus_was_dropped :
    preFixCallArgs F0 (.cons (.int .w0) .nil) (.cons (.int 1) (.cons (.int 2) .nil))
      = .ok (.cons (.int 1) .nil) := by decide +kernel

/-- the full statement still fails: `h.TakeInt(nil)` calls the method with 0 -/
theorem C08_counterexample_call_args : ¬ C08_full_call_args := by
  intro h
  have := h F0 (.cons (.int .w0) .nil) (.cons .nil .nil) rfl
  revert this
  decide +kernel

/-- too few arguments are rejected, also after a nil argument (`rec.Record(nil)` for a method
    with three parameters) -/
theorem C08_too_few_rejected (F : FOps) :
    callArgs F (.cons .iface (.cons .str (.cons (.int .w0) .nil))) (.cons .nil .nil) = .error := rfl

/-- **Partial statement (every argument position).**  For parameter lists and argument lists of
    ANY length: under `callNGuards … = []` (in every position the guards of `C08_partial_call`;
    nothing is demanded of the NUMBER of arguments any more) `Proxy.call` never panics, too few and
    too many arguments are rejected, and when the
    method is invoked each parameter holds a Go value representing the argument the script passed
    in that same position. -/
theorem C08_partial_call_args (F : FOps) (pts : Fields) (os : Objs) (hw : wfWs os = true)
    (hg : callNGuards F pts os = []) : specArgs F pts os (callArgs F pts os) = true := by
  unfold callArgs
  rcases convArgs_good F (C08_partial_call F) pts os hw hg with he | ⟨xs, hx, hr⟩
  · simp [he, Outcome.bind, specArgs]
  · simp only [hx, Outcome.bind, toList_map_length]
    rcases hr with hl | hl | hr
    · simp [hl, specArgs]
    · by_cases hl' : xs.length < pts.length
      · simp [hl', specArgs]
      · simp [hl', hl, specArgs]
    · have := reprArgs_length F pts xs os hr
      have hlo := reprArgs_lengths F pts xs os hr
      simp [this, hlo, allSome_map_some, specArgs, hr]

example : callNGuards F0 (.cons (.ptr (.int .w0)) (.cons .str (.cons (.int .w0) .nil)))
    (.cons .nil (.cons (.str [97]) (.cons (.int 3) .nil))) = [] := by decide +kernel
example : callArgs F0 (.cons (.ptr (.int .w0)) (.cons .str (.cons (.int .w0) .nil)))
    (.cons .nil (.cons (.str [97]) (.cons (.int 3) .nil)))
    = .ok (.cons .nilv (.cons (.str [97]) (.cons (.int 3) .nil))) := by decide +kernel
-- a surplus argument is no longer excluded by the guard: the call is rejected
example : callNGuards F0 (.cons (.int .w0) .nil) (.cons (.int 1) (.cons (.int 2) .nil)) = [] := by decide +kernel
example : callNGuards F0 (.cons (.int .w0) .nil) (.cons .nil .nil) ≠ [] := by decide +kernel


/-! ### Non-vacuity for the write direction -/

example : writeAllGuards F0 .get (.slice (.ptr (.int .w16)))
    (.list (.cons (.int 5) (.cons (.int (-7)) .nil))) = [] := by decide +kernel
example : setGuards F0 (.mapStr .str) (.map [[97]] (.cons (.str [120]) .nil)) = [] := by decide +kernel
example : callGuards F0 (.ptr (.int .w0)) .nil = [] := by decide +kernel
example : callGuards F0 (.int .w0) .nil ≠ [] := by decide +kernel
-- an integer that does not fit is no longer excluded by the guard (it is rejected); a float is
example : setGuards F0 (.int .w8) (.int 300) = [] := by decide +kernel
example : setGuards F0 (.int .w8) (.float 300) ≠ [] := by decide +kernel
-- a list longer than the array is no longer excluded either; a shorter one is
example : setGuards F0 (.array 1 (.int .w0)) (.list (.cons (.int 1) (.cons (.int 2) .nil))) = [] := by decide +kernel
example : setGuards F0 (.array 2 (.int .w0)) (.list (.cons (.int 1) .nil)) ≠ [] := by decide +kernel

/-! ## 3. A reused VM: globals supplied again -/

/-- **A run on a reused VM sees, under every name, the value supplied last.**  For every history
    of `WithGlobal(s)` supplies on one VM (any length, any names, any types and values; latest
    first) and every name: if the run reads an object at all, that object is the conversion of the
    value supplied LAST under that name — never of an earlier one, never of another name's. -/
theorem C08_reuse_sees_latest (F : FOps) (hist : List Binding) (n : Nat) (o : Obj)
    (h : reuseRead F hist n = .ok o) :
    ∃ ty v, lastSupplied n hist = some (ty, v) ∧ fromGo F .create ty v = .ok o := by
  unfold reuseRead at h
  cases hc : convertAll F (held hist) with
  | error => simp [hc, Outcome.bind] at h
  | panic => simp [hc, Outcome.bind] at h
  | ok gs =>
    have hl := convertAll_lookup F n (held hist) gs hc
    rw [held_find] at hl
    simp only [hc, Outcome.bind] at h
    unfold lastSupplied
    cases hf : hist.find? (fun b => b.1 == n) with
    | none => rw [hf] at hl; simp [hl] at h
    | some b =>
      rw [hf] at hl
      obtain ⟨o', h1, h2⟩ := hl
      simp only [h2, Outcome.ok.injEq] at h
      subst h
      exact ⟨b.2.1, b.2.2, rfl, h1⟩

/-- **Partial statement (reused VM).**  For every history of supplies of well-typed values in
    which the values the VM currently holds satisfy the guard of `C08_partial_roundtrip`
    (`heldGuards (held hist) = []`; values that were replaced since do not matter), and every
    name: the run does not panic and either is rejected or reads an object representing the Go
    value supplied last under that name. -/
theorem C08_partial_reuse (F : FOps) (hF : ∀ b, F.narrow (F.widen b) = b)
    (hist : List Binding) (n : Nat)
    (ht : ∀ b ∈ hist, hasTy b.2.1 b.2.2 = true)
    (hg : heldGuards (held hist) = []) :
    specReuse F hist n (reuseRead F hist n) = true := by
  have hcl := heldGuards_mem (held hist) hg
  have hnp : convertAll F (held hist) ≠ .panic :=
    convertAll_no_panic F (held hist) fun b hb =>
      (C08_partial_no_panic F hF .create b.2.1 b.2.2 (ht b (held_sub hist b hb)) (hcl b hb)).1
  have hE : specReuse F hist n .error = true := by
    unfold specReuse; cases lastSupplied n hist <;> simp [specRead]
  unfold reuseRead
  cases hc : convertAll F (held hist) with
  | error => simpa [Outcome.bind] using hE
  | panic => exact absurd hc hnp
  | ok gs =>
    have hl := convertAll_lookup F n (held hist) gs hc
    simp only [Outcome.bind]
    cases hf : (held hist).find? (fun b => b.1 == n) with
    | none => rw [hf] at hl; simpa [hl] using hE
    | some b =>
      rw [hf] at hl
      obtain ⟨o, h1, h2⟩ := hl
      have hb : b ∈ held hist := List.mem_of_find?_eq_some hf
      have hrt := C08_partial_roundtrip F hF .create b.2.1 b.2.2 (ht b (held_sub hist b hb)) (hcl b hb)
      simp only [implRoundTrip, h1, Outcome.map, specRoundTrip, Bool.and_eq_true] at hrt
      rw [held_find] at hf
      simp [h2, specReuse, lastSupplied, hf, specRead, hrt.1]

-- the second request's value is seen, not the first's; a replaced unconvertible global no longer
-- keeps the run from starting, one that is still held does (an error, not a panic)
example : reuseRead F0 [(0, .int .w0, .int 2), (0, .int .w0, .int 1)] 0 = .ok (.int 2) := by decide +kernel
example : reuseRead F0 [(1, .str, .str [97]), (0, .int .w0, .int 2), (0, .chan, .nilv)] 0 = .ok (.int 2) := by decide +kernel
example : reuseRead F0 [(1, .str, .str [97]), (0, .chan, .nilv)] 1 = .error := by decide +kernel
example : heldGuards (held [(0, .int .w0, .int 2), (0, .named 1 (.int .w64), .int 1)]) = [] := by decide +kernel

/-! ## 4. Go → script alone: globals, field reads, method results

The round-trip theorems above carry the guards of BOTH directions.  Reading alone needs one: a
non-nil pointer to a nil pointer / nil interface (`nilCollapse`).  In particular every DECLARED
container type — `type Labels []string`, `type IDs []int`, `type Env map[string]string`,
`type Pair [2]int16`, at any nesting — reads faithfully, although the way back mishandles pointers
to them (C08-declared-container-type). -/

/-- **Full statement, reading.**  For every Go type, every value of it and both converter entry
    points: `From` never panics, and the object it gives represents the value. -/
def C08_full_read : Prop :=
  ∀ (F : FOps) (m : Mode) (ty : GoTy) (v : GoVal), hasTy ty v = true →
    specRead F ty v (fromGo F m ty v) = true

/-- a non-nil `**int` pointing to a nil `*int` reads as `nil` -/
theorem C08_counterexample_read : ¬ C08_full_read := by
  intro h
  have := h F0 .create (.ptr (.ptr (.int .w0))) (.ptr .nilv) (by decide +kernel)
  revert this
  decide +kernel

/-- **Partial statement (reading).**  For ALL types of any depth — declared slice / array / map /
    pointer types and pointers to interfaces included —, all well-typed values, both entry points:
    under `readClean` (no non-nil pointer / interface holding a nil pointer / nil interface on the
    way) `From` does not panic and either rejects the value or gives an object representing it. -/
theorem C08_partial_read (F : FOps) (hF : ∀ b, F.narrow (F.widen b) = b)
    (m : Mode) (ty : GoTy) (v : GoVal) (ht : hasTy ty v = true) (hcl : readClean m ty v = true) :
    specRead F ty v (fromGo F m ty v) = true := by
  by_cases hc : convOK ty = true
  · have hv : Finding.nilCollapse ∉ valGuards m ty v := by
      unfold readClean at hcl
      intro hm
      simp at hcl
      exact hcl hm
    rcases read_val F hF v m ty hc ht hv with he | ⟨o, h1, h2, _⟩
    · simp [he, specRead]
    · simp [h1, specRead, h2]
  · have hc' : convOK ty = false := by simpa using hc
    have : fromGo F m ty v = .error := by unfold fromGo; simp [hc']
    simp [this, specRead]

/-- the same for a global of `risor.Eval` -/
theorem C08_partial_read_global (F : FOps) (hF : ∀ b, F.narrow (F.widen b) = b)
    (ty : GoTy) (v : GoVal) (ht : hasTy ty v = true) (hcl : readClean .create ty v = true) :
    specRead F ty v (evalGlobal F (some (ty, v))) = true :=
  C08_partial_read F hF .create ty v ht hcl

/-- the same for a field read through a proxy (`Proxy.GetAttr`): the script reads an object
    representing what the field holds (a struct-typed field: a proxy of a pointer to it) -/
theorem C08_partial_getattr (F : FOps) (hF : ∀ b, F.narrow (F.widen b) = b)
    (pty : GoTy) (xs : Vals) (i : Nat) (ft : GoTy) (x : GoVal)
    (hpf : proxyField pty i = some ft) (hx : xs.nth i = some x) (ht : hasTy ft x = true)
    (hcl : readClean .get (fieldConvTy ft) (if isStructKind ft then .ptr x else x) = true) :
    specRead F (fieldConvTy ft) (if isStructKind ft then .ptr x else x)
      (getAttr F pty (.ptr (.struct xs)) i) = true := by
  unfold getAttr
  by_cases hc : convOK pty = false
  · simp [hc, specRead]
  · simp only [hc, getAttrCore, hpf, hx]
    apply C08_partial_read F hF .get _ _ _ hcl
    cases hs : isStructKind ft with
    | true => simpa [fieldConvTy, hs, hasTy, under] using ht
    | false => simpa [fieldConvTy, hs] using ht

/-- the guard of the read direction is weaker than the guard of the round trip -/
theorem clean_readClean (m : Mode) (ty : GoTy) (v : GoVal) (h : clean m ty v = true) :
    readClean m ty v = true := by
  unfold clean crossGuards at h
  have hv : valGuards m ty v = [] := by
    cases h1 : tyGuards ty <;> cases h2 : valGuards m ty v <;> simp_all
  simp [readClean, hv]

def strVals : List (List Nat) → Vals
  | [] => .nil
  | s :: r => .cons (.str s) (strVals r)

def strObjs : List (List Nat) → Objs
  | [] => .nil
  | s :: r => .cons (.str s) (strObjs r)

theorem fromVals_strs (F : FOps) : ∀ ss : List (List Nat), fromVals F .str (strVals ss) = .ok (strObjs ss)
  | [] => rfl
  | s :: r => by
    have ih := fromVals_strs F r
    have h1 : fromGo F .create .str (.str s) = .ok (.str s) := rfl
    simp [strVals, strObjs, fromVals, h1, ih]

/-- **`type Labels []string`.**  A value of ANY declared type over `[]string` — whatever its name,
    through either entry point, of any length — reaches the script as the list of its strings: no
    panic, no error, nothing lost. -/
theorem C08_named_string_slice (F : FOps) (m : Mode) (id : Nat) (ss : List (List Nat)) :
    fromGo F m (.named id (.slice .str)) (.seq (strVals ss)) = .ok (.list (strObjs ss)) := by
  have hsel : sel m (.named id (.slice .str)) = .slice .str := by
    cases m <;> simp [sel, getSel, isScalarKind, under]
  simp [fromGo, convOK, hsel, fromVals_strs, Outcome.map]

/-- the same value nested: `[]Labels`, `map[string]Labels`, a `Labels` struct field -/
example : fromGo F0 .create (.slice (.named 16 (.slice .str))) (.seq (.cons (.seq (.cons (.str [97]) .nil)) .nil))
    = .ok (.list (.cons (.list (.cons (.str [97]) .nil)) .nil)) := by decide +kernel
example : getAttr F0 (.ptr (.struct (.cons (.named 16 (.slice .str)) .nil)))
    (.ptr (.struct (.cons (.seq (.cons (.str [97]) (.cons (.str [98]) .nil))) .nil))) 0
    = .ok (.list (.cons (.str [97]) (.cons (.str [98]) .nil))) := by decide +kernel
-- declared container types satisfy the read guard, not the round-trip guard
example : readClean .create (.named 16 (.slice .str)) (.seq (.cons (.str [97]) .nil)) = true := by decide +kernel
example : clean .create (.named 16 (.slice .str)) (.seq (.cons (.str [97]) .nil)) = false := by decide +kernel
example : readClean .create (.ptr (.named 10 (.slice (.int .w0)))) (.ptr (.seq .nil)) = true := by decide +kernel
example : readClean .create (.slice (.ptr (.int .w0))) (.seq (.cons .nilv .nil)) = true := by decide +kernel
example : readClean .create (.ptr (.ptr (.int .w0))) (.ptr .nilv) = false := by decide +kernel

/-! ## 5. A map where Go wants a struct; one converter, many conversions

A script may pass a map where a Go method parameter, a slice / array / map element or a field has
a struct type: `StructConverter.To` makes a NEW struct, sets the fields the map names and leaves
every other field zero.  The write theorems of section 2 cover this (`repr` of a struct by a map:
`reprFields`); the statements below spell out what they say about it, and that a converter —
ONE per Go type for the whole process — keeps nothing from one conversion to the next. -/

theorem place_nth (ps : List (Nat × GoVal)) : ∀ (fs : Fields) (j i : Nat) (ft : GoTy),
    fs.nth i = some ft → (place j fs ps).nth i = some ((ps.lookup (j + i)).getD (zero ft))
  | .nil, _, _, _, h => by simp [Fields.nth] at h
  | .cons t r, j, 0, ft, h => by
    simp only [Fields.nth, Option.some.injEq] at h
    subst h; simp [place, Vals.nth]
  | .cons t r, j, i + 1, ft, h => by
    simp only [Fields.nth] at h
    have := place_nth ps r (j + 1) i ft h
    rw [show j + 1 + i = j + (i + 1) by omega] at this
    simpa [place, Vals.nth] using this

theorem toFieldVals_unnamed (F : FOps) (fs : Fields) (i : Nat) : ∀ (os : Objs) (ks : List (List Nat))
    (ps : List (Nat × GoVal)), toFieldVals F fs ks os = .ok ps →
    entryFor fs.length i ks os = none → ps.lookup i = none
  | .nil, ks, ps, h, _ => by
    cases ks <;> simp [toFieldVals] at h <;> subst h <;> rfl
  | .cons o r, [], ps, h, _ => by
    simp [toFieldVals] at h; subst h; rfl
  | .cons o r, k :: ks, ps, h, he => by
    have hne : fieldIdx fs.length k ≠ some i := by
      intro e; simp [entryFor, e] at he
    have he' : entryFor fs.length i ks r = none := by
      simpa [entryFor, hne] using he
    unfold toFieldVals at h
    split at h
    · exact toFieldVals_unnamed F fs i r ks ps h he'
    · rename_i j hj
      split at h
      · exact toFieldVals_unnamed F fs i r ks ps h he'
      · split at h
        · cases h
        · cases h
        · split at h
          · split at h
            · rename_i ps' hps
              simp only [Outcome.ok.injEq] at h
              subst h
              have hij : (i == j) = false := by
                have : ¬ i = j := fun e => hne (by rw [hj, e])
                simp [this]
              simp [List.lookup, hij, toFieldVals_unnamed F fs i r ks ps' hps he']
            · cases h
            · cases h
          · cases h
          · cases h

/-- **Fields the map does not name are zero.**  For every struct type, every map object and every
    float semantics, WITHOUT any guard: when `StructConverter.To` accepts a map, each field that no
    key of the map names holds its zero value in the struct Go receives — whatever the converter
    converted before. -/
theorem C08_map_struct_unnamed_zero (F : FOps) (m : Mode) (b : GoTy) (fs : Fields)
    (ks : List (List Nat)) (os : Objs) (d : GoTy) (v : GoVal)
    (hsel : sel m b = .structV) (hu : under b = .struct fs)
    (h : toBase F m b (.map ks os) = .ok (some (d, v))) :
    d = b ∧ ∃ xs, v = .struct xs ∧
      ∀ i ft, fs.nth i = some ft → entryFor fs.length i ks os = none → xs.nth i = some (zero ft) := by
  have hf : fieldsOf b = fs := by simp [fieldsOf, hu]
  simp only [toBase, hsel, hf] at h
  cases hp : toFieldVals F fs ks os with
  | error => simp [hp] at h
  | panic => simp [hp] at h
  | ok ps =>
    simp only [hp, Outcome.ok.injEq, Option.some.injEq, Prod.mk.injEq] at h
    refine ⟨h.1.symm, place 0 fs ps, by rw [← h.2]; simp [fillStruct, hu], ?_⟩
    intro i ft hi he
    have := place_nth ps fs 0 i ft hi
    simpa [toFieldVals_unnamed F fs i os ks ps hp he] using this

/-- **Partial statement (a map for a struct).**  For every struct-typed slot (declared or not),
    every map object with well-formed values: under `fieldWriteGuards … = []` (per entry that names
    a field: the guards of writing that field, and no `nil` value) the conversion does not panic,
    and when it is accepted the struct Go receives is represented by the map — every named field
    holds what the map gives for it, every other field is zero. -/
theorem C08_partial_map_struct (F : FOps) (m : Mode) (b : GoTy) (ks : List (List Nat)) (os : Objs)
    (hsel : sel m b = .structV) (hc : convOK b = true) (hw : wfWs os = true)
    (hg : fieldWriteGuards F (fieldsOf b) ks os = []) :
    toBase F m b (.map ks os) = .error ∨
    ∃ v, toBase F m b (.map ks os) = .ok (some (b, v)) ∧ repr F b v (.map ks os) = true := by
  obtain ⟨hsk, _⟩ := sel_inv hsel
  rcases wfields F os ks (fieldsOf b) (fieldsOK_fieldsOf b hc) hw hg with he | ⟨ps, h1, h2⟩
  · left; simp [toBase, hsel, he]
  · exact Or.inr ⟨fillStruct b ps, by simp [toBase, hsel, h1], fill_repr F b hsk ks os ps h2⟩

/-- **A conversion does not depend on earlier conversions.**  For every series of script objects
    written through the converter of one type: result `k` is the result of converting object `k`
    alone. -/
theorem C08_seq_independent (F : FOps) (m : Mode) (ty : GoTy) (os : List Obj) (k : Nat) :
    (toSlotSeq F m ty os)[k]? = (os[k]?).map (toSlot F m ty) := by
  simp [toSlotSeq]

theorem C08_call_seq_independent (F : FOps) (pt : GoTy) (os : List Obj) (k : Nat) :
    (callSeq F pt os)[k]? = (os[k]?).map (callEcho F pt) := by
  simp [callSeq]

/-- **Partial statement (series).**  For every series of any length in which every object is
    well-formed and within the write guards: every single write of the series is faithful or
    rejected (`specWriteSeq`), whatever was converted before it. -/
theorem C08_partial_seq (F : FOps) (m : Mode) (ty : GoTy) : ∀ (os : List Obj),
    (∀ o ∈ os, wfW o = true ∧ writeAllGuards F m ty o = []) →
    specWriteSeq F ty os (toSlotSeq F m ty os) = true
  | [], _ => rfl
  | o :: r, h => by
    have h0 := h o (by simp)
    have ih := C08_partial_seq F m ty r (fun o' ho' => h o' (by simp [ho']))
    have := C08_partial_write F m ty o h0.1 h0.2
    simp only [toSlotSeq, List.map_cons, specWriteSeq, this, Bool.true_and]
    exact ih

/-! ### the contrast: a scratch struct that is reused -/

theorem overlay_zero (ps : List (Nat × GoVal)) : ∀ (fs : Fields) (j : Nat),
    overlay j (zeroFields fs) ps = place j fs ps
  | .nil, _ => rfl
  | .cons t r, j => by simp [zeroFields, overlay, place, overlay_zero ps r (j + 1)]

/-- the FIRST conversion through a fresh scratch struct is the code's -/
theorem pooled_first_is_fresh (F : FOps) (fs : Fields) (ks : List (List Nat)) (os : Objs) :
    pooledSeq F fs (zeroFields fs) [(ks, os)] = freshSeq F fs [(ks, os)] := by
  cases h : toFieldVals F fs ks os <;> simp [pooledSeq, freshSeq, h, Outcome.map, overlay_zero]

theorem overlay_nth (ps : List (Nat × GoVal)) : ∀ (xs : Vals) (j i : Nat) (x : GoVal),
    xs.nth i = some x → ps.lookup (j + i) = none → (overlay j xs ps).nth i = some x
  | .nil, _, _, _, h, _ => by simp [Vals.nth] at h
  | .cons y r, j, 0, x, h, hl => by
    simp only [Vals.nth, Option.some.injEq] at h
    subst h
    simp only [Nat.add_zero] at hl
    simp [overlay, Vals.nth, hl]
  | .cons y r, j, i + 1, x, h, hl => by
    simp only [Vals.nth] at h
    rw [show j + (i + 1) = j + 1 + i by omega] at hl
    simpa [overlay, Vals.nth] using overlay_nth ps r (j + 1) i x h hl

/-- **what a reused scratch struct does**: after any conversion through it, a field that the
    current map does not name still holds what the scratch struct held before — the value an
    EARLIER conversion wrote -/
theorem pooled_leaks (F : FOps) (fs : Fields) (scratch : Vals) (ks : List (List Nat)) (os : Objs)
    (rest : List (List (List Nat) × Objs)) (xs : Vals) (i : Nat) (x : GoVal)
    (h : (pooledSeq F fs scratch ((ks, os) :: rest))[0]? = some (.ok xs))
    (hx : scratch.nth i = some x) (he : entryFor fs.length i ks os = none) :
    xs.nth i = some x := by
  cases hp : toFieldVals F fs ks os with
  | error => simp [pooledSeq, hp] at h
  | panic => simp [pooledSeq, hp] at h
  | ok ps =>
    simp only [pooledSeq, hp, List.getElem?_cons_zero, Option.some.injEq, Outcome.ok.injEq] at h
    subst h
    exact overlay_nth ps scratch 0 i x hx (by simpa using toFieldVals_unnamed F fs i os ks ps hp he)

/-- `E(p Point)` called with `{F0: 3, F1: "x"}` and then with `{F1: "y"}`: the code passes
    `{0 "y"}` the second time; through a reused scratch struct the method would receive `{3 "y"}` —
    an argument the script never passed -/
theorem pooled_counterexample :
    let fs := Fields.cons (.int .w0) (.cons .str .nil)
    let m1 : List (List Nat) × Objs := ([[70, 48], [70, 49]], .cons (.int 3) (.cons (.str [120]) .nil))
    let m2 : List (List Nat) × Objs := ([[70, 49]], .cons (.str [121]) .nil)
    freshSeq F0 fs [m1, m2] =
      [.ok (.cons (.int 3) (.cons (.str [120]) .nil)), .ok (.cons (.int 0) (.cons (.str [121]) .nil))] ∧
    pooledSeq F0 fs (zeroFields fs) [m1, m2] =
      [.ok (.cons (.int 3) (.cons (.str [120]) .nil)), .ok (.cons (.int 3) (.cons (.str [121]) .nil))] ∧
    reprFields F0 2 0 fs (.cons (.int 0) (.cons (.str [121]) .nil)) m2.1 m2.2 = true ∧
    reprFields F0 2 0 fs (.cons (.int 3) (.cons (.str [121]) .nil)) m2.1 m2.2 = false := by
  decide +kernel

/-- the code's conversion of that second map, as a method argument: `{0 "y"}` -/
theorem C08_struct_arg_from_map :
    callArg F0 (.named 13 (.struct (.cons (.int .w0) (.cons .str .nil))))
      (.map [[70, 49]] (.cons (.str [121]) .nil)) = .ok (.struct (.cons (.int 0) (.cons (.str [121]) .nil))) := by
  decide +kernel

-- non-vacuity: a map for a struct inside a list, within the guards; a nil entry and a struct-typed
-- field are outside them
example : writeAllGuards F0 .get (.slice (.named 13 (.struct (.cons (.int .w0) (.cons .str .nil)))))
    (.list (.cons (.map [[70, 48]] (.cons (.int 5) .nil)) (.cons (.map [[70, 49], [122]] (.cons (.str [97]) (.cons (.int 1) .nil))) .nil))) = [] := by
  decide +kernel
example : toSlot F0 .get (.slice (.named 13 (.struct (.cons (.int .w0) (.cons .str .nil)))))
    (.list (.cons (.map [[70, 48]] (.cons (.int 5) .nil)) (.cons (.map [[70, 49], [122]] (.cons (.str [97]) (.cons (.int 1) .nil))) .nil)))
    = .ok (.seq (.cons (.struct (.cons (.int 5) (.cons (.str []) .nil))) (.cons (.struct (.cons (.int 0) (.cons (.str [97]) .nil))) .nil))) := by
  decide +kernel
example : fieldWriteGuards F0 (.cons (.ptr (.int .w0)) .nil) [[70, 48]] (.cons .nil .nil) ≠ [] := by decide +kernel
example : toBase F0 .get (.struct (.cons (.ptr (.int .w0)) .nil)) (.map [[70, 48]] (.cons .nil .nil)) = .panic := by decide +kernel

end Risor.C08
