/-
C08 — executable model of risor's host/script value boundary
(object/typeconv.go, object/proxy.go, object/go_type.go, object/go_field.go):

* `GoTy` / `GoVal`   a universe of Go types and values (scalars, time.Time, named types, pointers,
                     slices, arrays, string-keyed maps, structs, `interface{}` values)
* `Obj`              the script-side objects the converters produce and accept
* `sel`              which converter `getTypeConverter` / `createTypeConverter` picks
                     (by reflect.Kind first, then by exact type, then by constructor)
* `fromGo` / `toGo`  `TypeConverter.From` / `.To`, with *panic* as an explicit outcome: the
                     unnamed-type assertions, reflect.Append/Set/SetMapIndex on zero Values,
                     array index overflow, assignability of the converted value
* `getAttr`/`setAttr`/`callEcho`   `Proxy.GetAttr`, `Proxy.SetAttr`, `Proxy.call`
* `repr` and the `spec…` functions   the Spec: what the property demands

The model is of the code AS IT IS (defects included; seven of them were repaired in risor since and
the model follows the repaired code — the `preFix…` definitions keep what it did before).  Float conversions are a parameter
(`FOps`); the oracle instantiates them with the hardware operations, the theorems are stated for
every `FOps`.  Nil and empty slices / maps are identified (`seq .nil`, `map [] .nil`).
Core Lean only.
-/
namespace Risor.C08

/-- integer widths; `w0` is the platform `int` / `uint` (64 bit) -/
inductive W | w0 | w8 | w16 | w32 | w64
  deriving DecidableEq, Repr

def W.bits : W → Nat
  | .w0 => 64 | .w8 => 8 | .w16 => 16 | .w32 => 32 | .w64 => 64

mutual
/-- Go types.  `chan` stands for every unsupported kind (chan, func, complex, non-string-keyed
    maps); `iface` is `interface{}`; `time` is `time.Time`; struct fields are exported and are
    identified by position. -/
inductive GoTy
  | bool | int (w : W) | uint (w : W) | f32 | f64 | str | time | iface | chan
  | named (id : Nat) (u : GoTy)
  | ptr (t : GoTy) | slice (t : GoTy) | array (n : Nat) (t : GoTy) | mapStr (t : GoTy)
  | struct (fs : Fields)
  deriving DecidableEq, Repr
inductive Fields
  | nil | cons (t : GoTy) (rest : Fields)
  deriving DecidableEq, Repr
end

mutual
/-- Go values.  `int` carries the mathematical value of any sized (u)int; `float` carries the
    IEEE bit pattern (32 or 64 bit according to the type); `nilv` is a nil pointer or a nil
    interface; `iface d x` is a non-nil interface value of dynamic type `d`. -/
inductive GoVal
  | bool (b : Bool) | int (i : Int) | float (bits : Nat) | str (s : List Nat) | time (t : Int)
  | nilv | ptr (x : GoVal) | seq (xs : Vals) | map (ks : List (List Nat)) (xs : Vals)
  | struct (xs : Vals) | iface (d : GoTy) (x : GoVal)
  deriving DecidableEq, Repr
inductive Vals
  | nil | cons (x : GoVal) (rest : Vals)
  deriving DecidableEq, Repr
end

mutual
/-- script objects.  A proxy holds the Go pointer it wraps: its pointer type and the pointer
    value (`ptr (struct …)` or `nilv`). -/
inductive Obj
  | nil | bool (b : Bool) | int (i : Int) | float (bits : Nat) | byte (n : Nat)
  | str (s : List Nat) | bytes (bs : List Nat) | floats (fs : List Nat) | time (t : Int)
  | list (os : Objs) | map (ks : List (List Nat)) (os : Objs) | proxy (pty : GoTy) (pv : GoVal)
  deriving DecidableEq, Repr
inductive Objs
  | nil | cons (o : Obj) (rest : Objs)
  deriving DecidableEq, Repr
end

inductive Outcome (α : Type) | ok (a : α) | error | panic
  deriving DecidableEq, Repr

def Outcome.bind {α β} (x : Outcome α) (f : α → Outcome β) : Outcome β :=
  match x with
  | .ok a => f a
  | .error => .error
  | .panic => .panic

def Outcome.map {α β} (f : α → β) (x : Outcome α) : Outcome β :=
  match x with
  | .ok a => .ok (f a)
  | .error => .error
  | .panic => .panic

/-- float conversions, a parameter of the semantics -/
structure FOps where
  /-- float32 bits → float64 bits -/
  widen : Nat → Nat
  /-- float64 bits → float32 bits (rounding) -/
  narrow : Nat → Nat
  /-- int64 → float64 bits -/
  ofInt : Int → Nat
  /-- int64 → float32 bits -/
  ofInt32 : Int → Nat
  /-- float64 bits → integer, toward zero -/
  trunc : Nat → Int
  /-- `some i` when the float64 is exactly the integer `i` -/
  exact : Nat → Option Int

/-- which entry point built the converter: `createTypeConverter` (globals, container elements,
    dynamic values) looks at the exact type first, `getTypeConverter` (struct fields, method
    parameters and results) at the kind first.  They differ on `byte` only. -/
inductive Mode | create | get
  deriving DecidableEq, Repr

/-! ### Types -/

/-- strip named layers: the underlying type -/
def under : GoTy → GoTy
  | .named _ u => under u
  | t => t

def isScalarKind (t : GoTy) : Bool :=
  match under t with
  | .bool | .int _ | .uint _ | .f32 | .f64 | .str => true
  | _ => false

/-- reflect.Kind == Struct (time.Time included) -/
def isStructKind (t : GoTy) : Bool :=
  match under t with
  | .struct _ | .time => true
  | _ => false

def isIfaceKind (t : GoTy) : Bool :=
  match under t with
  | .iface => true
  | _ => false

/-- reflect's `hasName`: predeclared scalar types, time.Time and declared types -/
def hasName : GoTy → Bool
  | .bool | .int _ | .uint _ | .f32 | .f64 | .str | .time | .named _ _ => true
  | _ => false

/-- the converter `getTypeConverter` selects -/
inductive Sel
  | scalar | byte | time | bytes | floats | structV | structP
  | pointer (t : GoTy) | slice (t : GoTy) | array (n : Nat) (t : GoTy) | map (t : GoTy)
  | dyn | unsupported
  deriving DecidableEq, Repr

def getSel (ty : GoTy) : Sel :=
  if isScalarKind ty then .scalar
  else if ty = .time then .time
  else if ty = .slice (.uint .w8) then .bytes
  else if ty = .slice .f64 then .floats
  else match under ty with
    | .struct _ | .time => .structV
    | .ptr t => if isStructKind t then .structP else .pointer t
    | .slice t => .slice t
    | .array n t => .array n t
    | .mapStr t => .map t
    | .iface => .dyn
    | _ => .unsupported

def sel (m : Mode) (ty : GoTy) : Sel :=
  if m = .create ∧ ty = .uint .w8 then .byte else getSel ty

mutual
/-- converter construction succeeds (no unsupported kind anywhere, struct fields included) -/
def convOK : GoTy → Bool
  | .chan => false
  | .named _ u => convOK u
  | .ptr t => convOK t
  | .slice t => convOK t
  | .array _ t => convOK t
  | .mapStr t => convOK t
  | .struct fs => fieldsOK fs
  | _ => true
def fieldsOK : Fields → Bool
  | .nil => true
  | .cons t r => convOK t && fieldsOK r
end

def zeroRep : Nat → GoVal → Vals
  | 0, _ => .nil
  | n + 1, x => .cons x (zeroRep n x)

mutual
def zero : GoTy → GoVal
  | .bool => .bool false
  | .int _ => .int 0
  | .uint _ => .int 0
  | .f32 => .float 0
  | .f64 => .float 0
  | .str => .str []
  | .time => .time 0
  | .iface => .nilv
  | .chan => .nilv
  | .named _ u => zero u
  | .ptr _ => .nilv
  | .slice _ => .seq .nil
  | .array n t => .seq (zeroRep n (zero t))
  | .mapStr _ => .map [] .nil
  | .struct fs => .struct (zeroFields fs)
def zeroFields : Fields → Vals
  | .nil => .nil
  | .cons t r => .cons (zero t) (zeroFields r)
end

/-- reflect assignability of a value of dynamic type `d` to a slot of type `t` (identical types;
    any type to `interface{}`; identical underlying types when at most one side has a name) -/
def assignable (t d : GoTy) : Bool :=
  t = d || isIfaceKind t || (!(hasName t && hasName d) && decide (under t = under d))

/-- what is stored: interface slots keep the dynamic type -/
def store (t d : GoTy) (x : GoVal) : GoVal :=
  if isIfaceKind t then .iface d x else x

/-! ### Value helpers -/

def Vals.toList : Vals → List GoVal
  | .nil => []
  | .cons x r => x :: r.toList

def Vals.ofList : List GoVal → Vals
  | [] => .nil
  | x :: r => .cons x (Vals.ofList r)

def Vals.length : Vals → Nat
  | .nil => 0
  | .cons _ r => r.length + 1

def Objs.length : Objs → Nat
  | .nil => 0
  | .cons _ r => r.length + 1

def Vals.nth : Vals → Nat → Option GoVal
  | .nil, _ => none
  | .cons x _, 0 => some x
  | .cons _ r, n + 1 => r.nth n

def Vals.set : Vals → Nat → GoVal → Vals
  | .nil, _, _ => .nil
  | .cons _ r, 0, y => .cons y r
  | .cons x r, n + 1, y => .cons x (r.set n y)

def Fields.nth : Fields → Nat → Option GoTy
  | .nil, _ => none
  | .cons t _, 0 => some t
  | .cons _ r, n + 1 => r.nth n

/-- the numbers carried by a `[]byte` / `[]float64` value -/
def valsNums : Vals → Option (List Nat)
  | .nil => some []
  | .cons (.int i) r => (valsNums r).map (i.toNat :: ·)
  | .cons (.float b) r => (valsNums r).map (b :: ·)
  | .cons _ _ => none

def intVals : List Nat → Vals
  | [] => .nil
  | n :: r => .cons (.int n) (intVals r)

def floatVals : List Nat → Vals
  | [] => .nil
  | n :: r => .cons (.float n) (floatVals r)

/-! ### Struct fields by name

A script names a struct field by its Go name.  In this universe field `i` is called `F<i>`
(`F0`, `F1`, …, `F10`, …): the names `reflect.StructOf` types and the declared struct types of the
correspondence harness use. -/

def Fields.length : Fields → Nat
  | .nil => 0
  | .cons _ r => r.length + 1

/-- the name of field `i`: the bytes of "F" followed by the decimal digits of `i` -/
def fieldKey (i : Nat) : List Nat := 70 :: (Nat.toDigits 10 i).map Char.toNat

/-- `reflect.Value.FieldByName` on a struct with `n` fields: the index of the field called `k` -/
def fieldIdx (n : Nat) (k : List Nat) : Option Nat := (List.range n).find? (fun i => fieldKey i == k)

/-- the entry of a map object that names field `i` of a struct with `n` fields -/
def entryFor (n i : Nat) : List (List Nat) → Objs → Option Obj
  | k :: ks, .cons o r => if fieldIdx n k = some i then some o else entryFor n i ks r
  | _, _ => none

def isMapObj : Obj → Bool
  | .map _ _ => true
  | _ => false

/-- the exported fields of a struct-kind type (time.Time has none) -/
def fieldsOf (t : GoTy) : Fields :=
  match under t with
  | .struct fs => fs
  | _ => .nil

/-- a struct assembled field by field: field `i` takes the value listed for `i`, every other field
    keeps its zero value -/
def place : Nat → Fields → List (Nat × GoVal) → Vals
  | _, .nil, _ => .nil
  | i, .cons ft fs, ps => .cons ((ps.lookup i).getD (zero ft)) (place (i + 1) fs ps)

/-- the value of a struct-kind type `t` assembled from the listed fields (`goType.New()` + `Set`) -/
def fillStruct (t : GoTy) (ps : List (Nat × GoVal)) : GoVal :=
  match under t with
  | .struct fs => .struct (place 0 fs ps)
  | _ => zero t

def two63 : Int := 9223372036854775808
def two64 : Int := 18446744073709551616

/-- `int64(u)` for an unsigned 64-bit value: wraps at 2^63 (only the pre-fix `From` did this) -/
def wrap64 (i : Int) : Int := if i ≥ two63 then i - two64 else i

/-- conversion to an unsigned integer of `n` bits -/
def wrapU (n : Nat) (i : Int) : Int := i % (2 ^ n : Int)

/-- conversion to a signed integer of `n` bits -/
def wrapS (n : Nat) (i : Int) : Int :=
  let r := i % (2 ^ n : Int)
  if r ≥ (2 ^ (n - 1) : Int) then r - (2 ^ n : Int) else r

def inRangeS (n : Nat) (i : Int) : Bool := decide (-(2 ^ (n - 1) : Int) ≤ i ∧ i < (2 ^ (n - 1) : Int))
def inRangeU (n : Nat) (i : Int) : Bool := decide (0 ≤ i ∧ i < (2 ^ n : Int))

/-! ### Go → script : `TypeConverter.From` -/

/-- the kind converters' `From` on a value whose dynamic type is the unnamed type itself.
    An unsigned value ≥ 2⁶³ has no image in the script's int (an int64): `UintConverter.From` /
    `Uint64Converter.From` reject it with an error (repaired: they used to wrap, `preFixScalarFrom`). -/
def scalarFrom (F : FOps) (ty : GoTy) (v : GoVal) : Outcome Obj :=
  match ty, v with
  | .bool, .bool b => .ok (.bool b)
  | .int _, .int i => .ok (.int i)
  | .uint _, .int i => if i ≥ two63 then .error else .ok (.int i)
  | .f32, .float b => .ok (.float (F.widen b))
  | .f64, .float b => .ok (.float b)
  | .str, .str s => .ok (.str s)
  | _, _ => .error

def byteFrom (v : GoVal) : Outcome Obj :=
  match v with
  | .int i => .ok (.byte i.toNat)
  | _ => .error

def timeFrom (v : GoVal) : Outcome Obj :=
  match v with
  | .time t => .ok (.time t)
  | _ => .error

/-- pre-fix `From` of a kind converter (historical): `obj.(int64)` etc. panics unless the dynamic
    type is the unnamed type itself -/
def preFixFromLeafScalar (F : FOps) (ty : GoTy) (v : GoVal) : Outcome Obj :=
  if ty ≠ under ty then .panic else scalarFrom F ty v

/-- scalars, time and struct values: the non-recursive converters -/
def fromLeaf (F : FOps) (m : Mode) (ty : GoTy) (v : GoVal) : Outcome Obj :=
  match sel m ty with
  | .byte => byteFrom v
  | .scalar =>
    -- a declared type of a basic kind (time.Duration, `type MyInt int`) goes through
    -- `namedConverter`: the value is converted to the basic type, then `obj.(int64)` etc. holds
    -- (repaired: the kind converter used to get the declared type and its assertion panicked,
    -- `preFixFromLeafScalar`)
    scalarFrom F (under ty) v
  | .time => timeFrom v
  | .structV => .ok (.proxy (.ptr ty) (.ptr v))   -- NewProxy copies a struct value behind a pointer
  | _ => .error

mutual
def fromGo (F : FOps) (m : Mode) (ty : GoTy) (v : GoVal) : Outcome Obj :=
  if convOK ty = false then .error else
  match v with
  | .ptr x => match sel m ty with
    | .pointer t => fromGo F .create t x
    | .structP => .ok (.proxy ty (.ptr x))
    | _ => .error
  | .nilv => match sel m ty with
    | .pointer _ => .ok .nil
    | .dyn => .ok .nil
    | .structP => .ok (.proxy ty .nilv)
    | _ => .error
  | .seq xs => match sel m ty with
    | .slice t => (fromVals F t xs).map .list
    | .array _ t => (fromVals F t xs).map .list
    | .bytes => match valsNums xs with
      | some ns => .ok (.bytes ns)
      | none => .error
    | .floats => match valsNums xs with
      | some ns => .ok (.floats ns)
      | none => .error
    | _ => .error
  | .map ks xs => match sel m ty with
    | .map t => (fromVals F t xs).map (.map ks)
    | _ => .error
  | .iface d x => match sel m ty with
    | .dyn => fromGo F .create d x
    | _ => .error
  | .struct xs => fromLeaf F m ty (.struct xs)
  | .bool b => fromLeaf F m ty (.bool b)
  | .int i => fromLeaf F m ty (.int i)
  | .float b => fromLeaf F m ty (.float b)
  | .str s => fromLeaf F m ty (.str s)
  | .time t => fromLeaf F m ty (.time t)
def fromVals (F : FOps) (t : GoTy) : Vals → Outcome Objs
  | .nil => .ok .nil
  | .cons x r => match fromGo F .create t x with
    | .ok o => match fromVals F t r with
      | .ok os => .ok (.cons o os)
      | .error => .error
      | .panic => .panic
    | .error => .error
    | .panic => .panic
end

/-! ### script → Go : `TypeConverter.To` -/

/-- result of `To`: `none` is the untyped nil, otherwise dynamic type and value -/
abbrev Dyn := Option (GoTy × GoVal)

mutual
/-- `Object.Interface()` -/
def objIface : Obj → Dyn
  | .nil => none
  | .bool b => some (.bool, .bool b)
  | .int i => some (.int .w64, .int i)
  | .float b => some (.f64, .float b)
  | .byte n => some (.uint .w8, .int n)
  | .str s => some (.str, .str s)
  | .bytes bs => some (.slice (.uint .w8), .seq (intVals bs))
  | .floats fs => some (.slice .f64, .seq (floatVals fs))
  | .time t => some (.time, .time t)
  | .list os => some (.slice .iface, .seq (ifaceElems os))
  | .map ks os => some (.mapStr .iface, .map ks (ifaceElems os))
  | .proxy pty pv => some (pty, pv)
def ifaceElems : Objs → Vals
  | .nil => .nil
  | .cons o r =>
    .cons (match objIface o with
      | none => .nilv
      | some (d, x) => .iface d x) (ifaceElems r)
end

/-- pointer layers handled by `PointerConverter` (pointers to structs are `StructConverter`'s):
    number of layers and the base type.  Declared pointer types are not modelled. -/
def peel : GoTy → Nat × GoTy
  | .ptr t => if isStructKind t then (0, .ptr t) else ((peel t).1 + 1, (peel t).2)
  | t => (0, t)

def ptrN : Nat → GoVal → GoVal
  | 0, x => x
  | n + 1, x => .ptr (ptrN n x)

def ptrTyN : Nat → GoTy → GoTy
  | 0, t => t
  | n + 1, t => .ptr (ptrTyN n t)

/-- `PointerConverter.To`, `k` layers: nil object → untyped nil; otherwise `reflect.New` of the
    dynamic type of the inner result (a nil inner result makes `reflect.New(nil)` panic) -/
def liftPtr (k : Nat) (o : Obj) (r : Outcome Dyn) : Outcome Dyn :=
  if k = 0 then r
  else match o with
    | .nil => .ok none
    | _ => match r with
      | .ok none => .panic
      | .ok (some (d, x)) => .ok (some (ptrTyN k d, ptrN k x))
      | .error => .error
      | .panic => .panic

def baseMode (m : Mode) (k : Nat) : Mode := if k = 0 then m else .create

/-- the kind converters' `To`.  An integer object (`*Int`, `*Byte`) that the target integer type
    cannot represent is rejected with an error (`narrowInt`; repaired: the conversion used to wrap,
    `preFixScalarTo`).  A `*Float` object is still converted with a plain Go conversion
    (truncation toward zero, then wrap-around).  The value has the slot's own type `b`, also when
    that is a declared type (`namedConverter.To` converts to it; repaired, `preFixNamedTo`). -/
def scalarTo (F : FOps) (b : GoTy) (o : Obj) : Outcome Dyn :=
  match under b with
  | .bool => match o with
    | .bool x => .ok (some (b, .bool x))
    | _ => .error
  | .int w => match o with
    | .int i => if inRangeS w.bits i then .ok (some (b, .int i)) else .error
    | .byte n => if inRangeS w.bits n then .ok (some (b, .int n)) else .error
    | .float f => .ok (some (b, .int (wrapS w.bits (F.trunc f))))
    | _ => .error
  | .uint w => match o with
    | .int i => if inRangeU w.bits i then .ok (some (b, .int i)) else .error
    | .byte n => if inRangeU w.bits n then .ok (some (b, .int n)) else .error
    | .float f => .ok (some (b, .int (wrapU w.bits (F.trunc f))))
    | _ => .error
  | .f32 => match o with
    | .int i => .ok (some (b, .float (F.ofInt32 i)))
    | .byte n => .ok (some (b, .float (F.ofInt32 n)))
    | .float f => .ok (some (b, .float (F.narrow f)))
    | _ => .error
  | .f64 => match o with
    | .int i => .ok (some (b, .float (F.ofInt i)))
    | .byte n => .ok (some (b, .float (F.ofInt n)))
    | .float f => .ok (some (b, .float f))
    | _ => .error
  | .str => match o with
    | .str s => .ok (some (b, .str s))
    | .bytes s => .ok (some (b, .str s))
    | _ => .error
  | _ => .error

/-- pre-fix `To` of a kind converter for a declared type (historical): the value it returned had
    the UNNAMED type of the kind, which reflect.Set / Append / Call refuse for a declared slot -/
def preFixNamedTo (F : FOps) (b : GoTy) (o : Obj) : Outcome Dyn := scalarTo F (under b) o

/-- pre-fix `To` of the integer kind converters (historical): plain Go conversions, which wrap -/
def preFixScalarTo (F : FOps) (b : GoTy) (o : Obj) : Outcome Dyn :=
  match under b, o with
  | .int w, .int i => .ok (some (b, .int (wrapS w.bits i)))
  | .int w, .byte n => .ok (some (b, .int (wrapS w.bits n)))
  | .uint w, .int i => .ok (some (b, .int (wrapU w.bits i)))
  | .uint w, .byte n => .ok (some (b, .int (wrapU w.bits n)))
  | _, _ => scalarTo F b o

/-- the non-recursive converters applied to a leaf object -/
def toLeaf (F : FOps) (m : Mode) (b : GoTy) (o : Obj) : Outcome Dyn :=
  match sel m b with
  | .scalar => scalarTo F b o
  | .byte => scalarTo F (.uint .w8) o
  | .time => match o with
    | .time t => .ok (some (.time, .time t))
    | _ => .error          -- strings are parsed as RFC 3339; not modelled (never generated)
  | .bytes => match o with
    | .bytes bs => .ok (some (.slice (.uint .w8), .seq (intVals bs)))
    | .str s => .ok (some (.slice (.uint .w8), .seq (intVals s)))
    | _ => .error
  | .floats => match o with
    | .floats fs => .ok (some (.slice .f64, .seq (floatVals fs)))
    | _ => .error
  | .dyn => .ok (objIface o)
  | _ => .error

/-- `newGoField`: a struct-typed field is handled through a pointer to it -/
def fieldConvTy (ft : GoTy) : GoTy := if isStructKind ft then .ptr ft else ft

/-- `reflect.Append` / `Value.Set` of a converted element into a slot of type `t` -/
def putElem (t : GoTy) (r : Dyn) : Outcome GoVal :=
  match r with
  | none => .panic                    -- reflect.ValueOf(nil) is the zero Value
  | some (d, x) => if assignable t d then .ok (store t d x) else .panic

mutual
/-- `To` of a converter that is not a `PointerConverter` -/
def toBase (F : FOps) (m : Mode) (b : GoTy) (o : Obj) : Outcome Dyn :=
  match o with
  | .list os => match sel m b with
    | .slice t => match toElems F t os with
      | .ok xs => .ok (some (.slice t, .seq xs))
      | .error => .error
      | .panic => .panic
    | .array n t =>
      -- repaired: a list longer than the array is rejected before the loop (it used to run into
      -- reflect's index panic); a shorter list still leaves the remaining elements zero
      if os.length > n then .error else
      match toArr F t n os with
      | .ok xs => .ok (some (.array n t, .seq xs))
      | .error => .error
      | .panic => .panic
    | .dyn => .ok (objIface (.list os))
    | _ => .error
  | .map ks os => match sel m b with
    | .map t => match toMap F t ks os with
      | .ok (ks', xs) => .ok (some (.mapStr t, .map ks' xs))
      | .error => .error
      | .panic => .panic
    | .dyn => .ok (objIface (.map ks os))
    -- `StructConverter.To`, `case *Map`: a NEW struct (`c.goType.New()`), the fields the map names
    -- are set one by one, every other field keeps its zero value; the struct itself is returned for
    -- a struct-typed slot, the pointer to it for a pointer-typed one
    | .structV => match toFieldVals F (fieldsOf b) ks os with
      | .ok ps => .ok (some (b, fillStruct b ps))
      | .error => .error
      | .panic => .panic
    | .structP => match under b with
      | .ptr s => match toFieldVals F (fieldsOf s) ks os with
        | .ok ps => .ok (some (b, .ptr (fillStruct s ps)))
        | .error => .error
        | .panic => .panic
      | _ => .error
    | _ => .error
  | .nil => match sel m b with
    | .slice _ => .ok none
    | .map _ => .ok none
    | .dyn => .ok none
    | _ => .error
  | .proxy pty pv => match sel m b with
    | .structV => match pty, pv with   -- reflect.ValueOf(p.obj).Elem().Interface(): no type check
      | .ptr s, .ptr sv => .ok (some (s, sv))
      | _, _ => .panic
    | .structP => .ok (some (pty, pv))
    | .dyn => .ok (some (pty, pv))
    | _ => .error
  | .bool x => toLeaf F m b (.bool x)
  | .int i => toLeaf F m b (.int i)
  | .float f => toLeaf F m b (.float f)
  | .byte n => toLeaf F m b (.byte n)
  | .str s => toLeaf F m b (.str s)
  | .bytes s => toLeaf F m b (.bytes s)
  | .floats s => toLeaf F m b (.floats s)
  | .time t => toLeaf F m b (.time t)
/-- `SliceConverter.To`'s loop -/
def toElems (F : FOps) (t : GoTy) : Objs → Outcome Vals
  | .nil => .ok .nil
  | .cons o r =>
    match liftPtr (peel t).1 o (toBase F (baseMode .create (peel t).1) (peel t).2 o) with
    | .error => .error
    | .panic => .panic
    | .ok d => match putElem t d with
      | .ok x => match toElems F t r with
        | .ok xs => .ok (.cons x xs)
        | .error => .error
        | .panic => .panic
      | .error => .error
      | .panic => .panic
/-- `ArrayConverter.To`'s loop; `n` is the remaining capacity.  The `panic` branch (reflect: array
    index out of range) is what the loop does on a list longer than the array: since the repair
    `toBase` rejects such a list before the loop (`C08_array_longer_rejected`) -/
def toArr (F : FOps) (t : GoTy) : Nat → Objs → Outcome Vals
  | n, .nil => .ok (zeroRep n (zero t))
  | n, .cons o r =>
    match liftPtr (peel t).1 o (toBase F (baseMode .create (peel t).1) (peel t).2 o) with
    | .error => .error
    | .panic => .panic
    | .ok d => match n with
      | 0 => .panic                   -- reflect: array index out of range
      | n' + 1 => match putElem t d with
        | .ok x => match toArr F t n' r with
          | .ok xs => .ok (.cons x xs)
          | .error => .error
          | .panic => .panic
        | .error => .error
        | .panic => .panic
/-- `MapConverter.To`'s loop: SetMapIndex with the zero Value deletes the key -/
def toMap (F : FOps) (t : GoTy) : List (List Nat) → Objs → Outcome (List (List Nat) × Vals)
  | k :: ks, .cons o r =>
    match liftPtr (peel t).1 o (toBase F (baseMode .create (peel t).1) (peel t).2 o) with
    | .error => .error
    | .panic => .panic
    | .ok none => toMap F t ks r
    | .ok (some (d, x)) =>
      if assignable t d then
        match toMap F t ks r with
        | .ok (ks', xs) => .ok (k :: ks', .cons (store t d x) xs)
        | .error => .error
        | .panic => .panic
      else .panic
  | _, _ => .ok ([], .nil)
/-- `StructConverter.To`'s loop over the entries of a map object: an entry whose key names no
    (exported) field is skipped (`FieldByName(k).CanSet()`); otherwise the field's converter — the
    one `newGoField` made: for `*S` when the field has struct type `S` — converts the value and
    `f.Set(reflect.ValueOf(attrValue))` stores it, without a nil check and without looking at the
    type (`putElem`).  The result lists (field index, value).  Go walks the map in its own order;
    the model walks the keys as listed (sorted): they can differ only in WHICH failure ends the
    conversion when several entries fail. -/
def toFieldVals (F : FOps) (fs : Fields) : List (List Nat) → Objs → Outcome (List (Nat × GoVal))
  | k :: ks, .cons o r =>
    match fieldIdx fs.length k with
    | none => toFieldVals F fs ks r
    | some i => match fs.nth i with
      | none => toFieldVals F fs ks r
      | some ft =>
        match liftPtr (peel (fieldConvTy ft)).1 o
            (toBase F (baseMode .get (peel (fieldConvTy ft)).1) (peel (fieldConvTy ft)).2 o) with
        | .error => .error
        | .panic => .panic
        | .ok d => match putElem ft d with
          | .ok x => match toFieldVals F fs ks r with
            | .ok ps => .ok ((i, x) :: ps)
            | .error => .error
            | .panic => .panic
          | .error => .error
          | .panic => .panic
  | _, _ => .ok []
end

/-- `TypeConverter.To` for the converter of `ty` -/
def toGo (F : FOps) (m : Mode) (ty : GoTy) (o : Obj) : Outcome Dyn :=
  if convOK ty = false then .error
  else liftPtr (peel ty).1 o (toBase F (baseMode m (peel ty).1) (peel ty).2 o)

/-- `field.Set(reflect.ValueOf(result))`, with `result == nil → field.SetZero()` -/
def assignField (t : GoTy) (r : Dyn) : Outcome GoVal :=
  match r with
  | none => .ok (zero t)
  | some (d, x) => if assignable t d then .ok (store t d x) else .panic

/-- convert a script object and store it in a Go slot of type `ty` -/
def toSlot (F : FOps) (m : Mode) (ty : GoTy) (o : Obj) : Outcome GoVal :=
  (toGo F m ty o).bind (assignField ty)

/-! ### Proxies: `GetAttr`, `SetAttr`, method calls -/

def structFields (t : GoTy) : Option Fields :=
  match under t with
  | .struct fs => some fs
  | .time => some .nil
  | _ => none

/-- the type of field `i` of the struct a proxy of type `pty` points to -/
def proxyField (pty : GoTy) (i : Nat) : Option GoTy :=
  match under pty with
  | .ptr s => match structFields s with
    | some fs => fs.nth i
    | none => none
  | _ => none

def getAttrCore (F : FOps) (pty : GoTy) (pv : GoVal) (i : Nat) : Outcome Obj :=
  match proxyField pty i with
  | none => .error
  | some ft => match pv with
    | .ptr (.struct xs) => match xs.nth i with
      | some x => fromGo F .get (fieldConvTy ft) (if isStructKind ft then .ptr x else x)
      | none => .error
    | _ => .panic                    -- nil pointer: FieldByName on the zero Value

def getAttr (F : FOps) (pty : GoTy) (pv : GoVal) (i : Nat) : Outcome Obj :=
  if convOK pty = false then .error else   -- NewProxy fails when any field has no converter
  getAttrCore F pty pv i

/-! #### goTypeRegistry after a failed registration

`newGoType` puts a struct type into `goTypeRegistry` *before* it looks at the fields and leaves it
there when a field has no converter; the next call finds the half-built description and succeeds.
So the first conversion of such a struct is an error and every later one is accepted, with the
fields from the failing one on missing. -/

/-- index of the first field without a converter -/
def firstBad : Fields → Nat
  | .nil => 0
  | .cons t r => if convOK t then firstBad r + 1 else 0

/-- `From` on the second and later attempts -/
def fromGoRetry (F : FOps) (m : Mode) (ty : GoTy) (v : GoVal) : Outcome Obj :=
  if isStructKind ty && !convOK ty then .ok (.proxy (.ptr ty) (.ptr v)) else fromGo F m ty v

/-- `GetAttr` on the proxy such an attempt produced -/
def getAttrRetry (F : FOps) (pty : GoTy) (pv : GoVal) (i : Nat) : Outcome Obj :=
  match under pty with
  | .ptr s => match structFields s with
    | some fs => if i < firstBad fs then getAttrCore F pty pv i else .error
    | none => .error
  | _ => .error

def setAttr (F : FOps) (pty : GoTy) (pv : GoVal) (i : Nat) (o : Obj) : Outcome GoVal :=
  if convOK pty = false then .error else
  match proxyField pty i with
  | none => .error
  | some ft => match toGo F .get (fieldConvTy ft) o with
    | .error => .error
    | .panic => .panic
    | .ok r => match pv with
      | .ptr (.struct xs) => match assignField ft r with
        | .ok x => .ok (.ptr (.struct (xs.set i x)))
        | .error => .error
        | .panic => .panic
      | _ => .panic

/-- `Proxy.call`, one argument for a parameter of type `pt`: the value the Go method receives -/
def callArg (F : FOps) (pt : GoTy) (o : Obj) : Outcome GoVal :=
  if convOK pt = false then .error
  else match o with
    | .nil => .ok (zero pt)          -- reflect.Zero(paramType) for a nil argument, whatever the type
    | _ => match toGo F .get pt o with
      | .ok none => .panic
      | .ok (some (d, x)) => if assignable pt d then .ok (store pt d x) else .panic
      | .error => .error
      | .panic => .panic

/-- `Proxy.call` on `func (h *Host) Echo(x T) T { h.got = x; return x }`: the value the method
    receives and the object the script gets back -/
def callEcho (F : FOps) (pt : GoTy) (o : Obj) : Outcome (GoVal × Obj) :=
  (callArg F pt o).bind fun x => (fromGo F .get pt x).map fun res => (x, res)

/-- a Go value given to a script as a global: `AsObjects` → `NewTypeConverter(reflect.TypeOf(v))`;
    an untyped nil becomes the script's `nil` (repaired: `reflect.TypeOf(nil)` used to be
    dereferenced, `preFixFromGlobal`) -/
def fromGlobal (F : FOps) (g : Option (GoTy × GoVal)) : Outcome Obj :=
  match g with
  | none => .ok .nil
  | some (ty, v) => fromGo F .create ty v

/-- the same through `risor.Eval(…, WithGlobal(name, v))`: `vm.Run` returns the error that
    `applyOptions` reports for a global without a converter (repaired: it used to build the VM
    with `vm.New`, which panics on that error, `preFixEvalGlobal`) -/
def evalGlobal (F : FOps) (g : Option (GoTy × GoVal)) : Outcome Obj := fromGlobal F g

/-! #### the repaired pieces as they were (historical; used only by the `C08_fixed_…` statements) -/

/-- pre-fix `From` of the unsigned kind converters: `int64(v)` wraps at 2⁶³ -/
def preFixScalarFrom (F : FOps) (ty : GoTy) (v : GoVal) : Outcome Obj :=
  match ty, v with
  | .uint _, .int i => .ok (.int (wrap64 i))
  | _, _ => scalarFrom F ty v

/-- pre-fix `AsObjects` on an untyped nil: nil-pointer dereference in `getTypeConverter` -/
def preFixFromGlobal (F : FOps) (g : Option (GoTy × GoVal)) : Outcome Obj :=
  match g with
  | none => .panic
  | some (ty, v) => fromGo F .create ty v

/-- pre-fix `vm.Run`: `vm.New` panicked on the error of `applyOptions` -/
def preFixEvalGlobal (F : FOps) (g : Option (GoTy × GoVal)) : Outcome Obj :=
  match preFixFromGlobal F g with
  | .error => .panic
  | r => r

/-! ### Spec -/

def numIs (F : FOps) (i : Int) (o : Obj) : Bool :=
  match o with
  | .int j => i == j
  | .byte n => i == (n : Int)
  | .float b => F.exact b == some i
  | _ => false

def f64Is (F : FOps) (bits : Nat) (o : Obj) : Bool :=
  match o with
  | .float b => b == bits
  | .int i => F.ofInt i == bits && F.exact bits == some i
  | .byte n => F.ofInt n == bits && F.exact bits == some (n : Int)
  | _ => false

def f32Is (F : FOps) (bits : Nat) (o : Obj) : Bool :=
  match o with
  | .float b => F.widen bits == b
  | .int i => F.ofInt32 i == bits && F.exact (F.widen bits) == some i
  | .byte n => F.ofInt32 n == bits && F.exact (F.widen bits) == some (n : Int)
  | _ => false

mutual
/-- **contents equal**: the script object `o` represents the Go value `v` of type `ty`
    (numbers by exact numeric value, strings and byte slices by their bytes, nil by nil,
    containers element-wise, structs by a proxy of exactly that struct) -/
def repr (F : FOps) (ty : GoTy) (v : GoVal) (o : Obj) : Bool :=
  match v with
  | .bool b => decide (under ty = .bool) && decide (o = .bool b)
  | .int i => match under ty with
    | .int _ => numIs F i o
    | .uint _ => numIs F i o
    | _ => false
  | .float bits => match under ty with
    | .f64 => f64Is F bits o
    | .f32 => f32Is F bits o
    | _ => false
  | .str s => decide (under ty = .str) && (decide (o = .str s) || decide (o = .bytes s))
  | .time t => (if ty = .time then decide (o = .time t)
                else isStructKind ty && decide (o = .proxy (.ptr ty) (.ptr (.time t))))
               -- a map names none of time.Time's (unexported) fields: the zero time
               || (isStructKind ty && isMapObj o && decide (t = 0))
  | .nilv => match under ty with
    | .ptr t => if isStructKind t then decide (o = .proxy ty .nilv) else decide (o = .nil)
    | .iface => decide (o = .nil)
    | _ => false
  | .ptr x => match under ty with
    | .ptr t => if isStructKind t then decide (o = .proxy ty (.ptr x)) || (isMapObj o && repr F t x o)
                else decide (o ≠ .nil) && repr F t x o
    | _ => false
  | .seq xs => match under ty with
    | .slice t => match o with
      | .list os => reprs F t xs os
      | .bytes bs => decide (t = .uint .w8) && decide (valsNums xs = some bs)
      | .str bs => decide (t = .uint .w8) && decide (valsNums xs = some bs)
      | .floats fs => decide (t = .f64) && decide (valsNums xs = some fs)
      | .nil => decide (xs = .nil)
      | _ => false
    | .array _ t => match o with
      | .list os => reprs F t xs os
      | _ => false
    | _ => false
  | .map ks xs => match under ty with
    | .mapStr t => match o with
      | .map ks' os => decide (ks = ks') && reprs F t xs os
      | .nil => decide (ks = [])
      | _ => false
    | _ => false
  | .struct xs => isStructKind ty && (decide (o = .proxy (.ptr ty) (.ptr (.struct xs))) ||
      -- a map object given where Go wants the struct: see `reprFields`
      (match o, under ty with
        | .map ks os, .struct fs => reprFields F fs.length 0 fs xs ks os
        | _, _ => false))
  | .iface d x => isIfaceKind ty && decide (o ≠ .nil) && repr F d x o
def reprs (F : FOps) (t : GoTy) : Vals → Objs → Bool
  | .nil, .nil => true
  | .cons x r, .cons o os => repr F t x o && reprs F t r os
  | _, _ => false
/-- a map object represents a struct of `n` fields (here: fields `i`, `i+1`, …): every field the
    map names holds a value representing the map's entry of that name, and EVERY OTHER FIELD IS
    ZERO — the script passed nothing for it.  (Keys that name no field are not looked at.) -/
def reprFields (F : FOps) (n : Nat) : Nat → Fields → Vals → List (List Nat) → Objs → Bool
  | i, .cons ft fs, .cons x xs, ks, os =>
    (match entryFor n i ks os with
      | some o => repr F ft x o
      | none => decide (x = zero ft)) && reprFields F n (i + 1) fs xs ks os
  | _, .nil, .nil, _, _ => true
  | _, _, _, _, _ => false
end

/-- the type mentions `interface{}` outside struct fields -/
def mentionsIface : GoTy → Bool
  | .iface => true
  | .named _ u => mentionsIface u
  | .ptr t => mentionsIface t
  | .slice t => mentionsIface t
  | .array _ t => mentionsIface t
  | .mapStr t => mentionsIface t
  | _ => false

/-- Spec of one crossing, evaluated on given results: `o` is what the script got for `v`,
    `back` what Go got when `o` was handed back into a slot of type `ty` -/
def specRoundTrip (F : FOps) (ty : GoTy) (v : GoVal) (res : Outcome (Obj × Outcome GoVal)) : Bool :=
  match res with
  | .panic => false
  | .error => true
  | .ok (o, back) => repr F ty v o && (match back with
    | .ok v' => repr F ty v' o && (mentionsIface ty || decide (v' = v))
    | _ => false)

/-- the Impl's round trip: `From`, then `To` and the assignment into a slot of the same type -/
def implRoundTrip (F : FOps) (m : Mode) (ty : GoTy) (v : GoVal) : Outcome (Obj × Outcome GoVal) :=
  (fromGo F m ty v).map fun o => (o, toSlot F m ty o)

/-- Spec of a write into a Go slot: never a panic; when accepted, Go holds exactly what the
    script passed -/
def specWrite (F : FOps) (ty : GoTy) (o : Obj) (res : Outcome GoVal) : Bool :=
  match res with
  | .panic => false
  | .error => true
  | .ok v => repr F ty v o

/-- Spec of a read from a Go slot -/
def specRead (F : FOps) (ty : GoTy) (v : GoVal) (res : Outcome Obj) : Bool :=
  match res with
  | .panic => false
  | .error => true
  | .ok o => repr F ty v o

/-! ### Well-typed values, and the guards naming what the unchanged code gets wrong -/

def distinct : List (List Nat) → Bool
  | [] => true
  | k :: ks => !ks.contains k && distinct ks

mutual
def hasTy (ty : GoTy) (v : GoVal) : Bool :=
  match v with
  | .bool _ => decide (under ty = .bool)
  | .int i => match under ty with
    | .int w => inRangeS w.bits i
    | .uint w => inRangeU w.bits i
    | _ => false
  | .float b => match under ty with
    | .f32 => decide (b < 2 ^ 32)
    | .f64 => decide (b < 2 ^ 64)
    | _ => false
  | .str _ => decide (under ty = .str)
  | .time _ => decide (under ty = .time)
  | .nilv => match under ty with
    | .ptr _ => true
    | .iface => true
    | .chan => true
    | _ => false
  | .ptr x => match under ty with
    | .ptr t => hasTy t x
    | _ => false
  | .seq xs => match under ty with
    | .slice t => hasTys t xs
    | .array n t => hasTys t xs && decide (xs.length = n)
    | _ => false
  | .map ks xs => match under ty with
    | .mapStr t => hasTys t xs && decide (ks.length = xs.length) && distinct ks
    | _ => false
  | .struct xs => match under ty with
    | .struct fs => hasFields fs xs
    | _ => false
  | .iface d x => isIfaceKind ty && !isIfaceKind d && hasTy d x
def hasTys (t : GoTy) : Vals → Bool
  | .nil => true
  | .cons x r => hasTy t x && hasTys t r
def hasFields : Fields → Vals → Bool
  | .nil, .nil => true
  | .cons t fs, .cons x r => hasTy t x && hasFields fs r
  | _, _ => false
end

/-- the recorded findings.  Repaired since (and therefore no longer a guard of any theorem):
    unsigned values ≥ 2⁶³ wrapping negative, the untyped nil global, the panic of `risor.Eval` on a
    global without a converter, surplus method arguments, integers that do not fit the target
    integer type (what is left of `narrowing` are the float conversions), lists longer than the
    array (what is left of `arrayLen` are the shorter lists), declared types of a basic kind (what
    is left of `namedType` are the declared container types). -/
inductive Finding
  | namedType | nilElem | nilCollapse | narrowing | arrayLen | structField
  | nilArg | proxyType | ptrIface | registry
  deriving DecidableEq, Repr

def Finding.id : Finding → String
  | .namedType => "C08-declared-container-type"
  | .nilElem => "C08-nil-element-panic-or-drop"
  | .nilCollapse => "C08-nil-pointer-collapse"
  | .narrowing => "C08-lossy-float-conversion"
  | .arrayLen => "C08-array-short-list-padded"
  | .structField => "C08-struct-field-set-panics"
  | .nilArg => "C08-nil-argument-zero-value"
  | .proxyType => "C08-proxy-type-unchecked"
  | .ptrIface => "C08-pointer-to-interface-panics"
  | .registry => "C08-registry-keeps-failed-type"

/-- a declared type whose underlying type is neither a struct nor a basic type occurs (outside
    struct fields): a declared slice / array / map / pointer / interface type.  (Declared types of a
    basic kind — time.Duration, `type MyInt int` — were part of this guard until `namedConverter`
    repaired them.) -/
def namedBad : GoTy → Bool
  | .named _ u => (!isStructKind u && !isScalarKind u) || namedBad u
  | .ptr t => namedBad t
  | .slice t => namedBad t
  | .array _ t => namedBad t
  | .mapStr t => namedBad t
  | _ => false

/-- a pointer to an interface type occurs (outside struct fields): `PointerConverter.To` allocates
    a pointer to the *dynamic* type of the converted value, which is never `*interface{}` -/
def ptrIfaceBad : GoTy → Bool
  | .named _ u => ptrIfaceBad u
  | .ptr t => isIfaceKind t || ptrIfaceBad t
  | .slice t => ptrIfaceBad t
  | .array _ t => ptrIfaceBad t
  | .mapStr t => ptrIfaceBad t
  | _ => false

/-- type-level defects -/
def tyGuards (ty : GoTy) : List Finding :=
  (if namedBad ty then [.namedType] else []) ++ (if ptrIfaceBad ty then [.ptrIface] else [])

/-- `From` of a nil of this type gives the script's `nil`, and `To` of `nil` the untyped nil -/
def nilable (t : GoTy) : Bool :=
  match sel .create t with
  | .pointer _ => true
  | .dyn => true
  | _ => false

/-- `To(nil)` is the untyped nil (which reflect.Append / Set / SetMapIndex mishandle) -/
def nilTo (t : GoTy) : Bool :=
  match sel .create t with
  | .pointer _ => true
  | .dyn => true
  | .slice _ => true
  | .map _ => true
  | _ => false

def isNil (v : GoVal) : Bool := decide (v = .nilv)

mutual
/-- defects a Go → script → Go crossing of `v : ty` runs into (value part) -/
def valGuards (m : Mode) (ty : GoTy) (v : GoVal) : List Finding :=
  match v with
  | .ptr x => match sel m ty with
    | .pointer t => (if isNil x && nilable t then [.nilCollapse] else []) ++ valGuards .create t x
    | _ => []
  | .seq xs => match sel m ty with
    | .slice t => elemGuards t xs
    | .array _ t => elemGuards t xs
    | _ => []
  | .map _ xs => match sel m ty with
    | .map t => elemGuards t xs
    | _ => []
  | .iface d x =>
    tyGuards d
      ++ (if isNil x && nilable d then [.nilCollapse] else [])
      ++ valGuards .create d x
  | _ => []
def elemGuards (t : GoTy) : Vals → List Finding
  | .nil => []
  | .cons x r => (if isNil x && nilable t then [.nilElem] else []) ++ valGuards .create t x ++ elemGuards t r
end

/-- all defects of a crossing: the type part and the value part -/
def crossGuards (m : Mode) (ty : GoTy) (v : GoVal) : List Finding :=
  tyGuards ty ++ valGuards m ty v

/-- the decidable guard of the round-trip theorem -/
def clean (m : Mode) (ty : GoTy) (v : GoVal) : Bool := (crossGuards m ty v).isEmpty

/-- proxies wrap pointers to structs -/
def proxyWf (pty : GoTy) (pv : GoVal) : Bool :=
  match under pty with
  | .ptr s => isStructKind s && (match pv with
    | .nilv => true
    | .ptr _ => true
    | _ => false)
  | _ => false

mutual
/-- every proxy inside the object wraps a pointer to a struct -/
def wfObj : Obj → Bool
  | .proxy pty pv => proxyWf pty pv
  | .list os => wfObjs os
  | .map _ os => wfObjs os
  | _ => true
def wfObjs : Objs → Bool
  | .nil => true
  | .cons o r => wfObj o && wfObjs r
end

mutual
/-- script objects as they exist at run time: proxies wrap (possibly nil) pointers to struct or
    time.Time values, maps have one value per key -/
def wfW : Obj → Bool
  | .proxy pty pv => proxyWf pty pv && (match pv with
    | .nilv => true
    | .ptr (.struct _) => true
    | .ptr (.time _) => true
    | _ => false)
  | .list os => wfWs os
  | .map ks os => decide (ks.length = os.length) && wfWs os
  | _ => true
def wfWs : Objs → Bool
  | .nil => true
  | .cons o r => wfW o && wfWs r
end

mutual
/-- defects a script → Go conversion of `o` into a slot of type `ty` runs into -/
def writeGuards (F : FOps) (m : Mode) (ty : GoTy) (o : Obj) : List Finding :=
  match o with
  | .list os => match sel (baseMode m (peel ty).1) (peel ty).2 with
    | .slice t => elemWriteGuards F t os
    | .array n t => (if os.length < n then [.arrayLen] else []) ++ elemWriteGuards F t os
    | _ => []
  | .map ks os => match sel (baseMode m (peel ty).1) (peel ty).2 with
    | .map t => elemWriteGuards F t os
    | .structV => fieldWriteGuards F (fieldsOf (peel ty).2) ks os
    | .structP => match under (peel ty).2 with
      | .ptr s => fieldWriteGuards F (fieldsOf s) ks os
      | _ => []
    | _ => []
  | .proxy pty pv => match sel (baseMode m (peel ty).1) (peel ty).2 with
    | .structV => if pty = .ptr (peel ty).2 ∧ pv ≠ .nilv then [] else [.proxyType]
    | .structP => if pty = (peel ty).2 then [] else [.proxyType]
    | _ => []
  | .nil => []
  | o => match toLeaf F (baseMode m (peel ty).1) (peel ty).2 o with
    | .ok (some (d, x)) => if repr F d x o then [] else [.narrowing]
    | _ => []
def elemWriteGuards (F : FOps) (t : GoTy) : Objs → List Finding
  | .nil => []
  | .cons o r => (if decide (o = .nil) && nilTo t then [.nilElem] else [])
      ++ writeGuards F .create t o ++ elemWriteGuards F t r
/-- a map object given for a struct: per entry that names a field, the defects of writing that
    field (`setGuards` below: a struct-typed field cannot be set, plus the write guards of the
    value) and a `nil` value (stored through `reflect.ValueOf(nil)`, like a nil container element) -/
def fieldWriteGuards (F : FOps) (fs : Fields) : List (List Nat) → Objs → List Finding
  | k :: ks, .cons o r =>
    (match fieldIdx fs.length k with
      | some i => match fs.nth i with
        | some ft => (if decide (o = .nil) then [.nilElem] else [])
            ++ (if isStructKind ft then [.structField] else [])
            ++ tyGuards (fieldConvTy ft) ++ writeGuards F .get (fieldConvTy ft) o
        | none => []
      | none => []) ++ fieldWriteGuards F fs ks r
  | _, _ => []
end

def writeAllGuards (F : FOps) (m : Mode) (ty : GoTy) (o : Obj) : List Finding :=
  tyGuards ty ++ writeGuards F m ty o

def setGuards (F : FOps) (ft : GoTy) (o : Obj) : List Finding :=
  (if isStructKind ft then [.structField] else []) ++ writeAllGuards F .get (fieldConvTy ft) o

def callGuards (F : FOps) (pt : GoTy) (o : Obj) : List Finding :=
  (if decide (o = .nil) && !nilTo pt then [.nilArg] else []) ++ writeAllGuards F .get pt o

/-! ### `Proxy.call` with several parameters: the whole argument loop

`Proxy.call` walks the parameters with a separate index into the script's arguments.  The
conversion phase (`To`, or `reflect.Zero` for a nil argument) runs position by position and stops
at the first error or panic; then too few arguments are rejected ("args error"), and so are too
many (repaired: arguments beyond the last parameter used to be dropped, `preFixCallArgs`); then
`Func.Call` panics on an invalid or wrongly typed input. -/

/-- conversion phase for one argument: what is appended to `inputs`; `none` is an input on
    which `Func.Call` will panic (`reflect.ValueOf(nil)`, or a value of a non-assignable type) -/
def convArg (F : FOps) (pt : GoTy) (o : Obj) : Outcome (Option GoVal) :=
  if convOK pt = false then .error
  else match o with
    | .nil => .ok (some (zero pt))
    | _ => match toGo F .get pt o with
      | .ok none => .ok none
      | .ok (some (d, x)) => if assignable pt d then .ok (some (store pt d x)) else .ok none
      | .error => .error
      | .panic => .panic

/-- the argument loop: parameter `i` takes argument `i`; it ends with the parameters or with the
    arguments, whichever ends first -/
def convArgs (F : FOps) : Fields → Objs → Outcome (List (Option GoVal))
  | .nil, _ => .ok []
  | .cons _ _, .nil => .ok []
  | .cons pt pts, .cons o os => (convArg F pt o).bind fun x => (convArgs F pts os).map (x :: ·)

def allSome : List (Option GoVal) → Option Vals
  | [] => some .nil
  | none :: _ => none
  | some x :: r => (allSome r).map (Vals.cons x)

/-- `Proxy.call`: the values the Go method receives, one per parameter -/
def callArgs (F : FOps) (pts : Fields) (os : Objs) : Outcome Vals :=
  (convArgs F pts os).bind fun xs =>
    if xs.length < pts.length then .error          -- "requires %d arguments, but %d were given"
    else if pts.length < os.length then .error     -- "takes %d arguments, but %d were given"
    else match allSome xs with
      | some vs => .ok vs
      | none => .panic

/-- pre-fix `Proxy.call` (historical): `len(args)` was never compared with the number of parameters
    from above -/
def preFixCallArgs (F : FOps) (pts : Fields) (os : Objs) : Outcome Vals :=
  (convArgs F pts os).bind fun xs =>
    if xs.length < pts.length then .error
    else match allSome xs with
      | some vs => .ok vs
      | none => .panic

/-- the outputs of the call, converted in order (two or more outputs become a list) -/
def retObjs (F : FOps) : Fields → Vals → Outcome Objs
  | .cons t ts, .cons x xs => (fromGo F .get t x).bind fun o => (retObjs F ts xs).map (Objs.cons o)
  | _, _ => .ok .nil

/-- `Proxy.call` on `func (h *Host) M(a A, b B, …) (A, B, …) { h.got = {a, b, …}; return a, b, … }` -/
def callEchoN (F : FOps) (pts : Fields) (os : Objs) : Outcome (Vals × Objs) :=
  (callArgs F pts os).bind fun xs => (retObjs F pts xs).map fun rs => (xs, rs)

/-- position by position: parameter `i` holds a value representing object `i`; the counts agree -/
def reprArgs (F : FOps) : Fields → Vals → Objs → Bool
  | .nil, .nil, .nil => true
  | .cons t ts, .cons x xs, .cons o os => repr F t x o && reprArgs F ts xs os
  | _, _, _ => false

/-- Spec of the argument list: never a panic; when the call is made, the method receives exactly
    the arguments the script passed — each one, in its own position, none missing, none dropped -/
def specArgs (F : FOps) (pts : Fields) (os : Objs) (res : Outcome Vals) : Bool :=
  match res with
  | .panic => false
  | .error => true
  | .ok xs => reprArgs F pts xs os

def callNGuards (F : FOps) : Fields → Objs → List Finding
  | .nil, .nil => []
  | .nil, .cons _ _ => []
  | .cons _ _, .nil => []
  | .cons pt pts, .cons o os => callGuards F pt o ++ callNGuards F pts os

/-! ### A reused VM: globals supplied again (`vm.NewEmpty` + `RunCode(opts…)`, `risor.WithVM`)

`WithGlobals` stores the Go values in `vm.inputGlobals` (a later value for the same name replaces
the earlier one) and `applyOptions` converts ALL of them again on every run.  So a run sees, for
every name, the value supplied last; and a global that has no converter keeps every later run
from starting until it is replaced. -/

/-- a binding in `vm.inputGlobals`: name, Go type, Go value -/
abbrev Binding := Nat × GoTy × GoVal

/-- `vm.inputGlobals` after the supplies `hist` (LATEST FIRST): one binding per name, the latest -/
def held : List Binding → List Binding
  | [] => []
  | b :: r => b :: (held r).filter (fun x => x.1 != b.1)

/-- `object.AsObjects(vm.inputGlobals)` -/
def convertAll (F : FOps) : List Binding → Outcome (List (Nat × Obj))
  | [] => .ok []
  | (n, ty, v) :: r => (fromGo F .create ty v).bind fun o => (convertAll F r).map ((n, o) :: ·)

def lookupObj (n : Nat) : List (Nat × Obj) → Option Obj
  | [] => none
  | (m, o) :: r => if m == n then some o else lookupObj n r

/-- the value last supplied under name `n` (history latest first) -/
def lastSupplied (n : Nat) (hist : List Binding) : Option (GoTy × GoVal) :=
  (hist.find? (fun b => b.1 == n)).map (·.2)

/-- a run on a reused VM after the supplies `hist` (latest first) reads global `n`; the VM was
    made by `vm.NewEmpty`, so an unconvertible global is an error of `RunCode`, not a panic -/
def reuseRead (F : FOps) (hist : List Binding) (n : Nat) : Outcome Obj :=
  (convertAll F (held hist)).bind fun gs =>
    match lookupObj n gs with
    | some o => .ok o
    | none => .error                 -- undefined variable

/-- Spec: the run sees the value supplied last under that name (or is rejected) -/
def specReuse (F : FOps) (hist : List Binding) (n : Nat) (res : Outcome Obj) : Bool :=
  match lastSupplied n hist with
  | some (ty, v) => specRead F ty v res
  | none => decide (res = .error)

def heldGuards : List Binding → List Finding
  | [] => []
  | (_, ty, v) :: r => crossGuards .create ty v ++ heldGuards r

/-! ### Go → script alone (a global, a field read, a method result)

The read direction has ONE recorded defect: a non-nil pointer to a nil pointer / nil interface is
shown as `nil` (`nilCollapse`).  Declared container types (`type Labels []string`), pointers to
interfaces, nil elements — all of which the way BACK mishandles — read faithfully. -/

def readClean (m : Mode) (ty : GoTy) (v : GoVal) : Bool := !(valGuards m ty v).contains .nilCollapse

def readGuards (m : Mode) (ty : GoTy) (v : GoVal) : List Finding :=
  if readClean m ty v then [] else [.nilCollapse]

/-! ### One converter, many conversions

Converters are process-wide: `typeConverters` / `GoType.converter` keep ONE converter per Go type,
and every conversion of that type — by any VM, any `Eval` call, any element of one list — goes
through it.  The code keeps no state in a converter (`converter_state_tie`): `StructConverter.To`
builds the struct it returns from `goType.New()` every time.  So a series of conversions is the
series of the single conversions, each independent of what was converted before. -/

/-- a series of script objects written, one after the other, into slots of type `ty` -/
def toSlotSeq (F : FOps) (m : Mode) (ty : GoTy) (os : List Obj) : List (Outcome GoVal) :=
  os.map (toSlot F m ty)

/-- a series of calls of one Go method `func (h *Host) E(x T) T` -/
def callSeq (F : FOps) (pt : GoTy) (os : List Obj) : List (Outcome (GoVal × Obj)) :=
  os.map (callEcho F pt)

/-- Spec of a series of writes: every single one is faithful or rejected — whatever came before -/
def specWriteSeq (F : FOps) (ty : GoTy) : List Obj → List (Outcome GoVal) → Bool
  | [], [] => true
  | o :: os, r :: rs => specWrite F ty o r && specWriteSeq F ty os rs
  | _, _ => false

/-! #### CONTRAST (not the code): a struct converter that reuses a scratch struct

What `StructConverter.To` would do if it took the struct it fills from a pool and put it back
without resetting it: the fields the current map names are overwritten, every other field keeps
what an EARLIER conversion left there.  Refuted in Props (`pooled_leaks`, `pooled_counterexample`); never compared
with the code. -/

/-- fields listed in `ps` are overwritten, the others keep what `xs` holds -/
def overlay : Nat → Vals → List (Nat × GoVal) → Vals
  | _, .nil, _ => .nil
  | i, .cons x xs, ps => .cons ((ps.lookup i).getD x) (overlay (i + 1) xs ps)

/-- a series of map → struct conversions through ONE scratch struct (`scratch`: what it holds) -/
def pooledSeq (F : FOps) (fs : Fields) : Vals → List (List (List Nat) × Objs) → List (Outcome Vals)
  | _, [] => []
  | scratch, (ks, os) :: rest => match toFieldVals F fs ks os with
    | .ok ps => .ok (overlay 0 scratch ps) :: pooledSeq F fs (overlay 0 scratch ps) rest
    | .error => .error :: pooledSeq F fs scratch rest
    | .panic => .panic :: pooledSeq F fs scratch rest

/-- the same series through the converter as it is: a new struct every time -/
def freshSeq (F : FOps) (fs : Fields) : List (List (List Nat) × Objs) → List (Outcome Vals)
  | [] => []
  | (ks, os) :: rest => (toFieldVals F fs ks os).map (place 0 fs) :: freshSeq F fs rest

end Risor.C08
