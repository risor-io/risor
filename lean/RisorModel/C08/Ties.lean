import RisorModel.C08.Model
import RisorModel.Generated.C08
/-!
C08 ties: the converter registries regenerated from `object/typeconv.go` on this run equal the
tables frozen here, and the frozen tables are what the model's `sel`, `fromLeaf` (the unnamed-type
assertion) and `scalarTo` / `toLeaf` (accepted object types) implement.  The sites of the seven
repairs (range checks in `From` / `To`, the length check of `ArrayConverter.To`, the nil case of
`AsObjects`, the surplus check of `Proxy.call`, `vm.Run`'s `createVM`, the `namedConverter` of declared types) are regenerated and tied too,
and so is what a converter can keep between two conversions (the types of the fields of every
converter struct; where `StructConverter.To` takes the struct it fills for a map object from).
-/
namespace Risor.C08
open Risor.Generated.C08

def kindTable : List (String × String) :=
  [("Bool", "BoolConverter"), ("Int", "IntConverter"), ("Int8", "Int8Converter"),
   ("Int16", "Int16Converter"), ("Int32", "Int32Converter"), ("Int64", "Int64Converter"),
   ("Uint", "UintConverter"), ("Uint8", "Uint8Converter"), ("Uint16", "Uint16Converter"),
   ("Uint32", "Uint32Converter"), ("Uint64", "Uint64Converter"), ("Float32", "Float32Converter"),
   ("Float64", "Float64Converter"), ("String", "StringConverter")]

def typeTable : List (String × String) :=
  [("byte(0)", "ByteConverter"), ("time.Time{}", "TimeConverter"),
   ("bytes.NewBuffer(nil)", "BufferConverter"), ("[]byte{}", "ByteSliceConverter"),
   ("[]float64{}", "FloatSliceConverter")]

/-- the Go type each kind converter's `From` asserts: the *unnamed* type of its kind (a value of a
    declared type reaches it converted to that type by `namedConverter`, see `declared_type_tie`) -/
def assertTable : List (String × String) :=
  [("BoolConverter", "bool"), ("IntConverter", "int"), ("Int8Converter", "int8"),
   ("Int16Converter", "int16"), ("Int32Converter", "int32"), ("Int64Converter", "int64"),
   ("UintConverter", "uint"), ("Uint8Converter", "uint8"), ("Uint16Converter", "uint16"),
   ("Uint32Converter", "uint32"), ("Uint64Converter", "uint64"), ("Float32Converter", "float32"),
   ("Float64Converter", "float64"), ("StringConverter", "string"), ("ByteConverter", "byte"),
   ("TimeConverter", "time.Time"), ("ByteSliceConverter", "[]byte"), ("FloatSliceConverter", "[]float64"),
   ("SliceConverter", "-"), ("ArrayConverter", "-"), ("MapConverter", "-"), ("PointerConverter", "-"),
   ("StructConverter", "-"), ("DynamicConverter", "-")]

/-- the object types each converter's `To` accepts -/
def acceptTable : List (String × String) :=
  [("BoolConverter", "Bool"), ("IntConverter", "Byte Int Float"), ("Int8Converter", "Byte Int Float"),
   ("Int16Converter", "Byte Int Float"), ("Int32Converter", "Byte Int Float"),
   ("Int64Converter", "Byte Int Float"), ("UintConverter", "Byte Int Float"),
   ("Uint8Converter", "Byte Int Float"), ("Uint16Converter", "Byte Int Float"),
   ("Uint32Converter", "Byte Int Float"), ("Uint64Converter", "Byte Int Float"),
   ("Float32Converter", "Byte Int Float"), ("Float64Converter", "Byte Int Float"),
   ("StringConverter", "ByteSlice Buffer String"), ("ByteConverter", "Byte Int Float"),
   ("TimeConverter", "Time String"), ("ByteSliceConverter", "ByteSlice Buffer String"),
   ("FloatSliceConverter", "FloatSlice"), ("SliceConverter", "List"), ("ArrayConverter", "List"),
   ("MapConverter", "Map"), ("StructConverter", "Proxy Map"), ("PointerConverter", ""),
   ("DynamicConverter", "")]

/-! ### regenerated = frozen -/

theorem kind_table_tie : kindConverters = kindTable := rfl
theorem type_table_tie : typeConverters = typeTable := rfl
theorem lookup_order_tie :
    lookupOrder = ["kindConverters[kind]", "basicTypes[kind]", "typeConverters[typ]", "switch kind"] := rfl
theorem assert_table_tie : ∀ p ∈ assertTable, fromAsserts.lookup p.1 = some p.2 := by decide +kernel
theorem accept_table_tie : ∀ p ∈ acceptTable, toAccepts.lookup p.1 = some p.2 := by decide +kernel

/-! ### frozen = model -/

/-- one model type per reflect.Kind the property's universe reaches -/
def kindTypes : List (String × GoTy) :=
  [("Bool", .bool), ("Int", .int .w0), ("Int8", .int .w8), ("Int16", .int .w16), ("Int32", .int .w32),
   ("Int64", .int .w64), ("Uint", .uint .w0), ("Uint8", .uint .w8), ("Uint16", .uint .w16),
   ("Uint32", .uint .w32), ("Uint64", .uint .w64), ("Float32", .f32), ("Float64", .f64),
   ("String", .str), ("Struct", .struct .nil), ("Pointer", .ptr .bool), ("Slice", .slice .bool),
   ("Array", .array 1 .bool), ("Map", .mapStr .bool), ("Interface", .iface), ("Chan", .chan)]

/-- A kind has an entry in `kindConverters` exactly when the model treats
    it as a scalar kind (converter chosen by kind alone, whatever the declared name) — also for a
    declared type of that kind. -/
theorem conv_table_matches : ∀ p ∈ kindTypes,
    (kindTable.lookup p.1).isSome = isScalarKind p.2 ∧
    isScalarKind (.named 1 p.2) = isScalarKind p.2 := by decide +kernel

def selName : Sel → String
  | .byte => "ByteConverter" | .time => "TimeConverter" | .bytes => "ByteSliceConverter"
  | .floats => "FloatSliceConverter" | .scalar => "kind" | _ => "switch"

/-- the exact-type entries of `typeConverters` and what `createTypeConverter` / `getTypeConverter`
    select for them in the model (`*bytes.Buffer` is outside the model's universe): the type table
    wins over the kind table only in `createTypeConverter` (byte), `getTypeConverter` asks the kind
    table first -/
theorem type_table_matches :
    typeTable.lookup "byte(0)" = some (selName (sel .create (.uint .w8))) ∧
    selName (sel .get (.uint .w8)) = "kind" ∧
    typeTable.lookup "time.Time{}" = some (selName (sel .create .time)) ∧
    typeTable.lookup "time.Time{}" = some (selName (sel .get .time)) ∧
    typeTable.lookup "[]byte{}" = some (selName (sel .get (.slice (.uint .w8)))) ∧
    typeTable.lookup "[]float64{}" = some (selName (sel .get (.slice .f64))) ∧
    selName (sel .create (.named 1 (.slice (.uint .w8)))) = "switch" := by decide +kernel

def objKind : Obj → String
  | .nil => "Nil" | .bool _ => "Bool" | .int _ => "Int" | .float _ => "Float" | .byte _ => "Byte"
  | .str _ => "String" | .bytes _ => "ByteSlice" | .floats _ => "FloatSlice" | .time _ => "Time"
  | .list _ => "List" | .map _ _ => "Map" | .proxy _ _ => "Proxy"

def sampleObjs : List Obj :=
  [.nil, .bool true, .int 1, .float 0, .byte 1, .str [], .bytes [], .floats [], .time 0,
   .list .nil, .map [] .nil, .proxy (.ptr (.struct .nil)) .nilv]

def F1 : FOps := ⟨id, id, fun _ => 0, fun _ => 0, fun _ => 0, fun _ => none⟩

/-- `acceptTable` for the kind converters, as lists -/
def acceptLists : List (String × List String) :=
  [("BoolConverter", ["Bool"]), ("IntConverter", ["Byte", "Int", "Float"]),
   ("Int8Converter", ["Byte", "Int", "Float"]), ("Int16Converter", ["Byte", "Int", "Float"]),
   ("Int32Converter", ["Byte", "Int", "Float"]), ("Int64Converter", ["Byte", "Int", "Float"]),
   ("UintConverter", ["Byte", "Int", "Float"]), ("Uint8Converter", ["Byte", "Int", "Float"]),
   ("Uint16Converter", ["Byte", "Int", "Float"]), ("Uint32Converter", ["Byte", "Int", "Float"]),
   ("Uint64Converter", ["Byte", "Int", "Float"]), ("Float32Converter", ["Byte", "Int", "Float"]),
   ("Float64Converter", ["Byte", "Int", "Float"]), ("StringConverter", ["ByteSlice", "Buffer", "String"])]

theorem accept_lists_tie : ∀ p ∈ acceptLists, acceptTable.lookup p.1 = some (" ".intercalate p.2) := by
  decide +kernel

def acceptsOK : Bool :=
  kindTypes.all fun p => sampleObjs.all fun o =>
    match kindTable.lookup p.1 with
    | some conv => match acceptLists.lookup conv with
      | some ks => decide (toLeaf F1 .get p.2 o ≠ .error) == ks.contains (objKind o)
      | none => false
    | none => true

/-- the object types the model's kind converters accept are exactly those of the `To` type
    switches (`Buffer` objects are outside the model) -/
theorem accept_table_matches : acceptsOK = true := by decide +kernel

/-! ### the repaired sites: regenerated = frozen, frozen = model

Seven recorded defects were repaired in risor; the places of the repairs are regenerated on every
run.  If a repair is lost the regenerated text differs from the frozen one (this file stops
checking) — and the correspondence run shows the old behaviour as an unlisted violation. -/

/-- what each integer converter's `To` returns for an `*Int` object -/
def intCaseTable : List (String × String) :=
  [("ByteConverter", "narrowInt[byte](obj.value)"), ("IntConverter", "narrowInt[int](obj.value)"),
   ("Int8Converter", "narrowInt[int8](obj.value)"), ("Int16Converter", "narrowInt[int16](obj.value)"),
   ("Int32Converter", "narrowInt[int32](obj.value)"), ("Int64Converter", "int64(obj.value)"),
   ("UintConverter", "narrowInt[uint](obj.value)"), ("Uint8Converter", "narrowInt[uint8](obj.value)"),
   ("Uint16Converter", "narrowInt[uint16](obj.value)"), ("Uint32Converter", "narrowInt[uint32](obj.value)"),
   ("Uint64Converter", "narrowInt[uint64](obj.value)")]

theorem int_case_tie : ∀ p ∈ intCaseTable, toIntCases.lookup p.1 = some p.2 := by decide +kernel

/-- per integer kind narrower than the script's int64 (or unsigned): the model type, an int64 just
    outside its range, its neighbour inside, and the checked conversion the converter uses -/
def narrowSamples : List (String × GoTy × Int × Int × String) :=
  [("Int8", .int .w8, 128, 127, "narrowInt[int8](obj.value)"),
   ("Int16", .int .w16, 32768, 32767, "narrowInt[int16](obj.value)"),
   ("Int32", .int .w32, 2147483648, 2147483647, "narrowInt[int32](obj.value)"),
   ("Uint", .uint .w0, -1, 0, "narrowInt[uint](obj.value)"),
   ("Uint8", .uint .w8, 256, 255, "narrowInt[uint8](obj.value)"),
   ("Uint16", .uint .w16, 65536, 65535, "narrowInt[uint16](obj.value)"),
   ("Uint32", .uint .w32, 4294967296, 4294967295, "narrowInt[uint32](obj.value)"),
   ("Uint64", .uint .w64, -1, 0, "narrowInt[uint64](obj.value)")]

/-- Every kind converter whose type cannot hold every int64 converts an
    `*Int` through `narrowInt`, and the model's `To` for that kind rejects the value just outside
    the range and accepts its neighbour unchanged -/
theorem narrow_matches : ∀ p ∈ narrowSamples,
    (kindTable.lookup p.1).bind (fun c => intCaseTable.lookup c) = some p.2.2.2.2 ∧
    toLeaf F1 .get p.2.1 (.int p.2.2.1) = .error ∧
    toLeaf F1 .get p.2.1 (.int p.2.2.2.1) = .ok (some (p.2.1, .int p.2.2.2.1)) := by decide +kernel

/-- `byte` through `createTypeConverter` (ByteConverter) likewise -/
theorem narrow_byte_matches :
    intCaseTable.lookup "ByteConverter" = some "narrowInt[byte](obj.value)" ∧
    toLeaf F1 .create (.uint .w8) (.int 256) = .error ∧
    toLeaf F1 .create (.uint .w8) (.int 255) = .ok (some (.uint .w8, .int 255)) := by decide +kernel

/-- `UintConverter.From` / `Uint64Converter.From` compare with math.MaxInt64 — and the model's
    `From` rejects 2⁶³ and passes 2⁶³−1 -/
theorem from_range_tie :
    fromIfConds.lookup "UintConverter" = some "v > math.MaxInt64" ∧
    fromIfConds.lookup "Uint64Converter" = some "v > math.MaxInt64" := by decide +kernel
theorem from_range_matches :
    scalarFrom F1 (.uint .w0) (.int two63) = .error ∧ scalarFrom F1 (.uint .w64) (.int two63) = .error ∧
    scalarFrom F1 (.uint .w64) (.int (two63 - 1)) = .ok (.int (two63 - 1)) := by decide +kernel

/-- `ArrayConverter.To` compares the lengths before its loop — and the model rejects a longer list -/
theorem array_length_tie : arrayToIfConds = ["!ok", "len(list.items) > c.len", "err != nil"] := rfl
theorem array_length_matches :
    toBase F1 .get (.array 1 .bool) (.list (.cons (.bool true) (.cons (.bool true) .nil))) = .error ∧
    toBase F1 .get (.array 1 .bool) (.list (.cons (.bool true) .nil))
      = .ok (some (.array 1 .bool, .seq (.cons (.bool true) .nil))) := by decide +kernel

/-- `AsObjects` has a case for the untyped nil — and the model gives the script `nil` -/
theorem as_objects_tie : asObjectsCases = ["nil", "Object", "default"] := rfl
theorem as_objects_matches : fromGlobal F1 none = .ok .nil := by decide +kernel

/-- `Proxy.call` compares its argument index with len(args) from both sides — and the model
    rejects too few and too many arguments -/
theorem call_args_tie :
    callArgConds = ["argIndex >= len(args)", "argIndex < len(args) && !isVariadic"] := rfl
theorem call_args_matches :
    callArgs F1 (.cons .bool .nil) .nil = .error ∧
    callArgs F1 (.cons .bool .nil) (.cons (.bool true) (.cons (.bool true) .nil)) = .error ∧
    callArgs F1 (.cons .bool .nil) (.cons (.bool true) .nil) = .ok (.cons (.bool true) .nil) := by decide +kernel

/-- `getTypeConverter` wraps the kind converter of a DECLARED type (non-empty package path) in a
    `namedConverter`, which converts to / from the basic type of the kind (`basicTypes[kind]` in
    `lookup_order_tie`) — and in the model a declared type of a basic kind is selected by kind,
    reads like its basic type and is written as a value of the declared type itself -/
theorem declared_type_tie : declaredTypeConds = ["typ.PkgPath() != \"\""] := rfl
theorem declared_type_matches :
    sel .get (.named 1 (.int .w64)) = .scalar ∧ sel .create (.named 3 (.uint .w8)) = .scalar ∧
    fromLeaf F1 .get (.named 1 (.int .w64)) (.int 5) = .ok (.int 5) ∧
    toLeaf F1 .get (.named 1 (.int .w64)) (.int 5) = .ok (some (.named 1 (.int .w64), .int 5)) ∧
    fromAsserts.lookup "namedConverter" = some "-" := by decide +kernel

/-- `vm.Run` creates its machine with `createVM` (which returns the error of `applyOptions`), not
    with `New` (which panics on it) — and the model's `evalGlobal` reports a conversion error as an
    error -/
theorem run_creates_tie : runCreatesWith = "createVM" := rfl
theorem run_creates_matches : evalGlobal F1 (some (.chan, .nilv)) = .error := by decide +kernel

/-! ### converters keep nothing between conversions

`typeConverters` / `GoType.converter` hold ONE converter per Go type for the whole process, so what
a converter may carry from one conversion to the next is what its fields can hold.  Every field of
every converter type is of a type that is fixed when the converter is built (another converter, a
reflect.Type, a *GoType, a bool, an int) — no pool, map, slice, buffer or pointer to scratch
memory; and `StructConverter.To` takes the struct it fills for a map object from `goType.New()`.
In the model `toGo` is a function of (type, object) alone and a series of conversions is the
series of the single ones (`toSlotSeq`, `C08_seq_independent`). -/

def immutableFieldTypes : List String := ["TypeConverter", "reflect.Type", "*GoType", "bool", "int"]

theorem converter_state_tie :
    (∀ p ∈ converterFieldTypes, ∀ t ∈ p.2, t ∈ immutableFieldTypes) ∧
    (converterFieldTypes.lookup "StructConverter").isSome ∧
    (converterFieldTypes.lookup "SliceConverter").isSome := by decide +kernel

theorem struct_map_alloc_tie : structMapAlloc = "value := c.goType.New()" := rfl

/-- a map object for a struct: a new struct with the named fields set and the others zero — twice
    in a row the same, and a map that names nothing gives the zero struct -/
theorem struct_map_alloc_matches :
    toBase F1 .get (.struct (.cons .bool (.cons .str .nil))) (.map [] .nil)
      = .ok (some (.struct (.cons .bool (.cons .str .nil)), .struct (.cons (.bool false) (.cons (.str []) .nil)))) ∧
    toSlotSeq F1 .get (.struct (.cons .bool (.cons .str .nil)))
      [.map [[70, 48]] (.cons (.bool true) .nil), .map [[70, 49]] (.cons (.str [120]) .nil)]
      = [.ok (.struct (.cons (.bool true) (.cons (.str []) .nil))),
         .ok (.struct (.cons (.bool false) (.cons (.str [120]) .nil)))] := by decide +kernel

/-- `goTypeRegistry` is looked up and filled by `newGoType` only, and `NewGoType` takes
    `goTypeMutex` before it calls it: the lookup of Reg.lean's `stepLocked` (no lock-free path in
    front of the mutex, as in the contrast `stepFast`) -/
theorem registry_lock_tie :
    registryUsers = ["newGoType"] ∧
    newGoTypeStmts = ["goTypeMutex.Lock()", "defer goTypeMutex.Unlock()", "return newGoType(typ)"] := by
  decide +kernel

end Risor.C08
