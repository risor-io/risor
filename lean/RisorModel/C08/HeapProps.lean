import RisorModel.C08.Heap
/-!
C08 — property theorems about HISTORIES over an object graph shared between host and script
(model: `Heap.lean`).  All statements are for every heap, every set of global names (several
names may stand for one Go object), every history of script reads / writes and Go-side mutations
(re-pointed pointer fields, replaced slices / maps / struct values, fresh objects), every path of
any length.
-/
namespace Risor.C08

/-! ## helper lemmas -/

theorem nodeAt_append (n : Node) (q : List Nat) (i : Nat) :
    nodeAt n (q ++ [i]) = (nodeAt n q).bind fun c => child c i := by
  induction q generalizing n with
  | nil =>
    show (child n i).bind (fun c => nodeAt c []) = (some n).bind fun c => child c i
    rw [Option.bind_some]
    cases child n i <;> rfl
  | cons j q ih =>
    show (child n j).bind (fun c => nodeAt c (q ++ [i])) = ((child n j).bind fun c => nodeAt c q).bind fun c => child c i
    cases child n j with
    | none => rfl
    | some c => exact ih c

theorem slotAt_append (h : Heap) (a : Nat) (q : List Nat) (i : Nat) :
    slotAt h ⟨a, q ++ [i]⟩ = (slotAt h ⟨a, q⟩).bind fun c => child c i := by
  unfold slotAt
  cases h[a]? with
  | none => rfl
  | some o => exact nodeAt_append o q i

/-- the invariant between what the script holds and the slot Go's resolution has reached -/
def Corr (h : Heap) : SObj → Loc → Prop
  | .int i, l => slotAt h l = some (.int i)
  | .list xs, l => slotAt h l = some (.seq xs)
  | .px .nilp, l => slotAt h l = some (.ref none)
  | .px (.copy n), l => slotAt h l = some n ∧ ∃ fs, n = .struct fs
  | .px (.at a q), l => (q = [] ∧ slotAt h l = some (.ref (some a))) ∨
      (q ≠ [] ∧ l = ⟨a, q⟩ ∧ ∃ fs, slotAt h l = some (.struct fs))

theorem corr_view {h : Heap} {o : SObj} {l : Loc} (hc : Corr h o l) :
    ∃ n, slotAt h l = some n ∧ view n = sview o := by
  cases o with
  | int i => exact ⟨_, hc, rfl⟩
  | list xs => exact ⟨_, hc, rfl⟩
  | px hd =>
    cases hd with
    | nilp => exact ⟨_, hc, rfl⟩
    | copy n =>
      obtain ⟨h1, fs, h2⟩ := hc
      subst h2
      exact ⟨_, h1, rfl⟩
    | «at» a q =>
      rcases hc with ⟨hq, hs⟩ | ⟨hq, _, fs, hs⟩
      · subst hq; exact ⟨_, hs, rfl⟩
      · refine ⟨_, hs, ?_⟩
        cases q with
        | nil => exact absurd rfl hq
        | cons j q => rfl

theorem corr_fromField (h : Heap) (a : Nat) (q : List Nat) (i : Nat) (c : Node)
    (hs : slotAt h ⟨a, q ++ [i]⟩ = some c) : Corr h (fromField a (q ++ [i]) c) ⟨a, q ++ [i]⟩ := by
  cases c with
  | int v => exact hs
  | ref r =>
    cases r with
    | none => exact hs
    | some b => exact Or.inl ⟨rfl, hs⟩
  | struct fs => exact Or.inr ⟨by simp, rfl, fs, hs⟩
  | seq xs => exact hs

theorem corr_fromElem (h : Heap) (l : Loc) (c : Node) (hs : slotAt h l = some c) :
    Corr h (fromElem c) l := by
  cases c with
  | int v => exact hs
  | ref r =>
    cases r with
    | none => exact hs
    | some b => exact Or.inl ⟨rfl, hs⟩
  | struct fs => exact ⟨hs, fs, rfl⟩
  | seq xs => exact hs

/-- `GetAttr` on a proxy of a Go pointer: it found a struct there NOW and converted its field -/
theorem hGet_at {h : Heap} {a : Nat} {q : List Nat} {i : Nat} {o' : SObj}
    (hg : hGet h (.px (.at a q)) i = .ok o') :
    (∃ fs, slotAt h ⟨a, q⟩ = some (.struct fs)) ∧ Corr h o' ⟨a, q ++ [i]⟩ := by
  simp only [hGet] at hg
  split at hg
  · rename_i fs hs
    split at hg
    · rename_i c hc
      have hslot : slotAt h ⟨a, q ++ [i]⟩ = some c := by
        rw [slotAt_append, hs]; exact hc
      injection hg with hg
      subst hg
      exact ⟨⟨fs, hs⟩, corr_fromField h a q i c hslot⟩
    · cases hg
  · cases hg

/-- where Go's `x.i` lives when the script holds a proxy of a Go pointer for `x` -/
theorem stepLoc_at {h : Heap} {a : Nat} {q : List Nat} {l : Loc}
    (hc : Corr h (.px (.at a q)) l) (i : Nat) : stepLoc h l i = some ⟨a, q ++ [i]⟩ := by
  rcases hc with ⟨hq, hs⟩ | ⟨_, hl, fs, hs⟩
  · subst hq; unfold stepLoc; rw [hs]; rfl
  · unfold stepLoc; rw [hs]; subst hl; rfl

theorem stepLoc_root {h : Heap} {a : Nat} {fs : Nodes} (hs : slotAt h ⟨a, []⟩ = some (.struct fs))
    (i : Nat) : stepLoc h ⟨a, []⟩ i = some ⟨a, [i]⟩ := by
  unfold stepLoc; rw [hs]; rfl

/-- one step: whatever `GetAttr` / indexing hands to the script corresponds to the slot Go's own
    `x.i` reaches -/
theorem hGet_sound {h : Heap} {o o' : SObj} {l : Loc} {i : Nat} (hc : Corr h o l)
    (hg : hGet h o i = .ok o') : ∃ l', stepLoc h l i = some l' ∧ Corr h o' l' := by
  cases o with
  | int v => cases hg
  | list xs =>
    have hs : slotAt h l = some (.seq xs) := hc
    refine ⟨⟨l.a, l.q ++ [i]⟩, by unfold stepLoc; rw [hs], ?_⟩
    simp only [hGet] at hg
    split at hg
    · rename_i c hcx
      injection hg with hg; subst hg
      apply corr_fromElem
      rw [slotAt_append]
      have : slotAt h ⟨l.a, l.q⟩ = some (.seq xs) := hs
      rw [this]; exact hcx
    · cases hg
  | px hd =>
    cases hd with
    | nilp => cases hg
    | copy n =>
      obtain ⟨hs, fs, hn⟩ := hc
      subst hn
      refine ⟨⟨l.a, l.q ++ [i]⟩, by unfold stepLoc; rw [hs], ?_⟩
      simp only [hGet] at hg
      split at hg
      · rename_i c hcx
        injection hg with hg; subst hg
        apply corr_fromElem
        rw [slotAt_append]
        have : slotAt h ⟨l.a, l.q⟩ = some (.struct fs) := hs
        rw [this]; exact hcx
      · cases hg
    | «at» a q => exact ⟨_, stepLoc_at hc i, (hGet_at hg).2⟩

theorem walk_sound {h : Heap} : ∀ (p : List Nat) (o o' : SObj) (l : Loc), Corr h o l →
    walk h o p = .ok o' → ∃ l', locate h l p = some l' ∧ Corr h o' l' := by
  intro p
  induction p with
  | nil =>
    intro o o' l hc hw
    injection hw with hw; subst hw
    exact ⟨l, rfl, hc⟩
  | cons i p ih =>
    intro o o' l hc hw
    unfold walk at hw
    cases hg : hGet h o i with
    | ok o1 =>
      rw [hg] at hw
      obtain ⟨l1, hl1, hc1⟩ := hGet_sound hc hg
      obtain ⟨l', hl', hc'⟩ := ih o1 o' l1 hc1 hw
      exact ⟨l', by unfold locate; rw [hl1]; exact hl', hc'⟩
    | error => rw [hg] at hw; cases hw
    | panic => rw [hg] at hw; cases hw

/-! ## 1. the script's view is the current Go state -/

/-- **Reads, one heap.**  Whatever the script reads through `root.p` — a path of any length
    through `*struct` fields, struct-by-value fields, slices and maps of pointers or of structs —
    is what Go's own resolution of that path holds NOW: the same scalar, the same pointer (the
    identity of the object the proxy wraps, or nil). -/
theorem read_is_current (h : Heap) (a : Nat) (p : List Nat) (o : SObj)
    (hr : implRead h a p = .ok o) : ∃ n, goRead h a p = some n ∧ view n = sview o := by
  cases p with
  | nil =>
    injection hr with hr; subst hr
    exact ⟨_, rfl, rfl⟩
  | cons i p =>
    unfold implRead walk at hr
    cases hg : hGet h (.px (.at a [])) i with
    | ok o1 =>
      rw [hg] at hr
      obtain ⟨⟨fs, hs⟩, hc1⟩ := hGet_at hg
      obtain ⟨l', hl', hc'⟩ := walk_sound p o1 o _ hc1 hr
      obtain ⟨n, hn, hv⟩ := corr_view hc'
      refine ⟨n, ?_, hv⟩
      show (locate h ⟨a, []⟩ (i :: p)).bind (fun l => slotAt h l) = some n
      unfold locate
      rw [stepLoc_root hs i]
      show (locate h ⟨a, [] ++ [i]⟩ p).bind (fun l => slotAt h l) = some n
      rw [hl']; exact hn
    | error => rw [hg] at hr; cases hr
    | panic => rw [hg] at hr; cases hr

/-- After EVERY history (script reads and writes, Go-side stores,
    re-pointed pointer fields, replaced slices / maps, fresh objects; any number of global names
    for one Go object), a script read through any global name and any path that returns a value
    returns what the Go heap holds at that path NOW — the reference machine (which re-resolves the
    whole path on the current heap) gives the same answer on the same heap. -/
theorem proxy_view_is_current (roots : List Nat) (h0 : Heap) (ops : List HOp) (r : Nat)
    (p : List Nat) (v : View) (h' : Heap)
    (hv : implStep roots (runImpl roots h0 ops).1 (.scriptGet r p) = (h', .val v)) :
    specStep roots (runImpl roots h0 ops).1 (.scriptGet r p) = ((runImpl roots h0 ops).1, .val v) := by
  generalize (runImpl roots h0 ops).1 = h at hv ⊢
  cases hr : roots[r]? with
  | none => simp only [implStep, hr] at hv; injection hv with _ hv2; cases hv2
  | some a =>
    simp only [implStep, hr] at hv
    simp only [specStep, hr]
    cases hi : implRead h a p with
    | ok o =>
      rw [hi] at hv
      obtain ⟨n, hn, hvw⟩ := read_is_current h a p o hi
      rw [hn]
      simp only at hv ⊢
      injection hv with _ hv2
      injection hv2 with hv2
      rw [hvw, hv2]
    | error => rw [hi] at hv; simp only at hv; injection hv with _ hv2; cases hv2
    | panic => rw [hi] at hv; simp only at hv; injection hv with _ hv2; cases hv2

/-! ## 2. a script write is Go's write -/

def NotCopy : SObj → Prop
  | .px (.copy _) => False
  | _ => True

theorem fromField_notCopy (a : Nat) (q : List Nat) (c : Node) : NotCopy (fromField a q c) := by
  cases c with
  | ref r => cases r <;> exact True.intro
  | _ => exact True.intro

theorem hGet_at_notCopy {h : Heap} {a : Nat} {q : List Nat} {i : Nat} {o' : SObj}
    (hg : hGet h (.px (.at a q)) i = .ok o') : NotCopy o' := by
  simp only [hGet] at hg
  split at hg
  · split at hg
    · injection hg with hg; subst hg; exact fromField_notCopy _ _ _
    · cases hg
  · cases hg

theorem hGet_sound_nc {h : Heap} {o o' : SObj} {l : Loc} {i : Nat} (hc : Corr h o l)
    (hn : NotCopy o) (hg : hGet h o i = .ok o') :
    ∃ l', stepLoc h l i = some l' ∧ Corr h o' l' ∧ (copyStep h l l' = false → NotCopy o') := by
  obtain ⟨l', hl', hc'⟩ := hGet_sound hc hg
  refine ⟨l', hl', hc', ?_⟩
  cases o with
  | int v => cases hg
  | px hd =>
    cases hd with
    | nilp => cases hg
    | copy n => exact absurd hn id
    | «at» a q => intro _; exact hGet_at_notCopy hg
  | list xs =>
    have hs : slotAt h l = some (.seq xs) := hc
    simp only [hGet] at hg
    split at hg
    · rename_i c hcx
      injection hg with hg; subst hg
      cases c with
      | struct fs =>
        intro hf
        have hs' : slotAt h l' = some (.struct fs) := hc'.1
        unfold copyStep at hf
        rw [hs, hs'] at hf
        cases hf
      | ref r => intro _; cases r <;> exact True.intro
      | int v => intro _; exact True.intro
      | seq ys => intro _; exact True.intro
    · cases hg

theorem setKind_compat {old v : Node} (hk : setKind old v = .ok ()) : compat old v = true := by
  cases old <;> cases v <;> first | rfl | cases hk

/-- `SetAttr` on a proxy of a Go pointer writes the slot `field i` of the struct it finds there NOW -/
theorem hSet_at {h h' : Heap} {a : Nat} {q : List Nat} {i : Nat} {v : Node}
    (hs : hSet h (.px (.at a q)) i v = .ok h') :
    ∃ fs old, slotAt h ⟨a, q⟩ = some (.struct fs) ∧ slotAt h ⟨a, q ++ [i]⟩ = some old ∧
      compat old v = true ∧ setSlot h ⟨a, q ++ [i]⟩ v = some h' := by
  simp only [hSet] at hs
  split at hs
  · rename_i fs hfs
    split at hs
    · rename_i old hold
      split at hs
      · rename_i u hk
        split at hs
        · rename_i h'' hset
          injection hs with hs; subst hs
          refine ⟨fs, old, hfs, ?_, ?_, hset⟩
          · rw [slotAt_append, hfs]; exact hold
          · cases u; exact setKind_compat hk
        · cases hs
      · cases hs
      · cases hs
    · cases hs
  · cases hs

theorem goWrite_of_locate {h h' : Heap} {a : Nat} {i : Nat} {p : List Nat} {v old : Node} {l : Loc}
    (hl : locate h ⟨a, []⟩ (i :: p) = some l) (ho : slotAt h l = some old)
    (hc : compat old v = true) (hs : setSlot h l v = some h') : goWrite h a (i :: p) v = some h' := by
  show (locate h ⟨a, []⟩ (i :: p)).bind _ = some h'
  rw [hl]
  show (match slotAt h l with
    | some old => if compat old v then setSlot h l v else none
    | none => none) = some h'
  rw [ho]
  simp only [hc, if_true]
  exact hs

theorem walkSet_sound {h : Heap} : ∀ (p : List Nat) (o : SObj) (l : Loc) (v : Node) (h' : Heap),
    Corr h o l → NotCopy o → copyOnPath h l p = false → walkSet h o p v = .ok h' →
    ∃ l' old, locate h l p = some l' ∧ slotAt h l' = some old ∧ compat old v = true ∧
      setSlot h l' v = some h' := by
  intro p
  induction p with
  | nil => intro o l v h' _ _ _ hw; cases hw
  | cons i p ih =>
    intro o l v h' hc hn hcp hw
    cases p with
    | nil =>
      simp only [walkSet] at hw
      cases o with
      | int x => cases hw
      | list xs => cases hw
      | px hd =>
        cases hd with
        | nilp => cases hw
        | copy n => exact absurd hn id
        | «at» a q =>
          obtain ⟨fs, old, _, hold, hcm, hset⟩ := hSet_at hw
          refine ⟨⟨a, q ++ [i]⟩, old, ?_, hold, hcm, hset⟩
          unfold locate
          rw [stepLoc_at hc i]
          rfl
    | cons j p =>
      simp only [walkSet] at hw
      cases hg : hGet h o i with
      | ok o1 =>
        rw [hg] at hw
        obtain ⟨l1, hl1, hc1, hnc1⟩ := hGet_sound_nc hc hn hg
        unfold copyOnPath at hcp
        rw [hl1] at hcp
        simp only [Bool.or_eq_false_iff] at hcp
        obtain ⟨l', old, hl', hold, hcm, hset⟩ := ih o1 l1 v h' hc1 (hnc1 hcp.1) hcp.2 hw
        refine ⟨l', old, ?_, hold, hcm, hset⟩
        unfold locate
        rw [hl1]
        exact hl'
      | error => rw [hg] at hw; cases hw
      | panic => rw [hg] at hw; cases hw

/-- **Writes, one heap.**  When the script's `root.p = v` is accepted, the heap afterwards is
    exactly the heap after Go's own `root.p = v`: the write landed in the slot that Go's
    resolution of the path designates NOW, nowhere else — unless the path enters a struct held by
    value inside a slice / map (`copyOnPath`, finding C08-slice-element-write-lost). -/
theorem write_is_go_write (h : Heap) (a : Nat) (p : List Nat) (v : Node) (h' : Heap)
    (hg : copyOnPath h ⟨a, []⟩ p = false) (hw : implWrite h a p v = .ok h') :
    goWrite h a p v = some h' := by
  unfold implWrite at hw
  cases p with
  | nil => cases hw
  | cons i p =>
    cases p with
    | nil =>
      simp only [walkSet] at hw
      obtain ⟨fs, old, hfs, hold, hcm, hset⟩ := hSet_at hw
      refine goWrite_of_locate ?_ hold hcm hset
      unfold locate
      rw [stepLoc_root hfs i]
      rfl
    | cons j p =>
      simp only [walkSet] at hw
      cases hgi : hGet h (.px (.at a [])) i with
      | ok o1 =>
        rw [hgi] at hw
        obtain ⟨⟨fs, hfs⟩, hc1⟩ := hGet_at hgi
        unfold copyOnPath at hg
        rw [stepLoc_root hfs i] at hg
        simp only [Bool.or_eq_false_iff] at hg
        obtain ⟨l', old, hl', hold, hcm, hset⟩ :=
          walkSet_sound (j :: p) o1 ⟨a, [] ++ [i]⟩ v h' hc1 (hGet_at_notCopy hgi) hg.2 hw
        refine goWrite_of_locate ?_ hold hcm hset
        unfold locate
        rw [stepLoc_root hfs i]
        exact hl'
      | error => rw [hgi] at hw; cases hw
      | panic => rw [hgi] at hw; cases hw

/-- After EVERY history, a scalar write the script makes through any
    global name and any path, when accepted, is in the Go heap afterwards: the heap the unchanged
    code leaves is the heap the reference machine (Go's own `root.p = i` on the current heap)
    leaves.  Guard: the path does not enter a struct held by value inside a slice / map. -/
theorem script_write_visible (roots : List Nat) (h0 : Heap) (ops : List HOp) (r : Nat)
    (p : List Nat) (i : Int) (h' : Heap)
    (hg : ∀ a, roots[r]? = some a → copyOnPath (runImpl roots h0 ops).1 ⟨a, []⟩ p = false)
    (hw : implStep roots (runImpl roots h0 ops).1 (.scriptSet r p i) = (h', .done)) :
    specStep roots (runImpl roots h0 ops).1 (.scriptSet r p i) = (h', .done) := by
  generalize (runImpl roots h0 ops).1 = h at hg hw ⊢
  cases hr : roots[r]? with
  | none => simp only [implStep, hr] at hw; injection hw with _ hw2; cases hw2
  | some a =>
    simp only [implStep, hr] at hw
    simp only [specStep, hr]
    cases hi : implWrite h a p (.int i) with
    | ok h'' =>
      rw [hi] at hw
      simp only [ofOutcome] at hw
      injection hw with hw1 _
      subst hw1
      rw [write_is_go_write h a p (.int i) h'' (hg a hr) hi]
      rfl
    | error => rw [hi] at hw; simp only [ofOutcome] at hw; injection hw with _ hw2; cases hw2
    | panic => rw [hi] at hw; simp only [ofOutcome] at hw; injection hw with _ hw2; cases hw2

/-- the same for a pointer the script stores (`g.p = g'.p'`, `g.p = {…}`): an accepted store is
    Go's store — `write_is_go_write` is for every value `v`. -/
theorem script_link_visible (h : Heap) (a : Nat) (p : List Nat) (t : Option Nat) (h' : Heap)
    (hg : copyOnPath h ⟨a, []⟩ p = false) (hw : implWrite h a p (.ref t) = .ok h') :
    goWrite h a p (.ref t) = some h' := write_is_go_write h a p (.ref t) h' hg hw

/-- **Full statement for writes** (no guard) -/
def C08_full_write_visible : Prop :=
  ∀ (h : Heap) (a : Nat) (p : List Nat) (v : Node) (h' : Heap),
    implWrite h a p v = .ok h' → goWrite h a p v = some h'

/-- `g.Vs[0].X = 5` with `Vs []Leaf`: the script gets a proxy of a private copy of the element
    (`NewProxy`: "create a pointer to a copy of the struct"), the write is accepted and Go never
    sees it. -/
def lostWriteHeap : Heap :=
  [.struct (.cons (.seq (.cons (.struct (.cons (.int 1) .nil)) .nil)) .nil)]

theorem C08_counterexample_slice_element_write :
    implWrite lostWriteHeap 0 [0, 0, 0] (.int 5) = .ok lostWriteHeap ∧
    goWrite lostWriteHeap 0 [0, 0, 0] (.int 5)
      = some [.struct (.cons (.seq (.cons (.struct (.cons (.int 5) .nil)) .nil)) .nil)] ∧
    copyOnPath lostWriteHeap ⟨0, []⟩ [0, 0, 0] = true := by decide +kernel

theorem C08_counterexample_write_visible : ¬ C08_full_write_visible := by
  intro hf
  have h1 := hf lostWriteHeap 0 [0, 0, 0] (.int 5) lostWriteHeap C08_counterexample_slice_element_write.1
  rw [C08_counterexample_slice_element_write.2.1] at h1
  exact absurd h1 (by decide +kernel)

/-! ## 3. no panics, and whole histories against the judge -/

theorem hGet_panic {h : Heap} {o : SObj} {i : Nat} (hp : hGet h o i = .panic) : o = .px .nilp := by
  cases o with
  | int v => cases hp
  | list xs => simp only [hGet] at hp; split at hp <;> cases hp
  | px hd =>
    cases hd with
    | nilp => rfl
    | copy n =>
      cases n with
      | struct fs => simp only [hGet] at hp; split at hp <;> cases hp
      | int v => cases hp
      | ref r => cases hp
      | seq xs => cases hp
    | «at» a q =>
      simp only [hGet] at hp
      split at hp
      · split at hp <;> cases hp
      · cases hp

theorem nilOnPath_here {h : Heap} {l : Loc} {i : Nat} {p : List Nat}
    (hs : slotAt h l = some (.ref none)) : nilOnPath h l (i :: p) = true := by
  unfold nilOnPath; rw [hs]; rfl

theorem nilOnPath_later {h : Heap} {l l' : Loc} {i : Nat} {p : List Nat}
    (hl : stepLoc h l i = some l') (hn : nilOnPath h l' p = true) : nilOnPath h l (i :: p) = true := by
  unfold nilOnPath; rw [hl]; simp only [hn, Bool.or_true]

theorem walk_panic {h : Heap} : ∀ (p : List Nat) (o : SObj) (l : Loc), Corr h o l →
    walk h o p = .panic → nilOnPath h l p = true := by
  intro p
  induction p with
  | nil => intro o l _ hw; cases hw
  | cons i p ih =>
    intro o l hc hw
    unfold walk at hw
    cases hg : hGet h o i with
    | ok o1 =>
      rw [hg] at hw
      obtain ⟨l1, hl1, hc1⟩ := hGet_sound hc hg
      exact nilOnPath_later hl1 (ih o1 l1 hc1 hw)
    | error => rw [hg] at hw; cases hw
    | panic =>
      have ho := hGet_panic hg
      subst ho
      exact nilOnPath_here hc

/-- a script read panics only when Go's own evaluation of the path would dereference nil -/
theorem read_no_panic (h : Heap) (a : Nat) (p : List Nat)
    (hn : nilOnPath h ⟨a, []⟩ p = false) : implRead h a p ≠ .panic := by
  intro hp
  cases p with
  | nil => cases hp
  | cons i p =>
    unfold implRead walk at hp
    cases hg : hGet h (.px (.at a [])) i with
    | ok o1 =>
      rw [hg] at hp
      obtain ⟨⟨fs, hfs⟩, hc1⟩ := hGet_at hg
      have := nilOnPath_later (stepLoc_root hfs i) (walk_panic p o1 _ hc1 hp)
      rw [this] at hn; cases hn
    | error => rw [hg] at hp; cases hp
    | panic => cases hGet_panic hg

theorem hSet_int_panic {h : Heap} {o : SObj} {i : Nat} {x : Int} (hp : hSet h o i (.int x) = .panic) :
    o = .px .nilp := by
  cases o with
  | int v => cases hp
  | list xs => cases hp
  | px hd =>
    cases hd with
    | nilp => rfl
    | copy n =>
      cases n with
      | struct fs =>
        simp only [hSet] at hp
        split at hp
        · rename_i old _
          cases old <;> simp only [setKind] at hp <;> cases hp
        · cases hp
      | int v => cases hp
      | ref r => cases hp
      | seq xs => cases hp
    | «at» a q =>
      simp only [hSet] at hp
      split at hp
      · split at hp
        · rename_i old _
          cases old <;> simp only [setKind] at hp
          · split at hp <;> cases hp
          all_goals cases hp
        · cases hp
      · cases hp

theorem walkSet_int_panic {h : Heap} {x : Int} : ∀ (p : List Nat) (o : SObj) (l : Loc), Corr h o l →
    walkSet h o p (.int x) = .panic → nilOnPath h l p = true := by
  intro p
  induction p with
  | nil => intro o l _ hw; cases hw
  | cons i p ih =>
    intro o l hc hw
    cases p with
    | nil =>
      simp only [walkSet] at hw
      have ho := hSet_int_panic hw
      subst ho
      exact nilOnPath_here hc
    | cons j p =>
      simp only [walkSet] at hw
      cases hg : hGet h o i with
      | ok o1 =>
        rw [hg] at hw
        obtain ⟨l1, hl1, hc1⟩ := hGet_sound hc hg
        exact nilOnPath_later hl1 (ih o1 l1 hc1 hw)
      | error => rw [hg] at hw; cases hw
      | panic =>
        have ho := hGet_panic hg
        subst ho
        exact nilOnPath_here hc

/-- a scalar write panics only when Go's own evaluation of the path would dereference nil -/
theorem write_no_panic (h : Heap) (a : Nat) (p : List Nat) (x : Int)
    (hn : nilOnPath h ⟨a, []⟩ p = false) : implWrite h a p (.int x) ≠ .panic := by
  intro hp
  unfold implWrite at hp
  cases p with
  | nil => cases hp
  | cons i p =>
    cases p with
    | nil =>
      simp only [walkSet] at hp
      cases hSet_int_panic hp
    | cons j p =>
      simp only [walkSet] at hp
      cases hg : hGet h (.px (.at a [])) i with
      | ok o1 =>
        rw [hg] at hp
        obtain ⟨⟨fs, hfs⟩, hc1⟩ := hGet_at hg
        have := nilOnPath_later (stepLoc_root hfs i) (walkSet_int_panic (j :: p) o1 _ hc1 hp)
        rw [this] at hn; cases hn
      | error => rw [hg] at hp; cases hp
      | panic => cases hGet_panic hg

/-- one step of the unchanged code is accepted by the judge, under the step's guard -/
theorem step_accepted (roots : List Nat) (h : Heap) (op : HOp) (hb : basicOp op = true)
    (hg : stepGuard roots h op = false) : stepOK roots h op (implStep roots h op) = true := by
  cases op with
  | scriptLink r p r' p' => cases hb
  | scriptNew r p b => cases hb
  | goSet r p i => simp [stepOK, implStep, isScriptOp, heapEq]
  | goRepoint r p t => simp [stepOK, implStep, isScriptOp, heapEq]
  | goReplace r p v => simp [stepOK, implStep, isScriptOp, heapEq]
  | goNew b => simp [stepOK, implStep, isScriptOp, heapEq]
  | scriptGet r p =>
    cases hr : roots[r]? with
    | none => simp [stepOK, implStep, isScriptOp, heapEq, hr]
    | some a =>
      simp only [stepGuard, hr] at hg
      cases hi : implRead h a p with
      | ok o =>
        obtain ⟨n, hn, hvw⟩ := read_is_current h a p o hi
        simp [stepOK, implStep, specStep, isScriptOp, heapEq, hr, hi, hn, hvw]
      | error => simp [stepOK, implStep, isScriptOp, heapEq, hr, hi]
      | panic => exact absurd hi (read_no_panic h a p hg)
  | scriptSet r p x =>
    cases hr : roots[r]? with
    | none => simp [stepOK, implStep, isScriptOp, heapEq, hr]
    | some a =>
      simp only [stepGuard, hr, Bool.or_eq_false_iff] at hg
      cases hi : implWrite h a p (.int x) with
      | ok h' =>
        have hw := write_is_go_write h a p (.int x) h' hg.2 hi
        simp [stepOK, implStep, specStep, isScriptOp, heapEq, hr, hi, hw, ofOutcome, ofWrite]
      | error => simp [stepOK, implStep, isScriptOp, heapEq, hr, hi, ofOutcome]
      | panic => exact absurd hi (write_no_panic h a p x hg.1)

/-- **Full statement for histories**: the judge accepts every trace of the unchanged code -/
def C08_full_history : Prop :=
  ∀ (roots : List Nat) (h : Heap) (ops : List HOp), histOK roots h ops (traceImpl roots h ops) = true

/-- `g.Q.X` with `g.Q == nil`: the proxy of the nil pointer panics in reflect -/
theorem C08_counterexample_nil_on_path :
    implStep [0] [.struct (.cons (.ref none) .nil)] (.scriptGet 0 [0, 0])
      = ([.struct (.cons (.ref none) .nil)], .panic) := by decide +kernel

theorem C08_counterexample_history : ¬ C08_full_history := by
  intro hf
  exact absurd (hf [0] [.struct (.cons (.ref none) .nil)] [.scriptGet 0 [0, 0]]) (by decide +kernel)

/-- Every history of script reads, script scalar writes and Go-side
    steps (stores, re-pointed pointers, replaced slices / maps / struct values, fresh objects),
    over any heap and any global names: when no step falls under a guard (`histGuarded`: no nil
    pointer on a script path, no write through a by-value slice element), the judge accepts the
    whole trace of the unchanged code — every read answered with what Go holds at that moment or
    rejected, every accepted write exactly Go's write, never a panic. -/
theorem C08_partial_history (roots : List Nat) : ∀ (ops : List HOp) (h : Heap),
    histGuarded roots h ops = true → histOK roots h ops (traceImpl roots h ops) = true := by
  intro ops
  induction ops with
  | nil => intro h _; rfl
  | cons op ops ih =>
    intro h hg
    simp only [histGuarded, Bool.and_eq_true, Bool.not_eq_true'] at hg
    obtain ⟨⟨hb, hs⟩, hrest⟩ := hg
    show (stepOK roots h op (implStep roots h op) && histOK roots (implStep roots h op).1 ops
      (traceImpl roots (implStep roots h op).1 ops)) = true
    rw [step_accepted roots h op hb hs, ih _ hrest]
    rfl

/-! ## 4. CONTRAST: a proxy that caches its struct-typed children -/

/-- object 0 = {X: 0, P: &object 1}, object 1 = {X: 1}, object 2 = {X: 7} -/
def staleHeap : Heap :=
  [.struct (.cons (.int 0) (.cons (.ref (some 1)) .nil)),
   .struct (.cons (.int 1) (.cons (.ref none) .nil)),
   .struct (.cons (.int 7) (.cons (.ref none) .nil))]

/-- `g.P.X` ; Go: `g.P = &object2` ; `g.P.X` ; `g.P.X = 42` ; Go reads `g.P.X` -/
def staleHist : List HOp :=
  [.scriptGet 0 [1, 0], .goRepoint 0 [1] (some 2), .scriptGet 0 [1, 0], .scriptSet 0 [1, 0] 42]

/-- the unchanged code follows the re-pointed field: the second read gives 7, the write lands in
    object 2 -/
theorem uncached_follows_repoint :
    runImpl [0] staleHeap staleHist =
      ([.struct (.cons (.int 0) (.cons (.ref (some 2)) .nil)),
        .struct (.cons (.int 1) (.cons (.ref none) .nil)),
        .struct (.cons (.int 42) (.cons (.ref none) .nil))],
       [.val (.int 1), .done, .val (.int 7), .done]) := by decide +kernel

/-- the caching proxy keeps reading the OLD pointee (1 instead of 7) and writes into it
    (object 1 gets the 42, Go's `g.P.X` is still 7) -/
theorem cached_view_is_stale :
    ((runCached [0] ⟨staleHeap, []⟩ staleHist).1.heap, (runCached [0] ⟨staleHeap, []⟩ staleHist).2) =
      ([.struct (.cons (.int 0) (.cons (.ref (some 2)) .nil)),
        .struct (.cons (.int 42) (.cons (.ref none) .nil)),
        .struct (.cons (.int 7) (.cons (.ref none) .nil))],
       [.val (.int 1), .done, .val (.int 1), .done]) := by decide +kernel

/-- `proxy_view_is_current` stated for the caching machine -/
def cached_view_is_current : Prop :=
  ∀ (roots : List Nat) (h0 : Heap) (ops : List HOp) (r : Nat) (p : List Nat) (v : View),
    (cRead roots (runCached roots ⟨h0, []⟩ ops).1 r p).2 = .val v →
    (specStep roots (runCached roots ⟨h0, []⟩ ops).1.heap (.scriptGet r p)).2 = .val v

theorem cached_counterexample : ¬ cached_view_is_current := by
  intro hf
  have h1 := hf [0] staleHeap [.scriptGet 0 [1, 0], .goRepoint 0 [1] (some 2)] 0 [1, 0] (.int 1)
    (by decide +kernel)
  exact absurd h1 (by decide +kernel)

example : histGuarded [0] staleHeap staleHist = true := by decide +kernel

/-- the judge accepts the unchanged code's trace of the history on which the caching machine fails -/
example : histOK [0] staleHeap staleHist (traceImpl [0] staleHeap staleHist) = true := by decide +kernel

def demoHeap : Heap :=
  [.struct (.cons (.int 0) (.cons (.ref (some 1)) (.cons (.struct (.cons (.int 3) (.cons (.ref (some 1)) .nil)))
     (.cons (.seq (.cons (.ref (some 1)) .nil)) .nil)))),
   .struct (.cons (.int 1) (.cons (.ref none) (.cons (.struct (.cons (.int 0) (.cons (.ref none) .nil))) (.cons (.seq .nil) .nil))))]

def demoHist : List HOp :=
  [.scriptGet 0 [2, 1, 0], .scriptSet 1 [3, 0, 0] 9, .scriptGet 2 [0], .goNew (.struct (.cons (.int 5) .nil)),
   .goRepoint 0 [2, 1] (some 2), .scriptGet 1 [2, 1, 0], .scriptLink 0 [1] 1 [2, 1], .scriptGet 0 [1, 0]]

/-- non-vacuity: a history through a by-value struct, a slice of pointers and two global names
    for one object; every step is accepted by the judge and the reads see 1, 9, 5, 5 -/
example : histOK [0, 0, 1] demoHeap demoHist (traceImpl [0, 0, 1] demoHeap demoHist) = true := by decide +kernel
example : (runImpl [0, 0, 1] demoHeap demoHist).2 =
    [.val (.int 1), .done, .val (.int 9), .done, .done, .val (.int 5), .done, .val (.int 5)] := by decide +kernel

end Risor.C08
