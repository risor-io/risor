import RisorModel.C08.Model
/-!
C08 — helper lemmas for `Props.lean`.  Small facts first (what a well-typed value says about its
type, byte and float payloads, `Object.Interface()` is represented by the object, unfolding of
the converter selection, pointer lifting); then the round-trip invariant by mutual recursion on
the Go value, the script → Go direction, struct values assembled from a map object, the type
registry, several arguments and reused VMs, and the Go → script direction alone.
-/
namespace Risor.C08

theorem wrapU_id (w : W) (i : Int) (h : inRangeU w.bits i = true) : wrapU w.bits i = i :=
  have h' := of_decide_eq_true h
  Int.emod_eq_of_lt h'.1 h'.2

theorem wrapS_id (w : W) (i : Int) (h : inRangeS w.bits i = true) : wrapS w.bits i = i := by
  have h' := of_decide_eq_true h
  -- every width is at least one bit: the range is the lower and the upper half of 2 ^ bits
  have hp : (2 ^ w.bits : Int) = 2 * 2 ^ (w.bits - 1) := by cases w <;> rfl
  unfold wrapS
  rw [hp]
  generalize (2 ^ (w.bits - 1) : Int) = p at h'
  by_cases hi : 0 ≤ i
  · rw [Int.emod_eq_of_lt hi (by omega)]
    exact if_neg (by omega)
  · have hm : i % (2 * p) = i + 2 * p := by
      rw [← Int.add_emod_right, Int.emod_eq_of_lt (by omega) (by omega)]
    simp only [hm]
    rw [if_pos (by omega)]; omega

theorem wrap64_id (i : Int) (h : ¬ i ≥ two63) : wrap64 i = i := by
  simp [wrap64, h]

theorem under_idem : ∀ t : GoTy, under (under t) = under t
  | .named _ u => under_idem u
  | .bool | .int _ | .uint _ | .f32 | .f64 | .str | .time | .iface | .chan
  | .ptr _ | .slice _ | .array _ _ | .mapStr _ | .struct _ => rfl

/-- without a declared container type, a type that is neither of struct kind nor of a basic kind
    is its own underlying type -/
theorem under_self (ty : GoTy) (hn : namedBad ty = false) (hs : isStructKind ty = false)
    (hsc : isScalarKind ty = false) : under ty = ty := by
  cases ty with
  | named id u =>
    simp only [namedBad, Bool.or_eq_false_iff, Bool.and_eq_false_iff, Bool.not_eq_false'] at hn
    have h1 : isStructKind (.named id u) = isStructKind u := by simp [isStructKind, under]
    have h2 : isScalarKind (.named id u) = isScalarKind u := by simp [isScalarKind, under]
    rw [h1] at hs; rw [h2] at hsc
    rcases hn.1 with h | h
    · rw [h] at hs; cases hs
    · rw [h] at hsc; cases hsc
  | _ => rfl

theorem isStructKind_under (ty : GoTy) : isStructKind (under ty) = isStructKind ty := by
  unfold isStructKind; rw [under_idem]

theorem isScalarKind_under (ty : GoTy) : isScalarKind (under ty) = isScalarKind ty := by
  unfold isScalarKind; rw [under_idem]

/-- so a type whose underlying type is a pointer, slice, array, map, interface or channel type is
    that type -/
theorem eq_of_under {ty u : GoTy} (hn : namedBad ty = false) (hu : under ty = u)
    (hs : isStructKind u = false) (hsc : isScalarKind u = false) : ty = u := by
  subst hu
  rw [isStructKind_under] at hs
  rw [isScalarKind_under] at hsc
  exact (under_self ty hn hs hsc).symm

/-! ### what a well-typed value says about its type -/

theorem hasTy_ptr_inv {ty : GoTy} {x : GoVal} (h : hasTy ty (.ptr x) = true) :
    ∃ t, under ty = .ptr t ∧ hasTy t x = true := by
  unfold hasTy at h
  split at h
  · exact ⟨_, ‹_›, h⟩
  · cases h

theorem hasTy_nilv_inv {ty : GoTy} (h : hasTy ty .nilv = true) :
    (∃ t, under ty = .ptr t) ∨ under ty = .iface ∨ under ty = .chan := by
  unfold hasTy at h
  split at h
  · exact .inl ⟨_, ‹_›⟩
  · exact .inr (.inl ‹_›)
  · exact .inr (.inr ‹_›)
  · cases h

theorem hasTy_seq_inv {ty : GoTy} {xs : Vals} (h : hasTy ty (.seq xs) = true) :
    (∃ t, under ty = .slice t ∧ hasTys t xs = true) ∨
    ∃ n t, under ty = .array n t ∧ hasTys t xs = true ∧ xs.length = n := by
  unfold hasTy at h
  split at h
  · exact .inl ⟨_, ‹_›, h⟩
  · simp only [Bool.and_eq_true, decide_eq_true_eq] at h
    exact .inr ⟨_, _, ‹_›, h⟩
  · cases h

theorem hasTy_map_inv {ty : GoTy} {ks : List (List Nat)} {xs : Vals} (h : hasTy ty (.map ks xs) = true) :
    ∃ t, under ty = .mapStr t ∧ hasTys t xs = true ∧ ks.length = xs.length := by
  unfold hasTy at h
  split at h
  · simp only [Bool.and_eq_true, decide_eq_true_eq] at h
    exact ⟨_, ‹_›, h.1⟩
  · cases h

theorem isIfaceKind_inv {ty : GoTy} (h : isIfaceKind ty = true) : under ty = .iface := by
  unfold isIfaceKind at h
  split at h
  · assumption
  · cases h

/-- the converter of a type of a basic kind is the kind converter, except for `byte` itself
    through `createTypeConverter` -/
theorem sel_scalar (m : Mode) (ty : GoTy) (h : isScalarKind ty = true)
    (hb : ¬ (m = .create ∧ ty = .uint .w8)) : sel m ty = .scalar := by
  unfold sel
  simp [hb, getSel, h]

theorem zero_under : ∀ t : GoTy, zero t = zero (under t)
  | .named _ u => zero_under u
  | .bool | .int _ | .uint _ | .f32 | .f64 | .str | .time | .iface | .chan
  | .ptr _ | .slice _ | .array _ _ | .mapStr _ | .struct _ => rfl

theorem convOK_under : ∀ t : GoTy, convOK t = convOK (under t)
  | .named _ u => convOK_under u
  | .bool | .int _ | .uint _ | .f32 | .f64 | .str | .time | .iface | .chan
  | .ptr _ | .slice _ | .array _ _ | .mapStr _ | .struct _ => rfl

/-! ### `[]byte` and `[]float64` payloads -/

theorem valsNums_intVals : ∀ ns : List Nat, valsNums (intVals ns) = some ns
  | [] => rfl
  | n :: r => by simp [intVals, valsNums, valsNums_intVals r]

theorem valsNums_floatVals : ∀ ns : List Nat, valsNums (floatVals ns) = some ns
  | [] => rfl
  | n :: r => by simp [floatVals, valsNums, valsNums_floatVals r]

theorem bytes_payload : ∀ xs : Vals, hasTys (.uint .w8) xs = true →
    ∃ ns, valsNums xs = some ns ∧ intVals ns = xs
  | .nil, _ => ⟨[], rfl, rfl⟩
  | .cons x r, h => by
    simp only [hasTys, Bool.and_eq_true] at h
    obtain ⟨ns, h1, h2⟩ := bytes_payload r h.2
    cases x with
    | int i =>
      have hx := h.1
      simp only [hasTy, under, inRangeU] at hx
      have hx' := of_decide_eq_true hx
      refine ⟨i.toNat :: ns, by simp [valsNums, h1], ?_⟩
      have : ((i.toNat : Nat) : Int) = i := Int.toNat_of_nonneg hx'.1
      simp [intVals, h2, this]
    | _ => simp [hasTy, under, isIfaceKind] at h

theorem floats_payload : ∀ xs : Vals, hasTys .f64 xs = true →
    ∃ ns, valsNums xs = some ns ∧ floatVals ns = xs
  | .nil, _ => ⟨[], rfl, rfl⟩
  | .cons x r, h => by
    simp only [hasTys, Bool.and_eq_true] at h
    obtain ⟨ns, h1, h2⟩ := floats_payload r h.2
    cases x with
    | float b => exact ⟨b :: ns, by simp [valsNums, h1], by simp [floatVals, h2]⟩
    | _ => simp [hasTy, under, isIfaceKind] at h

/-! ### `Object.Interface()` -/

theorem objIface_none : ∀ o : Obj, objIface o = none → o = .nil
  | .nil, _ => rfl
  | .bool _, h | .int _, h | .float _, h | .byte _, h | .str _, h | .bytes _, h | .floats _, h
  | .time _, h | .list _, h | .map _ _, h | .proxy _ _, h => by simp [objIface] at h

theorem proxy_repr (F : FOps) (pty : GoTy) (pv : GoVal) (h : proxyWf pty pv = true) :
    repr F pty pv (.proxy pty pv) = true := by
  unfold proxyWf at h
  split at h
  · rename_i s hs
    simp only [Bool.and_eq_true] at h
    cases pv with
    | nilv => simp [repr, hs, h.1]
    | ptr x => simp [repr, hs, h.1]
    | _ => simp at h
  · cases h

mutual
/-- what `Interface()` returns for an object is represented by that object -/
theorem objIface_repr (F : FOps) : ∀ (o : Obj) (d : GoTy) (x : GoVal), wfObj o = true →
    objIface o = some (d, x) → repr F d x o = true
  | .nil, _, _, _, h => by simp [objIface] at h
  | .bool b, d, x, _, h => by
    simp only [objIface, Option.some.injEq, Prod.mk.injEq] at h
    obtain ⟨rfl, rfl⟩ := h; simp [repr, under]
  | .int i, d, x, _, h => by
    simp only [objIface, Option.some.injEq, Prod.mk.injEq] at h
    obtain ⟨rfl, rfl⟩ := h; simp [repr, under, numIs]
  | .float b, d, x, _, h => by
    simp only [objIface, Option.some.injEq, Prod.mk.injEq] at h
    obtain ⟨rfl, rfl⟩ := h; simp [repr, under, f64Is]
  | .byte n, d, x, _, h => by
    simp only [objIface, Option.some.injEq, Prod.mk.injEq] at h
    obtain ⟨rfl, rfl⟩ := h; simp [repr, under, numIs]
  | .str s, d, x, _, h => by
    simp only [objIface, Option.some.injEq, Prod.mk.injEq] at h
    obtain ⟨rfl, rfl⟩ := h; simp [repr, under]
  | .bytes s, d, x, _, h => by
    simp only [objIface, Option.some.injEq, Prod.mk.injEq] at h
    obtain ⟨rfl, rfl⟩ := h; simp [repr, under, valsNums_intVals]
  | .floats s, d, x, _, h => by
    simp only [objIface, Option.some.injEq, Prod.mk.injEq] at h
    obtain ⟨rfl, rfl⟩ := h; simp [repr, under, valsNums_floatVals]
  | .time t, d, x, _, h => by
    simp only [objIface, Option.some.injEq, Prod.mk.injEq] at h
    obtain ⟨rfl, rfl⟩ := h; simp [repr]
  | .list os, d, x, hw, h => by
    simp only [objIface, Option.some.injEq, Prod.mk.injEq] at h
    obtain ⟨rfl, rfl⟩ := h
    simp only [repr, under]
    exact ifaceElems_reprs F os (by simpa [wfObj] using hw)
  | .map ks os, d, x, hw, h => by
    simp only [objIface, Option.some.injEq, Prod.mk.injEq] at h
    obtain ⟨rfl, rfl⟩ := h
    simp only [repr, under, decide_true, Bool.true_and]
    exact ifaceElems_reprs F os (by simpa [wfObj] using hw)
  | .proxy pty pv, d, x, hw, h => by
    simp only [objIface, Option.some.injEq, Prod.mk.injEq] at h
    obtain ⟨rfl, rfl⟩ := h
    exact proxy_repr F _ _ (by simpa [wfObj] using hw)
theorem ifaceElems_reprs (F : FOps) : ∀ os : Objs, wfObjs os = true →
    reprs F .iface (ifaceElems os) os = true
  | .nil, _ => by simp [ifaceElems, reprs]
  | .cons o r, hw => by
    simp only [wfObjs, Bool.and_eq_true] at hw
    have ih := ifaceElems_reprs F r hw.2
    simp only [ifaceElems, reprs, ih, Bool.and_true]
    cases h : objIface o with
    | none =>
      have := objIface_none o h
      subst this
      simp [repr, under]
    | some p =>
      obtain ⟨d, x⟩ := p
      have hne : o ≠ .nil := by
        intro e; subst e; simp [objIface] at h
      simp [repr, isIfaceKind, under, hne, objIface_repr F o d x hw.1 h]
end

/-! ### converter selection -/

theorem isStructKind_cases (ty : GoTy) (h : isStructKind ty = true) :
    (∃ fs, under ty = .struct fs) ∨ under ty = .time := by
  unfold isStructKind at h
  split at h
  · rename_i fs hu; exact Or.inl ⟨fs, hu⟩
  · rename_i hu; exact Or.inr hu
  · cases h

theorem sel_structKind (m : Mode) (ty : GoTy) (h : isStructKind ty = true) (ht : ty ≠ .time) :
    sel m ty = .structV := by
  have hne8 : ty ≠ .uint .w8 := by intro e; subst e; simp [isStructKind, under] at h
  have hsc : isScalarKind ty = false := by
    rcases isStructKind_cases ty h with ⟨fs, hu⟩ | hu <;> simp [isScalarKind, hu]
  have h1 : ty ≠ .slice (.uint .w8) := by intro e; subst e; simp [isStructKind, under] at h
  have h2 : ty ≠ .slice .f64 := by intro e; subst e; simp [isStructKind, under] at h
  unfold sel getSel
  rcases isStructKind_cases ty h with ⟨fs, hu⟩ | hu <;> simp [hne8, hsc, ht, h1, h2, hu]

theorem sel_time (m : Mode) : sel m .time = .time := by
  cases m <;> simp [sel, getSel, isScalarKind, under]

theorem sel_ptr_struct (m : Mode) (t : GoTy) (h : isStructKind t = true) :
    sel m (.ptr t) = .structP := by
  cases m <;> simp [sel, getSel, isScalarKind, under, h]

theorem sel_ptr_other (m : Mode) (t : GoTy) (h : isStructKind t = false) :
    sel m (.ptr t) = .pointer t := by
  cases m <;> simp [sel, getSel, isScalarKind, under, h]

theorem sel_iface (m : Mode) : sel m .iface = .dyn := by
  cases m <;> simp [sel, getSel, isScalarKind, under]

theorem sel_array (m : Mode) (n : Nat) (t : GoTy) : sel m (.array n t) = .array n t := by
  cases m <;> simp [sel, getSel, isScalarKind, under]

theorem sel_map (m : Mode) (t : GoTy) : sel m (.mapStr t) = .map t := by
  cases m <;> simp [sel, getSel, isScalarKind, under]

theorem sel_slice (m : Mode) (t : GoTy) :
    sel m (.slice t) = if t = .uint .w8 then .bytes else if t = .f64 then .floats else .slice t := by
  by_cases h1 : t = .uint .w8
  · subst h1; cases m <;> simp [sel, getSel, isScalarKind, under]
  · by_cases h2 : t = .f64
    · subst h2; cases m <;> simp [sel, getSel, isScalarKind, under]
    · cases m <;> simp [sel, getSel, isScalarKind, under, h1, h2]

/-- what the choice of a converter says about the type it was chosen for -/
def selSpec (ty : GoTy) : Sel → Prop
  | .scalar => isScalarKind ty = true
  | .byte => ty = .uint .w8
  | .time => ty = .time
  | .bytes => ty = .slice (.uint .w8)
  | .floats => ty = .slice .f64
  | .structV => isStructKind ty = true ∧ ty ≠ .time
  | .structP => ∃ t, under ty = .ptr t ∧ isStructKind t = true
  | .pointer t => under ty = .ptr t ∧ isStructKind t = false
  | .slice t => under ty = .slice t
  | .array n t => under ty = .array n t
  | .map t => under ty = .mapStr t
  | .dyn => under ty = .iface
  | .unsupported => True

/-- `sel` read backwards, branch by branch of its definition -/
theorem sel_spec (m : Mode) (ty : GoTy) : selSpec ty (sel m ty) := by
  unfold sel
  by_cases hb : m = .create ∧ ty = .uint .w8
  · rw [if_pos hb]; exact hb.2
  rw [if_neg hb]; unfold getSel
  by_cases h1 : isScalarKind ty = true
  · rw [if_pos h1]; exact h1
  rw [if_neg h1]
  by_cases h2 : ty = .time
  · rw [if_pos h2]; exact h2
  rw [if_neg h2]
  by_cases h3 : ty = .slice (.uint .w8)
  · rw [if_pos h3]; exact h3
  rw [if_neg h3]
  by_cases h4 : ty = .slice .f64
  · rw [if_pos h4]; exact h4
  rw [if_neg h4]
  cases hu : under ty with
  | struct fs => exact ⟨by simp [isStructKind, hu], h2⟩
  | time => exact ⟨by simp [isStructKind, hu], h2⟩
  | ptr t =>
    show selSpec ty (if isStructKind t = true then .structP else .pointer t)
    cases hs : isStructKind t with
    | false => exact (⟨hu, hs⟩ : under ty = .ptr t ∧ isStructKind t = false)
    | true => exact (⟨t, hu, hs⟩ : ∃ t, under ty = .ptr t ∧ isStructKind t = true)
  | _ => first | exact hu | trivial

theorem sel_inv {m : Mode} {ty : GoTy} {s : Sel} (h : sel m ty = s) : selSpec ty s := h ▸ sel_spec m ty

/-! ### pointer lifting -/

theorem peel_fst_zero (ty : GoTy) (h : (peel ty).1 = 0) : (peel ty).2 = ty := by
  cases ty with
  | ptr t =>
    unfold peel at h ⊢
    by_cases hs : isStructKind t = true
    · simp [hs]
    · simp [hs] at h
  | _ => rfl

theorem peel_ptr_struct (t : GoTy) (h : isStructKind t = true) : peel (.ptr t) = (0, .ptr t) := by
  simp [peel, h]

theorem peel_ptr_other (t : GoTy) (h : isStructKind t = false) :
    peel (.ptr t) = ((peel t).1 + 1, (peel t).2) := by
  simp [peel, h]

theorem baseMode_create (k : Nat) : baseMode .create k = .create := by
  unfold baseMode; split <;> rfl

/-- one more pointer layer around the result of a conversion -/
def ptrStep : Outcome Dyn → Outcome Dyn
  | .ok none => .panic
  | .ok (some (d, x)) => .ok (some (.ptr d, .ptr x))
  | .error => .error
  | .panic => .panic

theorem liftPtr_succ (k : Nat) (o : Obj) (r : Outcome Dyn) (ho : o ≠ .nil) :
    liftPtr (k + 1) o r = ptrStep (liftPtr k o r) := by
  have hl : ∀ j, liftPtr (j + 1) o r = match r with
      | .ok none => .panic
      | .ok (some (d, x)) => .ok (some (ptrTyN (j + 1) d, ptrN (j + 1) x))
      | .error => .error
      | .panic => .panic := by
    intro j; unfold liftPtr
    cases o <;> first | exact absurd rfl ho | rfl
  cases k with
  | zero =>
    rw [hl]
    show _ = ptrStep r
    rcases r with (_ | ⟨d, x⟩) | _ | _ <;> rfl
  | succ k =>
    rw [hl, hl]
    rcases r with (_ | ⟨d, x⟩) | _ | _ <;> rfl
theorem liftPtr_nil (k : Nat) (r : Outcome Dyn) : liftPtr (k + 1) .nil r = .ok none := by
  simp [liftPtr]


/-! ### the round-trip invariant, by mutual structural recursion on the Go value -/

/-- What the round-trip theorem establishes for one crossing: `From` is an error, or it gives an
    object that represents the value and from which `To` recovers the value (the untyped nil for a
    nil pointer / interface, else a value of exactly the slot's type). -/

def Good (F : FOps) (m : Mode) (ty : GoTy) (v : GoVal) : Prop :=
  fromGo F m ty v = .error ∨
  ∃ o, fromGo F m ty v = .ok o ∧ wfObj o = true ∧ repr F ty v o = true ∧
    ((o = .nil ∧ toGo F m ty o = .ok none ∧ v = .nilv) ∨
     (o ≠ .nil ∧ ∃ d x, toGo F m ty o = .ok (some (d, x)) ∧ (d = ty ∨ isIfaceKind ty = true) ∧
        repr F ty (store ty d x) o = true ∧ (mentionsIface ty = false → store ty d x = v)))

theorem tyGuards_nil (ty : GoTy) (h : tyGuards ty = []) : namedBad ty = false ∧ ptrIfaceBad ty = false := by
  unfold tyGuards at h
  cases h1 : namedBad ty <;> cases h2 : ptrIfaceBad ty <;> simp_all

theorem toGo_base (F : FOps) (m : Mode) (ty : GoTy) (o : Obj) (hc : convOK ty = true)
    (hk : (peel ty).1 = 0) : toGo F m ty o = toBase F m ty o := by
  unfold toGo
  simp only [hc, Bool.true_eq_false, if_false, hk, peel_fst_zero ty hk, liftPtr, baseMode, if_true]

/-- a type whose underlying type is not a pointer has no pointer layer to peel -/
theorem peel_under_leaf (ty : GoTy) (h : ∀ t, under ty ≠ .ptr t) : (peel ty).1 = 0 := by
  cases ty with
  | ptr t => exact absurd rfl (h t)
  | _ => rfl

/-- a leaf value whose `To` gives back the same type and value -/
theorem good_leaf (F : FOps) (m : Mode) (ty : GoTy) (v : GoVal) (o : Obj)
    (hk : (peel ty).1 = 0) (hc : convOK ty = true) (hi : isIfaceKind ty = false)
    (h1 : fromGo F m ty v = .ok o) (hw : wfObj o = true) (h2 : repr F ty v o = true) (h3 : o ≠ .nil)
    (h4 : toBase F m ty o = .ok (some (ty, v))) : Good F m ty v := by
  right
  refine ⟨o, h1, hw, h2, Or.inr ⟨h3, ty, v, ?_, Or.inl rfl, ?_, ?_⟩⟩
  · rw [toGo_base F m ty o hc hk, h4]
  · simpa [store, hi] using h2
  · intro _; simp [store, hi]

theorem good_bool (F : FOps) (m : Mode) (ty : GoTy) (b : Bool) (hc : convOK ty = true)
    (ht : hasTy ty (.bool b) = true) : Good F m ty (.bool b) := by
  simp only [hasTy, decide_eq_true_eq] at ht
  have hsel : sel m ty = .scalar :=
    sel_scalar m ty (by simp [isScalarKind, ht]) (by rintro ⟨_, rfl⟩; simp [under] at ht)
  apply good_leaf F m _ _ (.bool b) (peel_under_leaf ty (by simp [ht])) hc (by simp [isIfaceKind, ht])
  · simp [fromGo, hc, fromLeaf, hsel, ht, scalarFrom]
  · rfl
  · simp [repr, ht]
  · simp
  · simp [toBase, toLeaf, hsel, scalarTo, ht]

theorem good_str (F : FOps) (m : Mode) (ty : GoTy) (s : List Nat) (hc : convOK ty = true)
    (ht : hasTy ty (.str s) = true) : Good F m ty (.str s) := by
  simp only [hasTy, decide_eq_true_eq] at ht
  have hsel : sel m ty = .scalar :=
    sel_scalar m ty (by simp [isScalarKind, ht]) (by rintro ⟨_, rfl⟩; simp [under] at ht)
  apply good_leaf F m _ _ (.str s) (peel_under_leaf ty (by simp [ht])) hc (by simp [isIfaceKind, ht])
  · simp [fromGo, hc, fromLeaf, hsel, ht, scalarFrom]
  · rfl
  · simp [repr, ht]
  · simp
  · simp [toBase, toLeaf, hsel, scalarTo, ht]

theorem good_float (F : FOps) (hF : ∀ b, F.narrow (F.widen b) = b) (m : Mode) (ty : GoTy) (b : Nat)
    (hc : convOK ty = true) (ht : hasTy ty (.float b) = true) :
    Good F m ty (.float b) := by
  unfold hasTy at ht
  cases hu : under ty with
  | f32 =>
    have hsel : sel m ty = .scalar :=
      sel_scalar m ty (by simp [isScalarKind, hu]) (by rintro ⟨_, rfl⟩; simp [under] at hu)
    apply good_leaf F m _ _ (.float (F.widen b)) (peel_under_leaf ty (by simp [hu])) hc (by simp [isIfaceKind, hu])
    · simp [fromGo, hc, fromLeaf, hsel, hu, scalarFrom]
    · rfl
    · simp [repr, hu, f32Is]
    · simp
    · simp [toBase, toLeaf, hsel, scalarTo, hu, hF]
  | f64 =>
    have hsel : sel m ty = .scalar :=
      sel_scalar m ty (by simp [isScalarKind, hu]) (by rintro ⟨_, rfl⟩; simp [under] at hu)
    apply good_leaf F m _ _ (.float b) (peel_under_leaf ty (by simp [hu])) hc (by simp [isIfaceKind, hu])
    · simp [fromGo, hc, fromLeaf, hsel, hu, scalarFrom]
    · rfl
    · simp [repr, hu, f64Is]
    · simp
    · simp [toBase, toLeaf, hsel, scalarTo, hu]
  | _ => simp [hu] at ht

theorem good_int (F : FOps) (m : Mode) (ty : GoTy) (i : Int)
    (hc : convOK ty = true) (ht : hasTy ty (.int i) = true) :
    Good F m ty (.int i) := by
  unfold hasTy at ht
  cases hu : under ty with
  | int w =>
    simp only [hu] at ht
    have hsel : sel m ty = .scalar :=
      sel_scalar m ty (by simp [isScalarKind, hu]) (by rintro ⟨_, rfl⟩; simp [under] at hu)
    apply good_leaf F m _ _ (.int i) (peel_under_leaf ty (by simp [hu])) hc (by simp [isIfaceKind, hu])
    · simp [fromGo, hc, fromLeaf, hsel, hu, scalarFrom]
    · rfl
    · simp [repr, hu, numIs]
    · simp
    · simp [toBase, toLeaf, hsel, scalarTo, hu, ht]
  | uint w =>
    simp only [hu] at ht
    have hnn : 0 ≤ i := by
      unfold inRangeU at ht; exact (of_decide_eq_true ht).1
    by_cases hb : m = .create ∧ ty = .uint .w8
    · obtain ⟨rfl, rfl⟩ := hb
      simp only [under, GoTy.uint.injEq] at hu
      subst hu
      apply good_leaf F _ _ _ (.byte i.toNat) rfl hc rfl
      · simp [fromGo, convOK, fromLeaf, sel, byteFrom]
      · rfl
      · simp [repr, under, numIs, Int.toNat_of_nonneg hnn]
      · simp
      · simp [toBase, toLeaf, sel, scalarTo, under, Int.toNat_of_nonneg hnn, ht]
    · have hsel : sel m ty = .scalar := sel_scalar m ty (by simp [isScalarKind, hu]) hb
      -- an unsigned value ≥ 2⁶³ is rejected by `From` (it used to wrap: C08_fixed_uint64_wrapped)
      by_cases hge : i ≥ two63
      · left
        simp [fromGo, hc, fromLeaf, hsel, hu, scalarFrom, hge]
      · apply good_leaf F m _ _ (.int i) (peel_under_leaf ty (by simp [hu])) hc (by simp [isIfaceKind, hu])
        · simp [fromGo, hc, fromLeaf, hsel, hu, scalarFrom, hge]
        · rfl
        · simp [repr, hu, numIs]
        · simp
        · simp [toBase, toLeaf, hsel, scalarTo, hu, ht]
  | _ => simp [hu] at ht


theorem peel_structKind (ty : GoTy) (h : isStructKind ty = true) : (peel ty).1 = 0 := by
  cases ty with
  | ptr t => simp [isStructKind, under] at h
  | _ => rfl

theorem isIface_of_struct (ty : GoTy) (h : isStructKind ty = true) : isIfaceKind ty = false := by
  rcases isStructKind_cases ty h with ⟨fs, hu⟩ | hu <;> simp [isIfaceKind, hu]

/-- struct values (and declared types over time.Time) become proxies of a copy -/
theorem good_structV (F : FOps) (m : Mode) (ty : GoTy) (v : GoVal) (hc : convOK ty = true)
    (hs : isStructKind ty = true) (hne : ty ≠ .time)
    (hv : (∃ xs, v = .struct xs) ∨ (∃ t, v = .time t)) : Good F m ty v := by
  have hsel := sel_structKind m ty hs hne
  have hk := peel_structKind ty hs
  apply good_leaf F m ty v (.proxy (.ptr ty) (.ptr v)) hk hc (isIface_of_struct ty hs)
  · rcases hv with ⟨xs, rfl⟩ | ⟨t, rfl⟩ <;> simp [fromGo, hc, fromLeaf, hsel]
  · simp [wfObj, proxyWf, under, hs]
  · rcases hv with ⟨xs, rfl⟩ | ⟨t, rfl⟩ <;> simp [repr, hs, hne]
  · simp
  · simp [toBase, hsel]

theorem good_time (F : FOps) (m : Mode) (ty : GoTy) (t : Int) (hc : convOK ty = true)
    (ht : hasTy ty (.time t) = true) : Good F m ty (.time t) := by
  simp only [hasTy, decide_eq_true_eq] at ht
  have hs : isStructKind ty = true := by simp [isStructKind, ht]
  by_cases hty : ty = .time
  · subst hty
    apply good_leaf F m _ _ (.time t) rfl hc rfl
    · simp [fromGo, convOK, fromLeaf, sel_time, timeFrom]
    · rfl
    · simp [repr]
    · simp
    · simp [toBase, toLeaf, sel_time]
  · exact good_structV F m ty _ hc hs hty (Or.inr ⟨t, rfl⟩)

theorem good_struct (F : FOps) (m : Mode) (ty : GoTy) (xs : Vals) (hc : convOK ty = true)
    (ht : hasTy ty (.struct xs) = true) : Good F m ty (.struct xs) := by
  have hs : isStructKind ty = true := by
    unfold hasTy at ht; unfold isStructKind
    split at ht <;> simp_all
  have hne : ty ≠ .time := by
    intro e; subst e; simp [hasTy, under] at ht
  exact good_structV F m ty _ hc hs hne (Or.inl ⟨xs, rfl⟩)

/-- the converter of `*t` (no pointer to a struct) on an object other than `nil`: the converter of
    `t`, and one more pointer layer -/
theorem toGo_ptr (F : FOps) (m : Mode) (t : GoTy) (o : Obj)
    (hc : convOK t = true) (hs : isStructKind t = false) (ho : o ≠ .nil) :
    toGo F m (.ptr t) o = ptrStep (toGo F .create t o) := by
  unfold toGo
  have hc' : convOK (.ptr t) = true := by simpa [convOK] using hc
  simp only [hc, hc', Bool.true_eq_false, if_false, baseMode_create]
  rw [peel_ptr_other t hs]
  have hb : baseMode m ((peel t).1 + 1) = .create := by simp [baseMode]
  simp only [hb]
  exact liftPtr_succ _ o _ ho

theorem toGo_ptr_nil (F : FOps) (m : Mode) (t : GoTy)
    (hc : convOK t = true) (hs : isStructKind t = false) :
    toGo F m (.ptr t) .nil = .ok none := by
  unfold toGo
  have hc' : convOK (.ptr t) = true := by simpa [convOK] using hc
  simp only [hc', Bool.true_eq_false, if_false]
  rw [peel_ptr_other t hs]
  exact liftPtr_nil _ _

theorem toBase_dyn (F : FOps) (m : Mode) (b : GoTy) (o : Obj) (h : sel m b = .dyn) :
    toBase F m b o = .ok (objIface o) := by
  cases o <;> simp [toBase, toLeaf, h, objIface]

/-- `From` gives the script's nil for a nil pointer / nil interface only -/
theorem fromGo_nilv (F : FOps) (t : GoTy) (h : fromGo F .create t .nilv = .ok .nil) :
    nilable t = true := by
  unfold fromGo at h
  unfold nilable
  split at h
  · cases h
  · cases hs : sel .create t <;> simp [hs] at h ⊢

theorem assignable_of (t d : GoTy) (h : d = t ∨ isIfaceKind t = true) : assignable t d = true := by
  unfold assignable
  rcases h with rfl | h
  · simp
  · simp [h]

theorem toGo_unfold (F : FOps) (m : Mode) (t : GoTy) (o : Obj) (hc : convOK t = true) :
    toGo F m t o = liftPtr (peel t).1 o (toBase F (baseMode m (peel t).1) (peel t).2 o) := by
  simp [toGo, hc]


theorem reprs_length (F : FOps) (t : GoTy) : ∀ (xs : Vals) (os : Objs),
    reprs F t xs os = true → os.length = xs.length
  | .nil, .nil, _ => rfl
  | .cons _ r, .cons _ os, h => by
    simp only [reprs, Bool.and_eq_true] at h
    simp [Objs.length, Vals.length, reprs_length F t r os h.2]
  | .nil, .cons _ _, h => by simp [reprs] at h
  | .cons _ _, .nil, h => by simp [reprs] at h

/-- what the theorem establishes for the elements of a slice / array / map -/
def GoodVals (F : FOps) (t : GoTy) (xs : Vals) : Prop :=
  fromVals F t xs = .error ∨
  ∃ os, fromVals F t xs = .ok os ∧ wfObjs os = true ∧ reprs F t xs os = true ∧
    ∃ xs', toElems F t os = .ok xs' ∧ reprs F t xs' os = true ∧ (mentionsIface t = false → xs' = xs) ∧
      toArr F t xs.length os = .ok xs' ∧
      (∀ ks : List (List Nat), ks.length = xs.length → toMap F t ks os = .ok (ks, xs'))

theorem tyGuards_sub (ty t : GoTy) (h : tyGuards ty = [])
    (h1 : namedBad ty = namedBad t) (h2 : ptrIfaceBad ty = ptrIfaceBad t) : tyGuards t = [] := by
  unfold tyGuards at h ⊢
  rw [← h1, ← h2]; exact h

theorem good_nilv (F : FOps) (m : Mode) (ty : GoTy) (hc : convOK ty = true)
    (ht : hasTy ty .nilv = true) (hg : tyGuards ty = []) : Good F m ty .nilv := by
  obtain ⟨hn, _⟩ := tyGuards_nil ty hg
  rcases hasTy_nilv_inv ht with ⟨t, hu⟩ | hu | hu <;> obtain rfl := eq_of_under hn hu rfl rfl
  · by_cases hst : isStructKind t = true
    · apply good_leaf F m _ _ (.proxy (.ptr t) .nilv) (by simp [peel_ptr_struct t hst]) hc rfl
      · simp [fromGo, hc, sel_ptr_struct m t hst]
      · simp [wfObj, proxyWf, under, hst]
      · simp [repr, under, hst]
      · simp
      · simp [toBase, sel_ptr_struct m t hst]
    · have hst' : isStructKind t = false := by simpa using hst
      right
      refine ⟨.nil, by simp [fromGo, hc, sel_ptr_other m t hst'], rfl, by simp [repr, under, hst'], Or.inl ⟨rfl, ?_, rfl⟩⟩
      exact toGo_ptr_nil F m t (by simpa [convOK] using hc) hst'
  · right
    refine ⟨.nil, by simp [fromGo, hc, sel_iface], rfl, by simp [repr, under], Or.inl ⟨rfl, ?_, rfl⟩⟩
    rw [toGo_base F m _ _ hc rfl, toBase_dyn F m _ _ (sel_iface m)]; rfl
  · simp [convOK] at hc

mutual
theorem good_val (F : FOps) (hF : ∀ b, F.narrow (F.widen b) = b) :
    ∀ (v : GoVal) (m : Mode) (ty : GoTy), convOK ty = true → hasTy ty v = true →
      tyGuards ty = [] → valGuards m ty v = [] → Good F m ty v
  | .bool b => fun m ty hc ht _ _ => good_bool F m ty b hc ht
  | .int i => fun m ty hc ht _ _ => good_int F m ty i hc ht
  | .float b => fun m ty hc ht _ _ => good_float F hF m ty b hc ht
  | .str s => fun m ty hc ht _ _ => good_str F m ty s hc ht
  | .time t => fun m ty hc ht _ _ => good_time F m ty t hc ht
  | .struct xs => fun m ty hc ht _ _ => good_struct F m ty xs hc ht
  | .nilv => fun m ty hc ht hg _ => good_nilv F m ty hc ht hg
  | .ptr x => fun m ty hc ht hg hv => by
    obtain ⟨hn, hpi⟩ := tyGuards_nil ty hg
    obtain ⟨t, hu, htx⟩ := hasTy_ptr_inv ht
    obtain rfl := eq_of_under hn hu rfl rfl
    by_cases hst : isStructKind t = true
    · apply good_leaf F m _ _ (.proxy (.ptr t) (.ptr x)) (by simp [peel_ptr_struct t hst]) hc rfl
      · simp [fromGo, hc, sel_ptr_struct m t hst]
      · simp [wfObj, proxyWf, under, hst]
      · simp [repr, under, hst]
      · simp
      · simp [toBase, sel_ptr_struct m t hst]
    · have hst' : isStructKind t = false := by simpa using hst
      have hct : convOK t = true := by simpa [convOK] using hc
      have hsel := sel_ptr_other m t hst'
      simp only [ptrIfaceBad, Bool.or_eq_false_iff] at hpi
      have hgt : tyGuards t = [] := by
        unfold tyGuards; simp [show namedBad t = false by simpa [namedBad] using hn, hpi.2]
      unfold valGuards at hv
      simp only [hsel] at hv
      obtain ⟨hv1, hv2⟩ := List.append_eq_nil_iff.mp hv
      have ih := good_val F hF x .create t hct htx hgt hv2
      have hfrom : fromGo F m (.ptr t) (.ptr x) = fromGo F .create t x := by
        simp [fromGo, hc, hsel]
      rcases ih with he | ⟨o, h1, hw, h2, h3⟩
      · left; rw [hfrom, he]
      · right
        rcases h3 with ⟨rfl, _, rfl⟩ | ⟨hne, d, x', h4, h5, h6, h7⟩
        · have := fromGo_nilv F t h1
          simp [isNil, this] at hv1
        · have hd : d = t := by
            rcases h5 with h | h
            · exact h
            · rw [hpi.1] at h; cases h
          subst hd
          have hst2 : store d d x' = x' := by simp [store, hpi.1]
          rw [hst2] at h6 h7
          refine ⟨o, by rw [hfrom, h1], hw, by simp [repr, under, hst', hne, h2], Or.inr ⟨hne, .ptr d, .ptr x', by rw [toGo_ptr F m d o hct hst' hne, h4]; rfl, Or.inl rfl, ?_, ?_⟩⟩
          · simp [store, isIfaceKind, under, repr, hst', hne, h6]
          · intro hm
            simp only [mentionsIface] at hm
            simp [store, isIfaceKind, under, h7 hm]
  | .iface d x => fun m ty hc ht hg hv => by
    obtain ⟨hn, _⟩ := tyGuards_nil ty hg
    simp only [hasTy, Bool.and_eq_true, Bool.not_eq_true'] at ht
    obtain ⟨⟨hi, hdi⟩, htx⟩ := ht
    obtain rfl := eq_of_under hn (isIfaceKind_inv hi) rfl rfl
    have hfrom : fromGo F m .iface (.iface d x) = fromGo F .create d x := by
      simp [fromGo, convOK, sel_iface]
    by_cases hcd : convOK d = true
    · unfold valGuards at hv
      obtain ⟨hv1, hv23⟩ := List.append_eq_nil_iff.mp hv
      have ⟨hva, hvb⟩ := List.append_eq_nil_iff.mp hv1
      have ih := good_val F hF x .create d hcd htx hva hv23
      rcases ih with he | ⟨o, h1, hw, h2, h3⟩
      · left; rw [hfrom, he]
      · right
        have hne : o ≠ .nil := by
          rcases h3 with ⟨rfl, _, rfl⟩ | ⟨hne, _⟩
          · have := fromGo_nilv F d h1
            simp [isNil, this] at hvb
          · exact hne
        cases hoi : objIface o with
        | none => exact absurd (objIface_none o hoi) hne
        | some p =>
          obtain ⟨d', x'⟩ := p
          refine ⟨o, by rw [hfrom, h1], hw, by simp [repr, isIfaceKind, under, hne, h2], Or.inr ⟨hne, d', x', ?_, Or.inr rfl, ?_, ?_⟩⟩
          · rw [toGo_base F m _ _ rfl rfl, toBase_dyn F m _ _ (sel_iface m), hoi]
          · simp [store, isIfaceKind, under, repr, hne, objIface_repr F o d' x' hw hoi]
          · intro hm; simp [mentionsIface] at hm
    · left
      rw [hfrom]
      unfold fromGo
      simp [hcd]
  | .seq xs => fun m ty hc ht hg hv => by
    obtain ⟨hn, hpi⟩ := tyGuards_nil ty hg
    rcases hasTy_seq_inv ht with ⟨t, hu, hts⟩ | ⟨n, t, hu, hts, hlen⟩ <;> obtain rfl := eq_of_under hn hu rfl rfl
    · have hct : convOK t = true := by simpa [convOK] using hc
      by_cases h8 : t = .uint .w8
      · subst h8
        obtain ⟨ns, hp1, hp2⟩ := bytes_payload xs hts
        have hsel : sel m (.slice (.uint .w8)) = .bytes := by simp [sel_slice]
        apply good_leaf F m _ _ (.bytes ns) rfl hc rfl
        · simp [fromGo, convOK, hsel, hp1]
        · rfl
        · simp [repr, under, hp1]
        · simp
        · simp [toBase, toLeaf, hsel, hp2]
      · by_cases h64 : t = .f64
        · subst h64
          obtain ⟨ns, hp1, hp2⟩ := floats_payload xs hts
          have hsel : sel m (.slice .f64) = .floats := by simp [sel_slice]
          apply good_leaf F m _ _ (.floats ns) rfl hc rfl
          · simp [fromGo, convOK, hsel, hp1]
          · rfl
          · simp [repr, under, hp1]
          · simp
          · simp [toBase, toLeaf, hsel, hp2]
        · have hsel : sel m (.slice t) = .slice t := by simp [sel_slice, h8, h64]
          have hgt : tyGuards t = [] :=
            tyGuards_sub _ t hg (by simp [namedBad]) (by simp [ptrIfaceBad])
          unfold valGuards at hv
          simp only [hsel] at hv
          have ih := good_vals F hF xs t hct hts hgt hv
          have hfrom : fromGo F m (.slice t) (.seq xs) = (fromVals F t xs).map .list := by
            simp [fromGo, hc, hsel]
          rcases ih with he | ⟨os, h1, hw, h2, xs', h3, h4, h5, _, _⟩
          · left; rw [hfrom, he]; rfl
          · right
            refine ⟨.list os, by rw [hfrom, h1]; rfl, by simpa [wfObj] using hw, by simp [repr, under, h2], Or.inr ⟨by simp, .slice t, .seq xs', ?_, Or.inl rfl, ?_, ?_⟩⟩
            · rw [toGo_base F m _ _ hc rfl]; simp [toBase, hsel, h3]
            · simp [store, isIfaceKind, under, repr, h4]
            · intro hm; simp only [mentionsIface] at hm; simp [store, isIfaceKind, under, h5 hm]
    · have hct : convOK t = true := by simpa [convOK] using hc
      have hsel := sel_array m n t
      have hgt : tyGuards t = [] :=
        tyGuards_sub _ t hg (by simp [namedBad]) (by simp [ptrIfaceBad])
      unfold valGuards at hv
      simp only [hsel] at hv
      have ih := good_vals F hF xs t hct hts hgt hv
      have hfrom : fromGo F m (.array n t) (.seq xs) = (fromVals F t xs).map .list := by
        simp [fromGo, hc, hsel]
      rcases ih with he | ⟨os, h1, hw, h2, xs', _, h4, h5, h6, _⟩
      · left; rw [hfrom, he]; rfl
      · right
        refine ⟨.list os, by rw [hfrom, h1]; rfl, by simpa [wfObj] using hw, by simp [repr, under, h2], Or.inr ⟨by simp, .array n t, .seq xs', ?_, Or.inl rfl, ?_, ?_⟩⟩
        · have hle : ¬ os.length > n := by
            have := reprs_length F t xs os h2
            omega
          rw [toGo_base F m _ _ hc rfl]; rw [hlen] at h6; simp [toBase, hsel, h6, hle]
        · simp [store, isIfaceKind, under, repr, h4]
        · intro hm; simp only [mentionsIface] at hm; simp [store, isIfaceKind, under, h5 hm]
  | .map ks xs => fun m ty hc ht hg hv => by
    obtain ⟨hn, hpi⟩ := tyGuards_nil ty hg
    obtain ⟨t, hu, hts, hlen⟩ := hasTy_map_inv ht
    obtain rfl := eq_of_under hn hu rfl rfl
    have hct : convOK t = true := by simpa [convOK] using hc
    have hsel := sel_map m t
    have hgt : tyGuards t = [] :=
      tyGuards_sub _ t hg (by simp [namedBad]) (by simp [ptrIfaceBad])
    unfold valGuards at hv
    simp only [hsel] at hv
    have ih := good_vals F hF xs t hct hts hgt hv
    have hfrom : fromGo F m (.mapStr t) (.map ks xs) = (fromVals F t xs).map (.map ks) := by
      simp [fromGo, hc, hsel]
    rcases ih with he | ⟨os, h1, hw, h2, xs', _, h4, h5, _, h7⟩
    · left; rw [hfrom, he]; rfl
    · right
      refine ⟨.map ks os, by rw [hfrom, h1]; rfl, by simpa [wfObj] using hw, by simp [repr, under, h2], Or.inr ⟨by simp, .mapStr t, .map ks xs', ?_, Or.inl rfl, ?_, ?_⟩⟩
      · rw [toGo_base F m _ _ hc rfl]; simp [toBase, hsel, h7 ks hlen]
      · simp [store, isIfaceKind, under, repr, h4]
      · intro hm; simp only [mentionsIface] at hm; simp [store, isIfaceKind, under, h5 hm]
theorem good_vals (F : FOps) (hF : ∀ b, F.narrow (F.widen b) = b) :
    ∀ (xs : Vals) (t : GoTy), convOK t = true → hasTys t xs = true → tyGuards t = [] →
      elemGuards t xs = [] → GoodVals F t xs
  | .nil => fun t _ _ _ _ => by
    right
    refine ⟨.nil, rfl, rfl, rfl, .nil, rfl, rfl, fun _ => rfl, rfl, ?_⟩
    intro ks hks
    cases ks with
    | nil => rfl
    | cons k r => simp [Vals.length] at hks
  | .cons x r => fun t hc ht hg hv => by
    simp only [hasTys, Bool.and_eq_true] at ht
    unfold elemGuards at hv
    obtain ⟨hv12, hv3⟩ := List.append_eq_nil_iff.mp hv
    obtain ⟨hv1, hv2⟩ := List.append_eq_nil_iff.mp hv12
    have ihx := good_val F hF x .create t hc ht.1 hg hv2
    have ihr := good_vals F hF r t hc ht.2 hg hv3
    rcases ihx with he | ⟨o, h1, hw, h2, h3⟩
    · left; simp [fromVals, he]
    · rcases ihr with he | ⟨os, g1, gw, g2, xs', g3, g4, g5, g6, g7⟩
      · left; simp [fromVals, h1, he]
      · right
        rcases h3 with ⟨rfl, _, rfl⟩ | ⟨hne, d, x', h4, h5, h6, h7⟩
        · have := fromGo_nilv F t h1
          simp [isNil, this] at hv1
        · have hto := toGo_unfold F .create t o hc
          rw [h4] at hto
          have hput : putElem t (some (d, x')) = .ok (store t d x') := by
            simp [putElem, assignable_of t d h5]
          refine ⟨.cons o os, by simp [fromVals, h1, g1], by simp [wfObjs, hw, gw], by simp [reprs, h2, g2], .cons (store t d x') xs', ?_, by simp [reprs, h6, g4], ?_, ?_, ?_⟩
          · simp [toElems, ← hto, hput, g3]
          · intro hm; rw [h7 hm, g5 hm]
          · simp [toArr, Vals.length, ← hto, hput, g6]
          · intro ks hks
            cases ks with
            | nil => simp [Vals.length] at hks
            | cons k ks' =>
              simp only [List.length_cons, Vals.length, Nat.add_right_cancel_iff] at hks
              simp [toMap, ← hto, assignable_of t d h5, g7 ks' hks]
end


/-! ### script → Go -/

theorem wfW_wfObj : ∀ o : Obj, wfW o = true → wfObj o = true
  | .proxy pty pv, h => by simp only [wfW, Bool.and_eq_true] at h; simpa [wfObj] using h.1
  | .list os, h => by simp only [wfW] at h; simpa [wfObj] using wfWs_wfObjs os h
  | .map ks os, h => by
    simp only [wfW, Bool.and_eq_true] at h; simpa [wfObj] using wfWs_wfObjs os h.2
  | .nil, _ | .bool _, _ | .int _, _ | .float _, _ | .byte _, _ | .str _, _ | .bytes _, _
  | .floats _, _ | .time _, _ => rfl
where wfWs_wfObjs : ∀ os : Objs, wfWs os = true → wfObjs os = true
  | .nil, _ => rfl
  | .cons o r, h => by
    simp only [wfWs, Bool.and_eq_true] at h
    simp [wfObjs, wfW_wfObj o h.1, wfWs_wfObjs r h.2]

def baseNil (m : Mode) (b : GoTy) : Prop :=
  (∃ t, sel m b = .slice t) ∨ (∃ t, sel m b = .map t) ∨ sel m b = .dyn

/-- what the write theorem establishes for `To` of a non-pointer converter -/
def BaseGood (F : FOps) (m : Mode) (b : GoTy) (o : Obj) : Prop :=
  toBase F m b o = .error ∨
  (o = .nil ∧ toBase F m b o = .ok none ∧ baseNil m b) ∨
  (o ≠ .nil ∧ ∃ d x, toBase F m b o = .ok (some (d, x)) ∧ (d = b ∨ isIfaceKind b = true) ∧
      repr F b (store b d x) o = true)

/-- the same for the converter of any type, pointer layers included -/
def WGood (F : FOps) (m : Mode) (ty : GoTy) (o : Obj) : Prop :=
  toGo F m ty o = .error ∨
  (o = .nil ∧ toGo F m ty o = .ok none ∧ repr F ty (zero ty) .nil = true ∧ (m = .create → nilTo ty = true)) ∨
  (o ≠ .nil ∧ ∃ d x, toGo F m ty o = .ok (some (d, x)) ∧ (d = ty ∨ isIfaceKind ty = true) ∧
      repr F ty (store ty d x) o = true)

theorem base_of_some (F : FOps) (m : Mode) (b : GoTy) (o : Obj) (d : GoTy) (x : GoVal)
    (h1 : toBase F m b o = .ok (some (d, x))) (hne : o ≠ .nil)
    (h2 : d = b ∨ isIfaceKind b = true) (h3 : repr F d x o = true) : BaseGood F m b o := by
  refine Or.inr (Or.inr ⟨hne, d, x, h1, h2, ?_⟩)
  cases hi : isIfaceKind b with
  | true => simp [store, hi, repr, hne, h3]
  | false =>
    rcases h2 with rfl | h
    · simpa [store, hi] using h3
    · rw [hi] at h; cases h

/-- a kind converter's `To` is an error or a value of the slot's own type -/
theorem scalarTo_cases (F : FOps) (b : GoTy) (o : Obj) :
    scalarTo F b o = .error ∨ ∃ x, scalarTo F b o = .ok (some (b, x)) := by
  unfold scalarTo
  split <;> first
    | exact .inl rfl
    | (split <;> first
        | exact .inl rfl
        | exact .inr ⟨_, rfl⟩
        | (split <;> first | exact .inl rfl | exact .inr ⟨_, rfl⟩))

/-- `To` of a leaf converter on an object other than `nil`: an error, or a value of the slot's
    type (of any type for an interface slot) -/
theorem toLeaf_cases (F : FOps) (m : Mode) (b : GoTy) (o : Obj) (hne : o ≠ .nil) :
    toLeaf F m b o = .error ∨
    ∃ d x, toLeaf F m b o = .ok (some (d, x)) ∧ (d = b ∨ isIfaceKind b = true) := by
  unfold toLeaf
  split
  · rcases scalarTo_cases F b o with h | ⟨x, h⟩
    · exact .inl h
    · exact .inr ⟨b, x, h, .inl rfl⟩
  · rename_i hs
    rcases scalarTo_cases F (.uint .w8) o with h | ⟨x, h⟩
    · exact .inl h
    · exact .inr ⟨_, x, h, .inl (sel_inv hs : b = _).symm⟩
  · rename_i hs
    split
    · exact .inr ⟨_, _, rfl, .inl (sel_inv hs : b = _).symm⟩
    · exact .inl rfl
  · rename_i hs
    split
    · exact .inr ⟨_, _, rfl, .inl (sel_inv hs : b = _).symm⟩
    · exact .inr ⟨_, _, rfl, .inl (sel_inv hs : b = _).symm⟩
    · exact .inl rfl
  · rename_i hs
    split
    · exact .inr ⟨_, _, rfl, .inl (sel_inv hs : b = _).symm⟩
    · exact .inl rfl
  · rename_i hs
    have hu : under b = .iface := sel_inv hs
    cases h : objIface o with
    | none => exact absurd (objIface_none o h) hne
    | some p => exact .inr ⟨p.1, p.2, rfl, .inr (by simp [isIfaceKind, hu])⟩
  · exact .inl rfl

/-! pointer layers -/

theorem peel_succ_inv (ty : GoTy) (k : Nat) (h : (peel ty).1 = k + 1) :
    ∃ t, ty = .ptr t ∧ isStructKind t = false ∧ (peel t).1 = k ∧ (peel t).2 = (peel ty).2 := by
  cases ty with
  | ptr t =>
    by_cases hs : isStructKind t = true
    · rw [peel_ptr_struct t hs] at h; cases h
    · have hs' : isStructKind t = false := by simpa using hs
      rw [peel_ptr_other t hs'] at h ⊢
      exact ⟨t, rfl, hs', by simpa using h, rfl⟩
  | _ => simp [peel] at h

theorem peel_peel : ∀ ty : GoTy, (peel (peel ty).2).1 = 0
  | .ptr t => by
    by_cases hs : isStructKind t = true
    · rw [peel_ptr_struct t hs]; simp [peel_ptr_struct t hs]
    · have hs' : isStructKind t = false := by simpa using hs
      rw [peel_ptr_other t hs']; exact peel_peel t
  | .bool | .int _ | .uint _ | .f32 | .f64 | .str | .time | .iface | .chan | .named _ _
  | .slice _ | .array _ _ | .mapStr _ | .struct _ => rfl

theorem convOK_peel : ∀ ty : GoTy, convOK (peel ty).2 = convOK ty
  | .ptr t => by
    by_cases hs : isStructKind t = true
    · rw [peel_ptr_struct t hs]
    · have hs' : isStructKind t = false := by simpa using hs
      rw [peel_ptr_other t hs']; simpa [convOK] using convOK_peel t
  | .bool | .int _ | .uint _ | .f32 | .f64 | .str | .time | .iface | .chan | .named _ _
  | .slice _ | .array _ _ | .mapStr _ | .struct _ => rfl

theorem namedBad_peel : ∀ ty : GoTy, namedBad (peel ty).2 = namedBad ty
  | .ptr t => by
    by_cases hs : isStructKind t = true
    · rw [peel_ptr_struct t hs]
    · have hs' : isStructKind t = false := by simpa using hs
      rw [peel_ptr_other t hs']; simpa [namedBad] using namedBad_peel t
  | .bool | .int _ | .uint _ | .f32 | .f64 | .str | .time | .iface | .chan | .named _ _
  | .slice _ | .array _ _ | .mapStr _ | .struct _ => rfl

theorem ptrIfaceBad_peel : ∀ ty : GoTy, ptrIfaceBad ty = false → ptrIfaceBad (peel ty).2 = false
  | .ptr t, h => by
    by_cases hs : isStructKind t = true
    · rw [peel_ptr_struct t hs]; exact h
    · have hs' : isStructKind t = false := by simpa using hs
      rw [peel_ptr_other t hs']
      simp only [ptrIfaceBad, Bool.or_eq_false_iff] at h
      exact ptrIfaceBad_peel t h.2
  | .bool, h | .int _, h | .uint _, h | .f32, h | .f64, h | .str, h | .time, h | .iface, h | .chan, h
  | .named _ _, h | .slice _, h | .array _ _, h | .mapStr _, h | .struct _, h => h

theorem tyGuards_peel (ty : GoTy) (h : tyGuards ty = []) : tyGuards (peel ty).2 = [] := by
  obtain ⟨h1, h2⟩ := tyGuards_nil ty h
  unfold tyGuards
  simp [namedBad_peel ty, h1, ptrIfaceBad_peel ty h2]

/-- lifting the base result through the pointer layers -/
theorem wlift (F : FOps) (o : Obj) : ∀ (k : Nat) (m : Mode) (ty : GoTy), (peel ty).1 = k →
    convOK ty = true → tyGuards ty = [] →
    BaseGood F (baseMode m (peel ty).1) (peel ty).2 o → WGood F m ty o
  | 0, m, ty, hk, hc, hg, hb => by
    have h2 := peel_fst_zero ty hk
    rw [hk, h2] at hb
    simp only [baseMode, if_true] at hb
    unfold WGood
    rw [toGo_base F m ty o hc hk]
    rcases hb with he | ⟨rfl, h1, hn⟩ | h3
    · exact Or.inl he
    · refine Or.inr (Or.inl ⟨rfl, h1, ?_, ?_⟩)
      · rw [zero_under]
        rcases hn with ⟨t, hs⟩ | ⟨t, hs⟩ | hs
        · have hu : under ty = _ := sel_inv hs; rw [hu]; simp [zero, repr, hu]
        · have hu : under ty = _ := sel_inv hs; rw [hu]; simp [zero, repr, hu]
        · have hu : under ty = _ := sel_inv hs; rw [hu]; simp [zero, repr, hu]
      · intro hm; subst hm
        unfold nilTo
        rcases hn with ⟨t, hs⟩ | ⟨t, hs⟩ | hs <;> simp [hs]
    · exact Or.inr (Or.inr h3)
  | k + 1, m, ty, hk, hc, hg, hb => by
    obtain ⟨t, rfl, hs, hkt, hpt⟩ := peel_succ_inv ty k hk
    obtain ⟨hn, hpi⟩ := tyGuards_nil _ hg
    simp only [ptrIfaceBad, Bool.or_eq_false_iff] at hpi
    have hct : convOK t = true := by simpa [convOK] using hc
    have hgt : tyGuards t = [] := by
      unfold tyGuards; simp [show namedBad t = false by simpa [namedBad] using hn, hpi.2]
    unfold WGood
    by_cases ho : o = .nil
    · subst ho
      refine Or.inr (Or.inl ⟨rfl, toGo_ptr_nil F m t hct hs, by simp [zero, repr, under, hs], ?_⟩)
      intro _; simp [nilTo, sel_ptr_other .create t hs]
    · have hb' : BaseGood F (baseMode .create (peel t).1) (peel t).2 o := by
        rw [baseMode_create]
        rw [hk, ← hpt] at hb
        simpa [baseMode] using hb
      have ih := wlift F o k .create t hkt hct hgt hb'
      rcases ih with he | ⟨h0, _⟩ | ⟨_, d, x, h1, h2, h3⟩
      · exact Or.inl (by rw [toGo_ptr F m t o hct hs ho, he]; rfl)
      · exact absurd h0 ho
      · have hd : d = t := by
          rcases h2 with h | h
          · exact h
          · rw [hpi.1] at h; cases h
        subst hd
        have hst : store d d x = x := by simp [store, hpi.1]
        rw [hst] at h3
        refine Or.inr (Or.inr ⟨ho, .ptr d, .ptr x, by rw [toGo_ptr F m d o hct hs ho, h1]; rfl, Or.inl rfl, ?_⟩)
        simp [store, isIfaceKind, under, repr, hs, ho, h3]


theorem writeGuards_base (F : FOps) (m : Mode) (ty : GoTy) (o : Obj) :
    writeGuards F (baseMode m (peel ty).1) (peel ty).2 o = writeGuards F m ty o := by
  have h1 := peel_peel ty
  have h2 := peel_fst_zero _ h1
  cases o <;> simp only [writeGuards, h1, h2, baseMode, if_true]

/-- the converter of any type on one object, from the theorem for that object's base converters:
    peel the pointer layers, convert, lift back -/
theorem wgood_of_base (F : FOps) (o : Obj) (m : Mode) (t : GoTy) (hc : convOK t = true)
    (hg : tyGuards t = []) (hwg : writeGuards F m t o = [])
    (base : ∀ m b, (peel b).1 = 0 → convOK b = true → tyGuards b = [] → writeGuards F m b o = [] →
      BaseGood F m b o) : WGood F m t o :=
  wlift F o (peel t).1 m t rfl hc hg
    (base _ _ (peel_peel t) (by rw [convOK_peel]; exact hc) (tyGuards_peel t hg)
      (by rw [writeGuards_base]; exact hwg))

/-- elements of a container converted by `toElems` / `toArr` / `toMap` -/
def ElemsGood (F : FOps) (t : GoTy) (os : Objs) : Prop :=
  (toElems F t os = .error ∨ ∃ xs, toElems F t os = .ok xs ∧ reprs F t xs os = true) ∧
  (toArr F t os.length os = .error ∨ ∃ xs, toArr F t os.length os = .ok xs ∧ reprs F t xs os = true) ∧
  (∀ ks : List (List Nat), ks.length = os.length →
    toMap F t ks os = .error ∨ ∃ xs, toMap F t ks os = .ok (ks, xs) ∧ reprs F t xs os = true)

/-- a leaf object (no list, map, proxy or nil): `To` is `toLeaf`, and its one guard says that the
    value `toLeaf` gives is represented by the object -/
theorem wbase_leaf (F : FOps) (m : Mode) (b : GoTy) (o : Obj) (hne : o ≠ .nil)
    (hk : (peel b).1 = 0)
    (hb : toBase F m b o = toLeaf F m b o)
    (hwl : writeGuards F m b o = match toLeaf F (baseMode m (peel b).1) (peel b).2 o with
      | .ok (some (d, x)) => if repr F d x o then [] else [.narrowing]
      | _ => [])
    (hwg : writeGuards F m b o = []) : BaseGood F m b o := by
  rw [hwl, hk, peel_fst_zero b hk] at hwg
  simp only [baseMode, if_true] at hwg
  rcases toLeaf_cases F m b o hne with hl | ⟨d, x, hl, hd⟩
  · left; rw [hb, hl]
  · have hr : repr F d x o = true := by
      cases hr : repr F d x o
      · simp [hl, hr] at hwg
      · rfl
    exact base_of_some F m b o d x (by rw [hb, hl]) hne hd hr

/-! ### struct values assembled from a map object -/

theorem fieldsOK_nth : ∀ (fs : Fields) (i : Nat) (ft : GoTy), fieldsOK fs = true →
    fs.nth i = some ft → convOK ft = true
  | .nil, _, _, _, h => by simp [Fields.nth] at h
  | .cons t r, 0, ft, hc, h => by
    simp only [fieldsOK, Bool.and_eq_true] at hc
    simp only [Fields.nth, Option.some.injEq] at h
    subst h; exact hc.1
  | .cons t r, i + 1, ft, hc, h => by
    simp only [fieldsOK, Bool.and_eq_true] at hc
    simp only [Fields.nth] at h
    exact fieldsOK_nth r i ft hc.2 h

theorem fieldsOK_fieldsOf (b : GoTy) (hc : convOK b = true) : fieldsOK (fieldsOf b) = true := by
  rw [convOK_under] at hc
  unfold fieldsOf
  cases hu : under b <;> simp [fieldsOK]
  rw [hu] at hc
  simpa [convOK] using hc

/-- what the map → struct loop establishes: per field, the first entry that names it has been
    converted into a value representing it; a field no entry names is not listed -/
def FieldsGood (F : FOps) (fs : Fields) (ks : List (List Nat)) (os : Objs) : Prop :=
  toFieldVals F fs ks os = .error ∨
  ∃ ps, toFieldVals F fs ks os = .ok ps ∧
    ∀ i ft, fs.nth i = some ft →
      match entryFor fs.length i ks os with
      | some o => ∃ x, ps.lookup i = some x ∧ repr F ft x o = true
      | none => ps.lookup i = none

/-- the assembled struct is represented by the map: named fields hold their entries, the others
    are zero -/
theorem place_repr (F : FOps) (n : Nat) (ks : List (List Nat)) (os : Objs) (ps : List (Nat × GoVal)) :
    ∀ (fs : Fields) (j : Nat),
      (∀ i ft, fs.nth i = some ft →
        match entryFor n (j + i) ks os with
        | some o => ∃ x, ps.lookup (j + i) = some x ∧ repr F ft x o = true
        | none => ps.lookup (j + i) = none) →
      reprFields F n j fs (place j fs ps) ks os = true
  | .nil, _, _ => by simp [place, reprFields]
  | .cons ft fs, j, h => by
    have h0 := h 0 ft rfl
    simp only [Nat.add_zero] at h0
    have ih := place_repr F n ks os ps fs (j + 1) (by
      intro i ft' hi
      have := h (i + 1) ft' (by simpa [Fields.nth] using hi)
      rw [show j + (i + 1) = j + 1 + i by omega] at this
      exact this)
    simp only [place, reprFields, ih, Bool.and_true]
    cases he : entryFor n j ks os with
    | none => rw [he] at h0; simp [h0]
    | some o =>
      rw [he] at h0
      obtain ⟨x, hx, hr⟩ := h0
      simp [hx, hr]

theorem fill_repr (F : FOps) (s : GoTy) (hs : isStructKind s = true) (ks : List (List Nat)) (os : Objs)
    (ps : List (Nat × GoVal))
    (h : ∀ i ft, (fieldsOf s).nth i = some ft →
      match entryFor (fieldsOf s).length i ks os with
      | some o => ∃ x, ps.lookup i = some x ∧ repr F ft x o = true
      | none => ps.lookup i = none) :
    repr F s (fillStruct s ps) (.map ks os) = true := by
  rcases isStructKind_cases s hs with ⟨fs, hu⟩ | hu
  · have hf : fieldsOf s = fs := by simp [fieldsOf, hu]
    rw [hf] at h
    have := place_repr F fs.length ks os ps fs 0 (by
      intro i ft hi
      have := h i ft hi
      simpa using this)
    simp [fillStruct, hu, repr, hs, this]
  · have hz : fillStruct s ps = .time 0 := by
      unfold fillStruct
      rw [hu, zero_under, hu]; rfl
    rw [hz]
    simp [repr, hs, isMapObj]

mutual
theorem wbase (F : FOps) : ∀ (o : Obj) (m : Mode) (b : GoTy), (peel b).1 = 0 → convOK b = true →
    tyGuards b = [] → wfW o = true → writeGuards F m b o = [] → BaseGood F m b o
  | .bool _ | .int _ | .float _ | .byte _ | .str _ | .bytes _ | .floats _ | .time _ =>
    fun m b hk _ _ _ hwg => wbase_leaf F m b _ nofun hk rfl rfl hwg
  | .nil => fun m b _ _ _ _ _ => by
    have hb : toBase F m b .nil = match sel m b with
        | .slice _ => .ok none
        | .map _ => .ok none
        | .dyn => .ok none
        | _ => .error := rfl
    unfold BaseGood baseNil
    rw [hb]
    cases hs : sel m b with
    | slice t => exact .inr (.inl ⟨rfl, rfl, .inl ⟨t, rfl⟩⟩)
    | map t => exact .inr (.inl ⟨rfl, rfl, .inr (.inl ⟨t, rfl⟩)⟩)
    | dyn => exact .inr (.inl ⟨rfl, rfl, .inr (.inr rfl)⟩)
    | _ => exact .inl rfl
  | .proxy pty pv => fun m b hk _ hg hw hwg => by
    simp only [wfW, Bool.and_eq_true] at hw
    simp only [writeGuards, hk, peel_fst_zero b hk, baseMode, if_true] at hwg
    cases hs : sel m b with
    | structV =>
      rw [hs] at hwg
      obtain ⟨hsk, hnt⟩ := sel_inv hs
      by_cases hc : pty = .ptr b ∧ pv ≠ .nilv
      · obtain ⟨rfl, hpv⟩ := hc
        cases pv with
        | nilv => exact absurd rfl hpv
        | ptr sv =>
          apply base_of_some F m b _ b sv (by simp [toBase, hs]) (by simp) (Or.inl rfl)
          cases sv with
          | struct xs => simp [repr, hsk]
          | time t => simp [repr, hsk, hnt]
          | _ => simp at hw
        | _ => simp at hw
      · simp [hc] at hwg
    | structP =>
      rw [hs] at hwg
      by_cases hc : pty = b
      · subst hc
        exact base_of_some F m _ _ _ pv (by simp [toBase, hs]) (by simp) (Or.inl rfl)
          (proxy_repr F _ _ hw.1)
      · simp [hc] at hwg
    | dyn =>
      have hu : under b = _ := sel_inv hs
      exact base_of_some F m b _ pty pv (by simp [toBase, hs]) (by simp)
        (Or.inr (by simp [isIfaceKind, hu])) (proxy_repr F _ _ hw.1)
    | _ => left; simp [toBase, hs]
  | .list os => fun m b hk hc hg hw hwg => by
    obtain ⟨hn, hpi⟩ := tyGuards_nil b hg
    simp only [wfW] at hw
    simp only [writeGuards, hk, peel_fst_zero b hk, baseMode, if_true] at hwg
    cases hs : sel m b with
    | slice t =>
      rw [hs] at hwg
      have hu : under b = _ := sel_inv hs
      obtain rfl := eq_of_under hn hu rfl rfl
      have hct : convOK t = true := by simpa [convOK] using hc
      have hgt : tyGuards t = [] := tyGuards_sub _ t hg (by simp [namedBad]) (by simp [ptrIfaceBad])
      rcases (wbases F os t hct hgt hw hwg).1 with he | ⟨xs, h1, h2⟩
      · left; simp [toBase, hs, he]
      · exact base_of_some F m _ _ (.slice t) (.seq xs) (by simp [toBase, hs, h1]) (by simp) (Or.inl rfl)
          (by simp [repr, under, h2])
    | array n t =>
      rw [hs] at hwg
      have hu : under b = _ := sel_inv hs
      obtain rfl := eq_of_under hn hu rfl rfl
      have hct : convOK t = true := by simpa [convOK] using hc
      have hgt : tyGuards t = [] := tyGuards_sub _ t hg (by simp [namedBad]) (by simp [ptrIfaceBad])
      obtain ⟨hlen, hwe⟩ := List.append_eq_nil_iff.mp hwg
      have hge : ¬ os.length < n := by
        intro h; simp [h] at hlen
      -- a longer list is rejected before the loop (it used to panic: C08_fixed_array_longer_panicked)
      by_cases hgt' : os.length > n
      · left; simp [toBase, hs, hgt']
      · have hl : os.length = n := by omega
        rcases (wbases F os t hct hgt hw hwe).2.1 with he | ⟨xs, h1, h2⟩
        · left; rw [hl] at he; simp [toBase, hs, he]
        · rw [hl] at h1
          exact base_of_some F m _ _ (.array n t) (.seq xs) (by simp [toBase, hs, h1, hgt']) (by simp) (Or.inl rfl)
            (by simp [repr, under, h2])
    | dyn =>
      have hu : under b = _ := sel_inv hs
      have hwo : wfObj (.list os) = true := wfW_wfObj _ (by simpa [wfW] using hw)
      exact base_of_some F m b _ (.slice .iface) (.seq (ifaceElems os)) (by simp [toBase, hs, objIface]) (by simp)
        (Or.inr (by simp [isIfaceKind, hu])) (objIface_repr F (.list os) _ _ hwo (by simp [objIface]))
    | _ => exact .inl (by rw [toBase, hs])
  | .map ks os => fun m b hk hc hg hw hwg => by
    obtain ⟨hn, hpi⟩ := tyGuards_nil b hg
    simp only [wfW, Bool.and_eq_true, decide_eq_true_eq] at hw
    simp only [writeGuards, hk, peel_fst_zero b hk, baseMode, if_true] at hwg
    cases hs : sel m b with
    | map t =>
      rw [hs] at hwg
      have hu : under b = _ := sel_inv hs
      obtain rfl := eq_of_under hn hu rfl rfl
      have hct : convOK t = true := by simpa [convOK] using hc
      have hgt : tyGuards t = [] := tyGuards_sub _ t hg (by simp [namedBad]) (by simp [ptrIfaceBad])
      rcases (wbases F os t hct hgt hw.2 hwg).2.2 ks hw.1 with he | ⟨xs, h1, h2⟩
      · left; simp [toBase, hs, he]
      · exact base_of_some F m _ _ (.mapStr t) (.map ks xs) (by simp [toBase, hs, h1]) (by simp) (Or.inl rfl)
          (by simp [repr, under, h2])
    | dyn =>
      have hu : under b = _ := sel_inv hs
      have hwo : wfObj (.map ks os) = true := wfW_wfObj _ (by simp [wfW, hw.1, hw.2])
      exact base_of_some F m b _ (.mapStr .iface) (.map ks (ifaceElems os)) (by simp [toBase, hs, objIface]) (by simp)
        (Or.inr (by simp [isIfaceKind, hu])) (objIface_repr F (.map ks os) _ _ hwo (by simp [objIface]))
    | structV =>
      -- a map object for a struct-typed slot: a new struct, the named fields set
      rw [hs] at hwg
      obtain ⟨hsk, _⟩ := sel_inv hs
      rcases wfields F os ks (fieldsOf b) (fieldsOK_fieldsOf b hc) hw.2 hwg with he | ⟨ps, h1, h2⟩
      · left; simp [toBase, hs, he]
      · exact base_of_some F m b _ b (fillStruct b ps) (by simp [toBase, hs, h1]) (by simp) (Or.inl rfl)
          (fill_repr F b hsk ks os ps h2)
    | structP =>
      rw [hs] at hwg
      obtain ⟨s, hu, hsk⟩ := sel_inv hs
      rw [hu] at hwg
      have hcs : convOK s = true := by
        rw [convOK_under, hu] at hc; simpa [convOK] using hc
      rcases wfields F os ks (fieldsOf s) (fieldsOK_fieldsOf s hcs) hw.2 hwg with he | ⟨ps, h1, h2⟩
      · left; simp [toBase, hs, hu, he]
      · exact base_of_some F m b _ b (.ptr (fillStruct s ps)) (by simp [toBase, hs, hu, h1]) (by simp) (Or.inl rfl)
          (by simp [repr, hu, hsk, isMapObj, fill_repr F s hsk ks os ps h2])
    | _ => exact .inl (by rw [toBase, hs])
theorem wbases (F : FOps) : ∀ (os : Objs) (t : GoTy), convOK t = true → tyGuards t = [] →
    wfWs os = true → elemWriteGuards F t os = [] → ElemsGood F t os
  | .nil => fun t _ _ _ _ => by
    refine ⟨Or.inr ⟨.nil, rfl, rfl⟩, Or.inr ⟨.nil, rfl, rfl⟩, ?_⟩
    intro ks hks
    cases ks with
    | nil => exact Or.inr ⟨.nil, rfl, rfl⟩
    | cons k r => simp [Objs.length] at hks
  | .cons o r => fun t hc hg hw hwg => by
    simp only [wfWs, Bool.and_eq_true] at hw
    unfold elemWriteGuards at hwg
    obtain ⟨hg12, hg3⟩ := List.append_eq_nil_iff.mp hwg
    obtain ⟨hg1, hg2⟩ := List.append_eq_nil_iff.mp hg12
    obtain ⟨ih1, ih2, ih3⟩ := wbases F r t hc hg hw.2 hg3
    have hgood := wgood_of_base F o .create t hc hg hg2 fun m b hk hc hg => wbase F o m b hk hc hg hw.1
    have hto := toGo_unfold F .create t o hc
    unfold WGood at hgood
    rw [hto] at hgood
    rcases hgood with he | ⟨rfl, _, _, hnt⟩ | ⟨_, d, x, h1, h2, h3⟩
    · refine ⟨Or.inl (by simp [toElems, he]), Or.inl (by simp [toArr, he]), ?_⟩
      intro ks hks
      cases ks with
      | nil => simp [Objs.length] at hks
      | cons k ks' => left; simp [toMap, he]
    · simp [hnt rfl] at hg1
    · have hput : putElem t (some (d, x)) = .ok (store t d x) := by
        simp [putElem, assignable_of t d h2]
      refine ⟨?_, ?_, ?_⟩
      · rcases ih1 with he | ⟨xs, g1, g2⟩
        · left; simp [toElems, h1, hput, he]
        · right; exact ⟨.cons (store t d x) xs, by simp [toElems, h1, hput, g1], by simp [reprs, h3, g2]⟩
      · rcases ih2 with he | ⟨xs, g1, g2⟩
        · left; simp [toArr, Objs.length, h1, hput, he]
        · right; exact ⟨.cons (store t d x) xs, by simp [toArr, Objs.length, h1, hput, g1], by simp [reprs, h3, g2]⟩
      · intro ks hks
        cases ks with
        | nil => simp [Objs.length] at hks
        | cons k ks' =>
          simp only [List.length_cons, Objs.length, Nat.add_right_cancel_iff] at hks
          rcases ih3 ks' hks with he | ⟨xs, g1, g2⟩
          · left; simp [toMap, h1, assignable_of t d h2, he]
          · right
            exact ⟨.cons (store t d x) xs, by simp [toMap, h1, assignable_of t d h2, g1], by simp [reprs, h3, g2]⟩
theorem wfields (F : FOps) : ∀ (os : Objs) (ks : List (List Nat)) (fs : Fields), fieldsOK fs = true →
    wfWs os = true → fieldWriteGuards F fs ks os = [] → FieldsGood F fs ks os
  | .nil, ks => fun fs _ _ _ => by
    right
    refine ⟨[], by cases ks <;> simp [toFieldVals], ?_⟩
    intro i ft _
    cases ks <;> simp [entryFor]
  | .cons o r, [] => fun fs _ _ _ => by
    right
    refine ⟨[], by simp [toFieldVals], ?_⟩
    intro i ft _
    simp [entryFor]
  | .cons o r, k :: ks => fun fs hc hw hwg => by
    simp only [wfWs, Bool.and_eq_true] at hw
    unfold fieldWriteGuards at hwg
    obtain ⟨hg1, hg2⟩ := List.append_eq_nil_iff.mp hwg
    have ih := wfields F r ks fs hc hw.2 hg2
    -- an entry that sets no field: skipped by both the loop and the Spec
    have skip : (∀ i ft, fs.nth i = some ft → fieldIdx fs.length k ≠ some i) →
        toFieldVals F fs (k :: ks) (.cons o r) = toFieldVals F fs ks r →
        FieldsGood F fs (k :: ks) (.cons o r) := by
      intro hne heq
      unfold FieldsGood
      rw [heq]
      rcases ih with he | ⟨ps, h1, h2⟩
      · exact Or.inl he
      · refine Or.inr ⟨ps, h1, ?_⟩
        intro i ft hi
        have hent : entryFor fs.length i (k :: ks) (.cons o r) = entryFor fs.length i ks r := by
          simp [entryFor, hne i ft hi]
        rw [hent]
        exact h2 i ft hi
    cases hidx : fieldIdx fs.length k with
    | none =>
      exact skip (by intro i ft _; simp [hidx]) (by simp [toFieldVals, hidx])
    | some j =>
      cases hnth : fs.nth j with
      | none =>
        refine skip ?_ (by simp [toFieldVals, hidx, hnth])
        intro i ft hi e
        rw [hidx] at e
        simp only [Option.some.injEq] at e
        subst e
        rw [hnth] at hi; cases hi
      | some ft =>
        simp only [hidx, hnth] at hg1
        obtain ⟨hgA, hgw⟩ := List.append_eq_nil_iff.mp hg1
        obtain ⟨hgB, hgt⟩ := List.append_eq_nil_iff.mp hgA
        obtain ⟨hgnil, hgsk⟩ := List.append_eq_nil_iff.mp hgB
        have hne : o ≠ .nil := by
          intro e; simp [e] at hgnil
        have hsk : isStructKind ft = false := by
          cases h : isStructKind ft with
          | false => rfl
          | true => simp [h] at hgsk
        have hft : fieldConvTy ft = ft := by simp [fieldConvTy, hsk]
        rw [hft] at hgt hgw
        have hcf : convOK ft = true := fieldsOK_nth fs j ft hc hnth
        have hgood := wgood_of_base F o .get ft hcf hgt hgw fun m b hk hc hg => wbase F o m b hk hc hg hw.1
        have hto := toGo_unfold F .get ft o hcf
        unfold WGood at hgood
        rw [hto] at hgood
        rcases hgood with he | ⟨h0, _⟩ | ⟨_, d, x, h1, h2, h3⟩
        · left; simp [toFieldVals, hidx, hnth, hft, he]
        · exact absurd h0 hne
        · have hput : putElem ft (some (d, x)) = .ok (store ft d x) := by
            simp [putElem, assignable_of ft d h2]
          rcases ih with he | ⟨ps, g1, g2⟩
          · left; simp [toFieldVals, hidx, hnth, hft, h1, hput, he]
          · right
            refine ⟨(j, store ft d x) :: ps, by simp [toFieldVals, hidx, hnth, hft, h1, hput, g1], ?_⟩
            intro i ft' hi
            by_cases hij : i = j
            · subst hij
              rw [hnth] at hi
              simp only [Option.some.injEq] at hi
              subst hi
              have hent : entryFor fs.length i (k :: ks) (.cons o r) = some o := by
                simp [entryFor, hidx]
              have hlk : List.lookup i ((i, store ft d x) :: ps) = some (store ft d x) := by
                simp [List.lookup]
              rw [hent, hlk]
              exact ⟨_, rfl, h3⟩
            · have hji : ¬ j = i := fun e => hij e.symm
              have hent : entryFor fs.length i (k :: ks) (.cons o r) = entryFor fs.length i ks r := by
                simp [entryFor, hidx, hji]
              have hb : (i == j) = false := by simp [hij]
              have hlk : List.lookup i ((j, store ft d x) :: ps) = List.lookup i ps := by
                simp [List.lookup, hb]
              rw [hent, hlk]
              exact g2 i ft' hi
end



/-- **The write direction for every type**, pointer layers included: with empty guards, `To` on a
    well-formed object is an error, the zero value for `nil`, or a value the object represents. -/
theorem wgood (F : FOps) (m : Mode) (ty : GoTy) (o : Obj) (hc : convOK ty = true) (hg : tyGuards ty = [])
    (hw : wfW o = true) (hwg : writeGuards F m ty o = []) : WGood F m ty o :=
  wgood_of_base F o m ty hc hg hwg fun m b hk hc hg => wbase F o m b hk hc hg hw

/-! ### the type registry -/

/-- `struct{ C chan int; N int32 }`: rejected with an error the first time; accepted on every later
    attempt (the failed registration stays in `goTypeRegistry`), with a proxy on which not even the
    supported field `N` can be read -/
theorem C08_counterexample_registry (F : FOps) :
    let ty := GoTy.struct (.cons .chan (.cons (.int .w32) .nil))
    let v := GoVal.struct (.cons .nilv (.cons (.int 5) .nil))
    fromGo F .create ty v = .error ∧
    fromGoRetry F .create ty v = .ok (.proxy (.ptr ty) (.ptr v)) ∧
    getAttrRetry F (.ptr ty) (.ptr v) 1 = .error := ⟨rfl, rfl, rfl⟩


/-- the conversion into a slot, when its guards are empty -/
theorem toSlot_good (F : FOps) (m : Mode) (ty : GoTy) (o : Obj) (hw : wfW o = true)
    (hg : writeAllGuards F m ty o = []) :
    toSlot F m ty o = .error ∨ ∃ v, toSlot F m ty o = .ok v ∧ repr F ty v o = true := by
  by_cases hc : convOK ty = true
  · unfold writeAllGuards at hg
    obtain ⟨hgt, hgw⟩ := List.append_eq_nil_iff.mp hg
    rcases wgood F m ty o hc hgt hw hgw with he | ⟨rfl, h1, h2, _⟩ | ⟨_, d, x, h1, h2, h3⟩
    · left; simp [toSlot, he, Outcome.bind]
    · right; exact ⟨zero ty, by simp [toSlot, h1, Outcome.bind, assignField], h2⟩
    · right
      exact ⟨store ty d x, by simp [toSlot, h1, Outcome.bind, assignField, assignable_of ty d h2], h3⟩
  · have hc' : convOK ty = false := by simpa using hc
    left; simp [toSlot, toGo, hc', Outcome.bind]


theorem Vals.nth_set : ∀ (xs : Vals) (i : Nat) (x : GoVal), (xs.nth i).isSome = true →
    (xs.set i x).nth i = some x
  | .nil, _, _, h => by simp [Vals.nth] at h
  | .cons _ _, 0, _, _ => rfl
  | .cons _ r, i + 1, x, h => by
    simp only [Vals.nth] at h
    simpa [Vals.set, Vals.nth] using Vals.nth_set r i x h


/-! ### several arguments (`callArgs`) and reused VMs (`reuseRead`) -/

/-- `Proxy.call` on an argument other than `nil`: `To`, then what `Func.Call` does with the input -/
theorem callArg_ne_nil (F : FOps) (pt : GoTy) (o : Obj) (hc : convOK pt = true) (ho : o ≠ .nil) :
    callArg F pt o = match toGo F .get pt o with
      | .ok none => .panic
      | .ok (some (d, x)) => if assignable pt d then .ok (store pt d x) else .panic
      | .error => .error
      | .panic => .panic := by
  unfold callArg
  rw [if_neg (by simp [hc])]
  cases o <;> first | exact absurd rfl ho | rfl

theorem callArg_eq_convArg (F : FOps) (pt : GoTy) (o : Obj) :
    callArg F pt o = match convArg F pt o with
      | .ok (some x) => .ok x
      | .ok none => .panic
      | .error => .error
      | .panic => .panic := by
  unfold callArg convArg
  by_cases hc : convOK pt = false
  · rw [if_pos hc, if_pos hc]
  · rw [if_neg hc, if_neg hc]
    -- for every object but `nil` both sides look at `toGo` in the same way
    cases o with
    | nil => rfl
    | _ =>
      dsimp only
      generalize toGo F .get pt _ = r
      rcases r with (_ | ⟨d, x⟩) | _ | _ <;> try rfl
      dsimp only
      cases assignable pt d <;> rfl
theorem allSome_map_some : ∀ (xs : Vals), allSome (xs.toList.map some) = some xs
  | .nil => rfl
  | .cons x r => by simp [Vals.toList, allSome, allSome_map_some r]

theorem reprArgs_length (F : FOps) : ∀ (pts : Fields) (xs : Vals) (os : Objs),
    reprArgs F pts xs os = true → xs.length = pts.length
  | .nil, .nil, .nil, _ => rfl
  | .nil, .nil, .cons _ _, h => by simp [reprArgs] at h
  | .nil, .cons _ _, _, h => by simp [reprArgs] at h
  | .cons _ _, .nil, _, h => by simp [reprArgs] at h
  | .cons _ _, .cons _ _, .nil, h => by simp [reprArgs] at h
  | .cons _ ts, .cons _ xs, .cons _ os, h => by
    simp only [reprArgs, Bool.and_eq_true] at h
    simp [Vals.length, Fields.length, reprArgs_length F ts xs os h.2]

theorem reprArgs_lengths (F : FOps) : ∀ (pts : Fields) (xs : Vals) (os : Objs),
    reprArgs F pts xs os = true → ¬ pts.length < os.length
  | .nil, .nil, .nil, _ => by simp [Objs.length, Fields.length]
  | .nil, .nil, .cons _ _, h => by simp [reprArgs] at h
  | .nil, .cons _ _, _, h => by simp [reprArgs] at h
  | .cons _ _, .nil, _, h => by simp [reprArgs] at h
  | .cons _ _, .cons _ _, .nil, h => by simp [reprArgs] at h
  | .cons _ ts, .cons _ xs, .cons _ os, h => by
    simp only [reprArgs, Bool.and_eq_true] at h
    have := reprArgs_lengths F ts xs os h.2
    simp [Objs.length, Fields.length]; omega

theorem toList_map_length : ∀ (xs : Vals), (xs.toList.map some).length = xs.length
  | .nil => rfl
  | .cons _ r => by simp [Vals.toList, Vals.length, ← toList_map_length r]

theorem convArgs_good (F : FOps)
    (hpos : ∀ pt o, wfW o = true → callGuards F pt o = [] → specWrite F pt o (callArg F pt o) = true) :
    ∀ (pts : Fields) (os : Objs), wfWs os = true →
    callNGuards F pts os = [] →
    convArgs F pts os = .error ∨ ∃ xs : Vals, convArgs F pts os = .ok (xs.toList.map some) ∧
      (xs.length < pts.length ∨ pts.length < os.length ∨ reprArgs F pts xs os = true)
  | .nil, .nil, _, _ => Or.inr ⟨.nil, rfl, Or.inr (Or.inr rfl)⟩
  | .nil, .cons _ _, _, _ => Or.inr ⟨.nil, rfl, Or.inr (Or.inl (by simp [Objs.length, Fields.length]))⟩
  | .cons _ _, .nil, _, _ => Or.inr ⟨.nil, rfl, Or.inl (by simp [Vals.length, Fields.length])⟩
  | .cons pt pts, .cons o r, hw, hg => by
    simp only [wfWs, Bool.and_eq_true] at hw
    simp only [callNGuards] at hg
    obtain ⟨hg1, hg2⟩ := List.append_eq_nil_iff.mp hg
    have h1 := hpos pt o hw.1 hg1
    rw [callArg_eq_convArg] at h1
    unfold convArgs
    cases hc : convArg F pt o with
    | error => left; rfl
    | panic => rw [hc] at h1; simp [specWrite] at h1
    | ok x =>
      rw [hc] at h1
      cases x with
      | none => simp [specWrite] at h1
      | some x =>
        simp only [specWrite] at h1
        rcases convArgs_good F hpos pts r hw.2 hg2 with he | ⟨xs, hx, hr⟩
        · left; simp [Outcome.bind, he, Outcome.map]
        · right
          refine ⟨.cons x xs, by simp [Outcome.bind, hx, Outcome.map, Vals.toList], ?_⟩
          rcases hr with hl | hl | hr
          · left; simp [Vals.length, Fields.length]; omega
          · right; left; simp [Objs.length, Fields.length]; omega
          · right; right; simp [reprArgs, h1, hr]

theorem find_filter_ne (n m : Nat) (hne : (m == n) = false) : ∀ (l : List Binding),
    (l.filter (fun x => x.1 != m)).find? (fun b => b.1 == n) = l.find? (fun b => b.1 == n)
  | [] => rfl
  | b :: r => by
    by_cases hb : b.1 = m
    · have h2 : (b.1 == n) = false := by rw [hb]; exact hne
      simp [List.filter, hb, List.find?, hne, find_filter_ne n m hne r]
    · have h1 : (b.1 != m) = true := by simp [hb]
      simp only [List.filter, h1, List.find?]
      cases hbn : (b.1 == n) with
      | true => rfl
      | false => exact find_filter_ne n m hne r

theorem held_find (n : Nat) : ∀ (hist : List Binding),
    (held hist).find? (fun b => b.1 == n) = hist.find? (fun b => b.1 == n)
  | [] => rfl
  | b :: r => by
    simp only [held, List.find?]
    cases hbn : (b.1 == n) with
    | true => rfl
    | false => simp only; rw [find_filter_ne n b.1 hbn, held_find n r]

theorem convertAll_lookup (F : FOps) (n : Nat) : ∀ (l : List Binding) (gs : List (Nat × Obj)),
    convertAll F l = .ok gs →
    match l.find? (fun b => b.1 == n) with
    | some b => ∃ o, fromGo F .create b.2.1 b.2.2 = .ok o ∧ lookupObj n gs = some o
    | none => lookupObj n gs = none
  | [], gs, h => by
    simp only [convertAll, Outcome.ok.injEq] at h
    subst h
    rfl
  | (m, ty, v) :: r, gs, h => by
    simp only [convertAll] at h
    cases hf : fromGo F .create ty v with
    | error => simp [hf, Outcome.bind] at h
    | panic => simp [hf, Outcome.bind] at h
    | ok o =>
      cases hr : convertAll F r with
      | error => simp [hf, hr, Outcome.bind, Outcome.map] at h
      | panic => simp [hf, hr, Outcome.bind, Outcome.map] at h
      | ok gs' =>
        simp only [hf, hr, Outcome.bind, Outcome.map, Outcome.ok.injEq] at h
        subst h
        simp only [List.find?, lookupObj]
        cases hmn : (m == n) with
        | true => exact ⟨o, hf, by simp⟩
        | false => simpa using convertAll_lookup F n r gs' hr

theorem convertAll_no_panic (F : FOps) : ∀ (l : List Binding),
    (∀ b ∈ l, fromGo F .create b.2.1 b.2.2 ≠ .panic) → convertAll F l ≠ .panic
  | [], _ => by simp [convertAll]
  | (m, ty, v) :: r, h => by
    have h1 := h (m, ty, v) (by simp)
    have h2 := convertAll_no_panic F r (fun b hb => h b (by simp [hb]))
    simp only [convertAll]
    cases hf : fromGo F .create ty v with
    | error => simp [Outcome.bind]
    | panic => exact absurd hf h1
    | ok o =>
      cases hr : convertAll F r with
      | error => simp [Outcome.bind, Outcome.map]
      | panic => exact absurd hr h2
      | ok gs => simp [Outcome.bind, Outcome.map]

theorem heldGuards_mem : ∀ (l : List Binding), heldGuards l = [] →
    ∀ b ∈ l, clean .create b.2.1 b.2.2 = true
  | [], _, b, hb => by simp at hb
  | (m, ty, v) :: r, h, b, hb => by
    simp only [heldGuards] at h
    obtain ⟨h1, h2⟩ := List.append_eq_nil_iff.mp h
    simp only [List.mem_cons] at hb
    rcases hb with rfl | hb
    · simp [clean, h1]
    · exact heldGuards_mem r h2 b hb

theorem held_sub : ∀ (hist : List Binding), ∀ b ∈ held hist, b ∈ hist
  | [], b, hb => by simp [held] at hb
  | a :: r, b, hb => by
    simp only [held, List.mem_cons, List.mem_filter] at hb
    rcases hb with rfl | ⟨hb, _⟩
    · simp
    · simp [held_sub r b hb]

/-! ### Go → script alone: the read direction, declared container types included -/

/-- the converter chosen by the kind of the underlying type -/
def kindSel : GoTy → Sel
  | .struct _ | .time => .structV
  | .ptr t => if isStructKind t then .structP else .pointer t
  | .slice t => .slice t
  | .array n t => .array n t
  | .mapStr t => .map t
  | .iface => .dyn
  | _ => .unsupported

/-- the converter of a type that is not of a basic kind and is none of the exact-type entries:
    selected by the kind of its underlying type, whatever its declared name -/
theorem sel_nonscalar (m : Mode) (ty : GoTy) (hsc : isScalarKind ty = false) (h1 : ty ≠ .time)
    (h2 : ty ≠ .slice (.uint .w8)) (h3 : ty ≠ .slice .f64) : sel m ty = kindSel (under ty) := by
  have h8 : ty ≠ .uint .w8 := by intro e; subst e; simp [isScalarKind, under] at hsc
  simp only [sel, getSel, hsc, h1, h2, h3, h8, and_false, if_false, Bool.false_eq_true]
  cases under ty <;> rfl

/-- in particular when the underlying type `u` is a pointer, array, map or interface type -/
theorem sel_of_under (m : Mode) {ty u : GoTy} (hu : under ty = u) (hsc : isScalarKind u = false)
    (ht : u ≠ .time) (hsl : ∀ t, u ≠ .slice t) : sel m ty = kindSel u := by
  subst hu
  rw [isScalarKind_under] at hsc
  exact sel_nonscalar m ty hsc (fun e => ht (by rw [e]; rfl)) (fun e => hsl _ (by rw [e]; rfl))
    (fun e => hsl _ (by rw [e]; rfl))

/-- what the read theorem establishes for one value: `From` is an error, or it gives an object that
    represents the value — and the script's `nil` only for a nil -/
def ReadGood (F : FOps) (m : Mode) (ty : GoTy) (v : GoVal) : Prop :=
  fromGo F m ty v = .error ∨
  ∃ o, fromGo F m ty v = .ok o ∧ repr F ty v o = true ∧ (o = .nil → v = .nilv)

def ReadGoodVals (F : FOps) (t : GoTy) (xs : Vals) : Prop :=
  fromVals F t xs = .error ∨ ∃ os, fromVals F t xs = .ok os ∧ reprs F t xs os = true

theorem good_read (F : FOps) (m : Mode) (ty : GoTy) (v : GoVal) (h : Good F m ty v) :
    ReadGood F m ty v := by
  rcases h with he | ⟨o, h1, _, h2, h3⟩
  · exact Or.inl he
  · refine Or.inr ⟨o, h1, h2, ?_⟩
    rcases h3 with ⟨_, _, hv⟩ | ⟨hne, _⟩
    · exact fun _ => hv
    · exact fun e => absurd e hne

theorem convOK_of_under (ty u : GoTy) (hu : under ty = u) (hc : convOK ty = true) : convOK u = true := by
  rw [convOK_under, hu] at hc; exact hc

theorem not_mem_if_nilElem (c : Bool) :
    Finding.nilCollapse ∉ (if c = true then [Finding.nilElem] else []) := by
  cases c <;> simp

mutual
theorem read_val (F : FOps) (hF : ∀ b, F.narrow (F.widen b) = b) :
    ∀ (v : GoVal) (m : Mode) (ty : GoTy), convOK ty = true → hasTy ty v = true →
      Finding.nilCollapse ∉ valGuards m ty v → ReadGood F m ty v
  | .bool b => fun m ty hc ht _ => good_read F m ty _ (good_bool F m ty b hc ht)
  | .int i => fun m ty hc ht _ => good_read F m ty _ (good_int F m ty i hc ht)
  | .float b => fun m ty hc ht _ => good_read F m ty _ (good_float F hF m ty b hc ht)
  | .str s => fun m ty hc ht _ => good_read F m ty _ (good_str F m ty s hc ht)
  | .time t => fun m ty hc ht _ => good_read F m ty _ (good_time F m ty t hc ht)
  | .struct xs => fun m ty hc ht _ => good_read F m ty _ (good_struct F m ty xs hc ht)
  | .nilv => fun m ty hc ht _ => by
    rcases hasTy_nilv_inv ht with ⟨t, hu⟩ | hu | hu
    · have hsel : sel m ty = if isStructKind t = true then .structP else .pointer t :=
        sel_of_under m hu rfl nofun nofun
      by_cases hst : isStructKind t = true
      · rw [if_pos hst] at hsel
        exact Or.inr ⟨.proxy ty .nilv, by simp [fromGo, hc, hsel], by simp [repr, hu, hst], by simp⟩
      · rw [if_neg hst] at hsel
        exact Or.inr ⟨.nil, by simp [fromGo, hc, hsel], by simp [repr, hu, hst], fun _ => rfl⟩
    · have hsel : sel m ty = .dyn := sel_of_under m hu rfl nofun nofun
      exact Or.inr ⟨.nil, by simp [fromGo, hc, hsel], by simp [repr, hu], fun _ => rfl⟩
    · have := convOK_of_under ty _ hu hc; simp [convOK] at this
  | .ptr x => fun m ty hc ht hv => by
    obtain ⟨t, hu, htx⟩ := hasTy_ptr_inv ht
    have hsel : sel m ty = if isStructKind t = true then .structP else .pointer t :=
      sel_of_under m hu rfl nofun nofun
    by_cases hst : isStructKind t = true
    · rw [if_pos hst] at hsel
      exact Or.inr ⟨.proxy ty (.ptr x), by simp [fromGo, hc, hsel], by simp [repr, hu, hst], by simp⟩
    · rw [if_neg hst] at hsel
      have hct : convOK t = true := by
        have := convOK_of_under ty _ hu hc; simpa [convOK] using this
      unfold valGuards at hv
      simp only [hsel, List.mem_append, not_or] at hv
      have ih := read_val F hF x .create t hct htx hv.2
      have hfrom : fromGo F m ty (.ptr x) = fromGo F .create t x := by
        simp [fromGo, hc, hsel]
      rcases ih with he | ⟨o, h1, h2, h3⟩
      · left; rw [hfrom, he]
      · have hne : o ≠ .nil := by
          intro e
          have hx := h3 e
          subst e; subst hx
          have := fromGo_nilv F t h1
          simp [isNil, this] at hv
        exact Or.inr ⟨o, by rw [hfrom, h1], by simp [repr, hu, hst, hne, h2], fun e => absurd e hne⟩
  | .iface d x => fun m ty hc ht hv => by
    simp only [hasTy, Bool.and_eq_true, Bool.not_eq_true'] at ht
    obtain ⟨⟨hi, _⟩, htx⟩ := ht
    have hsel : sel m ty = .dyn := sel_of_under m (isIfaceKind_inv hi) rfl nofun nofun
    have hfrom : fromGo F m ty (.iface d x) = fromGo F .create d x := by
      simp [fromGo, hc, hsel]
    by_cases hcd : convOK d = true
    · unfold valGuards at hv
      simp only [List.mem_append, not_or] at hv
      have ih := read_val F hF x .create d hcd htx hv.2
      rcases ih with he | ⟨o, h1, h2, h3⟩
      · left; rw [hfrom, he]
      · have hne : o ≠ .nil := by
          intro e
          have hx := h3 e
          subst e; subst hx
          have := fromGo_nilv F d h1
          simp [isNil, this] at hv
        exact Or.inr ⟨o, by rw [hfrom, h1], by simp [repr, hi, hne, h2], fun e => absurd e hne⟩
    · left
      rw [hfrom]
      unfold fromGo
      simp [hcd]
  | .seq xs => fun m ty hc ht hv => by
    -- a slice or an array: both read as the list of their elements
    have key : ∀ t, hasTys t xs = true → convOK t = true → (sel m ty = .slice t ∨ ∃ n, sel m ty = .array n t) →
        (∀ os, reprs F t xs os = true → repr F ty (.seq xs) (.list os) = true) → ReadGood F m ty (.seq xs) := by
      intro t hts hct hsel hrep
      have hvg : valGuards m ty (.seq xs) = elemGuards t xs := by
        unfold valGuards; rcases hsel with h | ⟨n, h⟩ <;> simp only [h]
      rw [hvg] at hv
      have hfrom : fromGo F m ty (.seq xs) = (fromVals F t xs).map .list := by
        rcases hsel with h | ⟨n, h⟩ <;> simp [fromGo, hc, h]
      rcases read_vals F hF xs t hct hts hv with he | ⟨os, h1, h2⟩
      · left; rw [hfrom, he]; rfl
      · exact Or.inr ⟨.list os, by rw [hfrom, h1]; rfl, hrep os h2, by simp⟩
    rcases hasTy_seq_inv ht with ⟨t, hu, hts⟩ | ⟨n, t, hu, hts, _⟩
    · have hct : convOK t = true := by
        have := convOK_of_under ty _ hu hc; simpa [convOK] using this
      by_cases h8 : ty = .slice (.uint .w8)
      · subst h8
        obtain rfl : GoTy.uint .w8 = t := by simpa [under] using hu
        obtain ⟨ns, hp1, _⟩ := bytes_payload xs hts
        have hsel : sel m (.slice (.uint .w8)) = .bytes := by simp [sel_slice]
        exact Or.inr ⟨.bytes ns, by simp [fromGo, convOK, hsel, hp1], by simp [repr, under, hp1], by simp⟩
      · by_cases h64 : ty = .slice .f64
        · subst h64
          obtain rfl : GoTy.f64 = t := by simpa [under] using hu
          obtain ⟨ns, hp1, _⟩ := floats_payload xs hts
          have hsel : sel m (.slice .f64) = .floats := by simp [sel_slice]
          exact Or.inr ⟨.floats ns, by simp [fromGo, convOK, hsel, hp1], by simp [repr, under, hp1], by simp⟩
        · have hsel := sel_nonscalar m ty (by simp [isScalarKind, hu])
            (by intro e; subst e; simp [under] at hu) h8 h64
          rw [hu] at hsel
          exact key t hts hct (.inl hsel) (fun os h2 => by simp [repr, hu, h2])
    · have hct : convOK t = true := by
        have := convOK_of_under ty _ hu hc; simpa [convOK] using this
      have hsel : sel m ty = .array n t := sel_of_under m hu rfl nofun nofun
      exact key t hts hct (.inr ⟨n, hsel⟩) (fun os h2 => by simp [repr, hu, h2])
  | .map ks xs => fun m ty hc ht hv => by
    obtain ⟨t, hu, hts, _⟩ := hasTy_map_inv ht
    have hct : convOK t = true := by
      have := convOK_of_under ty _ hu hc; simpa [convOK] using this
    have hsel : sel m ty = .map t := sel_of_under m hu rfl nofun nofun
    unfold valGuards at hv
    simp only [hsel] at hv
    have ih := read_vals F hF xs t hct hts hv
    have hfrom : fromGo F m ty (.map ks xs) = (fromVals F t xs).map (.map ks) := by
      simp [fromGo, hc, hsel]
    rcases ih with he | ⟨os, h1, h2⟩
    · left; rw [hfrom, he]; rfl
    · exact Or.inr ⟨.map ks os, by rw [hfrom, h1]; rfl, by simp [repr, hu, h2], by simp⟩
theorem read_vals (F : FOps) (hF : ∀ b, F.narrow (F.widen b) = b) :
    ∀ (xs : Vals) (t : GoTy), convOK t = true → hasTys t xs = true →
      Finding.nilCollapse ∉ elemGuards t xs → ReadGoodVals F t xs
  | .nil => fun _ _ _ _ => Or.inr ⟨.nil, rfl, rfl⟩
  | .cons x r => fun t hc ht hv => by
    simp only [hasTys, Bool.and_eq_true] at ht
    unfold elemGuards at hv
    simp only [List.mem_append, not_or] at hv
    have ihx := read_val F hF x .create t hc ht.1 hv.1.2
    have ihr := read_vals F hF r t hc ht.2 hv.2
    rcases ihx with he | ⟨o, h1, h2, _⟩
    · left; simp [fromVals, he]
    · rcases ihr with he | ⟨os, g1, g2⟩
      · left; simp [fromVals, h1, he]
      · exact Or.inr ⟨.cons o os, by simp [fromVals, h1, g1], by simp [reprs, h2, g2]⟩
end

end Risor.C08
