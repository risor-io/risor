import RisorModel.C08.Reg
/-!
C08 — first use of a Go type racing with other uses of it: the property theorems.

The property (a Go value crosses the boundary faithfully or is rejected) must hold for EVERY
goroutine that hands a value to a script, also when two evaluations meet at a type risor has never
seen.  The statements quantify over all attribute tables `full`, all schedules (any number of
goroutines, any number of types, any interleaving of lookups and of the describing goroutine's
steps) — no bound.
-/
namespace Risor.C08.Reg

theorem inv_init (full : Nat → List Nat) : Inv full init := by
  refine ⟨?_, ?_⟩
  · intro e he; cases he
  · intro u v h; cases h

theorem inv_work (full : Nat → List Nat) (s : St) (h : Inv full s) : Inv full (workStep s) := by
  obtain ⟨hv, hb⟩ := h
  unfold workStep
  cases hbd : s.building with
  | none => simp only; exact ⟨hv, by rw [hbd]; rw [hbd] at hb; exact hb⟩
  | some b =>
    obtain ⟨i, t, rest⟩ := b
    rw [hbd] at hb
    obtain ⟨⟨v, hreg, hfull⟩, hothers⟩ := hb
    cases rest with
    | nil =>
      simp only
      refine ⟨?_, ?_⟩
      · intro e he
        simp only [List.mem_cons] at he
        rcases he with he | he
        · subst he; simp only [hreg, Option.getD_some]; simpa using hfull
        · exact hv e he
      · intro u w hu
        by_cases hut : u = t
        · subst hut; rw [hreg] at hu; cases hu; simpa using hfull
        · exact hothers u w hut hu
    | cons a rest =>
      simp only
      refine ⟨hv, ⟨v ++ [a], ?_, ?_⟩, ?_⟩
      · simp [setReg, hreg]
      · simpa using hfull
      · intro u w hut hu
        simp only [setReg, hut, if_false] at hu
        exact hothers u w hut hu

theorem inv_step (full : Nat → List Nat) (s : St) (ev : Ev) (h : Inv full s) :
    Inv full (stepLocked full s ev) := by
  cases ev with
  | work => exact inv_work full s h
  | use i t =>
    unfold stepLocked
    cases hbd : s.building with
    | some b => simp only; exact h
    | none =>
      obtain ⟨hv, hb⟩ := h
      rw [hbd] at hb
      simp only
      cases hreg : s.reg t with
      | some v =>
        simp only
        refine ⟨?_, hb⟩
        intro e he
        simp only [List.mem_cons] at he
        rcases he with he | he
        · subst he; exact hb t v hreg
        · exact hv e he
      | none =>
        simp only
        refine ⟨hv, ⟨[], ?_, ?_⟩, ?_⟩
        · simp [setReg]
        · simp
        · intro u w hut hu
          simp only [setReg, hut, if_false] at hu
          exact hb u w hu

theorem inv_run (full : Nat → List Nat) (evs : List Ev) (s : St) (h : Inv full s) :
    Inv full (run full s evs) := by
  induction evs generalizing s with
  | nil => exact h
  | cons ev evs ih => exact ih _ (inv_step full s ev h)

/-- **Every goroutine is handed the complete description.**  For every attribute table, every
schedule of any number of goroutines over any number of types (first uses, later uses, the
describing goroutine's steps, in any interleaving): whatever description a goroutine was handed
by `NewGoType` as it is (lookup under `goTypeMutex`) has ALL attributes of its type. -/
theorem locked_views_complete (full : Nat → List Nat) (evs : List Ev) :
    ∀ e ∈ (run full init evs).views, e.2.2 = full e.2.1 :=
  (inv_run full evs init (inv_init full)).1

/-- the same for the description goroutine `i` was handed first -/
theorem first_view_complete (full : Nat → List Nat) (evs : List Ev) (i t : Nat) (v : List Nat)
    (h : viewOf (run full init evs) i = some (t, v)) : v = full t := by
  unfold viewOf at h
  split at h
  · rename_i e he
    have hm := List.mem_of_find?_eq_some he
    have := locked_views_complete full evs e (by simpa using hm)
    have h2 : e.2 = (t, v) := by injection h
    rw [h2] at this
    exact this
  · cases h

/-- **A concurrent first use is a plain use.**  In every schedule, a goroutine that was served
finds every attribute its type has: its field read / method call is the one of a sequential use
(`found`: `Model.getAttr`, `callEcho`), never "attribute not found". -/
theorem C08_first_use_is_plain_use {α : Type} (full : Nat → List Nat) (evs : List Ev) (i t a : Nat)
    (v : List Nat) (found missing : α)
    (hserved : viewOf (run full init evs) i = some (t, v)) (ha : a ∈ full t) :
    lookup (run full init evs) i a found missing = some found := by
  have hv := first_view_complete full evs i t v hserved
  unfold lookup
  rw [hserved]
  simp only
  have : v.contains a = true := by
    rw [hv]; simpa using ha
  rw [this]; rfl

/-- and every registered description is complete whenever nobody is inside `newGoType` -/
theorem registry_complete_when_idle (full : Nat → List Nat) (evs : List Ev) (u : Nat) (v : List Nat)
    (hidle : (run full init evs).building = none) (h : (run full init evs).reg u = some v) :
    v = full u := by
  have hi := (inv_run full evs init (inv_init full)).2
  rw [hidle] at hi
  exact hi u v h

/-! ### non-vacuity: goroutines do get served, also when they arrive in the middle -/

/-- type 7 has three attributes -/
def full3 : Nat → List Nat := fun t => if t = 7 then [0, 1, 2] else []

/-- goroutine 0 starts describing type 7, goroutine 1 arrives after the first attribute (and
waits), the description is completed, goroutine 1 asks again -/
def midSchedule : List Ev := [.use 0 7, .work, .use 1 7, .work, .work, .work, .use 1 7]

example : viewOf (run full3 init midSchedule) 0 = some (7, [0, 1, 2]) := by decide +kernel
example : viewOf (run full3 init midSchedule) 1 = some (7, [0, 1, 2]) := by decide +kernel
example : lookup (run full3 init midSchedule) 1 2 "value" "not found" = some "value" := by decide +kernel

/-! ### the contrast: a lock-free fast path in front of the mutex -/

/-- the full statement for the fast-path registry -/
def fast_views_complete : Prop :=
  ∀ (full : Nat → List Nat) (evs : List Ev), ∀ e ∈ (runFast full init evs).views, e.2.2 = full e.2.1

/-- With the fast path goroutine 1, arriving after the first attribute, is handed a description
with one of three attributes … -/
theorem fast_hands_out_half_built :
    viewOf (runFast full3 init midSchedule) 1 = some (7, [0]) := by decide +kernel

/-- … so the Go value it passes to its script has "no attribute" 2 although its type has one,
while goroutine 0 reads the same field of the same value faithfully -/
theorem fast_lookup_fails :
    lookup (runFast full3 init midSchedule) 1 2 "value" "not found" = some "not found" ∧
    lookup (runFast full3 init midSchedule) 0 2 "value" "not found" = some "value" := by decide +kernel

theorem fast_counterexample : ¬ fast_views_complete := by
  intro h
  have := h full3 midSchedule (1, 7, [0]) (by decide +kernel)
  revert this
  decide +kernel

/-- sequentially (no lookup while somebody is inside `newGoType`) the fast path returns what the
locked path returns — why no sequential test tells the two apart: one step of each from a state
in which nobody is building gives the same state -/
theorem fast_eq_locked_when_idle (full : Nat → List Nat) (s : St) (ev : Ev) (h : s.building = none) :
    stepFast full s ev = stepLocked full s ev := by
  cases ev with
  | work => rfl
  | use i t =>
    unfold stepFast stepLocked
    rw [h]
    cases hr : s.reg t <;> simp [hr]

end Risor.C08.Reg
