import RisorModel.C06.Model
/-!
Helper lemmas for C06: the rules of one step, what a step preserves, the potential argument,
and locality of a thread's evolution inside an arbitrary interleaving.
-/
namespace Risor.C06

theorem size_pos (p : Prog) : 2 ≤ size p := by
  induction p <;> simp only [size] <;> omega

/-! ### leaving a frame (deferred calls, return to the caller) -/

/-- `callFunction` returning to its caller pops the frame and goes on in the caller's
    continuation, in the loop over the deferred calls beneath, or unwinding -/
theorem returnT_eq (t : Thread) (w : Wrap) (k : Prog) (fs : List Frame) (o : Option Err) :
    ∃ st, returnT t w k fs o = { t with st := st, frames := fs } ∧
      (st = .run k ∨ st = .leaving ∨ ∃ e, st = .raising e) := by
  unfold returnT
  split
  · split
    · exact ⟨_, rfl, .inr (.inl rfl)⟩
    · exact ⟨_, rfl, .inr (.inr ⟨_, rfl⟩)⟩
  · split
    · exact ⟨_, rfl, .inl rfl⟩
    · split
      · exact ⟨_, rfl, .inl rfl⟩
      · exact ⟨_, rfl, .inr (.inr ⟨_, rfl⟩)⟩

/-- outside `try`, an error handed to the caller of a frame stays an error: every other
    builtin raises one, a script call, an import and the loop over deferred calls hand one on -/
theorem returnT_error (t : Thread) (w : Wrap) (k : Prog) (fs : List Frame) (e : Err)
    (hw : w ≠ .try_) : ∃ e', returnT t w k fs (some e) = { t with st := .raising e', frames := fs } := by
  cases w with
  | try_ => exact absurd rfl hw
  | dfr o =>
    cases o with
    | none => exact ⟨e, rfl⟩
    | some e0 => cases e0 <;> exact ⟨_, rfl⟩
  | _ => cases e <;> exact ⟨_, rfl⟩

theorem leaveT_nil (t : Thread) (o : Option Err) (hf : t.frames = []) :
    leaveT t o = { t with st := .fin o } := by
  unfold leaveT; rw [hf]

theorem leaveT_defer (t : Thread) (o : Option Err) {w : Wrap} {k d : Prog} {ds : List Prog}
    {fs : List Frame} (hf : t.frames = (w, k, d :: ds) :: fs) :
    leaveT t o = { t with st := .run d, frames := (.dfr o, .done, []) :: (w, k, ds) :: fs } := by
  unfold leaveT; rw [hf]

theorem leaveT_return (t : Thread) (o : Option Err) {w : Wrap} {k : Prog} {fs : List Frame}
    (hf : t.frames = (w, k, []) :: fs) : leaveT t o = returnT t w k fs o := by
  unfold leaveT; rw [hf]

/-- leaving a frame — starting its next deferred call or returning to the caller — never
    touches the flag, the watcher or the thread id -/
theorem leaveT_flags (t : Thread) (o : Option Err) :
    (leaveT t o).halt = t.halt ∧ (leaveT t o).armed = t.armed ∧ (leaveT t o).id = t.id := by
  unfold leaveT
  split
  · exact ⟨rfl, rfl, rfl⟩
  · exact ⟨rfl, rfl, rfl⟩
  · rename_i w k fs _
    obtain ⟨st, h, _⟩ := returnT_eq t w k fs o
    rw [h]; exact ⟨rfl, rfl, rfl⟩

theorem registerT_flags (t : Thread) (d k : Prog) :
    (registerT t d k).halt = t.halt ∧ (registerT t d k).armed = t.armed ∧
    (registerT t d k).id = t.id := by
  unfold registerT
  split <;> exact ⟨rfl, rfl, rfl⟩

/-- whatever leaving the top frame leads to — the next deferred closure of the frame (with all
    its code still to run), the rest of the deferred calls, the caller —, it is paid for by
    the potential of the frames: the deferred closures are counted in `potFrames` -/
theorem leaveT_pot (t : Thread) (o : Option Err) : potT (leaveT t o) ≤ potFrames t.frames := by
  unfold leaveT
  split
  · simp only [potT, potSt]; omega
  · rename_i hf
    simp only [hf, potT, potSt, potFrames, potDefers, size]; omega
  · rename_i w k fs hf
    obtain ⟨st, h, hst⟩ := returnT_eq t w k fs o
    have := size_pos k
    rw [h, hf]
    rcases hst with rfl | rfl | ⟨e, rfl⟩ <;> simp only [potT, potSt, potFrames, potDefers] <;> omega

/-! ### the halted branch of a poll -/

/-- the three things a raised flag can do to a thread, whatever context its `eval` was
    handed: raise the context's error, raise the pop panic, or abandon the callback frame
    (it is left as if it had returned: its deferred calls, then its builtin) -/
theorem haltedT_cases (t : Thread) :
    haltedT t = { t with st := .raising .ctx } ∨ haltedT t = { t with st := .raising .panic } ∨
    (t.frames ≠ [] ∧ haltedT t = leaveT t none) := by
  unfold haltedT
  split
  · exact .inl rfl
  · exact .inr (.inl rfl)
  · rename_i h
    refine .inr (.inr ⟨fun hf => ?_, rfl⟩)
    rw [hf] at h; cases h

theorem haltedT_of_none (t : Thread) (h : detachedBy t.frames = none) :
    haltedT t = { t with st := .raising .ctx } := by
  unfold haltedT; rw [h]

theorem haltedT_flags (t : Thread) :
    (haltedT t).halt = t.halt ∧ (haltedT t).armed = t.armed ∧ (haltedT t).id = t.id := by
  rcases haltedT_cases t with h | h | ⟨_, h⟩
  · rw [h]; exact ⟨rfl, rfl, rfl⟩
  · rw [h]; exact ⟨rfl, rfl, rfl⟩
  · rw [h]; exact leaveT_flags t none

/-- whatever the halted branch does, what is left is at most one unwinding step plus the
    enclosing frames (their deferred closures included) -/
theorem haltedT_pot (t : Thread) : potT (haltedT t) ≤ 1 + potFrames t.frames := by
  rcases haltedT_cases t with h | h | ⟨_, h⟩
  · rw [h]; exact Nat.le_refl _
  · rw [h]; exact Nat.le_refl _
  · rw [h]; have := leaveT_pot t none; omega

/-! ### one step, rule by rule -/

/-- what an instruction does when the poll finds the flag down -/
inductive Exec (c : Bool) (t : Thread) : Prog → Thread × Option (Nat × Prog) → Prop
  | ret (hf : t.frames ≠ []) : Exec c t .done (leaveT t none, none)
  | compute (k) : Exec c t (.compute k) ({ t with st := .run k }, none)
  | spin : Exec c t .spin (t, none)
  | block (pr k) : Exec c t (.block pr k) ({ t with st := .blocked pr k }, none)
  | importFails (body k) (hc : c = true) :
      Exec c t (.cb .imp body k) ({ t with st := .raising .ctx }, none)
  | call (w body k) (hw : ¬ (w = .imp ∧ c = true)) :
      Exec c t (.cb w body k) ({ t with st := .run body, frames := (w, k, []) :: t.frames }, none)
  | spawn (i body k) : Exec c t (.spawn i body k) ({ t with st := .run k }, some (i, body))
  | defer_ (d k) : Exec c t (.defer_ d k) (registerT t d k, none)

/-- `stepT` read as a relation: which rule fires in which state, and what it yields.  Every
    fact about one step below is proved by going through these rules. -/
inductive Step (c : Bool) (t : Thread) : Thread × Option (Nat × Prog) → Prop
  | stay (h : t.st.isFin = true ∨ (c = false ∧ ∃ pr k, t.st = .blocked pr k)) : Step c t (t, none)
  | unwind (e) (h : t.st = .raising e) : Step c t (leaveT t (some e), none)
  | leaving (h : t.st = .leaving) : Step c t (leaveT t none, none)
  | wakeErr (pr k e) (h : t.st = .blocked pr k) (hc : c = true) (he : primEffect pr = some e) :
      Step c t ({ t with st := .raising e }, none)
  | wake (pr k) (h : t.st = .blocked pr k) (hc : c = true) (he : primEffect pr = none) :
      Step c t ({ t with st := .run (afterPrim pr k) }, none)
  | finish (h : t.st = .run .done) (hf : t.frames = []) : Step c t ({ t with st := .fin none }, none)
  /-- every other step of running code polls first -/
  | halted (p) (h : t.st = .run p) (hh : t.halt = true) (hp : p ≠ .done ∨ t.frames ≠ []) :
      Step c t (haltedT t, none)
  | exec (p r) (h : t.st = .run p) (hh : t.halt = false) (hx : Exec c t p r) : Step c t r

theorem stepT_rule (c : Bool) (t : Thread) : Step c t (stepT c t) := by
  obtain ⟨id, halt, armed, st, frames⟩ := t
  cases st with
  | fin e => exact .stay (.inl rfl)
  | raising e => exact .unwind e rfl
  | leaving => exact .leaving rfl
  | blocked pr k =>
    cases c with
    | false => exact .stay (.inr ⟨rfl, pr, k, rfl⟩)
    | true =>
      cases he : primEffect pr with
      | none => simp only [stepT, he]; exact .wake pr k rfl rfl he
      | some e => simp only [stepT, he]; exact .wakeErr pr k e rfl rfl he
  | run p =>
    cases halt with
    | true =>
      cases p with
      | done =>
        cases frames with
        | nil => exact .finish rfl rfl
        | cons f fs => exact .halted _ rfl rfl (.inr (List.cons_ne_nil f fs))
      | _ => exact .halted _ rfl rfl (.inl Prog.noConfusion)
    | false =>
      cases p with
      | done =>
        cases frames with
        | nil => exact .finish rfl rfl
        | cons f fs => exact .exec _ _ rfl rfl (.ret (List.cons_ne_nil f fs))
      | compute k => exact .exec _ _ rfl rfl (.compute k)
      | spin => exact .exec _ _ rfl rfl .spin
      | block pr k => exact .exec _ _ rfl rfl (.block pr k)
      | spawn i body k => exact .exec _ _ rfl rfl (.spawn i body k)
      | defer_ d k => exact .exec _ _ rfl rfl (.defer_ d k)
      | cb w body k =>
        refine .exec _ _ rfl rfl ?_
        by_cases hw : w = .imp ∧ c = true
        · obtain ⟨rfl, rfl⟩ := hw
          exact .importFails body k rfl
        · have : (w == Wrap.imp && c) = false := by simpa using hw
          simp only [stepT, this, Bool.false_eq_true, if_false]
          exact .call w body k hw

theorem stepT_flags (c : Bool) (t : Thread) :
    (stepT c t).1.halt = t.halt ∧ (stepT c t).1.armed = t.armed ∧ (stepT c t).1.id = t.id := by
  have h := stepT_rule c t
  generalize stepT c t = r at h ⊢
  cases h with
  | unwind | leaving => exact leaveT_flags t _
  | halted => exact haltedT_flags t
  | exec _ _ _ _ hx =>
    cases hx with
    | ret => exact leaveT_flags t none
    | defer_ d k => exact registerT_flags t d k
    | _ => exact ⟨rfl, rfl, rfl⟩
  | _ => exact ⟨rfl, rfl, rfl⟩

theorem stepT_halt (c : Bool) (t : Thread) : (stepT c t).1.halt = t.halt := (stepT_flags c t).1
theorem stepT_armed (c : Bool) (t : Thread) : (stepT c t).1.armed = t.armed := (stepT_flags c t).2.1

/-- every instruction polls: with the flag raised the step of running code IS `haltedT`
    (the only step without a poll is falling off the end of the main code) -/
theorem stepT_halted (c : Bool) (t : Thread) (p : Prog) (hh : t.halt = true) (hr : t.st = .run p)
    (hp : p ≠ .done ∨ t.frames ≠ []) : stepT c t = (haltedT t, none) := by
  obtain ⟨id, halt, armed, st, frames⟩ := t
  simp only at hh hr hp
  subst hh hr
  cases p with
  | done =>
    cases frames with
    | nil => simp at hp
    | cons f fs => rfl
  | _ => rfl

theorem fin_fix (c : Bool) (t : Thread) (h : t.st.isFin = true) : (stepT c t).1 = t := by
  obtain ⟨id, halt, armed, st, frames⟩ := t
  cases st <;> cases h
  rfl

theorem spin_fix (c : Bool) (t : Thread) (h : t.st = .run .spin) (hh : t.halt = false) :
    (stepT c t).1 = t := by
  obtain ⟨id, halt, armed, st, frames⟩ := t
  simp only at h hh
  subst h hh
  rfl

theorem stepT_blocked_unfired (t : Thread) (pr : Prim) (k : Prog) (hb : t.st = .blocked pr k) :
    stepT false t = (t, none) := by
  obtain ⟨id, halt, armed, st, frames⟩ := t
  simp only at hb
  subst hb
  rfl

/-- what a step can spawn: only the body named by a `spawn` the thread was about to execute -/
theorem stepT_spawned (c : Bool) (t : Thread) (b : Nat × Prog) (h : (stepT c t).2 = some b) :
    ∃ k, t.st = .run (.spawn b.1 b.2 k) := by
  have hr := stepT_rule c t
  generalize stepT c t = r at hr h
  cases hr with
  | exec _ _ hst _ hx =>
    cases hx with
    | spawn i body k => cases h; exact ⟨k, hst⟩
    | _ => cases h
  | _ => cases h

/-! ### potential -/

theorem afterPrim_size (pr : Prim) (k : Prog) : size (afterPrim pr k) ≤ 1 + size k := by
  cases pr <;> simp only [afterPrim, size] <;> omega

theorem registerT_pot (t : Thread) (d k : Prog) :
    potT (registerT t d k) < 6 + size d + size k + potFrames t.frames := by
  unfold registerT
  split
  · simp only [potT, potSt]; omega
  · rename_i hf
    simp only [hf, potT, potSt, potFrames, potDefers]; omega

/-- a thread's own step under ANY signal — its context has fired, or never does — leaves it
    where it is, and then it is finished, blocked under a context that has not fired, or in an
    unhalted compute loop; or it strictly decreases the potential -/
theorem stepT_pot (c : Bool) (t : Thread) :
    ((stepT c t).1 = t ∧ (t.st.isFin = true ∨ (c = false ∧ ∃ pr k, t.st = .blocked pr k) ∨
      (t.st = .run .spin ∧ t.halt = false))) ∨ potT (stepT c t).1 < potT t := by
  have h := stepT_rule c t
  generalize stepT c t = r at h ⊢
  cases h with
  | stay h => exact .inl ⟨rfl, h.imp_right .inl⟩
  | unwind e h =>
    have := leaveT_pot t (some e)
    simp only [potT, h, potSt] at this ⊢; omega
  | leaving h =>
    have := leaveT_pot t none
    simp only [potT, h, potSt] at this ⊢; omega
  | wakeErr pr k e h =>
    have := size_pos k
    simp only [potT, h, potSt]; omega
  | wake pr k h =>
    have := afterPrim_size pr k
    simp only [potT, h, potSt]; omega
  | finish h => simp only [potT, h, potSt, size]; omega
  | halted p h =>
    have := haltedT_pot t
    have := size_pos p
    simp only [potT, h, potSt] at *; omega
  | exec _ _ h hh hx =>
    cases hx with
    | spin => exact .inl ⟨rfl, .inr (.inr ⟨h, hh⟩)⟩
    | ret =>
      have := leaveT_pot t none
      simp only [potT, h, potSt, size] at this ⊢; omega
    | compute | block | spawn => simp only [potT, h, potSt, size]; omega
    | importFails body =>
      have := size_pos body
      simp only [potT, h, potSt, size]; omega
    | call => simp only [potT, h, potSt, size, potFrames, potDefers]; omega
    | defer_ d k =>
      have := registerT_pot t d k
      simp only [potT, h, potSt, size] at this ⊢; omega

/-- Once the context has fired, every step of a thread that is neither finished nor in an
    unhalted compute loop strictly decreases its potential. -/
theorem step_decr (t : Thread) (hf : t.st.isFin = false)
    (hs : ¬ (t.st = .run .spin ∧ t.halt = false)) : potT (stepT true t).1 < potT t := by
  rcases stepT_pot true t with ⟨_, h | ⟨h, _⟩ | h⟩ | h
  · rw [hf] at h; cases h
  · cases h
  · exact absurd h hs
  · exact h

/-! ### iterated steps

`iter`, `iterImp cc` and `iterNever` are all `iterWith` of a step function that either leaves
the thread where it is or takes it closer to its end. -/

theorem iterWith_succ (f : Thread → Thread) (n : Nat) (t : Thread) :
    iterWith f (n + 1) t = iterWith f n (f t) := rfl

theorem iterWith_fix (f : Thread → Thread) (n : Nat) (t : Thread) (h : f t = t) : iterWith f n t = t := by
  induction n with
  | zero => rfl
  | succ n ih => rw [iterWith_succ, h, ih]

theorem iterWith_add (f : Thread → Thread) (m n : Nat) (t : Thread) :
    iterWith f (m + n) t = iterWith f n (iterWith f m t) := by
  induction m generalizing t with
  | zero => rw [Nat.zero_add]; rfl
  | succ m ih => rw [Nat.add_right_comm, iterWith_succ, ih, iterWith_succ]

/-- `f` leaves the thread where it is, or takes it strictly closer to its end (as the thread's
    own steps do); a finished thread stays finished -/
def StepLike (f : Thread → Thread) : Prop :=
  (∀ t, f t = t ∨ potT (f t) < potT t) ∧ (∀ t, t.st.isFin = true → f t = t)

theorem iterWith_fin_mono (f : Thread → Thread) (hf : StepLike f) (m n : Nat) (t : Thread)
    (hmn : m ≤ n) (h : (iterWith f m t).st.isFin = true) : (iterWith f n t).st.isFin = true := by
  obtain ⟨d, rfl⟩ := Nat.exists_eq_add_of_le hmn
  rw [iterWith_add, iterWith_fix f d _ (hf.2 _ h)]
  exact h

/-- if a thread ever finishes under such a step function, it has finished after `potT` steps:
    a step that does nothing on an unfinished thread does nothing for ever -/
theorem iterWith_fin_within_pot (f : Thread → Thread) (hf : StepLike f) (n : Nat) :
    ∀ t : Thread, (iterWith f n t).st.isFin = true → (iterWith f (potT t) t).st.isFin = true := by
  induction n with
  | zero => intro t h; exact iterWith_fin_mono f hf 0 _ t (Nat.zero_le _) h
  | succ n ih =>
    intro t h
    rcases hf.1 t with h1 | hd
    · rwa [iterWith_fix f _ t h1] at h ⊢
    · obtain ⟨d, hd'⟩ := Nat.exists_eq_add_of_le (Nat.succ_le_of_lt hd)
      rw [hd', Nat.succ_eq_add_one, Nat.add_right_comm, iterWith_succ]
      exact iterWith_fin_mono f hf _ _ _ (Nat.le_add_right _ _) (ih _ h)

/-- a thread's own step under any signal is such a step function -/
theorem stepLike_signal (c : Bool) : StepLike (fun t => (stepT c t).1) :=
  ⟨fun t => (stepT_pot c t).imp And.left id, fin_fix c⟩

/-- the step of a thread whose context never fires -/
theorem stepLike_never : StepLike (fun t => (stepT false t).1) := stepLike_signal false

/-- …and the step under an `importModule` that hands the module body a context of either kind -/
theorem stepLike_imp (cc : Cc) : StepLike (fun t => (stepImp cc true t).1) :=
  ⟨fun t => (stepLike_signal (seenBy cc true t.frames)).1 t, fun t h => fin_fix _ t h⟩

theorem iter_succ (n : Nat) (t : Thread) : iter (n + 1) t = iter n (stepT true t).1 := rfl

theorem iter_eq_iterWith (n : Nat) (t : Thread) :
    iter n t = iterWith (fun t => (stepT true t).1) n t := by
  induction n generalizing t with
  | zero => rfl
  | succ n ih => exact ih _

theorem iter_fix (n : Nat) (t : Thread) (h : (stepT true t).1 = t) : iter n t = t := by
  rw [iter_eq_iterWith]; exact iterWith_fix _ n t h

theorem iter_add (m n : Nat) (t : Thread) : iter (m + n) t = iter n (iter m t) := by
  simp only [iter_eq_iterWith]; exact iterWith_add _ m n t

/-- a thread that has ended after `k` own steps is the same after any larger number -/
theorem iter_eq_of_fin (k n : Nat) (t : Thread) (hkn : k ≤ n) (h : (iter k t).st.isFin = true) :
    iter n t = iter k t := by
  obtain ⟨d, rfl⟩ := Nat.exists_eq_add_of_le hkn
  rw [iter_add, iter_fix d _ (fin_fix true _ h)]

theorem iter_fin_mono (m n : Nat) (t : Thread) (hmn : m ≤ n) (h : (iter m t).st.isFin = true) :
    (iter n t).st.isFin = true := by
  rw [iter_eq_of_fin m n t hmn h]; exact h

/-- if a thread ever finishes, it has finished after `potT` own steps -/
theorem fin_within_pot (n : Nat) : ∀ t : Thread, (iter n t).st.isFin = true →
    (iter (potT t) t).st.isFin = true := by
  intro t h
  rw [iter_eq_iterWith] at h ⊢; exact iterWith_fin_within_pot _ (stepLike_signal true) n t h

theorem iter_halt (n : Nat) (t : Thread) : (iter n t).halt = t.halt := by
  induction n generalizing t with
  | zero => rfl
  | succ n ih => rw [iter_succ, ih, stepT_halt]

/-- a predicate kept by steps is kept by any number of them -/
theorem iter_invariant (P : Thread → Prop) (hstep : ∀ t, P t → P (stepT true t).1) (n : Nat) :
    ∀ t, P t → P (iter n t) := by
  induction n with
  | zero => intro t h; exact h
  | succ n ih => intro t h; exact ih _ (hstep t h)

/-- a predicate that rules out "unhalted compute loop" and is kept by steps gives termination
    within `potT` own steps -/
theorem finishes_of_invariant (P : Thread → Prop)
    (hstep : ∀ t, P t → P (stepT true t).1)
    (hspin : ∀ t, P t → ¬ (t.st = .run .spin ∧ t.halt = false))
    (n : Nat) : ∀ t, P t → potT t ≤ n → (iter n t).st.isFin = true := by
  induction n with
  | zero =>
    intro t hP hn
    cases hf : t.st.isFin
    · have := step_decr t hf (hspin t hP); omega
    · exact hf
  | succ n ih =>
    intro t hP hn
    cases hf : t.st.isFin
    · have := step_decr t hf (hspin t hP)
      exact ih _ (hstep t hP) (by omega)
    · rw [iter_fix _ _ (fin_fix true t hf)]; exact hf

/-- …and the thread it ends as still satisfies the predicate -/
theorem ends_of_invariant (P : Thread → Prop)
    (hstep : ∀ t, P t → P (stepT true t).1)
    (hspin : ∀ t, P t → ¬ (t.st = .run .spin ∧ t.halt = false))
    (n : Nat) (t : Thread) (h : P t) (hn : potT t ≤ n) :
    ∃ o, (iter n t).st = .fin o ∧ P (iter n t) := by
  have hfin := finishes_of_invariant P hstep hspin n t h hn
  cases hst : (iter n t).st with
  | fin o => exact ⟨o, rfl, iter_invariant P hstep n t h⟩
  | _ => rw [hst] at hfin; cases hfin

/-! ### lists of threads

`step i` and `fire i` modify the `i`-th thread in place. -/

theorem stepAt_fst (c : Bool) (i : Nat) (ts : List Thread) :
    (stepAt c i ts).1 = ts.modify i fun t => (stepT c t).1 := by
  induction ts generalizing i with
  | nil => simp [stepAt]
  | cons t ts ih => cases i <;> simp [stepAt, ih]

theorem fireAt_eq (i : Nat) (ts : List Thread) : fireAt i ts = ts.modify i fireT := by
  induction ts generalizing i with
  | nil => simp [fireAt]
  | cons t ts ih => cases i <;> simp [fireAt, ih]

theorem mem_modify (f : Thread → Thread) (i : Nat) (ts : List Thread) (t' : Thread)
    (h : t' ∈ ts.modify i f) : ∃ t ∈ ts, t' = t ∨ t' = f t := by
  induction ts generalizing i with
  | nil => simp at h
  | cons u ts ih =>
    cases i with
    | zero =>
      rcases List.mem_cons.1 h with h | h
      · exact ⟨u, List.mem_cons_self .., .inr h⟩
      · exact ⟨t', List.mem_cons_of_mem _ h, .inl rfl⟩
    | succ i =>
      rcases List.mem_cons.1 h with h | h
      · exact ⟨u, List.mem_cons_self .., .inl h⟩
      · obtain ⟨t, ht, hh⟩ := ih i h
        exact ⟨t, List.mem_cons_of_mem _ ht, hh⟩

theorem fireAt_length (i : Nat) (ts : List Thread) : (fireAt i ts).length = ts.length := by
  rw [fireAt_eq, List.length_modify]

theorem fireAt_get_self (i : Nat) (ts : List Thread) (t : Thread) (h : ts[i]? = some t) :
    (fireAt i ts)[i]? = some (fireT t) := by
  rw [fireAt_eq, List.getElem?_modify_eq, h]; rfl

/-- every thread after a `step i` is an old thread, the stepped old thread, … -/
theorem mem_stepAt (c : Bool) (i : Nat) (ts : List Thread) (t' : Thread) (h : t' ∈ (stepAt c i ts).1) :
    ∃ t ∈ ts, t' = t ∨ t' = (stepT c t).1 :=
  mem_modify _ i ts t' (stepAt_fst c i ts ▸ h)

/-- … or the clone made for a function the stepped thread spawned -/
theorem spawned_stepAt (c : Bool) (i : Nat) (ts : List Thread) (b : Nat × Prog)
    (h : (stepAt c i ts).2 = some b) : ∃ t ∈ ts, (stepT c t).2 = some b := by
  induction ts generalizing i with
  | nil => simp [stepAt] at h
  | cons u ts ih =>
    cases i with
    | zero => exact ⟨u, List.mem_cons_self .., h⟩
    | succ i =>
      obtain ⟨t, ht, hh⟩ := ih i h
      exact ⟨t, List.mem_cons_of_mem _ ht, hh⟩

/-- A property of threads relative to the context — it may depend on whether the context has
    fired, as long as the firing keeps it — that holds initially, is kept by steps and by the
    watcher, and holds for every clone a thread with the property spawns, holds for every
    thread of every reachable state. -/
theorem exec_invariant_ctx (cfg : Cfg) (P : Bool → Thread → Prop)
    (hcancel : ∀ c t, P c t → P true t)
    (hstep : ∀ c t, P c t → P c (stepT c t).1)
    (hfire : ∀ t, P true t → P true (fireT t))
    (hspawn : ∀ c t b, P c t → (stepT c t).2 = some b → P c (newClone cfg b))
    (σ : List Label) : ∀ s : Sys, (∀ t ∈ s.threads, P s.cancelled t) →
      ∀ t ∈ (exec cfg s σ).threads, P (exec cfg s σ).cancelled t := by
  induction σ with
  | nil => intro s h; exact h
  | cons l σ ih =>
    intro s h
    refine ih (apply cfg s l) fun t' ht' => ?_
    cases l with
    | cancel => exact hcancel _ _ (h t' ht')
    | fire i =>
      by_cases hc : s.cancelled = true
      · have h' := hc ▸ h
        simp only [apply, hc, if_true] at ht' ⊢
        obtain ⟨t, ht, rfl | rfl⟩ := mem_modify _ i _ _ (fireAt_eq i _ ▸ ht')
        · exact h' _ ht
        · exact hfire _ (h' _ ht)
      · simp only [apply, hc] at ht' ⊢
        exact h t' ht'
    | step i =>
      rcases List.mem_append.1 ht' with ht' | ht'
      · obtain ⟨t, ht, rfl | rfl⟩ := mem_stepAt _ i _ _ ht'
        · exact h _ ht
        · exact hstep _ _ (h _ ht)
      · cases hb : (stepAt s.cancelled i s.threads).2 with
        | none => rw [hb] at ht'; cases ht'
        | some b =>
          obtain ⟨t, ht, hh⟩ := spawned_stepAt _ i _ b hb
          rw [hb, Option.map_some, Option.toList_some, List.mem_singleton] at ht'
          rw [ht']
          exact hspawn _ t b (h _ ht) hh

theorem exec_invariant (cfg : Cfg) (P : Thread → Prop)
    (hstep : ∀ c t, P t → P (stepT c t).1)
    (hfire : ∀ t, P t → P (fireT t))
    (hspawn : ∀ c t b, P t → (stepT c t).2 = some b → P (newClone cfg b))
    (σ : List Label) : ∀ s : Sys, (∀ t ∈ s.threads, P t) → ∀ t ∈ (exec cfg s σ).threads, P t :=
  exec_invariant_ctx cfg (fun _ => P) (fun _ _ h => h) hstep hfire hspawn σ

/-! ### locality: inside any interleaving a thread only moves by its own steps -/

def ownSteps (i : Nat) : List Label → Nat
  | [] => 0
  | .step j :: σ => (if j = i then 1 else 0) + ownSteps i σ
  | _ :: σ => ownSteps i σ

theorem fireT_halt (t : Thread) (ha : t.armed = true) : (fireT t).halt = true := by
  unfold fireT; rw [if_pos ha]

theorem fireT_armed (t : Thread) : (fireT t).armed = t.armed := by
  unfold fireT; split <;> rfl

theorem potT_fireT (t : Thread) : potT (fireT t) = potT t := by
  unfold fireT; split <;> rfl

theorem fireT_id_of_fired (t : Thread) (h : t.armed = true → t.halt = true) : fireT t = t := by
  obtain ⟨id, halt, armed, st, frames⟩ := t
  cases armed
  · rfl
  · cases h rfl; rfl

theorem exec_cancelled (cfg : Cfg) (σ : List Label) : ∀ s : Sys, s.cancelled = true →
    (exec cfg s σ).cancelled = true := by
  induction σ with
  | nil => intro s h; exact h
  | cons l σ ih =>
    intro s h
    refine ih (apply cfg s l) ?_
    cases l with
    | cancel => rfl
    | fire i => simp only [apply]; split <;> exact h
    | step i => exact h

/-- After the cancellation, and once its watcher (if any) has fired, thread `i` of the
    system is, after ANY trace `σ`, exactly where `ownSteps i σ` of its own steps take it:
    nothing another thread, another watcher or the environment does can change that. -/
theorem exec_local (cfg : Cfg) (i : Nat) (σ : List Label) : ∀ (s : Sys) (t : Thread),
    s.cancelled = true → s.threads[i]? = some t → (t.armed = true → t.halt = true) →
    (exec cfg s σ).threads[i]? = some (iter (ownSteps i σ) t) := by
  induction σ with
  | nil => intro s t _ ht _; exact ht
  | cons l σ ih =>
    intro s t hc ht ha
    show (exec cfg (apply cfg s l) σ).threads[i]? = _
    cases l with
    | cancel => exact ih _ t rfl ht ha
    | fire j =>
      have hi : (apply cfg s (.fire j)).threads[i]? = some t := by
        simp only [apply, hc, if_true]
        rw [fireAt_eq, List.getElem?_modify, ht]
        show some (if j = i then fireT t else t) = _
        rw [fireT_id_of_fired t ha, ite_self]
      exact ih _ t (by simp only [apply, hc, if_true]) hi ha
    | step j =>
      have hlt : i < (stepAt s.cancelled j s.threads).1.length := by
        rw [stepAt_fst, List.length_modify]; exact (List.getElem?_eq_some_iff.1 ht).1
      have hi : (apply cfg s (.step j)).threads[i]? = some (if j = i then (stepT true t).1 else t) := by
        simp only [apply]
        rw [List.getElem?_append_left hlt, stepAt_fst, List.getElem?_modify, ht, hc]; rfl
      by_cases hji : j = i
      · rw [if_pos hji] at hi
        rw [ih (apply cfg s (.step j)) _ hc hi (by rw [stepT_armed, stepT_halt]; exact ha)]
        simp only [ownSteps, hji, if_true, Nat.add_comm 1, iter_succ]
      · rw [if_neg hji] at hi
        rw [ih (apply cfg s (.step j)) t hc hi ha]
        simp only [ownSteps, if_neg hji, Nat.zero_add]

/-! ### thread-level forms of the guards and what a step does to them -/

/-- a predicate on programs holds of what the state is about to execute -/
def stP (P : Prog → Bool) : St → Bool
  | .run p => P p
  | .blocked _ k => P k
  | _ => true

/-- a predicate on programs holds of the continuation of every enclosing frame and of every
    deferred closure a frame holds -/
def allK (P : Prog → Bool) : List Frame → Bool
  | [] => true
  | (_, k, ds) :: fs => P k && ds.all P && allK P fs

/-- no enclosing callback frame is a `try` -/
def noTry : List Frame → Bool
  | [] => true
  | (w, _, _) :: fs => w != .try_ && noTry fs

/-- no enclosing frame holds a deferred closure, none is the frame of a deferred call -/
def noDefersF : List Frame → Bool
  | [] => true
  | (w, _, ds) :: fs => ds.isEmpty && (match w with
      | .dfr _ => false
      | _ => true) && noDefersF fs

/-- everything the thread can still execute satisfies `P` -/
def invP (P : Prog → Bool) (t : Thread) : Bool := stP P t.st && allK P t.frames

/-- `P` is inherited by every part of a shape that can come to execution on the same thread -/
structure SubClosed (P : Prog → Bool) : Prop where
  done : P .done = true
  compute : ∀ k, P (.compute k) = true → P k = true
  block : ∀ pr k, P (.block pr k) = true → P k = true
  after : ∀ pr k, P (afterPrim pr k) = P k
  cb : ∀ w b k, P (.cb w b k) = true → P b = true ∧ P k = true
  spawn : ∀ i b k, P (.spawn i b k) = true → P k = true
  defer_ : ∀ d k, P (.defer_ d k) = true → P d = true ∧ P k = true

theorem invP_iff (P : Prog → Bool) (t : Thread) :
    invP P t = true ↔ stP P t.st = true ∧ allK P t.frames = true := Bool.and_eq_true_iff

theorem allK_cons (P : Prog → Bool) (w : Wrap) (k : Prog) (ds : List Prog) (fs : List Frame) :
    allK P ((w, k, ds) :: fs) = true ↔
      P k = true ∧ (∀ d ∈ ds, P d = true) ∧ allK P fs = true := by
  simp only [allK, Bool.and_eq_true, List.all_eq_true, and_assoc]

/-- leaving a frame keeps a frame predicate: what comes to execution is a deferred closure
    of the frame or the continuation of the caller -/
theorem leaveT_invP (P : Prog → Bool) (hd : P .done = true) (t : Thread) (o : Option Err)
    (h : allK P t.frames = true) : invP P (leaveT t o) = true := by
  unfold leaveT
  split
  · exact (invP_iff P _).2 ⟨rfl, h⟩
  · rename_i w k d ds fs hf
    rw [hf, allK_cons] at h
    refine (invP_iff P _).2 ⟨h.2.1 d (List.mem_cons_self ..), ?_⟩
    exact (allK_cons ..).2 ⟨hd, nofun, (allK_cons ..).2
      ⟨h.1, fun d' hd' => h.2.1 d' (List.mem_cons_of_mem _ hd'), h.2.2⟩⟩
  · rename_i w k fs hf
    rw [hf, allK_cons] at h
    obtain ⟨st, e, hst⟩ := returnT_eq t w k fs o
    rw [e]
    refine (invP_iff P _).2 ⟨?_, h.2.2⟩
    rcases hst with rfl | rfl | ⟨_, rfl⟩
    · exact h.1
    · rfl
    · rfl

theorem haltedT_invP (P : Prog → Bool) (hd : P .done = true) (t : Thread)
    (h : allK P t.frames = true) : invP P (haltedT t) = true := by
  rcases haltedT_cases t with e | e | ⟨_, e⟩
  · rw [e]; exact (invP_iff P _).2 ⟨rfl, h⟩
  · rw [e]; exact (invP_iff P _).2 ⟨rfl, h⟩
  · rw [e]; exact leaveT_invP P hd t none h

theorem registerT_invP (P : Prog → Bool) (t : Thread) (d k : Prog) (hd : P d = true) (hk : P k = true)
    (h : allK P t.frames = true) : invP P (registerT t d k) = true := by
  unfold registerT
  split
  · exact (invP_iff P _).2 ⟨hk, h⟩
  · rename_i w k0 ds fs hf
    rw [hf, allK_cons] at h
    refine (invP_iff P _).2 ⟨hk, (allK_cons ..).2 ⟨h.1, fun d' hd' => ?_, h.2.2⟩⟩
    rcases List.mem_cons.1 hd' with rfl | hd'
    · exact hd
    · exact h.2.1 d' hd'

/-- a step keeps a sub-closed predicate on everything the thread can still execute -/
theorem invP_step (P : Prog → Bool) (hP : SubClosed P) (c : Bool) (t : Thread)
    (h : invP P t = true) : invP P (stepT c t).1 = true := by
  have hr := stepT_rule c t
  generalize stepT c t = r at hr ⊢
  obtain ⟨hs, hf⟩ := (invP_iff P t).1 h
  cases hr with
  | stay => exact h
  | unwind | leaving => exact leaveT_invP P hP.done t _ hf
  | halted => exact haltedT_invP P hP.done t hf
  | wakeErr | finish => exact (invP_iff P _).2 ⟨rfl, hf⟩
  | wake pr k hst =>
    rw [hst] at hs
    exact (invP_iff P _).2 ⟨(hP.after pr k).trans hs, hf⟩
  | exec _ _ hst _ hx =>
    rw [hst] at hs
    cases hx with
    | spin => exact h
    | ret => exact leaveT_invP P hP.done t _ hf
    | importFails => exact (invP_iff P _).2 ⟨rfl, hf⟩
    | compute k => exact (invP_iff P _).2 ⟨hP.compute k hs, hf⟩
    | block pr k => exact (invP_iff P _).2 ⟨hP.block pr k hs, hf⟩
    | spawn i body k => exact (invP_iff P _).2 ⟨hP.spawn i body k hs, hf⟩
    | call w body k =>
      exact (invP_iff P _).2 ⟨(hP.cb w body k hs).1, (allK_cons ..).2 ⟨(hP.cb w body k hs).2, nofun, hf⟩⟩
    | defer_ d k => exact registerT_invP P t d k (hP.defer_ d k hs).1 (hP.defer_ d k hs).2 hf

theorem subClosed_noSpin : SubClosed noSpin where
  done := rfl
  compute := fun k h => h
  block := fun pr k h => h
  after := fun pr k => by cases pr <;> rfl
  cb := fun w b k h => by simpa [noSpin] using h
  spawn := fun i b k h => by simp [noSpin] at h; exact h.2
  defer_ := fun d k h => by simpa [noSpin] using h

theorem subClosed_noCloneSpin : SubClosed noCloneSpin where
  done := rfl
  compute := fun k h => h
  block := fun pr k h => h
  after := fun pr k => by cases pr <;> rfl
  cb := fun w b k h => by simpa [noCloneSpin] using h
  spawn := fun i b k h => by simp [noCloneSpin] at h; exact h.2
  defer_ := fun d k h => by simpa [noCloneSpin] using h

theorem subClosed_noDetached : SubClosed noDetached where
  done := rfl
  compute := fun k h => h
  block := fun pr k h => h
  after := fun pr k => by cases pr <;> rfl
  cb := fun w b k h => by simp [noDetached] at h; exact ⟨h.1.2, h.2⟩
  spawn := fun i b k h => h
  defer_ := fun d k h => by simpa [noDetached] using h

/-- thread-level form of the guards: nothing the thread can still execute — the code it is
    in, the continuations of its frames, the deferred closures they hold — contains a loop -/
def noSpinT (t : Thread) : Bool := invP noSpin t

/-- nothing the thread can still spawn contains a loop -/
def noCloneSpinT (t : Thread) : Bool := invP noCloneSpin t

/-- what a thread spawns is loop-free as soon as the predicate kept on its code says so of
    the body of every `spawn` -/
theorem spawned_noSpin (P : Prog → Bool) (hP : ∀ i b k, P (.spawn i b k) = true → noSpin b = true)
    (c : Bool) (t : Thread) (h : invP P t = true) (b : Nat × Prog) (hb : (stepT c t).2 = some b) :
    noSpin b.2 = true := by
  obtain ⟨k, hk⟩ := stepT_spawned c t b hb
  have hs := ((invP_iff P t).1 h).1
  rw [hk] at hs
  exact hP _ _ k hs

theorem noSpinT_step (c : Bool) (t : Thread) (h : noSpinT t = true) :
    noSpinT (stepT c t).1 = true ∧ ∀ b, (stepT c t).2 = some b → noSpin b.2 = true :=
  ⟨invP_step noSpin subClosed_noSpin c t h,
    spawned_noSpin noSpin (fun _ _ _ h => (Bool.and_eq_true_iff.1 h).1) c t h⟩

theorem noCloneSpinT_step (c : Bool) (t : Thread) (h : noCloneSpinT t = true) :
    noCloneSpinT (stepT c t).1 = true ∧ ∀ b, (stepT c t).2 = some b → noSpin b.2 = true :=
  ⟨invP_step noCloneSpin subClosed_noCloneSpin c t h,
    spawned_noSpin noCloneSpin (fun _ _ _ h => (Bool.and_eq_true_iff.1 h).1) c t h⟩

theorem noSpinT_fire (t : Thread) : noSpinT (fireT t) = noSpinT t := by
  unfold fireT; split <;> rfl

theorem noCloneSpinT_fire (t : Thread) : noCloneSpinT (fireT t) = noCloneSpinT t := by
  unfold fireT; split <;> rfl

/-! ### the context consulted by the polls -/

theorem detachedBy_tail (f : Frame) (fs : List Frame) (h : detachedBy (f :: fs) = none) :
    detachedBy fs = none := by
  obtain ⟨w, k, ds⟩ := f
  cases w with
  | host cc b => cases cc <;> simp [detachedBy] at h ⊢ <;> exact h
  | _ => simpa [detachedBy] using h

theorem detachedBy_defers (w : Wrap) (k k' : Prog) (ds ds' : List Prog) (fs : List Frame) :
    detachedBy ((w, k, ds) :: fs) = detachedBy ((w, k', ds') :: fs) := by
  cases w with
  | host cc b => cases cc <;> rfl
  | _ => rfl

/-- leaving a frame never puts the thread under a detached callee context it was not under -/
theorem leaveT_detachedBy (t : Thread) (o : Option Err) (h : detachedBy t.frames = none) :
    detachedBy (leaveT t o).frames = none := by
  unfold leaveT
  split
  · exact h
  · rename_i w k d ds fs hf
    rw [hf] at h
    show detachedBy ((w, k, ds) :: fs) = none
    rw [detachedBy_defers w k k ds (d :: ds) fs]; exact h
  · rename_i w k fs hf
    rw [hf] at h
    obtain ⟨st, e, _⟩ := returnT_eq t w k fs o
    rw [e]; exact detachedBy_tail _ _ h

theorem registerT_detachedBy (t : Thread) (d k : Prog) :
    detachedBy (registerT t d k).frames = detachedBy t.frames := by
  unfold registerT
  split
  · rfl
  · rename_i w k0 ds fs hf
    rw [hf]; exact detachedBy_defers w k0 k0 (d :: ds) ds fs

/-- thread-level form of `noDetached`: nothing the thread can still execute calls a host
    builtin with a detached callee context, and it is not inside such a callback now -/
def noDetT (t : Thread) : Bool := invP noDetached t && (detachedBy t.frames).isNone

theorem noDetT_step (c : Bool) (t : Thread) (h : noDetT t = true) : noDetT (stepT c t).1 = true := by
  simp only [noDetT, Bool.and_eq_true, Option.isNone_iff_eq_none] at h ⊢
  obtain ⟨hi, hd⟩ := h
  refine ⟨invP_step noDetached subClosed_noDetached c t hi, ?_⟩
  have hr := stepT_rule c t
  generalize stepT c t = r at hr ⊢
  cases hr with
  | unwind | leaving => exact leaveT_detachedBy t _ hd
  | halted => rw [haltedT_of_none t hd]; exact hd
  | exec _ _ hst _ hx =>
    cases hx with
    | ret => exact leaveT_detachedBy t _ hd
    | defer_ d k => rw [registerT_detachedBy]; exact hd
    | call w body k =>
      -- the frame pushed is not a detached host callback: `noDetached` rules that out
      have hs := ((invP_iff _ t).1 hi).1
      rw [hst] at hs
      show detachedBy ((w, k, []) :: t.frames) = none
      cases w with
      | host cc b =>
        cases cc
        · exact hd
        · simp [stP, noDetached] at hs
      | _ => exact hd
    | _ => exact hd
  | _ => exact hd

theorem noDetT_fire (t : Thread) : noDetT (fireT t) = noDetT t := by
  unfold fireT; split <;> rfl

/-! ### threads that are inside nothing but module bodies -/

/-- every enclosing frame is the frame of an `import` (no deferred closures: it is not a
    function frame) -/
def impF : List Frame → Bool
  | [] => true
  | (w, _, ds) :: fs => w == .imp && ds.isEmpty && impF fs

theorem impF_detachedBy (fs : List Frame) (h : impF fs = true) : detachedBy fs = none := by
  induction fs with
  | nil => rfl
  | cons f fs ih =>
    obtain ⟨w, k, ds⟩ := f
    simp [impF] at h
    obtain ⟨⟨rfl, _⟩, hfs⟩ := h
    exact ih hfs

/-- inside module bodies alone an error unwinds unchanged, import frame after import frame,
    and a module body that ends resumes its importer -/
theorem leaveT_impF (t : Thread) (h : impF t.frames = true) :
    (t.frames = [] ∧ ∀ o, leaveT t o = { t with st := .fin o }) ∨
    ∃ k fs, t.frames = (.imp, k, []) :: fs ∧ impF fs = true ∧
      (∀ e, leaveT t (some e) = { t with st := .raising e, frames := fs }) ∧
      leaveT t none = { t with st := .run k, frames := fs } := by
  cases hf : t.frames with
  | nil => exact .inl ⟨rfl, fun o => by rw [leaveT_nil t o hf, hf]⟩
  | cons f fs =>
    obtain ⟨w, k, ds⟩ := f
    rw [hf] at h
    simp [impF] at h
    obtain ⟨⟨rfl, rfl⟩, hfs⟩ := h
    refine .inr ⟨k, fs, rfl, hfs, fun e => ?_, ?_⟩
    · rw [leaveT_return t _ hf]; cases e <;> rfl
    · rw [leaveT_return t _ hf]; rfl

/-- the main thread of a program without lossy constructs (`noLossy`) is always outside
    callbacks — inside nothing but the top-level code of modules it imports, which hand an
    error on unchanged —, and whatever stops it stops it with the context's own error -/
def ctxPath (t : Thread) : Bool :=
  impF t.frames && allK noLossy t.frames && (match t.st with
    | .run p => noLossy p
    | .blocked pr k => primEffect pr == some .ctx && noLossy k
    | .raising e => e == .ctx
    | .leaving => false
    | .fin e => e == none || e == some .ctx)

theorem ctxPath_step (c : Bool) (t : Thread) (h : ctxPath t = true) : ctxPath (stepT c t).1 = true := by
  have h0 := h
  simp only [ctxPath, Bool.and_eq_true] at h
  obtain ⟨⟨hi, hk⟩, hs⟩ := h
  have hr := stepT_rule c t
  generalize stepT c t = r at hr ⊢
  cases hr with
  | stay => exact h0
  | leaving hst => rw [hst] at hs; cases hs
  | unwind e hst =>
    rw [hst] at hs
    obtain rfl : e = .ctx := by simpa using hs
    rcases leaveT_impF t hi with ⟨_, hl⟩ | ⟨k, fs, hf, hfs, hl, _⟩
    · simp [hl, ctxPath, hi, hk]
    · rw [hf, allK_cons] at hk
      simp [hl, ctxPath, hfs, hk.2.2]
  | halted =>
    rw [haltedT_of_none t (impF_detachedBy _ hi)]
    simp [ctxPath, hi, hk]
  | wakeErr pr k e hst _ he =>
    rw [hst] at hs
    simp [he] at hs
    simp [ctxPath, hi, hk, hs.1]
  | wake pr k hst _ he => rw [hst] at hs; simp [he] at hs
  | finish hst hf => simp [ctxPath, hf, impF, allK]
  | exec _ _ hst _ hx =>
    rw [hst] at hs
    cases hx with
    | spin => exact h0
    | ret hne =>
      rcases leaveT_impF t hi with ⟨hf, _⟩ | ⟨k, fs, hf, hfs, _, hl⟩
      · exact absurd hf hne
      · rw [hf, allK_cons] at hk
        simp [hl, ctxPath, hfs, hk.1, hk.2.2]
    | importFails => simp [ctxPath, hi, hk]
    | compute | block | spawn => simpa [ctxPath, hi, hk, noLossy] using hs
    | defer_ => cases hs
    | call w body k =>
      -- `noLossy` admits no callback but an import
      cases w with
      | imp =>
        simp [noLossy] at hs
        simp [ctxPath, impF, allK, hi, hk, hs]
      | _ => cases hs

theorem ctxPath_fire (t : Thread) : ctxPath (fireT t) = ctxPath t := by
  unfold fireT; split <;> rfl

end Risor.C06
