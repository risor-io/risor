import RisorModel.C06.Shared
/-!
C06 — several evaluations sharing host-supplied channel objects: property theorems.

"When the context given to an evaluation is cancelled or reaches its deadline, the call
returns promptly …" — for an evaluation that shares channel objects with OTHER evaluations
(each with its own context, cancelled at its own time) this must hold whatever the others do.

Everything is for ALL systems `s : Sys` (any number of contexts, consumers and channels, in any
state) and ALL traces `σ : List Label` (every interleaving of the consumers' steps, of the
cancellations of every context and of values put into / taken out of the channels by anybody).
-/
namespace Risor.C06.Shared

/-! ### locality: what a step of one consumer touches -/

/-- a step of consumer `k` leaves the state of every context, every other consumer, and the
    context `k` itself belongs to as they are -/
theorem stepCon_frame (s : Sys) (k : Nat) (b : Bool) :
    (stepCon s k b).done = s.done ∧ (∀ i, i ≠ k → (stepCon s k b).cons i = s.cons i) ∧
    ((stepCon s k b).cons k).ctx = (s.cons k).ctx := by
  unfold stepCon
  simp only []
  split
  · exact ⟨rfl, fun _ _ => rfl, rfl⟩
  · split
    · exact ⟨rfl, fun i h => by simp [setCon, h], by simp [setCon]⟩
    · rename_i o c rest _
      unfold selectT
      simp only []
      split
      · exact ⟨rfl, fun i h => by simp [setCon, setCh, h], by simp [setCon]⟩
      · split
        · cases o <;> exact ⟨rfl, fun i h => by simp [setCon, setCh, h], by simp [setCon]⟩
        · exact ⟨rfl, fun _ _ => rfl, rfl⟩

/-- nothing but a consumer's own steps changes it: not the steps of the others, not the
    cancellation of any context, not what happens to the channels -/
theorem apply_cons_other (s : Sys) (i : Nat) (l : Label) (h : l.notStepOf i = true) :
    (applyWith stepCon s l).cons i = s.cons i := by
  cases l with
  | cancel k => rfl
  | step k b =>
    have hk : i ≠ k := by
      intro e
      simp [Label.notStepOf, e] at h
    exact (stepCon_frame s k b).2.1 i hk
  | feed c =>
    simp only [applyWith]
    split <;> rfl
  | drain c => rfl

theorem apply_done_mono (s : Sys) (k : Nat) (l : Label) (h : s.done k = true) :
    (applyWith stepCon s l).done k = true := by
  cases l with
  | cancel j =>
    simp only [applyWith]
    split
    · rfl
    · exact h
  | step j b =>
    show (stepCon s j b).done k = true
    rw [(stepCon_frame s j b).1]; exact h
  | feed c =>
    simp only [applyWith]
    split
    · exact h
    · exact h
  | drain c => exact h

/-! ### the property -/

/-- **the own context suffices, one step**: a consumer whose OWN context is done and that has
    not ended loses potential with every step of its own — whatever state the channel it is
    blocked on is in, whoever else is parked on it, whichever case Go's `select` picks. -/
theorem own_step_decreases (s : Sys) (i : Nat) (b : Bool) (hd : s.done (s.cons i).ctx = true) :
    pot (stepCon s i b) i ≤ pot s i - 1 := by
  unfold pot stepCon
  simp only []
  cases he : (s.cons i).ended with
  | true => simp [he]
  | false =>
    simp only [Bool.false_eq_true, if_false]
    cases ht : (s.cons i).todo with
    | nil => simp [setCon]
    | cons oc rest =>
      obtain ⟨o, c⟩ := oc
      simp only [selectT, hd]
      split
      · simp [setCon, he]
      · cases o <;> simp [setCon, he]

/-- potential 0 is the ended consumer: nothing is left for it to do -/
theorem pot_zero_iff (s : Sys) (i : Nat) : pot s i = 0 ↔ (s.cons i).ended = true := by
  unfold pot
  split
  · simp [*]
  · simp [*]

/-- **C06 for evaluations that share channel objects**: the code as it is meets the Spec.
    For every system, every consumer `i` whose own context is done and every trace — every
    interleaving with the steps of all other consumers (parked for ever on the same channel
    object or not), with the cancellation of any other context at any time, with values put
    into or taken out of the channels —: once the trace contains `pot s i` steps of `i`
    (at most one per channel operation it still had to do, plus one), `i` has ended.  For the
    main code of an evaluation that is: the evaluation has returned. -/
theorem C06_shared_own_context_suffices : Spec stepCon := by
  intro s i σ
  induction σ generalizing s with
  | nil =>
    intro _ hp
    have : pot s i = 0 := by simp [ownSteps] at hp; exact hp
    exact (pot_zero_iff s i).mp this
  | cons l σ ih =>
    intro hd hp
    show ((execWith stepCon (applyWith stepCon s l) σ).cons i).ended = true
    by_cases hl : l.notStepOf i = true
    · have hc := apply_cons_other s i l hl
      apply ih
      · rw [hc]; exact apply_done_mono s _ l hd
      · have : ownSteps i (l :: σ) = ownSteps i σ := by
          cases l with
          | step j b =>
            have : j ≠ i := by simpa [Label.notStepOf] using hl
            simp [ownSteps, this]
          | _ => rfl
        rw [this] at hp
        unfold pot at hp ⊢
        rw [hc]; exact hp
    · cases l with
      | step j b =>
        have hj : j = i := by simpa [Label.notStepOf] using hl
        subst hj
        apply ih
        · show (stepCon s j b).done ((stepCon s j b).cons j).ctx = true
          rw [(stepCon_frame s j b).1, (stepCon_frame s j b).2.2]; exact hd
        · have h1 := own_step_decreases s j b hd
          have h2 : ownSteps j (Label.step j b :: σ) = 1 + ownSteps j σ := by simp [ownSteps]
          rw [h2] at hp
          show pot (stepCon s j b) j ≤ ownSteps j σ
          omega
      | _ => simp [Label.notStepOf] at hl

/-- the same, read as independence: two traces that agree on nothing but the number of own
    steps of `i` (≥ `pot`) — the other evaluations cancelled early, late or never — both end
    with `i` ended -/
theorem C06_shared_others_irrelevant (s : Sys) (i : Nat) (σ τ : List Label)
    (hd : s.done (s.cons i).ctx = true) (h1 : pot s i ≤ ownSteps i σ) (h2 : pot s i ≤ ownSteps i τ) :
    ((exec s σ).cons i).ended = true ∧ ((exec s τ).cons i).ended = true :=
  ⟨C06_shared_own_context_suffices s i σ hd h1, C06_shared_own_context_suffices s i τ hd h2⟩

/-- a consumer whose context is NOT done and whose next operation cannot complete stays
    parked: its own steps change nothing (the model does not end evaluations for free) -/
theorem parked_stays (s : Sys) (i : Nat) (b : Bool) (o : Op) (c : Nat) (rest : List (Op × Nat))
    (he : (s.cons i).ended = false) (ht : (s.cons i).todo = (o, c) :: rest)
    (hd : s.done (s.cons i).ctx = false) (hr : ready o (s.chans c) = false) :
    (stepCon s i b).cons i = s.cons i := by
  unfold stepCon
  simp only [he, ht, selectT, hd, hr]
  simp [setCh]

/-! ### the contrast: a primitive that first waits for something that looks at no context -/

/-- under `stepLock`, a consumer `j` that reaches `range` over a channel whose iteration lock
    is held by another consumer `h` does not move by its own steps, whatever context is done -/
theorem stepLock_waiter_fixed (s : Sys) (j h c : Nat) (b : Bool) (rest : List (Op × Nat))
    (he : (s.cons j).ended = false) (ht : (s.cons j).todo = (.range, c) :: rest)
    (hh : (s.chans c).holder = some h) (hne : h ≠ j) : stepLock s j b = s := by
  unfold stepLock
  simp only [he, ht, hh]
  simp [hne]

/-- **lockFirst_not_stopped**: under the lock-first `Next`, for every system in which consumer
    `j` has reached `range` over a channel whose lock another consumer `h` holds (it is parked
    in `Next` under ITS context), and for every trace made of cancellations of ANY contexts —
    `j`'s own included — and of any number of `j`'s own steps: `j` has not ended.  Only a step
    of the holder (a value arrives, or the HOLDER's context is done) ever lets it go on. -/
theorem lockFirst_not_stopped (s : Sys) (j h c : Nat) (rest : List (Op × Nat)) (σ : List Label)
    (he : (s.cons j).ended = false) (ht : (s.cons j).todo = (.range, c) :: rest)
    (hh : (s.chans c).holder = some h) (hne : h ≠ j)
    (hσ : ∀ l ∈ σ, (∃ k, l = .cancel k) ∨ (∃ b, l = .step j b)) :
    ((execWith stepLock s σ).cons j).ended = false := by
  induction σ generalizing s with
  | nil => exact he
  | cons l σ ih =>
    show ((execWith stepLock (applyWith stepLock s l) σ).cons j).ended = false
    have hrest : ∀ l' ∈ σ, (∃ k, l' = .cancel k) ∨ (∃ b, l' = .step j b) :=
      fun l' hl' => hσ l' (List.mem_cons_of_mem _ hl')
    rcases hσ l (List.mem_cons_self ..) with ⟨k, rfl⟩ | ⟨b, rfl⟩
    · exact ih _ he ht hh hrest
    · show ((execWith stepLock (stepLock s j b) σ).cons j).ended = false
      rw [stepLock_waiter_fixed s j h c b rest he ht hh hne]
      exact ih s he ht hh hrest

/-- the witness: consumer 0 (context 0, live) is parked in `range` over channel 0 and holds its
    lock; consumer 1 (context 1) reaches `range` over the same channel object -/
def lockWitness : Sys :=
  { done := fun k => k == 1,
    cons := fun i => if i = 0 then { ctx := 0, todo := [(.range, 0)], ended := false }
      else if i = 1 then { ctx := 1, todo := [(.range, 0)], ended := false }
      else { ctx := 2, todo := [], ended := true },
    chans := fun _ => { len := 0, cap := 1, holder := some 0 } }

/-- **the lock-first `Next` violates the Spec**: in `lockWitness` the context of consumer 1 is
    done, yet no number of its own steps ends it -/
theorem lockFirst_violates_spec : ¬ Spec stepLock := by
  intro hs
  have h := hs lockWitness 1 [.step 1 false, .step 1 false] rfl (by decide +kernel)
  have hn := lockFirst_not_stopped lockWitness 1 0 0 [] [.step 1 false, .step 1 false]
    rfl rfl rfl (by decide +kernel) (by
      intro l hl
      simp at hl
      rcases hl with rfl | rfl <;> exact Or.inr ⟨false, rfl⟩)
  rw [h] at hn
  exact Bool.noConfusion hn

/-- … while the code as it is ends consumer 1 of the same system with its first own step -/
example : ((exec lockWitness [.step 1 false]).cons 1).ended = false ∧
    ((exec lockWitness [.step 1 false, .step 1 false]).cons 1).ended = true := by
  constructor <;> rfl

/-- the two step functions differ only in `range`: every other operation is the same `select` -/
theorem stepLock_eq_stepCon_off_range (s : Sys) (i : Nat) (b : Bool)
    (h : ∀ c rest, (s.cons i).todo ≠ (.range, c) :: rest) : stepLock s i b = stepCon s i b := by
  unfold stepLock
  simp only []
  split
  · unfold stepCon; simp [*]
  · first
      | rfl
      | (split
         · rename_i c rest heq
           exact absurd heq (h c rest)
         · rfl)

/-- the hypotheses of the Spec are satisfiable with consumers blocked in every way the
    language offers, on one channel object, under different contexts -/
example : ∃ s : Sys, s.done (s.cons 1).ctx = true ∧ s.done (s.cons 0).ctx = false ∧
    (s.cons 0).todo = [(.range, 0)] ∧ (s.cons 1).todo = [(.arrow, 0), (.receive, 0), (.send, 1)] ∧
    pot s 1 = 4 :=
  ⟨{ done := fun k => k == 1,
     cons := fun i => if i = 0 then { ctx := 0, todo := [(.range, 0)], ended := false }
       else { ctx := 1, todo := [(.arrow, 0), (.receive, 0), (.send, 1)], ended := false },
     chans := fun _ => { len := 0, cap := 0 } }, rfl, rfl, rfl, rfl, rfl⟩

end Risor.C06.Shared
