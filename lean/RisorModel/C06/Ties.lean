import RisorModel.C06.Model
import RisorModel.Generated.C06
/-!
C06 ties: the structural facts about the halt test of `eval` regenerated from `vm/vm.go` by
the extractor on this run equal what the thread model assumes (`pollImpl`, `haltedT`,
`stepT`: the flag alone decides, the consulted context only chooses the returned value, no
step lowers the flag).  An edit that makes the halt test depend on the context the callee
was handed, adds a second test, or lowers the flag anywhere in `eval` / `callFunction` /
`callObject` (its Go-level defer that runs the deferred calls of a frame included), or hands
the top-level code of an imported module another context than the importer's, breaks a named
lemma.
-/
namespace Risor.C06
open Risor.Generated.C06

/-- `eval` has exactly one halt test, `atomic.LoadInt32(&vm.halt) == 1`, as the first
    statement of the dispatch loop: every instruction polls (model: every `.run` step of
    `stepT` starts with `if t.halt`) -/
theorem halt_test_every_instruction_tie :
    haltTestCount = 1 ∧ haltTestCond = expectHaltTestCond ∧ haltTestFirstInLoop = true := by decide +kernel

/-- the DECISION to stop does not depend on the context `eval` was handed: the condition
    does not mention `ctx`, and the body is one unconditional `return ctx.Err()` — no nested
    test, no else (model: `pollImpl halt _` stops iff `halt`;
    `Props.poll_decision_ignores_callee_ctx`, `Props.halt_honoured_any_callee_ctx`) -/
theorem halt_test_ignores_callee_ctx_tie :
    haltTestCondMentionsCtx = false ∧ haltTestUnconditionalReturn = true ∧ haltTestHasElse = false ∧
    haltTestBody = expectHaltTestBody := by decide +kernel

/-- the flag is never lowered by running code: nothing in `eval`, `callFunction`,
    `callObject` writes it; in the whole package only `start` (and the watcher it spawns) and
    `resetForNewCode` do (model: `stepT_flags` — a step never changes `halt`; `restart`) -/
theorem halt_never_lowered_by_eval_tie :
    evalHaltWrites = [] ∧ callFunctionHaltWrites = [] ∧ callObjectHaltWrites = [] ∧
    haltWriters = expectHaltWriters := by decide +kernel

/-- the context a callback's polls consult is the one the builtin handed to the public
    callback API: `initContext` registers `vm.callFunction`, whose first parameter `ctx` goes
    to `vm.eval(ctx)` unchanged (model: `detachedBy t.frames`) -/
theorem callee_ctx_reaches_eval_tie :
    registeredCallFunc = expectRegisteredCallFunc ∧ callFunctionFirstParam = expectCallFunctionFirstParam ∧
    callFunctionEvalArg = expectCallFunctionEvalArg ∧ callFunctionReassignsCtx = false := by decide +kernel

/-- the deferred calls of a frame run under the flag as it is: `callFunction` has exactly one
    Go-level `defer` that ranges over `callFrame.defers`, the loop is its first statement (no
    early return: the deferred calls run however the frame is left, also when the halt test
    stopped it), each partial is called through `vm.callObject` with the context
    `callFunction` was handed — a nested `callFunction` / `eval` whose first instruction polls
    —, and nothing in it reads or writes `vm.halt` (model: `leaveT` keeps the flag,
    `leaveT_flags`; `Props.halt_stops_deferred_calls`; the forbidden variant is
    `leaveLowering`, `Props.deferLowering_not_stopped`) -/
theorem deferred_calls_run_under_the_flag_tie :
    (deferRunnerCount = 1 ∧ deferRunnerLoopFirst = true ∧ deferRunnerCall = expectDeferRunnerCall) ∧
    (deferRunnerTouchesHalt = false ∧ callFunctionHaltWrites = []) := by decide +kernel

/-- the top-level code of an imported module runs under the importer's context:
    `importModule(ctx context.Context, …)` evaluates it with exactly one `vm.eval(ctx)`, never
    reassigns `ctx` and derives no context at all (no call into package `context`), and every
    call of `vm.importModule` in `eval` (`op.Import`, twice in `op.FromImport`) passes the `ctx`
    `eval` was handed, which `eval` never reassigns (model: code inside an `.imp` frame is
    stepped with the same signal as the code around it and what it spawns is an ordinary
    thread of the system — `Props.stepImp_follows`, `Props.import_body_blocked_unblocks`,
    `Props.C06_partial_import`; the forbidden variant is `stepImp .detached`,
    `Props.importDetached_not_stopped`, `Props.inherited_ctx_never_fires_never_stops`) -/
theorem import_body_runs_under_importers_ctx_tie :
    (importModuleFirstParam = expectImportFirstParam ∧ importModuleEvalArgs = expectImportEvalArgs ∧
      importModuleReassignsCtx = false ∧ importModuleDerivesCtx = false) ∧
    (importModuleCallCtxArgs = expectImportCallCtxArgs ∧ evalReassignsCtx = false) := by decide +kernel

/-- an `import` reached after the context has fired starts nothing: `importModule` asks the
    importer with the context it was given (`vm.importer.Import(ctx, name)`), the local importer
    hands it through `parseAndCompile` to `parser.Parse(ctx, …)` unchanged, and the statement
    loop of `Parser.Parse` opens with `select { case <-ctx.Done(): return nil, ctx.Err() … }`
    (model: `stepT` on `.cb .imp` with the context fired raises the context's error;
    `Props.import_after_cancellation_fails`) -/
theorem import_parse_observes_ctx_tie :
    importerCallArgs = expectImporterCallArgs ∧
    (localImporterCtxChain = expectLocalImporterCtxChain ∧ localImporterReassignsCtx = false) ∧
    parserCtxCheck = expectParserCtxCheck := by decide +kernel

end Risor.C06
