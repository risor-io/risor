import RisorModel.C06.Lemmas
/-!
C06 — property theorems.  "When the context given to an evaluation is cancelled or reaches
its deadline, the call returns promptly with the context's error for every program …
After it has returned, no script code keeps executing, including code in goroutines the
script started."

Everything is for ALL program shapes `p : Prog` (any size, any nesting of callbacks and
spawns), ALL thread states and ALL traces `σ : List Label` — i.e. every interleaving of
thread steps, watcher goroutines and the cancellation instant; no bound anywhere.
"Promptly" is proved as "within `potT t` of the thread's own steps", a number computed
from what is left of its program; wall-clock time is not modelled.
-/
namespace Risor.C06

/-! ### 1. The polling mechanism -/

/-- (the poll) on a VM whose `halt` flag is set, the next instruction of any
    code — loop, recursion, call of a builtin, a callback's return — does not execute: the
    context's error is raised instead.  For every thread state whose current `eval` was handed
    a context that fires with the run's (`detachedBy = none`: the main code, and every
    callback of the builtins of the repository, which pass their own context on; for ANY
    callee context see `halt_honoured_any_callee_ctx`); the only step that does not poll is
    falling off the end of the main code (nothing is left to stop there). -/
theorem main_stops (c : Bool) (t : Thread) (p : Prog) (hh : t.halt = true) (hr : t.st = .run p)
    (hp : p ≠ .done ∨ t.frames ≠ []) (hd : detachedBy t.frames = none) :
    (stepT c t).1.st = .raising .ctx := by
  rw [stepT_halted c t p hh hr hp, haltedT_of_none t hd]

/-- the hypothesis of `main_stops` holds for every frame stack made of the builtins of the
    repository and of host builtins that pass a context cancelled with the run's -/
theorem detachedBy_none_of_follows (fs : List Frame)
    (h : ∀ f ∈ fs, ∀ e, f.1 ≠ .host .detached e) : detachedBy fs = none := by
  fun_induction detachedBy fs with
  | case1 => rfl
  | case2 e => exact absurd rfl (h _ (List.mem_cons_self ..) e)
  | case3 f fs _ ih => exact ih fun f hf => h f (List.mem_cons_of_mem _ hf)

/-! ### 1b. The halt test does not depend on the context the callee was handed -/

/-- the DECISION of the halt test reads only the flag: whatever the consulted context
    reports (`e`, `e'` — the run's own context, a child, a detached one), the instruction
    executes for both or for neither; the consulted context only chooses the returned value -/
theorem poll_decision_ignores_callee_ctx (halt e e' : Bool) :
    (pollImpl halt e = .go ↔ pollImpl halt e' = .go) ∧
    (pollImpl halt e = .stop e ↔ halt = true) ∧ pollImpl halt e ≠ .lower := by
  cases halt <;> cases e <;> cases e' <;> simp [pollImpl]

/-- the halted branch of the thread model IS that test: with the flag raised the poll stops
    (`.stop`), with the error of the consulted context when it reports one -/
theorem haltedT_is_poll_stop (t : Thread) :
    pollImpl true (detachedBy t.frames).isNone = .stop (detachedBy t.frames).isNone ∧
    ((detachedBy t.frames).isNone = true → (haltedT t).st = .raising .ctx) := by
  refine ⟨rfl, fun h => ?_⟩
  rw [haltedT_of_none t (by cases hd : detachedBy t.frames <;> simp_all)]

/-- on a VM whose `halt` flag is set, the next poll of ANY
    frame stops, for EVERY callee context: whatever builtins enclose the running code and
    whatever context each of them handed to its callback (`t.frames` is arbitrary — the
    caller's own context, a child, `WithValue`, `WithoutCancel`, background + values, nested
    in any order), the instruction does not execute, nothing is spawned, the flag stays
    raised (it is never lowered), and the frame is left: by the context's error, by the pop
    panic, or as if the callback had returned (`leaveT t none`: the deferred calls of the frame,
    if it holds any, then the enclosing builtin) — so what is left to do strictly
    shrinks.  (By `halt_implies_cancelled` a raised flag in a reachable state was raised by
    the watcher of the run's own context.) -/
theorem halt_honoured_any_callee_ctx (c : Bool) (t : Thread) (p : Prog) (hh : t.halt = true)
    (hr : t.st = .run p) (hp : p ≠ .done ∨ t.frames ≠ []) :
    (stepT c t).1.halt = true ∧ (stepT c t).2 = none ∧
    ((stepT c t).1.st = .raising .ctx ∨ (stepT c t).1.st = .raising .panic ∨
      (t.frames ≠ [] ∧ (stepT c t).1 = leaveT t none ∧
        ∀ w k fs, t.frames = (w, k, []) :: fs → (∀ o, w ≠ .dfr o) →
          (stepT c t).1.st = .run k ∧ (stepT c t).1.frames = fs)) ∧
    potT (stepT c t).1 < potT t := by
  rw [stepT_halted c t p hh hr hp]
  refine ⟨by rw [(haltedT_flags t).1]; exact hh, rfl, ?_, ?_⟩
  · rcases haltedT_cases t with e | e | ⟨hf, e⟩
    · exact Or.inl (by rw [e])
    · exact Or.inr (Or.inl (by rw [e]))
    · refine Or.inr (Or.inr ⟨hf, e, fun w k fs hfr hw => ?_⟩)
      show (haltedT t).st = .run k ∧ (haltedT t).frames = fs
      rw [e, leaveT_return t _ hfr]
      cases w with
      | dfr o => exact absurd rfl (hw o)
      | _ => exact ⟨rfl, rfl⟩
  · have h1 := haltedT_pot t
    have h2 := size_pos p
    have h3 : potT t = size p + potFrames t.frames := by unfold potT; rw [hr]; rfl
    show potT (haltedT t) < potT t
    omega

/-- the property does NOT hold for a halt test that trusts the
    consulted context.  Under a detached callee context it lowers the flag and the
    instruction executes (so a loop in the callback is never stopped, and the cancellation
    is lost for the whole evaluation); the code as it is never does that. -/
theorem pollTrusting_not_honoured :
    pollTrusting true false = .lower ∧ (∀ halt e, pollImpl halt e ≠ .lower) ∧
    (∀ e, pollTrusting true e = pollImpl true e ↔ e = true) := by
  refine ⟨rfl, ?_, ?_⟩
  · intro halt e; cases halt <;> cases e <;> simp [pollImpl]
  · intro e; cases e <;> simp [pollTrusting, pollImpl]

/-- a thread blocked in any of the context-aware primitives (channel
    receive/send/range, `time.sleep`, `thread.wait`) is enabled as soon as the context has
    fired, on whatever VM it runs (watcher or not), and its step leaves the primitive:
    with the primitive's error, or normally for `sleep` / range. -/
theorem blocked_unblocks (t : Thread) (pr : Prim) (k : Prog) (hb : t.st = .blocked pr k) :
    (stepT true t).1.st = (match primEffect pr with
      | some e => .raising e
      | none => .run (afterPrim pr k)) := by
  obtain ⟨id, halt, armed, st, frames⟩ := t
  simp only at hb
  subst hb
  cases h : primEffect pr <;> simp [stepT, h]

/-- …and before the context fires such a thread does not move (the model does not stop
    things by accident). -/
theorem blocked_waits (t : Thread) (pr : Prim) (k : Prog) (hb : t.st = .blocked pr k) :
    (stepT false t).1 = t := by
  rw [stepT_blocked_unfired t pr k hb]

/-- every primitive of the reviewed table reacts to the context -/
theorem every_primitive_reacts (pr : Prim) (k : Prog) (t : Thread) (hb : t.st = .blocked pr k) :
    (stepT true t).1.st ≠ t.st := by
  rw [blocked_unblocks t pr k hb, hb]
  cases h : primEffect pr <;> simp

/-! ### 2. A halted VM ends, in every interleaving -/

/-- a thread whose VM has `halt` set — whatever it is doing: deep
    in recursion, inside nested builtin callbacks (each, map, filter, call, sorted, try),
    blocked — has ended after at most `potT t` of its own steps.  `try` cannot keep it
    alive: the code after a swallowed error is stopped by the next poll. -/
theorem halted_thread_finishes (t : Thread) (hh : t.halt = true) (n : Nat) (hn : potT t ≤ n) :
    (iter n t).st.isFin = true :=
  finishes_of_invariant (fun t => t.halt = true)
    (fun t h => by rw [stepT_halt]; exact h)
    (fun t h hs => by rw [h] at hs; exact absurd hs.2 (by simp)) n t hh hn

/-- the watcher can only run after the cancellation: in every reachable state a set `halt`
    flag means the context has fired (no spurious stops) -/
theorem halt_implies_cancelled (cfg : Cfg) (p : Prog) (σ : List Label) :
    ∀ t ∈ (exec cfg (init p) σ).threads, t.halt = true → (exec cfg (init p) σ).cancelled = true :=
  exec_invariant_ctx cfg (fun c t => t.halt = true → c = true)
    (fun _ _ _ _ => rfl)
    (fun c t h hh => h (by rw [stepT_halt] at hh; exact hh))
    (fun _ _ _ => rfl)
    (fun _ _ _ _ _ hh => by cases hh)
    σ (init p) (fun t ht hh => by obtain rfl := List.mem_singleton.1 ht; cases hh)

/-- (main_stops for every interleaving) take ANY state reached from
    `Run(ctx)` of any program by any trace `σ₁` in which thread `i` runs on a VM whose
    watcher has fired; continue with ANY trace `σ₂` — other threads running, spawning,
    other watchers firing in any order.  As soon as `σ₂` contains `potT t` steps of thread
    `i`, that thread has ended.  For the main thread (`i = 0`) this is: the call returns. -/
theorem C06_partial_main (cfg : Cfg) (p : Prog) (σ₁ σ₂ : List Label) (i : Nat) (t : Thread)
    (ht : (exec cfg (init p) σ₁).threads[i]? = some t) (hh : t.halt = true)
    (hn : potT t ≤ ownSteps i σ₂) :
    ∃ t', (exec cfg (exec cfg (init p) σ₁) σ₂).threads[i]? = some t' ∧ t'.st.isFin = true := by
  have hc := halt_implies_cancelled cfg p σ₁ t (List.mem_of_getElem? ht) hh
  exact ⟨_, exec_local cfg i σ₂ _ t hc ht (fun _ => hh), halted_thread_finishes t hh _ hn⟩

/-- …in every reachable state of every interleaving: once the watcher of the run's own
    context has raised the flag of thread `i`'s VM, EVERY later poll of that thread — of the
    frame it is in, and of every enclosing frame it returns to, whatever context each was
    handed — finds the flag raised (`halt` is never lowered by a step) and stops. -/
theorem halt_stays_raised (cfg : Cfg) (p : Prog) (σ₁ σ₂ : List Label) (i : Nat) (t : Thread)
    (ht : (exec cfg (init p) σ₁).threads[i]? = some t) (hh : t.halt = true) :
    ∃ t', (exec cfg (exec cfg (init p) σ₁) σ₂).threads[i]? = some t' ∧ t'.halt = true := by
  have hc := halt_implies_cancelled cfg p σ₁ t (List.mem_of_getElem? ht) hh
  exact ⟨_, exec_local cfg i σ₂ _ t hc ht (fun _ => hh), by rw [iter_halt]; exact hh⟩

/-- finished is final: whatever happens afterwards, a thread that has ended stays ended
    (no script code of it runs again) -/
theorem finished_stays_finished (cfg : Cfg) (s : Sys) (σ : List Label) (i : Nat) (t : Thread)
    (hc : s.cancelled = true) (ht : s.threads[i]? = some t) (ha : t.armed = true → t.halt = true)
    (hf : t.st.isFin = true) : (exec cfg s σ).threads[i]? = some t := by
  rw [exec_local cfg i σ s t hc ht ha, iter_fix _ _ (fin_fix true t hf)]

/-- a thread that can no longer reach a loop ends once the context has fired, halted or not
    (this is what makes blocked clones harmless: the primitives themselves watch the context) -/
theorem loopfree_thread_finishes (t : Thread) (h : noSpinT t = true) (n : Nat) (hn : potT t ≤ n) :
    (iter n t).st.isFin = true :=
  finishes_of_invariant (fun t => noSpinT t = true)
    (fun t h => (noSpinT_step true t h).1)
    (fun t h hs => by
      have := ((invP_iff noSpin t).1 h).1
      rw [hs.1] at this
      cases this) n t h hn

/-- a thread in a compute loop on a VM whose `halt` is never set runs for ever -/
theorem unhalted_loop_never_ends (t : Thread) (hs : t.st = .run .spin) (hh : t.halt = false)
    (n : Nat) : (iter n t).st.isFin = false := by
  rw [iter_fix n t (spin_fix true t hs hh), hs]; rfl

/-! ### 1c. Deferred script closures run under the flag

`callFunction` runs the deferred calls of a frame when the frame is left — also when it is left
because the halt test stopped it.  A deferred script closure is one more `callFunction` /
`eval` on the same VM: its first instruction polls the flag like any other.  Everything below
is for ALL frame stacks (any nesting of builtin callbacks, script calls and deferred calls
beneath), ALL numbers and shapes of deferred closures in every frame, and every pending
outcome of the frame that is being left. -/

/-- whenever a frame that holds deferred closures is left — by an error or the halt test's
    `ctx.Err()` (`.raising e`), by its return instruction (flag down), or by the loop over the
    deferred calls of the frame above it having ended (`.leaving`) — the most recently deferred
    closure `d` starts as a frame of its own (`.dfr o` remembers the outcome so far); nothing
    else changes: the flag, the watcher, the frames beneath, the other deferred closures -/
theorem deferred_call_starts (c : Bool) (t : Thread) (w : Wrap) (k d : Prog) (ds : List Prog)
    (fs : List Frame) (hf : t.frames = (w, k, d :: ds) :: fs) (o : Option Err)
    (hst : (o = none ∧ (t.st = .leaving ∨ (t.st = .run .done ∧ t.halt = false))) ∨
      ∃ e, o = some e ∧ t.st = .raising e) :
    stepT c t = ({ t with st := .run d, frames := (.dfr o, .done, []) :: (w, k, ds) :: fs }, none) := by
  have hl := leaveT_defer t o hf
  obtain ⟨id, halt, armed, st, frames⟩ := t
  simp only at hf hst
  subst hf
  rcases hst with ⟨rfl, rfl | ⟨rfl, rfl⟩⟩ | ⟨e, rfl, rfl⟩
  · simp [stepT, hl]
  · simp [stepT, hl]
  · simp [stepT, hl]

/-- with the flag raised, a deferred closure is stopped by its
    FIRST poll like any other code.  Take any thread `t` whose VM has `halt = 1` and whose top
    frame — being left with any outcome `o` — holds deferred closures `d :: ds` (any shapes,
    unbounded loops included; any frames `fs` beneath, each with deferred closures of its own).
    The deferred call `d` starts (`t1`); its first step IS the halted branch of the poll: no
    instruction of `d` executes, nothing is spawned, the flag stays raised; when the context
    `callFunction` was handed fires with the run's, the deferred call fails with the
    context's error and the frame stack is as it was (the loop over `ds` goes on); the
    potential decreases strictly, and the whole thread — all remaining deferred closures of
    all frames included — has ended after at most `potT t1 ≤ potFrames t.frames` own steps. -/
theorem halt_stops_deferred_calls (c : Bool) (t : Thread) (o : Option Err) (w : Wrap) (k d : Prog)
    (ds : List Prog) (fs : List Frame) (hh : t.halt = true) (hf : t.frames = (w, k, d :: ds) :: fs) :
    (leaveT t o).st = .run d ∧ (leaveT t o).frames = (.dfr o, .done, []) :: (w, k, ds) :: fs ∧
    (leaveT t o).halt = true ∧
    stepT c (leaveT t o) = (haltedT (leaveT t o), none) ∧ (stepT c (leaveT t o)).1.halt = true ∧
    (detachedBy t.frames = none →
      (stepT c (leaveT t o)).1 = { leaveT t o with st := .raising .ctx }) ∧
    potT (stepT c (leaveT t o)).1 < potT (leaveT t o) ∧ potT (leaveT t o) ≤ potFrames t.frames ∧
    ∀ n, potT (leaveT t o) ≤ n → (iter n (leaveT t o)).st.isFin = true := by
  have hl := leaveT_defer t o hf
  have hh1 : (leaveT t o).halt = true := by rw [(leaveT_flags t o).1]; exact hh
  have hst : (leaveT t o).st = .run d := by rw [hl]
  have hfr : (leaveT t o).frames = (.dfr o, .done, []) :: (w, k, ds) :: fs := by rw [hl]
  have hstep := stepT_halted c (leaveT t o) d hh1 hst (Or.inr (by rw [hfr]; simp))
  refine ⟨hst, hfr, hh1, hstep, ?_, ?_, ?_, leaveT_pot t o, ?_⟩
  · rw [stepT_halt]; exact hh1
  · intro hd
    rw [hstep]
    apply haltedT_of_none
    rw [hfr]
    simp only [detachedBy]
    rw [detachedBy_defers w k k ds (d :: ds) fs, ← hf]; exact hd
  · exact (halt_honoured_any_callee_ctx c (leaveT t o) d hh1 hst (Or.inr (by rw [hfr]; simp))).2.2.2
  · intro n hn; exact halted_thread_finishes (leaveT t o) hh1 n hn

/-- …and that is so for every deferred closure of every frame, whenever it starts: on a VM
    whose flag is raised NO step of the thread executes an instruction, ever — after any
    number `n` of its own steps the flag is still raised and a step from running code (the
    body of a callback, of a script call, of a deferred closure, the main code) is the halted
    branch of the poll -/
theorem halted_steps_execute_nothing (t : Thread) (hh : t.halt = true) (n : Nat) :
    (iter n t).halt = true ∧
    ∀ c p, (iter n t).st = .run p → (p ≠ .done ∨ (iter n t).frames ≠ []) →
      stepT c (iter n t) = (haltedT (iter n t), none) := by
  have h : (iter n t).halt = true := by rw [iter_halt]; exact hh
  exact ⟨h, fun c p hr hp => stepT_halted c _ p h hr hp⟩

/-- an error is never lost in the loop over the deferred calls: the frame's outcome after a
    deferred call is that call's error if it failed, the outcome so far if it did not (a Go
    panic keeps unwinding whatever the deferred calls do) -/
theorem deferred_outcome_never_lost (pending o : Option Err) :
    (o = none → deferredOutcome pending o = pending) ∧
    (∀ e, o = some e → pending ≠ some .panic → deferredOutcome pending o = some e) ∧
    ((pending.isSome || o.isSome) = true → (deferredOutcome pending o).isSome = true) := by
  refine ⟨?_, ?_, ?_⟩
  · intro h; subst h
    cases pending with
    | none => rfl
    | some e => cases e <;> rfl
  · intro e h hp; subst h
    cases pending with
    | none => rfl
    | some e' => cases e' <;> simp_all [deferredOutcome]
  · cases pending with
    | none => cases o <;> simp [deferredOutcome]
    | some e' => cases e' <;> cases o <;> simp [deferredOutcome]

/-- the property does NOT hold for a `callFunction` that lowers
    the flag while the deferred calls of a frame run (`leaveLowering`; it would raise the
    flag again afterwards, but there is no afterwards).  For EVERY thread, whatever frames lie
    beneath, whatever else the frame holds and whatever its outcome: when the next deferred
    closure of the frame being left is an unbounded loop (a polling wait, a retry loop), the
    thread never ends under the variant — no own step changes it; the watcher goroutine is
    one-shot and has already stored its 1, nothing raises the flag again — whereas under the
    code as it is, with the flag raised, it has ended within `potT` own steps. -/
theorem deferLowering_not_stopped (t : Thread) (o : Option Err) (w : Wrap) (k : Prog)
    (ds : List Prog) (fs : List Frame) (hf : t.frames = (w, k, .spin :: ds) :: fs) :
    (∀ n, (iter n (leaveLowering t o)).st.isFin = false) ∧
    (∀ n, iter n (leaveLowering t o) = leaveLowering t o) ∧
    (t.halt = true → (iter (potT (leaveT t o)) (leaveT t o)).st.isFin = true) := by
  have hst : (leaveLowering t o).st = .run .spin := by
    unfold leaveLowering; rw [leaveT_defer t o hf]
  have hh : (leaveLowering t o).halt = false := rfl
  refine ⟨fun n => unhalted_loop_never_ends _ hst hh n,
    fun n => iter_fix n _ (spin_fix true _ hst hh), fun h => ?_⟩
  exact (halt_stops_deferred_calls true t o w k .spin ds fs h hf).2.2.2.2.2.2.2.2 _ (Nat.le_refl _)

/-- the two differ exactly in the flag: the variant starts the same deferred call on the same
    frames; the code as it is never lowers the flag when it leaves a frame -/
theorem leaveLowering_differs_only_in_flag (t : Thread) (o : Option Err) :
    (leaveLowering t o).st = (leaveT t o).st ∧ (leaveLowering t o).frames = (leaveT t o).frames ∧
    (leaveLowering t o).halt = false ∧ (leaveT t o).halt = t.halt :=
  ⟨rfl, rfl, rfl, (leaveT_flags t o).1⟩

/-! ### 1d. The top-level code of an imported module runs under the importer's context

`import m` of a source module evaluates the module's top-level code by a nested `eval` on the
same VM.  The property covers that code like any other: a cancellation that arrives while a
module body loops, is blocked in a context-aware primitive, or after it started goroutines,
must stop all of it.  That rests on ONE fact — `importModule` hands `eval` the context it was
given (`Ties.import_body_runs_under_importers_ctx_tie`) — which the model has as "code inside
an `.imp` frame is stepped with the same signal as the code around it" (`stepImp .follows`),
and which is contrasted here with an `importModule` that hands the body a context that is not
cancelled with the run's (`stepImp .detached`, `iterNever`).  Everything is for ALL frame
stacks (imports nested in callbacks, script calls, deferred calls, other imports, in any
order), all primitives, all continuations. -/

/-- the code as it is treats code inside an import like any other: `stepImp .follows` IS
    `stepT`, for every state and every signal -/
theorem stepImp_follows (c : Bool) (t : Thread) : stepImp .follows c t = stepT c t := rfl

theorem iterImp_follows (n : Nat) (t : Thread) : iterImp .follows n t = iter n t :=
  (iter_eq_iterWith n t).symm

/-- with the flag down and the context live, `import m` of a
    module that has not been imported yet pushes ONE frame — not a function frame: it holds
    no deferred closures — and goes on with the module's top-level code on the same VM; flag,
    watcher and thread are untouched, nothing is spawned, and from then on the thread is
    `inImport` -/
theorem import_starts_nested_eval (t : Thread) (body k : Prog) (hh : t.halt = false)
    (hr : t.st = .run (.cb .imp body k)) :
    stepT false t = ({ t with st := .run body, frames := (.imp, k, []) :: t.frames }, none) ∧
    inImport (stepT false t).1.frames = true := by
  obtain ⟨id, halt, armed, st, frames⟩ := t
  simp only at hh hr
  subst hh hr
  exact ⟨rfl, rfl⟩

/-- an `import` of a module that has not been imported yet,
    reached AFTER the context has fired, starts nothing: the importer parses the module with
    the same context and fails with the context's own error (flag down: e.g. on a clone VM,
    which has no watcher — a spawned function that leaves a sleep or a range over a channel
    after the cancellation cannot enter a module body any more); with the flag raised the poll
    stops the instruction first.  Either way no instruction of the module body executes
    (no import frame is pushed), nothing is spawned, and the thread is closer to its end. -/
theorem import_after_cancellation_fails (t : Thread) (body k : Prog)
    (hr : t.st = .run (.cb .imp body k)) :
    (t.halt = false → stepT true t = ({ t with st := .raising .ctx }, none)) ∧
    (t.halt = true → stepT true t = (haltedT t, none)) ∧
    (stepT true t).2 = none ∧ potT (stepT true t).1 < potT t := by
  have hd := step_decr t (by rw [hr]; rfl) (by rw [hr]; intro h; cases h.1)
  have hhalt : t.halt = true → stepT true t = (haltedT t, none) :=
    fun hh => stepT_halted true t _ hh hr (Or.inl (by simp))
  have hlive : t.halt = false → stepT true t = ({ t with st := .raising .ctx }, none) := by
    intro hh
    obtain ⟨id, halt, armed, st, frames⟩ := t
    simp only at hh hr
    subst hh hr
    rfl
  refine ⟨hlive, hhalt, ?_, hd⟩
  cases hh : t.halt
  · rw [hlive hh]
  · rw [hhalt hh]

/-- an error that leaves the top-level code of a module — the
    context's error raised by a poll or by a channel operation, anything else — is returned by
    the importing `eval` as it is (`wrapErr .imp e = some e`): the frame is popped, the same
    error goes on unwinding; and a module body that ends normally resumes the importer -/
theorem import_error_unchanged (c : Bool) (t : Thread) (k : Prog) (fs : List Frame)
    (hf : t.frames = (.imp, k, []) :: fs) :
    (∀ e, t.st = .raising e → stepT c t = ({ t with st := .raising e, frames := fs }, none)) ∧
    (t.st = .run .done → t.halt = false → stepT c t = ({ t with st := .run k, frames := fs }, none)) := by
  obtain ⟨id, halt, armed, st, frames⟩ := t
  simp only at hf
  subst hf
  refine ⟨fun e hs => ?_, fun hs hh => ?_⟩
  · simp only at hs; subst hs
    cases e <;> rfl
  · simp only at hs hh; subst hs hh
    rfl

/-- the blocking primitives of a module body select on the
    context the importing `eval` runs under.  Under the code as it is, a thread blocked in ANY
    context-aware primitive under ANY frame stack — in particular inside the top-level code of
    a module being imported, at any depth — leaves the primitive as soon as the run's context
    has fired (with the primitive's error, or normally for `sleep` / range), watcher or not. -/
theorem import_body_blocked_unblocks (t : Thread) (pr : Prim) (k : Prog) (hb : t.st = .blocked pr k) :
    (stepImp .follows true t).1.st = (match primEffect pr with
      | some e => .raising e
      | none => .run (afterPrim pr k)) ∧ (stepImp .follows true t).1.st ≠ t.st :=
  ⟨blocked_unblocks t pr k hb, every_primitive_reacts pr k t hb⟩

/-- the property does NOT hold for an `importModule` that
    evaluates the module body under a context that is not cancelled with the run's.  For EVERY
    thread blocked in a context-aware primitive inside the top-level code of a module being
    imported — whatever the primitive, whatever follows it, whatever frames lie around the
    import, and EVEN WITH the halt flag of its VM raised (a thread inside a `select` executes
    no instruction, so no poll can help it) — no own step ever changes it under the variant:
    the evaluation never returns.  Under the code as it is the same thread leaves the primitive
    at its next step, and with the flag raised it has ended within `potT t` own steps. -/
theorem importDetached_not_stopped (t : Thread) (pr : Prim) (k : Prog)
    (hb : t.st = .blocked pr k) (hi : inImport t.frames = true) :
    (∀ n, iterImp .detached n t = t) ∧ (∀ n, (iterImp .detached n t).st.isFin = false) ∧
    (stepImp .follows true t).1.st ≠ t.st ∧
    (t.halt = true → (iterImp .follows (potT t) t).st.isFin = true) := by
  have hstep : (stepImp .detached true t).1 = t := by
    show (stepT (seenBy .detached true t.frames) t).1 = t
    simp only [seenBy, hi, Bool.not_true, Bool.and_false]
    rw [stepT_blocked_unfired t pr k hb]
  have hfix : ∀ n, iterImp .detached n t = t := fun n => iterWith_fix _ n t hstep
  refine ⟨hfix, fun n => ?_, (import_body_blocked_unblocks t pr k hb).2, fun hh => ?_⟩
  · rw [hfix n, hb]; rfl
  · rw [iterImp_follows]; exact halted_thread_finishes t hh _ (Nat.le_refl _)

/-- outside an import the variant changes nothing: it is the code as it is -/
theorem importDetached_same_outside_import (c : Bool) (t : Thread) (hi : inImport t.frames = false) :
    stepImp .detached c t = stepT c t := by
  show stepT (seenBy .detached c t.frames) t = stepT c t
  simp [seenBy, hi]

/-- a function started with `go`/`spawn` runs on a
    clone VM without a watcher; the context it INHERITS is all that ever stops it.  Started by
    a module body that had been handed a context which never fires, a thread blocked in a
    context-aware primitive — waiting on a channel nobody feeds, sleeping, waiting for another
    thread — stays there for ever (`iterNever`: every own step leaves it as it is); started by
    the module body of the code as it is, it inherits the run's context, leaves the primitive
    at its next step and, being loop-free, has ended within `potT t` own steps. -/
theorem inherited_ctx_never_fires_never_stops (t : Thread) (pr : Prim) (k : Prog)
    (hb : t.st = .blocked pr k) :
    (∀ n, iterNever n t = t) ∧ (∀ n, (iterNever n t).st.isFin = false) ∧
    (stepT true t).1.st ≠ t.st ∧
    (noSpinT t = true → (iter (potT t) t).st.isFin = true) := by
  have hstep : (stepT false t).1 = t := by rw [stepT_blocked_unfired t pr k hb]
  have hfix : ∀ n, iterNever n t = t := fun n => iterWith_fix _ n t hstep
  refine ⟨hfix, fun n => ?_, every_primitive_reacts pr k t hb, fun hs => ?_⟩
  · rw [hfix n, hb]; rfl
  · exact loopfree_thread_finishes t hs _ (Nat.le_refl _)

/-- the verdict the oracle reports for the contrast (`imported` request: would the main
    thread ever end if the module body were handed a context of kind `cc`) is exact: if it has
    not ended after `potT` own steps it never will -/
theorem stopsImp_iff (cc : Cc) (t : Thread) :
    (∃ n, (iterImp cc n (fireT t)).st.isFin = true) ↔ stopsImp cc t = true := by
  constructor
  · intro ⟨n, h⟩
    show (iterImp cc (potT t) (fireT t)).st.isFin = true
    rw [← potT_fireT]; exact iterWith_fin_within_pot _ (stepLike_imp cc) n _ h
  · intro h; exact ⟨_, h⟩

/-- …and so is the verdict for a thread whose inherited context never fires -/
theorem stopsNever_iff (t : Thread) :
    (∃ n, (iterNever n t).st.isFin = true) ↔ stopsNever t = true := by
  constructor
  · intro ⟨n, h⟩; exact iterWith_fin_within_pot _ stepLike_never n _ h
  · intro h; exact ⟨_, h⟩

/-- for the code as it is the two verdicts coincide: `stopsImp .follows` is `stops` -/
theorem stopsImp_follows (t : Thread) : stopsImp .follows t = stops t := by
  unfold stopsImp stops; rw [iterImp_follows]

/-! ### 3. The verdict the oracle reports is exact -/

/-- `stops` (what the oracle answers per thread: run `potT` own steps after the watcher, if
    any, fired, and look) decides "this thread ever ends" exactly: if it has not ended by
    then it never will. -/
theorem stops_iff (t : Thread) : (∃ n, (iter n (fireT t)).st.isFin = true) ↔ stops t = true := by
  constructor
  · intro ⟨n, h⟩
    show (iter (potT t) (fireT t)).st.isFin = true
    rw [← potT_fireT]; exact fin_within_pot n _ h
  · intro h; exact ⟨_, h⟩

/-! ### 4. The full statement, its counterexample, the guard, the partial theorem -/

/-- What the property demands of a configuration: in every state reachable from `Run(ctx)`
    of any program by any trace, once the context has fired every thread that exists —
    main or spawned at any depth — ends after finitely many of its own steps, given only
    that its VM's watcher (if `start()` armed one) gets to run.  (By `exec_local` the own
    steps are all that matters: no interleaving can delay or prevent it.) -/
def C06_full (cfg : Cfg) : Prop :=
  ∀ (p : Prog) (σ : List Label), (exec cfg (init p) σ).cancelled = true →
    ∀ t ∈ (exec cfg (init p) σ).threads, ∃ n, (iter n (fireT t)).st.isFin = true

/-- the witness: `go func(){ for { tick() } }()` — a spawned compute loop -/
def leakProg : Prog := .spawn 1 .spin .done

/-- the code as it is violates the full statement.  After
    `go func(){ for {…} }()` and the cancellation, the clone's VM has no watcher (`Clone()`
    never calls `start()`), so its `halt` stays 0 and the loop never ends. -/
theorem C06_counterexample_spawned_loop : ¬ C06_full implCfg := by
  intro h
  obtain ⟨n, hn⟩ := h leakProg [.step 0, .cancel] (by decide +kernel)
    { id := 1, halt := false, armed := false, st := .run .spin, frames := [] } (by decide +kernel)
  rw [unhalted_loop_never_ends _ rfl rfl n] at hn
  cases hn

/-- …and it survives every continuation: in EVERY interleaving after the call returned the
    spawned loop is still there, still running (nothing in the system can stop it). -/
theorem C06_counterexample_persists (σ : List Label) :
    (exec implCfg (exec implCfg (init leakProg) [.step 0, .cancel, .fire 0, .step 0]) σ).threads[1]?
      = some { id := 1, halt := false, armed := false, st := .run .spin, frames := [] } := by
  have h := exec_local implCfg 1 σ (exec implCfg (init leakProg) [.step 0, .cancel, .fire 0, .step 0])
    { id := 1, halt := false, armed := false, st := .run .spin, frames := [] } (by decide +kernel) (by decide +kernel) (by simp)
  rw [h, iter_fix _ _ (spin_fix true _ rfl rfl)]

/-- for every program in which no spawned function (at any nesting depth)
    contains an unbounded compute loop — guard `noCloneSpin`, decidable, exactly the shapes
    `C06_counterexample_spawned_loop` lives in are excluded — the code as it is satisfies
    the full statement: in every reachable state after the cancellation, the main thread
    (infinite loops, deep recursion, callbacks inside builtins, anything) ends once its
    watcher has fired, and every spawned thread — blocked in channel operations, sleeps,
    waits, nested to any depth, spawning further threads — ends as well, for every
    interleaving. -/
theorem C06_partial (p : Prog) (hg : noCloneSpin p = true) (σ : List Label)
    (_hc : (exec implCfg (init p) σ).cancelled = true) :
    ∀ t ∈ (exec implCfg (init p) σ).threads, ∃ n, (iter n (fireT t)).st.isFin = true := by
  have inv := exec_invariant implCfg
    (fun t => (t.armed = true ∧ noCloneSpinT t = true) ∨ noSpinT t = true)
    (fun c t h => by
      rcases h with ⟨ha, h⟩ | h
      · exact .inl ⟨by rw [stepT_armed]; exact ha, (noCloneSpinT_step c t h).1⟩
      · exact .inr (noSpinT_step c t h).1)
    (fun t h => by
      rcases h with ⟨ha, h⟩ | h
      · exact .inl ⟨by rw [fireT_armed]; exact ha, by rw [noCloneSpinT_fire]; exact h⟩
      · exact .inr (by rw [noSpinT_fire]; exact h))
    (fun c t b h hb => by
      -- the clone runs the spawned body on no frames: loop-free by either guard
      have hb' : noSpin b.2 = true := by
        rcases h with ⟨_, h⟩ | h
        · exact (noCloneSpinT_step c t h).2 b hb
        · exact (noSpinT_step c t h).2 b hb
      exact .inr ((invP_iff ..).2 ⟨hb', rfl⟩))
    σ (init p) (by
      intro t ht
      obtain rfl := List.mem_singleton.1 ht
      exact .inl ⟨rfl, (invP_iff ..).2 ⟨hg, rfl⟩⟩)
  intro t ht
  rcases inv t ht with ⟨ha, _⟩ | h
  · exact ⟨_, halted_thread_finishes _ (fireT_halt t ha) _ (Nat.le_refl _)⟩
  · exact ⟨_, loopfree_thread_finishes _ (by rw [noSpinT_fire]; exact h) _ (Nat.le_refl _)⟩

/-- the same machinery with one change — `Clone()` arms a watcher
    for the clone's VM as `start()` does (`specCfg`) — satisfies the full statement for every
    program: the defect is exactly the missing watcher, and the repair named in DESIGN §8
    suffices. -/
theorem C06_spec_arm_clones : C06_full specCfg := by
  intro p σ _ t ht
  have inv := exec_invariant specCfg (fun t => t.armed = true)
    (fun c t h => by rw [stepT_armed]; exact h)
    (fun t h => by rw [fireT_armed]; exact h)
    (fun _ _ _ _ _ => rfl)
    σ (init p) (by intro t ht; obtain rfl := List.mem_singleton.1 ht; rfl)
  exact ⟨_, halted_thread_finishes _ (fireT_halt t (inv t ht)) _ (Nat.le_refl _)⟩

/-- (the partial theorem read for imports) for every program in which
    no spawned function contains an unbounded compute loop (`noCloneSpin`; the top-level code of
    imported modules may loop, block, call back, import further modules and spawn), in every
    state reachable by any trace after the cancellation: a thread that is inside the top-level
    code of a module it is importing (`inImport`, at any depth of frames) ends once its
    watcher, if it has one, has fired; and every thread WITHOUT a watcher — every function a
    module body (or anything else) started with `go`/`spawn`, on its clone VM — ends by its own
    steps alone, through the context it inherited. -/
theorem C06_partial_import (p : Prog) (hg : noCloneSpin p = true) (σ : List Label)
    (hc : (exec implCfg (init p) σ).cancelled = true) :
    (∀ t ∈ (exec implCfg (init p) σ).threads, inImport t.frames = true →
      ∃ n, (iterImp .follows n (fireT t)).st.isFin = true) ∧
    (∀ t ∈ (exec implCfg (init p) σ).threads, t.armed = false →
      ∃ n, (iter n t).st.isFin = true) := by
  refine ⟨fun t ht _ => ?_, fun t ht ha => ?_⟩
  · obtain ⟨n, hn⟩ := C06_partial p hg σ hc t ht
    exact ⟨n, by rw [iterImp_follows]; exact hn⟩
  · obtain ⟨n, hn⟩ := C06_partial p hg σ hc t ht
    rw [fireT_id_of_fired t (by rw [ha]; exact Bool.noConfusion)] at hn
    exact ⟨n, hn⟩

/-- bridge from the per-thread form used in `C06_full` to traces: if thread `i` ends after
    `n` own steps once its watcher has fired, then in EVERY interleaving that follows the
    watcher's firing, it has ended as soon as it was scheduled `n` times. -/
theorem ends_in_every_interleaving (cfg : Cfg) (s : Sys) (i : Nat) (t : Thread) (n : Nat)
    (hc : s.cancelled = true) (ht : s.threads[i]? = some t)
    (hn : (iter n (fireT t)).st.isFin = true) (σ : List Label) (hσ : n ≤ ownSteps i σ) :
    ∃ t', (exec cfg (apply cfg s (.fire i)) σ).threads[i]? = some t' ∧ t'.st.isFin = true := by
  have h1 : (apply cfg s (.fire i)).threads[i]? = some (fireT t) := by
    simp only [apply, hc, if_true]; exact fireAt_get_self i _ t ht
  have h2 : (apply cfg s (.fire i)).cancelled = true := by simp [apply, hc]
  have h3 : (fireT t).armed = true → (fireT t).halt = true :=
    fun ha => fireT_halt t (fireT_armed t ▸ ha)
  exact ⟨_, exec_local cfg i σ _ _ h2 h1 h3, iter_fin_mono _ _ _ hσ hn⟩

/-- under the code as it is only the main VM has a watcher: a predicate that steps keep and
    the watcher does not touch, true of the main thread at the start, holds of every armed
    thread of every reachable state -/
theorem armed_invariant (Q : Thread → Bool)
    (hstep : ∀ c t, Q t = true → Q (stepT c t).1 = true) (hfire : ∀ t, Q (fireT t) = Q t)
    (p : Prog) (h0 : ∀ t ∈ (init p).threads, Q t = true) (σ : List Label) :
    ∀ t ∈ (exec implCfg (init p) σ).threads, t.armed = true → Q t = true :=
  exec_invariant implCfg (fun t => t.armed = true → Q t = true)
    (fun c t h ha => hstep c t (h (by rw [stepT_armed] at ha; exact ha)))
    (fun t h ha => by rw [hfire]; exact h (by rw [fireT_armed] at ha; exact ha))
    (fun _ _ _ _ _ ha => by cases ha)
    σ (init p) (fun t ht _ => h0 t ht)

/-! ### 5. Which error the call returns -/

/-- state of a thread that can only end with the context's own error: no enclosing
    callback — nothing around it but the top-level code of modules being imported (`impF`;
    an import hands the error on unchanged) —, blocked only in a primitive that returns
    `ctx.Err()` itself -/
def ctxOnly (t : Thread) : Bool :=
  impF t.frames && (match t.st with
    | .run p => t.halt && p != .done
    | .blocked pr _ => primEffect pr == some .ctx
    | .raising e => e == .ctx
    | .leaving => false
    | .fin e => e == some .ctx)

/-- a thread outside every builtin callback — in the main code
    or, at any depth, in the top-level code of modules it is importing — that is stopped by
    the poll (loops, recursion — `halt` set) or is blocked in a channel receive/send ends
    with exactly the context's error (`errors.Is(err, ctx.Err())`), after at most `potT t`
    own steps. -/
theorem C06_partial_error_identity (t : Thread) (h : ctxOnly t = true) (n : Nat) (hn : potT t ≤ n) :
    (iter n t).st = .fin (some .ctx) := by
  have keep : ∀ t, ctxOnly t = true → ctxOnly (stepT true t).1 = true := by
    intro t h
    have h0 := h
    simp only [ctxOnly, Bool.and_eq_true] at h
    obtain ⟨hi, hs⟩ := h
    have hr := stepT_rule true t
    generalize stepT true t = r at hr ⊢
    cases hr with
    | stay => exact h0
    | leaving hst => rw [hst] at hs; cases hs
    | unwind e hst =>
      rw [hst] at hs
      obtain rfl : e = .ctx := by simpa using hs
      rcases leaveT_impF t hi with ⟨_, hl⟩ | ⟨k, fs, _, hfs, hl, _⟩
      · simp [hl, ctxOnly, hi]
      · simp [hl, ctxOnly, hfs]
    | wakeErr pr k e hst _ he =>
      rw [hst] at hs
      simp [he] at hs
      simp [ctxOnly, hi, hs]
    | wake pr k hst _ he => rw [hst] at hs; simp [he] at hs
    | halted =>
      rw [haltedT_of_none t (impF_detachedBy _ hi)]
      simp [ctxOnly, hi]
    | finish hst => rw [hst] at hs; simp at hs
    -- the flag is raised: no instruction executes
    | exec _ _ hst hh => rw [hst, hh] at hs; cases hs
  obtain ⟨o, ho, hc⟩ := ends_of_invariant (fun t => ctxOnly t = true) keep
    (fun t h hs => by simp [ctxOnly, hs.1, hs.2] at h) n t h hn
  simp only [ctxOnly, ho, Bool.and_eq_true, beq_iff_eq] at hc
  rw [ho, hc.2]

/-- `C06_partial_error_program` (the guard the harness attributes findings by, at program
    level): for every program whose main code — the top-level code of the modules it imports
    included — uses no callback-carrying builtin, no `thread.wait`, no `time.sleep` and no
    range over a channel (`noLossy`: plain loops, recursion, channel receive/send, imports of
    such modules, spawns of anything), in every reachable state of every interleaving, a main
    thread that was halted while it still had code to run ends with exactly the context's
    error. -/
theorem C06_partial_error_program (p : Prog) (hg : noLossy p = true) (σ : List Label) (t : Thread)
    (ht : t ∈ (exec implCfg (init p) σ).threads) (ha : t.armed = true) (hh : t.halt = true)
    (hnf : t.st.isFin = false) (hnd : t.st ≠ .run .done) (n : Nat) (hn : potT t ≤ n) :
    (iter n t).st = .fin (some .ctx) := by
  have hc := armed_invariant ctxPath ctxPath_step ctxPath_fire p
    (by intro t ht; obtain rfl := List.mem_singleton.1 ht; simp [ctxPath, impF, allK, hg]) σ t ht ha
  apply C06_partial_error_identity t _ n hn
  obtain ⟨id, halt, armed, st, frames⟩ := t
  simp only at hh hnd
  subst hh
  simp only [ctxPath, Bool.and_eq_true] at hc
  obtain ⟨⟨hi, _⟩, hs⟩ := hc
  cases st with
  | fin e => simp [St.isFin] at hnf
  | raising e => simp at hs; simp [ctxOnly, hi, hs]
  | leaving => simp at hs
  | blocked pr k => simp at hs; simp [ctxOnly, hi, hs.1]
  | run q => simp [ctxOnly, hi]; intro h; exact hnd (by rw [h])

/-- the full statement about the returned error: a halted thread that still has code to
    run ends with the context's error -/
def C06_full_error : Prop :=
  ∀ t : Thread, t.halt = true → t.st.isFin = false → (t.st ≠ .run .done ∨ t.frames ≠ []) →
    ∃ n, (iter n t).st = .fin (some .ctx)

/-- `[1].each(func(x){ for {} })` — the builtin turns
    the callback's `ctx.Err()` into `Errorf(err.Error())`; the call returns an error that
    only carries the text (and `thread.wait` wraps it the same way). -/
theorem C06_counterexample_callback_error : ¬ C06_full_error := by
  intro h
  obtain ⟨n, hn⟩ := h { id := 0, halt := true, armed := true, st := .run .spin, frames := [(.each, .done, [])] }
    rfl rfl (.inl nofun)
  -- after three own steps the thread has ended with a copy of the text, and stays so
  rw [← iter_eq_of_fin n (n + 3) _ (Nat.le_add_right ..) (by rw [hn]; rfl),
    iter_eq_of_fin 3 (n + 3) _ (Nat.le_add_left ..) (by decide +kernel)] at hn
  revert hn
  decide +kernel

/-- `try(func(){ for {} })` as the last thing a program
    does — `try` keeps the context's error as `lastErr` and returns nil; no instruction is
    left to poll, the call returns a nil error. -/
theorem C06_counterexample_try_swallows :
    ∃ t : Thread, t.halt = true ∧ t.st = .run .spin ∧ ∀ n, 3 ≤ n → (iter n t).st = .fin none := by
  refine ⟨{ id := 0, halt := true, armed := true, st := .run .spin, frames := [(.try_, .done, [])] }, rfl, rfl, ?_⟩
  intro n hn
  rw [iter_eq_of_fin 3 n _ hn (by decide +kernel)]
  decide +kernel

/-- frames that cannot swallow, state that cannot fall off the end silently (frames without
    deferred closures: the state space the statement was made for; with deferred closures see
    `halt_stops_deferred_calls`, `deferred_outcome_never_lost` and, for a raised flag,
    `C06_partial_error_nonnil_deferred`) -/
def raises (t : Thread) : Bool :=
noTry t.frames && (detachedBy t.frames).isNone && noDefersF t.frames && (match t.st with
    | .run p => t.halt && (p != .done || !t.frames.isEmpty)
    | .blocked pr _ => (primEffect pr).isSome
    | .raising _ => true
    | .leaving => false
    | .fin e => e.isSome)

/-- `raises` without its clause about the callee context: what `C06_partial_error_nonnil`
    would have to hold for if the returned error did not depend on the consulted context -/
def raisesButDetached (t : Thread) : Bool :=
  noTry t.frames && noDefersF t.frames && (match t.st with
    | .run p => t.halt && (p != .done || !t.frames.isEmpty)
    | .blocked pr _ => (primEffect pr).isSome
    | .raising _ => true
    | .leaving => false
    | .fin e => e.isSome)

theorem noTry_tail (f : Frame) (fs : List Frame) (h : noTry (f :: fs) = true) : noTry fs = true := by
  obtain ⟨w, k, ds⟩ := f
  simp [noTry] at h; exact h.2

/-- outside `try`, a thread stopped by the poll or blocked in
    receive/send/wait always ends with *an* error (the context's, or a copy of its text
    made by each/map/filter/call/sorted/wait) — never with a silent normal result. -/
theorem C06_partial_error_nonnil (t : Thread) (h : raises t = true) (n : Nat) (hn : potT t ≤ n) :
    ∃ e, (iter n t).st = .fin (some e) := by
  have keep : ∀ t, raises t = true → raises (stepT true t).1 = true := by
    intro t h
    have h0 := h
    simp only [raises, Bool.and_eq_true, Option.isNone_iff_eq_none] at h
    obtain ⟨⟨⟨ht, hd⟩, hn⟩, hs⟩ := h
    have hr := stepT_rule true t
    generalize stepT true t = r at hr ⊢
    cases hr with
    | stay => exact h0
    | leaving hst => rw [hst] at hs; cases hs
    | wakeErr => simp [raises, ht, hd, hn]
    | wake pr k hst _ he => rw [hst] at hs; simp [he] at hs
    | halted =>
      rw [haltedT_of_none t hd]
      simp [raises, ht, hd, hn]
    | finish hst hf => rw [hst, hf] at hs; simp at hs
    | exec _ _ hst hh => rw [hst, hh] at hs; cases hs
    | unwind e hst =>
      -- the frame holds no deferred closure and is neither `try` nor a detached host
      -- callback: its caller is handed an error
      cases hf : t.frames with
      | nil => simp [leaveT_nil t _ hf, raises, hf, noTry, detachedBy, noDefersF]
      | cons f fs =>
        obtain ⟨w, k, ds⟩ := f
        rw [hf] at ht hd hn
        simp only [noDefersF, Bool.and_eq_true, List.isEmpty_iff] at hn
        obtain ⟨⟨rfl, _⟩, hn'⟩ := hn
        obtain ⟨e', he'⟩ := returnT_error t w k fs e (by rintro rfl; cases ht)
        show raises (leaveT t (some e)) = true
        rw [leaveT_return t _ hf, he']
        simp [raises, noTry_tail _ _ ht, detachedBy_tail _ _ hd, hn']
  obtain ⟨o, ho, hc⟩ := ends_of_invariant (fun t => raises t = true) keep
    (fun t h hs => by simp [raises, hs.1, hs.2] at h) n t h hn
  cases o with
  | none => simp [raises, ho] at hc
  | some e => exact ⟨e, ho⟩

/-- a HALTED thread outside `try` and outside detached callee contexts, whatever deferred
    closures its frames hold -/
def raisesHalted (t : Thread) : Bool :=
  noTry t.frames && (detachedBy t.frames).isNone && t.halt && (match t.st with
    | .run p => p != .done || !t.frames.isEmpty
    | .blocked pr _ => (primEffect pr).isSome
    | .raising _ => true
    | .leaving => false
    | .fin e => e.isSome)

theorem leaveT_raisesHalted (t : Thread) (e : Err) (hh : t.halt = true) (ht : noTry t.frames = true)
    (hd : detachedBy t.frames = none) : raisesHalted (leaveT t (some e)) = true := by
  cases hf : t.frames with
  | nil => simp [leaveT_nil t _ hf, raisesHalted, hf, noTry, detachedBy, hh]
  | cons f fs =>
    obtain ⟨w, k, ds⟩ := f
    rw [hf] at ht hd
    cases ds with
    | cons d ds =>
      -- the next deferred closure of the frame starts, on top of the same frames
      have h1 : detachedBy ((w, k, ds) :: fs) = none := by
        rw [detachedBy_defers w k k ds (d :: ds) fs]; exact hd
      simp only [noTry, Bool.and_eq_true] at ht
      simp only [raisesHalted, leaveT_defer t _ hf]
      simp [noTry, detachedBy, h1, ht, hh]
    | nil =>
      obtain ⟨e', he'⟩ := returnT_error t w k fs e (by rintro rfl; cases ht)
      simp only [raisesHalted, leaveT_return t _ hf, he']
      simp [noTry_tail _ _ ht, detachedBy_tail _ _ hd, hh]

/-- on a VM whose flag is raised, outside `try` and
    outside detached callee contexts, a thread ends with AN error whatever deferred closures its
    frames hold (any number, any shapes, `try` and loops inside them included — none of their
    instructions executes): the loop over the deferred calls never turns the cancellation into
    a silent normal result. -/
theorem C06_partial_error_nonnil_deferred (t : Thread) (h : raisesHalted t = true) (n : Nat)
    (hn : potT t ≤ n) : ∃ e, (iter n t).st = .fin (some e) := by
  have keep : ∀ t, raisesHalted t = true → raisesHalted (stepT true t).1 = true := by
    intro t h
    have h0 := h
    simp only [raisesHalted, Bool.and_eq_true, Option.isNone_iff_eq_none] at h
    obtain ⟨⟨⟨ht, hd⟩, hh⟩, hs⟩ := h
    have hr := stepT_rule true t
    generalize stepT true t = r at hr ⊢
    cases hr with
    | stay => exact h0
    | leaving hst => rw [hst] at hs; cases hs
    | unwind e => exact leaveT_raisesHalted t e hh ht hd
    | wakeErr => simp [raisesHalted, ht, hd, hh]
    | wake pr k hst _ he => rw [hst] at hs; simp [he] at hs
    | halted =>
      rw [haltedT_of_none t hd]
      simp [raisesHalted, ht, hd, hh]
    | finish hst hf => rw [hst, hf] at hs; simp at hs
    | exec _ _ _ hf => rw [hh] at hf; cases hf
  obtain ⟨o, ho, hc⟩ := ends_of_invariant (fun t => raisesHalted t = true) keep
    (fun t h hs => by simp [raisesHalted, hs.2] at h) n t h hn
  cases o with
  | none => simp [raisesHalted, ho] at hc
  | some e => exact ⟨e, ho⟩

/-- `C06_partial_callee_ctx` (the guard the harness attributes the callee-context finding by,
    at program level): for every program whose main code calls no host builtin with a
    detached callee context (`noDetached`: everything made of the builtins of the repository
    and of host builtins that pass on a context cancelled with the run's — loops, blocking
    calls, spawns of anything), in every reachable state of every interleaving the context
    consulted by the main thread's polls is one that fires with the run's: a raised flag
    makes its next poll raise the context's own error (`main_stops` applies). -/
theorem C06_partial_callee_ctx (p : Prog) (hg : noDetached p = true) (σ : List Label) (t : Thread)
    (ht : t ∈ (exec implCfg (init p) σ).threads) (ha : t.armed = true) :
    detachedBy t.frames = none ∧
    ∀ c q, t.halt = true → t.st = .run q → (q ≠ .done ∨ t.frames ≠ []) →
      (stepT c t).1.st = .raising .ctx := by
  have hd : detachedBy t.frames = none := by
    have := armed_invariant noDetT noDetT_step noDetT_fire p
      (by intro t ht; obtain rfl := List.mem_singleton.1 ht; simp [noDetT, invP, stP, allK, detachedBy, hg])
      σ t ht ha
    simp [noDetT] at this
    exact this.2
  exact ⟨hd, fun c q hh hr hp => main_stops c t q hh hr hp hd⟩

/-- a host builtin runs `func(){ for {} }` back under
    `context.WithoutCancel(ctx)` as the last thing the program does.  The flag stops the
    callback (`halt_honoured_any_callee_ctx`), but `eval` returns the error of the context
    it was handed — nil; the callback "returns", no instruction is left to poll: the
    cancelled call returns a nil error. -/
theorem C06_counterexample_detached_nil :
    ∃ t : Thread, t.halt = true ∧ t.st = .run .spin ∧ raisesButDetached t = true ∧
      ∀ n, 2 ≤ n → (iter n t).st = .fin none := by
  refine ⟨{ id := 0, halt := true, armed := true, st := .run .spin, frames := [(.host .detached false, .done, [])] },
    rfl, rfl, by decide +kernel, ?_⟩
  intro n hn
  rw [iter_eq_of_fin 2 n _ hn (by decide +kernel)]
  decide +kernel

/-- the same callback when the pop of the abandoned
    frame's "result" finds the stack empty: the call returns the recovered Go panic
    (`panic: runtime error: index out of range [-1]`), which is neither the context's error
    nor a copy of its text — even with a loop after the builtin that WOULD have returned the
    context's error. -/
theorem C06_counterexample_detached_panic :
    ∃ t : Thread, t.halt = true ∧ t.st = .run .spin ∧ raisesButDetached t = true ∧
      ∀ n, 3 ≤ n → (iter n t).st = .fin (some .panic) := by
  refine ⟨{ id := 0, halt := true, armed := true, st := .run .spin, frames := [(.host .detached true, .spin, [])] },
    rfl, rfl, by decide +kernel, ?_⟩
  intro n hn
  rw [iter_eq_of_fin 3 n _ hn (by decide +kernel)]
  decide +kernel

/-! ### 5b. Evaluations on a VM that has been used before

`Run`, `Call` and `RunCode` all go through `start()`; `restart` is the main thread it
leaves behind, for ANY earlier state of the VM (`t` is universally quantified: whatever
ran before, with the same context or another one, ended normally, by the poll, with an
error; whether the context fired before, during or between the earlier evaluations). -/

/-- an evaluation started on a used VM (without the `RunCode` race)
    begins in exactly the state a fresh `Run(ctx)` begins in — `halt` cleared, a watcher
    armed for the context given NOW, no frames.  So everything proved from `init p`
    (sections 2–5) holds for every later evaluation on the same VM, and the oracle's answer
    for a `rerun` request is the one for `run`. -/
theorem restart_is_fresh (t : Thread) (p : Prog) (h0 : t.id = 0) :
    [restart false t p] = (init p).threads := by
  obtain ⟨id, halt, armed, st, frames⟩ := t
  simp only at h0
  subst h0
  rfl

/-- the state after `start()` does not depend on the history of the VM at all -/
theorem restart_independent_of_history (lost : Bool) (t t' : Thread) (p : Prog) (h : t.id = t'.id) :
    restart lost t p = restart lost t' p := by
  obtain ⟨id, halt, armed, st, frames⟩ := t
  obtain ⟨id', halt', armed', st', frames'⟩ := t'
  simp only at h
  subst h
  rfl

/-- for every earlier state of the VM and every program, once the
    context has fired (before this start, while the VM was idle, during an earlier
    evaluation, or now) and the watcher armed by THIS start has run, the evaluation ends
    within `potT` of its own steps — re-supplying a context the VM has already seen, fired or
    not, is no different from supplying a new one. -/
theorem C06_reuse_main_stops (t : Thread) (p : Prog) (n : Nat)
    (hn : potT (fireT (restart false t p)) ≤ n) :
    (iter n (fireT (restart false t p))).st.isFin = true :=
  halted_thread_finishes _ (by simp [fireT, restart]) n hn

/-- What the property demands of every entry point: whichever way the evaluation is started
    (`e`), on a VM in whatever state (`t`), whether or not the context had fired before the
    start (`firedBefore`), and whichever way the races inside the start go (`lost`, possible
    only where `canLose` says so): once the context has fired the evaluation ends. -/
def C06_full_reuse : Prop :=
  ∀ (e : Entry) (firedBefore lost : Bool), (lost = true → canLose e firedBefore = true) →
    ∀ (t : Thread) (p : Prog), ∃ n, (iter n (fireT (restart lost t p))).st.isFin = true

/-- the code as it is violates it.  `RunCode(ctx, for {})`
    on a used VM with a context that has already fired: `start()` arms the watcher, the
    watcher stores `halt := 1` and exits, `resetForNewCode()` stores `halt := 0` — the loop
    polls a flag nobody will ever set. -/
theorem C06_counterexample_runcode_reset : ¬ C06_full_reuse := by
  intro h
  obtain ⟨n, hn⟩ := h .runCode true true (fun _ => rfl) usedMain .spin
  have := unhalted_loop_never_ends (fireT (restart true usedMain .spin)) rfl rfl n
  rw [this] at hn
  exact absurd hn (by simp)

/-- outside that race — every `Run`, every `Call`, and `RunCode` with a
    context that had not fired before the start — the statement holds, with the bound. -/
theorem C06_partial_reuse (e : Entry) (firedBefore lost : Bool)
    (hl : lost = true → canLose e firedBefore = true) (hg : canLose e firedBefore = false)
    (t : Thread) (p : Prog) :
    (iter (potT (fireT (restart lost t p))) (fireT (restart lost t p))).st.isFin = true := by
  have hlost : lost = false := by
    cases lost with
    | false => rfl
    | true => rw [hl rfl] at hg; exact absurd hg (by simp)
  subst hlost
  exact C06_reuse_main_stops t p _ (Nat.le_refl _)

/-! ### 6. Non-vacuity -/

/-- the guard of `C06_partial` admits programs with loops, callbacks, every blocking
    primitive and spawns nested three deep -/
example : noCloneSpin
    (.spawn 1 (.spawn 2 (.spawn 3 (.block .recv .done) (.block .sleep (.compute .done)))
      (.cb .each (.block .wait .done) .done)) (.cb .sorted .spin .done)) = true := by decide +kernel

/-- …and the hypothesis "cancelled" of `C06_partial`/`C06_full` is reachable with live threads -/
example : (exec implCfg (init (.spawn 1 (.block .sleep .done) .spin)) [.step 0, .step 1, .cancel]).cancelled = true
    ∧ (exec implCfg (init (.spawn 1 (.block .sleep .done) .spin)) [.step 0, .step 1, .cancel]).threads.length = 2 := by
  decide +kernel

/-- `C06_partial_main` is not vacuous: a halted main thread deep inside callbacks exists
    in a reachable state and does end with an error -/
example : ∃ t, (exec implCfg (init (.cb .map (.cb .try_ .spin .done) .done))
      [.step 0, .step 0, .step 0, .cancel, .fire 0]).threads[0]? = some t ∧ t.halt = true
      ∧ (iter (potT t) t).st = .fin (some .msg) :=
  ⟨{ id := 0, halt := true, armed := true, st := .run .spin, frames := [(.try_, .done, []), (.map, .done, [])] },
    by decide +kernel, by decide +kernel, by decide +kernel⟩

/-- `halt_stops_deferred_calls` is not vacuous: `func(){ defer func(){ for {} }(); for {} }()`
    — a script call registers a deferred unbounded loop and loops; cancel, the watcher fires: a
    reachable state with the flag raised and a deferred loop pending; the evaluation ends with
    the context's error within `potT` own steps (under the lowering variant it never would:
    `deferLowering_not_stopped`) -/
example : ∃ t, (exec implCfg (init (.cb .fn (.defer_ .spin .spin) .done))
      [.step 0, .step 0, .cancel, .fire 0]).threads[0]? = some t ∧ t.halt = true
      ∧ t.frames = [(.fn, .done, [.spin])] ∧ (iter (potT t) t).st = .fin (some .ctx)
      ∧ (iter 2 t).st = .run .spin ∧ (iter 2 t).frames = [(.dfr (some .ctx), .done, []), (.fn, .done, [])] :=
  ⟨{ id := 0, halt := true, armed := true, st := .run .spin, frames := [(.fn, .done, [.spin])] },
    by decide +kernel, by decide +kernel, by decide +kernel, by decide +kernel, by decide +kernel, by decide +kernel⟩

/-- …deferred closures in the callback of a builtin and in its caller, three of them, one
    holding a deferred closure of its own and blocking primitives: all stopped; `each` hands
    a copy of the error's text to the script call, whose own deferred closure is stopped by the
    poll in turn, and THAT error — the context's — replaces the outcome of the call -/
example : (iter 40 { id := 0, halt := true, armed := true, st := .run .spin,
                     frames := [(.each, .done, [.spin, .defer_ .spin (.block .recv .spin)]), (.fn, (.compute .done), [.cb .try_ .spin .spin])] }).st
    = .fin (some .ctx) := by decide +kernel

/-- …and a frame that returned normally while the flag was down runs its deferred closure; the
    cancellation that arrives while THAT loops stops it, the error replaces the result -/
example : ∃ t, (exec implCfg (init (.cb .fn (.defer_ .spin .done) .spin))
      [.step 0, .step 0, .step 0, .cancel, .fire 0]).threads[0]? = some t ∧ t.halt = true
      ∧ t.frames = [(.dfr none, .done, []), (.fn, .spin, [])] ∧ (iter (potT t) t).st = .fin (some .ctx) :=
  ⟨{ id := 0, halt := true, armed := true, st := .run .spin, frames := [(.dfr none, .done, []), (.fn, .spin, [])] },
    by decide +kernel, by decide +kernel, by decide +kernel, by decide +kernel⟩

/-- the import theorems are not vacuous: `import m` where the top-level code of `m` is
    `go func(){ <-c }(); <-c` — a reachable state after the cancellation in which the main
    thread is blocked INSIDE the module body and the function the module body started is
    blocked on its clone VM without a watcher.  Under the code as it is both end with the
    context's error (the import hands it on unchanged); had the module body been handed a
    context that does not fire, neither would ever end -/
example : (exec implCfg (init (.cb .imp (.spawn 1 (.block .recv .done) (.block .recv .done)) .spin))
      [.step 0, .step 0, .step 0, .step 1, .cancel]).threads
      = [{ id := 0, halt := false, armed := true, st := .blocked .recv .done, frames := [(.imp, .spin, [])] },
         { id := 1, halt := false, armed := false, st := .blocked .recv .done, frames := [] }]
    ∧ inImport [(Wrap.imp, Prog.spin, ([] : List Prog))] = true
    ∧ (iter 3 (fireT { id := 0, halt := false, armed := true, st := .blocked .recv .done, frames := [(.imp, .spin, [])] })).st
        = .fin (some .ctx)
    ∧ (iter 2 { id := 1, halt := false, armed := false, st := .blocked .recv .done, frames := [] }).st = .fin (some .ctx)
    ∧ stopsImp .detached { id := 0, halt := false, armed := true, st := .blocked .recv .done, frames := [(.imp, .spin, [])] } = false
    ∧ stopsNever { id := 1, halt := false, armed := false, st := .blocked .recv .done, frames := [] } = false := by
  decide +kernel

/-- …the contrast is not only about threads that are already blocked when the context fires:
    a spawned function (clone VM, no watcher) that imports a module whose top-level code
    computes and then receives reaches the receive after the cancellation — it ends under
    the code as it is and never under the variant.  (On a VM WITH a watcher the raised flag
    stops the module body before it can reach another primitive: there the two differ exactly
    for threads blocked inside an import, `importDetached_not_stopped`.) -/
example : stops (Thread.mk 1 false false (.run (.compute (.block .recv .done))) [(.imp, .done, [])]) = true
    ∧ stopsImp .detached (Thread.mk 1 false false (.run (.compute (.block .recv .done))) [(.imp, .done, [])]) = false
    ∧ stopsImp .detached (Thread.mk 0 false true (.run .spin) [(.try_, .block .recv .done, []), (.imp, .done, [])]) = true := by
  decide +kernel

/-- `ctxOnly` / `noLossy` admit imports nested in imports: a loop in the top-level code of a
    module imported by the top-level code of a module is stopped with the context's own error -/
example : ctxOnly { id := 0, halt := true, armed := true, st := .run .spin,
                    frames := [(.imp, .done, []), (.imp, .spin, [])] } = true
    ∧ (iter 4 { id := 0, halt := true, armed := true, st := .run .spin,
                frames := [(.imp, .done, []), (.imp, .spin, [])] }).st = .fin (some .ctx)
    ∧ noLossy (.cb .imp (.block .recv (.cb .imp .spin .done)) (.spawn 1 (.cb .each .spin .done) .spin)) = true := by
  decide +kernel

/-- `raisesHalted` admits frames that hold deferred closures with `try` and loops in them -/
example : raisesHalted { id := 0, halt := true, armed := true, st := .run .spin,
                         frames := [(.sorted, .done, [.cb .try_ .spin .spin, .spin]), (.fn, .spin, [.spin])] } = true := by
  decide +kernel

/-- `ctxOnly` and `raises` are satisfiable by the shapes the tests use and by blocked ones -/
example : ctxOnly { id := 0, halt := true, armed := true, st := .run .spin, frames := [] } = true
    ∧ ctxOnly { id := 0, halt := false, armed := true, st := .blocked .recv .done, frames := [] } = true
    ∧ raises { id := 0, halt := false, armed := true, st := .blocked .wait .done, frames := [(.sorted, .done, [])] } = true := by
  decide +kernel

/-- `halt_honoured_any_callee_ctx` is not vacuous: a halted thread inside a host callback
    with a detached context, itself inside `each` inside a host callback that passed its
    own context, is a reachable state; the flag stops it, and the evaluation ends with the
    context's error at the next poll of a frame that was handed the run's context -/
example : ∃ t, (exec implCfg (init (.cb (.host .follows false) (.cb .each (.cb (.host .detached false) .spin .done) .done) .spin))
      [.step 0, .step 0, .step 0, .step 0, .cancel, .fire 0]).threads[0]? = some t ∧ t.halt = true
      ∧ detachedBy t.frames = some false ∧ (iter (potT t) t).st = .fin (some .msg) :=
  ⟨{ id := 0, halt := true, armed := true, st := .run .spin,
     frames := [(.host .detached false, .done, []), (.each, .done, []), (.host .follows false, .spin, [])] },
    by decide +kernel, by decide +kernel, by decide +kernel, by decide +kernel⟩

/-- …and after a detached callback that "returned" under the raised flag, the next poll of the
    main code (run's own context) returns the context's error itself -/
example : (iter 3 (Thread.mk 0 true true (.run .spin) [(.host .detached false, .spin, [])])).st
    = .fin (some .ctx) := by decide +kernel

/-- the guard of `C06_partial_callee_ctx` admits host callbacks with every context that is
    cancelled with the run's, inside and around the builtins of the repository, and spawned
    functions of any kind (a detached callback inside a SPAWNED function is the spawned-loop
    finding: its VM has no watcher at all) -/
example : noDetached (.cb (.host .follows false) (.cb .sorted (.cb (.host .follows false) .spin .done) .done)
    (.spawn 1 (.cb (.host .detached false) .spin .done) (.block .recv .spin))) = true := by decide +kernel

/-- the guard of `C06_partial_error_program` admits loops after channel operations and
    spawned functions of any kind -/
example : noLossy (.spawn 1 (.cb .each .spin .done) (.block .recv (.compute .spin))) = true := by decide +kernel

/-- without a cancellation nothing is stopped: a blocked thread stays blocked, a loop loops -/
example : (exec implCfg (init (.block .recv .done)) [.step 0, .step 0, .fire 0, .step 0]).threads
    = [{ id := 0, halt := false, armed := true, st := .blocked .recv .done, frames := [] }] := by decide +kernel

/-- the guard of `C06_partial_reuse` is satisfiable for every entry point, and the race of
    the counterexample needs exactly `RunCode` + a context fired before the start -/
example : canLose .run true = false ∧ canLose .call true = false ∧ canLose .runCode false = false
    ∧ canLose .runCode true = true := by decide +kernel

/-- a used VM stopped by the poll, started again with the (fired) context: halted again
    after the new watcher ran, ends with the context's error -/
example : (iter 3 (fireT (restart false usedMain .spin))).st = .fin (some .ctx) := by decide +kernel

end Risor.C06
