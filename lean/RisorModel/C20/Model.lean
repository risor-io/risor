import RisorModel.C20.Unicode
/-
C20 — executable model of risor's lexer (lexer/lexer.go) with its position bookkeeping,
of `GetLineText`, and of the arithmetic of `FriendlyErrorMessage` (parser/errors.go).

The Go lexer is re-expressed as a character-level machine: `stepChar st c` consumes one
rune (`0` = end of input, exactly as `Lexer.ch` is `rune(0)` there) and either goes on
(`more`), or finishes the token (`emit`), deciding whether the rune just seen belongs to the
token (`consume`) or was only looked at (`pushback`, Go's `peekChar`).  `run` drives the
machine over the remaining input and records, relative to where `Next()` was called:
the offset at which the token starts, the offset of `l.Position()` when `newToken` is
called (its end), the offset at which the next call resumes and how many runes were looked at.
Positions (line, column, lineStart) are a pure function of an offset (`posAt`).

Impl: `Next()` skips any number of block comments and then a line comment (`start true` =
block comments were already skipped in this call), and a token after block comments keeps the
token start recorded before the first of them.  This is the lexer as repaired by
`fix: skip every comment in front of a token, not only the first block comment` and
`fix: do not take the `*` of an opening `/*` for the start of the closing `*/``; the machine
before the repairs is kept in the section marked HISTORICAL as `preFixStepChar` / `preFixLexKL`;
the last section is the world of several lexers in one process (`World`, `WOp`).
Core Lean only.
-/
namespace Risor.C20

abbrev Chars := List Nat

/-! ### tables (tied to the source by the extractor, see Ties.lean) -/

/-- `token.keywords` : identifier text ↦ token type -/
def keywords : List (String × String) := [
  ("as", "AS"), ("break", "BREAK"), ("case", "case"), ("const", "CONST"),
  ("continue", "CONTINUE"), ("default", "DEFAULT"), ("defer", "DEFER"), ("else", "ELSE"),
  ("false", "FALSE"), ("for", "FOR"), ("from", "FROM"), ("func", "FUNC"), ("go", "GO"),
  ("if", "IF"), ("import", "IMPORT"), ("in", "IN"), ("nil", "nil"), ("not", "NOT"),
  ("range", "RANGE"), ("return", "RETURN"), ("struct", "STRUCT"), ("switch", "switch"),
  ("true", "TRUE"), ("var", "VAR")]

/-- the one- and two-character operator decisions of the `switch l.ch` in `Lexer.Next`:
    (first rune, second rune or 0 for "anything else", token type), in source order -/
def opTable : List (Nat × Nat × String) := [
  (38, 38, "&&"), (38, 0, "&"),
  (124, 124, "||"), (124, 0, "|"),
  (61, 61, "=="), (61, 0, "="),
  (59, 0, ";"), (63, 0, "?"), (40, 0, "("), (41, 0, ")"), (44, 0, ","), (46, 0, "."),
  (43, 43, "++"), (43, 61, "+="), (43, 0, "+"),
  (37, 0, "%"), (123, 0, "{"), (125, 0, "}"),
  (45, 45, "--"), (45, 61, "-="), (45, 0, "-"),
  (47, 61, "/="), (47, 0, "/"),
  (42, 42, "**"), (42, 61, "*="), (42, 0, "*"),
  (60, 60, "<<"), (60, 61, "<="), (60, 45, "<-"), (60, 0, "<"),
  (62, 62, ">>"), (62, 61, ">="), (62, 0, ">"),
  (33, 61, "!="), (33, 0, "!"),
  (91, 0, "["), (93, 0, "]"),
  (58, 61, ":="), (58, 0, ":"),
  (13, 10, "EOL"), (13, 0, "EOL"),
  (10, 0, "EOL")]

/-- first runes the switch handles by other code: `~` (error), the three string readers, end of input -/
def specialFirst : List Nat := [126, 39, 34, 96, 0]

def lookup2 (c d : Nat) : Option String :=
  (opTable.find? fun e => e.1 == c && e.2.1 == d && d != 0).map (·.2.2)

def lookup1 (c : Nat) : Option String :=
  (opTable.find? fun e => e.1 == c && e.2.1 == 0).map (·.2.2)

def hasTwo (c : Nat) : Bool := opTable.any fun e => e.1 == c && e.2.1 != 0

/-! ### character classes.  `isLetter` / `isDigit` / `isIdent` are the ASCII classes; a rune
    above 127 is classified by the tables of Go's package `unicode` (Unicode.lean): `uIdent`
    (`unicode.IsLetter || unicode.IsDigit`, what `isIdentifier` accepts) and `uNumTrail`
    (`unicode.IsLetter || unicode.IsNumber`, what `readNumber` refuses after a number) -/

def isBlank (c : Nat) : Bool := c == 32 || c == 9
def isDigit (c : Nat) : Bool := 48 ≤ c && c ≤ 57
def isLetter (c : Nat) : Bool := (65 ≤ c && c ≤ 90) || (97 ≤ c && c ≤ 122)
def isIdent (c : Nat) : Bool := isLetter c || isDigit c || c == 95

/-- `isIdentifier` on a rune above 127 -/
def uIdent (c : Nat) : Bool := uLetter c || uDigit c
/-- the trailing check of `readNumber` on a rune above 127 -/
def uNumTrail (c : Nat) : Bool := uLetter c || uNumber c

def utf8 (c : Nat) : List Nat :=
  if c < 0x80 then [c]
  else if c < 0x800 then [0xC0 + c / 64, 0x80 + c % 64]
  else if c < 0x10000 then [0xE0 + c / 4096, 0x80 + c / 64 % 64, 0x80 + c % 64]
  else [0xF0 + c / 262144, 0x80 + c / 4096 % 64, 0x80 + c / 64 % 64, 0x80 + c % 64]

/-- `strings.Builder.WriteRune(rune(n))`: invalid code points become U+FFFD -/
def writeRune (n : Nat) : List Nat :=
  if (0xD800 ≤ n && n ≤ 0xDFFF) || n > 0x10FFFF then [0xEF, 0xBF, 0xBD] else utf8 n

def utf8s (cs : Chars) : List Nat := cs.flatMap utf8

def strOf (cs : Chars) : String := String.ofList (cs.map Char.ofNat)

/-- `token.LookupIdentifier`, with the `x.as` exception of `Lexer.Next` -/
def identKind (txt : Chars) (prev : String) : String :=
  let s := strOf txt
  if s == "as" && prev == "." then "IDENT"
  else match keywords.find? (fun e => e.1 == s) with
    | some e => e.2
    | none => "IDENT"

/-! ### the machine -/

inductive NumMode where
  | dec | hex | oct
  deriving DecidableEq, Repr

def accepts : NumMode → Nat → Bool
  | .dec, c => isDigit c
  | .oct, c => 48 ≤ c && c ≤ 55
  | .hex, c => isDigit c || c == 120 || (97 ≤ c && c ≤ 102) || (65 ≤ c && c ≤ 70)

inductive St where
  /-- skipping tabs and spaces before a token; `true` = block comments were already skipped
      in this call of `Next`: the token start recorded before the first of them is kept -/
  | start (afterBlock : Bool)
  | lineComment
  /-- saw `/`: a comment opener, `/=` or `/` -/
  | slash
  /-- inside `/* … `; `star` = the previous rune was a `*` of the body (the opener's own `*`
      does not count) -/
  | block (star : Bool)
  /-- saw the first rune of a possibly two-rune operator -/
  | op1 (c : Nat)
  | ident (acc : Chars)
  | num0
  | num (m : NumMode) (acc : Chars)
  | numDot (acc : Chars)
  | numFrac (acc frac : Chars)
  /-- inside a quoted string: closing quote, token type, bytes so far -/
  | str (q : Nat) (k : String) (acc : List Nat)
  | strEsc (q : Nat) (k : String) (acc : List Nat)
  /-- inside `\x`, `\u`, `\U`, `\ooo`: digits left, base, value so far, all digits count,
      `byteOff` = some o for octal (`WriteByte(o + v)`), none for `WriteRune` -/
  | strNum (q : Nat) (k : String) (acc : List Nat) (left base val total : Nat) (byteOff : Option Nat)
  | backtick (acc : Chars)
  deriving DecidableEq, Repr

inductive Mode where
  /-- the rune just seen is not part of the token: end = i-1, resume at i -/
  | pushback
  /-- the rune just seen is the token's last rune: end = i, resume at i+1 -/
  | consume
  /-- end of input met inside a block comment: `readChar` moved past it: end = i+1 -/
  | past
  deriving DecidableEq, Repr

inductive Step where
  | more (s : St) (mark : Bool)
  | emit (k : String) (lit : List Nat) (m : Mode) (fresh : Bool)
  /-- lexer error that still returns a token (string literals) -/
  | failT (k : String) (lit : List Nat) (cls : String) (m : Mode)
  /-- lexer error returning the zero token -/
  | fail (cls : String)
  deriving DecidableEq, Repr

/-- as coded after block comments: the token start recorded before the first comment is kept -/
def stripFresh : Step → Step
  | .more s _ => .more s false
  | .emit k l m _ => .emit k l m false
  | r => r

def digitVal (c : Nat) : Option Nat :=
  if isDigit c then some (c - 48)
  else if 97 ≤ c && c ≤ 102 then some (c - 87)
  else if 65 ≤ c && c ≤ 70 then some (c - 55)
  else none

/-- the dispatch of the `switch l.ch` for the first rune of a token -/
def dispatch (c : Nat) : Step :=
  if hasTwo c then .more (.op1 c) true
  else match lookup1 c with
  | some k => .emit k [c] .consume true
  | none =>
    if c == 126 then .fail "unexpected-char"
    else if c == 39 then .more (.str 39 "'" []) true
    else if c == 34 then .more (.str 34 "STRING" []) true
    else if c == 96 then .more (.backtick []) true
    else if c == 0 then .emit "EOF" [] .consume true
    else if c == 48 then .more .num0 true
    else if isDigit c then .more (.num .dec [c]) true
    else if c > 127 then
      -- `readIdentifier`: a non-ASCII letter or digit begins an identifier, any other rune is refused
      (if uIdent c then .more (.ident (utf8 c)) true else .fail "invalid-identifier")
    else if isIdent c then .more (.ident [c]) true
    else .fail "invalid-identifier"

/-- what follows the digits of a number: the trailing check and the dot -/
def numTail (m : NumMode) (acc : Chars) (c : Nat) : Step :=
  if c > 127 then
    (if uNumTrail c then .fail "invalid-decimal" else .emit "INT" acc .pushback false)
  else if isLetter c || isDigit c then .fail "invalid-decimal"
  else if c == 46 then
    (match m with
     | .dec => .more (.numDot acc) false
     | _ => .fail "invalid-decimal")
  else .emit "INT" acc .pushback false

def stepChar : St → Nat → Step
  | .start ab, c =>
    if isBlank c then .more (.start ab) false
    -- a line comment ends in `return l.Next()`: the token after it has a fresh start
    else if c == 35 then .more .lineComment true
    -- after block comments the token start is not refreshed (as coded)
    else if c == 47 then .more .slash (!ab)
    else if ab then stripFresh (dispatch c)
    else dispatch c
  | .lineComment, c =>
    if c == 10 then .emit "EOL" [10] .consume true
    else if c == 0 then .emit "EOF" [] .consume true
    else .more .lineComment false
  | .slash, c =>
    if c == 47 then .more .lineComment false
    else if c == 42 then .more (.block false) false
    else match lookup2 47 c with
      | some k => .emit k [47, c] .consume false
      | none => .emit "/" [47] .pushback false
  | .block star, c =>
    if c == 0 then .emit "EOF" [] .past false
    else if star && c == 47 then .more (.start true) false
    else .more (.block (c == 42)) false
  | .op1 a, c =>
    (match lookup2 a c with
     | some k => .emit k [a, c] .consume false
     | none => match lookup1 a with
       | some k => .emit k [a] .pushback false
       | none => .fail "unexpected-char")
  -- `acc` = the UTF-8 bytes of the identifier so far (its literal); a non-ASCII rune that is
  -- not an identifier rune right after an identifier is refused (`peekChar() > unicode.MaxASCII`)
  | .ident acc, c =>
    if c > 127 then
      (if uIdent c then .more (.ident (acc ++ utf8 c)) false else .fail "invalid-identifier")
    else if isIdent c then .more (.ident (acc ++ [c])) false
    else .emit "IDENT?" acc .pushback false
  | .num0, c =>
    if c == 120 then .more (.num .hex [48, 120]) false
    else if c == 46 then .more (.numDot [48]) false
    else if accepts .oct c then .more (.num .oct [48, c]) false
    else numTail .oct [48] c
  | .num m acc, c =>
    if accepts m c then .more (.num m (acc ++ [c])) false
    else numTail m acc c
  | .numDot acc, c =>
    if isDigit c then .more (.numFrac acc [c]) false
    else .fail "invalid-decimal"
  | .numFrac acc frac, c =>
    if isDigit c then .more (.numFrac acc (frac ++ [c])) false
    else if c > 127 then
      (if uNumTrail c then .fail "invalid-decimal" else .emit "FLOAT" (acc ++ 46 :: frac) .pushback false)
    else if isLetter c then .fail "invalid-decimal"
    else .emit "FLOAT" (acc ++ 46 :: frac) .pushback false
  | .str q k acc, c =>
    if c == 0 || c == 10 then .failT k acc "unterminated-string" .pushback
    else if c == q then .emit k acc .consume false
    else if c == 92 then .more (.strEsc q k acc) false
    else .more (.str q k (acc ++ utf8 c)) false
  | .strEsc q k acc, c =>
    if c == 97 then .more (.str q k (acc ++ [7])) false
    else if c == 98 then .more (.str q k (acc ++ [8])) false
    else if c == 102 then .more (.str q k (acc ++ [12])) false
    else if c == 110 then .more (.str q k (acc ++ [10])) false
    else if c == 114 then .more (.str q k (acc ++ [13])) false
    else if c == 116 then .more (.str q k (acc ++ [9])) false
    else if c == 118 then .more (.str q k (acc ++ [11])) false
    else if c == 92 then .more (.str q k (acc ++ [92])) false
    else if c == 101 then .more (.str q k (acc ++ [27])) false
    else if c == q then .more (.str q k (acc ++ [q])) false
    else if c == 120 then .more (.strNum q k acc 2 16 0 2 none) false
    else if c == 117 then .more (.strNum q k acc 4 16 0 4 none) false
    else if c == 85 then .more (.strNum q k acc 8 16 0 8 none) false
    else if 48 ≤ c && c ≤ 51 then .more (.strNum q k acc 2 8 0 2 (some ((c - 48) * 64))) false
    else .failT k [] "invalid-escape" .consume
  | .strNum q k acc left base val total off, c =>
    if c == 0 then .failT k [] "unterminated-escape" .consume
    else match digitVal c with
      | none => .failT k [] "illegal-escape-char" .consume
      | some d =>
        if d ≥ base then .failT k [] "illegal-escape-char" .consume
        else
          let v := val * base + d
          if left ≤ 1 then
            (match off with
             | some o => .more (.str q k (acc ++ [(o + v) % 256])) false
             | none =>
               if v > 0x7FFFFFFF then .failT k [] "escape-number" .consume
               else .more (.str q k (acc ++ writeRune v)) false)
          else .more (.strNum q k acc (left - 1) base v total off) false
  | .backtick acc, c =>
    if c == 0 then .failT "`" [] "unterminated-string" .pushback
    else if c == 96 then .emit "`" (utf8s acc) .consume false
    else .more (.backtick (acc ++ [c])) false

inductive Out where
  | tok (k : String) (lit : List Nat)
  | errT (k : String) (lit : List Nat) (cls : String)
  | err (cls : String)
  deriving DecidableEq, Repr

/-- result of one call of `Next`: offsets are relative to the rune at which the call began -/
structure Res where
  out : Out
  start : Nat
  stop : Nat
  next : Nat
  seen : Nat
  deriving DecidableEq, Repr

def finish (r : Step) (i st : Nat) : Res :=
  match r with
  | .emit k l .pushback fresh => ⟨.tok k l, if fresh then i else st, i - 1, i, i + 1⟩
  | .emit k l .consume fresh => ⟨.tok k l, if fresh then i else st, i, i + 1, i + 1⟩
  | .emit k l .past fresh => ⟨.tok k l, if fresh then i else st, i + 1, i + 1, i + 1⟩
  | .failT k l cls .pushback => ⟨.errT k l cls, st, i - 1, i, i + 1⟩
  | .failT k l cls _ => ⟨.errT k l cls, st, i, i + 1, i + 1⟩
  | .fail cls => ⟨.err cls, 0, 0, i + 1, i + 1⟩
  | .more _ _ => ⟨.err "stuck", 0, 0, i + 1, i + 1⟩

/-- drive the machine; `i` = offset of the next rune, `st` = recorded token start -/
def run : St → Chars → Nat → Nat → Res
  | s, [], i, st => finish (stepChar s 0) i st
  | s, c :: cs, i, st =>
    match stepChar s c with
    | .more s' mark => run s' cs (i + 1) (if mark then i else st)
    | r => finish r i st

/-- resolve the identifier/keyword decision, which needs the previous token type -/
def fixOut (prev : String) : Out → Out
  | .tok "IDENT?" l => .tok (identKind l prev) l
  | o => o

/-- one call of `Lexer.Next` on the remaining input (previous token type `prev`) -/
def scan (rest : Chars) (prev : String) : Res :=
  let r := run (.start false) rest 0 0
  { r with out := fixOut prev r.out }

/-! ### the token stream -/

/-- kinds and literals only.  `fuel` counts calls of `Next`. -/
def lexKL : Nat → Chars → String → List Out
  | 0, _, _ => []
  | f + 1, rest, prev =>
    let r := scan rest prev
    match r.out with
    | .tok k l => if k == "EOF" then [.tok k l] else .tok k l :: lexKL f (rest.drop r.next) k
    | o => [o]

structure PTok where
  out : Out
  start : Nat
  stop : Nat
  deriving DecidableEq, Repr

/-- the same stream with absolute offsets (`base` = offset of `rest` in the source) -/
def lexPos : Nat → Chars → Nat → String → List PTok
  | 0, _, _, _ => []
  | f + 1, rest, base, prev =>
    let r := scan rest prev
    match r.out with
    | .tok k l =>
      if k == "EOF" then [⟨.tok k l, base + r.start, base + r.stop⟩]
      else ⟨.tok k l, base + r.start, base + r.stop⟩ :: lexPos f (rest.drop r.next) (base + r.next) k
    | .errT k l c => [⟨.errT k l c, base + r.start, base + r.stop⟩]
    | .err c => [⟨.err c, 0, 0⟩]

/-- the whole source: every call of `Next` consumes at least one rune, so `length + 2` calls suffice -/
def lexAll (src : Chars) : List PTok := lexPos (src.length + 2) src 0 ""

/-! ### guards used by the theorems (decidable) -/

/-- does a block comment whose previous rune was (`star`) / was not a `*` close inside `body` -/
def closesIn : Bool → Chars → Bool
  | _, [] => false
  | star, c :: cs => (star && c == 47) || closesIn (c == 42) cs

/-- a block comment body in the usual sense: no `*/` inside (and no NUL) -/
def properBody (body : Chars) : Bool := !closesIn false body && !body.contains 0

/-- a run of block comments, each followed by blanks: `/*b₁*/ws₁/*b₂*/ws₂…` (the items are
    (body, blanks after the comment)) -/
def commentRun : List (Chars × Chars) → Chars
  | [] => []
  | (body, ws) :: r => [47, 42] ++ body ++ [42, 47] ++ (ws ++ commentRun r)

/-- every body is a proper comment body, every separator is made of spaces and tabs -/
def commentRunOk (cs : List (Chars × Chars)) : Bool :=
  cs.all fun p => properBody p.1 && p.2.all isBlank

/-- `cutsAt fuel pre b prev`: lexing `pre` followed by the blank `b` reaches a token boundary
    exactly at the end of `pre` (or inside its trailing blanks), every token before it having
    looked no further than `b`.  Decidable guard of `lex_space_invariant`: it says that the
    position after `pre` is a token gap (and not, say, the inside of a string or comment). -/
def cutsAt : Nat → Chars → Nat → String → Bool
  | 0, _, _, _ => false
  | f + 1, pre, b, prev =>
    if pre.all isBlank then true
    else
      let r := scan (pre ++ [b]) prev
      match r.out with
      | .tok k _ => k != "EOF" && decide (r.next ≤ pre.length) && decide (r.seen ≤ pre.length + 1)
                      && cutsAt f (pre.drop r.next) b k
      | _ => false

/-- `cutsAt2 fuel pre d₁ d₂ prev`: the end of `pre` is a token gap whether the text goes on with
    the rune `d₁` or with the rune `d₂` — lexing `pre ++ [d₁]` and `pre ++ [d₂]`, every token
    that begins inside `pre` also ends inside it, looked no further than the one rune after
    `pre`, and is the same token in both readings.  Decidable guard of `lex_gap_congr` (e.g.
    `d₁ = #` and `d₂ = newline`: a line comment set directly after the last token of a line). -/
def cutsAt2 : Nat → Chars → Nat → Nat → String → Bool
  | 0, _, _, _, _ => false
  | f + 1, pre, d₁, d₂, prev =>
    if pre.all isBlank then true
    else
      let r₁ := scan (pre ++ [d₁]) prev
      let r₂ := scan (pre ++ [d₂]) prev
      match r₁.out with
      | .tok k _ => k != "EOF" && decide (r₁.next ≤ pre.length) && decide (r₁.seen ≤ pre.length + 1)
                      && decide (r₂.seen ≤ pre.length + 1) && r₂.out == r₁.out && r₂.next == r₁.next
                      && cutsAt2 f (pre.drop r₁.next) d₁ d₂ k
      | _ => false

/-- what `isIdentifier` accepts: an ASCII letter, digit or `_`, or a non-ASCII rune that
    `unicode.IsLetter` or `unicode.IsDigit` accepts -/
def identRune (c : Nat) : Bool := if c > 127 then uIdent c else isIdent c

/-! ### positions -/

structure Pos where
  char : Nat
  line : Nat
  col : Nat
  lineStart : Nat
  deriving DecidableEq, Repr

/-- `readChar`'s bookkeeping as a fold: position after consuming the runes `cs` from `p` -/
def advance (p : Pos) : Chars → Pos
  | [] => p
  | c :: cs =>
    if c == 10 then advance ⟨p.char + 1, p.line + 1, 0, p.char + 1⟩ cs
    else advance ⟨p.char + 1, p.line, p.col + 1, p.lineStart⟩ cs

/-- a position moved `n` runes to the right by text inserted on an EARLIER line: the offset and
    the offset of the line start grow by `n`, line and column stay -/
def Pos.shift (n : Nat) (p : Pos) : Pos := ⟨p.char + n, p.line, p.col, p.lineStart + n⟩

/-- `Lexer.Position()` when `l.position = off` (off ≤ length + 1; the step past the end only
    advances the column) -/
def posAt (src : Chars) (off : Nat) : Pos :=
  let p := advance ⟨0, 0, 0, 0⟩ (src.take off)
  if off > src.length then ⟨off, p.line, p.col + (off - src.length), p.lineStart⟩ else p

/-- walk back to the rune after the previous newline -/
def lineBegin (src : Chars) (start : Nat) : Nat :=
  match start with
  | 0 => 0
  | s + 1 => if src.getD s 0 == 10 then s + 1 else lineBegin src s

/-- `Lexer.GetLineText` for a token starting at `off` (`eof` = its type is EOF) -/
def getLineText (src : Chars) (off : Nat) (eof : Bool) : Chars :=
  if src.isEmpty then []
  else
    let o := if eof then off - 1 else off
    let b := lineBegin src o
    let e := o + ((src.drop o).takeWhile (· != 10)).length
    (src.drop b).take (e - b)

/-- lines of the text: split on newline (10) -/
def splitLines : Chars → List Chars
  | [] => [[]]
  | c :: cs =>
    if c == 10 then [] :: splitLines cs
    else match splitLines cs with
      | [] => [[c]]
      | h :: t => (c :: h) :: t

/-! ### the error renderer (parser/errors.go FriendlyErrorMessage): its two `strings.Repeat`
    counts, as integers.  `Repeat` panics on a negative count.

    Repaired by `fix: keep the caret line of a parse error inside the quoted line`: the caret
    count is taken from the two columns only when the span ends on the line it starts on,
    otherwise it runs from the start column to the end of the quoted line; it is never below 1
    and the padding never below 0.  The pre-fix counts are kept as `preFix…` (historical). -/

/-- HISTORICAL: the padding count before the repair, `colStart - 1` -/
def preFixPadCount (startCol : Nat) : Int := (startCol + 1 : Int) - 1
/-- HISTORICAL: the caret count before the repair, `colEnd - colStart + 1` from the columns of
    two positions that may lie on different lines -/
def preFixCaretCount (startCol endCol : Nat) : Int := (endCol + 1 : Int) - (startCol + 1) + 1

/-- HISTORICAL: did the pre-fix `FriendlyErrorMessage` return (true) or panic (false) -/
def preFixRenderOk (startCol endCol : Nat) : Bool :=
  decide (0 ≤ preFixPadCount startCol) && decide (0 ≤ preFixCaretCount startCol endCol)

/-- `padLen`: `colStart - 1`, not below 0 -/
def padCount (startCol : Nat) : Int :=
  if (startCol + 1 : Int) - 1 < 0 then 0 else (startCol + 1 : Int) - 1

/-- `caretLen`: `colEnd - colStart + 1` if `end.Line == start.Line`, else
    `utf8.RuneCountInString(sourceCode) - padLen`; not below 1 -/
def caretCount (startLine startCol endLine endCol lineLen : Nat) : Int :=
  let n : Int := if endLine ≠ startLine then (lineLen : Int) - padCount startCol
                 else (endCol + 1 : Int) - (startCol + 1) + 1
  if n < 1 then 1 else n

/-- does `FriendlyErrorMessage` return (true) or panic (false): both `strings.Repeat` counts
    are non-negative.  `lineLen` = runes of the quoted line. -/
def renderOk (startLine startCol endLine endCol lineLen : Nat) : Bool :=
  decide (0 ≤ padCount startCol) && decide (0 ≤ caretCount startLine startCol endLine endCol lineLen)

/-! ### Spec: what the property demands of a diagnostic -/

/-- the reported (line, col) exists in the text and `quoted` is that line verbatim -/
def diagOk (src : Chars) (line col : Nat) (quoted : Chars) : Bool :=
  match (splitLines src)[line]? with
  | some l => col ≤ l.length && quoted == l
  | none => false

/-- the span lies on one line: where the repaired and the pre-fix counts of the renderer coincide
    (`render_single_line_unchanged`) -/
def singleLineSpan (src : Chars) (s e : Nat) : Bool :=
  s ≤ e && (posAt src s).line == (posAt src e).line

/-! ### HISTORICAL: the lexer before the repair of its two block-comment defects

    (`C20-adjacent-comments`, `C20-block-comment-body-starting-with-slash`; both fixed.)
    Before the repairs `Lexer.Next` skipped at most ONE block comment per call and then no
    longer looked for comments, and `skipMultiLineComment` began to look for `*/` at the
    opener's own `*`.  The machine below differs from `stepChar` in exactly these two places;
    it is kept so that the defects stay documented by checked statements
    (`C20_fixed_adjacent_comments_were_tokens`, `C20_fixed_slash_body_closed_early` in
    Props.lean).  Nothing else uses it. -/

/-- HISTORICAL: `stepChar` before the repairs -/
def preFixStepChar : St → Nat → Step
  | .start ab, c =>
    if isBlank c then .more (.start ab) false
    else if ab then
      -- pre-fix: after one block comment no comment detection any more
      stripFresh (dispatch c)
    else if c == 35 then .more .lineComment true
    else if c == 47 then .more .slash true
    else dispatch c
  | .slash, c =>
    if c == 47 then .more .lineComment false
    -- pre-fix: the opener's own `*` counts as the star of a closing `*/`
    else if c == 42 then .more (.block true) false
    else match lookup2 47 c with
      | some k => .emit k [47, c] .consume false
      | none => .emit "/" [47] .pushback false
  | s, c => stepChar s c

/-- HISTORICAL: `run` over `preFixStepChar` -/
def preFixRun : St → Chars → Nat → Nat → Res
  | s, [], i, st => finish (preFixStepChar s 0) i st
  | s, c :: cs, i, st =>
    match preFixStepChar s c with
    | .more s' mark => preFixRun s' cs (i + 1) (if mark then i else st)
    | r => finish r i st

/-- HISTORICAL: one call of the pre-fix `Lexer.Next` -/
def preFixScan (rest : Chars) (prev : String) : Res :=
  let r := preFixRun (.start false) rest 0 0
  { r with out := fixOut prev r.out }

/-- HISTORICAL: the pre-fix token stream (kinds and literals) -/
def preFixLexKL : Nat → Chars → String → List Out
  | 0, _, _ => []
  | f + 1, rest, prev =>
    let r := preFixScan rest prev
    match r.out with
    | .tok k l => if k == "EOF" then [.tok k l] else .tok k l :: preFixLexKL f (rest.drop r.next) k
    | o => [o]

/-- HISTORICAL: what the pre-fix lexer needed of a comment body: additionally it must not begin
    with `/`, because the opener's own `*` was taken for the star of a closing `*/` -/
def okBody (body : Chars) : Bool := !closesIn true body && !body.contains 0

/-- HISTORICAL: `slashBody body`, the guard of the repaired defect
    `C20-block-comment-body-starting-with-slash` -/
def slashBody (body : Chars) : Bool := body.head? == some 47

/-- HISTORICAL: after optional blanks the text goes on with another comment (`#`, `//` or `/*`):
    the guard of the repaired defect `C20-adjacent-comments` -/
def commentFollows : Chars → Bool
  | [] => false
  | c :: cs =>
    if isBlank c then commentFollows cs
    else c == 35 || (c == 47 && (cs.head? == some 47 || cs.head? == some 42))

/-! ### several lexers in one process

    `lexer.New(input)` makes its OWN copy of the input (`[]rune(input)`); a program text with a
    template string `'…{expr}…'` makes the parser create one more lexer (and parser) per
    interpolated fragment while the outer parser is still at work, and a host may hold any number
    of lexers at once.  The world below is the list of the live lexers; `GetLineText` of lexer `i`
    reads lexer `i`'s copy. -/

/-- a lexer as far as quoting a line is concerned: its copy of the input, and whether `Next`
    has already produced the EOF token -/
structure LexObj where
  chars : Chars
  atEOF : Bool
  deriving DecidableEq, Repr

/-- the lexers created so far, in creation order -/
abbrev World := List LexObj

/-- what can happen to a world: `lexer.New(input)`; reading lexer `i` to its EOF token; calling
    `GetLineText` on lexer `i` (reads only) -/
inductive WOp where
  | new (input : Chars)
  | drain (i : Nat)
  | quote (i off : Nat) (eof : Bool)
  deriving DecidableEq, Repr

/-- mark lexer `i` as read to the end -/
def markEOF : Nat → World → World
  | _, [] => []
  | 0, l :: ls => { l with atEOF := true } :: ls
  | i + 1, l :: ls => l :: markEOF i ls

/-- one operation on the world -/
def World.step (w : World) : WOp → World
  | .new input => w ++ [⟨input, false⟩]
  | .drain i => markEOF i w
  | .quote _ _ _ => w

/-- the inputs the lexers were created with / hold -/
def World.inputs (w : World) : List Chars := w.map (·.chars)

/-- `GetLineText` of lexer `i` for a token starting at `off` (`[]` when there is no lexer `i`) -/
def World.quote (w : World) (i off : Nat) (eof : Bool) : Chars :=
  match w.inputs[i]? with
  | some src => getLineText src off eof
  | none => []

/-- the operations a program text `outer` whose parse creates lexers for the template fragments
    `frags` performs before an error of the OUTER parser is built: the outer lexer is created and
    (because of the one-token lookahead) read to its EOF token, then one lexer per fragment is
    created and read to the end -/
def templateOps (outer : Chars) (frags : List Chars) : List WOp :=
  [.new outer, .drain 0] ++ (frags.zipIdx.flatMap fun (f, k) => [.new f, .drain (k + 1)])

/-- Spec of a quoted line in a world: it is the line of lexer `i`'s OWN input that the token's
    offset lies on, verbatim (for a non-EOF token; `quoted_line_verbatim`) -/
def worldQuoteOk (input : Chars) (off : Nat) (quoted : Chars) : Bool :=
  match (splitLines input)[(posAt input off).line]? with
  | some l => quoted == l
  | none => false

end Risor.C20
