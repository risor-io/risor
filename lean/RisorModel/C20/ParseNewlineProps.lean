import RisorModel.C20.ParseNewlineLemmas
/-!
C20 — parser level: breaking a line where the grammar accepts it never changes the syntax tree.

Stated over the token-level model of risor's Pratt expression parser (`parseExpr`,
RisorModel/C01/Pratt.lean — tied to parser/parser.go by the regenerated precedence table,
registrations and parse levels of C01's PrattTies, and run on the REAL lexer's tokens of every
generated expression, with and without newlines, by harness/c01parse.go and harness/c20nl.go).

`renderNL L q fl e` (ParseNewline.lean) is the printed form of the tree `e` with one NEWLINE token
per element of `L.nl i` (the element is the token's literal, `"\n"` or `"\r\n"`) in the `i`-th
*permitted* gap, counted from the left, and — where `L.comma i` says so — a
trailing comma before the newlines that precede the closing bracket of a non-empty list.
Permitted gaps, exactly the places where parser.go skips newlines inside an expression of the
core:
  * after the operator token of `+ - * / % ** << >> & < <= > >= == != && ||`  (`parseInfixExpr`);
  * after the `.` of a method call                                            (`parseGetAttr`);
  * in call arguments, method-call arguments and list literals with at least one item
    (`parseNodeList`/`parseExprList`): after the opening bracket, after each `,`, and before the
    closing bracket (with or without a trailing comma).
The theorems quantify over ALL layouts (`Layout` is a pair of arbitrary functions: any number of
newlines in any gap), ALL trees of the expression core with unnested ternaries (the class of
`parse_render`; unbounded depth) and all continuations that do not extend the expression.

That the permitted set is tight is shown by `newline_before_operator_ends_expression` (general)
and the `*_fails` / `*_not_skipped` counterexamples at the end: every other gap of a rendering makes the parse
stop early or fail.
-/
namespace Risor.C20.NL
open Risor.C01 Risor.C01.Pratt

/-- **Newline invariance (`parse_newline_invariant`).**  For every expression tree `e` whose
    ternaries are unnested, EVERY layout `L` and every continuation `rest` that does not extend
    the expression (empty, or first token without an infix function: EOF, a newline, `)`, `]`,
    `,`, `:`, `;`, `}` …) there is a fuel from which on the parser, started at LOWEST with the
    `tern` flag clear on the tokens of `e` laid out by `L`, followed by `rest`, returns exactly
    `e` and leaves exactly `rest`. -/
theorem parse_newline_invariant (e : Expr) (L : Layout) (rest : List Token)
    (he : unnested e = true) (hr : stopsExpr rest = true) :
    ∃ fuel, ∀ f, fuel ≤ f →
      parseExpr f Level.LOWEST.num (renderNLTop L e ++ rest) = some (e, rest) := by
  have hr' := (stopsExpr_iff_firstOp rest).1 hr
  obtain ⟨N, h⟩ := InvNL.doneLowest (invNL_all e) L (t := false) (by simpa [okT] using he) hr'
  exact ⟨N, fun f hf => h f hf⟩

/-- the whole input is the expression -/
theorem parse_newline_invariant_all (e : Expr) (L : Layout) (he : unnested e = true) :
    ∃ fuel, ∀ f, fuel ≤ f → parseExpr f Level.LOWEST.num (renderNLTop L e) = some (e, []) := by
  simpa using parse_newline_invariant e L [] he rfl

/-- **Operand positions.**  The same at every precedence level and with the `tern` flag in
    either state (inside a ternary's branches the tree must contain no ternary): the text laid
    out for an operand position of level `q` followed by a token of precedence at most `fl`,
    parsed at a level `p ≤ q` with `fl ≤ p`, gives the tree back. -/
theorem parse_newline_invariant_operand (e : Expr) (L : Layout) (t : Bool) (q fl p : Nat)
    (rest : List Token) (he : okT t e = true) (hpq : p ≤ q) (hp : p ≤ Level.PREFIX.num)
    (hfl : fl ≤ p) (hr : firstOp rest ≤ fl) :
    ∃ fuel, ∀ f, fuel ≤ f → parseNode f t p (renderNL L q fl e ++ rest) = some (e, rest) :=
  (invNL_all e L t q fl p rest he hpq hp hr).done (by omega)

/-- **Any two layouts of the same tree parse alike** (and to that tree): from some fuel on the
    parser returns the same result on both token lists. -/
theorem layouts_agree (e : Expr) (L₁ L₂ : Layout) (rest : List Token)
    (he : unnested e = true) (hr : stopsExpr rest = true) :
    ∃ fuel, ∀ f, fuel ≤ f →
      parseExpr f Level.LOWEST.num (renderNLTop L₁ e ++ rest)
        = parseExpr f Level.LOWEST.num (renderNLTop L₂ e ++ rest) ∧
      parseExpr f Level.LOWEST.num (renderNLTop L₁ e ++ rest) = some (e, rest) := by
  obtain ⟨f₁, h₁⟩ := parse_newline_invariant e L₁ rest he hr
  obtain ⟨f₂, h₂⟩ := parse_newline_invariant e L₂ rest he hr
  refine ⟨f₁ + f₂, fun f hf => ?_⟩
  rw [h₁ f (by omega), h₂ f (by omega)]
  exact ⟨rfl, rfl⟩

/-- the flat layout (no newline, no trailing comma) is the one-line printer of C01 -/
theorem renderNLTop_flat (e : Expr) : renderNLTop Layout.flat e = renderTop e :=
  renderNL_flat e _ _

/-- **Breaking lines does not change the tree**: a laid-out text parses to what the one-line
    text parses to. -/
theorem newline_variant_parses_as_one_line (e : Expr) (L : Layout) (rest : List Token)
    (he : unnested e = true) (hr : stopsExpr rest = true) :
    ∃ fuel, ∀ f, fuel ≤ f →
      parseExpr f Level.LOWEST.num (renderNLTop L e ++ rest)
        = parseExpr f Level.LOWEST.num (renderTop e ++ rest) := by
  obtain ⟨N, h⟩ := layouts_agree e L Layout.flat rest he hr
  refine ⟨N, fun f hf => ?_⟩
  rw [← renderNLTop_flat]
  exact (h f hf).1

/-- C01's round trip `parse_render` is the special case of the flat layout (proved again from
    `parse_newline_invariant`, not from C01's theorem). -/
theorem parse_render_of_newline_invariant (e : Expr) (rest : List Token) (he : unnested e = true)
    (hr : stopsExpr rest = true) :
    ∃ fuel, ∀ f, fuel ≤ f → parseExpr f Level.LOWEST.num (renderTop e ++ rest) = some (e, rest) := by
  rw [← renderNLTop_flat]
  exact parse_newline_invariant e Layout.flat rest he hr

theorem parse_render_all_of_newline_invariant (e : Expr) (he : unnested e = true) :
    ∃ fuel, ∀ f, fuel ≤ f → parseExpr f Level.LOWEST.num (renderTop e) = some (e, []) := by
  rw [← renderNLTop_flat]
  exact parse_newline_invariant_all e Layout.flat he

/-- **A layout adds nothing but NEWLINE tokens**: erasing them from a rendering without
    trailing commas gives the one-line rendering, for every tree and layout.  (So `renderNL`
    really is "the same text with line breaks", not some other printer.) -/
theorem stripNl_renderNLTop (e : Expr) (L : Layout) (hL : L.noComma) :
    stripNl (renderNLTop L e) = renderTop e :=
  stripNl_renderNL e L _ _ hL

/-- **The gap numbering is exact**: the laid-out text of `e` contains exactly
    `L.count 0 + … + L.count (gaps e - 1)` NEWLINE tokens (`L.count i` = length of `L.nl i`) — every index below `gaps e` is consulted
    exactly once and no index from `gaps e` on is consulted at all.  Hence "every layout" in
    the theorems above really is "any number of newlines, independently, in each permitted gap". -/
theorem newline_count (e : Expr) (L : Layout) : countNl (renderNLTop L e) = sumTo (gaps e) L.count :=
  countNl_renderNL e L _ _

/-- one newline in gap `i` alone: one NEWLINE token if `e` has a gap `i`, none otherwise -/
theorem single_gap_count (e : Expr) (i : Nat) :
    countNl (renderNLTop (Layout.single i) e) = if i < gaps e then 1 else 0 := by
  rw [newline_count, sumTo_single]

/-- two admissible trees whose laid-out texts coincide (under any two layouts) are equal -/
theorem renderNL_injective (e₁ e₂ : Expr) (L₁ L₂ : Layout) (h₁ : unnested e₁ = true)
    (h₂ : unnested e₂ = true) (h : renderNLTop L₁ e₁ = renderNLTop L₂ e₂) : e₁ = e₂ := by
  obtain ⟨f₁, p₁⟩ := parse_newline_invariant_all e₁ L₁ h₁
  obtain ⟨f₂, p₂⟩ := parse_newline_invariant_all e₂ L₂ h₂
  have a := p₁ (f₁ + f₂) (by omega)
  have b := p₂ (f₁ + f₂) (by omega)
  rw [h, b] at a
  injection a with a
  injection a with a
  exact a.symm

/-! ## the permitted set is tight -/

/-- **A newline BEFORE a binary operator ends the expression** — for all operand trees, all
    operators and all layouts of the operands: `l NEWLINE op r` is read as `l` alone, the
    newline and everything after it left in the input; in particular it is not read as
    `l op r`.  (In a program the statement ends there and `op r` starts the next one.) -/
theorem newline_before_operator_ends_expression (op : BinOp) (l r : Expr) (L L' : Layout)
    (hl : unnested l = true) :
    ∃ fuel, ∀ f, fuel ≤ f →
      parseExpr f Level.LOWEST.num
          (renderNL L (prec (opKind op) - 1) (prec (opKind op)) l ++ tk .NEWLINE :: tk (opKind op)
            :: renderNL L' (prec (opKind op)) Level.LOWEST.num r)
        = some (l, tk .NEWLINE :: tk (opKind op) :: renderNL L' (prec (opKind op)) Level.LOWEST.num r) ∧
      parseExpr f Level.LOWEST.num
          (renderNL L (prec (opKind op) - 1) (prec (opKind op)) l ++ tk .NEWLINE :: tk (opKind op)
            :: renderNL L' (prec (opKind op)) Level.LOWEST.num r)
        ≠ some (.infix op l r, []) := by
  have hge := prec_opKind_ge op
  have hfo : firstOp (tk .NEWLINE :: tk (opKind op) :: renderNL L' (prec (opKind op)) Level.LOWEST.num r)
      ≤ 1 := Nat.le_of_eq (firstOp_cons_noInfix _ rfl)
  obtain ⟨N, h⟩ := (invNL_all l L false (prec (opKind op) - 1) (prec (opKind op)) 1 _
    (by simpa [okT] using hl) (by omega) (by omega) (Nat.le_trans hfo (by omega))).done hfo
  refine ⟨N, fun f hf => ?_⟩
  have := h f hf
  refine ⟨this, ?_⟩
  rw [show parseExpr f Level.LOWEST.num _ = parseNode f false 1 _ from rfl, this]
  intro hc
  injection hc with hc
  injection hc with _ hc
  cases hc

/-- **A newline after `?` makes the parse fail**, for all trees and layouts. -/
theorem newline_after_question_fails (c : Expr) (L : Layout) (R : List Token) (hc : unnested c = true) :
    ∃ fuel, ∀ f, fuel ≤ f →
      parseExpr f Level.LOWEST.num
        (renderNL L Level.TERNARY.num Level.TERNARY.num c ++ tk .QUESTION :: tk .NEWLINE :: R) = none := by
  have hq : firstOp (tk .QUESTION :: tk .NEWLINE :: R) ≤ 6 :=
    Nat.le_of_eq (firstOp_cons_infix (fn := .parseTernary) _ rfl)
  exact cont_fail (invNL_all c L false 6 6 1 _ (by simpa [okT] using hc) (by omega) (by omega) hq)
    (fun f => loop_question_newline_fails f 1 c R (by omega))

/-- **A newline after `in` makes the parse fail**, for all trees and layouts. -/
theorem newline_after_in_fails (x : Expr) (L : Layout) (R : List Token) (hx : unnested x = true) :
    ∃ fuel, ∀ f, fuel ≤ f →
      parseExpr f Level.LOWEST.num
        (renderNL L Level.PREFIX.num Level.PREFIX.num x ++ tk .IN :: tk .NEWLINE :: R) = none := by
  have hq : firstOp (tk .IN :: tk .NEWLINE :: R) ≤ 13 :=
    Nat.le_of_eq (firstOp_cons_infix (fn := .parseIn) _ rfl)
  exact cont_fail (invNL_all x L false 13 13 1 _ (by simpa [okT] using hx) (by omega) (by omega) hq)
    (fun f => loop_in_newline_fails f false 1 x R (by omega))

/-- **A newline after the `[` of an index or slice is not skipped**: the model does not return a
    tree.  (`none` stands for "the real parser records an error or builds another node": here the
    REAL parser does the latter — `parseIndex` does not check what `parseExpression` returned for
    the NEWLINE token and silently drops the bound, `x[⏎1:2]` is read as `x[:2]`; recorded as
    finding C20-newline-in-slice-drops-bound and compared case by case in harness/c20nl.go.  What
    matters for tightness is shared by model and code: the tree of the one-line text is NOT
    returned.) -/
theorem newline_after_index_bracket_not_skipped (e : Expr) (L : Layout) (R : List Token)
    (he : unnested e = true) :
    ∃ fuel, ∀ f, fuel ≤ f →
      parseExpr f Level.LOWEST.num
        (renderNL L Level.CALL.num Level.INDEX.num e ++ tk .LBRACKET :: tk .NEWLINE :: R) = none := by
  have hq : firstOp (tk .LBRACKET :: tk .NEWLINE :: R) ≤ 15 :=
    Nat.le_of_eq (firstOp_cons_infix (fn := .parseIndex) _ rfl)
  exact cont_fail (invNL_all e L false 14 15 1 _ (by simpa [okT] using he) (by omega) (by omega) hq)
    (fun f => loop_index_newline_fails f false 1 e R (by omega))

/-- the same after the `:` of a slice without lower bound, `e[: NEWLINE …` (same remark) -/
theorem newline_after_slice_colon_not_skipped (e : Expr) (L : Layout) (R : List Token)
    (he : unnested e = true) :
    ∃ fuel, ∀ f, fuel ≤ f →
      parseExpr f Level.LOWEST.num
        (renderNL L Level.CALL.num Level.INDEX.num e ++ tk .LBRACKET :: tk .COLON :: tk .NEWLINE :: R)
        = none := by
  have hq : firstOp (tk .LBRACKET :: tk .COLON :: tk .NEWLINE :: R) ≤ 15 :=
    Nat.le_of_eq (firstOp_cons_infix (fn := .parseIndex) _ rfl)
  exact cont_fail (invNL_all e L false 14 15 1 _ (by simpa [okT] using he) (by omega) (by omega) hq)
    (fun f => loop_slice_colon_newline_fails f false 1 e R (by omega))

/-- **A newline between the brackets of an EMPTY argument list makes the parse fail**
    (`f( NEWLINE )`): `parseNodeList` tests for the closing bracket before it skips newlines.
    This is why `gapsArgs .nil = 0`. -/
theorem newline_in_empty_call_fails (fn : Expr) (L : Layout) (R : List Token) (hf : unnested fn = true) :
    ∃ fuel, ∀ f, fuel ≤ f →
      parseExpr f Level.LOWEST.num
        (renderNL L Level.PREFIX.num Level.CALL.num fn ++ tk .LPAREN :: tk .NEWLINE :: tk .RPAREN :: R)
        = none := by
  have hq : firstOp (tk .LPAREN :: tk .NEWLINE :: tk .RPAREN :: R) ≤ 14 :=
    Nat.le_of_eq (firstOp_cons_infix (fn := .parseCall) _ rfl)
  exact cont_fail (invNL_all fn L false 13 14 1 _ (by simpa [okT] using hf) (by omega) (by omega) hq)
    (fun f => loop_call_newline_empty_fails f false 1 fn R (by omega))

/-- a NEWLINE where an operand must start fails for every fuel: after a prefix `-` or `!`, after
    the `(` of a grouping, at the very start -/
theorem newline_at_operand_start_fails (f : Nat) (R : List Token) :
    parseExpr f Level.LOWEST.num (tk .NEWLINE :: R) = none ∧
    parseExpr f Level.LOWEST.num (tk .MINUS :: tk .NEWLINE :: R) = none ∧
    parseExpr f Level.LOWEST.num (tk .BANG :: tk .NEWLINE :: R) = none ∧
    parseExpr f Level.LOWEST.num (tk .LPAREN :: tk .NEWLINE :: R) = none := by
  have hm1 : prefixFn (tk .MINUS).kind = some .parsePrefixExpr := rfl
  have hm2 : isPostfix (tk .MINUS).kind = false := rfl
  have hb1 : prefixFn (tk .BANG).kind = some .parsePrefixExpr := rfl
  have hb2 : isPostfix (tk .BANG).kind = false := rfl
  have hp1 : prefixFn (tk .LPAREN).kind = some .parseGroupedExpr := rfl
  have hp2 : isPostfix (tk .LPAREN).kind = false := rfl
  refine ⟨parseNode_newline f false _ R, ?_, ?_, ?_⟩
  · cases f with
    | zero => rfl
    | succ f =>
      cases f with
      | zero => simp [parseExpr, parseNode, prefixP]
      | succ f => simp [parseExpr, parseNode, prefixP, hm1, hm2, parseNode_newline]
  · cases f with
    | zero => rfl
    | succ f =>
      cases f with
      | zero => simp [parseExpr, parseNode, prefixP]
      | succ f => simp [parseExpr, parseNode, prefixP, hb1, hb2, parseNode_newline]
  · cases f with
    | zero => rfl
    | succ f =>
      cases f with
      | zero => simp [parseExpr, parseNode, prefixP]
      | succ f => simp [parseExpr, parseNode, prefixP, hp1, hp2, parseNode_newline]

private def ia : Expr := .ident "a"
private def ib : Expr := .ident "b"
private def ic : Expr := .ident "c"
private def idt (x : String) : Token := ⟨.IDENT, x⟩
private def NL : Token := tk .NEWLINE
/-- a NEWLINE token as the lexer produces it (literal `"\n"`) -/
private def LF : Token := ⟨.NEWLINE, "\n"⟩

/-- `( a NEWLINE )`: a newline before the `)` of a grouping is not skipped — no fuel parses it -/
theorem newline_before_group_close_fails (f : Nat) :
    parseExpr f Level.LOWEST.num [tk .LPAREN, idt "a", NL, tk .RPAREN] = none := by
  refine parseNode_none_of_prefixP (fun g => ?_) f _
  cases g with
  | zero => rfl
  | succ g => exact prefixP_group_newline_fails (parseNode_ident_newline g false 1 "a" _ (by omega))

/-- `[ a NEWLINE , b ]`: a newline before a comma is not skipped — no fuel parses it -/
theorem newline_before_comma_fails (f : Nat) :
    parseExpr f Level.LOWEST.num [tk .LBRACKET, idt "a", NL, tk .COMMA, idt "b", tk .RBRACKET] = none := by
  have hp1 : prefixFn (tk .LBRACKET).kind = some .parseList := rfl
  have hp2 : isPostfix (tk .LBRACKET).kind = false := rfl
  refine parseNode_none_of_prefixP (fun g => ?_) f _
  cases g with
  | zero => rfl
  | succ g =>
    have key : exprList g false .RBRACKET [idt "a", NL, tk .COMMA, idt "b", tk .RBRACKET] = none := by
      cases g with
      | zero => rfl
      | succ g =>
        exact exprList_item_newline_comma_fails (by decide) (by decide) (by decide)
          (parseNode_ident_newline g false 1 "a" _ (by omega))
    simp [prefixP, hp1, hp2, key]

/-- `a [ b NEWLINE ]`: a newline before the `]` of an index is not skipped — no fuel parses it -/
theorem newline_before_index_close_fails (f : Nat) :
    parseExpr f Level.LOWEST.num [idt "a", tk .LBRACKET, idt "b", NL, tk .RBRACKET] = none := by
  refine parseNode_ident_then_none (fun g => ?_) f
  refine loop_none_of_infixP (fn := .parseIndex) (by decide) rfl (fun k => ?_) g
  cases k with
  | zero => rfl
  | succ k =>
    exact infixP_index_newline_fails (by decide) (parseNode_ident_newline k false 1 "b" _ (by omega))

/-! ## non-vacuity: concrete trees and layouts, evaluated -/

/-- `f(a + b, [1, 2], x.m(c))` -/
private def sample : Expr :=
  .call (.ident "f")
    (.cons (.infix .add ia ib)
      (.cons (.list (.cons (.int 1) (.cons (.int 2) .nil)))
        (.cons (.mcall (.ident "x") "m" (.cons ic .nil)) .nil)))

example : gaps sample = 11 := by decide +kernel
example : unnested sample = true := by decide +kernel

/-- a layout that uses every kind of gap: `f(⏎a +⏎⏎b,⏎[⏎1, 2,⏎], x.⏎m(c⏎)⏎)` -/
private def lay : Layout :=
  Layout.ofCounts [1, 2, 1, 1, 0, 1, 0, 1, 0, 1, 1]
    [false, false, false, false, false, true, false, false, false, false, false]

example : renderNLTop lay sample =
    [idt "f", tk .LPAREN, LF, idt "a", tk .PLUS, LF, LF, idt "b", tk .COMMA, LF,
     tk .LBRACKET, LF, ⟨.INT, "1"⟩, tk .COMMA, ⟨.INT, "2"⟩, tk .COMMA, LF, tk .RBRACKET, tk .COMMA,
     idt "x", tk .PERIOD, LF, idt "m", tk .LPAREN, idt "c", LF, tk .RPAREN, LF, tk .RPAREN] := by
  decide +kernel
example : parseExpr 40 1 (renderNLTop lay sample) = some (sample, []) := by decide +kernel
example : parseExpr 40 1 (renderNLTop lay sample ++ [NL, idt "z"]) = some (sample, [NL, idt "z"]) := by
  decide +kernel
example : renderNLTop Layout.flat sample = renderTop sample := by decide +kernel
/-- the theorem applies to it (and to `sample` nested in itself any number of times) -/
example : ∃ fuel, ∀ f, fuel ≤ f →
    parseExpr f 1 (renderNLTop lay (.infix .mul sample (.neg sample))) = some (.infix .mul sample (.neg sample), []) :=
  parse_newline_invariant_all _ lay (by decide)
/-- a thousand newlines (LF or CRLF) after every operator, bracket, comma and dot -/
example : ∃ fuel, ∀ f, fuel ≤ f →
    parseExpr f 1 (renderNLTop ⟨fun i => List.replicate 1000 (if i % 3 == 0 then "\r\n" else "\n"), fun i => i % 2 == 0⟩ sample) = some (sample, []) :=
  parse_newline_invariant_all _ _ (by decide)
/-- the same text with the newline BEFORE the `+` stops after `a` -/
example : parseExpr 40 1 [idt "a", NL, tk .PLUS, idt "b"] = some (ia, [NL, tk .PLUS, idt "b"]) := by decide +kernel
example : parseExpr 40 1 [idt "a", tk .PLUS, NL, idt "b"] = some (.infix .add ia ib, []) := by decide +kernel
/-- `[⏎]` fails, `[⏎a⏎]` and `[a,⏎]` are the list of `a` -/
example : parseExpr 40 1 [tk .LBRACKET, NL, tk .RBRACKET] = none := by decide +kernel
example : parseExpr 40 1 [tk .LBRACKET, NL, idt "a", NL, tk .RBRACKET] = some (.list (.cons ia .nil), []) := by
  decide +kernel
example : parseExpr 40 1 [tk .LBRACKET, idt "a", tk .COMMA, NL, tk .RBRACKET] = some (.list (.cons ia .nil), []) := by
  decide +kernel

end Risor.C20.NL
