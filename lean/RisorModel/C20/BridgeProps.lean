import RisorModel.C20.BridgeLemmas
/-!
C20 / C01 — the bridge theorems: **the text of a rendered expression lexes back to its tokens,
and therefore parses back to the tree.**

Until here the two halves of the front end were proved apart: C01's `parse_render` starts from a
token list, C20's lexer theorems are about layout.  This file joins them over the two models
(`Model.lean`: the character-level lexer machine `scan`/`lexKL`/`lexAll`; C01's `Pratt.lean`: the
token-level parser `parseExpr` and its printer `renderTop`), through the definitions of
`Bridge.lean`: `spell` (source spelling of a token), `spellWith`/`spellAll`/`renderSrc` (texts),
`tokOK`/`exprOK` (well-formedness), `toToken`/`lexTokens` (the adapter, compared with the
conversion of the REAL lexer's tokens on every generated expression: request `C20 bridge`).

Separator policy: a single space between any two adjacent spellings (`spellAll`), or any
well-formed gap (`Gap.ok`: at least one space/tab, then ANY NUMBER of block comments, each with
a `properBody` body — no `*/` inside — and each followed by any run of blanks; one comment at
most and an `okBody` body until the repair of the lexer's two block-comment defects).  Nothing
in front of the first token or after the last.  Concatenation without separators is not a policy: see the counterexamples at the end.

Token classes covered by `tokOK`: identifiers (ASCII letter or `_`, then letters/digits/`_`; not
a keyword), decimal integer literals without leading zero, double-quoted string literals of
ARBITRARY value (every Unicode scalar; escapes `\" \\ \n \r \t \a \b \f \v \e \x00`), all 39
operator and punctuation kinds of token/token.go, the keywords `true false nil in not case
switch`.  Not covered: floats, backtick and single-quoted (template) strings, the other keywords
(their `Kind.text` in the parser model is not their source word; the printer never emits them),
non-ASCII identifiers (the lexer model has them, `lex_unicode_identifier`; `tokOK` does not), `as` as an identifier after `.`.
-/
namespace Risor.C20
open Risor.C01.Pratt

/-! ## 1. the lexer on spelled tokens -/

/-- **Maximal munch, one token** (`scan_spell`).  For every well-formed token `t`, every text
    `rest` that is empty or begins with a space/tab, and every previous token type: one call of
    `Next` on `spell t ++ rest` returns exactly `t`'s type and literal and resumes right after
    the spelling. -/
theorem lex_spell_one (t : Token) (h : tokOK t = true) (rest : Chars) (hd : Delim rest) (prev : String) :
    (scan (spell t ++ rest) prev).out = outOf t ∧
    (scan (spell t ++ rest) prev).next = (spell t).length :=
  scan_spell t h rest hd prev

/-- **`lex_spell_tokens`, with layout.**  For every list `ts` of well-formed tokens (any
    length), every list of well-formed gaps `gs` (gap `i` stands between token `i` and token
    `i+1`; a single space where the gaps run out), every lexer state (`prev`) and every fuel that
    allows `length + 1` calls of `Next`: the token loop of the lexer model, run on the spelled
    text, yields exactly the tokens of `ts` — types and literals, in order — followed by EOF. -/
theorem lex_spell_tokens_layout (ts : List Token) (gs : List Gap) (f : Nat) (prev : String)
    (ht : ∀ t ∈ ts, tokOK t = true) (hg : ∀ g ∈ gs, g.ok = true) (hf : ts.length + 1 ≤ f) :
    lexKL f (spellWith ts gs) prev = ts.map outOf ++ [.tok "EOF" []] :=
  lexKL_spellWith ts gs f prev ht hg hf

/-- the whole-source lexer (`lexAll`, the function compared token by token with the real
    lexer) on a spelled text with gaps -/
theorem lexOuts_spellWith (ts : List Token) (gs : List Gap)
    (ht : ∀ t ∈ ts, tokOK t = true) (hg : ∀ g ∈ gs, g.ok = true) :
    lexOuts (spellWith ts gs) = ts.map outOf ++ [.tok "EOF" []] := by
  unfold lexOuts lexAll
  rw [lexPos_out]
  have := length_le_spellWith ts gs ht
  exact lexKL_spellWith ts gs _ "" ht hg (by omega)

/-- **`lex_spell_tokens`.**  For every list `ts` of well-formed tokens, of any length: the lexer
    model run on the spellings joined by single spaces yields exactly `ts` (types and literals)
    followed by EOF; converted by the adapter, it is `ts`. -/
theorem lex_spell_tokens (ts : List Token) (ht : ∀ t ∈ ts, tokOK t = true) :
    lexOuts (spellAll ts) = ts.map outOf ++ [.tok "EOF" []] ∧ lexTokens (spellAll ts) = some ts := by
  have h := lexOuts_spellWith ts [] ht (by simp)
  refine ⟨h, ?_⟩
  unfold lexTokens
  rw [show spellAll ts = spellWith ts [] from rfl, h]
  exact toTokens_outs ts ht

/-- the same through any well-formed gaps: spaces, tabs and any number of block comments per
    gap do not change the tokens the parser receives -/
theorem lexTokens_spellWith (ts : List Token) (gs : List Gap)
    (ht : ∀ t ∈ ts, tokOK t = true) (hg : ∀ g ∈ gs, g.ok = true) :
    lexTokens (spellWith ts gs) = some ts := by
  unfold lexTokens
  rw [lexOuts_spellWith ts gs ht hg]
  exact toTokens_outs ts ht

/-- **Layout invariance of spelled texts**: whatever the gaps, the token stream is the one of
    the single-space text (at every lexer state, for every sufficient fuel). -/
theorem lex_layout_invariant (ts : List Token) (gs : List Gap) (f : Nat) (prev : String)
    (ht : ∀ t ∈ ts, tokOK t = true) (hg : ∀ g ∈ gs, g.ok = true) (hf : ts.length + 1 ≤ f) :
    lexKL f (spellWith ts gs) prev = lexKL f (spellAll ts) prev := by
  rw [lexKL_spellWith ts gs f prev ht hg hf]
  exact (lexKL_spellWith ts [] f prev ht (by simp) hf).symm

/-- **The adapter is a left inverse of the lexer's answer**: for a well-formed token, converting
    what the lexer returns for its spelling gives the token back (type looked up among the
    `token.Type` strings, literal UTF-8 decoded). -/
theorem toToken_lex_spell (t : Token) (h : tokOK t = true) (rest : Chars) (hd : Delim rest) (prev : String) :
    toToken (scan (spell t ++ rest) prev).out = t := by
  rw [(scan_spell t h rest hd prev).1]
  exact toToken_outOf t h

/-- every `token.Type` string is looked up to its own kind (the strings are pairwise distinct) -/
theorem kindOfTyp_left_inverse (k : Kind) : kindOfTyp k.typ = k := kindOfTyp_typ k

/-! ## 2. rendered tokens are well-formed -/

/-- **`render_tokens_ok`.**  For every expression tree whose leaves are well-formed (`exprOK`:
    identifiers and method names satisfy `identOK`; integers, strings, booleans, nil are
    unrestricted) every token of its rendering — at every operand position `q`, `fl` — is
    well-formed. -/
theorem render_tokens_ok (e : Expr) (q fl : Nat) (h : exprOK e = true) :
    ∀ t ∈ render q fl e, tokOK t = true :=
  render_ok e q fl h

/-- `toString n` is a decimal literal without leading zero, for every `n` -/
theorem int_literal_ok (n : Nat) : tokOK ⟨.INT, toString n⟩ = true := intOK_toString n

/-! ## 3. end to end -/

/-- **`parse_lex_renderSrc`: parse (lex (source text of e)) = e.**  For every expression tree
    `e` of the core (literals, identifiers, 17 infix operators, prefix `-` and `!`, `in` /
    `not in`, ternary, calls, method calls, index, slice, list literals; unbounded depth) whose
    ternaries are unnested and whose leaves are well-formed: the lexer model, run on the source
    text `renderSrc e` and converted by the adapter, produces a token list without error, and
    the parser model, started at LOWEST on that list, returns exactly `e` and consumes
    everything (for every fuel from some bound on).  The token list is `renderTop e`. -/
theorem parse_lex_renderSrc (e : Expr) (he : unnested e = true) (hok : exprOK e = true) :
    ∃ ts, lexTokens (renderSrc e) = some ts ∧
      ∃ fuel, ∀ f, fuel ≤ f → parseExpr f Level.LOWEST.num ts = some (e, []) :=
  ⟨renderTop e, (lex_spell_tokens _ (render_ok e _ _ hok)).2, parse_render_all e he⟩

/-- **With layout.**  The same for the text in which the gaps between the tokens are filled
    with any well-formed gaps (any number of spaces/tabs, then any number of block comments
    with `properBody` bodies, each followed by any blanks), instead of single spaces. -/
theorem parse_lex_layout (e : Expr) (gs : List Gap) (he : unnested e = true) (hok : exprOK e = true)
    (hg : ∀ g ∈ gs, g.ok = true) :
    ∃ ts, lexTokens (spellWith (renderTop e) gs) = some ts ∧
      ∃ fuel, ∀ f, fuel ≤ f → parseExpr f Level.LOWEST.num ts = some (e, []) :=
  ⟨renderTop e, lexTokens_spellWith _ gs (render_ok e _ _ hok) hg, parse_render_all e he⟩

/-- **The text determines the tree**: two admissible trees with the same source text are equal
    (the lexer's answer on the text is a function of the text, and `render_injective`). -/
theorem renderSrc_injective (e₁ e₂ : Expr) (h₁ : unnested e₁ = true) (h₂ : unnested e₂ = true)
    (k₁ : exprOK e₁ = true) (k₂ : exprOK e₂ = true) (h : renderSrc e₁ = renderSrc e₂) : e₁ = e₂ := by
  have a := (lex_spell_tokens _ (render_ok e₁ 1 1 k₁)).2
  have b := (lex_spell_tokens _ (render_ok e₂ 1 1 k₂)).2
  rw [show spellAll (render 1 1 e₁) = renderSrc e₁ from rfl, h] at a
  rw [show spellAll (render 1 1 e₂) = renderSrc e₂ from rfl, a] at b
  injection b with b
  exact render_injective e₁ e₂ h₁ h₂ b

/-! ## 4. non-vacuity: a nested expression with every token class -/

/-- `f(a - -42, ["x \"q\"⏎\\ é", true, nil][0:], !_d1)[a in b ? false : 7] not in
    xs.append(n <= 2 ** 10)`: identifiers (with `_` and digits), integers, a string with
    escapes and a non-ASCII rune, `true false nil in not`, infix and prefix operators, ternary,
    call, method call, index, slice, list -/
private def big : Expr :=
  .notIn
    (.index
      (.call (.ident "f")
        (.cons (.infix .sub (.ident "a") (.neg (.int 42)))
          (.cons (.slice (.list (.cons (.str "x \"q\"\n\\ é") (.cons (.bool true) (.cons .nil .nil))))
              (.some (.int 0)) .none)
            (.cons (.not (.ident "_d1")) .nil))))
      (.tern (.isIn (.ident "a") (.ident "b")) (.bool false) (.int 7)))
    (.mcall (.ident "xs") "append" (.cons (.infix .le (.ident "n") (.infix .pow (.int 2) (.int 10))) .nil))

example : unnested big = true ∧ exprOK big = true := by decide +kernel
example : (renderTop big).length = 43 := by decide +kernel
set_option maxRecDepth 100000 in
/-- its source text -/
example : strOf (renderSrc big) =
    "f ( a - - 42 , [ \"x \\\"q\\\"\\n\\\\ é\" , true , nil ] [ 0 : ] , ! _d1 ) [ a in b ? false : 7 ] not in xs . append ( n <= 2 ** 10 )" := by
  decide +kernel
set_option maxRecDepth 100000 in
/-- lexed by the model and converted, it is the rendered token list … -/
example : lexTokens (renderSrc big) = some (renderTop big) := by decide +kernel
set_option maxRecDepth 100000 in
/-- … which parses back to the tree -/
example : (lexTokens (renderSrc big)).bind (parseExpr 60 1) = some (big, []) := by decide +kernel
/-- the theorem applies to it (and to `big` nested in itself any number of times) -/
example : ∃ ts, lexTokens (renderSrc (.infix .mul big (.neg big))) = some ts ∧
    ∃ fuel, ∀ f, fuel ≤ f → parseExpr f 1 ts = some (.infix .mul big (.neg big), []) :=
  parse_lex_renderSrc _ (by decide +kernel) (by decide +kernel)

/-- a layout: tabs, several blanks, a block comment (with and without blanks after it), two
    adjacent comments the second of which has a body beginning with `/`, three comments -/
private def gaps3 : List Gap :=
  [.blanks [9], .comment [32] (codes " minus ") [],
   ⟨[32, 32, 9], [(codes " c ", [32]), (codes "/ d", [])]⟩,
   ⟨[32, 9], [(codes "* x", []), ([], [9]), (codes "/*", [32])]⟩]
example : ∀ g ∈ gaps3, g.ok = true := by decide +kernel
example : strOf (spellWith (renderTop (.infix .sub (.ident "a") (.infix .mul (.int 2) (.ident "b")))) gaps3)
    = "a\t- /* minus */2  \t/* c */ /*/ d*/* \t/** x*//**/\t/*/**/ b" := by decide +kernel
example : lexTokens (spellWith (renderTop (.infix .sub (.ident "a") (.infix .mul (.int 2) (.ident "b")))) gaps3)
    = some (renderTop (.infix .sub (.ident "a") (.infix .mul (.int 2) (.ident "b")))) := by decide +kernel

/-! ## 5. why the separators and the guards are there -/

/-- the full statement without separators: the spellings simply concatenated lex back -/
def lex_concat_full : Prop :=
  ∀ ts : List Token, (∀ t ∈ ts, tokOK t = true) →
    lexTokens (ts.flatMap spell) = some ts

/-- `a - -b` printed as `a--b`: the two `-` fuse into the `--` token -/
theorem lex_concat_counterexample_fuse : ¬ lex_concat_full := by
  intro h
  have := h [⟨.IDENT, "a"⟩, tk .MINUS, tk .MINUS, ⟨.IDENT, "b"⟩] (by decide)
  revert this
  decide +kernel

/-- `98.m` (the tokens `98`, `.`, `m` of a method call on an integer literal): the lexer reads a
    malformed decimal and fails — the real lexer too (harness/c01parse.go avoids such
    receivers); with the separator (`98 . m`) the theorem applies -/
theorem lex_concat_counterexample_int_period :
    lexTokens ([⟨.INT, "98"⟩, tk .PERIOD, ⟨.IDENT, "m"⟩].flatMap spell) = none ∧
    lexTokens (spellAll [⟨.INT, "98"⟩, tk .PERIOD, ⟨.IDENT, "m"⟩]) = some [⟨.INT, "98"⟩, tk .PERIOD, ⟨.IDENT, "m"⟩] := by
  decide +kernel

/-- the keyword guard of `identOK` is needed: an identifier token spelled `in` lexes to the
    keyword; a literal with a leading zero and a digit 8 does not lex at all -/
example : lexTokens (spellAll [⟨.IDENT, "in"⟩]) = some [tk .IN] := by decide +kernel
example : tokOK ⟨.IDENT, "in"⟩ = false ∧ tokOK ⟨.INT, "08"⟩ = false ∧ tokOK ⟨.IDENT, "9a"⟩ = false := by decide +kernel
example : lexTokens (spellAll [⟨.INT, "08"⟩]) = none := by decide +kernel

/-- several comments per gap (since the repair of C20's finding `C20-adjacent-comments`; before
    it this text did not lex to `a b`, see `C20_fixed_adjacent_comments_were_tokens`) -/
example : lexTokens (codes "a /*c*/ /*d*/ b") = some [⟨.IDENT, "a"⟩, ⟨.IDENT, "b"⟩] := by decide +kernel

/-- the leading blank of a gap is needed: a `/` token directly followed by a block comment is a
    line comment -/
example : lexTokens (codes "a //* c */ b") = some [⟨.IDENT, "a"⟩] := by decide +kernel

end Risor.C20
