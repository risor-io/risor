import RisorModel.C20.Stmt
import RisorModel.C20.ParseNewlineProps
/-!
Helper lemmas for the statement-level theorems (StmtProps.lean): single steps of the statement
model on separators, and the mutual induction over laid-out statement trees.
-/
namespace Risor.C20.St
open Risor.C01 Risor.C01.Pratt Risor.C20.NL

/-- the continuation of a statement inside a rendering: end of input, `;`, a line end or `}` -/
def sepStart : List Token → Prop
  | [] => True
  | tok :: _ => tok.kind = .SEMICOLON ∨ tok.kind = .NEWLINE ∨ tok.kind = .RBRACE

theorem sepStart_stops {rest : List Token} (h : sepStart rest) : stopsExpr rest = true := by
  cases rest with
  | nil => rfl
  | cons tok ts =>
    have h1 : infixFn Kind.SEMICOLON = none := rfl
    have h2 : infixFn Kind.NEWLINE = none := rfl
    have h3 : infixFn Kind.RBRACE = none := rfl
    rcases h with h | h | h <;> simp [stopsExpr, h, h1, h2, h3]

theorem sepStart_strict {rest : List Token} (h : sepStart rest) :
    ((eatSemi rest).1 || peekTerm (dropSemi rest)) = true := by
  cases rest with
  | nil => simp [eatSemi, dropSemi, headIs, peekTerm]
  | cons tok ts =>
    rcases h with h | h | h <;>
      simp [eatSemi, dropSemi, headIs, peekTerm, h, terminators]

theorem sepStart_not_else {rest : List Token} (h : sepStart rest) : headIs .ELSE rest = false := by
  cases rest with
  | nil => rfl
  | cons tok ts => rcases h with h | h | h <;> simp [headIs, h]

/-! ### a `;` in statement position is an error -/

theorem prefixP_semi {tok : Token} (hk : tok.kind = .SEMICOLON) (g : Nat) (t : Bool) (r : List Token) :
    prefixP g t (tok :: r) = none := by
  have h1 : prefixFn Kind.SEMICOLON = none := rfl
  have h2 : isPostfix Kind.SEMICOLON = false := rfl
  cases g with
  | zero => simp [prefixP]
  | succ g => simp [prefixP, hk, h1, h2]

theorem stmtStrict_semi_none {tok : Token} (hk : tok.kind = .SEMICOLON) (f : Nat) (r : List Token) :
    stmtStrict f (tok :: r) = none := by
  cases f with
  | zero => simp [stmtStrict]
  | succ f =>
    have hp : ∀ g, parseNode g false Level.LOWEST.num (tok :: r) = none :=
      fun g => parseNode_none_of_prefixP (fun g => prefixP_semi hk g false r) g _
    have he : exprStmt f (tok :: r) = none := by
      cases f with
      | zero => simp [exprStmt]
      | succ f =>
        cases r <;> simp [exprStmt, hk, hp]
    simp [stmtStrict, hk, he]

theorem stmts_semi_none {tok : Token} (hk : tok.kind = .SEMICOLON) (top : Bool) (f : Nat)
    (r : List Token) : stmts top f (tok :: r) = none := by
  cases f with
  | zero => simp [stmts]
  | succ f => simp [stmts, hk, stmtStrict_semi_none hk]

theorem dropSemi_nil : dropSemi [] = [] := rfl

theorem dropSemi_semi (r : List Token) : dropSemi (tk .SEMICOLON :: r) = r := rfl

theorem dropSemi_of_ne {tok : Token} (h : tok.kind ≠ .SEMICOLON) (r : List Token) :
    dropSemi (tok :: r) = tok :: r := by
  simp [dropSemi, eatSemi, headIs, h]

/-- a token list on which the statement loop succeeds does not begin with `;` -/
theorem dropSemi_of_stmts {top : Bool} {f : Nat} {Y : List Token} {res}
    (h : stmts top f Y = some res) : dropSemi Y = Y := by
  cases Y with
  | nil => rfl
  | cons tok r =>
    by_cases hk : tok.kind = .SEMICOLON
    · rw [stmts_semi_none hk] at h; cases h
    · exact dropSemi_of_ne hk r

/-- the optional `;` of a separator is consumed by `parseStatement` -/
theorem dropSemi_optSemi {top : Bool} {f : Nat} {Y : List Token} {res} (semi : Bool)
    (h : stmts top f Y = some res) :
    dropSemi ((if semi then [tk .SEMICOLON] else []) ++ Y) = Y := by
  cases semi with
  | true => rfl
  | false => simpa using dropSemi_of_stmts h

/-! ### line ends in statement position are empty statements -/

theorem stmtStrict_newline (f : Nat) (lit : String) (rest : List Token) :
    stmtStrict (f+1) (⟨.NEWLINE, lit⟩ :: rest) = some (none, dropSemi rest) := by
  simp [stmtStrict]

theorem stmts_newline (top : Bool) (f : Nat) (lit : String) (rest : List Token) :
    stmts top (f+2) (⟨.NEWLINE, lit⟩ :: rest) = stmts top (f+1) (dropSemi rest) := by
  rw [stmts]
  simp only [stmtStrict_newline]
  simp
  cases stmts top (f+1) (dropSemi rest) with
  | none => rfl
  | some p => rfl

/-- a run of line ends (each optionally followed by `;`) before the statements is skipped -/
theorem stmts_lines (top : Bool) (lines : Lines) (X : List Token) (res : Block × List Token) (N : Nat)
    (h : ∀ f, N ≤ f → stmts top f X = some res) :
    ∀ f, N + lines.length + 1 ≤ f → stmts top f (linesToks lines ++ X) = some res := by
  induction lines with
  | nil => intro f hf; exact h f (by simp at hf; omega)
  | cons hd tl ih =>
    obtain ⟨lit, semi⟩ := hd
    intro f hf
    simp only [List.length_cons] at hf
    obtain ⟨g, rfl⟩ : ∃ g, f = g + 2 := ⟨f - 2, by omega⟩
    have ih' := ih (g+1) (by omega)
    show stmts top (g+2) (⟨.NEWLINE, lit⟩ :: ((if semi then [tk .SEMICOLON] else []) ++ linesToks tl ++ X)) = _
    rw [stmts_newline, List.append_assoc, dropSemi_optSemi semi ih']
    exact ih'


/-! ### single statements -/

/-- a kind that cannot begin the rendering of an expression differs from every kind that can -/
theorem startKind_ne {k k' : Kind} (h : startKind k = true) (h' : startKind k' = false) : k ≠ k' :=
  fun e => by rw [e, h'] at h; cases h

theorem kind_tk (k : Kind) : (tk k).kind = k := rfl

/-- a statement-initial identifier whose expression ends at a separator is not followed by `:=`
    or `,` (the Pratt loop would have stopped there) -/
theorem ident_peek {f : Nat} {tok : Token} {ts rest : List Token} {e : Expr}
    (h : parseNode f false Level.LOWEST.num (tok :: ts) = some (e, rest)) (hk : tok.kind = .IDENT)
    (hr : sepStart rest) : headIs .DECLARE ts = false ∧ headIs .COMMA ts = false := by
  cases ts with
  | nil => exact ⟨rfl, rfl⟩
  | cons tok2 r =>
    have h1 : prefixFn Kind.IDENT = some .parseIdent := rfl
    have h2 : isPostfix Kind.IDENT = false := rfl
    have key : ∀ k, tok2.kind = k → (k = .DECLARE ∨ k = .COMMA) → False := by
      intro k hk2 hor
      match f with
      | 0 => simp [parseNode] at h
      | 1 => simp [parseNode, prefixP] at h
      | f+2 =>
        have hd : infixFn Kind.DECLARE = none := rfl
        have hc : prec Kind.COMMA = 1 := rfl
        rw [parseNode] at h
        simp only [prefixP, hk, h1, h2] at h
        simp only [Bool.false_eq_true, if_false, loop, hk2] at h
        rcases hor with rfl | rfl
        · simp [hd, Level.num] at h
          rw [← h.2] at hr; simp [sepStart, hk2] at hr
        · simp [hc, Level.num] at h
          rw [← h.2] at hr; simp [sepStart, hk2] at hr
    constructor
    · simp only [headIs, decide_eq_false_iff_not]; intro hh; exact key _ hh (Or.inl rfl)
    · simp only [headIs, decide_eq_false_iff_not]; intro hh; exact key _ hh (Or.inr rfl)

theorem stmtStrict_expr {N : Nat} {e : Expr} {L : Layout} {rest : List Token}
    (hP : ∀ f, N ≤ f → parseNode f false Level.LOWEST.num (renderNLTop L e ++ rest) = some (e, rest))
    (hr : sepStart rest) :
    ∀ f, N + 2 ≤ f → stmtStrict f (renderNLTop L e ++ rest) = some (some (.expr e), dropSemi rest) := by
  intro f hf
  obtain ⟨g, rfl⟩ : ∃ g, f = g + 2 := ⟨f - 2, by omega⟩
  have hP' := hP g (by omega)
  obtain ⟨tok, ts, heq, hs⟩ := (starts_renderNL e L Level.LOWEST.num Level.LOWEST.num).append rest
  rw [renderNLTop, heq] at hP' ⊢
  have hne : ∀ k, startKind k = false → tok.kind ≠ k := fun _ => startKind_ne hs
  have hid : ¬ (tok.kind = .IDENT ∧ headIs .DECLARE ts = true) := by
    rintro ⟨hk, hd⟩; rw [(ident_peek hP' hk hr).1] at hd; cases hd
  have hic : ¬ (tok.kind = .IDENT ∧ headIs .COMMA ts = true) := by
    rintro ⟨hk, hd⟩; rw [(ident_peek hP' hk hr).2] at hd; cases hd
  have he : exprStmt (g+1) (tok :: ts) = some (.expr e, rest) := by
    simp [exprStmt, hne .IF rfl, hP']
  simp [stmtStrict, hne .VAR rfl, hne .CONST rfl, hne .RETURN rfl, hne .BREAK rfl, hne .CONTINUE rfl,
    hne .NEWLINE rfl, hid, hic, he, sepStart_strict hr]

theorem stmtStrict_var {f : Nat} {x : String} {e : Expr} {val rest : List Token}
    (hP : parseNode f false Level.LOWEST.num val = some (e, rest)) (hr : sepStart rest) :
    stmtStrict (f+1) (tk .VAR :: ⟨.IDENT, x⟩ :: tk .ASSIGN :: val)
      = some (some (.var x e), dropSemi rest) := by
  simp [stmtStrict, tk_kind, hP, sepStart_strict hr]

theorem stmtStrict_decl {f : Nat} {x : String} {e : Expr} {val rest : List Token}
    (hP : parseNode f false Level.LOWEST.num val = some (e, rest)) (hr : sepStart rest) :
    stmtStrict (f+1) (⟨.IDENT, x⟩ :: tk .DECLARE :: val) = some (some (.decl x e), dropSemi rest) := by
  simp [stmtStrict, tk_kind, headIs, hP, sepStart_strict hr]

theorem peekReturnEnd_of_sepStart {rest : List Token} (h : sepStart rest) : peekReturnEnd rest = true := by
  cases rest with
  | nil => rfl
  | cons tok ts => rcases h with h | h | h <;> simp [peekReturnEnd, returnEnds, h]

theorem stmtStrict_ret0 {f : Nat} {rest : List Token} (hr : sepStart rest) :
    stmtStrict (f+1) (tk .RETURN :: rest) = some (some .ret0, dropSemi rest) := by
  simp [stmtStrict, tk_kind, peekReturnEnd_of_sepStart hr, sepStart_strict hr]

theorem stmtStrict_ret {f : Nat} {e : Expr} {L : Layout} {rest : List Token}
    (hP : parseNode f false Level.LOWEST.num (renderNLTop L e ++ rest) = some (e, rest)) (hr : sepStart rest) :
    stmtStrict (f+1) (tk .RETURN :: (renderNLTop L e ++ rest)) = some (some (.ret e), dropSemi rest) := by
  obtain ⟨tok, ts, heq, hs⟩ := (starts_renderNL e L Level.LOWEST.num Level.LOWEST.num).append rest
  rw [renderNLTop, heq] at hP ⊢
  have hne : ∀ k, startKind k = false → tok.kind ≠ k := fun _ => startKind_ne hs
  simp [stmtStrict, tk_kind, peekReturnEnd, returnEnds, hne .NEWLINE rfl, hne .SEMICOLON rfl, hne .RBRACE rfl,
    hne .EOF rfl, hP, sepStart_strict hr]

theorem stmtStrict_brk {f : Nat} {rest : List Token} (hr : sepStart rest) :
    stmtStrict (f+1) (tk .BREAK :: rest) = some (some .brk, dropSemi rest) := by
  simp [stmtStrict, tk_kind, sepStart_strict hr]

theorem stmtStrict_cont {f : Nat} {rest : List Token} (hr : sepStart rest) :
    stmtStrict (f+1) (tk .CONTINUE :: rest) = some (some .cont, dropSemi rest) := by
  simp [stmtStrict, tk_kind, sepStart_strict hr]

/-- the Pratt model has no `parseAssign`: it refuses `IDENT op …` for every assignment operator
    (this is what makes `exprStmt`'s order of attempts the order of the real `parseNode`) -/
theorem pratt_ident_assign_none (f : Nat) (t : Bool) (x : String) (op : AOp) (val : List Token) :
    parseNode f t Level.LOWEST.num (⟨.IDENT, x⟩ :: tk op.kind :: val) = none := by
  match f with
  | 0 => rfl
  | 1 => simp [parseNode, prefixP]
  | f+2 =>
    rw [parseNode, prefixP_ident]
    have hi : infixFn (tk op.kind).kind = some .parseAssign := by cases op <;> rfl
    have hp : Level.LOWEST.num < prec (tk op.kind).kind := by cases op <;> decide
    exact loop_none_of_infixP hp hi (fun g => by cases g <;> simp [infixP]) _

theorem stmtStrict_assign {N : Nat} {x : String} {op : AOp} {e : Expr} {val rest : List Token}
    (hP : ∀ f, N ≤ f → parseNode f false Level.LOWEST.num val = some (e, rest)) (hr : sepStart rest) :
    ∀ f, N + 2 ≤ f → stmtStrict f (⟨.IDENT, x⟩ :: tk op.kind :: val)
      = some (some (.assign op x e), dropSemi rest) := by
  intro f hf
  obtain ⟨g, rfl⟩ : ∃ g, f = g + 2 := ⟨f - 2, by omega⟩
  have hP' := hP g (by omega)
  have ha : aopOfKind (tk op.kind).kind = some op := by cases op <;> rfl
  have hd : (tk op.kind).kind ≠ .DECLARE := by cases op <;> simp [tk_kind, AOp.kind]
  have hc : (tk op.kind).kind ≠ .COMMA := by cases op <;> simp [tk_kind, AOp.kind]
  have he : exprStmt (g+1) (⟨.IDENT, x⟩ :: tk op.kind :: val) = some (.assign op x e, rest) := by
    simp [exprStmt, pratt_ident_assign_none, ha, hP', sepStart_stops hr]
  simp [stmtStrict, headIs, hd, hc, he, sepStart_strict hr]

theorem stmtStrict_if {f : Nat} {c : Expr} {thn : Block} {els : Else} {X rest : List Token}
    (hI : parseIf f X = some ((c, thn, els), rest)) (hr : sepStart rest) :
    stmtStrict (f+2) (tk .IF :: X) = some (some (.ifS c thn els), dropSemi rest) := by
  have he : exprStmt (f+1) (tk .IF :: X) = some (.ifS c thn els, rest) := by
    simp [exprStmt, tk_kind, hI, sepStart_stops hr]
  simp [stmtStrict, tk_kind, he, sepStart_strict hr]


/-! ### `parseIf` -/

theorem stopsExpr_lbrace (B : List Token) : stopsExpr (tk .LBRACE :: B) = true := rfl

theorem parseIf_none {f : Nat} {c : Expr} {thn : Block} {X B rest : List Token}
    (hc : parseNode f false Level.LOWEST.num X = some (c, tk .LBRACE :: B))
    (hb : stmts false f B = some (thn, rest)) (hr : headIs .ELSE rest = false) :
    parseIf (f+1) X = some ((c, thn, .none), rest) := by
  have hl : headIs .LBRACE (tk .LBRACE :: B) = true := rfl
  simp [parseIf, hc, hb, hl, hr]

theorem parseIf_block {f : Nat} {c : Expr} {thn b : Block} {X B B2 rest : List Token}
    (hc : parseNode f false Level.LOWEST.num X = some (c, tk .LBRACE :: B))
    (hb : stmts false f B = some (thn, tk .ELSE :: tk .LBRACE :: B2))
    (h2 : stmts false f B2 = some (b, rest)) :
    parseIf (f+1) X = some ((c, thn, .block b), rest) := by
  simp [parseIf, hc, hb, headIs, tk_kind, h2]

theorem parseIf_elif {f : Nat} {c c' : Expr} {thn t' : Block} {e' : Else} {X B X2 rest : List Token}
    (hc : parseNode f false Level.LOWEST.num X = some (c, tk .LBRACE :: B))
    (hb : stmts false f B = some (thn, tk .ELSE :: tk .IF :: X2))
    (h2 : parseIf f X2 = some ((c', t', e'), rest)) :
    parseIf (f+1) X = some ((c, thn, .elif c' t' e'), rest) := by
  simp [parseIf, hc, hb, headIs, tk_kind, h2]

/-! ### the statement loops -/

/-- how a statement list ends: the program at end of input, a block at its `}` -/
def endsAt (top : Bool) (R r : List Token) : Prop :=
  if top = true then R = [] ∧ r = [] else ∃ tok, tok.kind = .RBRACE ∧ R = tok :: r

theorem endsAt_rbrace (r : List Token) : endsAt false (tk .RBRACE :: r) r := by simp [endsAt, tk_kind]

theorem endsAt_sepStart {top : Bool} {R r : List Token} (h : endsAt top R r) : sepStart R := by
  cases top with
  | true => obtain ⟨rfl, _⟩ := (by simpa [endsAt] using h : R = [] ∧ r = []); trivial
  | false =>
    obtain ⟨tok, hk, rfl⟩ := (by simpa [endsAt] using h : ∃ tok, tok.kind = .RBRACE ∧ R = tok :: r)
    exact Or.inr (Or.inr hk)

theorem stmts_end {top : Bool} {R r : List Token} (h : endsAt top R r) (f : Nat) :
    stmts top (f+1) R = some (.nil, r) := by
  cases top with
  | true =>
    obtain ⟨rfl, rfl⟩ := (by simpa [endsAt] using h : R = [] ∧ r = [])
    simp [stmts]
  | false =>
    obtain ⟨tok, hk, rfl⟩ := (by simpa [endsAt] using h : ∃ tok, tok.kind = .RBRACE ∧ R = tok :: r)
    simp [stmts, hk]

theorem prefixP_closer {tok : Token} (hk : tok.kind = .RBRACE ∨ tok.kind = .EOF) (g : Nat) (t : Bool)
    (r : List Token) : prefixP g t (tok :: r) = none := by
  have h1 : prefixFn Kind.RBRACE = none := rfl
  have h2 : isPostfix Kind.RBRACE = false := rfl
  have h3 : prefixFn Kind.EOF = some .illegalToken := rfl
  have h4 : isPostfix Kind.EOF = false := rfl
  cases g with
  | zero => simp [prefixP]
  | succ g => rcases hk with hk | hk <;> simp [prefixP, hk, h1, h2, h3, h4]

theorem stmtStrict_closer_none {tok : Token} (hk : tok.kind = .RBRACE ∨ tok.kind = .EOF) (f : Nat)
    (r : List Token) : stmtStrict f (tok :: r) = none := by
  cases f with
  | zero => simp [stmtStrict]
  | succ f =>
    have hp : ∀ g, parseNode g false Level.LOWEST.num (tok :: r) = none :=
      fun g => parseNode_none_of_prefixP (fun g => prefixP_closer hk g false r) g _
    have he : exprStmt f (tok :: r) = none := by
      cases f with
      | zero => simp [exprStmt]
      | succ f => rcases hk with hk | hk <;> cases r <;> simp [exprStmt, hk, hp]
    rcases hk with hk | hk <;> simp [stmtStrict, hk, he]

/-- one round of the statement loop -/
theorem stmts_cons {top : Bool} {f : Nat} {Z Y : List Token} {s : Stmt} {b : Block} {r : List Token}
    (h1 : stmtStrict f Z = some (some s, Y)) (h2 : stmts top f Y = some (b, r)) :
    stmts top (f+1) Z = some (.cons s b, r) := by
  cases Z with
  | nil => cases f <;> simp [stmtStrict] at h1
  | cons tok ts =>
    have k1 : tok.kind ≠ .EOF := fun hk => by rw [stmtStrict_closer_none (Or.inr hk)] at h1; cases h1
    have k2 : tok.kind ≠ .RBRACE := fun hk => by rw [stmtStrict_closer_none (Or.inl hk)] at h1; cases h1
    simp [stmts, k1, k2, h1, h2]

theorem sepStart_sep (sep : Sep) {Y : List Token} (h : sep.nonEmpty = true ∨ sepStart Y) :
    sepStart (sep.toks ++ Y) := by
  obtain ⟨semi, lines⟩ := sep
  cases semi with
  | true => exact Or.inl rfl
  | false =>
    cases lines with
    | nil =>
      rcases h with h | h
      · simp [Sep.nonEmpty] at h
      · simpa [Sep.toks, linesToks] using h
    | cons hd tl => obtain ⟨lit, s⟩ := hd; exact Or.inr (Or.inl rfl)

/-- the line ends behind a `{` -/
theorem block_lead {lead : Lines} {I : List Token} {thn : Block}
    (h : ∀ r2, ∃ N, ∀ f, N ≤ f → stmts false f (I ++ tk .RBRACE :: r2) = some (thn, r2)) :
    ∀ r2, ∃ N, ∀ f, N ≤ f → stmts false f ((linesToks lead ++ I) ++ tk .RBRACE :: r2) = some (thn, r2) := by
  intro r2
  obtain ⟨N, hN⟩ := h r2
  refine ⟨N + lead.length + 1, fun f hf => ?_⟩
  rw [List.append_assoc]
  exact stmts_lines false lead _ _ N hN f hf

/-! ### the induction over laid-out trees -/

mutual
theorem stmt_inv : (s : LStmt) → wfS s = true → ∀ rest, sepStart rest →
    ∃ N, ∀ f, N ≤ f → stmtStrict f (renderS s ++ rest) = some (some s.erase, dropSemi rest)
  | .expr e L, hw, rest, hr => by
    obtain ⟨N, hN⟩ := parse_newline_invariant e L rest hw (sepStart_stops hr)
    exact ⟨N + 2, stmtStrict_expr hN hr⟩
  | .var x e L, hw, rest, hr => by
    obtain ⟨N, hN⟩ := parse_newline_invariant e L rest hw (sepStart_stops hr)
    exact fuel_succ N fun g hg => stmtStrict_var (hN g hg) hr
  | .decl x e L, hw, rest, hr => by
    obtain ⟨N, hN⟩ := parse_newline_invariant e L rest hw (sepStart_stops hr)
    exact fuel_succ N fun g hg => stmtStrict_decl (hN g hg) hr
  | .assign op x e L, hw, rest, hr => by
    obtain ⟨N, hN⟩ := parse_newline_invariant e L rest hw (sepStart_stops hr)
    exact ⟨N + 2, stmtStrict_assign hN hr⟩
  | .ret e L, hw, rest, hr => by
    obtain ⟨N, hN⟩ := parse_newline_invariant e L rest hw (sepStart_stops hr)
    exact fuel_succ N fun g hg => stmtStrict_ret (hN g hg) hr
  | .ret0, _, rest, hr => fuel_succ 0 fun _ _ => stmtStrict_ret0 hr
  | .brk, _, rest, hr => fuel_succ 0 fun _ _ => stmtStrict_brk hr
  | .cont, _, rest, hr => fuel_succ 0 fun _ _ => stmtStrict_cont hr
  | .ifS c L lead thn els, hw, rest, hr => by
    simp only [wfS, Bool.and_eq_true] at hw
    obtain ⟨⟨hc, hthn⟩, hels⟩ := hw
    obtain ⟨N, hN⟩ := else_inv els hels c L thn.erase (linesToks lead ++ renderItems thn) rest hc hr
      (block_lead fun r2 => items_inv thn hthn false _ r2 (endsAt_rbrace r2))
    refine ⟨N + 2, fun f hf => ?_⟩
    obtain ⟨g, rfl⟩ : ∃ g, f = g + 2 := ⟨f - 2, by omega⟩
    have h := hN g (by omega)
    simp only [renderS, LStmt.erase, List.append_assoc, List.cons_append, List.nil_append] at h ⊢
    exact stmtStrict_if h hr

theorem items_inv : (items : LItems) → wfItems items = true → ∀ top R r, endsAt top R r →
    ∃ N, ∀ f, N ≤ f → stmts top f (renderItems items ++ R) = some (items.erase, r)
  | .nil, _, top, R, r, hend => fuel_succ 0 fun g _ => stmts_end hend g
  | .cons s sep tl, hw, top, R, r, hend => by
    simp only [wfItems, Bool.and_eq_true, Bool.or_eq_true] at hw
    obtain ⟨⟨hs, hsep⟩, htl⟩ := hw
    obtain ⟨N1, h1⟩ := items_inv tl htl top R r hend
    have h2 := stmts_lines top sep.lines (renderItems tl ++ R) _ N1 h1
    have hsep : sepStart (sep.toks ++ (renderItems tl ++ R)) := by
      refine sepStart_sep sep (hsep.imp_right fun h => ?_)
      cases tl with
      | nil => exact endsAt_sepStart hend
      | cons _ _ _ => cases h
    obtain ⟨N3, h3⟩ := stmt_inv s hs _ hsep
    refine fuel_succ (N1 + N3 + sep.lines.length + 1) fun g hg => ?_
    have h2' := h2 g (by omega)
    have h3' := h3 g (by omega)
    have hd : dropSemi (sep.toks ++ (renderItems tl ++ R)) = linesToks sep.lines ++ (renderItems tl ++ R) := by
      rw [Sep.toks, List.append_assoc]
      exact dropSemi_optSemi sep.semi h2'
    rw [hd] at h3'
    simp only [renderItems, List.append_assoc]
    exact stmts_cons h3' h2'

theorem else_inv : (els : LElse) → wfElse els = true → ∀ (c : Expr) (L : Layout) (thn : Block)
    (B rest : List Token), unnested c = true → sepStart rest →
    (∀ r2, ∃ N, ∀ f, N ≤ f → stmts false f (B ++ tk .RBRACE :: r2) = some (thn, r2)) →
    ∃ N, ∀ f, N ≤ f →
      parseIf f (renderNLTop L c ++ tk .LBRACE :: (B ++ tk .RBRACE :: (renderElse els ++ rest)))
        = some ((c, thn, els.erase), rest)
  | .none, _, c, L, thn, B, rest, hc, hr, hthn => by
    obtain ⟨N0, h0⟩ := parse_newline_invariant c L _ hc (stopsExpr_lbrace _)
    obtain ⟨N1, h1⟩ := hthn rest
    exact fuel_succ (N0 + N1) fun g hg =>
      parseIf_none (h0 g (by omega)) (h1 g (by omega)) (sepStart_not_else hr)
  | .block lead b, hw, c, L, thn, B, rest, hc, hr, hthn => by
    obtain ⟨N0, h0⟩ := parse_newline_invariant c L _ hc (stopsExpr_lbrace _)
    obtain ⟨N1, h1⟩ := hthn (renderElse (.block lead b) ++ rest)
    obtain ⟨N2, h2⟩ := block_lead (lead := lead) (fun r2 =>
      items_inv b hw false _ r2 (endsAt_rbrace r2)) rest
    refine fuel_succ (N0 + N1 + N2) fun g hg => ?_
    have h1' := h1 g (by omega)
    have h2' := h2 g (by omega)
    simp only [renderElse, List.cons_append, List.append_assoc] at h1' h2' ⊢
    exact parseIf_block (h0 g (by omega)) h1' h2'
  | .elif c' L' lead thn' els', hw, c, L, thn, B, rest, hc, hr, hthn => by
    simp only [wfElse, Bool.and_eq_true] at hw
    obtain ⟨⟨hc', hthn'⟩, hels'⟩ := hw
    obtain ⟨N0, h0⟩ := parse_newline_invariant c L _ hc (stopsExpr_lbrace _)
    obtain ⟨N1, h1⟩ := hthn (renderElse (.elif c' L' lead thn' els') ++ rest)
    obtain ⟨N2, h2⟩ := else_inv els' hels' c' L' thn'.erase (linesToks lead ++ renderItems thn') rest hc' hr
      (block_lead fun r2 => items_inv thn' hthn' false _ r2 (endsAt_rbrace r2))
    refine fuel_succ (N0 + N1 + N2) fun g hg => ?_
    have h1' := h1 g (by omega)
    have h2' := h2 g (by omega)
    simp only [renderElse, List.cons_append, List.append_assoc] at h1' h2' ⊢
    exact parseIf_elif (h0 g (by omega)) h1' h2'
end

end Risor.C20.St
