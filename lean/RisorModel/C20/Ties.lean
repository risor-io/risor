import RisorModel.C20.Model
import RisorModel.Generated.C20
/-!
C20 ties: the tables regenerated from `token/token.go` and `lexer/lexer.go` by the extractor on
this run equal the tables the lexer model (and hence every theorem of `Props.lean`) is built on.
-/
namespace Risor.C20

/-- `token.keywords` -/
theorem keywords_tie : Risor.Generated.C20.keywords = keywords := by rfl

/-- the one- and two-character operator decisions of `switch l.ch` in `Lexer.Next` -/
theorem opTable_tie : Risor.Generated.C20.opTable = opTable := by rfl

/-- the first runes that switch handles by other code -/
theorem specialFirst_tie : Risor.Generated.C20.specialFirst = specialFirst := by rfl

/-- `isTabOrSpace` -/
theorem isBlank_tie (c : Nat) : isBlank c = Risor.Generated.C20.blankChars.contains c := by
  simp only [isBlank, Risor.Generated.C20.blankChars, List.contains, List.elem]
  cases c == 32 <;> cases c == 9 <;> rfl

/-- `isDigit`: the regenerated bounds are the ones the model's `isDigit` uses -/
theorem isDigit_tie (c : Nat) :
    isDigit c = true ↔ Risor.Generated.C20.digitBounds.1 ≤ c ∧ c ≤ Risor.Generated.C20.digitBounds.2 := by
  show isDigit c = true ↔ 48 ≤ c ∧ c ≤ 57
  simp [isDigit]

/-! ### non-ASCII runes and the read position -/

/-- the predicates of package `unicode` that `lexer.isIdentifier` calls: the model's `uIdent` is
    `uLetter || uDigit` -/
theorem identClasses_tie : Risor.Generated.C20.identClasses = ["IsLetter", "IsDigit"] := by rfl

/-- the predicates `lexer.readNumber` calls on the rune after a number: the model's `uNumTrail`
    is `uLetter || uNumber` -/
theorem numberTrailClasses_tie : Risor.Generated.C20.numberTrailClasses = ["IsLetter", "IsNumber"] := by rfl

/-- `lexer.readIdentifier` compares the rune after an identifier with `unicode.MaxASCII` (127):
    the `c > 127` branch of the model's `.ident` state -/
theorem identEndNames_tie : Risor.Generated.C20.identEndNames = ["MaxASCII"] := by rfl

/-- the tables behind `unicode.IsLetter` / `IsDigit` / `IsNumber` of the Go toolchain risor is
    compiled with are the tables of Unicode.lean -/
theorem letterRanges_tie : Risor.Generated.C20.letterRanges = letterRanges := by rfl
theorem digitRanges_tie : Risor.Generated.C20.digitRanges = digitRanges := by rfl
theorem numberRanges_tie : Risor.Generated.C20.numberRanges = numberRanges := by rfl

/-- **`readChar` alone moves the lexer.**  It is the only method of `Lexer` that assigns
    `position`, `nextPosition`, `column`, `line`, `lineStart` or `ch`: the read position advances
    one RUNE at a time and the line/column bookkeeping sees every rune — what makes a token's
    position a function of its rune offset (`posAt`) and `run`'s offsets list positions.  A
    helper that jumps (by a distance measured in bytes, say) breaks this tie. -/
theorem posWriters_tie : Risor.Generated.C20.posWriters = ["readChar"] := by rfl

/-- the lexer holds its input as a rune slice and in no other form (no string or byte view whose
    indices could be mixed up with rune offsets) -/
theorem lexerFields_tie : Risor.Generated.C20.lexerFields =
    ["ch:rune", "characters:[]rune", "column:int", "file:string", "line:int", "lineStart:int",
     "nextPosition:int", "position:int", "prevToken:token.Token", "tokenStartPosition:token.Position"] := by rfl

end Risor.C20
