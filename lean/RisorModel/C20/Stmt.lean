import RisorModel.C20.ParseNewline
/-!
C20 — statement-level parser model (parser/parser.go: `Parse`'s statement loop,
`parseStatementStrict`, `parseStatement`, `parseVar`, `parseDeclaration`, `parseReturn`,
`parseBreak`/`parseContinue`, `parseExpressionStatement`, `parseAssign`, `parseIf`, `parseBlock`)
over the token stream of the lexer machine (NEWLINE and SEMICOLON are tokens, as the real lexer
emits them).  Expressions are delegated to the Pratt model of C01 (`parseNode`).

Conventions (those of Pratt.lean).  A token list stands for `curToken :: peekToken :: …`; `[]`
is end of input (`toTokens` drops the EOF token; a token of kind EOF is treated alike).  Every
function returns the tokens from `peekToken` on.  `none` = "the real parser records an error, or
builds a node outside the fragment" (multi-assignment `a, b = …`, `const`, index assignment,
`func`, `for`, `switch`, postfix `++`, pipes, maps …).

Where the model takes a shortcut that is not the textual order of the Go code it says so:
* `exprStmt` first asks the Pratt model and, when that yields `none`, tries the assignment
  `IDENT op expr`.  The real `parseNode(LOWEST)` reaches `parseAssign` from its infix loop after
  `parseIdent`; the Pratt model returns `none` on every `IDENT =`… (its `infixP` has no
  `parseAssign`: `pratt_ident_assign_none` in StmtLemmas.lean), so the two orders agree.
* after an assignment or an `if` node the loop of `parseNode` looks at the next token again; the
  model returns `none` unless that token stops the expression (`stopsExpr`): `if c {} (x)` is a
  call of an `if` node in the real parser, which is outside the fragment.
* the flag "`curToken` is a SEMICOLON" that `parseStatementStrict` tests is `true` exactly when
  `parseStatement` consumed a trailing `;` — no node of the fragment ends in a `;` token.

Executable, total, core Lean only (linked into the oracle).
-/
namespace Risor.C20.St
open Risor.C01 Risor.C01.Pratt Risor.C20.NL

/-- the operators `parseAssign` accepts on an identifier, minus `:=` (which `parseStatement`
    routes to `parseDeclaration` when it follows a statement-initial identifier) -/
inductive AOp where
  | set | add | sub | mul | div
  deriving DecidableEq, Repr, Inhabited

def AOp.kind : AOp → Kind
  | .set => .ASSIGN | .add => .PLUS_EQUALS | .sub => .MINUS_EQUALS
  | .mul => .ASTERISK_EQUALS | .div => .SLASH_EQUALS

def aopOfKind : Kind → Option AOp
  | .ASSIGN => some .set | .PLUS_EQUALS => some .add | .MINUS_EQUALS => some .sub
  | .ASTERISK_EQUALS => some .mul | .SLASH_EQUALS => some .div
  | _ => none

mutual
/-- statement-level syntax trees of the fragment -/
inductive Stmt where
  | expr (e : Expr)                         -- expression statement
  | var (x : String) (e : Expr)             -- `var x = e`        (ast.Var)
  | decl (x : String) (e : Expr)            -- `x := e`           (ast.Var, walrus)
  | assign (op : AOp) (x : String) (e : Expr)  -- `x = e`, `x += e` … (ast.Assign)
  | ret (e : Expr)                          -- `return e`
  | ret0                                    -- bare `return`
  | brk | cont
  | ifS (c : Expr) (thn : Block) (els : Else)
/-- the statements of a block / of the program -/
inductive Block where
  | nil | cons (s : Stmt) (b : Block)
/-- the alternative of an `if`: none, `else { … }`, or `else if …` (which the real parser stores as
    a block holding the nested `if` alone) -/
inductive Else where
  | none | block (b : Block) | elif (c : Expr) (thn : Block) (els : Else)
end

deriving instance Repr for Stmt, Block, Else
deriving instance DecidableEq for Stmt, Block, Else
instance : Inhabited Stmt := ⟨.brk⟩

/-- `var statementTerminators` of parser.go -/
def terminators : List Kind := [.SEMICOLON, .NEWLINE, .RBRACE, .EOF, .PLUS_PLUS, .MINUS_MINUS]

/-- `statementTerminators[p.peekToken.Type]` (end of input is EOF) -/
def peekTerm : List Token → Bool
  | [] => true
  | tok :: _ => terminators.contains tok.kind

/-- the peek tokens at which `parseReturn` returns a bare `return` -/
def returnEnds : List Kind := [.SEMICOLON, .NEWLINE, .RBRACE, .EOF]

def peekReturnEnd : List Token → Bool
  | [] => true
  | tok :: _ => returnEnds.contains tok.kind

/-- "Consume trailing semicolon if present": the flag says whether one was consumed -/
def eatSemi (toks : List Token) : Bool × List Token :=
  if headIs .SEMICOLON toks then (true, toks.tail) else (false, toks)

/-- the tokens left after the optional trailing semicolon -/
def dropSemi (toks : List Token) : List Token := (eatSemi toks).2

/-- result of `parseStatement`/`parseStatementStrict`: outer `none` = error / outside the fragment,
    inner `none` = no statement (the NEWLINE case) -/
abbrev SRes := Option (Option Stmt × List Token)

mutual
/-- `parseStatementStrict`, `toks` = `curToken :: …` (never called at end of input) -/
def stmtStrict : Nat → List Token → SRes
  | 0, _ => none
  | _, [] => none
  | f+1, tok :: rest =>
    -- parseStatement: the switch on curToken.Type
    let r : SRes :=
      if tok.kind = .VAR then
        -- parseVar: expectPeek IDENT, (no comma in the fragment), expectPeek ASSIGN, value
        match rest with
        | x :: eq :: val =>
          if x.kind = .IDENT ∧ eq.kind = .ASSIGN then
            match parseNode f false Level.LOWEST.num val with
            | some (e, r) => some (some (.var x.lit e), r)
            | none => none
          else none
        | _ => none
      else if tok.kind = .CONST then none
      else if tok.kind = .RETURN then
        if peekReturnEnd rest then some (some .ret0, rest)
        else
          match parseNode f false Level.LOWEST.num rest with
          | some (e, r) => some (some (.ret e), r)
          | none => none
      else if tok.kind = .BREAK then some (some .brk, rest)
      else if tok.kind = .CONTINUE then some (some .cont, rest)
      else if tok.kind = .NEWLINE then some (none, rest)
      else if tok.kind = .IDENT ∧ headIs .DECLARE rest then
        -- parseDeclaration with one identifier and `:=`
        match parseNode f false Level.LOWEST.num rest.tail with
        | some (e, r) => some (some (.decl tok.lit e), r)
        | none => none
      else if tok.kind = .IDENT ∧ headIs .COMMA rest then none   -- `a, b = …`: outside
      else
        match exprStmt f (tok :: rest) with
        | some (s, r) => some (some s, r)
        | none => none
    match r with
    | none => none
    | some (os, rest') =>
      -- "Consume trailing semicolon if present"
      match os with
      | none => some (none, dropSemi rest')          -- parseStatementStrict: `stmt == nil`
      | some s =>
        if (eatSemi rest').1 || peekTerm (dropSemi rest') then some (some s, dropSemi rest')
        else none                                    -- "unexpected token following statement"

/-- `parseExpressionStatement` = `parseNode(LOWEST)` on the nodes of the fragment -/
def exprStmt : Nat → List Token → Option (Stmt × List Token)
  | 0, _ => none
  | _, [] => none
  | f+1, tok :: rest =>
    if tok.kind = .IF then
      match parseIf f rest with
      | some ((c, thn, els), r) => if stopsExpr r then some (.ifS c thn els, r) else none
      | none => none
    else
      match parseNode f false Level.LOWEST.num (tok :: rest) with
      | some (e, r) => some (.expr e, r)
      | none =>
        -- parseIdent, then parseAssign from the infix loop
        match rest with
        | opTok :: val =>
          if tok.kind = .IDENT then
            match aopOfKind opTok.kind with
            | some op =>
              match parseNode f false Level.LOWEST.num val with
              | some (e, r) => if stopsExpr r then some (.assign op tok.lit e, r) else none
              | none => none
            | none => none
          else none
        | [] => none

/-- `parseIf`; `toks` starts at the token after `if` -/
def parseIf : Nat → List Token → Option ((Expr × Block × Else) × List Token)
  | 0, _ => none
  | f+1, toks =>
    match parseNode f false Level.LOWEST.num toks with
    | none => none
    | some (c, r1) =>
      if headIs .LBRACE r1 then
        match stmts false f r1.tail with
        | none => none
        | some (thn, r2) =>
          if headIs .ELSE r2 then
            if headIs .IF r2.tail then
              match parseIf f r2.tail.tail with
              | some ((c', t', e'), r3) => some ((c, thn, .elif c' t' e'), r3)
              | none => none
            else if headIs .LBRACE r2.tail then
              match stmts false f r2.tail.tail with
              | some (b, r3) => some ((c, thn, .block b), r3)
              | none => none
            else none
          else some ((c, thn, .none), r2)
      else none

/-- the statement loops: `top = false` is `parseBlock` entered behind the `{` (ends at `}`, end of
    input is "unterminated block statement"); `top = true` is the loop of `Parser.Parse` (ends at
    EOF; a `}` goes to `parseStatementStrict`, which fails on it) -/
def stmts : Bool → Nat → List Token → Option (Block × List Token)
  | _, 0, _ => none
  | top, _+1, [] => if top then some (.nil, []) else none
  | top, f+1, tok :: rest =>
    if tok.kind = .EOF then (if top then some (.nil, []) else none)
    else if tok.kind = .RBRACE ∧ top = false then some (.nil, rest)
    else
      match stmtStrict f (tok :: rest) with
      | none => none
      | some (os, rest') =>
        match stmts top f rest' with
        | none => none
        | some (b, r) =>
          match os with
          | none => some (b, r)
          | some s => some (.cons s b, r)
end

/-- `Parser.Parse` on the tokens of a whole text -/
def parseProgram (fuel : Nat) (toks : List Token) : Option Block :=
  (stmts true fuel toks).map (·.1)

/-! ## laid-out trees and their printer -/

/-- A run of line ends: each NEWLINE token (its literal) may be followed by one `;`
    (`parseStatement` consumes a `;` behind the NEWLINE it treats as an empty statement). -/
abbrev Lines := List (String × Bool)

def linesToks : Lines → List Token
  | [] => []
  | (lit, semi) :: tl => ⟨.NEWLINE, lit⟩ :: ((if semi then [tk .SEMICOLON] else []) ++ linesToks tl)

/-- what stands behind a statement: an optional `;`, then any run of line ends -/
structure Sep where
  semi : Bool
  lines : Lines

def Sep.toks (s : Sep) : List Token := (if s.semi then [tk .SEMICOLON] else []) ++ linesToks s.lines

/-- a separator that separates: a `;` or at least one line end -/
def Sep.nonEmpty (s : Sep) : Bool := s.semi || !s.lines.isEmpty

mutual
/-- a statement tree together with ONE layout of it: a `NL.Layout` for each expression (any number
    of NEWLINE tokens in each permitted gap of the expression), a run of line ends behind every
    `{`, a separator behind every statement -/
inductive LStmt where
  | expr (e : Expr) (L : Layout)
  | var (x : String) (e : Expr) (L : Layout)
  | decl (x : String) (e : Expr) (L : Layout)
  | assign (op : AOp) (x : String) (e : Expr) (L : Layout)
  | ret (e : Expr) (L : Layout)
  | ret0
  | brk | cont
  | ifS (c : Expr) (L : Layout) (lead : Lines) (thn : LItems) (els : LElse)
inductive LItems where
  | nil | cons (s : LStmt) (sep : Sep) (tl : LItems)
inductive LElse where
  | none
  | block (lead : Lines) (b : LItems)
  | elif (c : Expr) (L : Layout) (lead : Lines) (thn : LItems) (els : LElse)
end

mutual
/-- forget the layout -/
def LStmt.erase : LStmt → Stmt
  | .expr e _ => .expr e
  | .var x e _ => .var x e
  | .decl x e _ => .decl x e
  | .assign op x e _ => .assign op x e
  | .ret e _ => .ret e
  | .ret0 => .ret0
  | .brk => .brk
  | .cont => .cont
  | .ifS c _ _ thn els => .ifS c thn.erase els.erase
def LItems.erase : LItems → Block
  | .nil => .nil
  | .cons s _ tl => .cons s.erase tl.erase
def LElse.erase : LElse → Else
  | .none => .none
  | .block _ b => .block b.erase
  | .elif c _ _ thn els => .elif c thn.erase els.erase
end

mutual
/-- the tokens of a laid-out statement -/
def renderS : LStmt → List Token
  | .expr e L => renderNLTop L e
  | .var x e L => [tk .VAR, ⟨.IDENT, x⟩, tk .ASSIGN] ++ renderNLTop L e
  | .decl x e L => [⟨.IDENT, x⟩, tk .DECLARE] ++ renderNLTop L e
  | .assign op x e L => [⟨.IDENT, x⟩, tk op.kind] ++ renderNLTop L e
  | .ret e L => [tk .RETURN] ++ renderNLTop L e
  | .ret0 => [tk .RETURN]
  | .brk => [tk .BREAK]
  | .cont => [tk .CONTINUE]
  | .ifS c L lead thn els =>
    [tk .IF] ++ (renderNLTop L c ++ (tk .LBRACE :: (linesToks lead ++ (renderItems thn ++
      (tk .RBRACE :: renderElse els)))))
def renderItems : LItems → List Token
  | .nil => []
  | .cons s sep tl => renderS s ++ (sep.toks ++ renderItems tl)
def renderElse : LElse → List Token
  | .none => []
  | .block lead b => tk .ELSE :: tk .LBRACE :: (linesToks lead ++ (renderItems b ++ [tk .RBRACE]))
  | .elif c L lead thn els =>
    tk .ELSE :: tk .IF :: (renderNLTop L c ++ (tk .LBRACE :: (linesToks lead ++ (renderItems thn ++
      (tk .RBRACE :: renderElse els)))))
end

def LItems.isNil : LItems → Bool
  | .nil => true
  | .cons _ _ _ => false

mutual
/-- well-formed laid-out trees: every expression has unnested ternaries (the class of
    `parse_newline_invariant`), and the separator between two statements is not empty (the one
    behind the last statement of a block may be) -/
def wfS : LStmt → Bool
  | .expr e _ | .var _ e _ | .decl _ e _ | .assign _ _ e _ | .ret e _ => unnested e
  | .ret0 | .brk | .cont => true
  | .ifS c _ _ thn els => unnested c && wfItems thn && wfElse els
def wfItems : LItems → Bool
  | .nil => true
  | .cons s sep tl => wfS s && (sep.nonEmpty || tl.isNil) && wfItems tl
def wfElse : LElse → Bool
  | .none => true
  | .block _ b => wfItems b
  | .elif c _ _ thn els => unnested c && wfItems thn && wfElse els
end

/-- a whole program text: line ends, then statements -/
def renderProgram (lead : Lines) (items : LItems) : List Token := linesToks lead ++ renderItems items

/-! ## the canonical layout: one statement per line, expressions on one line -/

def nlSep : Sep := ⟨false, [("\n", false)]⟩

mutual
def canonS : Stmt → LStmt
  | .expr e => .expr e Layout.flat
  | .var x e => .var x e Layout.flat
  | .decl x e => .decl x e Layout.flat
  | .assign op x e => .assign op x e Layout.flat
  | .ret e => .ret e Layout.flat
  | .ret0 => .ret0
  | .brk => .brk
  | .cont => .cont
  | .ifS c thn els => .ifS c Layout.flat [("\n", false)] (canonB thn) (canonE els)
def canonB : Block → LItems
  | .nil => .nil
  | .cons s b => .cons (canonS s) nlSep (canonB b)
def canonE : Else → LElse
  | .none => .none
  | .block b => .block [("\n", false)] (canonB b)
  | .elif c thn els => .elif c Layout.flat [("\n", false)] (canonB thn) (canonE els)
end

mutual
/-- the expressions of a tree have unnested ternaries -/
def okStmt : Stmt → Bool
  | .expr e | .var _ e | .decl _ e | .assign _ _ e | .ret e => unnested e
  | .ret0 | .brk | .cont => true
  | .ifS c thn els => unnested c && okBlock thn && okElse els
def okBlock : Block → Bool
  | .nil => true
  | .cons s b => okStmt s && okBlock b
def okElse : Else → Bool
  | .none => true
  | .block b => okBlock b
  | .elif c thn els => unnested c && okBlock thn && okElse els
end

/-- the canonical token list of a program: one statement per line -/
def renderCanon (b : Block) : List Token := renderItems (canonB b)

/-! ## the table of places where statement-level code looks at NEWLINE

Tied to parser/parser.go by `StmtTies.lean` (regenerated list of functions that mention
`token.NEWLINE` or call `eatNewlines`).  Of these the statement fragment uses: `parseStatement`
(a NEWLINE in statement position is an empty statement), `parseReturn` (a NEWLINE ends a bare
`return`), `statementTerminators`; everything else belongs to expressions (`parseInfixExpr`,
`parseExprList`, `parseNodeList`, `parseGetAttr`: the gaps of `NL.Layout`) or is outside the
fragment (`parseSwitch`, `parseFromImport`, `parseMapOrSet`, `parsePipe`; `New` registers `parseNewline`). -/
def newlineSites : List String :=
  ["New", "eatNewlines", "parseExprList", "parseFromImport", "parseGetAttr", "parseInfixExpr", "parseMapOrSet",
   "parseNodeList", "parsePipe", "parseReturn", "parseStatement", "parseSwitch"]

/-- the functions of the statement fragment, none of which skips a newline between its own tokens
    (`stmtNewlineSites_tie` filters the regenerated `newlineSites` by this list) -/
def stmtFunctions : List String :=
  ["Parse", "parseAssign", "parseAssignmentValue", "parseBlock", "parseBreak", "parseContinue",
   "parseDeclaration", "parseExpressionStatement", "parseIf", "parseReturn", "parseStatement",
   "parseStatementStrict", "parseVar"]

/-- of those, the ones that look at NEWLINE: `parseStatement` (empty statement) and `parseReturn`
    (bare return) — exactly the two places where `stmtStrict` tests `.NEWLINE` -/
def stmtNewlineSites : List String := ["parseReturn", "parseStatement"]

/-- the cases of `switch p.curToken.Type` in `parseStatement`, in the order of `stmtStrict`'s if-chain -/
def statementCases : List Kind := [.VAR, .CONST, .RETURN, .BREAK, .CONTINUE, .NEWLINE, .IDENT]

/-- the token tests of the statement functions, in source order, as `stmtStrict` / `parseIf` / `stmts`
    make them: none of them is preceded by a newline skip, so the tested token is the very next one -/
def looksStatement : List String := ["peekTokenIs:DECLARE", "peekTokenIs:COMMA", "peekTokenIs:SEMICOLON"]
def looksStrict : List String := ["curTokenIs:SEMICOLON"]
def looksReturn : List String := returnEnds.map fun k => "peekTokenIs:" ++ k.name
def looksIf : List String := ["expectPeek:LBRACE", "peekTokenIs:ELSE", "peekTokenIs:IF", "expectPeek:LBRACE"]
def looksBlock : List String := ["curTokenIs:RBRACE", "curTokenIs:EOF", "curTokenIs:EOF"]
def looksVar : List String := ["expectPeek:IDENT", "peekTokenIs:COMMA", "expectPeek:IDENT", "expectPeek:ASSIGN"]
def looksDeclaration : List String := ["peekTokenIs:COMMA", "expectPeek:IDENT", "expectPeek:ASSIGN"]

end Risor.C20.St
