import RisorModel.C01.PrattLemmas
import RisorModel.C20.ParseNewline
/-!
Helper lemmas for parser-level newline invariance (ParseNewlineProps.lean).  The induction is
the one of the Pratt round trip (`Cont`/`Done`/`inv_of_wrap` of RisorModel/C01/PrattLemmas.lean
are reused unchanged); what is new are the single steps of the parser on token lists that carry
NEWLINE tokens in the permitted gaps, and the invariant `InvNL`, which quantifies over every
layout.
-/
namespace Risor.C20.NL
open Risor.C01 Risor.C01.Pratt

/-! ### layouts -/

@[simp] theorem nls_zero : nls [] = [] := rfl
theorem nls_succ (s : String) (n : List String) : nls (s :: n) = ⟨.NEWLINE, s⟩ :: nls n := rfl

@[simp] theorem flat_drop (k : Nat) : Layout.flat.drop k = Layout.flat := rfl
@[simp] theorem flat_nl (i : Nat) : Layout.flat.nl i = [] := rfl
@[simp] theorem flat_comma (i : Nat) : Layout.flat.comma i = false := rfl

theorem noComma_drop {L : Layout} (h : L.noComma) (k : Nat) : (L.drop k).noComma := fun i => h (k + i)
theorem noComma_flat : Layout.flat.noComma := fun _ => rfl

/-! ### `skipNl`, `headIs`, `firstOp` on a run of newlines -/

theorem skipNl_nls (n : List String) (toks : List Token) : skipNl (nls n ++ toks) = skipNl toks := by
  induction n with
  | nil => rfl
  | cons s n ih =>
    rw [nls_succ, List.cons_append, skipNl]
    simpa using ih

theorem skipNl_nls_starts (n : List String) {toks : List Token} (h : Starts toks) :
    skipNl (nls n ++ toks) = toks := by
  rw [skipNl_nls, skipNl_of_starts h]

/-- a token that is not a newline stops `skipNl` -/
theorem skipNl_cons_of_ne {tok : Token} (h : tok.kind ≠ .NEWLINE) (rest : List Token) :
    skipNl (tok :: rest) = tok :: rest := by
  simp [skipNl, h]

theorem headIs_nls {k : Kind} (hk : k ≠ .NEWLINE) (n : List String) {toks : List Token}
    (h : headIs k toks = false) : headIs k (nls n ++ toks) = false := by
  cases n with
  | nil => simpa using h
  | cons s n =>
    rw [nls_succ, List.cons_append]
    show decide ((⟨.NEWLINE, s⟩ : Token).kind = k) = false
    exact decide_eq_false (fun heq => hk heq.symm)

theorem firstOp_nls_cons (n : List String) {tok : Token} (h : infixFn tok.kind = none) (rest : List Token) :
    firstOp (nls n ++ tok :: rest) ≤ 1 := by
  cases n with
  | nil => exact Nat.le_of_eq (firstOp_cons_noInfix _ h)
  | cons s n =>
    rw [nls_succ, List.cons_append]
    exact Nat.le_of_eq (firstOp_cons_noInfix _ rfl)

/-! ### the first token of a rendering with newlines -/

theorem starts_renderNL : ∀ (e : Expr) (L : Layout) (q fl : Nat), Starts (renderNL L q fl e)
  | .int _, _, _, _ | .nil, _, _, _ | .str _, _, _, _ | .ident _, _, _, _ => ⟨_, [], by rw [renderNL], rfl⟩
  | .bool b, _, _, _ => by cases b <;> exact ⟨_, [], by rw [renderNL], rfl⟩
  | .infix _ l _, _, _, _ | .tern l _ _, _, _, _ | .isIn l _, _, _, _ | .notIn l _, _, _, _ => by
    rw [renderNL]; exact Starts.wrap fun fl' => by
      simp only [List.append_assoc]; exact (starts_renderNL l _ _ _).append _
  | .neg _, _, _, _ | .not _, _, _, _ => by rw [renderNL]; exact Starts.wrap fun _ => ⟨_, _, rfl, rfl⟩
  | .call l _, _, _, _ | .mcall l _ _, _, _, _ | .index l _, _, _, _ | .slice l _ _, _, _, _ => by
    rw [renderNL]; simp only [List.append_assoc]; exact (starts_renderNL l _ _ _).append _
  | .list items, L, _, _ => by rw [renderNL]; exact ⟨tk .LBRACKET, renderArgsNL L .RBRACKET items, rfl, rfl⟩

theorem headIs_renderNL (k : Kind) (hk : startKind k = false) (L : Layout) (q fl : Nat) (e : Expr)
    (more : List Token) : headIs k (renderNL L q fl e ++ more) = false :=
  headIs_of_starts ((starts_renderNL e L q fl).append more) hk

/-! ### single steps of the parser across newlines -/

/-- `parseGetAttr` with newlines between the `.` and the method name -/
theorem loop_mcallNL {f : Nat} {t : Bool} {p : Nat} {l : Expr} {name : String} {args : Args}
    {R rest' : List Token} (n : List String)
    (hp : p ≤ 13) (h : exprList f t .RPAREN R = some (args, rest')) :
    loop (f + 2) t p l (tk .PERIOD :: (nls n ++ ⟨.IDENT, name⟩ :: tk .LPAREN :: R))
      = loop (f + 1) t p (.mcall l name args) rest' := by
  have hk : prec (tk .PERIOD).kind = 15 := rfl
  have hi : infixFn (tk .PERIOD).kind = some .parseGetAttr := rfl
  have hp' : p < 15 := by omega
  have hc : headIs .LPAREN (tk .LPAREN :: R) = true := by simp [headIs, tk]
  have hs : skipNl (nls n ++ (⟨.IDENT, name⟩ : Token) :: tk .LPAREN :: R)
      = (⟨.IDENT, name⟩ : Token) :: tk .LPAREN :: R := by
    rw [skipNl_nls]; exact skipNl_cons_of_ne (by simp) _
  simp only [loop, hk, hp', if_true, hi, infixP, hs]
  simp [hc, h]

/-- `parseExprList`: newlines after the opening bracket, then the first item -/
theorem exprList_consNL {g : Nat} {t : Bool} {en : Kind} {e : Expr} {es : Args}
    {R R' rest : List Token} (n : List String) (hen : en ≠ .NEWLINE)
    (hh : headIs en R = false) (hs : Starts R)
    (h : parseNode g t 1 R = some (e, R')) (ht : listTail g t en R' = some (es, rest)) :
    exprList (g + 1) t en (nls n ++ R) = some (.cons e es, rest) := by
  have h1 : headIs en (nls n ++ R) = false := headIs_nls hen n hh
  have h2 : skipNl (nls n ++ R) = R := skipNl_nls_starts n hs
  simp only [exprList, h1, h2, Level.num, h, ht]
  simp

/-- `parseExprList`: `,` newlines item -/
theorem listTail_consNL {g : Nat} {t : Bool} {en : Kind} {e : Expr} {es : Args}
    {R R' rest : List Token} (n : List String)
    (hh : headIs en R = false) (hs : Starts R)
    (h : parseNode g t 1 R = some (e, R')) (ht : listTail g t en R' = some (es, rest)) :
    listTail (g + 1) t en (tk .COMMA :: (nls n ++ R)) = some (.cons e es, rest) := by
  have hc : headIs .COMMA (tk .COMMA :: (nls n ++ R)) = true := by simp [headIs, tk]
  have h2 : skipNl (nls n ++ R) = R := skipNl_nls_starts n hs
  simp only [listTail, hc, List.tail_cons, h2, hh, Level.num, h, ht]
  simp

/-- `parseExprList`: newlines before the closing bracket -/
theorem listTail_nilNL (g : Nat) (t : Bool) (en : Kind) (n : List String) (rest : List Token)
    (h1 : en ≠ .COMMA) (h2 : en ≠ .NEWLINE) :
    listTail (g + 1) t en (nls n ++ tk en :: rest) = some (.nil, rest) := by
  have hc : headIs .COMMA (nls n ++ tk en :: rest) = false :=
    headIs_nls (by decide) n
      (by show decide ((tk en).kind = Kind.COMMA) = false; exact decide_eq_false h1)
  have hs : skipNl (nls n ++ tk en :: rest) = tk en :: rest := by
    rw [skipNl_nls]; exact skipNl_cons_of_ne h2 _
  have he : headIs en (tk en :: rest) = true := by simp [headIs, tk]
  simp only [listTail, hc, hs, he, List.tail_cons]
  simp

/-- `parseExprList`: trailing comma, newlines, closing bracket -/
theorem listTail_nil_commaNL (g : Nat) (t : Bool) (en : Kind) (n : List String) (rest : List Token)
    (h2 : en ≠ .NEWLINE) :
    listTail (g + 1) t en (tk .COMMA :: (nls n ++ tk en :: rest)) = some (.nil, rest) := by
  have hc : headIs .COMMA (tk .COMMA :: (nls n ++ tk en :: rest)) = true := by simp [headIs, tk]
  have hs : skipNl (nls n ++ tk en :: rest) = tk en :: rest := by
    rw [skipNl_nls]; exact skipNl_cons_of_ne h2 _
  have he : headIs en (tk en :: rest) = true := by simp [headIs, tk]
  simp only [listTail, hc, List.tail_cons, hs, he]
  simp

/-! ### the invariants, for every layout -/

/-- `Inv` of the round trip, for the rendering under every layout -/
def InvNL (e : Expr) : Prop :=
  ∀ (L : Layout) (t : Bool) (q fl p : Nat) (rest : List Token),
    okT t e = true → p ≤ q → p ≤ 13 → firstOp rest ≤ fl →
    Cont t p (renderNL L q fl e ++ rest) e rest

def InvTailNL (a : Args) : Prop :=
  ∀ (L : Layout) (t : Bool) (en : Kind) (rest : List Token), okTArgs t a = true → Closer en →
    ∃ N, ∀ F, N ≤ F → listTail F t en (renderTailNL L en a ++ rest) = some (a, rest)

def InvArgsNL (a : Args) : Prop :=
  ∀ (L : Layout) (t : Bool) (en : Kind) (rest : List Token), okTArgs t a = true → Closer en →
    ∃ N, ∀ F, N ≤ F → exprList F t en (renderArgsNL L en a ++ rest) = some (a, rest)

def InvOptNL : Opt → Prop
  | .none => True
  | .some e => InvNL e

/-- what holds at every fuel `g + 1` with `N ≤ g` holds from the fuel `N + 1` on -/
theorem fuel_succ {P : Nat → Prop} (N : Nat) (h : ∀ g, N ≤ g → P (g + 1)) : ∃ M, ∀ f, M ≤ f → P f :=
  ⟨N + 1, fun f hf => by
    obtain ⟨g, rfl⟩ : ∃ g, f = g + 1 := ⟨f - 1, by omega⟩
    exact h g (by omega)⟩

theorem InvNL.doneLowest {e : Expr} (h : InvNL e) (L : Layout) {t : Bool} (hok : okT t e = true)
    {rest : List Token} (hr : firstOp rest ≤ 1) :
    Done t 1 (renderNL L 1 1 e ++ rest) e rest :=
  (h L t 1 1 1 rest hok (Nat.le_refl _) (by omega) hr).done hr

theorem invNL_atom {e : Expr} {tok : Token} (hr : ∀ L q fl, renderNL L q fl e = [tok])
    (hp : ∀ g t rest, prefixP (g + 1) t (tok :: rest) = some (e, rest)) : InvNL e := by
  intro L t q fl p rest _ _ _ _
  rw [hr]
  refine Cont.ofPrefix (fuel_succ 0 fun g _ => ?_)
  exact hp g t rest

theorem invNL_int (n : Nat) : InvNL (.int n) :=
  invNL_atom (fun _ _ _ => by rw [renderNL]) (fun g t rest => prefixP_int g t n rest)
theorem invNL_bool (b : Bool) : InvNL (.bool b) :=
  invNL_atom (fun _ _ _ => by rw [renderNL]) (fun g t rest => prefixP_bool g t b rest)
theorem invNL_nil : InvNL .nil :=
  invNL_atom (fun _ _ _ => by rw [renderNL]) (fun g t rest => prefixP_nil g t rest)
theorem invNL_str (s : String) : InvNL (.str s) :=
  invNL_atom (fun _ _ _ => by rw [renderNL]) (fun g t rest => prefixP_str g t s rest)
theorem invNL_ident (x : String) : InvNL (.ident x) :=
  invNL_atom (fun _ _ _ => by rw [renderNL]) (fun g t rest => prefixP_ident g t x rest)

/-- a binary operator: any number of newlines after the operator token -/
theorem invNL_infix (op : BinOp) (l r : Expr) (ihl : InvNL l) (ihr : InvNL r) :
    InvNL (.infix op l r) := by
  intro L t q fl p rest hok hpq hp hrest
  rw [renderNL]
  have hge := prec_opKind_ge op
  have hle := prec_opKind_le op
  refine inv_of_wrap (K := prec (opKind op)) (S := prec (opKind op)) (by omega) (by omega) ?_
    t q fl p rest hok hpq hp hrest
  intro t p' fl' rest' hok hp' hp13 hfl hrest'
  obtain ⟨hokl, hokr⟩ := okT_infix hok
  obtain ⟨Nr, hr⟩ := (ihr (L.drop (gaps l + 1)) t (prec (opKind op)) fl' (prec (opKind op)) rest' hokr
    (Nat.le_refl _) (by omega) hrest').done (by omega)
  have hL := ihl L t (prec (opKind op) - 1) (prec (opKind op)) p'
    (tk (opKind op) :: (nls (L.nl (gaps l)) ++
      (renderNL (L.drop (gaps l + 1)) (prec (opKind op)) fl' r ++ rest'))) hokl (by omega) hp13
    (Nat.le_of_eq (firstOp_cons_infix _ (infixFn_opKind op)))
  simp only [List.append_assoc, List.cons_append, List.nil_append]
  refine hL.step (fuel_succ Nr fun g hg => ?_)
  refine loop_infix hp' ?_
  rw [skipNl_nls_starts _ ((starts_renderNL r _ _ _).append _)]
  exact hr g hg

/-- a prefix operator `k` before its operand (`-e`, `!e`): `big` is the operator applied to `e` -/
theorem invNL_prefixOp {e big : Expr} {k : Kind} (ih : InvNL e)
    (hr : ∀ L q fl, renderNL L q fl big =
      wrap (decide (q < 13) && decide (fl ≤ 13)) fl fun fl' => [tk k] ++ renderNL L 13 fl' e)
    (hok : ∀ {t}, okT t big = true → okT t e = true)
    (hstep : ∀ {g t inner rest}, parseNode g t 13 inner = some (e, rest) →
      prefixP (g + 1) t (tk k :: inner) = some (big, rest)) : InvNL big := by
  intro L t q fl p rest hok' hpq hp hrest
  rw [hr]
  refine inv_of_wrap (K := 13) (S := 13) (by omega) (by omega) ?_ t q fl p rest hok' hpq hp hrest
  intro t p' fl' rest' hok' hp' hp13 hfl hrest'
  obtain ⟨N, h⟩ := (ih L t 13 fl' 13 rest' (hok hok') (Nat.le_refl _) (Nat.le_refl _) hrest').done
    (by omega)
  refine Cont.ofPrefix (fuel_succ N fun g hg => ?_)
  simp only [List.cons_append, List.nil_append]
  exact hstep (h g hg)

theorem invNL_neg (e : Expr) (ih : InvNL e) : InvNL (.neg e) :=
  invNL_prefixOp ih (fun _ _ _ => by rw [renderNL]; rfl) okT_neg prefixP_neg

theorem invNL_not (e : Expr) (ih : InvNL e) : InvNL (.not e) :=
  invNL_prefixOp ih (fun _ _ _ => by rw [renderNL]; rfl) okT_not prefixP_not

theorem invNL_tern (c a b : Expr) (ihc : InvNL c) (iha : InvNL a) (ihb : InvNL b) :
    InvNL (.tern c a b) := by
  intro L t q fl p rest hok hpq hp hrest
  rw [renderNL]
  simp only [Level.num]
  refine inv_of_wrap (K := 6) (S := 1) (by omega) (by omega) ?_ t q fl p rest hok hpq hp hrest
  intro t p' fl' rest' hok hp' hp13 hfl hrest'
  obtain ⟨rfl, hokc, hoka, hokb⟩ := okT_tern hok
  obtain ⟨Nb, hb⟩ := (ihb (L.drop (gaps c + gaps a)) true 6 fl' 1 rest' hokb (by omega) (by omega)
    hrest').done (by omega)
  have hcol : firstOp (tk .COLON :: (renderNL (L.drop (gaps c + gaps a)) 6 fl' b ++ rest')) ≤ 1 :=
    Nat.le_of_eq (firstOp_cons_noInfix _ rfl)
  obtain ⟨Na, ha⟩ := (iha (L.drop (gaps c)) true 6 1 1
    (tk .COLON :: (renderNL (L.drop (gaps c + gaps a)) 6 fl' b ++ rest')) hoka (by omega)
    (by omega) hcol).done hcol
  have hq : firstOp (tk .QUESTION :: (renderNL (L.drop (gaps c)) 6 1 a ++
      tk .COLON :: (renderNL (L.drop (gaps c + gaps a)) 6 fl' b ++ rest'))) ≤ 6 :=
    Nat.le_of_eq (firstOp_cons_infix (fn := .parseTernary) _ rfl)
  have hL := ihc L false 6 6 p' _ hokc (by omega) hp13 hq
  simp only [List.append_assoc, List.cons_append, List.nil_append]
  refine hL.step (fuel_succ (Na + Nb) fun g hg => ?_)
  exact loop_tern hp' (ha g (by omega)) (hb g (by omega))

/-- `x in c` and `x not in c`: `ops` is the operator's token list, `big` the tree -/
theorem invNL_inOp {x c big : Expr} {ops : List Token} (ihx : InvNL x) (ihc : InvNL c)
    (hr : ∀ L q fl, renderNL L q fl big =
      wrap (decide (q < 13) && decide (fl ≤ 13)) fl fun fl' =>
        renderNL L 13 13 x ++ ops ++ renderNL (L.drop (gaps x)) 13 fl' c)
    (hok : ∀ {t}, okT t big = true → okT t x = true ∧ okT t c = true)
    (hq : ∀ R, firstOp (ops ++ R) ≤ 13)
    (hstep : ∀ {f t p R rest'}, p < 13 → parseNode f t 13 R = some (c, rest') →
      loop (f + 2) t p x (ops ++ R) = loop (f + 1) t p big rest') : InvNL big := by
  intro L t q fl p rest hok' hpq hp hrest
  rw [hr]
  refine inv_of_wrap (K := 13) (S := 13) (by omega) (by omega) ?_ t q fl p rest hok' hpq hp hrest
  intro t p' fl' rest' hok' hp' hp13 hfl hrest'
  obtain ⟨hokx, hokc⟩ := hok hok'
  obtain ⟨N, h⟩ := (ihc (L.drop (gaps x)) t 13 fl' 13 rest' hokc (Nat.le_refl _) (Nat.le_refl _)
    hrest').done (by omega)
  have hL := ihx L t 13 13 p' _ hokx (by omega) hp13 (hq (renderNL (L.drop (gaps x)) 13 fl' c ++ rest'))
  rw [List.append_assoc, List.append_assoc]
  refine hL.step (fuel_succ N fun g hg => ?_)
  exact hstep hp' (h g hg)

theorem invNL_isIn (x c : Expr) (ihx : InvNL x) (ihc : InvNL c) : InvNL (.isIn x c) :=
  invNL_inOp (ops := [tk .IN]) ihx ihc (fun _ _ _ => by rw [renderNL]; rfl) okT_isIn
    (fun _ => Nat.le_of_eq (firstOp_cons_infix (fn := .parseIn) _ rfl)) loop_in

theorem invNL_notIn (x c : Expr) (ihx : InvNL x) (ihc : InvNL c) : InvNL (.notIn x c) :=
  invNL_inOp (ops := [tk .NOT, tk .IN]) ihx ihc (fun _ _ _ => by rw [renderNL]; rfl) okT_notIn
    (fun _ => Nat.le_of_eq (firstOp_cons_infix (fn := .parseNotIn) _ rfl)) loop_notin

theorem invNL_call (f : Expr) (args : Args) (ihf : InvNL f) (iha : InvArgsNL args) :
    InvNL (.call f args) := by
  intro L t q fl p rest hok hpq hp hrest
  rw [renderNL]
  simp only [Level.num]
  obtain ⟨hokf, hoka⟩ := okT_call hok
  obtain ⟨N, h⟩ := iha (L.drop (gaps f)) t .RPAREN rest hoka closer_rparen
  have hq : firstOp (tk .LPAREN :: (renderArgsNL (L.drop (gaps f)) .RPAREN args ++ rest)) ≤ 14 :=
    Nat.le_of_eq (firstOp_cons_infix (fn := .parseCall) _ rfl)
  have hL := ihf L t 13 14 p _ hokf hp hp hq
  simp only [List.append_assoc, List.cons_append, List.nil_append]
  refine hL.step (fuel_succ N fun g hg => ?_)
  exact loop_call hp (h g hg)

/-- a method call: any number of newlines after the `.` -/
theorem invNL_mcall (o : Expr) (name : String) (args : Args) (iho : InvNL o) (iha : InvArgsNL args) :
    InvNL (.mcall o name args) := by
  intro L t q fl p rest hok hpq hp hrest
  rw [renderNL]
  simp only [Level.num]
  obtain ⟨hoko, hoka⟩ := okT_mcall hok
  obtain ⟨N, h⟩ := iha (L.drop (gaps o + 1)) t .RPAREN rest hoka closer_rparen
  have hq : firstOp (tk .PERIOD :: (nls (L.nl (gaps o)) ++ ⟨.IDENT, name⟩ :: tk .LPAREN ::
      (renderArgsNL (L.drop (gaps o + 1)) .RPAREN args ++ rest))) ≤ 15 :=
    Nat.le_of_eq (firstOp_cons_infix (fn := .parseGetAttr) _ rfl)
  have hL := iho L t 14 15 p _ hoko (by omega) hp hq
  simp only [List.append_assoc, List.cons_append, List.nil_append]
  refine hL.step (fuel_succ N fun g hg => ?_)
  exact loop_mcallNL _ hp (h g hg)

theorem invNL_index (e i : Expr) (ihe : InvNL e) (ihi : InvNL i) : InvNL (.index e i) := by
  intro L t q fl p rest hok hpq hp hrest
  rw [renderNL]
  simp only [Level.num]
  obtain ⟨hoke, hoki⟩ := okT_index hok
  have hrb : firstOp (tk .RBRACKET :: rest) ≤ 1 := Nat.le_of_eq (firstOp_cons_noInfix _ rfl)
  obtain ⟨N, h⟩ := ihi.doneLowest (L.drop (gaps e)) hoki hrb
  have hq : firstOp (tk .LBRACKET :: (renderNL (L.drop (gaps e)) 1 1 i ++ tk .RBRACKET :: rest)) ≤ 15 :=
    Nat.le_of_eq (firstOp_cons_infix (fn := .parseIndex) _ rfl)
  have hL := ihe L t 14 15 p _ hoke (by omega) hp hq
  simp only [List.append_assoc, List.cons_append, List.nil_append]
  refine hL.step (fuel_succ N fun g hg => ?_)
  exact loop_index hp (headIs_renderNL _ rfl _ _ _ _ _) (h g hg)

theorem sliceTail_renderNL (l : Expr) (lo hi : Opt) (ih : InvOptNL hi) (L : Layout) (t : Bool)
    (hok : okTOpt t hi = true) (rest : List Token) :
    ∃ N, ∀ F, N ≤ F → sliceTail F t l lo (renderOptNL L hi ++ tk .RBRACKET :: rest)
      = some (.slice l lo hi, rest) := by
  cases hi with
  | none =>
    refine fuel_succ 0 fun g _ => ?_
    rw [renderOptNL]
    exact sliceTail_none g t l lo rest
  | some e =>
    have hrb : firstOp (tk .RBRACKET :: rest) ≤ 1 := Nat.le_of_eq (firstOp_cons_noInfix _ rfl)
    obtain ⟨N, h⟩ := InvNL.doneLowest (e := e) ih L (okTOpt_some hok) hrb
    refine fuel_succ N fun g hg => ?_
    rw [renderOptNL]
    simp only [Level.num]
    exact sliceTail_some (headIs_renderNL _ rfl _ _ _ _ _) (h g hg)

theorem invNL_slice (e : Expr) (lo hi : Opt) (ihe : InvNL e) (ihlo : InvOptNL lo) (ihhi : InvOptNL hi) :
    InvNL (.slice e lo hi) := by
  intro L t q fl p rest hok hpq hp hrest
  rw [renderNL]
  simp only [Level.num]
  obtain ⟨hoke, hoklo, hokhi⟩ := okT_slice hok
  obtain ⟨Nt, ht⟩ := sliceTail_renderNL e lo hi ihhi (L.drop (gaps e + gapsOpt lo)) t hokhi rest
  have hq : ∀ R, firstOp (tk .LBRACKET :: R) ≤ 15 := fun R =>
    Nat.le_of_eq (firstOp_cons_infix (fn := .parseIndex) _ rfl)
  have hL := ihe L t 14 15 p
    (tk .LBRACKET :: (renderOptNL (L.drop (gaps e)) lo ++ tk .COLON ::
      (renderOptNL (L.drop (gaps e + gapsOpt lo)) hi ++ tk .RBRACKET :: rest)))
    hoke (by omega) hp (hq _)
  simp only [List.append_assoc, List.cons_append, List.nil_append]
  refine hL.step ?_
  cases lo with
  | none =>
    refine fuel_succ Nt fun g hg => ?_
    simp only [renderOptNL, List.nil_append]
    exact loop_slice_nolo hp (ht g hg)
  | some x =>
    have hcol : firstOp (tk .COLON :: (renderOptNL (L.drop (gaps e + gapsOpt (.some x))) hi ++
        tk .RBRACKET :: rest)) ≤ 1 :=
      Nat.le_of_eq (firstOp_cons_noInfix _ rfl)
    obtain ⟨N, h⟩ := InvNL.doneLowest (e := x) ihlo (L.drop (gaps e)) (okTOpt_some hoklo) hcol
    refine fuel_succ (N + Nt) fun g hg => ?_
    simp only [renderOptNL, Level.num]
    exact loop_slice_lo hp (headIs_renderNL _ rfl _ _ _ _ _) (h g (by omega)) (ht g (by omega))

/-- the closing part of a non-empty list: optional trailing comma, any number of newlines -/
theorem invTailNL_nil : InvTailNL .nil := by
  intro L t en rest _ hc
  refine fuel_succ 0 fun g _ => ?_
  rw [renderTailNL]
  cases hcm : L.comma 0
  · simp only [Bool.false_eq_true, if_false, List.nil_append, List.append_assoc, List.cons_append]
    exact listTail_nilNL g t en _ rest hc.2.1 hc.2.2.1
  · simp only [if_true, List.nil_append, List.append_assoc, List.cons_append]
    exact listTail_nil_commaNL g t en _ rest hc.2.2.1

/-- whatever follows an item does not continue the item's expression -/
theorem firstOp_tailNL (L : Layout) (es : Args) (en : Kind) (hc : Closer en) (rest : List Token) :
    firstOp (renderTailNL L en es ++ rest) ≤ 1 := by
  cases es with
  | nil =>
    rw [renderTailNL]
    cases hcm : L.comma 0
    · simp only [Bool.false_eq_true, if_false, List.nil_append, List.append_assoc, List.cons_append]
      exact firstOp_nls_cons _ hc.2.2.2 _
    · simp only [if_true, List.nil_append, List.append_assoc, List.cons_append]
      exact Nat.le_of_eq (firstOp_cons_noInfix _ rfl)
  | cons e es =>
    rw [renderTailNL]
    simp only [List.append_assoc, List.cons_append, List.nil_append]
    exact Nat.le_of_eq (firstOp_cons_noInfix _ rfl)

theorem invTailNL_cons (e : Expr) (es : Args) (ihe : InvNL e) (ihes : InvTailNL es) :
    InvTailNL (.cons e es) := by
  intro L t en rest hok hc
  obtain ⟨hoke, hokes⟩ := okTArgs_cons hok
  obtain ⟨Nt, ht⟩ := ihes (L.drop (1 + gaps e)) t en rest hokes hc
  obtain ⟨N, h⟩ := InvNL.doneLowest (e := e) ihe (L.drop 1) hoke
    (firstOp_tailNL (L.drop (1 + gaps e)) es en hc rest)
  refine fuel_succ (N + Nt) fun g hg => ?_
  rw [renderTailNL]
  simp only [Level.num, List.append_assoc, List.cons_append, List.nil_append]
  exact listTail_consNL _ (headIs_renderNL _ hc.1 _ _ _ _ _) ((starts_renderNL e _ _ _).append _)
    (h g (by omega)) (ht g (by omega))

theorem invArgsNL_nil : InvArgsNL .nil := by
  intro L t en rest _ hc
  refine fuel_succ 0 fun g _ => ?_
  rw [renderArgsNL]
  exact exprList_nil g t en rest

theorem invArgsNL_cons (e : Expr) (es : Args) (ihe : InvNL e) (ihes : InvTailNL es) :
    InvArgsNL (.cons e es) := by
  intro L t en rest hok hc
  obtain ⟨hoke, hokes⟩ := okTArgs_cons hok
  obtain ⟨Nt, ht⟩ := ihes (L.drop (1 + gaps e)) t en rest hokes hc
  obtain ⟨N, h⟩ := InvNL.doneLowest (e := e) ihe (L.drop 1) hoke
    (firstOp_tailNL (L.drop (1 + gaps e)) es en hc rest)
  refine fuel_succ (N + Nt) fun g hg => ?_
  rw [renderArgsNL]
  simp only [Level.num, List.append_assoc]
  exact exprList_consNL _ hc.2.2.1 (headIs_renderNL _ hc.1 _ _ _ _ _)
    ((starts_renderNL e _ _ _).append _) (h g (by omega)) (ht g (by omega))

theorem invNL_list (items : Args) (ih : InvArgsNL items) : InvNL (.list items) := by
  intro L t q fl p rest hok hpq hp hrest
  rw [renderNL]
  obtain ⟨N, h⟩ := ih L t .RBRACKET rest (okT_list hok) closer_rbracket
  refine Cont.ofPrefix (fuel_succ N fun g hg => ?_)
  simp only [List.cons_append, List.nil_append]
  exact prefixP_list (h g hg)

/-! ### assembling the mutual induction -/

mutual
theorem invNL_all : ∀ e : Expr, InvNL e
  | .int n => invNL_int n
  | .bool b => invNL_bool b
  | .nil => invNL_nil
  | .str s => invNL_str s
  | .ident x => invNL_ident x
  | .infix op l r => invNL_infix op l r (invNL_all l) (invNL_all r)
  | .neg e => invNL_neg e (invNL_all e)
  | .not e => invNL_not e (invNL_all e)
  | .tern c a b => invNL_tern c a b (invNL_all c) (invNL_all a) (invNL_all b)
  | .isIn x c => invNL_isIn x c (invNL_all x) (invNL_all c)
  | .notIn x c => invNL_notIn x c (invNL_all x) (invNL_all c)
  | .call f args => invNL_call f args (invNL_all f) (invArgsNL_all args)
  | .mcall o name args => invNL_mcall o name args (invNL_all o) (invArgsNL_all args)
  | .index e i => invNL_index e i (invNL_all e) (invNL_all i)
  | .slice e lo hi => invNL_slice e lo hi (invNL_all e) (invOptNL_all lo) (invOptNL_all hi)
  | .list items => invNL_list items (invArgsNL_all items)
theorem invArgsNL_all : ∀ a : Args, InvArgsNL a
  | .nil => invArgsNL_nil
  | .cons e es => invArgsNL_cons e es (invNL_all e) (invTailNL_all es)
theorem invTailNL_all : ∀ a : Args, InvTailNL a
  | .nil => invTailNL_nil
  | .cons e es => invTailNL_cons e es (invNL_all e) (invTailNL_all es)
theorem invOptNL_all : ∀ o : Opt, InvOptNL o
  | .none => trivial
  | .some e => invNL_all e
end

/-! erasing the NEWLINE tokens of a rendering without trailing commas gives the one-line rendering -/

theorem stripNl_nil : stripNl [] = [] := rfl

theorem stripNl_append (a b : List Token) : stripNl (a ++ b) = stripNl a ++ stripNl b := by
  simp [stripNl]

theorem stripNl_nls (n : List String) : stripNl (nls n) = [] := by
  induction n with
  | nil => rfl
  | cons s n ih => rw [nls_succ]; simpa [stripNl] using ih

theorem stripNl_cons (tok : Token) (r : List Token) :
    stripNl (tok :: r) = if tok.kind = .NEWLINE then stripNl r else tok :: stripNl r := by
  by_cases h : tok.kind = .NEWLINE <;> simp [stripNl, h]

theorem opKind_ne_newline (op : BinOp) : opKind op ≠ .NEWLINE := by
  cases op <;> decide

theorem stripNl_wrap (ok : Bool) (fl : Nat) (g : Nat → List Token) :
    stripNl (wrap ok fl g) = wrap ok fl fun fl' => stripNl (g fl') := by
  unfold Pratt.wrap
  split
  · rfl
  · rw [stripNl_append, stripNl_append]; rfl

/-- `stripNl` is pushed through a rendering token by token: it commutes with `++` and `wrap`, erases
    the runs `nls _` and keeps every other token -/
macro "strip_tokens" "[" ts:Lean.Parser.Tactic.simpLemma,* "]" : tactic => `(tactic|
  simp only [renderNL, renderArgsNL, renderTailNL, renderOptNL, render, renderArgs, renderTail, renderOpt,
    stripNl_wrap, stripNl_append, stripNl_nls, stripNl_cons, stripNl_nil, tk_kind, reduceCtorEq, if_false, if_true, List.append_nil, List.nil_append, List.append_assoc, List.cons_append, $ts,*])

mutual
theorem stripNl_renderNL : ∀ (e : Expr) (L : Layout) (q fl : Nat), L.noComma →
    stripNl (renderNL L q fl e) = render q fl e
  | .int _, _, _, _, _ | .nil, _, _, _, _ | .str _, _, _, _, _ | .ident _, _, _, _, _ => by strip_tokens []
  | .bool b, _, _, _, _ => by cases b <;> strip_tokens []
  | .infix op l r, L, _, _, hL => by
    strip_tokens [opKind_ne_newline op, stripNl_renderNL l L _ _ hL, stripNl_renderNL r _ _ _ (noComma_drop hL _)]
  | .neg e, L, _, _, hL | .not e, L, _, _, hL => by strip_tokens [stripNl_renderNL e L _ _ hL]
  | .tern c a b, L, _, _, hL => by
    strip_tokens [stripNl_renderNL c L _ _ hL, stripNl_renderNL a _ _ _ (noComma_drop hL _),
      stripNl_renderNL b _ _ _ (noComma_drop hL _)]
  | .isIn x c, L, _, _, hL | .notIn x c, L, _, _, hL | .index x c, L, _, _, hL => by
    strip_tokens [stripNl_renderNL x L _ _ hL, stripNl_renderNL c _ _ _ (noComma_drop hL _)]
  | .call f args, L, _, _, hL | .mcall f _ args, L, _, _, hL => by
    strip_tokens [stripNl_renderNL f L _ _ hL, stripNl_renderArgsNL args _ .RPAREN (by decide) (noComma_drop hL _)]
  | .slice e lo hi, L, _, _, hL => by
    strip_tokens [stripNl_renderNL e L _ _ hL, stripNl_renderOptNL lo _ (noComma_drop hL _),
      stripNl_renderOptNL hi _ (noComma_drop hL _)]
  | .list items, L, _, _, hL => by strip_tokens [stripNl_renderArgsNL items L .RBRACKET (by decide) hL]
theorem stripNl_renderArgsNL : ∀ (a : Args) (L : Layout) (en : Kind), en ≠ .NEWLINE → L.noComma →
    stripNl (renderArgsNL L en a) = renderArgs a ++ [tk en]
  | .nil, _, en, hen, _ => by strip_tokens [hen]
  | .cons e es, L, en, hen, hL => by
    strip_tokens [stripNl_renderNL e _ _ _ (noComma_drop hL _), stripNl_renderTailNL es _ en hen (noComma_drop hL _)]
theorem stripNl_renderTailNL : ∀ (a : Args) (L : Layout) (en : Kind), en ≠ .NEWLINE → L.noComma →
    stripNl (renderTailNL L en a) = renderTail a ++ [tk en]
  | .nil, L, en, hen, hL => by strip_tokens [hL 0, hen, Bool.false_eq_true, if_false]
  | .cons e es, L, en, hen, hL => by
    strip_tokens [stripNl_renderNL e _ _ _ (noComma_drop hL _), stripNl_renderTailNL es _ en hen (noComma_drop hL _)]
theorem stripNl_renderOptNL : ∀ (o : Opt) (L : Layout), L.noComma →
    stripNl (renderOptNL L o) = renderOpt o
  | .none, _, _ => by strip_tokens []
  | .some e, L, hL => by strip_tokens [stripNl_renderNL e L _ _ hL]
end

/-! ### where a newline is NOT skipped: the parser meets it as the start of an operand, or as the
    token that should have been a closing bracket / colon / comma -/

/-- a NEWLINE token never starts an expression (`parseNewline` returns no node) -/
theorem prefixP_newline (f : Nat) (t : Bool) (rest : List Token) :
    prefixP f t (tk .NEWLINE :: rest) = none := by
  cases f with
  | zero => rfl
  | succ f =>
    have h1 : prefixFn (tk .NEWLINE).kind = some .parseNewline := rfl
    have h2 : isPostfix (tk .NEWLINE).kind = false := rfl
    simp [prefixP, h1, h2]

theorem parseNode_newline (f : Nat) (t : Bool) (p : Nat) (rest : List Token) :
    parseNode f t p (tk .NEWLINE :: rest) = none := by
  cases f with
  | zero => rfl
  | succ f => simp [parseNode, prefixP_newline]

/-- a closing bracket does not start an expression either -/
theorem parseNode_closer (f : Nat) (t : Bool) (p : Nat) (k : Kind) (rest : List Token)
    (h1 : prefixFn k = none) (h2 : isPostfix k = false) :
    parseNode f t p (tk k :: rest) = none := by
  have h1' : prefixFn (tk k).kind = none := h1
  have h2' : isPostfix (tk k).kind = false := h2
  cases f with
  | zero => rfl
  | succ f =>
    cases f with
    | zero => simp [parseNode, prefixP]
    | succ f => simp [parseNode, prefixP, h1', h2']

/-- an identifier followed by a NEWLINE is, for every fuel, either not parsed yet or parsed as
    the identifier alone, the NEWLINE left in the input -/
theorem parseNode_ident_newline (f : Nat) (t : Bool) (p : Nat) (x : String) (R : List Token)
    (hp : 1 ≤ p) :
    parseNode f t p (⟨.IDENT, x⟩ :: tk .NEWLINE :: R) = none ∨
    parseNode f t p (⟨.IDENT, x⟩ :: tk .NEWLINE :: R) = some (.ident x, tk .NEWLINE :: R) := by
  cases f with
  | zero => exact Or.inl rfl
  | succ f =>
    cases f with
    | zero => left; simp [parseNode, prefixP]
    | succ f =>
      right
      rw [parseNode, prefixP_ident]
      exact loop_stop f t p _ _ (Nat.le_trans (Nat.le_of_eq (firstOp_cons_noInfix _ rfl)) hp)

/-- a parse that fails at the infix step fails as a whole, from some fuel on -/
theorem cont_fail {t : Bool} {p : Nat} {toks : List Token} {l : Expr} {R : List Token}
    (hl : Cont t p toks l R) (hfail : ∀ f, loop f t p l R = none) :
    ∃ N, ∀ F, N ≤ F → parseNode F t p toks = none := by
  obtain ⟨n, m, h⟩ := hl
  refine ⟨m + n, fun F hF => ?_⟩
  obtain ⟨g, rfl⟩ : ∃ g, F = g + n := ⟨F - n, by omega⟩
  rw [h g (by omega)]
  exact hfail g

/-- if the infix function of the next token fails for every fuel, so does the loop -/
theorem loop_none_of_infixP {t : Bool} {p : Nat} {l : Expr} {tok : Token} {R : List Token} {fn : InfixFn}
    (hp : p < prec tok.kind) (hi : infixFn tok.kind = some fn)
    (h : ∀ g, infixP g t fn l tok R = none) (f : Nat) : loop f t p l (tok :: R) = none := by
  cases f with
  | zero => rfl
  | succ f => simp [loop, hp, hi, h f]

/-- `c ? NEWLINE …`: the true branch cannot start with a newline -/
theorem loop_question_newline_fails (f p : Nat) (l : Expr) (R : List Token) (hp : p < 6) :
    loop f false p l (tk .QUESTION :: tk .NEWLINE :: R) = none :=
  loop_none_of_infixP (fn := .parseTernary) hp rfl
    (fun g => by cases g <;> simp [infixP, parseNode_newline]) f

/-- `x in NEWLINE …` -/
theorem loop_in_newline_fails (f : Nat) (t : Bool) (p : Nat) (l : Expr) (R : List Token) (hp : p < 13) :
    loop f t p l (tk .IN :: tk .NEWLINE :: R) = none :=
  loop_none_of_infixP (fn := .parseIn) hp rfl
    (fun g => by cases g <;> simp [infixP, parseNode_newline]) f

/-- `e[ NEWLINE …` -/
theorem loop_index_newline_fails (f : Nat) (t : Bool) (p : Nat) (l : Expr) (R : List Token) (hp : p < 15) :
    loop f t p l (tk .LBRACKET :: tk .NEWLINE :: R) = none := by
  have hc : headIs .COLON (tk .NEWLINE :: R) = false := rfl
  exact loop_none_of_infixP (fn := .parseIndex) hp rfl
    (fun g => by cases g <;> simp [infixP, hc, parseNode_newline]) f

/-- `e[: NEWLINE …` -/
theorem loop_slice_colon_newline_fails (f : Nat) (t : Bool) (p : Nat) (l : Expr) (R : List Token)
    (hp : p < 15) : loop f t p l (tk .LBRACKET :: tk .COLON :: tk .NEWLINE :: R) = none := by
  have hc : headIs .COLON (tk .COLON :: tk .NEWLINE :: R) = true := rfl
  have hb : headIs .RBRACKET (tk .NEWLINE :: R) = false := rfl
  exact loop_none_of_infixP (fn := .parseIndex) hp rfl
    (fun g => by rcases g with _ | _ | g <;> simp [infixP, sliceTail, hc, hb, parseNode_newline]) f

/-- `f( NEWLINE )`: `parseNodeList` looks for the closing bracket before it skips newlines -/
theorem loop_call_newline_empty_fails (f : Nat) (t : Bool) (p : Nat) (l : Expr) (R : List Token)
    (hp : p < 14) : loop f t p l (tk .LPAREN :: tk .NEWLINE :: tk .RPAREN :: R) = none := by
  have hc : headIs .RPAREN (tk .NEWLINE :: tk .RPAREN :: R) = false := rfl
  have hs : skipNl (tk .NEWLINE :: tk .RPAREN :: R) = tk .RPAREN :: R := rfl
  exact loop_none_of_infixP (fn := .parseCall) hp rfl
    (fun g => by
      rcases g with _ | _ | g <;>
        simp [infixP, exprList, hc, hs, parseNode_closer _ _ _ .RPAREN _ rfl rfl]) f

/-- the side condition on continuations, as in C01's PrattProps: "no infix function on the first
    token" is "continues with precedence LOWEST" -/
theorem stopsExpr_iff_firstOp (rest : List Token) : stopsExpr rest = true ↔ firstOp rest ≤ 1 := by
  cases rest with
  | nil => simp [stopsExpr, firstOp, Level.num]
  | cons tok ts =>
    cases h : infixFn tok.kind with
    | none => simp [stopsExpr, firstOp, h, Level.num]
    | some fn =>
      have h2 : 2 ≤ prec tok.kind := prec_ge_two_of_infix _ (by simp [h])
      simp [stopsExpr, firstOp, h]
      omega

/-- if the prefix step fails for every fuel, so does `parseNode` -/
theorem parseNode_none_of_prefixP {t : Bool} {toks : List Token} (h : ∀ g, prefixP g t toks = none)
    (f p : Nat) : parseNode f t p toks = none := by
  cases f with
  | zero => rfl
  | succ f => simp [parseNode, h f]

/-- an atom followed by an infix step that always fails -/
theorem parseNode_ident_then_none {t : Bool} {p : Nat} {x : String} {R : List Token}
    (h : ∀ f, loop f t p (.ident x) R = none) (f : Nat) :
    parseNode f t p (⟨.IDENT, x⟩ :: R) = none := by
  cases f with
  | zero => rfl
  | succ f =>
    cases f with
    | zero => simp [parseNode, prefixP]
    | succ f => simp [parseNode, prefixP_ident, h]

/-- `( e NEWLINE …`: `parseGroupedExpr` expects `)` right after the expression -/
theorem prefixP_group_newline_fails {f : Nat} {t : Bool} {R rest' : List Token} {e : Expr}
    (h : parseNode f t 1 R = none ∨ parseNode f t 1 R = some (e, tk .NEWLINE :: rest')) :
    prefixP (f + 1) t (tk .LPAREN :: R) = none := by
  have h1 : prefixFn (tk .LPAREN).kind = some .parseGroupedExpr := rfl
  have h2 : isPostfix (tk .LPAREN).kind = false := rfl
  have hh : headIs .RPAREN (tk .NEWLINE :: rest') = false := by simp [headIs, tk]
  rcases h with h | h
  · simp only [prefixP, h1, h2, Level.num, h]
    simp
  · simp only [prefixP, h1, h2, Level.num, h, hh]
    simp

/-- `l[ i NEWLINE …`: `parseIndex` expects `]` or `:` right after the index -/
theorem infixP_index_newline_fails {f : Nat} {t : Bool} {l i : Expr} {tok : Token} {R rest' : List Token}
    (hc : headIs .COLON R = false)
    (h : parseNode f t 1 R = none ∨ parseNode f t 1 R = some (i, tk .NEWLINE :: rest')) :
    infixP (f + 1) t .parseIndex l tok R = none := by
  have hb : headIs .RBRACKET (tk .NEWLINE :: rest') = false := by simp [headIs, tk]
  have hb' : headIs .COLON (tk .NEWLINE :: rest') = false := by simp [headIs, tk]
  rcases h with h | h
  · simp only [infixP, hc, Level.num, h]
    simp
  · simp only [infixP, hc, Level.num, h, hb, hb']
    simp

/-- `NEWLINE , …` after an item: neither a comma nor (after skipping the newlines) the closing
    bracket -/
theorem listTail_newline_comma_fails (f : Nat) (t : Bool) (en : Kind) (rest : List Token)
    (hen : en ≠ .COMMA) : listTail f t en (tk .NEWLINE :: tk .COMMA :: rest) = none := by
  cases f with
  | zero => rfl
  | succ f =>
    have hne : ¬ Kind.COMMA = en := fun h => hen h.symm
    simp [listTail, headIs, skipNl, tk, hne]

/-- `[ item NEWLINE , …` -/
theorem exprList_item_newline_comma_fails {f : Nat} {t : Bool} {en : Kind} {e : Expr} {R rest' : List Token}
    (hen : en ≠ .COMMA) (hh : headIs en R = false) (hs : skipNl R = R)
    (h : parseNode f t 1 R = none ∨ parseNode f t 1 R = some (e, tk .NEWLINE :: tk .COMMA :: rest')) :
    exprList (f + 1) t en R = none := by
  rcases h with h | h
  · simp [exprList, hh, hs, Level.num, h]
  · simp [exprList, hh, hs, Level.num, h, listTail_newline_comma_fails f t en rest' hen]

/-! ### every gap index below `gaps e` is used exactly once: counting the NEWLINE tokens -/

theorem sumTo_split (a b : Nat) (L : Layout) :
    sumTo (a + b) L.count = sumTo a L.count + sumTo b (L.drop a).count := by
  induction b with
  | zero => rfl
  | succ b ih =>
    show sumTo (a + b) L.count + L.count (a + b)
      = sumTo a L.count + (sumTo b (L.drop a).count + L.count (a + b))
    omega

theorem sumTo_one (f : Nat → Nat) : sumTo 1 f = f 0 := by simp [sumTo]

theorem drop_nl_zero (L : Layout) (k : Nat) : (L.drop k).count 0 = L.count k := by
  simp [Layout.drop, Layout.count]

theorem countNl_nil : countNl [] = 0 := rfl

theorem countNl_append (a b : List Token) : countNl (a ++ b) = countNl a + countNl b := by
  simp [countNl]

theorem countNl_nls (L : Layout) (i : Nat) : countNl (nls (L.nl i)) = L.count i := by
  show countNl (nls (L.nl i)) = (L.nl i).length
  induction L.nl i with
  | nil => rfl
  | cons s n ih => rw [nls_succ]; simpa [countNl] using ih

theorem countNl_cons (tok : Token) (r : List Token) :
    countNl (tok :: r) = if tok.kind = .NEWLINE then countNl r + 1 else countNl r := by
  by_cases h : tok.kind = .NEWLINE <;> simp [countNl, h]

/-- the parentheses that `wrap` may add are no newlines -/
theorem countNl_wrap (ok : Bool) (fl : Nat) (g : Nat → List Token) :
    countNl (wrap ok fl g) = countNl (g (if ok then fl else Level.LOWEST.num)) := by
  cases ok
  · show countNl ([tk .LPAREN] ++ g Level.LOWEST.num ++ [tk .RPAREN]) = countNl (g Level.LOWEST.num)
    rw [countNl_append, countNl_append]
    exact Nat.zero_add _
  · rfl

/-- `countNl` is pushed through a rendering token by token, and the sum over the gaps of a tree is split
    into the sums over the gaps of its parts -/
macro "count_tokens" "[" ts:Lean.Parser.Tactic.simpLemma,* "]" : tactic => `(tactic|
  simp only [renderNL, renderArgsNL, renderTailNL, renderOptNL, gaps, gapsArgs, gapsTail, gapsOpt,
    countNl_wrap, countNl_append, countNl_nls, countNl_cons, countNl_nil, tk_kind, reduceCtorEq, if_false, if_true,
    sumTo_split, sumTo_one, drop_nl_zero, $ts,*])

mutual
theorem countNl_renderNL : ∀ (e : Expr) (L : Layout) (q fl : Nat),
    countNl (renderNL L q fl e) = sumTo (gaps e) L.count
  | .int _, _, _, _ | .nil, _, _, _ | .str _, _, _, _ | .ident _, _, _, _ => by count_tokens []; rfl
  | .bool b, _, _, _ => by cases b <;> count_tokens [] <;> rfl
  | .infix op l r, _, _, _ => by
    count_tokens [opKind_ne_newline op, countNl_renderNL l, countNl_renderNL r]; omega
  | .neg e, _, _, _ | .not e, _, _, _ => by count_tokens [countNl_renderNL e]; omega
  | .tern c a b, _, _, _ => by
    count_tokens [countNl_renderNL c, countNl_renderNL a, countNl_renderNL b]; omega
  | .isIn x c, _, _, _ | .notIn x c, _, _, _ | .index x c, _, _, _ => by
    count_tokens [countNl_renderNL x, countNl_renderNL c]; omega
  | .call f args, _, _, _ | .mcall f _ args, _, _, _ => by
    count_tokens [countNl_renderNL f, countNl_renderArgsNL args _ .RPAREN (by decide)]; omega
  | .slice e lo hi, _, _, _ => by
    count_tokens [countNl_renderNL e, countNl_renderOptNL lo, countNl_renderOptNL hi]; omega
  | .list items, L, _, _ => by count_tokens [countNl_renderArgsNL items L .RBRACKET (by decide)]; omega
theorem countNl_renderArgsNL : ∀ (a : Args) (L : Layout) (en : Kind), en ≠ .NEWLINE →
    countNl (renderArgsNL L en a) = sumTo (gapsArgs a) L.count
  | .nil, _, en, hen => by count_tokens [hen]; rfl
  | .cons e es, L, en, hen => by
    count_tokens [countNl_renderNL e, countNl_renderTailNL es _ en hen]
theorem countNl_renderTailNL : ∀ (a : Args) (L : Layout) (en : Kind), en ≠ .NEWLINE →
    countNl (renderTailNL L en a) = sumTo (gapsTail a) L.count
  | .nil, L, en, hen => by
    cases h : L.comma 0
    · count_tokens [h, hen, Bool.false_eq_true]; omega
    · count_tokens [h, hen]; omega
  | .cons e es, L, en, hen => by
    count_tokens [countNl_renderNL e, countNl_renderTailNL es _ en hen]; omega
theorem countNl_renderOptNL : ∀ (o : Opt) (L : Layout),
    countNl (renderOptNL L o) = sumTo (gapsOpt o) L.count
  | .none, _ => by count_tokens []; rfl
  | .some e, L => by count_tokens [countNl_renderNL e]
end

/-! ### the flat layout is the one-line printer -/

theorem stripNl_of_countNl_zero {l : List Token} (h : countNl l = 0) : stripNl l = l := by
  have h0 : l.filter (fun t => t.kind == .NEWLINE) = [] := List.eq_nil_of_length_eq_zero h
  refine List.filter_eq_self.2 fun t ht => ?_
  simpa [bne] using List.filter_eq_nil_iff.1 h0 t ht

theorem sumTo_flat : ∀ n, sumTo n Layout.flat.count = 0
  | 0 => rfl
  | n + 1 => sumTo_flat n

/-- the flat layout puts no newline anywhere, so erasing the newlines changes nothing -/
theorem renderNL_flat (e : Expr) (q fl : Nat) : renderNL Layout.flat q fl e = render q fl e := by
  rw [← stripNl_renderNL e Layout.flat q fl noComma_flat]
  exact (stripNl_of_countNl_zero (by rw [countNl_renderNL, sumTo_flat])).symm

theorem renderTailNL_flat : ∀ (a : Args) (en : Kind),
    renderTailNL Layout.flat en a = renderTail a ++ [tk en]
  | .nil, en => by
    rw [renderTailNL, renderTail]
    simp only [flat_comma, Bool.false_eq_true, if_false, flat_nl, nls_zero, List.nil_append]
  | .cons e es, en => by
    rw [renderTailNL, renderTail]
    simp only [flat_drop, flat_nl, nls_zero, List.append_nil, renderNL_flat e, renderTailNL_flat es,
      List.append_assoc]

theorem renderArgsNL_flat : ∀ (a : Args) (en : Kind),
    renderArgsNL Layout.flat en a = renderArgs a ++ [tk en]
  | .nil, en => by rw [renderArgsNL, renderArgs]; rfl
  | .cons e es, en => by
    rw [renderArgsNL, renderArgs]
    simp only [flat_drop, flat_nl, nls_zero, List.nil_append, renderNL_flat e, renderTailNL_flat es,
      List.append_assoc]

theorem renderOptNL_flat : ∀ (o : Opt), renderOptNL Layout.flat o = renderOpt o
  | .none => by rw [renderOptNL, renderOpt]
  | .some e => by rw [renderOptNL, renderOpt, renderNL_flat e]

/-- a single newline in gap `i` and nowhere else -/
def Layout.single (i : Nat) : Layout := ⟨fun j => if j = i then ["\n"] else [], fun _ => false⟩

theorem single_count (i n : Nat) : (Layout.single i).count n = if n = i then 1 else 0 := by
  show (if n = i then ["\n"] else []).length = _
  split <;> rfl

theorem sumTo_single (n i : Nat) : sumTo n (Layout.single i).count = if i < n then 1 else 0 := by
  induction n with
  | zero => rfl
  | succ n ih =>
    show sumTo n (Layout.single i).count + (Layout.single i).count n = _
    rw [ih, single_count]
    repeat' split
    all_goals omega

end Risor.C20.NL
