import RisorModel.C20.Model
/-! Helper lemmas for C20: how `run` depends on its offset arguments, how far it looks,
    what the machine does on blanks, inside comments and on identifiers, and positions. -/
namespace Risor.C20

theorem finish_seen (r : Step) (i st : Nat) : (finish r i st).seen = i + 1 := by
  cases r with
  | more s m => rfl
  | emit k l m f => cases m <;> rfl
  | failT k l c m => cases m <;> rfl
  | fail c => rfl

theorem finish_out (r : Step) (i st : Nat) : (finish r i st).out = (finish r 0 0).out := by
  cases r with
  | more s m => rfl
  | emit k l m f => cases m <;> rfl
  | failT k l c m => cases m <;> rfl
  | fail c => rfl

theorem finish_next (r : Step) (i st : Nat) : (finish r i st).next = i + (finish r 0 0).next := by
  cases r with
  | more s m => rfl
  | emit k l m f => cases m <;> simp [finish]
  | failT k l c m => cases m <;> simp [finish]
  | fail c => rfl

theorem run_nil (s : St) (i st : Nat) : run s [] i st = finish (stepChar s 0) i st := by
  simp [run]

theorem run_cons_more {s s' : St} {c : Nat} {m : Bool} (cs : Chars) (i st : Nat)
    (h : stepChar s c = .more s' m) :
    run s (c :: cs) i st = run s' cs (i + 1) (if m then i else st) := by
  simp [run, h]

/-- the token and the resume offset do not depend on where the call began -/
theorem run_shift : ∀ (l : Chars) (s : St) (i st : Nat),
    (run s l i st).out = (run s l 0 0).out ∧ (run s l i st).next = i + (run s l 0 0).next
  | [], s, i, st => by
    rw [run_nil, run_nil]; exact ⟨finish_out _ _ _, finish_next _ _ _⟩
  | c :: cs, s, i, st => by
    cases h : stepChar s c with
    | more s' m =>
      rw [run_cons_more cs i st h, run_cons_more cs 0 0 h]
      have h1 := run_shift cs s' (i + 1) (if m then i else st)
      have h2 := run_shift cs s' (0 + 1) (if m then 0 else 0)
      constructor
      · rw [h1.1, h2.1]
      · rw [h1.2, h2.2]; omega
    | emit k l md f =>
      simp only [run, h]; exact ⟨finish_out _ _ _, finish_next _ _ _⟩
    | failT k l c' md =>
      simp only [run, h]; exact ⟨finish_out _ _ _, finish_next _ _ _⟩
    | fail c' =>
      simp only [run, h]; exact ⟨finish_out _ _ _, finish_next _ _ _⟩

/-- `run` always looks at one rune at least -/
theorem run_seen_gt : ∀ (l : Chars) (s : St) (i st : Nat), i < (run s l i st).seen
  | [], s, i, st => by rw [run_nil, finish_seen]; omega
  | c :: cs, s, i, st => by
    cases h : stepChar s c with
    | more s' m =>
      rw [run_cons_more cs i st h]
      have := run_seen_gt cs s' (i + 1) (if m then i else st)
      omega
    | emit k l md f => simp only [run, h, finish_seen]; omega
    | failT k l c' md => simp only [run, h, finish_seen]; omega
    | fail c' => simp only [run, h, finish_seen]; omega

/-- **locality**: one call of `Next` depends only on the runes it looked at -/
theorem run_local : ∀ (a : Chars) (s : St) (i st : Nat) (x y : Chars),
    (run s (a ++ x) i st).seen ≤ i + a.length → run s (a ++ y) i st = run s (a ++ x) i st
  | [], s, i, st, x, y => by
    intro h
    have := run_seen_gt ([] ++ x) s i st
    simp only [List.length_nil, Nat.add_zero] at h
    omega
  | c :: a, s, i, st, x, y => by
    intro h
    cases hs : stepChar s c with
    | more s' m =>
      simp only [List.cons_append] at h ⊢
      rw [run_cons_more _ i st hs] at h ⊢
      rw [run_cons_more _ i st hs]
      apply run_local a s' (i + 1) _ x y
      simp only [List.length_cons] at h
      omega
    | emit k l md f => simp only [List.cons_append, run, hs]
    | failT k l c' md => simp only [List.cons_append, run, hs]
    | fail c' => simp only [List.cons_append, run, hs]

theorem drop_add_append {α : Type} : ∀ (ws rest : List α) (n : Nat),
    (ws ++ rest).drop (ws.length + n) = rest.drop n
  | [], rest, n => by simp
  | a :: t, rest, n => by
    have := drop_add_append t rest n
    simp only [List.cons_append, List.length_cons]
    rw [show t.length + 1 + n = (t.length + n) + 1 by omega, List.drop_succ_cons]
    exact this

def allBlank (ws : Chars) : Prop := ∀ c ∈ ws, isBlank c = true

instance (ws : Chars) : Decidable (allBlank ws) :=
  inferInstanceAs (Decidable (∀ c ∈ ws, isBlank c = true))

theorem allBlank_of_all {ws : Chars} (h : ws.all isBlank = true) : allBlank ws :=
  fun c hc => (List.all_eq_true.1 h) c hc

theorem allBlank_nil : allBlank [] := fun _ h => nomatch h

theorem allBlank_cons {b : Nat} {ws : Chars} (hb : isBlank b = true) (h : allBlank ws) : allBlank (b :: ws) :=
  fun c hc => (List.mem_cons.1 hc).elim (fun e => e ▸ hb) (h c)

theorem allBlank_append {a b : Chars} (ha : allBlank a) (hb : allBlank b) : allBlank (a ++ b) :=
  fun c hc => (List.mem_append.1 hc).elim (ha c) (hb c)

/-- a family of states that, on every rune of a class, appends `g c` to what it has collected:
    the machine runs through a whole run of such runes -/
theorem run_collect (S : List Nat → St) (g : Nat → List Nat) (p : Nat → Prop)
    (hstep : ∀ acc c, p c → stepChar (S acc) c = .more (S (acc ++ g c)) false) :
    ∀ (cs : Chars) (acc : List Nat) (tail : Chars) (i st : Nat), (∀ c ∈ cs, p c) →
      run (S acc) (cs ++ tail) i st = run (S (acc ++ cs.flatMap g)) tail (i + cs.length) st
  | [], acc, tail, i, st, _ => by simp
  | c :: cs, acc, tail, i, st, h => by
    rw [List.cons_append, run_cons_more _ i st (hstep acc c (h c (by simp))),
      run_collect S g p hstep cs _ tail _ _ (fun d hd => h d (by simp [hd]))]
    simp only [List.flatMap_cons, List.append_assoc, List.length_cons, Bool.false_eq_true, ↓reduceIte]
    congr 1
    omega

theorem step_start_blank (ab : Bool) (c : Nat) (h : isBlank c = true) :
    stepChar (.start ab) c = .more (.start ab) false := by
  simp [stepChar, h]

theorem run_start_blanks (ab : Bool) (ws rest : Chars) (i st : Nat) (h : allBlank ws) :
    run (.start ab) (ws ++ rest) i st = run (.start ab) rest (i + ws.length) st :=
  run_collect (fun _ => .start ab) (fun _ => []) (isBlank · = true) (fun _ c => step_start_blank ab c)
    ws [] rest i st h

theorem scan_out (l : Chars) (prev : String) :
    (scan l prev).out = fixOut prev (run (.start false) l 0 0).out := rfl

theorem scan_next (l : Chars) (prev : String) :
    (scan l prev).next = (run (.start false) l 0 0).next := rfl

theorem scan_seen (l : Chars) (prev : String) :
    (scan l prev).seen = (run (.start false) l 0 0).seen := rfl

theorem scan_blanks (ws rest : Chars) (prev : String) (h : allBlank ws) :
    (scan (ws ++ rest) prev).out = (scan rest prev).out ∧
    (scan (ws ++ rest) prev).next = ws.length + (scan rest prev).next := by
  rw [scan_out, scan_next, scan_out, scan_next, run_start_blanks false ws rest 0 0 h]
  have := run_shift rest (.start false) (0 + ws.length) 0
  rw [this.1, this.2]
  simp

/-- one unfolding of the token loop -/
theorem lexKL_succ (f : Nat) (rest : Chars) (prev : String) :
    lexKL (f + 1) rest prev =
      match (scan rest prev).out with
      | .tok k l => if k == "EOF" then [.tok k l] else .tok k l :: lexKL f (rest.drop (scan rest prev).next) k
      | o => [o] := rfl

/-- if two inputs give the same token and the same remaining input, the streams agree -/
theorem lexKL_congr (f : Nat) (r1 r2 : Chars) (prev : String)
    (ho : (scan r1 prev).out = (scan r2 prev).out)
    (hd : r1.drop (scan r1 prev).next = r2.drop (scan r2 prev).next) :
    lexKL (f + 1) r1 prev = lexKL (f + 1) r2 prev := by
  rw [lexKL_succ, lexKL_succ, ho, hd]

/-! ### comments -/

theorem run_congr_step {s1 s2 : St} : ∀ (l : Chars) (i st : Nat),
    (∀ c, stepChar s1 c = stepChar s2 c) → run s1 l i st = run s2 l i st
  | [], i, st, h => by rw [run_nil, run_nil, h]
  | c :: cs, i, st, h => by simp only [run, h]

theorem run_block_body : ∀ (body : Chars) (star : Bool) (tail : Chars) (i st : Nat),
    closesIn star body = false → (∀ c ∈ body, c ≠ 0) →
    ∃ star', run (.block star) (body ++ tail) i st = run (.block star') tail (i + body.length) st
  | [], star, tail, i, st, _, _ => ⟨star, by simp⟩
  | c :: cs, star, tail, i, st, h, h0 => by
    simp only [closesIn, Bool.or_eq_false_iff] at h
    have hc : c ≠ 0 := h0 c (by simp)
    have hstep : stepChar (.block star) c = .more (.block (c == 42)) false := by
      simp [stepChar, hc, h.1]
    obtain ⟨s', hs'⟩ := run_block_body cs (c == 42) tail (i + 1) st h.2 (fun d hd => h0 d (by simp [hd]))
    refine ⟨s', ?_⟩
    simp only [List.cons_append]
    rw [run_cons_more _ i st hstep]
    simp only [Bool.false_eq_true, ↓reduceIte]
    rw [hs']
    simp only [List.length_cons]
    congr 1
    omega

theorem run_line_body (body tail : Chars) (i st : Nat) (h : ∀ c ∈ body, c ≠ 10 ∧ c ≠ 0) :
    run .lineComment (body ++ tail) i st = run .lineComment tail (i + body.length) st :=
  run_collect (fun _ => .lineComment) (fun _ => []) (fun c => c ≠ 10 ∧ c ≠ 0)
    (fun _ c hc => by simp [stepChar, hc.1, hc.2]) body [] tail i st h

theorem finish_emit_fresh (k : String) (l : List Nat) (m : Mode) (f f' : Bool) (i st : Nat) :
    (finish (.emit k l m f) i st).out = (finish (.emit k l m f') 0 0).out ∧
    (finish (.emit k l m f) i st).next = i + (finish (.emit k l m f') 0 0).next := by
  cases m <;> simp [finish]

/-- two states that step to the same state on `c` (whatever they mark) give the same token -/
theorem run_cons_same {s₁ s₂ s' : St} {c : Nat} {m₁ m₂ : Bool} (cs : Chars) (i st : Nat)
    (h₁ : stepChar s₁ c = .more s' m₁) (h₂ : stepChar s₂ c = .more s' m₂) :
    (run s₁ (c :: cs) i st).out = (run s₂ (c :: cs) 0 0).out ∧
    (run s₁ (c :: cs) i st).next = i + (run s₂ (c :: cs) 0 0).next := by
  rw [run_cons_more _ i st h₁, run_cons_more _ 0 0 h₂]
  have s1 := run_shift cs s' (i + 1) (if m₁ then i else st)
  have s2 := run_shift cs s' (0 + 1) (if m₂ then 0 else 0)
  rw [s1.1, s1.2, s2.1, s2.2]
  exact ⟨rfl, by omega⟩

/-- after block comments the lexer behaves as at the start of a call: the same token, resuming
    at the same place (only the recorded token start differs) -/
theorem start_true_eq : ∀ (rest : Chars) (i st : Nat),
    (run (.start true) rest i st).out = (run (.start false) rest 0 0).out ∧
    (run (.start true) rest i st).next = i + (run (.start false) rest 0 0).next
  | [], i, st => by
    rw [run_nil, run_nil]
    have h1 : stepChar (.start true) 0 = .emit "EOF" [] .consume false := by decide
    have h2 : stepChar (.start false) 0 = .emit "EOF" [] .consume true := by decide
    rw [h1, h2]
    exact finish_emit_fresh _ _ _ _ _ _ _
  | c :: cs, i, st => by
    by_cases hb : isBlank c = true
    · rw [run_cons_more _ i st (step_start_blank true c hb), run_cons_more _ 0 0 (step_start_blank false c hb)]
      simp only [Bool.false_eq_true, ↓reduceIte]
      have ih := start_true_eq cs (i + 1) st
      have sh := run_shift cs (.start false) (0 + 1) 0
      rw [ih.1, ih.2, sh.1, sh.2]
      exact ⟨rfl, by omega⟩
    · have hb' : isBlank c = false := by simpa using hb
      by_cases h35 : c = 35
      · subst h35
        exact run_cons_same cs i st (s' := .lineComment) (m₁ := true) (m₂ := true) rfl rfl
      by_cases h47 : c = 47
      · subst h47
        exact run_cons_same cs i st (s' := .slash) (m₁ := false) (m₂ := true) rfl rfl
      · have hF : stepChar (.start false) c = dispatch c := by
          simp [stepChar, hb', h35, h47]
        have hT : stepChar (.start true) c = stripFresh (dispatch c) := by
          simp [stepChar, hb', h35, h47]
        cases hd : dispatch c with
        | more s m =>
          rw [hd] at hF hT
          exact run_cons_same cs i st hT hF
        | emit k l m f =>
          rw [hd] at hF hT
          simp only [stripFresh] at hT
          simp only [run, hF, hT]
          exact finish_emit_fresh _ _ _ _ _ _ _
        | failT k l c' m =>
          rw [hd] at hF hT
          simp only [stripFresh] at hT
          simp only [run, hF, hT]
          exact ⟨finish_out _ _ _, finish_next _ _ _⟩
        | fail c' =>
          rw [hd] at hF hT
          simp only [stripFresh] at hT
          simp only [run, hF, hT]
          exact ⟨finish_out _ _ _, finish_next _ _ _⟩

/-! ### one call of `Next` on a line comment: the whole result -/

theorem run_line_comment_nl (body rest : Chars) (i st : Nat) (hb : ∀ c ∈ body, c ≠ 10 ∧ c ≠ 0) :
    run .lineComment (body ++ 10 :: rest) i st =
      ⟨.tok "EOL" [10], i + body.length, i + body.length, i + body.length + 1, i + body.length + 1⟩ := by
  rw [run_line_body body (10 :: rest) i st hb]
  simp only [run, show stepChar .lineComment 10 = .emit "EOL" [10] .consume true by decide]
  rfl

theorem scan_hash_comment (body rest : Chars) (prev : String) (hb : ∀ c ∈ body, c ≠ 10 ∧ c ≠ 0) :
    scan (35 :: body ++ 10 :: rest) prev =
      ⟨.tok "EOL" [10], body.length + 1, body.length + 1, body.length + 2, body.length + 2⟩ := by
  unfold scan
  have e : 35 :: body ++ 10 :: rest = 35 :: (body ++ 10 :: rest) := by simp
  rw [e, run_cons_more _ 0 0 (by decide : stepChar (.start false) 35 = .more .lineComment true)]
  rw [run_line_comment_nl body rest _ _ hb]
  simp only [fixOut]
  congr 1 <;> omega

theorem scan_slash_comment (body rest : Chars) (prev : String) (hb : ∀ c ∈ body, c ≠ 10 ∧ c ≠ 0) :
    scan ([47, 47] ++ body ++ 10 :: rest) prev =
      ⟨.tok "EOL" [10], body.length + 2, body.length + 2, body.length + 3, body.length + 3⟩ := by
  unfold scan
  have e : [47, 47] ++ body ++ 10 :: rest = 47 :: 47 :: (body ++ 10 :: rest) := by simp
  rw [e, run_cons_more _ 0 0 (by decide : stepChar (.start false) 47 = .more .slash true)]
  rw [run_cons_more _ _ _ (by decide : stepChar .slash 47 = .more .lineComment false)]
  rw [run_line_comment_nl body rest _ _ hb]
  simp only [fixOut]
  congr 1 <;> omega

theorem scan_newline (rest : Chars) (prev : String) :
    scan (10 :: rest) prev = ⟨.tok "EOL" [10], 0, 0, 1, 1⟩ := by
  unfold scan
  simp only [run, show stepChar (.start false) 10 = .emit "EOL" [10] .consume true by decide]
  rfl

/-! ### identifiers -/

theorem utf8_ascii {c : Nat} (h : ¬ c > 127) : utf8 c = [c] := by
  unfold utf8
  have : c < 0x80 := by omega
  simp [this]

/-- no operator begins with a letter, `_`, or a rune above 127 -/
theorem opTable_first : ∀ e ∈ opTable, e.1 ≤ 127 ∧ (isLetter e.1 || e.1 == 95) = false := by decide

/-- a rune from `:` on that begins no operator and is neither a backtick nor `~` falls through
    the whole `switch l.ch` to `readIdentifier`: it begins an identifier, or is refused -/
theorem step_start_word {c : Nat} (hop : ∀ e ∈ opTable, e.1 ≠ c) (h58 : 58 ≤ c) (h96 : c ≠ 96)
    (h126 : c ≠ 126) :
    stepChar (.start false) c =
      if identRune c then .more (.ident (utf8 c)) true else .fail "invalid-identifier" := by
  have h2 : hasTwo c = false := by
    simp only [hasTwo, List.any_eq_false, Bool.and_eq_true, not_and]
    intro e he h; exact absurd (beq_iff_eq.1 h) (hop e he)
  have h1 : lookup1 c = none := by
    simp only [lookup1, Option.map_eq_none_iff, List.find?_eq_none, Bool.and_eq_true, not_and]
    intro e he h; exact absurd (beq_iff_eq.1 h) (hop e he)
  have hb : isBlank c = false := by simp [isBlank]; omega
  have hd : isDigit c = false := by simp [isDigit]; omega
  simp only [stepChar, hb, dispatch, h2, h1, hd, identRune, Bool.false_eq_true, ↓reduceIte]
  rw [if_neg (by simp; omega), if_neg (by simp; omega), if_neg (by simpa using h126),
    if_neg (by simp; omega), if_neg (by simp; omega), if_neg (by simpa using h96),
    if_neg (by simp; omega), if_neg (by simp; omega)]
  by_cases hc : c > 127
  · simp only [hc, ↓reduceIte]
  · simp only [hc, ↓reduceIte, utf8_ascii hc]

/-- the runes of `step_start_word`: a letter, `_`, or any rune above 127 -/
theorem step_start_word' {c : Nat} (h : c > 127 ∨ (isLetter c || c == 95) = true) :
    stepChar (.start false) c =
      if identRune c then .more (.ident (utf8 c)) true else .fail "invalid-identifier" := by
  have hop : ∀ e ∈ opTable, e.1 ≠ c := by
    intro e he hc
    have := opTable_first e he
    rcases h with h | h
    · omega
    · rw [← hc, this.2] at h; cases h
  have hb : 58 ≤ c ∧ c ≠ 96 ∧ c ≠ 126 := by
    rcases h with h | h
    · omega
    · simp only [isLetter, Bool.or_eq_true, Bool.and_eq_true, decide_eq_true_eq, beq_iff_eq] at h; omega
  exact step_start_word hop hb.1 hb.2.1 hb.2.2

/-- the first rune of an identifier: an identifier rune (ASCII or not) that is not a digit -/
theorem step_start_ident {c : Nat} (h : identRune c = true) (hnd : isDigit c = false) :
    stepChar (.start false) c = .more (.ident (utf8 c)) true := by
  have hw : c > 127 ∨ (isLetter c || c == 95) = true := by
    by_cases hc : c > 127
    · exact Or.inl hc
    · simpa [identRune, hc, isIdent, hnd] using h
  rw [step_start_word' hw, h]
  rfl

/-- in the middle of an identifier every identifier rune, ASCII or not, is appended (as UTF-8) -/
theorem step_ident_rune (acc : Chars) {c : Nat} (h : identRune c = true) :
    stepChar (.ident acc) c = .more (.ident (acc ++ utf8 c)) false := by
  unfold identRune at h
  by_cases hc : c > 127
  · simp only [hc, ↓reduceIte] at h
    simp [stepChar, hc, h]
  · simp only [hc, ↓reduceIte] at h
    simp [stepChar, hc, h, utf8_ascii hc]

/-- an ASCII rune that is not an identifier rune (the end of input included) ends the identifier -/
theorem step_ident_end (acc : Chars) {d : Nat} (h1 : d ≤ 127) (h2 : isIdent d = false) :
    stepChar (.ident acc) d = .emit "IDENT?" acc .pushback false := by
  simp [stepChar, show ¬ d > 127 by omega, h2]

theorem run_ident_runes (cs acc tail : Chars) (i st : Nat) (h : ∀ c ∈ cs, identRune c = true) :
    run (.ident acc) (cs ++ tail) i st = run (.ident (acc ++ utf8s cs)) tail (i + cs.length) st :=
  run_collect .ident utf8 (identRune · = true) step_ident_rune cs acc tail i st h

/-- one call of `Next` on an identifier, up to the rune that ends it -/
theorem run_ident_start {c : Nat} {cs : Chars} (h1 : identRune c = true) (hnd : isDigit c = false)
    (h2 : ∀ x ∈ cs, identRune x = true) (tail : Chars) :
    run (.start false) (c :: cs ++ tail) 0 0 = run (.ident (utf8s (c :: cs))) tail (cs.length + 1) 0 := by
  rw [List.cons_append, run_cons_more _ 0 0 (step_start_ident h1 hnd), run_ident_runes cs _ tail _ _ h2]
  simp only [utf8s, List.flatMap_cons, ↓reduceIte]
  congr 1
  omega

/-! ### positions -/

/-- what a position means: `p` is the position of offset `a.length` in a text beginning with `a` -/
def PosInv (a : Chars) (p : Pos) : Prop :=
  p.char = a.length ∧ p.lineStart ≤ a.length ∧ p.col = a.length - p.lineStart ∧
  p.line = a.count 10 ∧
  (∀ j, p.lineStart ≤ j → j < a.length → a[j]? ≠ some 10) ∧
  (p.lineStart = 0 ∨ a[p.lineStart - 1]? = some 10)

theorem posInv_nil : PosInv [] ⟨0, 0, 0, 0⟩ := by
  refine ⟨rfl, Nat.le_refl _, rfl, rfl, ?_, Or.inl rfl⟩
  intro j _ h; simp at h

theorem posInv_advance : ∀ (cs a : Chars) (p : Pos), PosInv a p → PosInv (a ++ cs) (advance p cs)
  | [], a, p, h => by simpa [advance] using h
  | c :: cs, a, p, h => by
    obtain ⟨hc, hls, hcol, hline, hno, hst⟩ := h
    have e : a ++ c :: cs = (a ++ [c]) ++ cs := by simp
    rw [e]
    by_cases h10 : c = 10
    · subst h10
      have : advance p (10 :: cs) = advance ⟨p.char + 1, p.line + 1, 0, p.char + 1⟩ cs := by
        simp [advance]
      rw [this]
      apply posInv_advance cs (a ++ [10])
      refine ⟨by simp [hc], by simp [hc], by simp [hc], by simp [hline, List.count_append], ?_, ?_⟩
      · intro j h1 h2
        simp only [List.length_append, List.length_singleton] at h2
        simp only [hc] at h1
        omega
      · right
        simp only [hc, Nat.add_sub_cancel]
        rw [List.getElem?_append_right (Nat.le_refl _)]
        simp
    · have hne : (c == 10) = false := by simpa using h10
      have : advance p (c :: cs) = advance ⟨p.char + 1, p.line, p.col + 1, p.lineStart⟩ cs := by
        simp [advance, hne]
      rw [this]
      apply posInv_advance cs (a ++ [c])
      refine ⟨by simp [hc], by simp; omega, by simp [hcol]; omega, ?_, ?_, ?_⟩
      · simp [hline, List.count_append, List.count_singleton, hne]
      · intro j h1 h2
        simp only [List.length_append, List.length_singleton] at h2
        by_cases hj : j < a.length
        · rw [List.getElem?_append_left hj]; exact hno j h1 hj
        · have : j = a.length := by omega
          subst this
          rw [List.getElem?_append_right (Nat.le_refl _)]
          simp [h10]
      · rcases hst with h0 | h1
        · exact Or.inl h0
        · right
          by_cases hz : p.lineStart = 0
          · simp [hz] at h1 ⊢
            cases a with
            | nil => simp at h1
            | cons x t => simpa using h1
          · have hlt : p.lineStart - 1 < a.length := by omega
            show (a ++ [c])[p.lineStart - 1]? = some 10
            rw [List.getElem?_append_left hlt]; exact h1

theorem take_len_takeWhile {α : Type} (p : α → Bool) : ∀ l : List α,
    l.take (l.takeWhile p).length = l.takeWhile p
  | [] => rfl
  | x :: t => by
    by_cases h : p x = true
    · simp [h, take_len_takeWhile p t]
    · simp [h]

theorem lineBegin_eq (src : Chars) : ∀ (off ls : Nat), ls ≤ off → off ≤ src.length →
    (∀ j, ls ≤ j → j < off → src[j]? ≠ some 10) → (ls = 0 ∨ src[ls - 1]? = some 10) →
    lineBegin src off = ls
  | 0, ls, h, _, _, _ => by simp [lineBegin]; omega
  | s + 1, ls, h, hlen, hno, hst => by
    unfold lineBegin
    by_cases hl : ls = s + 1
    · subst hl
      rcases hst with h0 | h1
      · omega
      · simp only [Nat.add_sub_cancel] at h1
        have : (src.getD s 0 == 10) = true := by simp [List.getD_eq_getElem?_getD, h1]
        rw [this]
        simp
    · have hs : s < src.length := by omega
      have hne := hno s (by omega) (by omega)
      have hx : src[s]? = some src[s] := List.getElem?_eq_getElem hs
      have hv : src[s] ≠ 10 := by
        intro e; rw [hx, e] at hne; exact hne rfl
      have : (src.getD s 0 == 10) = false := by
        simp [List.getD_eq_getElem?_getD, hx, hv]
      simp only [this, Bool.false_eq_true, ↓reduceIte]
      exact lineBegin_eq src s ls (by omega) (by omega) (fun j h1 h2 => hno j h1 (by omega)) hst

/-- what `GetLineText` returns for a (non-EOF) token at offset `off` whose line starts at `ls`:
    the runes from `ls` up to `off`, followed by the runes from `off` up to the next newline -/
theorem getLineText_eq (src : Chars) (off ls : Nat) (h : ls ≤ off) (hlen : off ≤ src.length)
    (hno : ∀ j, ls ≤ j → j < off → src[j]? ≠ some 10) (hst : ls = 0 ∨ src[ls - 1]? = some 10) :
    getLineText src off false = (src.drop ls).take (off - ls) ++ (src.drop off).takeWhile (· != 10) := by
  unfold getLineText
  by_cases he : src.isEmpty = true
  · have : src = [] := by simpa using he
    subst this
    simp
  · simp only [he, Bool.false_eq_true, ↓reduceIte]
    rw [lineBegin_eq src off ls h hlen hno hst]
    have e1 : src.drop ls = (src.drop ls).take (off - ls) ++ src.drop off := by
      have := List.take_append_drop (off - ls) (src.drop ls)
      rw [List.drop_drop] at this
      rw [show ls + (off - ls) = off by omega] at this
      exact this.symm
    have hl : ((src.drop ls).take (off - ls)).length = off - ls := by
      simp [List.length_take, List.length_drop]; omega
    generalize htw : (src.drop off).takeWhile (· != 10) = tw
    have e2 : off + tw.length - ls = (off - ls) + tw.length := by omega
    rw [e2]
    conv => lhs; rw [e1]
    rw [List.take_append, hl]
    simp only [Nat.add_sub_cancel_left]
    rw [List.take_of_length_le (by rw [List.length_take]; omega)]
    rw [← htw, take_len_takeWhile]

end Risor.C20
