import RisorModel.Util
import RisorModel.C20.Model
import RisorModel.C01.PrattOracle
import RisorModel.C20.ParseNewline
import RisorModel.C20.Bridge
import RisorModel.C20.Stmt
/-! Line-protocol front end of the C20 model (requests after the leading `C20` field).

  lex  <src-utf8-hex>                      → ok TAB tok;tok;…   tok = kindhex,lithex,sChar,sLine,sCol,sLS,eChar,eLine,eCol,eLS
                                             (an error ends the stream: E,cls[,kindhex,lithex,positions…])
  diag <src-utf8-hex> <start> <end> <eof>  → quotedhex TAB line TAB col TAB endCol TAB renderOk TAB diagOk TAB singleLine TAB pad:carets
                                             (renderOk and pad:carets = the repaired FriendlyErrorMessage: its two Repeat counts,
                                              the caret count taken against the quoted line when the span leaves the line)
  kl   <src-utf8-hex>                      → kinds and literals only (layout comparisons)
  gap  <pre-hex> <cm-hex> <rest-hex>       the instance of GapProps.lean for the two texts  A = pre cm ⏎ rest  and  B = pre ⏎ rest
       cm: blanks (possibly none), any number of block comments, then a line comment (`#…` or `//…`), without newline
       → ok TAB guard TAB form TAB sameKL TAB shifted TAB nA TAB nB
       guard:   1 when the decidable guard of the applicable theorem holds: `cutsAt2 fuel pre (first rune of cm) 10 ""`
                (cm begins with `#` or `/`: lex_line_comment_at_line_end) or `cutsAt fuel pre b ""` (cm begins with the
                blank b: lex_line_comment_after_blanks)
       form:    1 when cm has the form the theorems speak about (blanks, proper block comments, a line comment whose
                text has no newline/NUL); `-` otherwise
       sameKL:  1 when `lexKL` of A equals `lexKL` of B (the theorems' conclusion)
       shifted: 1 when the positional streams agree as lexPos_line_comment / positions_after_line_comment say: the tokens
                of A and B are equal in number, kind and literal; a token of B that starts before |pre| has the same
                offsets, line, column and line start in A; the newline token lies |cm| runes further on, on the same line;
                a token of B behind the newline has in A the offsets and the line start |cm| larger, the same line and column
       nA, nB:  number of tokens of A and B
  parsenl <tokens> <tree|-> <nls|-> <commas|->
       tokens: the REAL lexer's tokens of one expression text with line breaks, `typehex:lithex`
               items joined by `,` (the encoding of `C01 pratt check`), without the final EOF
       tree:   the expression tree (S-expression of harness/gen.go) the text was printed from
       nls:    the layout: one item per permitted gap, left to right, joined by `.`; an item is `0`
               (no newline) or one letter per NEWLINE token, `n` = literal "\n", `r` = "\r\n"
       commas: one `0`/`1` per gap (trailing comma at a before-closing-bracket gap)
       → ok TAB parsed TAB roundtrip TAB render
       parsed:    canonical S-expression of what the Pratt model `parseExpr` returns on the tokens
                  when it consumes them all; `none` when it fails; `leftover` when tokens remain
       roundtrip: 1 when `parseExpr` returned exactly the tree, else 0 (`-` without tree)
       render:    `same` when `renderNLTop (Layout.ofLists nls commas) tree` (the object of
                  `parse_newline_invariant`) equals the token list, otherwise the hex of Lean's
                  rendering as text; `-` without tree or layout
  stmt <src-utf8-hex>                      → ok TAB <tree|none|lexerror> TAB ntokens: the statement-level parser model of Stmt.lean
                                             (`parseProgram` on `lexTokens src`; tree in the harness's S-expression format, showStmt)
  bridge <src-utf8-hex> <tree|-> <gaps|->
       the lexer/parser bridge of Bridge.lean (theorems: BridgeProps.lean)
       src:   a source text (the harness's own rendering of the tree)
       tree:  the expression tree (S-expression of harness/gen.go) or `-`
       gaps:  `-`, or items joined by `,`: `b<hex>` = blanks, `c<hex>.<hex>.<hex>[.<hex>.<hex>…]` = blanks, then
              one (comment body, blanks) pair per block comment (hex of the runes as UTF-8; `-` = empty)
       → ok TAB tokens TAB renderSrc TAB flags TAB layoutSrc TAB gapsOk
       tokens:    `toTokens (lexOuts src)` — the ADAPTER applied to the lexer model's output — as
                  `typehex:lithex` items joined by `,` (the encoding harness/c01parse.go uses for the
                  REAL lexer's tokens, EOF dropped); `E` when the lexer model reports an error
       renderSrc: hex (UTF-8) of `renderSrc tree`; `-` without tree
       flags:     `exprOK,unnested,lex,parse` (0/1 each): lex = `lexTokens (renderSrc tree) = some (renderTop tree)`,
                  parse = the parser model returns the tree on those tokens; `-` without tree
       layoutSrc: hex of `spellWith (renderTop tree) gaps`; `-` without tree or gaps
       gapsOk:    1 when every gap satisfies `Gap.ok`, else 0; `-` without gaps
       → unsupported … when the tree cannot be read or is outside the core (the lexer model classifies every rune:
         no text is answered so)
-/
namespace Risor.C20
open Risor.Util

/-- strict UTF-8 decoding of a byte list into code points -/
def decodeUtf8 : Nat → List Nat → Option Chars
  | 0, _ => some []
  | _, [] => some []
  | f + 1, b :: bs =>
    if b < 0x80 then (decodeUtf8 f bs).map (b :: ·)
    else if 0xC0 ≤ b && b < 0xE0 then
      match bs with
      | b1 :: r => (decodeUtf8 f r).map (((b - 0xC0) * 64 + (b1 - 0x80)) :: ·)
      | _ => none
    else if 0xE0 ≤ b && b < 0xF0 then
      match bs with
      | b1 :: b2 :: r => (decodeUtf8 f r).map (((b - 0xE0) * 4096 + (b1 - 0x80) * 64 + (b2 - 0x80)) :: ·)
      | _ => none
    else if 0xF0 ≤ b && b < 0xF8 then
      match bs with
      | b1 :: b2 :: b3 :: r =>
        (decodeUtf8 f r).map (((b - 0xF0) * 262144 + (b1 - 0x80) * 4096 + (b2 - 0x80) * 64 + (b3 - 0x80)) :: ·)
      | _ => none
    else none

def srcOf (h : String) : Option Chars :=
  match fromHex h with
  | some bs => decodeUtf8 (bs.length + 1) bs
  | none => none

def showPos (p : Pos) : String :=
  toString p.char ++ "," ++ toString p.line ++ "," ++ toString p.col ++ "," ++ toString p.lineStart

def kindHex (k : String) : String := toHexField (strBytes k)

def showTok (src : Chars) (t : PTok) : String :=
  match t.out with
  | .tok k l => kindHex k ++ "," ++ toHexField l ++ "," ++ showPos (posAt src t.start) ++ "," ++ showPos (posAt src t.stop)
  | .errT k l c => "E," ++ c ++ "," ++ kindHex k ++ "," ++ toHexField l ++ "," ++ showPos (posAt src t.start) ++ "," ++ showPos (posAt src t.stop)
  | .err c => "E," ++ c

def showKL : Out → String
  | .tok k l => kindHex k ++ "," ++ toHexField l
  | .errT k l c => "E," ++ c ++ "," ++ kindHex k ++ "," ++ toHexField l
  | .err c => "E," ++ c

/-- kept for the protocol: the lexer model classifies every rune (non-ASCII runes by the tables of
    Go's package `unicode`), no text is outside it any more -/
def unsupported (ts : List PTok) : Bool :=
  ts.any fun t => match t.out with
    | .err "unsupported" => true
    | _ => false

/-! ### `gap` -/

/-- split `cm` into leading blanks and the rest -/
def splitBlanks : Chars → Chars × Chars
  | [] => ([], [])
  | c :: cs => if isBlank c then let (a, b) := splitBlanks cs; (c :: a, b) else ([], c :: cs)

/-- does `cm` consist of blanks, proper block comments (blanks after each) and a final line comment
    without newline/NUL — the shape of `lex_line_comment_after_blanks` / `lex_line_comment_at_line_end` -/
def gapFormOk : Nat → Chars → Bool
  | 0, _ => false
  | f + 1, cm =>
    match (splitBlanks cm).2 with
    | 35 :: body => body.all fun c => c != 10 && c != 0
    | 47 :: 47 :: body => body.all fun c => c != 10 && c != 0
    | 47 :: 42 :: r =>
      -- up to the first `*/`
      let rec close : Nat → Chars → Option Chars
        | 0, _ => none
        | _, [] => none
        | _, [_] => none
        | g + 1, a :: b :: t => if a == 42 && b == 47 then some t else if a == 0 then none else close g (b :: t)
      match close (r.length + 1) r with
      | some t => gapFormOk f t
      | none => false
    | _ => false

def posEqShift (n : Nat) (a b : Pos) : Bool := a == b.shift n

/-- the positional comparison of `gap` -/
def shiftedOk (A B : Chars) (preLen n : Nat) : Bool :=
  let ta := lexAll A
  let tb := lexAll B
  ta.length == tb.length &&
  (ta.zip tb).all fun (x, y) =>
    x.out == y.out &&
    (if y.start < preLen then
       posAt A x.start == posAt B y.start &&
       (if y.stop < preLen then posAt A x.stop == posAt B y.stop else true)
     else if y.start == preLen then
       -- the newline itself: `n` runes further on, on the same line
       x.start == y.start + n && x.stop == y.stop + n && (posAt A x.start).line == (posAt B y.start).line
     else
       posEqShift n (posAt A x.start) (posAt B y.start) && posEqShift n (posAt A x.stop) (posAt B y.stop))

def handleGap (preF cmF restF : String) : String :=
  match srcOf preF, srcOf cmF, srcOf restF with
  | some pre, some cm, some rest =>
    let A := pre ++ (cm ++ 10 :: rest)
    let B := pre ++ 10 :: rest
    let fuel := A.length + 2
    let b (x : Bool) : String := if x then "1" else "0"
    let guard := match cm with
      | [] => false
      | c :: _ => if isBlank c then cutsAt fuel pre c "" else cutsAt2 fuel pre c 10 ""
    let form := gapFormOk (cm.length + 1) cm
    let same := lexKL fuel A "" == lexKL fuel B ""
    "ok\t" ++ b guard ++ "\t" ++ (if form then "1" else "-") ++ "\t" ++ b same ++ "\t" ++ b (shiftedOk A B pre.length cm.length)
      ++ "\t" ++ toString (lexAll A).length ++ "\t" ++ toString (lexAll B).length
  | _, _, _ => "error\tbad-hex"

/-- one item per gap: `0` for no newline, otherwise one letter per NEWLINE token, `n` for the
    literal "\n" and `r` for "\r\n" -/
def decodeGap (item : String) : Option (List String) :=
  if item == "0" then some []
  else item.toList.mapM fun c => if c == 'n' then some "\n" else if c == 'r' then some "\r\n" else none

def decodeNls (field : String) : Option (List (List String)) :=
  if field == "-" then some [] else (field.splitOn ".").mapM decodeGap

def decodeCommas (field : String) : List Bool :=
  if field == "-" then [] else field.toList.map (· == '1')

/-- the Pratt model of C01 on the real tokens of a text with line breaks, and the layout printer
    of ParseNewline.lean on the tree and the harness's layout -/
def handleParseNl (toksField treeField nlsField commasField : String) : String :=
  open Risor.C01.Pratt in
  match decodeTokens toksField with
  | .error why => "unsupported\t" ++ why
  | .ok toks =>
    let fuel := 3 * toks.length + 20
    let parsed := parseExpr fuel Level.LOWEST.num toks
    let parsedText := match parsed with
      | some (e, []) => showExpr e
      | some (_, _) => "leftover"
      | none => "none"
    if treeField == "-" then "ok\t" ++ parsedText ++ "\t-\t-"
    else
      match Risor.C01.parseSX treeField.toList with
      | none => "unsupported\tcannot read the tree"
      | some (sx, _) =>
        match toExpr sx with
        | none => "unsupported\ttree outside the expression core"
        | some tree =>
          let rt := match parsed with
            | some (e, []) => decide (e = tree)
            | _ => false
          let rend :=
            if nlsField == "-" then "-"
            else match decodeNls nlsField with
              | none => "-"
              | some ns =>
                let r := NL.renderNLTop (NL.Layout.ofLists ns (decodeCommas commasField)) tree
                if r == toks then "same" else hx (tokensText r)
          "ok\t" ++ parsedText ++ "\t" ++ (if rt then "1" else "0") ++ "\t" ++ rend


/-! ### `bridge` -/

def showTokenItem (t : Risor.C01.Pratt.Token) : String :=
  kindHex t.kind.typ ++ ":" ++ toHexField (strBytes t.lit)

def showTokens (ts : List Risor.C01.Pratt.Token) : String :=
  if ts.isEmpty then "-" else ",".intercalate (ts.map showTokenItem)

def hexChars (h : String) : Option Chars := srcOf h

/-- (body, blanks) pairs of a comment run -/
def decodePairs : List String → Option (List (Chars × Chars))
  | [] => some []
  | b :: w :: rest =>
    match hexChars b, hexChars w, decodePairs rest with
    | some b, some w, some r => some ((b, w) :: r)
    | _, _, _ => none
  | [_] => none

def decodeGapItem (item : String) : Option Gap :=
  match item.toList with
  | 'b' :: rest => (hexChars (String.ofList rest)).map Gap.blanks
  | 'c' :: rest =>
    match (String.ofList rest).splitOn "." with
    | lead :: pairs =>
      match hexChars lead, decodePairs pairs with
      | some lead, some cs => some ⟨lead, cs⟩
      | _, _ => none
    | [] => none
  | _ => none

def decodeGaps (field : String) : Option (List Gap) :=
  if field == "-" then some [] else (field.splitOn ",").mapM decodeGapItem

/-- the adapter's kind lookup is C01's (`decodeToken` of PrattOracle.lean uses `Kind.ofTyp`) -/
example (s : String) : kindOfTyp s = ((Risor.C01.Pratt.Kind.ofTyp s).getD .ILLEGAL) := rfl

def handleBridge (srcField treeField gapsField : String) : String :=
  open Risor.C01.Pratt in
  match srcOf srcField with
  | none => "error\tbad-hex"
  | some src =>
    if unsupported (lexAll src) then "unsupported\tnon-ASCII rune outside strings and comments"
    else
      let toks := match lexTokens src with
        | some ts => showTokens ts
        | none => "E"
      if treeField == "-" then "ok\t" ++ toks ++ "\t-\t-\t-\t-"
      else
        match Risor.C01.parseSX treeField.toList with
        | none => "unsupported\tcannot read the tree"
        | some (sx, _) =>
          match toExpr sx with
          | none => "unsupported\ttree outside the expression core"
          | some tree =>
            let text := renderSrc tree
            let r := renderTop tree
            let lexed := lexTokens text
            let fuel := 3 * r.length + 20
            let parsed := match lexed with
              | some ts => (match parseExpr fuel Level.LOWEST.num ts with
                  | some (e, []) => decide (e = tree)
                  | _ => false)
              | none => false
            let b (x : Bool) : String := if x then "1" else "0"
            let flags := b (exprOK tree) ++ "," ++ b (unnested tree) ++ "," ++ b (lexed == some r) ++ "," ++ b parsed
            let lay :=
              if gapsField == "-" then "-\t-"
              else match decodeGaps gapsField with
                | none => "-\t-"
                | some gs => toHexField (utf8s (spellWith r gs)) ++ "\t" ++ b (gs.all Gap.ok)
            "ok\t" ++ toks ++ "\t" ++ toHexField (utf8s text) ++ "\t" ++ flags ++ "\t" ++ lay

/-! ### `stmt`: the statement-level parser model on the lexer machine's tokens -/

open Risor.C20.St in
def aopText : AOp → String
  | .set => "=" | .add => "+=" | .sub => "-=" | .mul => "*=" | .div => "/="

open Risor.C20.St Risor.C01.Pratt in
mutual
/-- same S-expression format as the harness's `Sexp` (an `else if` is printed as the block holding
    the nested `if`, which is how the real parser stores it) -/
def showStmt : Stmt → String
  | .expr e => "(expr " ++ showExpr e ++ ")"
  | .var x e => "(var s:" ++ hx x ++ " " ++ showExpr e ++ ")"
  | .decl x e => "(decl s:" ++ hx x ++ " " ++ showExpr e ++ ")"
  | .assign op x e => "(assign s:" ++ hx (aopText op) ++ " (id s:" ++ hx x ++ ") " ++ showExpr e ++ ")"
  | .ret e => "(ret " ++ showExpr e ++ ")"
  | .ret0 => "(ret0)"
  | .brk => "(break)"
  | .cont => "(continue)"
  | .ifS c thn els => "(if " ++ showExpr c ++ " (blk" ++ showBlock thn ++ ") " ++ showElse els ++ ")"
def showBlock : Block → String
  | .nil => ""
  | .cons s b => " " ++ showStmt s ++ showBlock b
def showElse : Else → String
  | .none => "(none)"
  | .block b => "(blk" ++ showBlock b ++ ")"
  | .elif c thn els => "(blk (if " ++ showExpr c ++ " (blk" ++ showBlock thn ++ ") " ++ showElse els ++ "))"
end

/-- `stmt <src-hex>` → `ok <tree|none> <number of tokens>` -/
def handleStmt (srcField : String) : String :=
  match srcOf srcField with
  | none => "error\tbad-hex"
  | some src =>
    if unsupported (lexAll src) then "unsupported\tnon-ASCII rune outside strings and comments"
    else
      match lexTokens src with
      | none => "ok\tlexerror\t0"
      | some ts =>
        let fuel := 3 * ts.length + 20
        match Risor.C20.St.parseProgram fuel ts with
        | some b => "ok\t(blk" ++ showBlock b ++ ")\t" ++ toString ts.length
        | none => "ok\tnone\t" ++ toString ts.length

def handle : List String → String
  | ["stmt", src] => handleStmt src
  | ["bridge", src, tree, gaps] => handleBridge src tree gaps
  | ["parsenl", toks, tree, nls, commas] => handleParseNl toks tree nls commas
  | ["gap", pre, cm, rest] => handleGap pre cm rest
  | ["lex", h] =>
    match srcOf h with
    | some src =>
      let ts := lexAll src
      if unsupported ts then "unsupported"
      else "ok\t" ++ ";".intercalate (ts.map (showTok src))
    | none => "error\tbad-hex"
  | ["kl", h] =>
    match srcOf h with
    | some src => "ok\t" ++ ";".intercalate ((lexKL (src.length + 2) src "").map showKL)
    | none => "error\tbad-hex"
  | ["diag", h, s, e, eof] =>
    match srcOf h, s.toNat?, e.toNat? with
    | some src, some s, some e =>
      let q := getLineText src s (eof == "1")
      let ps := posAt src s
      let pe := posAt src e
      toHexField (utf8s q) ++ "\t" ++ toString ps.line ++ "\t" ++ toString ps.col ++ "\t" ++ toString pe.col
        ++ "\t" ++ toString (renderOk ps.line ps.col pe.line pe.col q.length) ++ "\t" ++ toString (diagOk src ps.line ps.col q)
        ++ "\t" ++ toString (singleLineSpan src s e)
        ++ "\t" ++ toString (padCount ps.col) ++ ":" ++ toString (caretCount ps.line ps.col pe.line pe.col q.length)
    | _, _, _ => "error\tbad-request"
  -- several lexers: the outer text, the texts other lexers are created on (and read to the end)
  -- after the outer lexer reached EOF, then GetLineText of the OUTER lexer at `off`
  | ["world", h, frags, off, eof] =>
    match srcOf h, (if frags == "-" then some [] else (frags.splitOn ";").mapM srcOf), off.toNat? with
    | some outer, some fs, some off =>
      let w := (templateOps outer fs).foldl World.step []
      let q := w.quote 0 off (eof == "1")
      toHexField (utf8s q) ++ "\t" ++ toString (worldQuoteOk outer off q)
        ++ "\t" ++ toString w.length
    | _, _, _ => "error\tbad-request"
  | _ => "error\tunknown-request"

end Risor.C20
