import RisorModel.C20.StmtLemmas
/-!
C20 — statement level: layout never changes the tree a program parses to.

Stated over the statement-level parser model of Stmt.lean (`stmts`/`stmtStrict`/`exprStmt`/
`parseIf`, delegating expressions to the Pratt model of C01), which runs on the token stream of
the lexer machine — NEWLINE and SEMICOLON are tokens; blanks, indentation, block comments and line
comments never reach the parser (Props.lean / GapProps.lean / BridgeProps.lean prove that on the
lexer machine: `lex_space_invariant`, `lex_comment_run_invariant`, `lex_line_comment_at_line_end`).

Fragment: expression statements, `var x = e`, `x := e`, `x = e` / `+=` / `-=` / `*=` / `/=`,
`return e`, bare `return`, `break`, `continue`, `if c { … }` with `else { … }` / `else if …` chains of
any length, blocks nested to any depth; expressions = the Pratt core with unnested ternaries.

A layout of a tree (`LStmt`/`LItems`/`LElse`) chooses
  * for every expression a `NL.Layout` (ANY number of NEWLINE tokens in each gap the expression
    parser skips: after a binary operator, after the `.` of a method call, after `(`/`[`, after
    each `,`, before `)`/`]` of non-empty calls and lists, optional trailing comma);
  * behind every `{` ANY run of line ends, each optionally followed by one `;`;
  * behind every statement an optional `;` and ANY run of line ends, each optionally followed by
    one `;` (`Sep`) — not empty between two statements, possibly empty before `}` / end of input;
  * before the first statement of the program ANY run of line ends.
These are all the places: between `var`, the name, `=` and the value, between `x` and `:=`/`=`,
between `return` and its value, between `if`, the condition and `{`, between `}` and `else`, between
`else` and `{`/`if` the real parser does not skip a NEWLINE (`expectPeek`/`peekTokenIs` look at the
very next token), and the model refuses or re-splits there (last section).
-/
namespace Risor.C20.St
open Risor.C01 Risor.C01.Pratt Risor.C20.NL

/-- **Every layout of a program parses to the program** (`stmt_layout_parse`).  For every laid-out
    statement list `items` of the fragment (unbounded length and nesting, well-formed: unnested
    ternaries, a non-empty separator between two statements) and every run `lead` of line ends
    before it there is a fuel from which on the statement-level parser model, run on the tokens of
    that layout, returns exactly the tree with the layout erased. -/
theorem stmt_layout_parse (lead : Lines) (items : LItems) (hw : wfItems items = true) :
    ∃ fuel, ∀ f, fuel ≤ f → parseProgram f (renderProgram lead items) = some items.erase := by
  obtain ⟨N, hN⟩ := items_inv items hw true [] [] (by simp [endsAt])
  refine ⟨N + lead.length + 1, fun f hf => ?_⟩
  have := stmts_lines true lead (renderItems items ++ []) _ N hN f hf
  simp only [List.append_nil] at this
  simp [parseProgram, renderProgram, this]

/-- **Blocks**: the same for the body of a block behind its `{`, with what follows the `}` left in
    the input. -/
theorem block_layout_parse (lead : Lines) (items : LItems) (hw : wfItems items = true) (r : List Token) :
    ∃ fuel, ∀ f, fuel ≤ f →
      stmts false f (linesToks lead ++ (renderItems items ++ tk .RBRACE :: r)) = some (items.erase, r) := by
  obtain ⟨N, hN⟩ := items_inv items hw false (tk .RBRACE :: r) r (endsAt_rbrace r)
  exact ⟨N + lead.length + 1, fun f hf => stmts_lines false lead _ _ N hN f hf⟩

/-- **One statement**: a laid-out statement followed by a separator start (`;`, line end, `}`, end
    of input) parses to the statement; the optional `;` is consumed. -/
theorem stmt_layout_parse_one (s : LStmt) (hw : wfS s = true) (rest : List Token) (hr : sepStart rest) :
    ∃ fuel, ∀ f, fuel ≤ f → stmtStrict f (renderS s ++ rest) = some (some s.erase, dropSemi rest) :=
  stmt_inv s hw rest hr

/-- **Layout invariance** (`layout_invariance`): any two layouts of the same tree — different
    numbers of blank lines, `;` instead of or in addition to line ends, line breaks inside
    expressions at the permitted gaps, trailing commas — give the SAME result on the parser
    model, namely that tree. -/
theorem layout_invariance (lead₁ lead₂ : Lines) (i₁ i₂ : LItems) (h₁ : wfItems i₁ = true)
    (h₂ : wfItems i₂ = true) (he : i₁.erase = i₂.erase) :
    ∃ fuel, ∀ f, fuel ≤ f →
      parseProgram f (renderProgram lead₁ i₁) = parseProgram f (renderProgram lead₂ i₂) ∧
      parseProgram f (renderProgram lead₁ i₁) = some i₁.erase := by
  obtain ⟨N₁, k₁⟩ := stmt_layout_parse lead₁ i₁ h₁
  obtain ⟨N₂, k₂⟩ := stmt_layout_parse lead₂ i₂ h₂
  refine ⟨N₁ + N₂, fun f hf => ?_⟩
  rw [k₁ f (by omega), k₂ f (by omega), he]
  exact ⟨rfl, rfl⟩

/-! ### the canonical rendering -/

mutual
theorem erase_canonS : (s : Stmt) → (canonS s).erase = s
  | .expr _ | .var _ _ | .decl _ _ | .assign _ _ _ | .ret _ | .ret0 | .brk | .cont => by
    simp [canonS, LStmt.erase]
  | .ifS c thn els => by simp [canonS, LStmt.erase, erase_canonB thn, erase_canonE els]
theorem erase_canonB : (b : Block) → (canonB b).erase = b
  | .nil => by simp [canonB, LItems.erase]
  | .cons s b => by simp [canonB, LItems.erase, erase_canonS s, erase_canonB b]
theorem erase_canonE : (e : Else) → (canonE e).erase = e
  | .none => by simp [canonE, LElse.erase]
  | .block b => by simp [canonE, LElse.erase, erase_canonB b]
  | .elif c thn els => by simp [canonE, LElse.erase, erase_canonB thn, erase_canonE els]
end

mutual
theorem wf_canonS : (s : Stmt) → okStmt s = true → wfS (canonS s) = true
  | .expr _, h | .var _ _, h | .decl _ _, h | .assign _ _ _, h | .ret _, h => by
    simpa [canonS, wfS, okStmt] using h
  | .ret0, _ | .brk, _ | .cont, _ => by simp [canonS, wfS]
  | .ifS c thn els, h => by
    have h' : (unnested c = true ∧ okBlock thn = true) ∧ okElse els = true := by simpa [okStmt] using h
    simp [canonS, wfS, h'.1.1, wf_canonB thn h'.1.2, wf_canonE els h'.2]
theorem wf_canonB : (b : Block) → okBlock b = true → wfItems (canonB b) = true
  | .nil, _ => by simp [canonB, wfItems]
  | .cons s b, h => by
    have h' : okStmt s = true ∧ okBlock b = true := by simpa [okBlock] using h
    simp [canonB, wfItems, wf_canonS s h'.1, wf_canonB b h'.2, nlSep, Sep.nonEmpty]
theorem wf_canonE : (e : Else) → okElse e = true → wfElse (canonE e) = true
  | .none, _ => by simp [canonE, wfElse]
  | .block b, h => by simpa [canonE, wfElse, okElse] using wf_canonB b (by simpa [okElse] using h)
  | .elif c thn els, h => by
    have h' : (unnested c = true ∧ okBlock thn = true) ∧ okElse els = true := by simpa [okElse] using h
    simp [canonE, wfElse, h'.1.1, wf_canonB thn h'.1.2, wf_canonE els h'.2]
end

/-- **Round trip** (`stmt_parse_render`): parsing the canonical rendering of a statement-level tree
    (one statement per line, expressions on one line) returns the tree — for all trees of the
    fragment. -/
theorem stmt_parse_render (b : Block) (hb : okBlock b = true) :
    ∃ fuel, ∀ f, fuel ≤ f → parseProgram f (renderCanon b) = some b := by
  obtain ⟨N, hN⟩ := stmt_layout_parse [] (canonB b) (wf_canonB b hb)
  exact ⟨N, fun f hf => by simpa [renderProgram, renderCanon, linesToks, erase_canonB] using hN f hf⟩

/-- every layout parses to what the canonical text parses to -/
theorem layout_parses_as_canonical (lead : Lines) (items : LItems) (hw : wfItems items = true)
    (hb : okBlock items.erase = true) :
    ∃ fuel, ∀ f, fuel ≤ f →
      parseProgram f (renderProgram lead items) = parseProgram f (renderCanon items.erase) := by
  obtain ⟨N₁, k₁⟩ := stmt_layout_parse lead items hw
  obtain ⟨N₂, k₂⟩ := stmt_parse_render items.erase hb
  exact ⟨N₁ + N₂, fun f hf => by rw [k₁ f (by omega), k₂ f (by omega)]⟩

/-! ### a newline is significant only as a separator

Outside the permitted gaps a NEWLINE either splits the text into different statements or is an
error.  The dangerous cases (the text still parses, to ANOTHER tree): -/

/-- **`return` ⏎ `e`** is a bare `return` followed by the expression statement `e` — for every
    expression and every layout of it; on one line it is `return e`. -/
theorem return_newline_splits (e : Expr) (L : Layout) (he : unnested e = true) (lit : String) :
    (∃ fuel, ∀ f, fuel ≤ f →
      parseProgram f (tk .RETURN :: ⟨.NEWLINE, lit⟩ :: renderNLTop L e)
        = some (.cons .ret0 (.cons (.expr e) .nil))) ∧
    (∃ fuel, ∀ f, fuel ≤ f →
      parseProgram f (tk .RETURN :: renderNLTop L e) = some (.cons (.ret e) .nil)) := by
  constructor
  · have := stmt_layout_parse [] (.cons .ret0 ⟨false, [(lit, false)]⟩ (.cons (.expr e L) ⟨false, []⟩ .nil))
      (by simp [wfItems, wfS, he, Sep.nonEmpty, LItems.isNil])
    simpa [renderProgram, renderItems, renderS, linesToks, Sep.toks, LItems.erase, LStmt.erase] using this
  · have := stmt_layout_parse [] (.cons (.ret e L) ⟨false, []⟩ .nil)
      (by simp [wfItems, wfS, he, LItems.isNil])
    simpa [renderProgram, renderItems, renderS, linesToks, Sep.toks, LItems.erase, LStmt.erase] using this

/-- **A line end before a binary operator, `(` or `[`** ends the statement: what follows is parsed
    as the next statement, whatever it is.  General form: two laid-out statements separated by a
    line end parse to two statements — never to one. -/
theorem newline_splits_statements (s₁ s₂ : LStmt) (h₁ : wfS s₁ = true) (h₂ : wfS s₂ = true) (lit : String) :
    ∃ fuel, ∀ f, fuel ≤ f →
      parseProgram f (renderS s₁ ++ ⟨.NEWLINE, lit⟩ :: renderS s₂)
        = some (.cons s₁.erase (.cons s₂.erase .nil)) := by
  have := stmt_layout_parse [] (.cons s₁ ⟨false, [(lit, false)]⟩ (.cons s₂ ⟨false, []⟩ .nil))
    (by simp [wfItems, h₁, h₂, Sep.nonEmpty, LItems.isNil])
  simpa [renderProgram, renderItems, linesToks, Sep.toks, LItems.erase] using this

private def tI (x : String) : Token := ⟨.IDENT, x⟩
private def tNL : Token := ⟨.NEWLINE, "\n"⟩

/-- `x` ⏎ `(y)`: two expression statements `x` and `y`; on one line the call `x(y)` -/
theorem newline_before_call_paren :
    parseProgram 14 [tI "x", tNL, tk .LPAREN, tI "y", tk .RPAREN]
      = some (.cons (.expr (.ident "x")) (.cons (.expr (.ident "y")) .nil)) ∧
    parseProgram 14 [tI "x", tk .LPAREN, tI "y", tk .RPAREN]
      = some (.cons (.expr (.call (.ident "x") (.cons (.ident "y") .nil))) .nil) := by
  decide +kernel

/-- `x` ⏎ `[i]`: the statement `x` and the list literal `[i]`; on one line the index `x[i]` -/
theorem newline_before_index_bracket :
    parseProgram 14 [tI "x", tNL, tk .LBRACKET, tI "i", tk .RBRACKET]
      = some (.cons (.expr (.ident "x")) (.cons (.expr (.list (.cons (.ident "i") .nil))) .nil)) ∧
    parseProgram 14 [tI "x", tk .LBRACKET, tI "i", tk .RBRACKET]
      = some (.cons (.expr (.index (.ident "x") (.ident "i"))) .nil) := by
  decide +kernel

/-- `a` ⏎ `- b`: the statements `a` and `-b`; on one line the difference `a - b` -/
theorem newline_before_minus :
    parseProgram 14 [tI "a", tNL, tk .MINUS, tI "b"]
      = some (.cons (.expr (.ident "a")) (.cons (.expr (.neg (.ident "b"))) .nil)) ∧
    parseProgram 14 [tI "a", tk .MINUS, tI "b"]
      = some (.cons (.expr (.infix .sub (.ident "a") (.ident "b"))) .nil) := by
  decide +kernel

/-- the gaps INSIDE statements where a NEWLINE is an error (checked on the model at a fuel that
    parses the one-line text): `var`⏎`x = 1`, `var x`⏎`= 1`, `var x =`⏎`1`, `x`⏎`:= 1`, `x :=`⏎`1`,
    `x`⏎`= 1`, `x =`⏎`1`, `if`⏎`c {}`, `if c`⏎`{}`, `if c {}`⏎`else {}`, `if c {} else`⏎`{}`,
    `if c {} else`⏎`if c {}` -/
theorem newline_inside_statement_fails :
    parseProgram 12 [tk .VAR, tNL, tI "x", tk .ASSIGN, ⟨.INT, "1"⟩] = none ∧
    parseProgram 12 [tk .VAR, tI "x", tNL, tk .ASSIGN, ⟨.INT, "1"⟩] = none ∧
    parseProgram 12 [tk .VAR, tI "x", tk .ASSIGN, tNL, ⟨.INT, "1"⟩] = none ∧
    parseProgram 12 [tI "x", tNL, tk .DECLARE, ⟨.INT, "1"⟩] = none ∧
    parseProgram 12 [tI "x", tk .DECLARE, tNL, ⟨.INT, "1"⟩] = none ∧
    parseProgram 12 [tI "x", tNL, tk .ASSIGN, ⟨.INT, "1"⟩] = none ∧
    parseProgram 12 [tI "x", tk .ASSIGN, tNL, ⟨.INT, "1"⟩] = none ∧
    parseProgram 12 [tk .IF, tNL, tI "c", tk .LBRACE, tk .RBRACE] = none ∧
    parseProgram 12 [tk .IF, tI "c", tNL, tk .LBRACE, tk .RBRACE] = none ∧
    parseProgram 12 [tk .IF, tI "c", tk .LBRACE, tk .RBRACE, tNL, tk .ELSE, tk .LBRACE, tk .RBRACE] = none ∧
    parseProgram 12 [tk .IF, tI "c", tk .LBRACE, tk .RBRACE, tk .ELSE, tNL, tk .LBRACE, tk .RBRACE] = none ∧
    parseProgram 12 [tk .IF, tI "c", tk .LBRACE, tk .RBRACE, tk .ELSE, tNL, tk .IF, tI "c", tk .LBRACE, tk .RBRACE] = none ∧
    parseProgram 12 [tk .IF, tI "c", tk .LBRACE, tk .RBRACE, tk .ELSE, tk .LBRACE, tk .RBRACE]
      = some (.cons (.ifS (.ident "c") .nil (.block .nil)) .nil) := by
  decide +kernel

/-- **`else` in statement position is an error for every fuel** — so `}` ⏎ `else` can never
    attach the alternative: the `if` statement has ended at the `}`. -/
theorem else_in_statement_position_fails (tok : Token) (hk : tok.kind = .ELSE) (top : Bool) (f : Nat)
    (r : List Token) : stmts top f (tok :: r) = none := by
  have h1 : prefixFn Kind.ELSE = none := rfl
  have h2 : isPostfix Kind.ELSE = false := rfl
  have hp : ∀ g, parseNode g false Level.LOWEST.num (tok :: r) = none :=
    fun g => parseNode_none_of_prefixP (fun g => by cases g <;> simp [prefixP, hk, h1, h2]) g _
  have hs : ∀ g, stmtStrict g (tok :: r) = none := by
    intro g
    cases g with
    | zero => simp [stmtStrict]
    | succ g =>
      have he : exprStmt g (tok :: r) = none := by
        cases g with
        | zero => simp [exprStmt]
        | succ g => cases r <;> simp [exprStmt, hk, hp]
      simp [stmtStrict, hk, he]
  cases f with
  | zero => simp [stmts]
  | succ f => simp [stmts, hk, hs]

/-- several `;` in a row, or a `;` directly behind `{`, are errors (a `;` does not start a
    statement), whereas a `;` directly behind a line end is consumed with it -/
theorem semicolon_runs :
    parseProgram 14 [tI "x", tk .SEMICOLON, tk .SEMICOLON] = none ∧
    parseProgram 14 [tk .SEMICOLON, tI "x"] = none ∧
    parseProgram 14 [tI "x", tNL, tk .SEMICOLON, tI "y"]
      = some (.cons (.expr (.ident "x")) (.cons (.expr (.ident "y")) .nil)) := by
  decide +kernel

/-! ### the hypotheses are satisfiable -/

/-- `if a { x = 1; ⏎ return } else if b {⏎} else { y := [1,⏎2] }` laid out with a `;`, line ends and a
    break inside the list -/
private def exItems : LItems :=
  .cons (.ifS (.ident "a") Layout.flat []
      (.cons (.assign .set "x" (.int 1) Layout.flat) ⟨true, [("\n", false)]⟩ (.cons .ret0 ⟨false, []⟩ .nil))
      (.elif (.ident "b") Layout.flat [("\n", true)] .nil
        (.block [] (.cons (.decl "y" (.list (.cons (.int 1) (.cons (.int 2) .nil)))
          (Layout.ofCounts [0, 2, 0] [])) ⟨false, []⟩ .nil))))
    ⟨false, [("\n", false), ("\r\n", false)]⟩ .nil

example : wfItems exItems = true := by decide +kernel
example : parseProgram 30 (renderProgram [("\n", false)] exItems) = some exItems.erase := by decide +kernel
example : okBlock exItems.erase = true := by decide +kernel
example : sepStart [tk .RBRACE] := Or.inr (Or.inr rfl)

end Risor.C20.St
