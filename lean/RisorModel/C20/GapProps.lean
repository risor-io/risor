import RisorModel.C20.GapLemmas
/-!
C20 — property theorems about layout at ANY token gap of ANY text, about line comments at line
ends together with the positions of what follows them, and about non-ASCII runes.

`Props.lean` states the invisibility of blanks and comments at the lexer's current read position
(`lexKL f (comment ++ rest) prev = lexKL f rest prev`, every lexer state).  The theorems here
carry that to the middle of a text: whatever text `pre` comes first — any runes, multi-byte ones
included, since the model like the lexer works on RUNES and counts offsets in runes — as long
as the end of `pre` is a token gap (decidable guards `cutsAt` / `cutsAt2` of Model.lean).
Offsets, lines and columns of the tokens after a commented line are stated too: a line comment
of `n` runes moves the offsets behind it by exactly `n` and leaves lines and columns alone.

Non-ASCII runes outside strings and comments (answered `unsupported` by earlier versions of the
model) are classified by the tables of Go's package `unicode` (Unicode.lean, tied to the
toolchain's tables): an identifier may contain every letter and digit of Unicode, its literal is
its UTF-8 text, its offsets count runes.
-/
namespace Risor.C20

/-! ## 1. what is invisible at the read position is invisible at every token gap -/

/-- **Gap congruence.**  Let `d₁ :: u₁` and `d₂ :: u₂` be two continuations that read alike at
    every lexer state (every fuel, every previous token type).  Then for EVERY text `pre` whose
    end is a token gap under both continuations (`cutsAt2`), the whole texts `pre ++ d₁ :: u₁`
    and `pre ++ d₂ :: u₂` give the same token stream (kinds and literals).  `pre` is any rune
    list: non-ASCII identifiers, strings, comments with multi-byte runes — nothing in the
    statement counts bytes. -/
theorem lex_gap_congr : ∀ (f : Nat) (pre : Chars) (d₁ d₂ : Nat) (u₁ u₂ : Chars) (prev : String),
    (∀ f' prev', lexKL f' (d₁ :: u₁) prev' = lexKL f' (d₂ :: u₂) prev') →
    cutsAt2 f pre d₁ d₂ prev = true →
    lexKL f (pre ++ d₁ :: u₁) prev = lexKL f (pre ++ d₂ :: u₂) prev
  | 0, _, _, _, _, _, _, _, _ => rfl
  | f + 1, pre, d₁, d₂, u₁, u₂, prev, heq, hc => by
    unfold cutsAt2 at hc
    by_cases hall : pre.all isBlank = true
    · have hp : allBlank pre := allBlank_of_all hall
      rw [lex_blanks_ignored _ _ _ _ hp, lex_blanks_ignored _ _ _ _ hp]
      exact heq _ _
    · simp only [hall, Bool.false_eq_true, ↓reduceIte] at hc
      have loc : ∀ (d : Nat) (X : Chars), (scan (pre ++ [d]) prev).seen ≤ pre.length + 1 →
          scan (pre ++ d :: X) prev = scan (pre ++ [d]) prev := by
        intro d X hseen
        have := scan_local (pre ++ [d]) [] X prev (by simpa using hseen)
        simpa using this
      cases hout : (scan (pre ++ [d₁]) prev).out with
      | tok k l =>
        simp only [hout, Bool.and_eq_true, decide_eq_true_eq, beq_iff_eq] at hc
        obtain ⟨⟨⟨⟨⟨⟨hk, hn⟩, hs1⟩, hs2⟩, ho⟩, hnx⟩, hrec⟩ := hc
        have l1 := loc d₁ u₁ hs1
        have l2 := loc d₂ u₂ hs2
        rw [lexKL_succ, lexKL_succ, l1, l2, ho, hout, hnx]
        have hk' : (k == "EOF") = false := by simpa using hk
        simp only [hk', Bool.false_eq_true, ↓reduceIte]
        rw [List.drop_append_of_le_length hn, List.drop_append_of_le_length hn]
        rw [lex_gap_congr f (pre.drop (scan (pre ++ [d₁]) prev).next) d₁ d₂ u₁ u₂ k heq hrec]
      | errT k l c => simp [hout] at hc
      | err c => simp [hout] at hc

/-- the one-delimiter guard of `lex_space_invariant` is the two-delimiter guard with both
    delimiters equal -/
theorem cutsAt2_self : ∀ (f : Nat) (pre : Chars) (b : Nat) (prev : String),
    cutsAt f pre b prev = true → cutsAt2 f pre b b prev = true
  | 0, _, _, _, h => by simp [cutsAt] at h
  | f + 1, pre, b, prev, h => by
    unfold cutsAt at h
    unfold cutsAt2
    by_cases hall : pre.all isBlank = true
    · simp [hall]
    · simp only [hall, Bool.false_eq_true, ↓reduceIte] at h ⊢
      cases hout : (scan (pre ++ [b]) prev).out with
      | tok k l =>
        simp only [hout, Bool.and_eq_true, decide_eq_true_eq] at h
        obtain ⟨⟨⟨hk, hn⟩, hs⟩, hrec⟩ := h
        have ih := cutsAt2_self f _ b k hrec
        simp only [Bool.and_eq_true, decide_eq_true_eq, beq_self_eq_true, and_true]
        exact ⟨⟨⟨⟨hk, hn⟩, hs⟩, hs⟩, ih⟩
      | errT k l c => simp [hout] at h
      | err c => simp [hout] at h

/-! ## 2. line comments at the end of any line of any text -/

/-- **A line comment set directly after the last token of a line changes nothing** — for every
    text `pre` before it (any runes; `cutsAt2 … 35 10` / `cutsAt2 … 47 10`: the end of `pre` is
    a token gap whether a `#`, a `/` or the newline follows), every comment text `body` (any
    runes but newline and NUL) and every text `rest` after the line: the token stream of
    `pre #body⏎ rest` and of `pre //body⏎ rest` is that of `pre ⏎ rest`. -/
theorem lex_line_comment_at_line_end (f : Nat) (pre body rest : Chars) (prev : String)
    (hb : ∀ c ∈ body, c ≠ 10 ∧ c ≠ 0) :
    (cutsAt2 f pre 35 10 prev = true →
      lexKL f (pre ++ 35 :: (body ++ 10 :: rest)) prev = lexKL f (pre ++ 10 :: rest) prev) ∧
    (cutsAt2 f pre 47 10 prev = true →
      lexKL f (pre ++ 47 :: (47 :: body ++ 10 :: rest)) prev = lexKL f (pre ++ 10 :: rest) prev) := by
  constructor
  · intro hc
    apply lex_gap_congr f pre 35 10 _ _ prev _ hc
    intro f' prev'
    have := (lex_line_comment_invariant f' body rest prev' hb).2
    simpa using this
  · intro hc
    apply lex_gap_congr f pre 47 10 _ _ prev _ hc
    intro f' prev'
    have := (lex_line_comment_invariant f' body rest prev' hb).1
    simpa using this

/-- **… and so does a line comment after blanks** (`x := 1  // c`), and after blanks and any
    number of block comments: for every text `pre` whose end, followed by the blank `b`, is a
    token gap (`cutsAt`, the guard of `lex_space_invariant`), every run of blanks `ws`, every
    list of block comments `cs` (each a proper body, blanks after each), every comment text
    `body` and every `rest`: `pre b ws /*…*/… //body⏎ rest` reads as `pre b ⏎ rest`, and so does
    the `#` form. -/
theorem lex_line_comment_after_blanks (f : Nat) (pre : Chars) (b : Nat) (ws : Chars)
    (cs : List (Chars × Chars)) (body rest : Chars) (prev : String)
    (hbl : isBlank b = true) (hws : allBlank ws) (hcs : commentRunOk cs = true)
    (hb : ∀ c ∈ body, c ≠ 10 ∧ c ≠ 0) (hc : cutsAt f pre b prev = true) :
    lexKL f (pre ++ b :: (ws ++ (commentRun cs ++ ([47, 47] ++ body ++ 10 :: rest)))) prev
      = lexKL f (pre ++ b :: (10 :: rest)) prev ∧
    lexKL f (pre ++ b :: (ws ++ (commentRun cs ++ (35 :: body ++ 10 :: rest)))) prev
      = lexKL f (pre ++ b :: (10 :: rest)) prev := by
  have hc2 := cutsAt2_self f pre b prev hc
  have key : ∀ (X : Chars), (∀ f' prev', lexKL f' X prev' = lexKL f' (10 :: rest) prev') →
      lexKL f (pre ++ b :: (ws ++ X)) prev = lexKL f (pre ++ b :: (10 :: rest)) prev := by
    intro X hX
    apply lex_gap_congr f pre b b _ _ prev _ hc2
    intro f' prev'
    have e1 : b :: (ws ++ X) = (b :: ws) ++ X := by simp
    have e2 : b :: 10 :: rest = [b] ++ (10 :: rest) := by simp
    have a1 : allBlank (b :: ws) := allBlank_cons hbl hws
    have a2 : allBlank [b] := allBlank_cons hbl allBlank_nil
    rw [e1, e2, lex_blanks_ignored _ _ _ _ a1, lex_blanks_ignored _ _ _ _ a2]
    exact hX f' prev'
  exact ⟨key _ (fun f' prev' => (lex_comments_then_line_comment f' cs body rest prev' hcs hb).1),
         key _ (fun f' prev' => (lex_comments_then_line_comment f' cs body rest prev' hcs hb).2)⟩

/-- non-vacuity, with multi-byte runes BEFORE the comment and inside it.
    `s := "é"` + ` # café` + newline + `y`: the runes `s`, ` `, `:=`, ` `, `"é"` (é = 233, two
    bytes in UTF-8), then the blank, the comment ` café` (c a f é) and the next line.  The guard
    holds and the theorem gives the token stream of `s := "é" ⏎y`. -/
example : cutsAt 9 [115, 32, 58, 61, 32, 34, 233, 34] 32 "" = true := by decide +kernel
example : lexKL 9 ([115, 32, 58, 61, 32, 34, 233, 34] ++ 32 :: ([] ++ (commentRun [] ++ (35 :: [32, 99, 97, 102, 233] ++ 10 :: [121])))) ""
    = lexKL 9 ([115, 32, 58, 61, 32, 34, 233, 34] ++ 32 :: (10 :: [121])) "" :=
  (lex_line_comment_after_blanks 9 _ 32 [] [] _ _ "" (by decide) (by decide) (by decide) (by decide) (by decide)).2
/-- … the same directly after the token, without a blank: `é1#→⏎y` (identifier `é1`) -/
example : cutsAt2 9 [233, 49] 35 10 "" = true := by decide +kernel
example : lexKL 9 ([233, 49] ++ 35 :: ([8594] ++ 10 :: [121])) "" = lexKL 9 ([233, 49] ++ 10 :: [121]) "" :=
  (lex_line_comment_at_line_end 9 _ _ _ "" (by decide)).1 (by decide)
/-- the guard is needed: `4 /` followed directly by `// c`: the three slashes are read as the
    comment opener `//` followed by `/ c` — the division sign is lost.  The end of `4 /` is not a
    token gap for a text that goes on with `/`, and `cutsAt2` says so. -/
example : cutsAt2 9 [52, 32, 47] 47 10 "" = false := by decide +kernel

/-! ## 3. … with positions: a comment of `n` runes moves what follows by `n` runes, on the same
      lines and columns -/

/-- **Offsets behind a line comment.**  At every lexer state the positional token stream of
    `#body⏎rest` read at offset `base` is the positional stream of `⏎rest` read at offset
    `base + 1 + |body|`; for `//body⏎rest` at `base + 2 + |body|`.  `|body|` is the number of
    RUNES of the comment text: every token behind the comment has exactly the offsets it has
    when the newline stands that many runes further on, whatever the runes are. -/
theorem lexPos_line_comment (f : Nat) (body rest : Chars) (base : Nat) (prev : String)
    (hb : ∀ c ∈ body, c ≠ 10 ∧ c ≠ 0) :
    lexPos f (35 :: body ++ 10 :: rest) base prev = lexPos f (10 :: rest) (base + (body.length + 1)) prev ∧
    lexPos f ([47, 47] ++ body ++ 10 :: rest) base prev = lexPos f (10 :: rest) (base + (body.length + 2)) prev := by
  cases f with
  | zero => exact ⟨rfl, rfl⟩
  | succ f =>
    constructor
    · rw [lexPos_succ, lexPos_succ, scan_hash_comment body rest prev hb, scan_newline]
      have e : (35 :: body ++ 10 :: rest).drop (body.length + 2) = rest := by
        rw [show 35 :: body ++ 10 :: rest = (35 :: body ++ [10]) ++ rest by simp]
        exact List.drop_left' (by simp)
      simp only [show (("EOL" : String) == "EOF") = false by decide, Bool.false_eq_true, ↓reduceIte, e]
      rfl
    · rw [lexPos_succ, lexPos_succ, scan_slash_comment body rest prev hb, scan_newline]
      have e : ([47, 47] ++ body ++ 10 :: rest).drop (body.length + 3) = rest := by
        rw [show [47, 47] ++ body ++ 10 :: rest = ([47, 47] ++ body ++ [10]) ++ rest by simp]
        exact List.drop_left' (by simp)
      simp only [show (("EOL" : String) == "EOF") = false by decide, Bool.false_eq_true, ↓reduceIte, e]
      rfl

/-- **Lines and columns behind a commented line.**  Let `cm` be any text without a newline (a
    line comment with the blanks in front of it, say) inserted before the newline that ends a
    line: `pre cm ⏎ rest` against `pre ⏎ rest`.  Every offset up to the end of `pre` has the
    same position in both texts; every offset `k` runes behind the newline has, in the text with
    the comment, the position it has in the text without it moved by `|cm|` runes
    (`Pos.shift`): same line, same column, offset and line start `|cm|` larger.  So a token or a
    diagnostic behind a commented line is reported on the line and column it is reported on
    without the comment. -/
theorem positions_after_line_comment (pre cm rest : Chars) (hcm : ∀ c ∈ cm, c ≠ 10) :
    (∀ off, off ≤ pre.length → posAt (pre ++ (cm ++ 10 :: rest)) off = posAt (pre ++ 10 :: rest) off) ∧
    (∀ k, k ≤ rest.length →
      posAt (pre ++ (cm ++ 10 :: rest)) (pre.length + cm.length + 1 + k)
        = (posAt (pre ++ 10 :: rest) (pre.length + 1 + k)).shift cm.length) := by
  constructor
  · intro off h
    rw [posAt_le _ _ (by simp; omega), posAt_le _ _ (by simp; omega)]
    rw [List.take_append_of_le_length h, List.take_append_of_le_length h]
  · intro k hk
    rw [posAt_le _ _ (by simp; omega), posAt_le _ _ (by simp; omega)]
    have t1 : (pre ++ (cm ++ 10 :: rest)).take (pre.length + cm.length + 1 + k)
        = pre ++ (cm ++ (10 :: rest.take k)) := by
      have e : pre ++ (cm ++ 10 :: rest) = (pre ++ cm ++ [10]) ++ rest := by simp
      have hl : pre.length + cm.length + 1 + k = (pre ++ cm ++ [10]).length + k := by simp; omega
      rw [e, hl, List.take_length_add_append]
      simp
    have t2 : (pre ++ 10 :: rest).take (pre.length + 1 + k) = pre ++ (10 :: rest.take k) := by
      have e : pre ++ 10 :: rest = (pre ++ [10]) ++ rest := by simp
      have hl : pre.length + 1 + k = (pre ++ [10]).length + k := by simp
      rw [e, hl, List.take_length_add_append]
      simp
    rw [t1, t2, advance_append, advance_append, advance_append, advance_no_newline cm _ hcm]
    generalize advance ⟨0, 0, 0, 0⟩ pre = p
    simp only [advance, beq_self_eq_true, ↓reduceIte]
    have : (⟨p.char + cm.length + 1, p.line + 1, 0, p.char + cm.length + 1⟩ : Pos)
        = (⟨p.char + 1, p.line + 1, 0, p.char + 1⟩ : Pos).shift cm.length := by
      simp only [Pos.shift]
      congr 1 <;> omega
    rw [this, advance_shift]

/-- `s := "é" # café⏎y`: the `y` of line 2 sits at offset 17 = 10 + 7 (the comment with its blank
    has 7 RUNES — 8 bytes), line 2, column 1, line start 17; without the comment at offset 10 -/
example :
    posAt ([115, 32, 58, 61, 32, 34, 233, 34] ++ ([32, 35, 32, 99, 97, 102, 233] ++ 10 :: [121])) 16 = ⟨16, 1, 0, 16⟩ ∧
    posAt ([115, 32, 58, 61, 32, 34, 233, 34] ++ 10 :: [121]) 9 = ⟨9, 1, 0, 9⟩ := by decide +kernel

/-! ## 4. non-ASCII runes outside strings and comments -/

/-- **Identifiers over all of Unicode.**  For every first rune `c` that `isIdentifier` accepts
    and that is not an ASCII digit, every list `cs` of further identifier runes (ASCII letters,
    digits, `_`, or any rune `unicode.IsLetter` / `unicode.IsDigit` accepts) and every ASCII rune
    `d` that is not an identifier rune (a blank, a newline, an operator, `#`, the end of input
    `0`, …) followed by anything: one call of `Next` returns ONE identifier token (a keyword
    where the text is one) whose literal is the UTF-8 text of `c :: cs`, which begins at offset
    0, ends at the offset of its last RUNE (`|cs|`) and leaves the lexer on `d`, having looked
    at nothing behind `d`. -/
theorem lex_unicode_identifier (c : Nat) (cs rest : Chars) (d : Nat) (prev : String)
    (h1 : identRune c = true) (hnd : isDigit c = false) (h2 : ∀ x ∈ cs, identRune x = true)
    (hd1 : d ≤ 127) (hd2 : isIdent d = false) :
    scan (c :: cs ++ d :: rest) prev =
      ⟨.tok (identKind (utf8s (c :: cs)) prev) (utf8s (c :: cs)), 0, cs.length, cs.length + 1, cs.length + 2⟩ := by
  unfold scan
  rw [run_ident_start h1 hnd h2]
  simp only [run, step_ident_end _ hd1 hd2, finish, fixOut]
  congr 1 <;> omega

/-- a non-ASCII rune that is neither a letter nor a digit cannot begin a token, whatever follows:
    the lexer reports `invalid identifier` (as it does for `@`, `$`, `^`) -/
theorem lex_nonident_rune_refused (c : Nat) (rest : Chars) (prev : String)
    (hc : c > 127) (h : uIdent c = false) :
    (scan (c :: rest) prev).out = .err "invalid-identifier" := by
  have hs : stepChar (.start false) c = .fail "invalid-identifier" := by
    rw [step_start_word' (Or.inl hc)]
    simp [identRune, hc, h]
  unfold scan
  simp only [run, hs, finish, fixOut]

/-- non-vacuity on the classes: `é` (233), `λ` (955), `字` (23383), the Arabic-Indic digit `٣`
    (1635) are identifier runes; `→` (8594), `×` (215), `½` (189, a number but not a digit) and the
    emoji U+1F600 are not; `½` may not follow a number, `→` may -/
example : identRune 233 = true ∧ identRune 955 = true ∧ identRune 23383 = true ∧ identRune 1635 = true ∧
    identRune 8594 = false ∧ identRune 215 = false ∧ identRune 189 = false ∧ identRune 0x1F600 = false ∧
    uNumTrail 189 = true ∧ uNumTrail 8594 = false := by decide +kernel

/-- `größe := 1`: one identifier of 5 runes (6 bytes), then ` := 1` -/
example : scan ([103, 114, 246, 223, 101] ++ 32 :: [58, 61, 32, 49]) ""
    = ⟨.tok "IDENT" [103, 114, 195, 182, 195, 159, 101], 0, 4, 5, 6⟩ := by decide +kernel

end Risor.C20
