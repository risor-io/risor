import RisorModel.C20.Lemmas
/-!
C20 — property theorems.  Layout and comments never change meaning; diagnostics point into
the source.

Everything is stated over the lexer model of `Model.lean` (`scan` = one call of `Lexer.Next`,
`lexKL fuel rest prev` = the stream of token kinds and literals produced from the remaining
input `rest` when the previous token had type `prev`; `fuel` counts calls of `Next` and every
theorem holds for every fuel).  All theorems quantify over ALL rune lists — valid programs,
invalid ones, any length.  A "token gap" is a point of the text at which the lexer stands
between two calls of `Next`.

The parser-level part of the property for expressions (a line break after a binary operator,
after the `.` of a method call, after the opening bracket / after `,` / before the closing
bracket of call arguments and list literals leaves the syntax tree unchanged) is proved in
ParseNewlineProps.lean (`parse_newline_invariant`) over C01's Pratt parser model.  Line breaks
in map/set literals and after `|`, blank lines and trailing comments between statements are
checked by the correspondence harness on the real parser only.
-/
namespace Risor.C20

/-! ## 1. spaces and tabs -/

/-- **Blanks in front of a token are ignored, at every lexer state.**  For every remaining
    input `rest`, every previous token type and every run `ws` of spaces/tabs, the token
    stream (kinds and literals) read from `ws ++ rest` is the one read from `rest`. -/
theorem lex_blanks_ignored (f : Nat) (ws rest : Chars) (prev : String) (h : allBlank ws) :
    lexKL f (ws ++ rest) prev = lexKL f rest prev := by
  cases f with
  | zero => rfl
  | succ f =>
    have hs := scan_blanks ws rest prev h
    apply lexKL_congr f _ _ prev hs.1
    rw [hs.2, drop_add_append]

/-- **Locality of one call of `Next`.**  The call looks at `seen` runes; whatever follows them
    is irrelevant: if on `a ++ x` it looked no further than `a`, then on `a ++ y` it returns
    the same token, the same offsets and resumes at the same place. -/
theorem scan_local (a x y : Chars) (prev : String) (h : (scan (a ++ x) prev).seen ≤ a.length) :
    scan (a ++ y) prev = scan (a ++ x) prev := by
  have hl := run_local a (.start false) 0 0 x y (by rw [scan_seen] at h; omega)
  unfold scan
  rw [hl]

/-- **Any two fillings of a token gap with spaces/tabs give the same tokens** (kinds and
    literals), for every text `pre … rest` around the gap.  `pre ++ [b]` is the text up to and
    including the gap's first blank `b`; `cutsAt f pre b prev = true` is the decidable statement
    that the end of `pre` really is a token gap (not the inside of a string or comment): the
    lexer, reading `pre` followed by `b`, arrives between two tokens there.  `ws₁`, `ws₂` are
    any further blanks. -/
theorem lex_space_invariant : ∀ (f : Nat) (pre : Chars) (b : Nat) (ws₁ ws₂ rest : Chars) (prev : String),
    isBlank b = true → allBlank ws₁ → allBlank ws₂ → cutsAt f pre b prev = true →
    lexKL f (pre ++ b :: (ws₁ ++ rest)) prev = lexKL f (pre ++ b :: (ws₂ ++ rest)) prev
  | 0, _, _, _, _, _, _, _, _, _, _ => rfl
  | f + 1, pre, b, ws₁, ws₂, rest, prev, hb, h1, h2, hc => by
    unfold cutsAt at hc
    by_cases hall : pre.all isBlank = true
    · -- the lexer already stands in the gap: everything up to `rest` is blank
      have hp : allBlank pre := allBlank_of_all hall
      have e1 : pre ++ b :: (ws₁ ++ rest) = (pre ++ b :: ws₁) ++ rest := by simp
      have e2 : pre ++ b :: (ws₂ ++ rest) = (pre ++ b :: ws₂) ++ rest := by simp
      have a1 : allBlank (pre ++ b :: ws₁) := allBlank_append hp (allBlank_cons hb h1)
      have a2 : allBlank (pre ++ b :: ws₂) := allBlank_append hp (allBlank_cons hb h2)
      rw [e1, e2, lex_blanks_ignored _ _ _ _ a1, lex_blanks_ignored _ _ _ _ a2]
    · simp only [hall, Bool.false_eq_true, ↓reduceIte] at hc
      -- the next token lies inside `pre` and looked no further than `b`
      have loc : ∀ X : Chars, (scan ((pre ++ [b]) ++ []) prev).seen ≤ (pre ++ [b]).length →
          scan (pre ++ b :: X) prev = scan (pre ++ [b]) prev := by
        intro X hseen
        have := scan_local (pre ++ [b]) [] X prev hseen
        simpa using this
      cases hout : (scan (pre ++ [b]) prev).out with
      | tok k l =>
        simp only [hout, Bool.and_eq_true, decide_eq_true_eq] at hc
        obtain ⟨⟨⟨hk, hn⟩, hseen⟩, hrec⟩ := hc
        have hseen' : (scan ((pre ++ [b]) ++ []) prev).seen ≤ (pre ++ [b]).length := by
          simpa using hseen
        have l1 := loc (ws₁ ++ rest) hseen'
        have l2 := loc (ws₂ ++ rest) hseen'
        rw [lexKL_succ, lexKL_succ, l1, l2, hout]
        have hk' : (k == "EOF") = false := by simpa using hk
        simp only [hk', Bool.false_eq_true, ↓reduceIte]
        rw [List.drop_append_of_le_length hn, List.drop_append_of_le_length hn]
        rw [lex_space_invariant f (pre.drop (scan (pre ++ [b]) prev).next) b ws₁ ws₂ rest k hb h1 h2 hrec]
      | errT k l c => simp [hout] at hc
      | err c => simp [hout] at hc

/-- non-vacuity: the gap after `x :=` in `x := 1` is a token gap, and the theorem applies -/
example : cutsAt 5 [120, 32, 58, 61] 32 "" = true := by decide +kernel
example : lexKL 9 ([120, 32, 58, 61] ++ 32 :: ([9, 32, 9] ++ [49])) "" = lexKL 9 ([120, 32, 58, 61] ++ 32 :: ([] ++ [49])) "" :=
  lex_space_invariant 9 _ 32 _ _ _ "" (by decide) (by decide) (by decide) (by decide)
/-- the guard is needed: the end of `"a` (inside a string) is not a token gap -/
example : cutsAt 5 [34, 97] 32 "" = false := by decide +kernel

/-! ## 2. comments -/

/-- **A block comment is invisible** (the full statement; before the repairs of risor
    `fix: skip every comment in front of a token, not only the first block comment` and
    `fix: do not take the `*` of an opening `/*` for the start of the closing `*/`` it was false
    outside the guards `okBody` / `commentFollows`: see `C20_fixed_adjacent_comments_were_tokens`,
    `C20_fixed_slash_body_closed_early`).  For
    every lexer state, EVERY comment body without `*/` (and without NUL; it may begin with `/`,
    contain `/*`, `//`, `#`, quotes, newlines) and EVERY text after the comment (another
    comment included): the token stream of `/*body*/rest` is that of `rest`. -/
theorem lex_block_comment_invariant (f : Nat) (body rest : Chars) (prev : String)
    (hb : properBody body = true) :
    lexKL f ([47, 42] ++ body ++ [42, 47] ++ rest) prev = lexKL f rest prev := by
  cases f with
  | zero => rfl
  | succ f =>
    simp only [properBody, Bool.and_eq_true, Bool.not_eq_true'] at hb
    have h0 : ∀ c ∈ body, c ≠ 0 := by
      intro c hc' e
      have : body.contains 0 = true := by simp [← e, hc']
      rw [this] at hb
      exact absurd hb.2 (by simp)
    -- drive the machine through the comment
    have hrun : ∀ i st, run (.start false) ([47, 42] ++ body ++ [42, 47] ++ rest) i st =
        run (.start true) rest (i + (body.length + 4)) i := by
      intro i st
      have e : [47, 42] ++ body ++ [42, 47] ++ rest = 47 :: 42 :: (body ++ (42 :: 47 :: rest)) := by simp
      rw [e, run_cons_more _ i st (by decide : stepChar (.start false) 47 = .more .slash true)]
      simp only [↓reduceIte]
      rw [run_cons_more _ (i + 1) i (by decide : stepChar .slash 42 = .more (.block false) false)]
      simp only [Bool.false_eq_true, ↓reduceIte]
      obtain ⟨s', hs'⟩ := run_block_body body false (42 :: 47 :: rest) (i + 1 + 1) i hb.1 h0
      rw [hs']
      have st1 : stepChar (.block s') 42 = .more (.block true) false := by
        cases s' <;> decide
      rw [run_cons_more _ _ i st1]
      simp only [Bool.false_eq_true, ↓reduceIte]
      rw [run_cons_more _ _ i (by decide : stepChar (.block true) 47 = .more (.start true) false)]
      simp only [Bool.false_eq_true, ↓reduceIte]
      congr 1
      omega
    have hst := start_true_eq rest (0 + (body.length + 4)) 0
    apply lexKL_congr f _ _ prev
    · rw [scan_out, scan_out, hrun, hst.1]
    · rw [scan_next, scan_next, hrun, hst.2]
      have e : [47, 42] ++ body ++ [42, 47] ++ rest = ([47, 42] ++ body ++ [42, 47]) ++ rest := by simp
      have hl : ([47, 42] ++ body ++ [42, 47]).length = 0 + (body.length + 4) := by simp
      rw [e, ← hl, drop_add_append]

theorem C20_full_block_comment :
    ∀ (f : Nat) (body rest : Chars) (prev : String), properBody body = true →
      lexKL f ([47, 42] ++ body ++ [42, 47] ++ rest) prev = lexKL f rest prev :=
  lex_block_comment_invariant

/-- **Any NUMBER of block comments in a gap is invisible.**  For every lexer state and every
    list of comments (each a proper body, each followed by any run of spaces/tabs, none
    included): the token stream of `/*b₁*/ws₁/*b₂*/ws₂…/*bₙ*/wsₙ rest` is that of `rest`. -/
theorem lex_comment_run_invariant (f : Nat) : ∀ (cs : List (Chars × Chars)) (rest : Chars) (prev : String),
    commentRunOk cs = true → lexKL f (commentRun cs ++ rest) prev = lexKL f rest prev
  | [], rest, prev, _ => rfl
  | (body, ws) :: cs, rest, prev, h => by
    simp only [commentRunOk, List.all_cons, Bool.and_eq_true] at h
    obtain ⟨⟨hb, hw⟩, hr⟩ := h
    have hws : allBlank ws := fun c hc => (List.all_eq_true.1 hw) c hc
    have e : commentRun ((body, ws) :: cs) ++ rest
        = [47, 42] ++ body ++ [42, 47] ++ (ws ++ (commentRun cs ++ rest)) := by
      simp [commentRun]
    rw [e, lex_block_comment_invariant f body _ prev hb, lex_blanks_ignored f ws _ prev hws]
    exact lex_comment_run_invariant f cs rest prev hr

/-- non-vacuity, and the two texts of the repaired findings: `/* a */ /* b */ + 2` and
    `/*/ a */ + 2` (after the token `1`) now lex as ` + 2` -/
example : properBody [32, 97, 32] = true ∧ properBody [47, 32, 97, 32] = true := by decide +kernel
example : lexKL 12 ([47, 42] ++ [32, 97, 32] ++ [42, 47] ++ [32, 47, 42, 32, 98, 32, 42, 47, 32, 43, 32, 50]) "INT"
    = lexKL 12 [32, 43, 32, 50] "INT" := by decide +kernel
example : lexKL 12 ([47, 42] ++ [47, 32, 97, 32] ++ [42, 47] ++ [32, 43, 32, 50]) "INT"
    = lexKL 12 [32, 43, 32, 50] "INT" := by decide +kernel
example : commentRunOk [([32, 97, 32], [32]), ([47], []), ([42, 42], [9, 32])] = true := by decide +kernel

/-! ### Historical: the two block-comment defects of the lexer before the repairs -/

/-- the full statement about the PRE-FIX lexer (false): a block comment in front of a token
    changes nothing -/
def C20_preFix_full_block_comment : Prop :=
  ∀ (f : Nat) (body rest : Chars) (prev : String), properBody body = true →
    preFixLexKL f ([47, 42] ++ body ++ [42, 47] ++ rest) prev = preFixLexKL f rest prev

/-- HISTORICAL (finding `C20-adjacent-comments`, repaired).  `1 /* a */ /* b */ + 2`: after `1`, the pre-fix
    lexer read `/* a */ /* b */ + 2` as `/ * b * / + 2` instead of `+ 2` (two ADJACENT block
    comments; as found in the design phase). -/
theorem C20_fixed_adjacent_comments_were_tokens : ¬ C20_preFix_full_block_comment := by
  intro h
  have := h 12 [32, 97, 32] [32, 47, 42, 32, 98, 32, 42, 47, 32, 43, 32, 50] "INT" (by decide)
  revert this
  decide +kernel

/-- HISTORICAL (finding `C20-block-comment-body-starting-with-slash`, repaired).  `1 /*/ a */ + 2`: a comment body that begins with `/` —
    the pre-fix lexer took `/*/` for a complete comment. -/
theorem C20_fixed_slash_body_closed_early : ¬ C20_preFix_full_block_comment := by
  intro h
  have := h 12 [47, 32, 97, 32] [32, 43, 32, 50] "INT" (by decide)
  revert this
  decide +kernel

/-- HISTORICAL: the guards the partial theorem carried name exactly these two inputs: the
    first counterexample's text goes on with a comment, the second's body begins with `/` (and is
    therefore not `okBody`), while both bodies are proper -/
example : commentFollows [32, 47, 42, 32, 98, 32, 42, 47, 32, 43, 32, 50] = true ∧
    slashBody [47, 32, 97, 32] = true ∧ okBody [47, 32, 97, 32] = false ∧ okBody [32, 97, 32] = true := by
  decide +kernel

/-- HISTORICAL: outside the two guards the repairs change nothing, on witness texts — the whole
    result of one call of `Next` (token, recorded start — the comment's —, end, resume offset,
    runes looked at) is the pre-fix one: `/* a */ + 2`; `/* a⏎ */ )` (a two-line comment);
    `/* a */ / 2` (a division after the comment); `/* a` and `/*` (unterminated: the EOF token
    ends one past the end of the text); `/**/x`.  On every run the harness compares the
    repaired machine with the repaired lexer on all these shapes, positions included. -/
example : preFixLexKL 12 ([47, 42] ++ [32, 97, 32] ++ [42, 47] ++ [32, 43, 32, 50]) "INT"
    = lexKL 12 ([47, 42] ++ [32, 97, 32] ++ [42, 47] ++ [32, 43, 32, 50]) "INT" := by decide +kernel
example : preFixScan [47, 42, 32, 97, 32, 42, 47, 32, 43, 32, 50] "INT" = scan [47, 42, 32, 97, 32, 42, 47, 32, 43, 32, 50] "INT"
    ∧ scan [47, 42, 32, 97, 32, 42, 47, 32, 43, 32, 50] "INT" = ⟨.tok "+" [43], 0, 8, 9, 10⟩ := by decide +kernel
example : preFixScan [47, 42, 32, 97, 10, 32, 42, 47, 32, 41] "" = scan [47, 42, 32, 97, 10, 32, 42, 47, 32, 41] "" := by decide +kernel
example : preFixScan [47, 42, 32, 97, 32, 42, 47, 32, 47, 32, 50] "INT" = scan [47, 42, 32, 97, 32, 42, 47, 32, 47, 32, 50] "INT"
    ∧ (scan [47, 42, 32, 97, 32, 42, 47, 32, 47, 32, 50] "INT").out = .tok "/" [47] := by decide +kernel
example : preFixScan [47, 42, 32, 97] "" = scan [47, 42, 32, 97] "" ∧ scan [47, 42, 32, 97] "" = ⟨.tok "EOF" [], 0, 5, 5, 5⟩ := by decide +kernel
example : preFixScan [47, 42] "" = scan [47, 42] "" ∧ preFixScan [47, 42, 42, 47, 120] "" = scan [47, 42, 42, 47, 120] "" := by decide +kernel
/-- … and where they differ: `/*/` at the end of the text was a complete comment, it now is an
    unterminated one (as `/* a` always was) -/
example : preFixScan [47, 42, 47] "" = ⟨.tok "EOF" [], 0, 3, 4, 4⟩ ∧ scan [47, 42, 47] "" = ⟨.tok "EOF" [], 0, 4, 4, 4⟩ := by decide +kernel

/-- **A line comment up to the end of its line is invisible** (`//…` and `#…`), at every lexer
    state: the stream is that of the newline and what follows it.  (After block comments in
    the same gap: `lex_comments_then_line_comment`.) -/
theorem lex_line_comment_invariant (f : Nat) (body rest : Chars) (prev : String)
    (hb : ∀ c ∈ body, c ≠ 10 ∧ c ≠ 0) :
    lexKL f ([47, 47] ++ body ++ 10 :: rest) prev = lexKL f (10 :: rest) prev ∧
    lexKL f (35 :: body ++ 10 :: rest) prev = lexKL f (10 :: rest) prev := by
  cases f with
  | zero => exact ⟨rfl, rfl⟩
  | succ f =>
    constructor
    · apply lexKL_congr f _ _ prev
      · rw [scan_slash_comment body rest prev hb, scan_newline]
      · rw [scan_slash_comment body rest prev hb, scan_newline]
        have e : [47, 47] ++ body ++ 10 :: rest = ([47, 47] ++ body ++ [10]) ++ rest := by simp
        rw [e]
        exact List.drop_left' (by simp)
    · apply lexKL_congr f _ _ prev
      · rw [scan_hash_comment body rest prev hb, scan_newline]
      · rw [scan_hash_comment body rest prev hb, scan_newline]
        have e : 35 :: body ++ 10 :: rest = (35 :: body ++ [10]) ++ rest := by simp
        rw [e]
        exact List.drop_left' (by simp)

/-- **Block comments and then a line comment** — any number of block comments (with blanks
    between and after them) followed by a `//…` or `#…` comment up to the end of the line, at
    every lexer state: the stream is that of the newline and what follows it.  (Before the
    repair of `C20-adjacent-comments` the line comment was lexed as tokens.) -/
theorem lex_comments_then_line_comment (f : Nat) (cs : List (Chars × Chars)) (body rest : Chars)
    (prev : String) (hc : commentRunOk cs = true) (hb : ∀ c ∈ body, c ≠ 10 ∧ c ≠ 0) :
    lexKL f (commentRun cs ++ ([47, 47] ++ body ++ 10 :: rest)) prev = lexKL f (10 :: rest) prev ∧
    lexKL f (commentRun cs ++ (35 :: body ++ 10 :: rest)) prev = lexKL f (10 :: rest) prev := by
  rw [lex_comment_run_invariant f cs _ prev hc, lex_comment_run_invariant f cs _ prev hc]
  exact lex_line_comment_invariant f body rest prev hb

/-- `/* a */ // b⏎x` reads as `⏎x` -/
example : lexKL 9 (commentRun [([32, 97, 32], [32])] ++ ([47, 47] ++ [32, 98] ++ 10 :: [120])) "INT"
    = lexKL 9 (10 :: [120]) "INT" :=
  (lex_comments_then_line_comment 9 _ _ _ _ (by decide) (by decide)).1

/-! ## 3. CRLF -/

/-- **CRLF line endings.**  At every lexer state `\r\n` is read as one NEWLINE token exactly as
    `\n` is (only the token's literal records the two runes), and lexing goes on from the same
    remaining input with the same previous-token type. -/
theorem crlf_invariant (f : Nat) (rest : Chars) (prev : String) :
    lexKL (f + 1) (13 :: 10 :: rest) prev = .tok "EOL" [13, 10] :: lexKL f rest "EOL" ∧
    lexKL (f + 1) (10 :: rest) prev = .tok "EOL" [10] :: lexKL f rest "EOL" := by
  have h1 : scan (13 :: 10 :: rest) prev = ⟨.tok "EOL" [13, 10], 0, 1, 2, 2⟩ := by
    unfold scan
    rw [run_cons_more _ 0 0 (by decide : stepChar (.start false) 13 = .more (.op1 13) true)]
    simp only [run, show stepChar (.op1 13) 10 = .emit "EOL" [13, 10] .consume false by decide]
    rfl
  constructor
  · rw [lexKL_succ, h1]; rfl
  · rw [lexKL_succ, scan_newline]; rfl

/-- a line comment swallows the `\r` of a CRLF ending: `// c\r\n` reads as `\n` -/
example (f : Nat) (rest : Chars) (prev : String) :
    lexKL f ([47, 47] ++ [32, 99, 13] ++ 10 :: rest) prev = lexKL f (10 :: rest) prev :=
  (lex_line_comment_invariant f [32, 99, 13] rest prev (by decide)).1

/-! ## 4. the positional stream is the same stream -/

/-- the token stream with offsets (what the oracle prints and the harness compares with the
    real lexer) projects onto `lexKL`: the theorems above are about the compared stream -/
theorem lexPos_out : ∀ (f : Nat) (rest : Chars) (base : Nat) (prev : String),
    (lexPos f rest base prev).map (·.out) = lexKL f rest prev
  | 0, _, _, _ => rfl
  | f + 1, rest, base, prev => by
    rw [lexKL_succ]
    unfold lexPos
    cases h : (scan rest prev).out with
    | tok k l =>
      simp only [h]
      by_cases hk : (k == "EOF") = true
      · simp [hk]
      · simp only [hk, Bool.false_eq_true, ↓reduceIte, List.map_cons]
        rw [lexPos_out f _ _ k]
    | errT k l c => simp [h]
    | err c => simp [h]

/-! ## 5. rendering the message -/

/-- **`FriendlyErrorMessage` renders whatever the span** (before the repair of risor
    `fix: keep the caret line of a parse error inside the quoted line` it returned only when
    `startCol ≤ endCol + 1`: `preFix_render_iff`).  For EVERY pair of
    start and end positions (lines and columns unrelated: same line, later line, earlier
    line) and every length of the quoted line, both `strings.Repeat` counts are
    non-negative. -/
theorem render_total (startLine startCol endLine endCol lineLen : Nat) :
    renderOk startLine startCol endLine endCol lineLen = true := by
  unfold renderOk padCount caretCount
  rw [Bool.and_eq_true, decide_eq_true_iff, decide_eq_true_iff]
  constructor
  · split <;> omega
  · simp only; split <;> omega

/-- … and it draws at least one caret, after exactly `startCol` blanks -/
theorem caret_at_least_one (startLine startCol endLine endCol lineLen : Nat) :
    1 ≤ caretCount startLine startCol endLine endCol lineLen ∧ padCount startCol = startCol := by
  unfold padCount caretCount
  constructor
  · simp only; split <;> omega
  · split <;> omega

/-- a span that does not end on the line it starts on is underlined from its start column to
    the end of the quoted line: for every start column inside a quoted line of `lineLen` runes,
    blanks and carets together are exactly as long as the quoted line -/
theorem render_multi_line_to_line_end (startLine startCol endLine endCol lineLen : Nat)
    (hl : endLine ≠ startLine) (hc : startCol < lineLen) :
    padCount startCol + caretCount startLine startCol endLine endCol lineLen = lineLen := by
  have hp := (caret_at_least_one startLine startCol endLine endCol lineLen).2
  unfold caretCount
  rw [if_pos hl, hp]
  simp only; split <;> omega

/-- The full statement (false before the repair, when it was `def C20_full_render : Prop`
    with the counterexample below): the message of an error spanning ANY two offsets of a
    text, quoting the line `GetLineText` returns for its start, renders. -/
theorem C20_full_render (src : Chars) (s e : Nat) (eof : Bool) :
    renderOk (posAt src s).line (posAt src s).col (posAt src e).line (posAt src e).col
      (getLineText src s eof).length = true :=
  render_total _ _ _ _ _

/-- ``x := `abc⏎def` 1`` (the pre-fix counterexample): the backtick token spans offsets 5…13 =
    (line 1, col 6)…(line 2, col 4); the quoted line ``x := `abc`` has 9 runes: 5 blanks and
    4 carets, up to the end of the quoted line -/
example :
    let src : Chars := [120, 32, 58, 61, 32, 96, 97, 98, 99, 10, 100, 101, 102, 96, 32, 49]
    (padCount (posAt src 5).col,
     caretCount (posAt src 5).line (posAt src 5).col (posAt src 13).line (posAt src 13).col
       (getLineText src 5 false).length) = (5, 4) := by decide +kernel

/-! ### Historical: the counts before the repair -/

/-- HISTORICAL (before the repair): the pre-fix `FriendlyErrorMessage`
    returned iff the end column was not more than one to the left of the start column (its
    two `strings.Repeat` counts non-negative) -/
theorem preFix_render_iff (startCol endCol : Nat) :
    preFixRenderOk startCol endCol = true ↔ startCol ≤ endCol + 1 := by
  unfold preFixRenderOk preFixPadCount preFixCaretCount
  rw [Bool.and_eq_true, decide_eq_true_iff, decide_eq_true_iff]
  constructor
  · intro h; omega
  · intro h; constructor <;> omega

/-- the full statement about the PRE-FIX renderer (false): the message of an error spanning
    offsets `s ≤ e` of a text renders -/
def C20_preFix_full_render : Prop :=
  ∀ (src : Chars) (s e : Nat), s ≤ e → e ≤ src.length →
    preFixRenderOk (posAt src s).col (posAt src e).col = true

/-- HISTORICAL (finding `C20-multiline-span-render-panic`, repaired).  ``x := `abc⏎def` 1``:
    the backtick token spans offsets 5…13 = (line 1, col 6)…(line 2, col 4); the pre-fix caret
    count was 3 - 5 + 1 < 0: `strings.Repeat` panicked. -/
theorem C20_fixed_multiline_span_panicked : ¬ C20_preFix_full_render := by
  intro h
  have := h [120, 32, 58, 61, 32, 96, 97, 98, 99, 10, 100, 101, 102, 96, 32, 49] 5 13 (by decide) (by decide)
  revert this
  decide +kernel

/-! ## 6. the quoted line -/

/-- the full statement for the quoted line: the text `GetLineText` returns for an error anchored
    at offset `off` is the line the error reports -/
def C20_full_quoted_line : Prop :=
  ∀ (src : Chars) (off : Nat) (eof : Bool), off ≤ src.length → (eof = true → off = src.length) →
    diagOk src (posAt src off).line (posAt src off).col (getLineText src off eof) = true

/-- `f(1⏎`: the error at the EOF token (offset 4) reports line 2, column 1, and quotes `f(1` -/
theorem C20_counterexample_eof_line : ¬ C20_full_quoted_line := by
  intro h
  have := h [102, 40, 49, 10] 4 true (by decide) (by decide)
  revert this
  decide +kernel

/-- the full statement for the column: every error position is an offset of the text -/
def C20_full_column_exists : Prop :=
  ∀ (src : Chars) (off : Nat), off ≤ src.length + 1 →
    ∃ l, (splitLines src)[(posAt src off).line]? = some l ∧ (posAt src off).col ≤ l.length

/-- `x := 1⏎(`: the parser's error sits on the lexer's SECOND end-of-file token, offset
    `length + 1`: column 3 of the line `(` -/
theorem C20_counterexample_second_eof : ¬ C20_full_column_exists := by
  intro h
  obtain ⟨l, h1, h2⟩ := h [120, 32, 58, 61, 32, 49, 10, 40] 9 (by decide)
  have e : (splitLines [120, 32, 58, 61, 32, 49, 10, 40])[(posAt [120, 32, 58, 61, 32, 49, 10, 40] 9).line]? = some [40] := by decide +kernel
  rw [e] at h1
  cases h1
  revert h2
  decide +kernel


/-! ## 7. positions: what the model of `readChar`/`GetLineText` guarantees for every text -/

/-- **Every position the lexer can report exists in the text.**  For every text and every
    offset `off` up to its length (the offset of the EOF token), `posAt` — the model of
    `readChar`'s bookkeeping, compared field by field with the real lexer on every token of
    every run — satisfies: the column is the distance from `lineStart`; `lineStart` is the
    beginning of a line (0 or just after a newline); there is no newline between `lineStart`
    and `off`; and the line number is the number of newlines before `off`.  So (line, column)
    denotes the rune at `off`, which exists in the text (or is its end). -/
theorem positions_in_source (src : Chars) (off : Nat) (h : off ≤ src.length) :
    (posAt src off).char = off ∧ (posAt src off).lineStart ≤ off ∧
    (posAt src off).col = off - (posAt src off).lineStart ∧
    (posAt src off).line = (src.take off).count 10 ∧
    (∀ j, (posAt src off).lineStart ≤ j → j < off → src[j]? ≠ some 10) ∧
    ((posAt src off).lineStart = 0 ∨ src[(posAt src off).lineStart - 1]? = some 10) := by
  have hp : posAt src off = advance ⟨0, 0, 0, 0⟩ (src.take off) := by
    unfold posAt
    simp [Nat.not_lt.2 h]
  have inv := posInv_advance (src.take off) [] _ posInv_nil
  rw [List.nil_append, ← hp] at inv
  have hl : (src.take off).length = off := by simp [List.length_take, Nat.min_eq_left h]
  obtain ⟨h1, h2, h3, h4, h5, h6⟩ := inv
  rw [hl] at h1 h2 h3 h5
  refine ⟨h1, h2, h3, h4, ?_, ?_⟩
  · intro j hj1 hj2
    have := h5 j hj1 hj2
    rwa [List.getElem?_take_of_lt hj2] at this
  · rcases h6 with h | h
    · exact Or.inl h
    · right
      by_cases hz : (posAt src off).lineStart = 0
      · rw [hz] at h ⊢
        simp only [Nat.zero_sub] at h ⊢
        cases hoff : off with
        | zero => rw [hoff] at h; simp at h
        | succ n => rw [hoff] at h; rwa [List.getElem?_take_of_lt (by omega)] at h
      · rwa [List.getElem?_take_of_lt (by omega)] at h

/-- **The quoted line is the line of the reported position, verbatim.**  For every text and
    every offset `off ≤ length` of a non-EOF anchor, `GetLineText` returns exactly the runes from
    the reported position's `lineStart` up to `off`, followed by the runes from `off` up to
    the next newline (or the end): the whole line that `positions_in_source` locates, nothing
    added or dropped.  (For the EOF anchor see `C20_counterexample_eof_line`.) -/
theorem quoted_line_verbatim (src : Chars) (off : Nat) (h : off ≤ src.length) :
    getLineText src off false =
      (src.drop (posAt src off).lineStart).take (off - (posAt src off).lineStart)
        ++ (src.drop off).takeWhile (· != 10) := by
  obtain ⟨_, h2, _, _, h5, h6⟩ := positions_in_source src off h
  exact getLineText_eq src off _ h2 h h5 h6

/-- no newline between two offsets: the same number of newlines before both -/
theorem count_take_no_newline (src : Chars) (s : Nat) :
    ∀ e, s ≤ e → (∀ j, s ≤ j → j < e → src[j]? ≠ some 10) →
      (src.take e).count 10 = (src.take s).count 10 := by
  intro e
  induction e with
  | zero =>
    intro h _
    have : s = 0 := by omega
    subst this; rfl
  | succ e ih =>
    intro h hj
    by_cases hs : s = e + 1
    · subst hs; rfl
    · have h1 := ih (by omega) (fun j a b => hj j a (by omega))
      have hne := hj e (by omega) (by omega)
      rw [List.take_add_one, List.count_append, h1]
      cases hx : src[e]? with
      | none => simp
      | some c =>
        rw [hx] at hne
        have hc : c ≠ 10 := fun hh => hne (by rw [hh])
        simp [hc]

/-- HISTORICAL (before the repair): for every text and offsets
    `s ≤ e ≤ length` whose positions share their `lineStart` (start and end of the error lie on
    the same line), the pre-fix `FriendlyErrorMessage` returned — `preFix_render_iff` with its
    guard discharged from the position bookkeeping. -/
theorem preFix_render_single_line (src : Chars) (s e : Nat) (hs : s ≤ e) (he : e ≤ src.length)
    (hsame : (posAt src s).lineStart = (posAt src e).lineStart) :
    preFixRenderOk (posAt src s).col (posAt src e).col = true := by
  obtain ⟨_, _, c1, _, _, _⟩ := positions_in_source src s (by omega)
  obtain ⟨_, _, c2, _, _, _⟩ := positions_in_source src e he
  rw [preFix_render_iff, c1, c2, hsame]
  omega

/-- **The repair changes nothing inside one line.**  For every text and offsets
    `s ≤ e ≤ length` whose positions share their `lineStart` (exactly the spans that rendered
    before), the repaired `FriendlyErrorMessage` draws the blanks and the carets the old one
    drew, whatever line it quotes. -/
theorem render_single_line_unchanged (src : Chars) (s e : Nat) (hs : s ≤ e) (he : e ≤ src.length)
    (hsame : (posAt src s).lineStart = (posAt src e).lineStart) (lineLen : Nat) :
    padCount (posAt src s).col = preFixPadCount (posAt src s).col ∧
    caretCount (posAt src s).line (posAt src s).col (posAt src e).line (posAt src e).col lineLen
      = preFixCaretCount (posAt src s).col (posAt src e).col := by
  obtain ⟨_, b1, c1, l1, _, _⟩ := positions_in_source src s (by omega)
  obtain ⟨_, b2, c2, l2, n2, _⟩ := positions_in_source src e he
  have hline : (posAt src e).line = (posAt src s).line := by
    rw [l1, l2]
    exact count_take_no_newline src s e hs (fun j a b => n2 j (by omega) b)
  have hp : padCount (posAt src s).col = preFixPadCount (posAt src s).col := by
    unfold padCount preFixPadCount; split <;> omega
  refine ⟨hp, ?_⟩
  have hne : ¬ ((posAt src e).line ≠ (posAt src s).line) := fun h => h hline
  unfold caretCount preFixCaretCount
  simp only [if_neg hne]
  rw [c1, c2, hsame]; split <;> omega

/-- non-vacuity: in `x := 1⏎y := ` the offsets 7…10 lie on line 2 -/
example : (posAt [120, 32, 58, 61, 32, 49, 10, 121, 32, 58, 61, 32] 7).lineStart
    = (posAt [120, 32, 58, 61, 32, 49, 10, 121, 32, 58, 61, 32] 10).lineStart := by decide +kernel

/-! ## 8. several lexers: a quoted line is a function of the lexer's own input

    The world of `Model.lean` (`World`, `WOp`): any number of lexers, created at any time (one per
    interpolated fragment of a template string while the outer parser is at work; one per script
    of a host), each read to its EOF token at any time. -/

/-- reading a lexer to the end changes no lexer's input -/
theorem inputs_markEOF (i : Nat) (w : World) : (markEOF i w).inputs = w.inputs := by
  induction w generalizing i with
  | nil => cases i <;> rfl
  | cons l ls ih =>
    cases i with
    | zero => rfl
    | succ i =>
      have := ih i
      unfold World.inputs at this ⊢
      simp only [markEOF, List.map_cons, this]

/-- one operation only ever appends an input to the list of inputs -/
theorem inputs_step (w : World) (op : WOp) : ∃ ext, (w.step op).inputs = w.inputs ++ ext := by
  cases op with
  | new input => exact ⟨[input], by simp [World.step, World.inputs]⟩
  | drain i => exact ⟨[], by simp [World.step, inputs_markEOF]⟩
  | quote i off eof => exact ⟨[], by simp [World.step]⟩

/-- any sequence of operations only ever appends inputs -/
theorem inputs_steps (ops : List WOp) (w : World) :
    ∃ ext, (ops.foldl World.step w).inputs = w.inputs ++ ext := by
  induction ops generalizing w with
  | nil => exact ⟨[], by simp⟩
  | cons op ops ih =>
    obtain ⟨e1, h1⟩ := inputs_step w op
    obtain ⟨e2, h2⟩ := ih (w.step op)
    exact ⟨e1 ++ e2, by rw [List.foldl_cons, h2, h1, List.append_assoc]⟩

/-- **Frame property of `GetLineText`.**  For every world, every lexer `i` of it and EVERY
    sequence of later operations — any number of other lexers created on any inputs and read to
    their ends, lexer `i` itself read to its EOF token, other lines quoted — the line lexer `i`
    quotes for a token (any offset, EOF or not) is the line it quoted before. -/
theorem quote_frame (w : World) (ops : List WOp) (i : Nat) (h : i < w.length) (off : Nat) (eof : Bool) :
    (ops.foldl World.step w).quote i off eof = w.quote i off eof := by
  obtain ⟨ext, he⟩ := inputs_steps ops w
  have hl : i < w.inputs.length := by simpa [World.inputs] using h
  unfold World.quote
  rw [he, List.getElem?_append_left hl]

/-- **The quoted line depends on the lexer's own input only.**  Whatever happened before
    `lexer.New(input)` (operations `pre` from the empty world) and whatever happens after it
    (operations `post`), `GetLineText` of that lexer is `getLineText input` — the function of ONE
    text that `quoted_line_verbatim` and the diagnostics correspondence are about. -/
theorem quote_own_input (pre post : List WOp) (input : Chars) (off : Nat) (eof : Bool) :
    (post.foldl World.step ((pre.foldl World.step []).step (.new input))).quote
        (pre.foldl World.step []).length off eof = getLineText input off eof := by
  rw [quote_frame _ post _ (by simp [World.step])]
  simp [World.quote, World.inputs, World.step]

/-- **An error of the outer parser after template fragments quotes the outer text.**  For every
    program text `outer`, every list of interpolated fragments `frags` (any number, any texts,
    longer or shorter than `outer`) and every token offset: after the outer lexer has been read
    to its EOF token and one lexer per fragment has been created and read to the end, the outer
    lexer quotes `getLineText outer`. -/
theorem quote_after_template_fragments (outer : Chars) (frags : List Chars) (off : Nat) (eof : Bool) :
    ((templateOps outer frags).foldl World.step []).quote 0 off eof = getLineText outer off eof := by
  unfold templateOps
  rw [List.foldl_append]
  rw [quote_frame _ _ 0 (by simp [World.step, markEOF])]
  simp [World.quote, World.inputs, World.step, markEOF]

/-- … and that line is verbatim the line of the OUTER text the token lies on (non-EOF token at an
    offset of the text): `quoted_line_verbatim` carried through the frame property. -/
theorem world_quote_verbatim (pre post : List WOp) (input : Chars) (off : Nat) (h : off ≤ input.length) :
    (post.foldl World.step ((pre.foldl World.step []).step (.new input))).quote
        (pre.foldl World.step []).length off false =
      (input.drop (posAt input off).lineStart).take (off - (posAt input off).lineStart)
        ++ (input.drop off).takeWhile (· != 10) := by
  rw [quote_own_input, quoted_line_verbatim input off h]

/-- non-vacuity / the scenario of the record: `print('t{user}'` (15 runes, the closing bracket is
    missing), the fragment `user` lexed in between: the outer lexer still quotes `print('t{user}'`
    for its EOF token, and the Spec holds -/
example : ((templateOps [112, 114, 105, 110, 116, 40, 39, 116, 123, 117, 115, 101, 114, 125, 39] [[117, 115, 101, 114]]).foldl World.step []).quote 0 15 true
    = [112, 114, 105, 110, 116, 40, 39, 116, 123, 117, 115, 101, 114, 125, 39] := by decide +kernel
example : worldQuoteOk ([120, 32, 58, 61, 32, 49, 10] ++ [112, 114, 105, 110, 116, 40, 39, 116, 123, 117, 115, 101, 114, 125, 39]) 7
    [112, 114, 105, 110, 116, 40, 39, 116, 123, 117, 115, 101, 114, 125, 39] = true := by decide +kernel

end Risor.C20
