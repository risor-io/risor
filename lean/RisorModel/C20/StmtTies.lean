import RisorModel.C20.Stmt
import RisorModel.Generated.C20Stmt
/-!
C20 statement-level ties: the tables regenerated from parser/parser.go on this run (extract/c20stmt.go)
equal the tables the statement model of Stmt.lean is written against.  A newline skip added to (or
removed from) any function of the statement fragment, a changed terminator set, a changed
`switch` of `parseStatement` or a changed token test of `parseIf`/`parseReturn`/`parseBlock`/`parseVar`/
`parseDeclaration` breaks one of these.
-/
namespace Risor.C20.St
open Risor.C01.Pratt

/-- `var statementTerminators` -/
theorem terminators_tie : Risor.Generated.C20Stmt.statementTerminators = terminators.map Kind.name := by rfl

/-- every function of parser.go that mentions `token.NEWLINE` or calls `eatNewlines` -/
theorem newlineSites_tie : Risor.Generated.C20Stmt.newlineSites = newlineSites := by rfl

/-- of the functions of the statement fragment exactly `parseReturn` and `parseStatement` look at NEWLINE
    (the allowed-gap set of the statement level: a NEWLINE is an empty statement / ends a bare return,
    and nothing inside a statement skips one) -/
theorem stmtNewlineSites_tie :
    Risor.Generated.C20Stmt.newlineSites.filter (fun f => stmtFunctions.contains f) = stmtNewlineSites := by rfl

/-- the `switch` of `parseStatement` -/
theorem statementCases_tie : Risor.Generated.C20Stmt.statementCases = statementCases.map Kind.name := by rfl

theorem looksStatement_tie : Risor.Generated.C20Stmt.looks_parseStatement = looksStatement := by rfl
theorem looksStrict_tie : Risor.Generated.C20Stmt.looks_parseStatementStrict = looksStrict := by rfl
/-- the four peek tokens of a bare `return` are `returnEnds` -/
theorem looksReturn_tie : Risor.Generated.C20Stmt.looks_parseReturn = looksReturn := by rfl
/-- `parseIf`: `{` directly behind the condition, `else` directly behind `}`, `if`/`{` directly behind `else` -/
theorem looksIf_tie : Risor.Generated.C20Stmt.looks_parseIf = looksIf := by rfl
theorem looksBlock_tie : Risor.Generated.C20Stmt.looks_parseBlock = looksBlock := by rfl
theorem looksVar_tie : Risor.Generated.C20Stmt.looks_parseVar = looksVar := by rfl
theorem looksDeclaration_tie : Risor.Generated.C20Stmt.looks_parseDeclaration = looksDeclaration := by rfl

end Risor.C20.St
