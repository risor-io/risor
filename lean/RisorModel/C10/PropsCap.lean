import RisorModel.C10.ModelCap
import RisorModel.C10.Lemmas
/-!
C10, capacity theorems: for EVERY capacity (0 included) and EVERY schedule of the channel
machine.  Stated over `step`/`run`/`runObs` of `Model.lean`/`ModelCap.lean`; the only state
fields mentioned are `cap`, `buf`, `closed` (what the code has) — the history fields are not
used, the values accepted and handed out are read off the observations.
-/
namespace Risor.C10

/-- what one enabled step does to capacity, queue length, queue contents and closedness -/
theorem step_cap_facts (c c' : Chan) (o : Op) (ob : Obs) (h : step c o = some (c', ob)) :
    c'.cap = c.cap ∧ (c.buf.length ≤ c.cap → c'.buf.length ≤ c.cap) ∧
    c.buf ++ acc1 o ob = rec1 ob ++ c'.buf ∧
    (c.closed = true → c'.closed = true ∧ acc1 o ob = []) := by
  cases step_eff c c' o ob h with
  | same o ob _ ha hr =>
    exact ⟨rfl, id, by rw [ha, hr, List.append_nil, List.nil_append], fun hc => ⟨hc, ha⟩⟩
  | send t v hcl hroom =>
    refine ⟨rfl, fun _ => ?_, rfl, fun hc => ?_⟩
    · simp only [List.length_append, List.length_singleton]; omega
    · rw [hcl] at hc; cases hc
  | close t => exact ⟨rfl, id, List.append_nil _, fun _ => ⟨rfl, rfl⟩⟩
  | recv t v rest _ hb | next t v rest _ hb =>
    refine ⟨rfl, fun hl => ?_, by simp [acc1, rec1, recvOf, nextOf, hb], fun hc => ⟨hc, rfl⟩⟩
    rw [hb] at hl
    exact Nat.le_of_succ_le hl
  | entry | entryNone => exact ⟨rfl, id, List.append_nil _, fun hc => ⟨hc, rfl⟩⟩
  | handRecv s r v _ hb hcl | handNext s r v _ hb hcl =>
    refine ⟨rfl, fun _ => Nat.zero_le _, by simp [acc1, rec1, recvOf, nextOf, hb], fun hc => ?_⟩
    rw [hcl] at hc; cases hc

theorem runObs_cons {c c' : Chan} {o : Op} {os : List Op} {obs : List Obs}
    (h : runObs c (o :: os) = some (c', obs)) :
    ∃ c1 ob obs', step c o = some (c1, ob) ∧ runObs c1 os = some (c', obs') ∧ obs = ob :: obs' := by
  simp only [runObs] at h
  split at h
  · rename_i c1 ob hs
    split at h
    · rename_i cf obs' hr
      cases h
      exact ⟨c1, ob, obs', hs, hr, rfl⟩
    · cases h
  · cases h

/-- `runObs` is `run` with the observations kept -/
theorem runObs_run (ops : List Op) (c c' : Chan) (obs : List Obs) (h : runObs c ops = some (c', obs)) :
    run c ops = some c' := by
  induction ops generalizing c obs with
  | nil => cases h; rfl
  | cons o os ih =>
    obtain ⟨c1, ob, obs', hs, hr, rfl⟩ := runObs_cons h
    simp only [run, hs]
    exact ih c1 obs' hr

/-- every executable schedule has its observations -/
theorem run_runObs (ops : List Op) (c c' : Chan) (h : run c ops = some c') :
    ∃ obs, runObs c ops = some (c', obs) := by
  induction ops generalizing c with
  | nil => simp only [run, Option.some.injEq] at h; exact ⟨[], by simp [runObs, h]⟩
  | cons o os ih =>
    simp only [run] at h
    split at h
    · rename_i c1 ob hs
      obtain ⟨obs, ho⟩ := ih c1 h
      exact ⟨ob :: obs, by simp [runObs, hs, ho]⟩
    · cases h

/-- the capacity never changes and a queue within its capacity stays within it, along any schedule -/
theorem runObs_cap (ops : List Op) (c c' : Chan) (obs : List Obs) (h : runObs c ops = some (c', obs))
    (hl : c.buf.length ≤ c.cap) : c'.cap = c.cap ∧ c'.buf.length ≤ c.cap := by
  induction ops generalizing c obs with
  | nil => cases h; exact ⟨rfl, hl⟩
  | cons o os ih =>
    obtain ⟨c1, ob, obs', hs, hr, rfl⟩ := runObs_cons h
    have hf := step_cap_facts c c1 o ob hs
    have := ih c1 obs' hr (by rw [hf.1]; exact hf.2.1 hl)
    rw [← hf.1]; exact this

/-- **buffer_never_exceeds_cap.**  For every capacity `cap` (0 included) and every schedule
    `ops` of sends, receives, closes, iteration steps and hand-offs by any threads, in the
    state reached (hence in EVERY reachable state: every prefix of a schedule is a schedule)
    the channel still has the capacity it was made with and its queue holds at most `cap`
    values. -/
theorem buffer_never_exceeds_cap (cap : Nat) (ops : List Op) (c : Chan) (h : run (init cap) ops = some c) :
    c.cap = cap ∧ c.buf.length ≤ cap := by
  obtain ⟨obs, ho⟩ := run_runObs ops _ _ h
  exact runObs_cap ops (init cap) c obs ho (by simp [init])

/-- in ANY state a send by a thread that is not inside an iteration step is refused
    (blocks) exactly when the channel is open and has no room -/
theorem send_blocks_iff_no_room (c : Chan) (t : Nat) (v : Msg) (hp : isPend c t = false) :
    step c (.send t v) = none ↔ (c.closed = false ∧ c.cap ≤ c.buf.length) := by
  simp only [step, hp, Bool.false_eq_true, ↓reduceIte]
  cases hc : c.closed with
  | true => simp
  | false =>
    simp only [Bool.false_eq_true, ↓reduceIte, true_and]
    by_cases hlt : c.buf.length < c.cap
    · simp [hlt]
    · simp [hlt]; omega

/-- **send_blocks_iff_full.**  For every capacity and every schedule: in the state reached, a
    send on the OPEN channel by a thread `t` (not between its `Next` and `Entry`) with no
    receiver waiting for it — the `send` step; a waiting receiver is the separate `handoff`
    step — blocks iff the queue holds exactly `cap` values, i.e. iff `sendBlocks`.  With
    `cap = 0` that is always (`unbuffered_send_needs_receiver`). -/
theorem send_blocks_iff_full (cap : Nat) (ops : List Op) (c : Chan) (h : run (init cap) ops = some c)
    (t : Nat) (v : Msg) (hp : isPend c t = false) (hc : c.closed = false) :
    (step c (.send t v) = none ↔ c.buf.length = cap) ∧ (step c (.send t v) = none ↔ sendBlocks c = true) := by
  have hi := buffer_never_exceeds_cap cap ops c h
  have hb := send_blocks_iff_no_room c t v hp
  constructor
  · rw [hb]; constructor
    · intro ⟨_, hge⟩; omega
    · intro he; exact ⟨hc, by omega⟩
  · rw [hb]; simp only [sendBlocks, isFull, hc, Bool.not_false, Bool.true_and, beq_iff_eq, true_and]
    omega

/-- a send that is not refused on an open channel is accepted, and the queue grows by exactly
    that value at its tail -/
theorem send_with_room_enqueues (c : Chan) (t : Nat) (v : Msg) (hp : isPend c t = false)
    (hc : c.closed = false) (hr : c.buf.length < c.cap) :
    ∃ c', step c (.send t v) = some (c', .sendOk) ∧ c'.buf = c.buf ++ [v] ∧ c'.closed = false := by
  simp [step, hp, hc, hr]

/-- with capacity 0 a `send` step is never enabled while the channel is open, in any
    reachable state: a value passes an unbuffered channel only by a hand-off to a receiver
    that is waiting -/
theorem unbuffered_send_needs_receiver (ops : List Op) (c : Chan) (h : run (init 0) ops = some c)
    (t : Nat) (v : Msg) (hp : isPend c t = false) (hc : c.closed = false) :
    step c (.send t v) = none ∧ c.buf = [] := by
  have hi := buffer_never_exceeds_cap 0 ops c h
  have hl : c.buf.length = 0 := by omega
  exact ⟨((send_blocks_iff_full 0 ops c h t v hp hc).1).2 hl, List.length_eq_zero_iff.mp hl⟩

/-- the queue bookkeeping of any schedule from any state: what was queued followed by what
    was accepted = what was dequeued followed by what is queued -/
theorem runObs_fifo (ops : List Op) (c c' : Chan) (obs : List Obs) (h : runObs c ops = some (c', obs)) :
    c.buf ++ accepted ops obs = received obs ++ c'.buf := by
  induction ops generalizing c obs with
  | nil => cases h; simp [accepted, received]
  | cons o os ih =>
    obtain ⟨c1, ob, obs', hs, hr, rfl⟩ := runObs_cons h
    have hf := (step_cap_facts c c1 o ob hs).2.2.1
    have hi := ih c1 obs' hr
    simp only [accepted, received]
    rw [← List.append_assoc, hf, List.append_assoc, hi, List.append_assoc]

/-- **fifo_any_capacity.**  For every capacity — buffered or 0 — and every schedule (any
    number of senders and receivers, explicit receives, iteration steps, hand-offs, closes, in
    any interleaving): the values handed out by the channel, in the order the dequeues
    happened, followed by what is still queued, are exactly the values the channel accepted,
    in the order it accepted them.  Delivery order = send order; nothing is lost, duplicated or
    overtaken inside the channel, whatever its capacity.  (Both sides are read off the
    observations of the run, not off history fields.) -/
theorem fifo_any_capacity (cap : Nat) (ops : List Op) (c : Chan) (obs : List Obs)
    (h : runObs (init cap) ops = some (c, obs)) :
    received obs ++ c.buf = accepted ops obs := by
  have := runObs_fifo ops (init cap) c obs h
  simpa [init] using this.symm

/-- the observation-level reading agrees with the history fields the older theorems use:
    `sent` is what was accepted and `deq` what was received -/
theorem fifo_any_capacity_prefix (cap : Nat) (ops : List Op) (c : Chan) (obs : List Obs)
    (h : runObs (init cap) ops = some (c, obs)) :
    received obs <+: accepted ops obs ∧ (received obs).length + c.buf.length = (accepted ops obs).length ∧
    (received obs).length + cap ≥ (accepted ops obs).length := by
  have hf := fifo_any_capacity cap ops c obs h
  have hc := buffer_never_exceeds_cap cap ops c (runObs_run ops _ _ _ h)
  refine ⟨⟨c.buf, hf⟩, ?_, ?_⟩
  · rw [← hf]; simp
  · rw [← hf]; simp only [List.length_append]; omega

/-- once closed, a channel stays closed and accepts nothing, along any schedule -/
theorem runObs_closed (ops : List Op) (c c' : Chan) (obs : List Obs) (h : runObs c ops = some (c', obs))
    (hc : c.closed = true) : c'.closed = true ∧ accepted ops obs = [] := by
  induction ops generalizing c obs with
  | nil => cases h; exact ⟨hc, rfl⟩
  | cons o os ih =>
    obtain ⟨c1, ob, obs', hs, hr, rfl⟩ := runObs_cons h
    have hf := (step_cap_facts c c1 o ob hs).2.2.2 hc
    have hi := ih c1 obs' hr hf.1
    exact ⟨hi.1, by simp [accepted, hf.2, hi.2]⟩

/-- **close_with_buffered_values_drains_in_order.**  For every capacity, every schedule `ops`
    leading to an open state `c` with any values buffered, every thread `t` closing the
    channel there and EVERY continuation `rest` (receives and iteration steps by any threads,
    further sends — all refused with an error —, further closes, in any interleaving): the
    values handed out after the close, in the order they are handed out, followed by what is
    still queued, are exactly the values that were buffered at the close, in buffer order.
    The close drops nothing, nothing enters afterwards, the channel stays closed. -/
theorem close_with_buffered_values_drains_in_order (cap : Nat) (ops : List Op) (c : Chan)
    (_h : run (init cap) ops = some c) (t : Nat) (rest : List Op) (c' : Chan) (obs : List Obs)
    (hr : runObs c (.close t :: rest) = some (c', obs)) (hc : c.closed = false) :
    received obs ++ c'.buf = c.buf ∧ c'.closed = true ∧ accepted (.close t :: rest) obs = [] := by
  have hf := runObs_fifo _ c c' obs hr
  -- the first step is the close
  obtain ⟨c1, ob, obs', hs, hro, rfl⟩ := runObs_cons hr
  have h1 : c1.closed = true ∧ acc1 (.close t) ob = [] := by
    simp only [step] at hs
    split at hs
    · cases hs
    · simp only [hc, Bool.false_eq_true, ↓reduceIte, Option.some.injEq, Prod.mk.injEq] at hs
      rw [← hs.1]; exact ⟨rfl, by simp [acc1]⟩
  have h2 := runObs_closed rest c1 c' obs' hro h1.1
  have ha : accepted (.close t :: rest) (ob :: obs') = [] := by simp [accepted, h1.2, h2.2]
  rw [ha, List.append_nil] at hf
  exact ⟨hf.symm, h2.1, ha⟩

/-- the constructive half: in ANY closed state with values `c.buf` queued, `c.buf.length`
    receives by any threads `ts` (none of them between its `Next` and `Entry`) are all
    enabled and return exactly the queued values in queue order; the channel is then closed
    and drained, and the next receive by such a thread returns nil -/
theorem closed_drains_by_receives (c : Chan) (ts : List Nat) (hc : c.closed = true)
    (hl : ts.length = c.buf.length) (hp : ∀ t ∈ ts, isPend c t = false) :
    ∃ c', runObs c (ts.map .recv) = some (c', c.buf.map .val) ∧ c'.buf = [] ∧ c'.closed = true ∧
      (∀ t, isPend c t = false → step c' (.recv t) = some (c', .nil)) := by
  induction ts generalizing c with
  | nil =>
    have hb : c.buf = [] := List.length_eq_zero_iff.mp (by simpa using hl.symm)
    refine ⟨c, by simp [runObs, hb], hb, hc, ?_⟩
    intro t ht
    simp [step, ht, hb, hc]
  | cons t ts ih =>
    cases hb : c.buf with
    | nil => rw [hb] at hl; simp at hl
    | cons v rest =>
      have hpt : isPend c t = false := hp t (by simp)
      have hs : step c (.recv t) = some (recvOf c t v rest, .val v) := by
        simp [step, hpt, hb]
      have hpe : ∀ t', isPend (recvOf c t v rest) t' = isPend c t' := by
        intro t'; simp [isPend, recvOf]
      obtain ⟨c', hr, hb', hc', hn⟩ := ih (recvOf c t v rest) (by simp [recvOf, hc])
        (by rw [hb] at hl; simp only [List.length_cons] at hl; simp [recvOf]; omega)
        (by intro t' ht'; rw [hpe]; exact hp t' (by simp [ht']))
      refine ⟨c', ?_, hb', hc', ?_⟩
      · simp only [List.map_cons, runObs, hs]
        have : (recvOf c t v rest).buf = rest := by simp [recvOf]
        rw [this] at hr
        simp [hr]
      · intro t' ht'; exact hn t' (by rw [hpe]; exact ht')

/-! ### The hypotheses are satisfiable -/

/-- a capacity-2 channel: two sends fill it, the third blocks; a receive makes room -/
example : run (init 2) [.send 0 (0, 0), .send 1 (1, 0)] =
    some { cap := 2, buf := [(0, 0), (1, 0)], sent := [(0, 0), (1, 0)] } := by decide +kernel
example : step { cap := 2, buf := [(0, 0), (1, 0)], sent := [(0, 0), (1, 0)] } (.send 0 (0, 1)) = none := by decide +kernel
example : sendBlocks { cap := 2, buf := [(0, 0), (1, 0)] } = true := by decide +kernel
/-- capacity 0: a send alone blocks, a hand-off delivers -/
example : step (init 0) (.send 0 (0, 0)) = none := by decide +kernel
example : (runObs (init 0) [.handoff 0 1 (0, 0) false, .handoff 0 1 (0, 1) false]).map (·.2) =
    some [.val (0, 0), .val (0, 1)] := by decide +kernel
/-- close with two values buffered: both come out, in order, then nil -/
example : (runObs (init 3) [.send 0 (0, 0), .send 0 (0, 1), .close 0, .recv 1, .send 0 (0, 2), .recv 2, .recv 1]).map (·.2) =
    some [.sendOk, .sendOk, .closeOk, .val (0, 0), .sendErr, .val (0, 1), .nil] := by decide +kernel
example : received [.sendOk, .sendOk, .closeOk, .val (0, 0), .sendErr, .val (0, 1), .nil] = [(0, 0), (0, 1)] := by decide +kernel

end Risor.C10
