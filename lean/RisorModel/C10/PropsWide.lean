import RisorModel.C10.ModelWide
import RisorModel.C10.Props
/-!
C10, round 6: a spawned call receives EVERY argument of the spawn statement, however many
there are, and binds its parameters exactly as the same statement made as a direct call
(defaults only for the parameters the statement gave no argument for).
-/
namespace Risor.C10

/-- a call is made (no arity error) exactly when the number of arguments lies between the
    number of required parameters and the number of all parameters -/
theorem bind_some_iff (f : Fn) (vals : List Int) :
    (bindParams f vals).isSome = true ↔ f.req ≤ vals.length ∧ vals.length ≤ f.req + f.defs.length := by
  unfold bindParams
  by_cases h1 : vals.length < f.req
  · simp [h1] <;> omega
  · by_cases h2 : f.req + f.defs.length < vals.length
    · simp [h1, h2] <;> omega
    · simp [h1, h2] <;> omega

/-- the parameters of a call that is made start with ALL the arguments given (whatever their
    number), and every parameter has a value -/
theorem bind_takes_every_argument (f : Fn) (vals ps : List Int) (h : bindParams f vals = some ps) :
    ps.take vals.length = vals ∧ ps.length = f.req + f.defs.length := by
  unfold bindParams at h
  by_cases h1 : vals.length < f.req
  · simp [h1] at h
  · by_cases h2 : f.req + f.defs.length < vals.length
    · simp [h1, h2] at h
    · simp only [h1, h2, if_false, Option.some.injEq] at h
      subst h
      refine ⟨by simp, ?_⟩
      simp only [List.length_append, List.length_drop]
      omega

/-- a given argument always beats the default: parameter `i` of a call with more than `i`
    arguments is argument `i` -/
theorem bind_given_argument_beats_default (f : Fn) (vals ps : List Int) (h : bindParams f vals = some ps)
    (i : Nat) (hi : i < vals.length) : ps[i]? = vals[i]? := by
  have h1 := (bind_takes_every_argument f vals ps h).1
  have : (ps.take vals.length)[i]? = ps[i]? := by
    rw [List.getElem?_take]; simp [hi]
  rw [← this, h1]

/-- a default is used only for a parameter beyond the arguments given -/
theorem bind_default_only_beyond_arguments (f : Fn) (vals ps : List Int) (h : bindParams f vals = some ps) :
    ps.drop vals.length = f.defs.drop (vals.length - f.req) := by
  unfold bindParams at h
  by_cases h1 : vals.length < f.req
  · simp [h1] at h
  · by_cases h2 : f.req + f.defs.length < vals.length
    · simp [h1, h2] at h
    · simp only [h1, h2, if_false, Option.some.injEq] at h
      subst h
      simp

/-- **A spawned call binds its parameters as the direct call at the spawn site does.**
    For every function (any number of required parameters and defaults), every list of argument
    expressions OF ANY LENGTH, every history before the spawn (`s`) and every schedule after it
    (`rest`: the spawner reassigns the variables, overwrites its own slice, other threads are
    spawned, run and waited for): when the spawned call runs it binds exactly the parameters —
    or raises exactly the arity error — of the same statement made as a direct call at the
    spawn site. -/
theorem spawned_call_binds_spawn_site_values (f : Fn) (s s1 : TState) (args : List Arg) (body : Body)
    (ob : TObs) (hsp : tstep s (.spawn args body) = some (s1, ob)) (rest : List TOp) (s2 : TState)
    (hrun : trun s1 rest = some s2) :
    spawnedParams f s2 s.threads.length = some (directParams f s.vars args) := by
  simp only [spawnedParams, directParams, spawn_args_by_value s s1 args body ob hsp rest s2 hrun, Option.map_some]

/-- … in particular it receives every argument of the spawn statement: the first
    `args.length` parameters are the values of the argument expressions at the spawn site -/
theorem spawned_call_gets_every_argument (f : Fn) (s s1 : TState) (args : List Arg) (body : Body)
    (ob : TObs) (hsp : tstep s (.spawn args body) = some (s1, ob)) (rest : List TOp) (s2 : TState)
    (hrun : trun s1 rest = some s2) (ps : List Int)
    (hps : spawnedParams f s2 s.threads.length = some (some ps)) :
    ps.take args.length = (evalArgs s.vars args).1 ∧ ps.length = f.req + f.defs.length := by
  rw [spawned_call_binds_spawn_site_values f s s1 args body ob hsp rest s2 hrun] at hps
  simp only [Option.some.injEq, directParams] at hps
  have h := bind_takes_every_argument f _ ps hps
  rw [evalArgs_length] at h
  exact h

/-! ### The statement sequences the harness runs (`wideRun`) -/

/-- later statements of the spawner leave a started thread's private arguments alone -/
theorem wideRun_keeps (os : List WOp) : ∀ (s : TState) (t : Nat) (th : Thread) (x : List Int × Bool),
    s.threads[t]? = some th → s.heap[th.slice]? = some x →
    (wideRun s os).2.threads[t]? = some th ∧ (wideRun s os).2.heap[th.slice]? = some x := by
  induction os with
  | nil => intro s t th x h1 h2; exact ⟨h1, h2⟩
  | cons o os ih =>
    intro s t th x h1 h2
    cases o with
    | assign i v =>
      simp only [wideRun, tstep, tstepWith]
      exact ih _ t th x h1 h2
    | call sp f args =>
      cases sp with
      | false =>
        simp only [wideRun]
        exact ih _ t th x h1 h2
      | true =>
        simp only [wideRun, tstep, tstepWith, ↓reduceIte]
        apply ih
        · have ht : t < s.threads.length := by
            cases hlt : decide (t < s.threads.length) with
            | true => exact of_decide_eq_true hlt
            | false =>
              have := of_decide_eq_false hlt
              rw [List.getElem?_eq_none (by omega)] at h1
              cases h1
          simp only [List.getElem?_append_left ht]
          exact h1
        · have ht : th.slice < s.heap.length := by
            cases hlt : decide (th.slice < s.heap.length) with
            | true => exact of_decide_eq_true hlt
            | false =>
              have := of_decide_eq_false hlt
              rw [List.getElem?_eq_none (by omega)] at h2
              cases h2
          simp only [List.getElem?_append_left ht]
          exact h2

/-- the state right after `spawn args` (what `tstep` gives) -/
def afterSpawn (s : TState) (args : List Arg) : TState :=
  { vars := (evalArgs s.vars args).2, shared := s.shared,
    heap := s.heap ++ [((evalArgs s.vars args).1, true), ((evalArgs s.vars args).1, false)],
    threads := s.threads ++ [{ slice := s.heap.length + 1, body := .echo }], finished := s.finished }

theorem tstep_spawn_echo (s : TState) (args : List Arg) :
    tstep s (.spawn args .echo) = some (afterSpawn s args, .spawned s.threads.length s.heap.length (evalArgs s.vars args).2) := by
  simp [tstep, tstepWith, afterSpawn]

/-- a spawned call statement, run after everything else the spawner does, observes what the
    direct call at the statement observes -/
theorem wideRun_spawned_head (s : TState) (f : Fn) (args : List Arg) (os : List WOp) :
    (wideRun s (.call true f args :: os)).1 =
      directParams f s.vars args :: (wideRun (afterSpawn s args) os).1 := by
  simp only [wideRun, tstep_spawn_echo]
  congr 1
  have k := wideRun_keeps os (afterSpawn s args)
      s.threads.length { slice := s.heap.length + 1, body := .echo } ((evalArgs s.vars args).1, false)
      (by simp [afterSpawn]) (by simp [afterSpawn])
  simp only [spawnedParams, threadArgs, k.1, k.2, Option.map_some, Option.getD_some, directParams]

/-- the same statements with every spawn replaced by a direct call -/
def WOp.direct : WOp → WOp
  | .assign i v => .assign i v
  | .call _ f args => .call false f args

/-- **A spawned call is the direct call, for whole programs**: in every sequence of
    assignments and calls — any number of arguments, any functions, spawned calls running
    after all later reassignments — every call statement observes the parameters (or the arity
    error) it observes when all the spawns are replaced by direct calls. -/
theorem wide_spawned_is_direct (os : List WOp) : ∀ (s s' : TState), s.vars = s'.vars →
    (wideRun s os).1 = (wideRun s' (os.map WOp.direct)).1 := by
  induction os with
  | nil => intro s s' _; rfl
  | cons o os ih =>
    intro s s' hv
    cases o with
    | assign i v =>
      simp only [List.map_cons, WOp.direct, wideRun, tstep, tstepWith]
      exact ih _ _ (by simp [hv])
    | call sp f args =>
      cases sp with
      | false =>
        simp only [List.map_cons, WOp.direct, wideRun, hv]
        congr 1
        exact ih _ _ (by simp)
      | true =>
        rw [wideRun_spawned_head]
        simp only [List.map_cons, WOp.direct, wideRun, hv]
        congr 1
        exact ih _ _ (by simp [afterSpawn, hv])

/-! ### Non-vacuity and the contrast -/

/-- nine arguments for a function with two required parameters and eight defaults: the spawned
    call binds all nine, the tenth parameter keeps its default -/
example :
    let f : Fn := { req := 2, defs := [-1, -2, -3, -4, -5, -6, -7, -8] }
    let args := [Arg.var 0, .lit 2, .lit 3, .lit 4, .lit 5, .lit 6, .lit 7, .tick 0, .dbl (.var 0)]
    (wideRun { vars := [10] } [.call true f args, .assign 0 0]).1 = [some [10, 2, 3, 4, 5, 6, 7, 11, 22, -8]] := by
  decide +kernel

/-- CONTRAST: with the private copy held in 8 inline slots the ninth argument never arrives —
    the spawned call silently runs with the DEFAULT of its ninth parameter, or raises the arity
    error when that parameter is required, while the direct call binds the argument. -/
theorem inline_slots_variant_drops_arguments :
    let args := [Arg.lit 1, .lit 2, .lit 3, .lit 4, .lit 5, .lit 6, .lit 7, .lit 8, .lit 9]
    let s1 : TState := ((tstep {} (.spawn args .echo)).map (·.1)).getD {}
    spawnedParamsInline 8 { req := 8, defs := [-1] } s1 0 = some (some [1, 2, 3, 4, 5, 6, 7, 8, -1]) ∧
    spawnedParams { req := 8, defs := [-1] } s1 0 = some (some [1, 2, 3, 4, 5, 6, 7, 8, 9]) ∧
    spawnedParamsInline 8 { req := 9, defs := [] } s1 0 = some none ∧
    spawnedParams { req := 9, defs := [] } s1 0 = some (some [1, 2, 3, 4, 5, 6, 7, 8, 9]) := by
  decide +kernel

/-- up to the number of slots the variant and the code as it is agree -/
example :
    let args := [Arg.lit 1, .lit 2, .lit 3]
    let s1 : TState := ((tstep {} (.spawn args .echo)).map (·.1)).getD {}
    spawnedParamsInline 8 { req := 1, defs := [0, 0, 0] } s1 0 = spawnedParams { req := 1, defs := [0, 0, 0] } s1 0 := by
  decide +kernel

end Risor.C10
