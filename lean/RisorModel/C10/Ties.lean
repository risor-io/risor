import RisorModel.C10.ModelCap
import RisorModel.Generated.C10
/-!
C10 ties: the structural facts regenerated by `extract/c10.go` from object/chan.go,
object/spawn.go, object/thread.go, builtins/builtins.go and vm/vm.go ON THIS RUN equal the
constants the hand-written channel / iterator / thread model states next to the definitions
that rest on them (`ModelCap.lean`, `expect…`).  A source edit to the shape of
`Send`/`Receive`/`Next`/`Entry`/`Close`/`Iter`, to the capacity path
`chan(n)`/`make(chan, n)` → `NewChan` → `make(chan Object, size)`, to the `ForIter`, `Go`,
`Send`, `Receive` arms of the VM, to `Spawn`'s private copy, to `NewThread`/`Wait`/
`cloneCallAsync`, or a NEW place that operates on a Go channel, breaks exactly one named lemma.
-/
namespace Risor.C10
open Risor.Generated.C10

/-- `Chan.Send`: a deferred recover, then ONE select with the arms ctx.Done / send and no
    default arm; no closedness test before it; no field written (`step (.send …)`) -/
theorem send_shape_tie :
    sendPrelude = expectSendPrelude ∧ sendArms = expectSendArms ∧ sendAfter = expectSendAfter ∧
    sendWrites = expectSendWrites :=
  ⟨rfl, rfl, rfl, rfl⟩

/-- `Chan.Receive`: one select, arms ctx.Done / receive with the ok flag → `Nil` when closed
    and drained; no field written (`step (.recv …)`, `closedAndDrained`) -/
theorem receive_shape_tie :
    receivePrelude = expectReceivePrelude ∧ receiveArms = expectReceiveArms ∧
    receiveAfter = expectReceiveAfter ∧ receiveWrites = expectReceiveWrites :=
  ⟨rfl, rfl, rfl, rfl⟩

/-- `Chan.Next`: the same select; a value is stored in `lastReceived`, `rxCount` is bumped,
    and these are the only fields written (`nextOf`) -/
theorem next_shape_tie :
    nextPrelude = expectNextPrelude ∧ nextArms = expectNextArms ∧ nextAfter = expectNextAfter ∧
    nextWrites = expectNextWrites :=
  ⟨rfl, rfl, rfl, rfl⟩

/-- `Chan.Entry` reads `lastReceived`/`rxCount` back, writes nothing, key = `rxCount - 1`,
    value = `lastReceived` (`step (.entry …)`, the second half of the two-step iteration) -/
theorem entry_shape_tie :
    entryReads = expectEntryReads ∧ entryWrites = expectEntryWrites ∧ entryKey = expectEntryKey ∧
    entryValue = expectEntryValue ∧ entryBody = expectEntryBody :=
  ⟨rfl, rfl, rfl, rfl, rfl⟩

/-- `Chan.Close`: `close(c.value)` under a recover → error on the second close; writes no
    field (`step (.close …)`); `Iter` returns the channel itself -/
theorem close_iter_tie :
    closeBody = expectCloseBody ∧ closeWrites = expectCloseWrites ∧ iterReturns = expectIterReturns :=
  ⟨rfl, rfl, rfl⟩

/-- capacity: `NewChan(size)` makes `make(chan Object, size)` and records `size`; its only
    callers are the builtins `chan` (0 or the int argument, no bounds test) and `make`
    (`size < 0` refused), both handing `size` on unchanged (`init cap`) -/
theorem capacity_path_tie :
    newChanParams = expectNewChanParams ∧ newChanMake = expectNewChanMake ∧
    newChanCapacityField = expectNewChanCapacityField ∧ newChanCallers = expectNewChanCallers ∧
    chanBuiltinArity = expectChanBuiltinArity ∧ chanBuiltinSizes = expectChanBuiltinSizes ∧
    chanBuiltinBounds = expectChanBuiltinBounds ∧ chanBuiltinResult = expectChanBuiltinResult ∧
    makeSizes = expectMakeSizes ∧ makeBounds = expectMakeBounds ∧ makeChanResult = expectMakeChanResult ∧
    rawChanAccessors = expectRawChanAccessors :=
  ⟨rfl, rfl, rfl, rfl, rfl, rfl, rfl, rfl, rfl, rfl, rfl, rfl⟩

/-- the VM's `ForIter` arm: `Next`, then (when not exhausted) `Entry`, iterator pushed back,
    then the loop variables; jump on exhaustion (the model's `next t` then `entry t`) -/
theorem for_iter_arm_tie : forIterArm = expectForIterArm := rfl

/-- the VM's `Go`, `Send`, `Receive` arms and `cloneCallAsync` -/
theorem vm_arms_tie :
    goArm = expectGoArm ∧ sendOpArm = expectSendOpArm ∧ receiveOpArm = expectReceiveOpArm ∧
    cloneCallAsync = expectCloneCallAsync :=
  ⟨rfl, rfl, rfl, rfl⟩

/-- `object.Spawn` copies the argument slice before the spawn function is called and hands
    on the copy in every branch; the adapter passes it through (`tstepWith true`) -/
theorem spawn_copy_tie :
    spawnCopy = expectSpawnCopy ∧ spawnCopyBeforeCalls = expectSpawnCopyBeforeCalls ∧
    spawnCalls = expectSpawnCalls ∧ spawnArgsUses = expectSpawnArgsUses ∧ adapterCall = expectAdapterCall :=
  ⟨rfl, rfl, rfl, rfl, rfl⟩

/-- `NewThread`: one goroutine, `result` assigned from the call or from the recovered panic,
    `done` always closed; `Wait` returns `result` after `done` (`tstep (.runT …)`, `(.wait …)`) -/
theorem thread_tie :
    threadGoStmts = expectThreadGoStmts ∧ threadLit = expectThreadLit ∧ threadBody = expectThreadBody ∧
    threadDeferred = expectThreadDeferred ∧ waitArms = expectWaitArms :=
  ⟨rfl, rfl, rfl, rfl, rfl⟩

/-- the inventory of Go channel operations in object/, vm/, builtins/ (modules/thread is
    absent) is the one the model was written against: no new site -/
theorem chan_sites_tie :
    chanSiteDirs = expectChanSiteDirs ∧ chanFields = expectChanFields ∧ chanSites = expectChanSites :=
  ⟨rfl, rfl, rfl⟩

end Risor.C10
