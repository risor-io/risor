import RisorModel.C10.ModelCap
/-! Helper lemmas for C10: the effect of one step and step-wise invariants; the judge of observed
histories (`MergeP`, `mergeRun`); from faithful delivery to the property's wording; thread trees. -/
namespace Risor.C10

theorem values_append (a b : List (Nat × Msg)) : values (a ++ b) = values a ++ values b := by
  simp [values]

/-- the possible effects of one enabled step: the new state and what the step reports.  A step
    that leaves the state alone takes nothing in and hands nothing out, and if it reports
    "closed" the channel is closed and drained. -/
inductive Eff (c : Chan) : Op → Chan → Obs → Prop
  | same (o : Op) (ob : Obs) : (∀ t, o ≠ .entry t) → acc1 o ob = [] → rec1 ob = [] →
      (ob.reportsClosed = true → c.buf = [] ∧ c.closed = true) → Eff c o c ob
  | send (t : Nat) (v : Msg) : c.closed = false → c.buf.length < c.cap →
      Eff c (.send t v) { c with buf := c.buf ++ [v], sent := c.sent ++ [v] } .sendOk
  | close (t : Nat) : Eff c (.close t) { c with closed := true } .closeOk
  | recv (t : Nat) (v : Msg) (rest : List Msg) : isPend c t = false → c.buf = v :: rest →
      Eff c (.recv t) (recvOf c t v rest) (.val v)
  | next (t : Nat) (v : Msg) (rest : List Msg) : isPend c t = false → c.buf = v :: rest →
      Eff c (.next t) (nextOf c t v rest) (.nextOk v)
  | entry (t : Nat) (v : Msg) : isPend c t = true → c.last = some v →
      Eff c (.entry t) { c with pend := dropPend c t, deliv := c.deliv ++ [(t, v)] } (.ent (c.rx - 1) v)
  | entryNone (t : Nat) : isPend c t = true → c.last = none →
      Eff c (.entry t) { c with pend := dropPend c t } .entNone
  | handRecv (s r : Nat) (v : Msg) : isPend c r = false → c.buf = [] → c.closed = false →
      Eff c (.handoff s r v false) (recvOf { c with sent := c.sent ++ [v] } r v []) (.val v)
  | handNext (s r : Nat) (v : Msg) : isPend c r = false → c.buf = [] → c.closed = false →
      Eff c (.handoff s r v true) (nextOf { c with sent := c.sent ++ [v] } r v []) (.nextOk v)

theorem step_eff (c c' : Chan) (o : Op) (ob : Obs) (h : step c o = some (c', ob)) : Eff c o c' ob := by
  cases o with
  | send t v =>
    simp only [step] at h
    split at h
    · cases h
    · split at h
      · cases h; exact .same _ _ (by simp) rfl rfl nofun
      · rename_i hcl
        split at h
        · rename_i hroom
          cases h; exact .send t v (by simpa using hcl) hroom
        · cases h
  | recv t =>
    simp only [step] at h
    split at h
    · cases h
    · rename_i hp
      split at h
      · rename_i v rest hb
        cases h; exact .recv t v rest (by simpa using hp) hb
      · rename_i hb
        split at h
        · rename_i hc
          cases h; exact .same _ _ (by simp) rfl rfl fun _ => ⟨hb, hc⟩
        · cases h
  | close t =>
    simp only [step] at h
    split at h
    · cases h
    · split at h
      · cases h; exact .same _ _ (by simp) rfl rfl nofun
      · cases h; exact .close t
  | next t =>
    simp only [step] at h
    split at h
    · cases h
    · rename_i hp
      split at h
      · rename_i v rest hb
        cases h; exact .next t v rest (by simpa using hp) hb
      · rename_i hb
        split at h
        · rename_i hc
          cases h; exact .same _ _ (by simp) rfl rfl fun _ => ⟨hb, hc⟩
        · cases h
  | entry t =>
    simp only [step] at h
    split at h
    · rename_i hp
      split at h
      · rename_i v hl
        cases h; exact .entry t v hp hl
      · rename_i hl
        cases h; exact .entryNone t hp hl
    · cases h
  | peek t =>
    simp only [step] at h
    split at h
    · cases h
    · split at h <;> cases h <;> exact .same _ _ (by simp) rfl rfl nofun
  | handoff s r v iter =>
    simp only [step] at h
    split at h
    · cases h
    · rename_i hc
      simp only [Bool.or_eq_true, not_or, Bool.not_eq_true, Bool.not_eq_eq_eq_not, Bool.not_true] at hc
      have hb : c.buf = [] := by
        have := hc.2
        cases hcb : c.buf with
        | nil => rfl
        | cons _ _ => simp [hcb] at this
      have hr : isPend c r = false := hc.1.1.1.1.2
      have hcl : c.closed = false := hc.1.1.2
      cases iter with
      | true => simp only [↓reduceIte] at h; cases h; exact .handNext s r v hr hb hcl
      | false => simp only [Bool.false_eq_true, ↓reduceIte] at h; cases h; exact .handRecv s r v hr hb hcl

theorem run_induct (P : Chan → Prop) (c0 : Chan) (h0 : P c0)
    (hstep : ∀ c o c' ob, P c → Eff c o c' ob → P c') :
    ∀ ops c, run c0 ops = some c → P c := by
  intro ops
  induction ops generalizing c0 with
  | nil => intro c h; simp only [run, Option.some.injEq] at h; subst h; exact h0
  | cons o os ih =>
    intro c h
    simp only [run] at h
    split at h
    · rename_i c1 ob hs
      exact ih c1 (hstep c0 o c1 ob h0 (step_eff _ _ _ _ hs)) c h
    · cases h

/-- global FIFO conservation: what was dequeued followed by what is queued is what was accepted -/
def Fifo (c : Chan) : Prop := values c.deq ++ c.buf = c.sent

theorem eff_fifo (c c' : Chan) (o : Op) {ob : Obs} (h : Eff c o c' ob) (hf : Fifo c) : Fifo c' := by
  unfold Fifo at *
  cases h with
  | same | close | entry | entryNone => exact hf
  | send t v => simp [← hf]
  | recv t v rest _ hb | handRecv _ t v _ hb => simp [recvOf, values, ← hf, hb]
  | next t v rest _ hb | handNext _ t v _ hb => simp [nextOf, values, ← hf, hb]

theorem init_fifo (cap : Nat) : Fifo (init cap) := by simp [Fifo, init, values]

theorem run_fifo (cap : Nat) (ops : List Op) (c : Chan) (h : run (init cap) ops = some c) : Fifo c :=
  run_induct Fifo (init cap) (init_fifo cap) (fun c o c' _ hp he => eff_fifo c c' o he hp) ops c h


theorem run_induct_mem (P : Chan → Prop) (ops : List Op)
    (hstep : ∀ c o c' ob, o ∈ ops → P c → Eff c o c' ob → P c') :
    ∀ c0 c, P c0 → run c0 ops = some c → P c := by
  induction ops with
  | nil => intro c0 c h0 h; simp only [run, Option.some.injEq] at h; subst h; exact h0
  | cons o os ih =>
    intro c0 c h0 h
    simp only [run] at h
    split at h
    · rename_i c1 ob hs
      exact ih (fun c o' c' ob' hm => hstep c o' c' ob' (List.mem_cons_of_mem _ hm)) c1 c
        (hstep c0 o c1 ob (List.mem_cons_self) h0 (step_eff _ _ _ _ hs)) h
    · cases h

theorem iterThreads_cons (o : Op) (os : List Op) :
    iterThreads (o :: os) = iterThreads [o] ++ iterThreads os := by
  cases o with
  | handoff s r v iter => cases iter <;> simp [iterThreads]
  | _ => simp [iterThreads]

theorem onlyIter_mem (t0 : Nat) (ops : List Op) (h : onlyIter t0 ops = true) (o : Op) (ho : o ∈ ops) :
    ∀ t ∈ iterThreads [o], t = t0 := by
  induction ops with
  | nil => cases ho
  | cons a as ih =>
    unfold onlyIter at h ih
    rw [iterThreads_cons, List.all_append, Bool.and_eq_true] at h
    cases ho with
    | head => intro t ht; have := List.all_eq_true.1 h.1 t ht; simpa using this
    | tail _ hm => exact ih h.2 hm

/-- filter of a receiver's entries -/
def ofRcv (j : Nat) (l : List (Nat × Msg)) : List (Nat × Msg) := l.filter (fun p => p.1 == j)

theorem ofRcv_append (j : Nat) (a b : List (Nat × Msg)) : ofRcv j (a ++ b) = ofRcv j a ++ ofRcv j b := by
  simp [ofRcv]

theorem ofRcv_pend_nil (c : Chan) (t : Nat) (h : isPend c t = false) : ofRcv t c.pend = [] := by
  unfold isPend at h
  unfold ofRcv
  rw [List.filter_eq_nil_iff]
  intro a ha
  have := List.any_eq_false.1 h a ha
  simpa using this

/-- **Faithful delivery**: every receiver was handed, in order, exactly the values it
    dequeued (a value it dequeued but has not been handed yet is pending) -/
def Faithful (c : Chan) : Prop := ∀ j, ofRcv j c.deliv ++ ofRcv j c.pend = ofRcv j c.deq

/-- invariant of schedules in which only thread `t0` iterates -/
def Single (t0 : Nat) (c : Chan) : Prop :=
  Faithful c ∧ (c.pend = [] ∨ ∃ v, c.pend = [(t0, v)] ∧ c.last = some v)

theorem isPend_single (c : Chan) (t0 t : Nat) (hs : c.pend = [] ∨ ∃ v, c.pend = [(t0, v)] ∧ c.last = some v)
    (hp : isPend c t = true) : t = t0 ∧ ∃ v, c.pend = [(t0, v)] ∧ c.last = some v := by
  cases hs with
  | inl h => simp [isPend, h] at hp
  | inr h =>
    obtain ⟨v, hv, hl⟩ := h
    simp only [isPend, hv, List.any_cons, List.any_nil, Bool.or_false, beq_iff_eq] at hp
    exact ⟨hp.symm, v, hv, hl⟩

theorem eff_single (t0 : Nat) (c c' : Chan) (o : Op) (hg : ∀ t ∈ iterThreads [o], t = t0)
    {ob : Obs} (hs : Single t0 c) (h : Eff c o c' ob) : Single t0 c' := by
  obtain ⟨hf, hp⟩ := hs
  cases h with
  | same | send | close => exact ⟨hf, hp⟩
  | recv t v rest hpt | handRecv _ t v hpt =>
    -- `t` has nothing pending, so its new entry lines up at the end of both of its logs
    refine ⟨fun j => ?_, hp⟩
    have := hf j
    simp only [recvOf, ofRcv_append]
    by_cases hj : j = t
    · subst hj
      rw [ofRcv_pend_nil c j hpt, List.append_nil] at this ⊢
      rw [this]
    · have : ofRcv j [(t, v)] = [] := by simp [ofRcv]; exact fun h => hj h.symm
      rw [this, List.append_nil, List.append_nil]; exact hf j
  | next t v rest hpt | handNext _ t v hpt =>
    have ht : t = t0 := hg t (by simp [iterThreads])
    subst ht
    have hpn : c.pend = [] := by
      cases hp with
      | inl h => exact h
      | inr h => obtain ⟨w, hw, _⟩ := h; simp [isPend, hw] at hpt
    refine ⟨fun j => ?_, Or.inr ⟨v, by simp [nextOf, hpn], rfl⟩⟩
    simp only [nextOf, ofRcv_append, ← List.append_assoc, hf j]
  | entry t v hpt hl =>
    obtain ⟨ht, w, hw, hlw⟩ := isPend_single c t0 t hp hpt
    subst ht
    have hvw : v = w := by rw [hl] at hlw; exact Option.some.inj hlw
    subst hvw
    refine ⟨fun j => ?_, Or.inl (by simp [dropPend, hw])⟩
    have := hf j
    simp only [dropPend, hw, ofRcv_append] at this ⊢
    simpa [ofRcv] using this
  | entryNone t hpt hl =>
    obtain ⟨_, w, _, hlw⟩ := isPend_single c t0 t hp hpt
    rw [hl] at hlw; cases hlw

theorem init_single (t0 cap : Nat) : Single t0 (init cap) := by
  refine ⟨fun j => by simp [init, ofRcv], Or.inl rfl⟩

theorem run_single (t0 cap : Nat) (ops : List Op) (hg : onlyIter t0 ops = true) (c : Chan)
    (h : run (init cap) ops = some c) : Single t0 c :=
  run_induct_mem (Single t0) ops
    (fun c o c' _ hm hp he => eff_single t0 c c' o (onlyIter_mem t0 ops hg o hm) hp he)
    (init cap) c (init_single t0 cap) h

/-- what holds of every schedule, defect included: as many hand-outs (plus pending ones) as
    dequeues, and everything handed out was dequeued -/
def Counts (c : Chan) : Prop :=
  c.deliv.length + c.pend.length = c.deq.length ∧ (∀ x ∈ c.deliv, x.2 ∈ values c.deq)
    ∧ (∀ v, c.last = some v → v ∈ values c.deq) ∧ (c.pend ≠ [] → c.last ≠ none)

theorem isPend_exists (c : Chan) (t : Nat) (h : isPend c t = true) :
    ∃ a, a ∈ c.pend ∧ (a.1 == t) = true := by
  unfold isPend at h
  exact List.any_eq_true.1 h

theorem eff_counts (c c' : Chan) (o : Op) {ob : Obs} (hs : Counts c) (h : Eff c o c' ob) : Counts c' := by
  obtain ⟨hl, hd, hv, hn⟩ := hs
  cases h with
  | same | send | close => exact ⟨hl, hd, hv, hn⟩
  | recv t v rest | handRecv _ t v =>
    refine ⟨by simp [recvOf]; omega, ?_, ?_, hn⟩
    · intro x hx
      simp only [recvOf, List.mem_append, List.mem_singleton] at hx
      simp only [recvOf, values_append, List.mem_append]
      cases hx with
      | inl h => exact Or.inl (hd x h)
      | inr h => subst h; exact Or.inr (by simp [values])
    · intro w hw
      simp only [recvOf, values_append, List.mem_append]
      exact Or.inl (hv w hw)
  | next t v rest | handNext _ t v =>
    refine ⟨by simp [nextOf]; omega, ?_, ?_, by simp [nextOf]⟩
    · intro x hx
      simp only [nextOf, values_append, List.mem_append]
      exact Or.inl (hd x hx)
    · intro w hw
      simp only [nextOf, Option.some.injEq] at hw
      subst hw
      simp [nextOf, values]
  | entry t v hpt hlast =>
    obtain ⟨a, ha, hat⟩ := isPend_exists c t hpt
    have hlen := List.length_eraseP_of_mem (p := fun p => p.1 == t) ha hat
    refine ⟨?_, ?_, hv, by simp [hlast]⟩
    · simp only [dropPend, List.length_append, List.length_cons, List.length_nil, hlen]
      have : c.pend.length ≥ 1 := List.length_pos_of_mem ha
      omega
    · intro x hx
      simp only [List.mem_append, List.mem_singleton] at hx
      cases hx with
      | inl h => exact hd x h
      | inr h => subst h; exact hv v hlast
  | entryNone t hpt hlast =>
    obtain ⟨a, ha, _⟩ := isPend_exists c t hpt
    exact absurd hlast (hn (List.ne_nil_of_mem ha))

theorem run_counts (cap : Nat) (ops : List Op) (c : Chan) (h : run (init cap) ops = some c) : Counts c :=
  run_induct Counts (init cap) (by simp [Counts, init, values])
    (fun c o c' _ hp he => eff_counts c c' o hp he) ops c h

theorem iterThreads_nil_mem (ops : List Op) (hg : iterThreads ops = []) (o : Op) (hm : o ∈ ops) :
    iterThreads [o] = [] := by
  induction ops with
  | nil => cases hm
  | cons a as ih =>
    rw [iterThreads_cons] at hg
    have hg' := List.append_eq_nil_iff.1 hg
    cases hm with
    | head => exact hg'.1
    | tail _ hm' => exact ih hg'.2 hm'

/-- schedules without iteration never have a pending thread -/
theorem run_noiter_pend (cap : Nat) (ops : List Op) (hg : iterThreads ops = []) (c : Chan)
    (h : run (init cap) ops = some c) : c.pend = [] := by
  refine run_induct_mem (fun c => c.pend = []) ops ?_ (init cap) c rfl h
  intro c o c' _ hm hp he
  have hno : iterThreads [o] = [] := iterThreads_nil_mem ops hg o hm
  cases he with
  | same | send | close | recv | handRecv => exact hp
  | next | handNext => simp [iterThreads] at hno
  | entry t v hpt | entryNone t hpt => simp [isPend, hp] at hpt

/-- equal per-receiver projections make two logs permutations of each other -/
theorem perm_of_ofRcv (a b : List (Nat × Msg)) (h : ∀ j, ofRcv j a = ofRcv j b) : a.Perm b := by
  rw [List.perm_iff_count]
  intro x
  have h1 : List.count x (ofRcv x.1 a) = List.count x a := by
    unfold ofRcv; exact List.count_filter (by simp)
  have h2 : List.count x (ofRcv x.1 b) = List.count x b := by
    unfold ofRcv; exact List.count_filter (by simp)
  rw [← h1, ← h2, h x.1]

/-! ### The judge of observed histories -/

/-- **An arrival order exists**: the receivers' logs `recv` can be consumed head by head, each
    consumed message being the next unsent-so-far message of its sender (`next`), until all
    logs are empty and every sender's count is reached.  This is exactly "some schedule of
    dequeues of the FIFO channel produces these per-receiver logs". -/
inductive MergeP (counts : List Nat) : List Nat → List (List Msg) → Prop
  | done (next : List Nat) (recv : List (List Msg)) :
      recv.all List.isEmpty = true → next = counts → MergeP counts next recv
  | step (next : List Nat) (recv : List (List Msg)) (j : Nat) (m : Msg) (rest : List Msg) :
      recv[j]? = some (m :: rest) → next[m.1]? = some m.2 →
      MergeP counts (next.set m.1 (m.2 + 1)) (recv.set j rest) → MergeP counts next recv

theorem findEnabled_some (next : List Nat) (recv : List (List Msg)) (k j : Nat)
    (h : findEnabled next recv k = some j) :
    ∃ r, k ≤ j ∧ recv[j - k]? = some r ∧ headEnabled next r = true := by
  induction recv generalizing k with
  | nil => simp [findEnabled] at h
  | cons r rs ih =>
    simp only [findEnabled] at h
    split at h
    · rename_i he
      simp only [Option.some.injEq] at h
      subst h
      exact ⟨r, Nat.le_refl _, by simp, he⟩
    · obtain ⟨r', hle, hr', he'⟩ := ih (k + 1) h
      refine ⟨r', by omega, ?_, he'⟩
      have : j - k = (j - (k + 1)) + 1 := by omega
      rw [this, List.getElem?_cons_succ]
      exact hr'

theorem mergeStep_some (next next' : List Nat) (recv recv' : List (List Msg))
    (h : mergeStep next recv = some (next', recv')) :
    ∃ j m rest, recv[j]? = some (m :: rest) ∧ next[m.1]? = some m.2 ∧
      next' = next.set m.1 (m.2 + 1) ∧ recv' = recv.set j rest := by
  unfold mergeStep at h
  split at h
  · cases h
  · rename_i j hj
    obtain ⟨r, _, hr, he⟩ := findEnabled_some next recv 0 j hj
    simp only [Nat.sub_zero] at hr
    rw [hr] at h
    cases r with
    | nil => simp [headEnabled] at he
    | cons m rest =>
      simp only [Option.some.injEq, Prod.mk.injEq] at h
      refine ⟨j, m, rest, hr, ?_, h.1.symm, h.2.symm⟩
      simpa [headEnabled] using he

/-- soundness of the executable judge: whenever it accepts, an arrival order exists -/
theorem mergeRun_sound (counts : List Nat) (fuel : Nat) (next : List Nat) (recv : List (List Msg))
    (h : mergeRun counts fuel next recv = true) : MergeP counts next recv := by
  induction fuel generalizing next recv with
  | zero =>
    simp only [mergeRun, Bool.and_eq_true, beq_iff_eq] at h
    exact .done next recv h.1 h.2
  | succ n ih =>
    simp only [mergeRun] at h
    split at h
    · simp only [Bool.and_eq_true, beq_iff_eq] at h
      exact .done next recv h.1 h.2
    · rename_i next' recv' hs
      obtain ⟨j, m, rest, hr, hn, hn', hr'⟩ := mergeStep_some next next' recv recv' hs
      subst hn'; subst hr'
      exact .step next recv j m rest hr hn (ih _ _ h)

theorem all_empty_no_head (recv : List (List Msg)) (h : recv.all List.isEmpty = true) (j : Nat) (m : Msg)
    (rest : List Msg) (hj : recv[j]? = some (m :: rest)) : False := by
  have hm : (m :: rest) ∈ recv := List.mem_of_getElem? hj
  have := List.all_eq_true.1 h _ hm
  simp at this

/-- heads of the logs are never in a sender's past -/
theorem mergeP_head_ge (counts next : List Nat) (recv : List (List Msg)) (h : MergeP counts next recv) :
    ∀ (j : Nat) (m : Msg) (rest : List Msg), recv[j]? = some (m :: rest) → ∃ n, next[m.1]? = some n ∧ n ≤ m.2 := by
  induction h with
  | done next recv he _ => intro j m rest hj; exact (all_empty_no_head recv he j m rest hj).elim
  | step next recv j0 m0 rest0 h0 hn0 _ ih =>
    intro j m rest hj
    by_cases hjj : j0 = j
    · subst hjj
      rw [h0] at hj
      simp only [Option.some.injEq, List.cons.injEq] at hj
      rw [← hj.1]
      exact ⟨m0.2, hn0, Nat.le_refl _⟩
    · have hj' : (recv.set j0 rest0)[j]? = some (m :: rest) := by
        rw [List.getElem?_set_ne hjj]; exact hj
      obtain ⟨n', hn', hle⟩ := ih j m rest hj'
      by_cases hs : m0.1 = m.1
      · have hlt : m0.1 < next.length := (List.getElem?_eq_some_iff.1 hn0).1
        rw [← hs, List.getElem?_set_self hlt] at hn'
        simp only [Option.some.injEq] at hn'
        exact ⟨m0.2, by rw [← hs]; exact hn0, by omega⟩
      · rw [List.getElem?_set_ne hs] at hn'
        exact ⟨n', hn', hle⟩

/-- consuming any enabled head keeps an arrival order possible (enabled heads commute) -/
theorem mergeP_diamond (counts next : List Nat) (recv : List (List Msg)) (h : MergeP counts next recv) :
    ∀ (j : Nat) (m : Msg) (rest : List Msg), recv[j]? = some (m :: rest) → next[m.1]? = some m.2 →
      MergeP counts (next.set m.1 (m.2 + 1)) (recv.set j rest) := by
  induction h with
  | done next recv he _ => intro j m rest hj; exact (all_empty_no_head recv he j m rest hj).elim
  | step next recv j0 m0 rest0 h0 hn0 hsucc ih =>
    intro j m rest hj hn
    by_cases hjj : j0 = j
    · subst hjj
      rw [h0] at hj
      simp only [Option.some.injEq, List.cons.injEq] at hj
      rw [← hj.1, ← hj.2]
      exact hsucc
    · have hj' : (recv.set j0 rest0)[j]? = some (m :: rest) := by
        rw [List.getElem?_set_ne hjj]; exact hj
      have hs : m0.1 ≠ m.1 := by
        intro hs
        obtain ⟨n', hn', hle⟩ := mergeP_head_ge counts _ _ hsucc j m rest hj'
        have hlt : m0.1 < next.length := (List.getElem?_eq_some_iff.1 hn0).1
        rw [← hs, List.getElem?_set_self hlt] at hn'
        simp only [Option.some.injEq] at hn'
        rw [← hs, hn0] at hn
        simp only [Option.some.injEq] at hn
        omega
      have hn' : (next.set m0.1 (m0.2 + 1))[m.1]? = some m.2 := by
        rw [List.getElem?_set_ne hs]; exact hn
      have := ih j m rest hj' hn'
      rw [List.set_comm _ _ hs, List.set_comm _ _ hjj] at this
      refine .step _ _ j0 m0 rest0 ?_ ?_ this
      · rw [List.getElem?_set_ne (Ne.symm hjj)]; exact h0
      · rw [List.getElem?_set_ne (Ne.symm hs)]; exact hn0

theorem totalLen_set (recv : List (List Msg)) (j : Nat) (m : Msg) (rest : List Msg)
    (hj : recv[j]? = some (m :: rest)) : totalLen (recv.set j rest) + 1 = totalLen recv := by
  induction recv generalizing j with
  | nil => simp at hj
  | cons r rs ih =>
    cases j with
    | zero =>
      simp only [List.getElem?_cons_zero, Option.some.injEq] at hj
      subst hj
      simp [totalLen]; omega
    | succ k =>
      simp only [List.getElem?_cons_succ] at hj
      have := ih k hj
      simp only [totalLen, List.set_cons_succ, List.map_cons, List.sum_cons] at this ⊢
      omega

theorem findEnabled_none (next : List Nat) (recv : List (List Msg)) (k : Nat)
    (h : findEnabled next recv k = none) : ∀ (j : Nat) (r : List Msg), recv[j]? = some r → headEnabled next r = false := by
  induction recv generalizing k with
  | nil => intro j r hj; simp at hj
  | cons r0 rs ih =>
    simp only [findEnabled] at h
    split at h
    · cases h
    · rename_i he
      intro j r hj
      cases j with
      | zero => simp only [List.getElem?_cons_zero, Option.some.injEq] at hj; subst hj; simpa using he
      | succ n => simp only [List.getElem?_cons_succ] at hj; exact ih (k + 1) h n r hj

theorem mergeStep_none (next : List Nat) (recv : List (List Msg)) (h : mergeStep next recv = none) :
    ∀ (j : Nat) (m : Msg) (rest : List Msg), recv[j]? = some (m :: rest) → next[m.1]? ≠ some m.2 := by
  intro j m rest hj hn
  unfold mergeStep at h
  split at h
  · rename_i hf
    have := findEnabled_none next recv 0 hf j _ hj
    simp [headEnabled, hn] at this
  · rename_i j' hf
    obtain ⟨r, _, hr, he⟩ := findEnabled_some next recv 0 j' hf
    simp only [Nat.sub_zero] at hr
    rw [hr] at h
    cases r with
    | nil => simp [headEnabled] at he
    | cons _ _ => simp at h

/-- completeness of the executable judge: with enough fuel it accepts whenever an arrival order exists -/
theorem mergeRun_complete (counts : List Nat) (fuel : Nat) (next : List Nat) (recv : List (List Msg))
    (h : MergeP counts next recv) (hf : totalLen recv ≤ fuel) : mergeRun counts fuel next recv = true := by
  induction fuel generalizing next recv with
  | zero =>
    simp only [mergeRun, Bool.and_eq_true, beq_iff_eq]
    cases h with
    | done _ _ he hc => exact ⟨he, hc⟩
    | step _ _ j m rest hj _ _ =>
      have := totalLen_set recv j m rest hj
      omega
  | succ n ih =>
    simp only [mergeRun]
    split
    · rename_i hs
      simp only [Bool.and_eq_true, beq_iff_eq]
      cases h with
      | done _ _ he hc => exact ⟨he, hc⟩
      | step _ _ j m rest hj hn _ => exact absurd hn (mergeStep_none next recv hs j m rest hj)
    · rename_i next' recv' hs
      obtain ⟨j, m, rest, hr, hn, hn', hr'⟩ := mergeStep_some next next' recv recv' hs
      subst hn'; subst hr'
      have := totalLen_set recv j m rest hr
      exact ih _ _ (mergeP_diamond counts next recv h j m rest hr hn) (by omega)

/-! ### From faithful delivery to the property's wording -/

/-- with no iteration step half-finished, a receiver was handed exactly what it dequeued -/
theorem Faithful.delivered {c : Chan} (hs : Faithful c) (hp : c.pend = []) (j : Nat) :
    ofRcv j c.deliv = ofRcv j c.deq := by
  simpa [hp, ofRcv] using hs j

theorem delivered_of_faithful (c : Chan) (hf : Fifo c) (hs : Faithful c) (hp : c.pend = []) :
    ExactlyOnce c ∧ ReceiverOrder c := by
  unfold Fifo at hf
  constructor
  · unfold ExactlyOnce
    rw [← hf]
    exact List.Perm.append_right _ ((perm_of_ofRcv _ _ (hs.delivered hp)).map _)
  · intro i j
    unfold byReceiver fromSender
    have h1 : (values (c.deliv.filter fun p => p.1 == j)).Sublist (values c.deq) := by
      have := hs.delivered hp j
      unfold ofRcv at this
      rw [this]
      exact List.Sublist.map _ List.filter_sublist
    have h2 : (values c.deq).Sublist c.sent := by
      rw [← hf]; exact List.sublist_append_left _ _
    exact (h1.trans h2).filter _

/-- one step of the thread machine leaves every slice that is private to a spawned call
    (flag `false`) untouched -/
theorem tstep_private_slice (s s' : TState) (o : TOp) (ob : TObs) (h : tstep s o = some (s', ob))
    (k : Nat) (xs : List Int) (hk : s.heap[k]? = some (xs, false)) : s'.heap[k]? = some (xs, false) := by
  unfold tstep at h
  cases o with
  | assign i v | setShared i v => cases h; exact hk
  | spawn args body =>
    cases h
    have hlt : k < s.heap.length := (List.getElem?_eq_some_iff.1 hk).1
    simp only [List.getElem?_append_left hlt]
    exact hk
  | poke sl i v =>
    simp only [tstepWith] at h
    split at h
    · rename_i ys hsl
      cases h
      by_cases hks : sl = k
      · subst hks; rw [hk] at hsl; cases hsl
      · simp only [List.getElem?_set_ne hks]; exact hk
    · cases h
  | runT t | wait t =>
    simp only [tstepWith] at h
    split at h
    · split at h
      · cases h; exact hk
      · cases h
    · cases h

/-- one step never changes which slice an existing thread reads, nor its body -/
theorem tstep_thread_slice (s s' : TState) (o : TOp) (ob : TObs) (h : tstep s o = some (s', ob))
    (t : Nat) (th : Thread) (ht : s.threads[t]? = some th) :
    ∃ th', s'.threads[t]? = some th' ∧ th'.slice = th.slice ∧ th'.body = th.body := by
  have hlt : t < s.threads.length := (List.getElem?_eq_some_iff.1 ht).1
  unfold tstep at h
  cases o with
  | assign i v | setShared i v => cases h; exact ⟨th, ht, rfl, rfl⟩
  | spawn args body =>
    cases h
    exact ⟨th, by simp only [List.getElem?_append_left hlt]; exact ht, rfl, rfl⟩
  | poke sl i v =>
    simp only [tstepWith] at h
    split at h
    · cases h; exact ⟨th, ht, rfl, rfl⟩
    · cases h
  | runT u =>
    simp only [tstepWith] at h
    split at h
    · rename_i thu hu
      split at h
      · cases h
        by_cases hut : u = t
        · subst hut
          rw [ht] at hu; cases hu
          exact ⟨_, List.getElem?_set_self hlt, rfl, rfl⟩
        · exact ⟨th, by simp only [List.getElem?_set_ne hut]; exact ht, rfl, rfl⟩
      · cases h
    · cases h
  | wait u =>
    simp only [tstepWith] at h
    split at h
    · split at h
      · cases h; exact ⟨th, ht, rfl, rfl⟩
      · cases h
    · cases h

/-- invariant tying `Thread.result` to the history of returned calls -/
def ResultInv (s : TState) : Prop :=
  (∀ t th r, s.threads[t]? = some th → th.result = some r → (t, r) ∈ s.finished) ∧
  (∀ t r, (t, r) ∈ s.finished → ∃ th, s.threads[t]? = some th ∧ th.result = some r)

theorem tstep_resultInv (s s' : TState) (o : TOp) (ob : TObs) (h : tstep s o = some (s', ob))
    (hi : ResultInv s) : ResultInv s' := by
  obtain ⟨h1, h2⟩ := hi
  unfold tstep at h
  cases o with
  | assign i v | setShared i v => cases h; exact ⟨h1, h2⟩
  | spawn args body =>
    cases h
    constructor
    · intro t th r ht hr
      by_cases hlt : t < s.threads.length
      · simp only [List.getElem?_append_left hlt] at ht
        exact h1 t th r ht hr
      · -- the only new thread has no result yet
        simp only [List.getElem?_append_right (Nat.le_of_not_lt hlt)] at ht
        cases hd : t - s.threads.length with
        | zero => rw [hd] at ht; simp only [List.getElem?_cons_zero, Option.some.injEq] at ht; subst ht; cases hr
        | succ n => rw [hd] at ht; simp at ht
    · intro t r hm
      obtain ⟨th, ht, hr⟩ := h2 t r hm
      have hlt : t < s.threads.length := (List.getElem?_eq_some_iff.1 ht).1
      exact ⟨th, by simp only [List.getElem?_append_left hlt]; exact ht, hr⟩
  | poke sl i v =>
    simp only [tstepWith] at h
    split at h
    · cases h; exact ⟨h1, h2⟩
    · cases h
  | runT u =>
    simp only [tstepWith] at h
    split at h
    · rename_i thu hu
      split at h
      · rename_i args flag hres hheap
        cases h
        have hlt : u < s.threads.length := (List.getElem?_eq_some_iff.1 hu).1
        constructor
        · intro t th r ht hr
          by_cases hut : u = t
          · subst hut
            simp only [List.getElem?_set_self hlt, Option.some.injEq] at ht
            subst ht
            cases hr
            simp
          · simp only [List.getElem?_set_ne hut] at ht
            exact List.mem_append_left _ (h1 t th r ht hr)
        · intro t r hm
          simp only [List.mem_append, List.mem_singleton, Prod.mk.injEq] at hm
          cases hm with
          | inl hm =>
            obtain ⟨th, ht, hr⟩ := h2 t r hm
            by_cases hut : u = t
            · subst hut; rw [hu] at ht; cases ht; rw [hres] at hr; cases hr
            · exact ⟨th, by simp only [List.getElem?_set_ne hut]; exact ht, hr⟩
          | inr hm =>
            obtain ⟨ht, hr⟩ := hm
            subst ht; subst hr
            exact ⟨_, List.getElem?_set_self hlt, rfl⟩
      · cases h
    · cases h
  | wait u =>
    simp only [tstepWith] at h
    split at h
    · split at h
      · cases h; exact ⟨h1, h2⟩
      · cases h
    · cases h

theorem trun_resultInv (ops : List TOp) (a b : TState) (h : trun a ops = some b) (hi : ResultInv a) :
    ResultInv b := by
  induction ops generalizing a with
  | nil => simp only [trun, Option.some.injEq] at h; subst h; exact hi
  | cons o os ih =>
    simp only [trun] at h
    split at h
    · rename_i a' ob hst; exact ih a' h (tstep_resultInv a a' o ob hst hi)
    · cases h

/-! ### Thread trees -/

/-- only a channel operation touches the channels (both variants) -/
theorem nstepWith_not_chan_chans (b : Bool) (s s1 : Net) (o : NOp) (ob : NObs)
    (h : nstepWith b s o = some (s1, ob)) (hn : ∀ k op, o ≠ .chan k op) : s1.chans = s.chans := by
  cases o with
  | chan k op => exact absurd rfl (hn k op)
  | spawn p | ret t =>
    simp only [nstepWith] at h
    split at h
    · split at h <;> (cases h; rfl)
    · cases h
  | wait w t | abort t =>
    simp only [nstepWith] at h
    split at h
    · cases h; rfl
    · cases h
  | cancel => cases h; rfl

theorem nstepWith_chan_inv (b : Bool) (s s1 : Net) (k : Nat) (op : Op) (ob : NObs)
    (h : nstepWith b s (.chan k op) = some (s1, ob)) :
    ∃ c c' ob', s.chans[k]? = some c ∧ step c op = some (c', ob') ∧ ob = .chan ob' ∧
      s1 = { s with chans := s.chans.set k c' } ∧ (actors op).all (live s) = true := by
  simp only [nstepWith] at h
  split at h
  · rename_i hl
    split at h
    · rename_i c hc
      split at h
      · rename_i c' ob' hst
        simp only [Option.some.injEq, Prod.mk.injEq] at h
        exact ⟨c, c', ob', hc, hst, h.2.symm, h.1.symm, hl⟩
      · cases h
    · cases h
  · cases h

theorem run_cons (c : Chan) (o : Op) (os : List Op) :
    run c (o :: os) = match step c o with
      | some (c', _) => run c' os
      | none => none := rfl

/-- projection: along any schedule of the thread tree each channel makes exactly the steps of
    the channel machine on the operations addressed to it -/
theorem nrunWith_chan (b : Bool) (ops : List NOp) (s s' : Net) (h : nrunWith b s ops = some s')
    (k : Nat) (c0 : Chan) (hk : s.chans[k]? = some c0) :
    ∃ c, s'.chans[k]? = some c ∧ run c0 (chanOpsOf k ops) = some c := by
  induction ops generalizing s c0 with
  | nil =>
    simp only [nrunWith, Option.some.injEq] at h
    subst h
    exact ⟨c0, hk, rfl⟩
  | cons o os ih =>
    simp only [nrunWith] at h
    split at h
    · rename_i s1 ob hst
      cases o with
      | chan k' op =>
        obtain ⟨c, c', ob', hc, hstep, _, hs1, _⟩ := nstepWith_chan_inv b s s1 k' op ob hst
        by_cases hkk : k' = k
        · subst hkk
          rw [hk] at hc
          cases hc
          have hlt : k' < s.chans.length := (List.getElem?_eq_some_iff.1 hk).1
          have hk1 : s1.chans[k']? = some c' := by
            rw [hs1]
            simp [List.getElem?_set_self hlt]
          obtain ⟨cf, hcf, hr⟩ := ih s1 h c' hk1
          refine ⟨cf, hcf, ?_⟩
          simp only [chanOpsOf, ↓reduceIte, run_cons, hstep]
          exact hr
        · have hk1 : s1.chans[k]? = some c0 := by
            rw [hs1]
            simp [List.getElem?_set_ne hkk, hk]
          obtain ⟨cf, hcf, hr⟩ := ih s1 h c0 hk1
          refine ⟨cf, hcf, ?_⟩
          simp only [chanOpsOf, hkk, ↓reduceIte]
          exact hr
      | _ =>
        have hc := nstepWith_not_chan_chans b s s1 _ ob hst nofun
        obtain ⟨cf, hcf, hr⟩ := ih s1 h c0 (by rw [hc]; exact hk)
        exact ⟨cf, hcf, by simpa only [chanOpsOf] using hr⟩
    · cases h

/-- what an enabled return does in the code as it is -/
theorem nstep_ret_inv (s s1 : Net) (p : Nat) (ob : NObs) (h : nstep s (.ret p) = some (s1, ob)) :
    p ≠ 0 ∧ live s p = true ∧ s1 = { s with returned := s.returned ++ [p] } := by
  simp only [nstep, nstepWith] at h
  split at h
  · rename_i hg
    simp only [Bool.false_eq_true, ↓reduceIte, Option.some.injEq, Prod.mk.injEq] at h
    simp only [Bool.and_eq_true, bne_iff_ne, ne_eq] at hg
    exact ⟨hg.1, hg.2, h.1.symm⟩
  · cases h

theorem live_ret_other (s : Net) (p t : Nat) (h : t ≠ p) :
    live { s with returned := s.returned ++ [p] } t = live s t := by
  simp [live, isReturned, h]

theorem all_live_ret_other (s : Net) (p : Nat) (l : List Nat) (h : l.contains p = false) :
    l.all (live { s with returned := s.returned ++ [p] }) = l.all (live s) := by
  induction l with
  | nil => rfl
  | cons a as ih =>
    simp only [List.contains_cons, Bool.or_eq_false_iff, beq_eq_false_iff_ne, ne_eq] at h
    simp only [List.all_cons, ih h.2, live_ret_other s p a (fun he => h.1 he.symm)]

theorem isReturned_ret_other (s : Net) (p t : Nat) (h : t ≠ p) :
    isReturned { s with returned := s.returned ++ [p] } t = isReturned s t := by
  simp [isReturned, h]

/-- the invariant of the code as it is: every thread's context lies in the run's scope only,
    and nothing but the run's scope is ever cancelled -/
def CtxInv (s : Net) : Prop := (∀ c ∈ s.ctx, c = [0]) ∧ (∀ x ∈ s.cancelled, x = 0)

theorem ctxOf_of_inv (s : Net) (hi : CtxInv s) (t : Nat) (ht : t < s.ctx.length) : ctxOf s t = [0] := by
  unfold ctxOf
  rw [List.getD_eq_getElem?_getD, List.getElem?_eq_getElem ht]
  exact hi.1 _ (List.getElem_mem ht)

theorem nstep_ctxInv (s s1 : Net) (o : NOp) (ob : NObs) (h : nstep s o = some (s1, ob)) (hi : CtxInv s) :
    CtxInv s1 := by
  cases o with
  | chan k op =>
    obtain ⟨_, _, _, _, _, _, hs1, _⟩ := nstepWith_chan_inv false s s1 k op ob h
    rw [hs1]; exact hi
  | spawn p =>
    simp only [nstep, nstepWith] at h
    split at h
    · rename_i hl
      simp only [Bool.false_eq_true, ↓reduceIte, Option.some.injEq, Prod.mk.injEq] at h
      rw [← h.1]
      simp only [live, Bool.and_eq_true, decide_eq_true_eq] at hl
      refine ⟨?_, hi.2⟩
      intro c hc
      simp only [List.mem_append, List.mem_singleton] at hc
      cases hc with
      | inl hc => exact hi.1 c hc
      | inr hc => rw [hc]; exact ctxOf_of_inv s hi p hl.1
    · cases h
  | ret t =>
    obtain ⟨_, _, hs1⟩ := nstep_ret_inv s s1 t ob h
    rw [hs1]; exact hi
  | wait w t | abort t =>
    simp only [nstep, nstepWith] at h
    split at h
    · cases h; exact hi
    · cases h
  | cancel =>
    simp only [nstep, nstepWith, Option.some.injEq, Prod.mk.injEq] at h
    rw [← h.1]
    refine ⟨hi.1, ?_⟩
    intro x hx
    simp only [List.mem_append, List.mem_singleton] at hx
    cases hx with
    | inl hx => exact hi.2 x hx
    | inr hx => exact hx

theorem nrun_ctxInv (ops : List NOp) (s s' : Net) (h : nrun s ops = some s') (hi : CtxInv s) : CtxInv s' := by
  induction ops generalizing s with
  | nil => simp only [nrun, nrunWith, Option.some.injEq] at h; subst h; exact hi
  | cons o os ih =>
    simp only [nrun, nrunWith] at h
    split at h
    · rename_i s1 ob hst; exact ih s1 h (nstep_ctxInv s s1 o ob hst hi)
    · cases h

theorem ninit_ctxInv (caps : List Nat) : CtxInv (ninit caps) := by
  simp [CtxInv, ninit]

/-- in the code as it is only the host's `cancel` ever cancels anything -/
theorem nstep_cancelled (s s1 : Net) (o : NOp) (ob : NObs) (h : nstep s o = some (s1, ob)) (hn : o ≠ .cancel) :
    s1.cancelled = s.cancelled := by
  cases o with
  | chan k op =>
    obtain ⟨_, _, _, _, _, _, hs1, _⟩ := nstepWith_chan_inv false s s1 k op ob h
    rw [hs1]
  | spawn p | ret t | wait w t | abort t =>
    simp only [nstep, nstepWith, Bool.false_eq_true, ↓reduceIte] at h
    split at h
    · cases h; rfl
    · cases h
  | cancel => exact absurd rfl hn

theorem nrun_cancelled (ops : List NOp) (s s' : Net) (h : nrun s ops = some s') (hn : NOp.cancel ∉ ops) :
    s'.cancelled = s.cancelled := by
  induction ops generalizing s with
  | nil => simp only [nrun, nrunWith, Option.some.injEq] at h; subst h; rfl
  | cons o os ih =>
    simp only [nrun, nrunWith] at h
    simp only [List.mem_cons, not_or] at hn
    split at h
    · rename_i s1 ob hst
      rw [ih s1 h hn.2]
      exact nstep_cancelled s s1 o ob hst (fun he => hn.1 he.symm)
    · cases h

end Risor.C10
