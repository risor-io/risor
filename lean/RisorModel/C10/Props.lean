import RisorModel.C10.Lemmas
/-!
C10 — property theorems.  Channels and spawned threads deliver every value exactly once,
in order.

Everything is stated for ALL schedules (`List Op` of any length, any number of threads,
any interleaving the machine admits), every buffer size `cap` and arbitrary message values.
"Reachable" means `run (init cap) ops = some c`: the schedule `ops` is executable from the
freshly made channel and ends in state `c`.  `c.sent` is what the channel accepted, `c.deq`
what was dequeued by whom, `c.deliv` what script code was handed by whom, `c.buf` what is
still queued, `c.pend` the threads that are between the two halves of a `range` step.
-/
namespace Risor.C10

/-! ### The property as laws over a channel state -/

/-- **The full statement** (channel part of C10): in every reachable state in which no
    thread is half-way through an iteration step, every accepted value was handed out
    exactly once or is still queued, and every receiver saw each sender's values in sending
    order — for every buffer size, every number of threads and every interleaving. -/
def C10_full : Prop :=
  ∀ (cap : Nat) (ops : List Op) (c : Chan), run (init cap) ops = some c → c.pend = [] →
    ExactlyOnce c ∧ ReceiverOrder c

/-! ### What holds of every schedule, defect or not -/

/-- **Arrival order** (all schedules, all buffer sizes, iteration included): the values
    dequeued so far followed by the queued ones are exactly the accepted values in
    acceptance order — nothing is dropped, duplicated or reordered *by the queue*. -/
theorem fifo_conservation (cap : Nat) (ops : List Op) (c : Chan) (h : run (init cap) ops = some c) :
    values c.deq ++ c.buf = c.sent :=
  run_fifo cap ops c h

/-- **Per-sender FIFO** (all schedules): restricted to any one sender `i`, the dequeue
    order (then the queue) is that sender's sending order. -/
theorem fifo_per_sender (cap : Nat) (ops : List Op) (c : Chan) (h : run (init cap) ops = some c)
    (i : Nat) : fromSender i (values c.deq ++ c.buf) = fromSender i c.sent := by
  rw [fifo_conservation cap ops c h]

/-- **Multiset conservation at the queue** (all schedules): `dequeued ⊎ buf = sent`. -/
theorem dequeued_once (cap : Nat) (ops : List Op) (c : Chan) (h : run (init cap) ops = some c) :
    (values c.deq ++ c.buf).Perm c.sent := by
  rw [fifo_conservation cap ops c h]

/-- **What the defect cannot do** (all schedules, any number of iterating threads): there
    are exactly as many hand-outs (plus half-finished iteration steps) as dequeues, and every
    value handed out is a value that was sent.  So a history of the code as it is has as many
    deliveries as sends and nothing alien; a duplicate is always paid for by a loss.  This is
    the pattern `defectPattern` recognises. -/
theorem impl_iteration_counts (cap : Nat) (ops : List Op) (c : Chan) (h : run (init cap) ops = some c) :
    c.deliv.length + c.pend.length = c.deq.length ∧ ∀ x ∈ c.deliv, x.2 ∈ c.sent := by
  obtain ⟨hl, hd, _, _⟩ := run_counts cap ops c h
  refine ⟨hl, fun x hx => ?_⟩
  rw [← fifo_conservation cap ops c h]
  exact List.mem_append_left _ (hd x hx)

/-! ### Explicit receives -/

/-- **Exactly once, explicit receives** (`<-c`, `c.receive()`): for any buffer size, any
    number of senders and receivers and any interleaving, in EVERY reachable state of a
    schedule without iteration steps `received ⊎ buf = sent` as multisets, and every receiver
    saw every sender's values in sending order. -/
theorem exactly_once_explicit (cap : Nat) (ops : List Op) (hg : iterThreads ops = []) (c : Chan)
    (h : run (init cap) ops = some c) : ExactlyOnce c ∧ ReceiverOrder c :=
  delivered_of_faithful c (run_fifo cap ops c h) (run_single 0 cap ops (by simp [onlyIter, hg]) c h).1
    (run_noiter_pend cap ops hg c h)

/-- explicit receives hand every receiver, in order, exactly the values it dequeued -/
theorem explicit_delivers_dequeued (cap : Nat) (ops : List Op) (hg : iterThreads ops = []) (c : Chan)
    (h : run (init cap) ops = some c) (j : Nat) : byReceiver j c.deliv = byReceiver j c.deq :=
  congrArg values ((run_single 0 cap ops (by simp [onlyIter, hg]) c h).1.delivered (run_noiter_pend cap ops hg c h) j)

/-! ### Closed and drained; end of iteration -/

/-- **Receiving from a closed and drained channel yields nil** and changes nothing, for any
    thread that is not half-way through an iteration step. -/
theorem closed_drained_nil (c : Chan) (t : Nat) (hc : c.closed = true) (hb : c.buf = [])
    (hp : isPend c t = false) : step c (.recv t) = some (c, .nil) := by
  simp [step, hp, hb, hc]

/-- … and only then: an explicit receive answers nil only on a closed and drained channel. -/
theorem nil_only_if_closed_drained (c c' : Chan) (t : Nat) (h : step c (.recv t) = some (c', .nil)) :
    c.closed = true ∧ c.buf = [] := by
  cases step_eff c c' _ _ h with
  | same _ _ _ _ _ hcd => exact (hcd rfl).symm

/-- a closed and drained channel stays closed and drained whatever anybody does, and nothing is
    accepted or dequeued any more -/
theorem closed_drained_stable (c c' : Chan) (o : Op) (ob : Obs) (hc : c.closed = true) (hb : c.buf = [])
    (h : step c o = some (c', ob)) :
    c'.closed = true ∧ c'.buf = [] ∧ c'.sent = c.sent ∧ c'.deq = c.deq := by
  cases step_eff c c' o ob h with
  | same | entry | entryNone => exact ⟨hc, hb, rfl, rfl⟩
  | close t => exact ⟨rfl, hb, rfl, rfl⟩
  | send _ _ hcl | handRecv _ _ _ _ _ hcl | handNext _ _ _ _ _ hcl => rw [hc] at hcl; cases hcl
  | recv _ _ _ _ hb' | next _ _ _ _ hb' => rw [hb] at hb'; cases hb'

/-- **Iteration ends at close**: `Chan.Next` reports the end exactly when the channel is
    closed and drained (never earlier, never while values are still queued). -/
theorem iteration_ends_at_close (c : Chan) (t : Nat) (hp : isPend c t = false) :
    (∃ c', step c (.next t) = some (c', .nextEnd)) ↔ (c.closed = true ∧ c.buf = []) := by
  constructor
  · intro ⟨c', h⟩
    cases step_eff c c' _ _ h with
    | same _ _ _ _ _ hcd => exact (hcd rfl).symm
  · intro ⟨hc, hb⟩
    exact ⟨c, by simp [step, hp, hb, hc]⟩

/-- values queued before the close are still iterated over after it -/
theorem iteration_drains_after_close (c : Chan) (t : Nat) (v : Msg) (rest : List Msg)
    (hp : isPend c t = false) (hb : c.buf = v :: rest) :
    step c (.next t) = some (nextOf c t v rest, .nextOk v) := by
  simp [step, hp, hb]

/-! ### Iteration: the defect, the guard and the partial theorem -/

/-- the schedule of the counterexample: two values are queued, threads 1 and 2 both run the
    first half of their `range` step (`Next`), then both run the second half (`Entry`) -/
def twoIterators : List Op :=
  [.send 0 (0, 0), .send 0 (0, 1), .next 1, .next 2, .entry 1, .entry 2]

/-- the state it ends in: `(0,1)` was handed out twice, `(0,0)` to nobody -/
theorem twoIterators_run :
    (run (init 2) twoIterators).map (fun c => (c.deliv, c.sent, c.buf, c.pend))
      = some ([(1, (0, 1)), (2, (0, 1))], [(0, 0), (0, 1)], [], []) := by
  rfl

/-- **Counterexample** (the code as it is violates the full statement): with two threads
    iterating over one channel the interleaving Next₁ Next₂ Entry₁ Entry₂ hands the second
    value out twice and loses the first. -/
theorem C10_counterexample_two_iterators : ¬ C10_full := by
  intro hfull
  obtain ⟨c, hr, hv⟩ := Option.map_eq_some_iff.1 twoIterators_run
  simp only [Prod.mk.injEq] at hv
  obtain ⟨hd, hs, hb, hp⟩ := hv
  have := (hfull 2 twoIterators c hr hp).1
  unfold ExactlyOnce at this
  rw [hd, hs, hb] at this
  have hm := this.mem_iff (a := ((0, 0) : Msg))
  simp [values] at hm

/-- the Spec machine on the same schedule hands each thread its own value -/
example : (specRun (init 2) twoIterators).map (fun c => c.deliv) = some [(1, (0, 0)), (2, (0, 1))] := by
  decide +kernel

/-- **Partial theorem** (what is true of the code as it is): if at most one thread iterates
    over the channel (`onlyIter t0 ops`: every Next/Entry of the schedule is by `t0`; any
    number of other threads may send, receive explicitly and close), then in every reachable
    state without a half-finished iteration step every accepted value was handed out exactly
    once or is still queued and every receiver saw each sender's values in sending order. -/
theorem C10_partial (cap : Nat) (ops : List Op) (t0 : Nat) (hg : onlyIter t0 ops = true) (c : Chan)
    (h : run (init cap) ops = some c) (hp : c.pend = []) : ExactlyOnce c ∧ ReceiverOrder c :=
  delivered_of_faithful c (run_fifo cap ops c h) (run_single t0 cap ops hg c h).1 hp

/-- the same under the decidable guard `atMostOneIterator` -/
theorem C10_partial_guard (cap : Nat) (ops : List Op) (hg : atMostOneIterator ops = true) (c : Chan)
    (h : run (init cap) ops = some c) (hp : c.pend = []) : ExactlyOnce c ∧ ReceiverOrder c := by
  unfold atMostOneIterator at hg
  split at hg
  · rename_i hnil
    exact C10_partial cap ops 0 (by simp [onlyIter, hnil]) c h hp
  · rename_i t ts _
    exact C10_partial cap ops t hg c h hp

/-- with one iterating thread every step of the code is a step of the Spec machine: the
    second half of the iteration step hands the thread the value its own first half dequeued
    (at any moment, also while other threads receive in between) -/
theorem single_iterator_entry_is_own (cap : Nat) (ops : List Op) (t0 : Nat) (hg : onlyIter t0 ops = true)
    (c : Chan) (h : run (init cap) ops = some c) (hpe : isPend c t0 = true) :
    step c (.entry t0) = specStep c (.entry t0) := by
  obtain ⟨_, w, hw, hl⟩ := isPend_single c t0 t0 (run_single t0 cap ops hg c h).2 hpe
  simp [step, specStep, hpe, hl, pendVal, hw]

/-! non-vacuity: the guards are satisfiable by non-trivial schedules -/

/-- one iterating thread (1) next to an explicit receiver (2), two senders, a close -/
example : atMostOneIterator
    [.send 0 (0, 0), .send 3 (3, 0), .next 1, .recv 2, .entry 1, .send 0 (0, 1), .close 0, .next 1, .entry 1, .next 1]
      = true := by decide +kernel

example : (run (init 2)
    [.send 0 (0, 0), .send 3 (3, 0), .next 1, .recv 2, .entry 1, .send 0 (0, 1), .close 0, .next 1, .entry 1, .next 1]).map
      (fun c => (c.deliv, c.pend)) = some ([(2, (3, 0)), (1, (0, 0)), (1, (0, 1))], []) := by decide +kernel

example : atMostOneIterator twoIterators = false := by decide +kernel

/-- an unbuffered schedule: two rendezvous, one into an explicit receive, one into a range -/
example : (run (init 0) [.handoff 0 1 (0, 0) false, .handoff 0 2 (0, 1) true, .entry 2, .close 0, .recv 1]).map
    (fun c => c.deliv) = some [(1, (0, 0)), (2, (0, 1))] := by decide +kernel

/-! ### The judge of histories observed on the real code -/

/-- **Soundness of `validHistory`** (all sender counts, all logs, no bound): whenever the
    executable judge accepts the per-receiver logs of a finished run, an arrival order
    exists (`MergeP`): the logs can be consumed head by head so that every consumed message
    is the next not-yet-consumed message of its sender, all logs end empty and every sender's
    count is reached exactly — every sent value occurs exactly once and each sender's values
    occur in sending order. -/
theorem validHistory_sound (counts : List Nat) (recv : List (List Msg))
    (h : validHistory counts recv = true) : MergeP counts (counts.map fun _ => 0) recv :=
  mergeRun_sound counts _ _ recv h

/-- **Completeness of `validHistory`** (no false alarm from the judge): whenever an arrival
    order exists for the logs, the executable judge accepts them. -/
theorem validHistory_complete (counts : List Nat) (recv : List (List Msg))
    (h : MergeP counts (counts.map fun _ => 0) recv) : validHistory counts recv = true :=
  mergeRun_complete counts _ _ recv h (Nat.le_refl _)

/-- the judge decides exactly the existence of an arrival order -/
theorem validHistory_iff (counts : List Nat) (recv : List (List Msg)) :
    validHistory counts recv = true ↔ MergeP counts (counts.map fun _ => 0) recv :=
  ⟨validHistory_sound counts recv, validHistory_complete counts recv⟩

/-- the judge accepts an interleaved two-sender, two-receiver history … -/
example : validHistory [2, 1] [[(0, 1), (1, 0)], [(0, 0)]] = true := by decide +kernel
/-- … and rejects a duplicate with a loss, a loss alone, a reordering within one receiver
    and a cyclic reordering across two receivers (each receiver's log is increasing per
    sender, but no single arrival order explains both) -/
example : validHistory [2, 1] [[(0, 1), (1, 0)], [(0, 1)]] = false := by decide +kernel
example : validHistory [2, 1] [[(0, 1)], [(0, 0)]] = false := by decide +kernel
example : validHistory [2] [[(0, 1), (0, 0)]] = false := by decide +kernel
example : validHistory [2, 2] [[(0, 1), (1, 0)], [(1, 1), (0, 0)]] = false := by decide +kernel
/-- the defect pattern: nothing alien, one surplus delivery paid for by one loss -/
example : defectPattern [2, 1] [[(0, 1), (1, 0)], [(0, 1)]] = true := by decide +kernel
example : defectPattern [2, 1] [[(0, 1)], [(0, 0)]] = false := by decide +kernel

/-! ### Spawned threads -/

/-- **Arguments travel by value**: let a call be spawned in any state `s` with argument
    expressions `args` — variables, literals, nested calls with or without side effects, to
    any depth (the new thread is number `s.threads.length`).  Whatever happens
    afterwards — the spawner reassigns its variables, overwrites the slice it passed, writes
    shared variables, spawns, runs or waits for other threads, in any order and number — the
    arguments the spawned call reads are the values the expressions had at the spawn site,
    evaluated left to right by the spawner. -/
theorem spawn_args_by_value (s s1 : TState) (args : List Arg) (body : Body) (ob : TObs)
    (hsp : tstep s (.spawn args body) = some (s1, ob)) (rest : List TOp) (s2 : TState)
    (hrun : trun s1 rest = some s2) :
    threadArgs s2 s.threads.length = some (evalArgs s.vars args).1 := by
  -- right after the spawn
  have h1 : ∃ th, s1.threads[s.threads.length]? = some th ∧ s1.heap[th.slice]? = some ((evalArgs s.vars args).1, false) := by
    simp only [tstep, tstepWith, ↓reduceIte, Option.some.injEq, Prod.mk.injEq] at hsp
    rw [← hsp.1]
    refine ⟨{ slice := s.heap.length + 1, body := body }, by simp, ?_⟩
    simp
  -- preserved by every later step
  have key : ∀ (rest : List TOp) (a b : TState), trun a rest = some b →
      (∃ th, a.threads[s.threads.length]? = some th ∧ a.heap[th.slice]? = some ((evalArgs s.vars args).1, false)) →
      (∃ th, b.threads[s.threads.length]? = some th ∧ b.heap[th.slice]? = some ((evalArgs s.vars args).1, false)) := by
    intro rest
    induction rest with
    | nil => intro a b h hi; simp only [trun, Option.some.injEq] at h; subst h; exact hi
    | cons o os ih =>
      intro a b h hi
      simp only [trun] at h
      split at h
      · rename_i a' ob' hst
        obtain ⟨th, hth, hheap⟩ := hi
        obtain ⟨th', hth', hsl, _⟩ := tstep_thread_slice a a' o ob' hst _ th hth
        refine ih a' b h ⟨th', hth', ?_⟩
        rw [hsl]
        exact tstep_private_slice a a' o ob' hst _ _ hheap
      · cases h
  obtain ⟨th, hth, hheap⟩ := key rest s1 s2 hrun h1
  simp [threadArgs, hth, hheap]

/-- plain variables as arguments (the special case the earlier statement was about): the
    values are the variables' values and evaluating them changes nothing -/
theorem evalArgs_vars (vars : List Int) (argVars : List Nat) :
    evalArgs vars (argVars.map .var) = (argVals vars argVars, vars) := by
  induction argVars with
  | nil => rfl
  | cons i is ih => simp only [List.map_cons, evalArgs, evalArg, ih, argVals]

/-- **every argument position** receives exactly one value: the spawned call gets as many
    arguments as the spawn site has expressions, whatever their shape -/
theorem evalArgs_length (vars : List Int) (args : List Arg) :
    (evalArgs vars args).1.length = args.length := by
  induction args generalizing vars with
  | nil => rfl
  | cons a as ih => simp only [evalArgs, List.length_cons, ih]

/-- evaluating argument expressions never changes how many variables the spawner has -/
theorem evalArg_vars_length (vars : List Int) (a : Arg) : (evalArg vars a).2.length = vars.length := by
  induction a with
  | var i => rfl
  | lit k => rfl
  | tick i => simp only [evalArg, List.length_set]
  | dbl a ih => simpa only [evalArg] using ih

/-- **Nested calls run at the spawn site, once**: the spawn statement itself — before and
    whether or not the spawned call ever runs — leaves the spawner's variables exactly as
    the left-to-right evaluation of the argument expressions leaves them (every side effect
    of a nested call has taken place), and that is what the spawner observes next. -/
theorem spawn_evaluates_at_site (s s1 : TState) (args : List Arg) (body : Body) (ob : TObs)
    (hsp : tstep s (.spawn args body) = some (s1, ob)) :
    s1.vars = (evalArgs s.vars args).2 ∧ s1.shared = s.shared ∧
    ob = .spawned s.threads.length s.heap.length (evalArgs s.vars args).2 := by
  simp only [tstep, tstepWith, ↓reduceIte, Option.some.injEq, Prod.mk.injEq] at hsp
  rw [← hsp.1, ← hsp.2]
  exact ⟨rfl, rfl, rfl⟩

/-- … and **not again later**: a spawned call running, or somebody waiting for it, never
    touches the spawner's variables (the nested calls are not re-evaluated in the thread). -/
theorem run_wait_keep_vars (s s' : TState) (ob : TObs) (t : Nat)
    (h : tstep s (.runT t) = some (s', ob) ∨ tstep s (.wait t) = some (s', ob)) : s'.vars = s.vars := by
  cases h with
  | inl h | inr h =>
    simp only [tstep, tstepWith] at h
    split at h
    · split at h
      · cases h; rfl
      · cases h
    · cases h

/-- … in particular the outcome of the call, when it runs, is its body applied to the
    spawn-site values (followed by the shared variables as they are when it runs) -/
theorem spawned_call_outcome (s s1 : TState) (args : List Arg) (body : Body) (ob : TObs)
    (hsp : tstep s (.spawn args body) = some (s1, ob)) (rest : List TOp) (s2 s3 : TState)
    (hrun : trun s1 rest = some s2) (r : Outcome)
    (hr : tstep s2 (.runT s.threads.length) = some (s3, .ran r)) :
    ∃ th, s2.threads[s.threads.length]? = some th ∧ r = th.body.eval ((evalArgs s.vars args).1 ++ s2.shared) := by
  have ha := spawn_args_by_value s s1 args body ob hsp rest s2 hrun
  simp only [tstep, tstepWith] at hr
  split at hr
  · rename_i th hth
    refine ⟨th, hth, ?_⟩
    simp only [threadArgs, hth] at ha
    split at hr
    · rename_i args flag hres hheap
      simp only [Option.some.injEq, Prod.mk.injEq, TObs.ran.injEq] at hr
      rw [hheap] at ha
      simp only [Option.map_some, Option.some.injEq] at ha
      rw [← hr.2, ha]
    · cases hr
  · cases hr

/-- without the copy in `object.Spawn` the statement is false: the spawner overwriting its
    slice changes what the call reads (this is why the copy is part of the model) -/
example : (ttrace (tstepWith false) { vars := [5] } [.spawn [.var 0] .echo, .poke 0 0 9, .runT 0]).getLast?
    = some (some (.ran (.ret [9]))) := by decide +kernel

example : (ttrace tstep { vars := [5] } [.spawn [.var 0] .echo, .assign 0 7, .poke 0 0 9, .runT 0, .wait 0]).getLast?
    = some (some (.waited (.ret [5]))) := by decide +kernel

/-- **wait() returns exactly the spawned call's result or error**: after any history from
    a state without threads, if `wait t` returns `r` then the call of thread `t` ended with `r`
    (a value, a raised error, or the error of a Go panic inside the call — `Outcome` has no
    "nothing" case), and it is the only outcome that call ever had — so every `wait` on
    the same thread returns the same `r`. -/
theorem wait_returns_result (vars shared : List Int) (ops : List TOp) (s s' : TState)
    (h : trun { vars := vars, shared := shared } ops = some s) (t : Nat) (r : Outcome)
    (hw : tstep s (.wait t) = some (s', .waited r)) :
    (t, r) ∈ s.finished ∧ (∀ r', (t, r') ∈ s.finished → r' = r) ∧ s' = s := by
  have hi : ResultInv s := trun_resultInv ops _ s h ⟨by simp, by simp⟩
  simp only [tstep, tstepWith] at hw
  split at hw
  · rename_i th hth
    split at hw
    · rename_i r0 hres
      simp only [Option.some.injEq, Prod.mk.injEq, TObs.waited.injEq] at hw
      obtain ⟨hs, hr⟩ := hw
      subst hr
      refine ⟨hi.1 t th r0 hth hres, ?_, hs.symm⟩
      intro r' hm
      obtain ⟨th', ht', hr'⟩ := hi.2 t r' hm
      rw [hth] at ht'; cases ht'
      rw [hres] at hr'; cases hr'; rfl
    · cases hw
  · cases hw

/-- wait blocks (is not enabled) until the call has returned -/
theorem wait_blocks_until_done (s : TState) (t : Nat) (th : Thread) (ht : s.threads[t]? = some th)
    (hr : th.result = none) : tstep s (.wait t) = none := by
  simp [tstep, tstepWith, ht, hr]

/-- non-vacuity: a history with a reassignment between spawn and run, an error outcome and two waits -/
example : ttrace tstep { vars := [1, 2], shared := [7] }
    [.spawn [.var 0, .var 1] .fail, .assign 0 9, .setShared 0 8, .wait 0, .runT 0, .wait 0, .wait 0]
    = [some (.spawned 0 0 [1, 2]), some .unit, some .unit, none, some (.ran (.err [1, 2, 8])),
       some (.waited (.err [1, 2, 8])), some (.waited (.err [1, 2, 8]))] := by decide +kernel

/-- non-vacuity: nested calls in the argument list (`go f(tick0(), dbl(v0), v0)`) are evaluated
    left to right at the spawn site — the spawner sees `v0 = 6` at once —, a later reassignment
    does not reach the call, and a call that panics hands its error to every `wait` -/
example : ttrace tstep { vars := [5] }
    [.spawn [.tick 0, .dbl (.var 0), .var 0] .panic, .assign 0 0, .runT 0, .wait 0, .wait 0]
    = [some (.spawned 0 0 [6]), some .unit, some (.ran (.panicked [6, 12, 6])),
       some (.waited (.panicked [6, 12, 6])), some (.waited (.panicked [6, 12, 6]))] := by decide +kernel

/-- **a call that ended — returned, raised, or panicked — can be waited for**: right after
    thread `t`'s call ended with `r`, `wait t` is enabled, changes nothing and returns `r` -/
theorem wait_after_run (s s1 : TState) (t : Nat) (r : Outcome)
    (hr : tstep s (.runT t) = some (s1, .ran r)) : tstep s1 (.wait t) = some (s1, .waited r) := by
  simp only [tstep, tstepWith] at hr
  split at hr
  · rename_i th hth
    split at hr
    · simp only [Option.some.injEq, Prod.mk.injEq, TObs.ran.injEq] at hr
      obtain ⟨hs, hr⟩ := hr
      have hlt : t < s.threads.length := (List.getElem?_eq_some_iff.1 hth).1
      subst hs
      simp only [tstep, tstepWith, List.getElem?_set_self hlt, hr]
    · cases hr
  · cases hr

/-! ### Thread trees: delivery does not depend on thread lifetimes

`Net` is the channel machine (any number of channels) together with the TREE of script
threads: `parent[t]` started `t`, `returned` are the threads whose call has ended, `ctx[t]`
are the cancel scopes thread `t`'s code runs under.  `nstep`/`nrun` is the code as it is (a
spawned thread's context lies in exactly the spawner's scopes, a return cancels nothing),
"reachable" means `nrun (ninit caps) ops = some s` for a schedule `ops` of any length over
any tree — any depth, any number of threads, spawns, returns, waits and channel operations
interleaved in any order the machine admits. -/

/-- **The spawned thread's context is the spawner's** (any state, the code as it is): the
    new thread lies in exactly the cancel scopes of the thread that started it, so its
    `ctx.Done()` is ready exactly when the spawner's is — now and after any later step that
    cancels something. -/
theorem child_ctx_is_spawners (s s1 : Net) (p t : Nat) (h : nstep s (.spawn p) = some (s1, .spawned t)) :
    t = s.ctx.length ∧ ctxOf s1 t = ctxOf s p ∧ s1.cancelled = s.cancelled ∧ s1.returned = s.returned := by
  simp only [nstep, nstepWith] at h
  split at h
  · simp only [Bool.false_eq_true, ↓reduceIte, Option.some.injEq, Prod.mk.injEq, NObs.spawned.injEq] at h
    obtain ⟨hs, ht⟩ := h
    subst hs
    subst ht
    refine ⟨rfl, ?_, rfl, rfl⟩
    simp [ctxOf, List.getD_eq_getElem?_getD]
  · cases h

/-- **Every thread of the tree runs under the run's context** (all schedules, all trees, the
    code as it is): in every reachable state every existing thread — at any depth, whoever
    of its ancestors has returned — lies in the run's cancel scope and in no other, and its
    `ctx.Done()` is ready iff the host has cancelled the run. -/
theorem thread_ctx_is_run_ctx (caps : List Nat) (ops : List NOp) (s : Net)
    (h : nrun (ninit caps) ops = some s) (t : Nat) (ht : t < s.ctx.length) :
    ctxOf s t = [0] ∧ ctxDone s t = runCancelled s := by
  have hi := nrun_ctxInv ops _ s h (ninit_ctxInv caps)
  have hc := ctxOf_of_inv s hi t ht
  exact ⟨hc, by simp [ctxDone, hc, runCancelled]⟩

/-- **Only the run's cancellation cuts a send/receive/range short** (all schedules, all
    trees, the code as it is): if in a reachable state some thread's pending channel
    operation can fail with its context's error (`abort t` is enabled) then the host has
    cancelled the run in that schedule.  Contrapositive: as long as the host does not cancel,
    no thread's send is ever refused and no `range` over a channel ends before the close —
    whichever threads have returned. -/
theorem abort_only_after_run_cancel (caps : List Nat) (ops : List NOp) (s : Net)
    (h : nrun (ninit caps) ops = some s) (t : Nat) (r : Net × NObs)
    (ha : nstep s (.abort t) = some r) : NOp.cancel ∈ ops := by
  apply Classical.byContradiction
  intro hn
  have hc : s.cancelled = [] := by
    rw [nrun_cancelled ops _ s h hn]; rfl
  simp only [nstep, nstepWith] at ha
  split at ha
  · rename_i hg
    simp [ctxDone, hc] at hg
  · cases ha

/-- **A parent's return changes nothing for anybody else** (any state, the code as it is):
    let thread `p` return.  Every action `o` that does not involve `p` itself — a channel
    operation of any other thread (its descendants included), a spawn, another return, a
    wait, an abort, the host's cancel — is enabled after the return exactly when it was
    enabled before it, yields the same observation and leaves the same channels (queues and
    delivery histories), contexts and cancelled scopes. -/
theorem parent_return_preserves_delivery (s s1 : Net) (p : Nat) (ob0 : NObs)
    (h : nstep s (.ret p) = some (s1, ob0)) (o : NOp) (hno : involves p o = false) :
    (nstep s1 o).map (fun r => (r.1.chans, r.1.ctx, r.1.cancelled, r.2))
      = (nstep s o).map (fun r => (r.1.chans, r.1.ctx, r.1.cancelled, r.2)) := by
  obtain ⟨_, _, hs1⟩ := nstep_ret_inv s s1 p ob0 h
  subst hs1
  cases o with
  | chan k op =>
    simp only [involves] at hno
    have hl := all_live_ret_other s p (actors op) hno
    simp only [nstep, nstepWith, hl]
    split
    · cases s.chans[k]? with
      | none => rfl
      | some c =>
        simp only
        cases step c op with
        | none => rfl
        | some r => rfl
    · rfl
  | spawn q =>
    simp only [involves, beq_eq_false_iff_ne, ne_eq] at hno
    simp only [nstep, nstepWith, live_ret_other s p q hno, Bool.false_eq_true, ↓reduceIte]
    split
    · simp [ctxOf]
    · rfl
  | ret t =>
    simp only [involves, beq_eq_false_iff_ne, ne_eq] at hno
    simp only [nstep, nstepWith, live_ret_other s p t hno, Bool.false_eq_true, ↓reduceIte]
    split <;> rfl
  | wait w t =>
    simp only [involves, Bool.or_eq_false_iff, beq_eq_false_iff_ne, ne_eq] at hno
    simp only [nstep, nstepWith, live_ret_other s p w hno.1, isReturned_ret_other s p t hno.2]
    split <;> rfl
  | abort t =>
    simp only [involves, beq_eq_false_iff_ne, ne_eq] at hno
    simp only [nstep, nstepWith, live_ret_other s p t hno]
    have : ctxDone { s with returned := s.returned ++ [p] } t = ctxDone s t := rfl
    rw [this]
    split <;> rfl
  | cancel => rfl

/-! #### Whole schedules: returns (and waits) can be erased -/

/-- a schedule without its returns and waits: every thread lives for ever -/
def dropRets : List NOp → List NOp
  | [] => []
  | .ret _ :: os => dropRets os
  | .wait _ _ :: os => dropRets os
  | o :: os => o :: dropRets os

/-- `s'` is `s` except that some threads that have returned in `s` are still alive in `s'` -/
def SameButAlive (s s' : Net) : Prop :=
  s'.chans = s.chans ∧ s'.parent = s.parent ∧ s'.ctx = s.ctx ∧ s'.cancelled = s.cancelled ∧
    s'.nscopes = s.nscopes ∧ ∀ t, t ∈ s'.returned → t ∈ s.returned

theorem live_of_sameButAlive (s s' : Net) (hr : SameButAlive s s') (t : Nat) (h : live s t = true) :
    live s' t = true := by
  obtain ⟨_, _, hc, _, _, hsub⟩ := hr
  simp only [live, isReturned, Bool.and_eq_true, decide_eq_true_eq, Bool.not_eq_true',
    List.contains_eq_mem, decide_eq_false_iff_not] at h ⊢
  rw [hc]
  exact ⟨h.1, fun hm => h.2 (hsub t hm)⟩

theorem nstep_sameButAlive (s s' s1 : Net) (o : NOp) (ob : NObs) (hr : SameButAlive s s')
    (h : nstep s o = some (s1, ob)) (hnr : ∀ t, o ≠ .ret t) (hnw : ∀ w t, o ≠ .wait w t) :
    ∃ s1', nstep s' o = some (s1', ob) ∧ SameButAlive s1 s1' := by
  have hlive := live_of_sameButAlive s s' hr
  obtain ⟨hch, hpa, hcx, hca, hns, hsub⟩ := hr
  cases o with
  | chan k op =>
    obtain ⟨c, c', ob', hc, hstep, hob, hs1, hl⟩ := nstepWith_chan_inv false s s1 k op ob h
    have hl' : (actors op).all (live s') = true := by
      simp only [List.all_eq_true] at hl ⊢
      exact fun t ht => hlive t (hl t ht)
    refine ⟨{ s' with chans := s'.chans.set k c' }, ?_, ?_⟩
    · simp only [nstep, nstepWith, hl', ↓reduceIte, hch, hc, hstep, hob]
    · rw [hs1]; exact ⟨by simp [hch], hpa, hcx, hca, hns, hsub⟩
  | spawn p =>
    simp only [nstep, nstepWith] at h
    split at h
    · rename_i hl
      simp only [Bool.false_eq_true, ↓reduceIte, Option.some.injEq, Prod.mk.injEq] at h
      refine ⟨{ s' with parent := s'.parent ++ [p], ctx := s'.ctx ++ [ctxOf s' p] }, ?_, ?_⟩
      · simp only [nstep, nstepWith, hlive p hl, ↓reduceIte, Bool.false_eq_true, hcx, ← h.2]
      · rw [← h.1]; exact ⟨hch, by simp [hpa], by simp [hcx, ctxOf], hca, hns, hsub⟩
    · cases h
  | ret t => exact absurd rfl (hnr t)
  | wait w t => exact absurd rfl (hnw w t)
  | abort t =>
    simp only [nstep, nstepWith] at h
    split at h
    · rename_i hg
      simp only [Option.some.injEq, Prod.mk.injEq] at h
      simp only [Bool.and_eq_true] at hg
      have hd : ctxDone s' t = true := by
        have : ctxDone s' t = ctxDone s t := by simp [ctxDone, ctxOf, hcx, hca]
        rw [this]; exact hg.2
      refine ⟨{ s' with returned := s'.returned ++ [t] }, ?_, ?_⟩
      · simp only [nstep, nstepWith, hlive t hg.1, hd, Bool.and_self, ↓reduceIte, ← h.2]
      · rw [← h.1]
        refine ⟨hch, hpa, hcx, hca, hns, ?_⟩
        intro u hu
        simp only [List.mem_append, List.mem_singleton] at hu ⊢
        cases hu with
        | inl hu => exact Or.inl (hsub u hu)
        | inr hu => exact Or.inr hu
    · cases h
  | cancel =>
    simp only [nstep, nstepWith, Option.some.injEq, Prod.mk.injEq] at h
    refine ⟨{ s' with cancelled := s'.cancelled ++ [0] }, ?_, ?_⟩
    · simp only [nstep, nstepWith, ← h.2]
    · rw [← h.1]; exact ⟨hch, hpa, hcx, by simp [hca], hns, hsub⟩

/-- **Delivery is independent of thread lifetimes** (all schedules, all trees, the code as it
    is): take any executable schedule and erase every return (and every wait) from it — so
    that no thread ever ends.  The erased schedule is executable too and ends with exactly the
    same channels: the same queues, the same values accepted, dequeued and handed out, to the
    same receivers in the same order, the same contexts and cancelled scopes.  Which threads
    have returned, and when, decides nothing about what is delivered. -/
theorem delivery_independent_of_returns (ops : List NOp) (s s' f : Net) (hr : SameButAlive s s')
    (h : nrun s ops = some f) : ∃ f', nrun s' (dropRets ops) = some f' ∧ SameButAlive f f' := by
  induction ops generalizing s s' with
  | nil =>
    simp only [nrun, nrunWith, Option.some.injEq] at h
    subst h
    exact ⟨s', rfl, hr⟩
  | cons o os ih =>
    simp only [nrun, nrunWith] at h
    split at h
    · rename_i s1 ob hst
      cases o with
      | ret t =>
        obtain ⟨_, _, hs1⟩ := nstep_ret_inv s s1 t ob hst
        have hr1 : SameButAlive s1 s' := by
          obtain ⟨a, b, c, d, e, g⟩ := hr
          rw [hs1]
          exact ⟨a, b, c, d, e, fun u hu => List.mem_append_left _ (g u hu)⟩
        simpa only [dropRets] using ih s1 s' hr1 h
      | wait w t =>
        have hs1 : s1 = s := by
          simp only [nstepWith] at hst
          split at hst
          · simp only [Option.some.injEq, Prod.mk.injEq] at hst; exact hst.1.symm
          · cases hst
        rw [hs1] at h
        simpa only [dropRets] using ih s s' hr h
      | chan k op | spawn p | abort t | cancel =>
        obtain ⟨s1', hst', hr1⟩ := nstep_sameButAlive s s' s1 _ ob hr hst nofun nofun
        obtain ⟨f', hf', hrf⟩ := ih s1 s1' hr1 h
        refine ⟨f', ?_, hrf⟩
        simp only [dropRets, nrun, nrunWith]
        simp only [nstep] at hst'
        rw [hst']
        exact hf'
    · cases h

/-- the same from the initial state: the run in which nobody ever returns delivers exactly
    what the given run delivers -/
theorem delivery_independent_of_returns_init (caps : List Nat) (ops : List NOp) (f : Net)
    (h : nrun (ninit caps) ops = some f) :
    ∃ f', nrun (ninit caps) (dropRets ops) = some f' ∧ f'.chans = f.chans ∧ f'.cancelled = f.cancelled := by
  obtain ⟨f', hf', hr⟩ := delivery_independent_of_returns ops (ninit caps) (ninit caps) f
    ⟨rfl, rfl, rfl, rfl, rfl, fun _ h => h⟩ h
  exact ⟨f', hf', hr.1, hr.2.2.2.1⟩

/-! #### Every channel of a thread tree is the channel machine -/

/-- **Projection** (all schedules, all trees, both variants of the context): the state of
    channel `k` after a schedule of the thread tree is the state the channel machine reaches
    from the fresh channel on the operations addressed to `k`, in schedule order.  So every
    theorem above about `run (init cap) ops` speaks about every channel of every tree. -/
theorem net_channel_is_channel_machine (b : Bool) (caps : List Nat) (ops : List NOp) (s : Net)
    (h : nrunWith b (ninit caps) ops = some s) (k cap : Nat) (hk : caps[k]? = some cap) :
    ∃ c, s.chans[k]? = some c ∧ run (init cap) (chanOpsOf k ops) = some c :=
  nrunWith_chan b ops (ninit caps) s h k (init cap) (by simp [ninit, hk])

/-- **Arrival order in a thread tree**: on every channel of every tree, whoever has returned,
    dequeued ++ queued = accepted, in order. -/
theorem net_fifo_conservation (caps : List Nat) (ops : List NOp) (s : Net)
    (h : nrun (ninit caps) ops = some s) (k : Nat) (c : Chan) (hc : s.chans[k]? = some c) :
    values c.deq ++ c.buf = c.sent := by
  have hlt : k < caps.length := by
    have := (List.getElem?_eq_some_iff.1 hc).1
    have hl : s.chans.length = caps.length := by
      have : ∀ (ops : List NOp) (a b : Net), nrun a ops = some b → b.chans.length = a.chans.length := by
        intro ops
        induction ops with
        | nil => intro a b h; simp only [nrun, nrunWith, Option.some.injEq] at h; subst h; rfl
        | cons o os ih =>
          intro a b h
          simp only [nrun, nrunWith] at h
          split at h
          · rename_i a1 ob hst
            rw [ih a1 b h]
            cases o with
            | chan k op =>
              obtain ⟨_, _, _, _, _, _, hs1, _⟩ := nstepWith_chan_inv false a a1 k op ob hst
              rw [hs1]; simp
            | _ => rw [nstepWith_not_chan_chans false a a1 _ ob hst nofun]
          · cases h
      rw [this ops _ s h]; simp [ninit]
    omega
  obtain ⟨c', hc', hrun⟩ := net_channel_is_channel_machine false caps ops s h k caps[k] (List.getElem?_eq_getElem hlt)
  rw [hc] at hc'
  cases hc'
  exact fifo_conservation _ _ c hrun

/-- **Exactly once, in order, in a thread tree** (the channel part of C10 for nested spawns):
    on every channel `k` of every tree — any depth, threads returning at any moment — on
    which at most one thread iterates (`atMostOneIterator`, the guard of the recorded
    finding), in every reachable state without a half-finished iteration step every accepted
    value was handed out exactly once or is still queued, and every receiver saw each
    sender's values in sending order. -/
theorem net_exactly_once (caps : List Nat) (ops : List NOp) (s : Net)
    (h : nrun (ninit caps) ops = some s) (k cap : Nat) (hk : caps[k]? = some cap)
    (hg : atMostOneIterator (chanOpsOf k ops) = true) (c : Chan) (hc : s.chans[k]? = some c)
    (hp : c.pend = []) : ExactlyOnce c ∧ ReceiverOrder c := by
  obtain ⟨c', hc', hrun⟩ := net_channel_is_channel_machine false caps ops s h k cap hk
  rw [hc] at hc'
  cases hc'
  exact C10_partial_guard cap _ hg c hrun hp

/-! #### Why the context is part of the model -/

/-- the smallest nested topology: the main program starts thread 1, thread 1 starts thread 2
    (a producer) and returns; thread 2 then sends and the main program receives -/
def nestedProducer : List NOp :=
  [.spawn 0, .spawn 1, .ret 1, .chan 0 (.send 2 (2, 0)), .chan 0 (.recv 0), .chan 0 (.send 2 (2, 1)),
   .chan 0 (.recv 0), .ret 2]

/-- the code as it is delivers both values, and thread 2 can never be cut short -/
example : (nrun (ninit [1]) nestedProducer).map (fun s => (s.chans.map (·.deliv), s.returned, ctxDone s 2))
    = some ([[(0, (2, 0)), (0, (2, 1))]], [1, 2], false) := by decide +kernel

/-- **With a cancel scope per spawned call the statement is false**: in the variant where a
    returning call cancels the scope its children were started in, a schedule in which the
    host never cancels reaches a state where a grandchild's pending send can fail with
    "context canceled" — the value is never delivered.  (This is why `ctx` is in the model:
    `abort_only_after_run_cancel` and `parent_return_preserves_delivery` are properties of
    the context plumbing, not of the channels.) -/
theorem own_scope_variant_cuts_descendants_short :
    ∃ (ops : List NOp) (s : Net) (t : Nat), nrunWith true (ninit [1]) ops = some s ∧ NOp.cancel ∉ ops ∧
      (nstepWith true s (.abort t)).isSome = true ∧ isReturned s t = false := by
  obtain ⟨s, hr, hv⟩ := Option.map_eq_some_iff.1 (show
    (nrunWith true (ninit [1]) [.spawn 0, .spawn 1, .ret 1]).map
      (fun s => ((nstepWith true s (.abort 2)).isSome, isReturned s 2)) = some (true, false) by decide +kernel)
  simp only [Prod.mk.injEq] at hv
  exact ⟨_, s, 2, hr, by decide +kernel, hv.1, hv.2⟩


/-! ### "Closed" is reported only when drained (produce-then-close races)

A producer that sends its last values and closes at once, while consumers are waiting on the
momentarily empty channel: the consumer's receive must not answer "closed" while a value is
queued.  In the machine (= the code as it is) the answer rests on ONE atomic test. -/

/-- **A receive is "atomic test first"**: `<-c` answers nil exactly when the queue is empty
    AND the channel is closed at the moment of the step; otherwise it dequeues or is not
    enabled (for every state and thread). -/
theorem recv_is_atomic_test (c : Chan) (t : Nat) : step c (.recv t) = recvAtomic c t := by
  unfold recvAtomic closedAndDrained
  simp only [step]
  split
  · rfl
  · cases hb : c.buf with
    | nil => cases hc : c.closed <;> simp
    | cons v rest => simp

/-- the same for the first half of a `range` step -/
theorem next_is_atomic_test (c : Chan) (t : Nat) : step c (.next t) = nextAtomic c t := by
  unfold nextAtomic closedAndDrained
  simp only [step]
  split
  · rfl
  · cases hb : c.buf with
    | nil => cases hc : c.closed <;> simp
    | cons v rest => simp

/-- **"Closed" is reported only when drained** (every schedule — any length, any number of
    threads, every interleaving, every buffer size —, every action of every thread): if in a
    reachable state a step reports "closed" (a receive answers nil, a `range` step ends) then
    at that moment the queue is empty and the channel is closed, every value the channel ever
    accepted has been dequeued, and the step changes nothing.  In particular no receive
    reports "closed" while a value is still buffered. -/
theorem closed_reported_only_when_drained (cap : Nat) (ops : List Op) (c : Chan)
    (h : run (init cap) ops = some c) (o : Op) (c' : Chan) (ob : Obs)
    (hs : step c o = some (c', ob)) (hr : ob.reportsClosed = true) :
    c.buf = [] ∧ c.closed = true ∧ values c.deq = c.sent ∧ c' = c := by
  have hf := fifo_conservation cap ops c h
  -- only a step that leaves the state alone reports "closed"
  cases step_eff c c' o ob hs with
  | same _ _ _ _ _ hcd =>
    obtain ⟨hb, hc⟩ := hcd hr
    rw [hb, List.append_nil] at hf
    exact ⟨hb, hc, hf, rfl⟩
  | _ => cases hr

/-- **A "closed" report is final** (every continuation of every schedule): once some step has
    reported "closed" in a reachable state `c`, whatever any thread does afterwards — in any
    order and number — nothing is accepted and nothing is dequeued any more and the queue stays
    empty: the values accepted up to the report are all the values there will ever be, and they
    had all been dequeued.  (So a consumer that stops at nil / at the end of its `range` has
    missed nothing.) -/
theorem closed_report_is_final (cap : Nat) (ops : List Op) (c : Chan)
    (h : run (init cap) ops = some c) (o : Op) (c' : Chan) (ob : Obs)
    (hs : step c o = some (c', ob)) (hr : ob.reportsClosed = true) (rest : List Op) (cf : Chan)
    (hrest : run c' rest = some cf) :
    cf.sent = c.sent ∧ cf.deq = c.deq ∧ cf.buf = [] ∧ values cf.deq = cf.sent := by
  obtain ⟨hb, hc, hall, he⟩ := closed_reported_only_when_drained cap ops c h o c' ob hs hr
  subst he
  have key : ∀ (rest : List Op) (a b : Chan), run a rest = some b → a.closed = true → a.buf = [] →
      b.sent = a.sent ∧ b.deq = a.deq ∧ b.buf = [] := by
    intro rest
    induction rest with
    | nil => intro a b hab _ hab2; simp only [run, Option.some.injEq] at hab; subst hab; exact ⟨rfl, rfl, hab2⟩
    | cons x xs ih =>
      intro a b hab hca hba
      simp only [run] at hab
      split at hab
      · rename_i a1 ob1 hst
        obtain ⟨hc1, hb1, hs1, hd1⟩ := closed_drained_stable a a1 x ob1 hca hba hst
        obtain ⟨r1, r2, r3⟩ := ih a1 b hab hc1 hb1
        exact ⟨r1.trans hs1, r2.trans hd1, r3⟩
      · cases hab
  obtain ⟨r1, r2, r3⟩ := key rest c' cf hrest hc hb
  exact ⟨r1, r2, r3, by rw [r1, r2]; exact hall⟩

/-- **… so everything sent was handed out** when "closed" is reported (every schedule in which
    at most one thread iterates — the guard of the recorded finding — and no iteration step is
    half-finished): at that moment the values handed to script code are, as a multiset, exactly
    the values the channel accepted. -/
theorem closed_report_all_delivered (cap : Nat) (ops : List Op) (hg : atMostOneIterator ops = true)
    (c : Chan) (h : run (init cap) ops = some c) (hp : c.pend = []) (o : Op) (c' : Chan) (ob : Obs)
    (hs : step c o = some (c', ob)) (hr : ob.reportsClosed = true) : (values c.deliv).Perm c.sent := by
  obtain ⟨hb, _, _, _⟩ := closed_reported_only_when_drained cap ops c h o c' ob hs hr
  have := (C10_partial_guard cap ops hg c h hp).1
  unfold ExactlyOnce at this
  rw [hb, List.append_nil] at this
  exact this

/-- the race of the contrast machine: the consumer (thread 1) finds the queue empty; the
    producer (thread 0) sends its last value and closes; the consumer then reads the flag -/
def pollThenFlagRace : List Op2 :=
  [.poll 1 false, .base (.send 0 (0, 0)), .base (.close 0), .flag 1 false]

/-- **Reading "empty" and "closed" at two moments loses a value** (contrast; this is why the
    test must be one): in the two-step variant a schedule exists — buffer size 1, one producer,
    one consumer — after which the consumer has been told "closed" (nil) although the value the
    channel accepted is still queued and has been handed to nobody.  The machine of the code
    as it is admits no such state (`closed_reported_only_when_drained`). -/
theorem two_step_variant_loses_a_value :
    ∃ (ops : List Op2) (s : Chan2) (obs : List (Option Obs)),
      run2 { c := init 1 } ops = some (s, obs) ∧ obs.getLast? = some (some .nil) ∧
      s.c.sent = [(0, 0)] ∧ s.c.buf = [(0, 0)] ∧ s.c.deliv = [] := by
  obtain ⟨r, hr, hv⟩ := Option.map_eq_some_iff.1 (show
    (run2 { c := init 1 } pollThenFlagRace).map (fun r => (r.2.getLast?, r.1.c.sent, r.1.c.buf, r.1.c.deliv))
      = some (some (some .nil), [(0, 0)], [(0, 0)], []) from rfl)
  simp only [Prod.mk.injEq] at hv
  exact ⟨pollThenFlagRace, r.1, r.2, hr, hv.1, hv.2.1, hv.2.2.1, hv.2.2.2⟩

/-- the same race with a `range` loop: the iteration ends while a value is queued -/
example : (run2 { c := init 2 } [.poll 1 true, .base (.send 0 (0, 0)), .base (.send 0 (0, 1)), .base (.close 0), .flag 1 true]).map
    (fun r => (r.2.getLast?, r.1.c.buf)) = some (some (some .nextEnd), [(0, 0), (0, 1)]) := by decide +kernel

/-- the machine of the code on the same race: the consumer's receive is not enabled on the
    empty open channel, and after send and close it gets the value, then nil -/
example : (trace step (init 1) [.recv 1, .send 0 (0, 0), .close 0, .recv 1, .recv 1]).1
    = [none, some .sendOk, some .closeOk, some (.val (0, 0)), some .nil] := by decide +kernel

/-! ### Every spawned callable runs on a VM of its own -/

/-- invariant of the VM machine of the code as it is: thread `t` runs on VM `t`, there are as
    many VMs as threads, and each VM's register counts exactly its thread's steps -/
def VInv (s : VMs) : Prop := s.vmOf = List.range s.vmOf.length ∧ s.ip.length = s.vmOf.length ∧ s.ip = s.pos

theorem vstep_vinv (s s' : VMs) (o : VOp) (hi : VInv s) (h : vstep s o = some s') : VInv s' := by
  obtain ⟨hv, hl, hp⟩ := hi
  cases o with
  | spawn p k =>
    simp only [vstep, vstepWith, Bool.true_or, ↓reduceIte] at h
    split at h
    · simp only [Option.some.injEq] at h
      subst h
      refine ⟨?_, by simp [hl], by simp [hp]⟩
      simp only [List.length_append, List.length_cons, List.length_nil, Nat.zero_add, List.range_succ]
      rw [← hv, hl]
    · cases h
  | exec t =>
    simp only [vstep, vstepWith] at h
    split at h
    · rename_i ht
      simp only [Option.some.injEq] at h
      subst h
      have hvt : s.vmOf.getD t 0 = t := by
        rw [hv, List.getD_eq_getElem?_getD, List.getElem?_range (by simpa using ht)]
        rfl
      refine ⟨hv, by simp [hl], ?_⟩
      simp only [hvt, hp]
    · cases h

theorem vrun_vinv (ops : List VOp) (s s' : VMs) (hi : VInv s) (h : vrun s ops = some s') : VInv s' := by
  induction ops generalizing s with
  | nil => simp only [vrun, vrunWith, Option.some.injEq] at h; subst h; exact hi
  | cons o os ih =>
    simp only [vrun, vrunWith] at h
    split at h
    · rename_i s1 hst
      exact ih s1 (vstep_vinv s s1 o hi hst) h
    · cases h

/-- **No two threads share a VM** (every schedule of spawns — of compiled functions, builtins
    and bound methods alike, by any thread, through any spawn form — and script steps, the code
    as it is): in every reachable state two different threads run their script code on
    different VMs. -/
theorem threads_have_distinct_vms (ops : List VOp) (s : VMs) (h : vrun {} ops = some s)
    (t u : Nat) (ht : t < s.vmOf.length) (hu : u < s.vmOf.length) (hne : t ≠ u) :
    s.vmOf.getD t 0 ≠ s.vmOf.getD u 0 := by
  obtain ⟨hv, _, _⟩ := vrun_vinv ops {} s ⟨rfl, rfl, rfl⟩ h
  have e : ∀ x, x < s.vmOf.length → s.vmOf.getD x 0 = x := by
    intro x hx
    rw [hv, List.getD_eq_getElem?_getD, List.getElem?_range (by simpa using hx)]
    rfl
  rw [e t ht, e u hu]
  exact hne

/-- the same as the decidable Spec predicate the oracle evaluates -/
theorem threads_have_distinct_vms_nodup (ops : List VOp) (s : VMs) (h : vrun {} ops = some s) :
    distinctVMs s = true := by
  obtain ⟨hv, _, _⟩ := vrun_vinv ops {} s ⟨rfl, rfl, rfl⟩ h
  simp only [distinctVMs, decide_eq_true_eq]
  rw [hv]
  exact List.nodup_range

/-- **A thread's VM is moved by that thread only** (every schedule, the code as it is): in
    every reachable state the register of the VM thread `t` runs on counts exactly the script
    steps `t` itself has executed — no callback of any spawned builtin, bound method or function
    has pushed a frame on, or moved the registers of, another thread's VM (the spawner's own
    computation is unaffected by what it spawned). -/
theorem vm_moved_by_own_thread_only (ops : List VOp) (s : VMs) (h : vrun {} ops = some s)
    (t : Nat) (ht : t < s.vmOf.length) : s.ip.getD (s.vmOf.getD t 0) 0 = s.pos.getD t 0 := by
  obtain ⟨hv, _, hp⟩ := vrun_vinv ops {} s ⟨rfl, rfl, rfl⟩ h
  have e : s.vmOf.getD t 0 = t := by
    rw [hv, List.getD_eq_getElem?_getD, List.getElem?_range (by simpa using ht)]
    rfl
  rw [e, hp]

/-- **Without a clone for builtins the statement is false** (contrast; this is why the clone is
    in the model): in the variant where only compiled functions get a VM of their own, the main
    program spawns a bound method (`items.map.spawn(f)`) and the first callback of that thread
    runs on the main program's VM — two threads share VM 0, and its register has moved although
    the main program has not executed a step. -/
theorem shared_vm_variant_derails_spawner :
    ∃ (ops : List VOp) (s : VMs), vrunWith false {} ops = some s ∧ distinctVMs s = false ∧ ownProgress s = false ∧
      s.vmOf.getD 1 0 = s.vmOf.getD 0 0 ∧ s.ip.getD 0 0 = 1 ∧ s.pos.getD 0 0 = 0 := by
  obtain ⟨s, hr, hv⟩ := Option.map_eq_some_iff.1 (show
    (vrunWith false {} [.spawn 0 .method, .exec 1]).map
      (fun s => (distinctVMs s, ownProgress s, s.vmOf.getD 1 0, s.vmOf.getD 0 0, s.ip.getD 0 0, s.pos.getD 0 0))
      = some (false, false, 0, 0, 1, 0) by decide +kernel)
  simp only [Prod.mk.injEq] at hv
  exact ⟨_, s, hr, hv.1, hv.2.1, by rw [hv.2.2.1, hv.2.2.2.1], hv.2.2.2.2.1, hv.2.2.2.2.2⟩

/-- non-vacuity: a tree of spawns of every kind with steps interleaved — five threads, five VMs,
    every register equal to its thread's own step count -/
example : (vrun {} [.spawn 0 .method, .exec 1, .exec 0, .spawn 0 .builtin, .spawn 1 .fn, .exec 2, .exec 1, .spawn 3 .method, .exec 4, .exec 0]).map
    (fun s => (s.vmOf, s.ip, s.pos, distinctVMs s, ownProgress s))
      = some ([0, 1, 2, 3, 4], [2, 2, 1, 0, 1], [2, 2, 1, 0, 1], true, true) := by decide +kernel

end Risor.C10
