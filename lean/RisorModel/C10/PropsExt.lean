import RisorModel.C10.ModelExt
import RisorModel.C10.Lemmas
import RisorModel.C10.Props
/-!
C10 — theorems about (§1) range loops that are left early and (§2) what a thread's VM knows
of the modules (`ModelExt.lean`).  All statements are universally quantified over schedules.
-/
namespace Risor.C10

/-! ### §1 A range loop that ends early loses nothing -/

theorem heldOf_nil (s : LChan) (t : Nat) (h : s.held = []) : heldOf s t = none := by
  simp [heldOf, h]

/-- a `base` step from a state in which no iterator holds anything is a step of the channel
    machine, and when it is an iteration step its thread is inside a loop -/
theorem lstep_base (s s' : LChan) (b : Op) (ob : Option Obs) (hh : s.held = [])
    (h : lstep s (.base b) = some (s', ob)) :
    ∃ c' ob', step s.c b = some (c', ob') ∧ s' = { s with c := c' } ∧ ob = some ob' ∧
      ∀ t, iterActor b = some t → s.inLoop.contains t = true := by
  simp only [lstep, lstepWith] at h
  split at h
  · rename_i t hit
    split at h
    · cases h
    · rename_i hin
      rw [heldOf_nil s t hh] at h
      cases b <;> simp only at h <;>
        (split at h
         · rename_i c' ob' hst
           cases h
           exact ⟨c', ob', hst, rfl, rfl, fun t' ht' => by rw [hit] at ht'; cases ht'; simpa using hin⟩
         · cases h)
  · rename_i hit
    split at h
    · rename_i c' ob' hst
      cases h
      exact ⟨c', ob', hst, rfl, rfl, fun t' ht' => by rw [hit] at ht'; cases ht'⟩
    · cases h

/-- one step of the code as it is, from a state in which no iterator holds anything: a
    `base` step is exactly a step of the channel machine, every other step leaves the channel
    alone; afterwards no iterator holds anything and nothing has been dropped -/
theorem lstep_project (s s' : LChan) (o : LOp) (ob : Option Obs) (hh : s.held = []) (hd : s.dropped = [])
    (h : lstep s o = some (s', ob)) :
    s'.held = [] ∧ s'.dropped = [] ∧
      (match o with
       | .base b => ∃ ob', ob = some ob' ∧ step s.c b = some (s'.c, ob')
       | _ => s'.c = s.c) := by
  cases o with
  | enter t =>
    simp only [lstep, lstepWith] at h
    split at h
    · cases h
    · cases h; exact ⟨hh, hd, rfl⟩
  | leave t =>
    simp only [lstep, lstepWith] at h
    split at h
    · cases h; simp [hh, hd]
    · cases h
  | grab t =>
    simp [lstep, lstepWith] at h
  | base b =>
    obtain ⟨c', ob', hst, rfl, rfl, _⟩ := lstep_base s s' b ob hh h
    exact ⟨hh, hd, ob', rfl, hst⟩

/-- **A loop schedule is a channel schedule** (every schedule of the code as it is, loops
    entered and left at any moment): no iterator ever holds a value, nothing is ever dropped
    with an iterator, and the channel is in the state the channel machine reaches on the
    channel steps of the schedule. -/
theorem lrun_project (ops : List LOp) (s s' : LChan) (hh : s.held = []) (hd : s.dropped = [])
    (h : lrun s ops = some s') :
    s'.held = [] ∧ s'.dropped = [] ∧ run s.c (baseOps ops) = some s'.c := by
  induction ops generalizing s with
  | nil =>
    simp only [lrun, lrunWith] at h
    cases h
    exact ⟨hh, hd, rfl⟩
  | cons o os ih =>
    simp only [lrun, lrunWith] at h
    split at h
    · rename_i s1 ob hst
      obtain ⟨hh1, hd1, hc⟩ := lstep_project s s1 o ob hh hd hst
      obtain ⟨a, b, c⟩ := ih s1 hh1 hd1 h
      refine ⟨a, b, ?_⟩
      cases o with
      | base bo =>
        obtain ⟨ob', _, hs⟩ := hc
        simp only [baseOps, run, hs]
        exact c
      | enter t => simp only [baseOps]; rw [← hc]; exact c
      | leave t => simp only [baseOps]; rw [← hc]; exact c
      | grab t => simp only [baseOps]; rw [← hc]; exact c
    · cases h

/-- **An iterator holds nothing** (every schedule, any number of loops entered and left —
    by `break`, `return`, a raised error or at the end of the channel — by any number of
    threads): in every reachable state nothing has been taken out of the channel that was not
    handed to script code in the same instruction, and nothing went away with an iterator. -/
theorem iterator_holds_nothing (cap : Nat) (ops : List LOp) (s : LChan) (h : lrun (linit cap) ops = some s) :
    nothingWithheld s = true := by
  obtain ⟨a, b, _⟩ := lrun_project ops (linit cap) s rfl rfl h
  simp [nothingWithheld, a, b]

/-- every channel of a loop schedule is the channel machine (so every theorem of `Props`
    about `run` speaks about loop schedules too) -/
theorem lchan_is_channel_machine (cap : Nat) (ops : List LOp) (s : LChan) (h : lrun (linit cap) ops = some s) :
    run (init cap) (baseOps ops) = some s.c :=
  (lrun_project ops (linit cap) s rfl rfl h).2.2

/-- **Leaving a loop takes nothing along** (every state): the exit of a loop changes neither
    the queue nor what was delivered; the thread is not half-way through an iteration step. -/
theorem leave_takes_nothing (s s' : LChan) (t : Nat) (ob : Option Obs) (hh : s.held = [])
    (h : lstep s (.leave t) = some (s', ob)) :
    s'.c = s.c ∧ s'.held = [] ∧ s'.dropped = s.dropped ∧ isPend s'.c t = false := by
  simp only [lstep, lstepWith] at h
  split at h
  · rename_i hc
    cases h
    simp only [Bool.and_eq_true, Bool.not_eq_true'] at hc
    simp [hh, hc.2]
  · cases h

/-- **Early exit, exactly once** (every schedule in which the loops over the channel are all
    by one thread `t0`, which may enter and leave loops any number of times at any moment;
    any number of other threads send, receive explicitly and close): in every reachable state
    without a half-finished iteration step every accepted value was handed to script code
    exactly once or is STILL QUEUED — for the next receive of whichever thread — and every
    receiver saw each sender's values in sending order. -/
theorem early_exit_exactly_once (cap : Nat) (ops : List LOp) (t0 : Nat) (hg : onlyIter t0 (baseOps ops) = true)
    (s : LChan) (h : lrun (linit cap) ops = some s) (hp : s.c.pend = []) :
    ExactlyOnce s.c ∧ ReceiverOrder s.c ∧ nothingWithheld s = true :=
  have hc := lchan_is_channel_machine cap ops s h
  ⟨(C10_partial cap (baseOps ops) t0 hg s.c hc hp).1, (C10_partial cap (baseOps ops) t0 hg s.c hc hp).2,
    iterator_holds_nothing cap ops s h⟩

theorem baseOps_append (a b : List LOp) : baseOps (a ++ b) = baseOps a ++ baseOps b := by
  induction a with
  | nil => rfl
  | cons o os ih => cases o <;> simp [baseOps, ih]

/-- a schedule that ends in a step: the state before it and the step -/
theorem lrun_snoc (ops : List LOp) (o : LOp) (a s : LChan) (h : lrun a (ops ++ [o]) = some s) :
    ∃ s1, lrun a ops = some s1 ∧ ∃ ob, lstep s1 o = some (s, ob) := by
  induction ops generalizing a with
  | nil =>
    simp only [List.nil_append, lrun, lrunWith] at h
    split at h
    · rename_i s1 ob hst
      cases h
      exact ⟨a, rfl, ob, hst⟩
    · cases h
  | cons o' os ih =>
    simp only [List.cons_append, lrun, lrunWith] at h
    split at h
    · rename_i s1 ob hst
      obtain ⟨s2, h2, hob⟩ := ih s1 h
      refine ⟨s2, ?_, hob⟩
      simp only [lrun, lrunWith, hst]
      exact h2
    · cases h

/-- … and right after that thread has left a loop — by `break`, `return`, a raised error or
    at the end of the channel — no iteration step is half-finished: the statement holds at
    EVERY loop exit, whatever was ready in the channel at that moment. -/
theorem at_loop_exit_exactly_once (cap : Nat) (ops : List LOp) (t0 : Nat)
    (hg : onlyIter t0 (baseOps ops) = true) (s : LChan)
    (h : lrun (linit cap) (ops ++ [.leave t0]) = some s) :
    ExactlyOnce s.c ∧ ReceiverOrder s.c ∧ nothingWithheld s = true := by
  have hg' : onlyIter t0 (baseOps (ops ++ [.leave t0])) = true := by
    rw [baseOps_append]; simpa [baseOps] using hg
  have hc := lchan_is_channel_machine cap _ s h
  have hsingle := run_single t0 cap _ hg' s.c hc
  -- the last step is the exit: t0 is not between Next and Entry
  have hnp : isPend s.c t0 = false := by
    obtain ⟨s1, h1, ob, hl⟩ := lrun_snoc ops (.leave t0) (linit cap) s h
    have hh1 := (lrun_project ops (linit cap) s1 rfl rfl h1).1
    exact (leave_takes_nothing s1 s t0 ob hh1 hl).2.2.2
  have hp : s.c.pend = [] := by
    rcases hsingle.2 with hp | ⟨v, hp, _⟩
    · exact hp
    · simp [isPend, hp] at hnp
  exact early_exit_exactly_once cap _ t0 hg' s h hp

/-- every thread that is between its Next and its Entry is inside a loop -/
def PendInLoop (s : LChan) : Prop := ∀ p ∈ s.c.pend, s.inLoop.contains p.1 = true

theorem mem_dropPend (c : Chan) (t : Nat) (p : Nat × Msg) (h : p ∈ dropPend c t) : p ∈ c.pend :=
  (List.eraseP_sublist).subset h

theorem eff_pend (c c' : Chan) (o : Op) {ob : Obs} (h : Eff c o c' ob) (p : Nat × Msg) (hp : p ∈ c'.pend) :
    p ∈ c.pend ∨ iterActor o = some p.1 := by
  cases h with
  | same | send | close | recv | handRecv => exact .inl hp
  | next t v rest | handNext _ t v =>
    simp only [nextOf, List.mem_append, List.mem_singleton] at hp
    rcases hp with hp | hp
    · exact .inl hp
    · right; simp [iterActor, hp]
  | entry t v | entryNone t => exact .inl (mem_dropPend c t p hp)

theorem lstep_pendInLoop (s s' : LChan) (o : LOp) (ob : Option Obs) (hh : s.held = []) (hi : PendInLoop s)
    (h : lstep s o = some (s', ob)) : PendInLoop s' := by
  cases o with
  | enter t =>
    simp only [lstep, lstepWith] at h
    split at h
    · cases h
    · cases h
      intro p hp
      have := hi p hp
      simp only [List.contains_eq_mem, List.mem_append, decide_eq_true_eq] at this ⊢
      exact .inl this
  | leave t =>
    simp only [lstep, lstepWith] at h
    split at h
    · rename_i hc
      cases h
      simp only [Bool.and_eq_true, Bool.not_eq_true'] at hc
      intro p hp
      have hin := hi p hp
      have hne : p.1 ≠ t := by
        intro he
        have := List.any_eq_false.1 hc.2 p hp
        simp [he] at this
      simp only [List.contains_eq_mem, decide_eq_true_eq] at hin ⊢
      exact (List.mem_erase_of_ne hne).2 hin
    · cases h
  | grab t => simp [lstep, lstepWith] at h
  | base b =>
    obtain ⟨c', ob', hst, rfl, -, hin⟩ := lstep_base s s' b ob hh h
    intro p hp
    rcases eff_pend s.c c' b (step_eff s.c c' b ob' hst) p hp with h1 | h1
    · exact hi p h1
    · exact hin p.1 h1

theorem lrun_pendInLoop (ops : List LOp) (s s' : LChan) (hh : s.held = []) (hd : s.dropped = [])
    (hi : PendInLoop s) (h : lrun s ops = some s') : PendInLoop s' := by
  induction ops generalizing s with
  | nil => simp only [lrun, lrunWith] at h; cases h; exact hi
  | cons o os ih =>
    simp only [lrun, lrunWith] at h
    split at h
    · rename_i s1 ob hst
      obtain ⟨hh1, hd1, _⟩ := lstep_project s s1 o ob hh hd hst
      exact ih s1 hh1 hd1 (lstep_pendInLoop s s1 o ob hh hi hst) h
    · cases h

/-- **When no loop is running, everything taken out of the channel has been handed over**
    (every schedule, ANY number of iterating threads — the shared-`lastReceived` defect
    included): in a reachable state in which every loop has been left there are exactly as
    many hand-outs as dequeues, so `handed out + still queued = accepted` in number: an early
    exit never makes a value disappear. -/
theorem loops_left_counts (cap : Nat) (ops : List LOp) (s : LChan) (h : lrun (linit cap) ops = some s)
    (hl : s.inLoop = []) :
    s.c.pend = [] ∧ s.c.deliv.length = s.c.deq.length ∧ s.c.deliv.length + s.c.buf.length = s.c.sent.length := by
  have hi : PendInLoop s := lrun_pendInLoop ops (linit cap) s rfl rfl (by intro p hp; simp [linit, init] at hp) h
  have hp : s.c.pend = [] := by
    cases hpe : s.c.pend with
    | nil => rfl
    | cons p ps =>
      have := hi p (by rw [hpe]; exact List.mem_cons_self)
      simp [hl] at this
  have hc := lchan_is_channel_machine cap ops s h
  have hcnt := (impl_iteration_counts cap _ s.c hc).1
  have hf := fifo_conservation cap _ s.c hc
  rw [hp] at hcnt
  simp only [List.length_nil, Nat.add_zero] at hcnt
  refine ⟨hp, hcnt, ?_⟩
  have := congrArg List.length hf
  simp only [List.length_append, values, List.length_map] at this
  omega

/-! #### Why "an iterator holds nothing" is part of the statement -/

/-- CONTRAST (not the code): an iterator that reads ahead.  Two values are queued; thread 1
    ranges, its iterator takes both into its batch and serves the loop from it; the body
    sees the first value and the loop is left (`break`); the channel is closed and thread 2
    receives: it is told "closed and drained" although the second value was handed to
    nobody. -/
def readAheadBreak : List LOp :=
  [.base (.send 0 (0, 0)), .base (.send 0 (0, 1)), .enter 1, .grab 1, .grab 1, .base (.next 1), .base (.entry 1),
   .leave 1, .base (.close 0), .base (.recv 2)]

theorem read_ahead_variant_loses_a_value_on_break :
    ∃ s, lrunWith true (linit 2) readAheadBreak = some s ∧ s.c.sent = [(0, 0), (0, 1)] ∧
      values s.c.deliv = [(0, 0)] ∧ s.c.buf = [] ∧ s.c.closed = true ∧ s.dropped = [(1, (0, 1))] ∧
      nothingWithheld s = false ∧ ¬ ExactlyOnce s.c := by
  obtain ⟨s, hr, hv⟩ := Option.map_eq_some_iff.1 (show
    (lrunWith true (linit 2) readAheadBreak).map
      (fun s => (s.c.sent, values s.c.deliv, s.c.buf, s.c.closed, s.dropped, nothingWithheld s))
      = some ([(0, 0), (0, 1)], [(0, 0)], [], true, [(1, (0, 1))], false) from rfl)
  simp only [Prod.mk.injEq] at hv
  refine ⟨s, hr, hv.1, hv.2.1, hv.2.2.1, hv.2.2.2.1, hv.2.2.2.2.1, hv.2.2.2.2.2, fun hp => ?_⟩
  have hl := hp.length_eq
  rw [hv.1, hv.2.1, hv.2.2.1] at hl
  simp at hl

/-- the same schedule is not even executable on the code as it is (`grab` does not exist) … -/
example : lrun (linit 2) readAheadBreak = none := by decide +kernel

/-- … and without the read-ahead the value left by the loop goes to the next receiver -/
example : (ltrace (linit 2)
    [.base (.send 0 (0, 0)), .base (.send 0 (0, 1)), .enter 1, .base (.next 1), .base (.entry 1), .leave 1,
     .base (.close 0), .base (.recv 2), .base (.recv 2)]).1.getLast? = some (some (some .nil))
    ∧ (ltrace (linit 2)
    [.base (.send 0 (0, 0)), .base (.send 0 (0, 1)), .enter 1, .base (.next 1), .base (.entry 1), .leave 1,
     .base (.close 0), .base (.recv 2)]).1.getLast? = some (some (some (.val (0, 1)))) := by decide +kernel

/-- non-vacuity of `at_loop_exit_exactly_once`: a schedule with two loops of thread 1, the
    first left early with two values ready, satisfies its hypotheses -/
example : onlyIter 1 (baseOps
    [.base (.send 0 (0, 0)), .base (.send 0 (0, 1)), .base (.send 0 (0, 2)), .enter 1, .base (.next 1), .base (.entry 1),
     .leave 1, .base (.recv 2), .enter 1, .base (.next 1), .base (.entry 1)]) = true
    ∧ (lrun (linit 3)
    ([.base (.send 0 (0, 0)), .base (.send 0 (0, 1)), .base (.send 0 (0, 2)), .enter 1, .base (.next 1), .base (.entry 1),
     .leave 1, .base (.recv 2), .enter 1, .base (.next 1), .base (.entry 1)] ++ [.leave 1])).isSome = true := by decide +kernel

/-! ### §2 A thread can call into every module its spawner knew when it started the thread -/

/-- invariant of the thread/VM/module machine as the code runs it -/
structure MInv (s : Mods) : Prop where
  vm_lt : ∀ t, s.vmOf t < s.nvms
  absent : ∀ t, s.nthreads ≤ t → s.st t = .absent
  view_imported : ∀ v m, m ∈ s.view v → m ∈ s.imported
  cnt_calls : ∀ m, s.cnt m = (s.calls.filter (fun c => c.2.1 == m)).length
  outs_calls : ∀ t, s.outs t = (s.calls.filter (fun c => c.1 == t)).map (·.2.2)

theorem minv_init : MInv {} := by
  refine ⟨fun _ => Nat.zero_lt_one, ?_, ?_, ?_, ?_⟩
  · intro t ht
    have : t ≠ 0 := by dsimp only at ht; omega
    simp [this]
  · intro v m hm; simp at hm
  · intro m; simp
  · intro t; simp

theorem mstep_inv (s s' : Mods) (o : MOp) (ob : MObs) (hi : MInv s) (h : mstep s o = some (s', ob)) : MInv s' := by
  cases o with
  | imp t m =>
    simp only [mstep, mstepWith] at h
    split at h
    · cases h
    · split at h
      · cases h; exact hi
      · split at h
        · cases h
          refine ⟨hi.vm_lt, hi.absent, ?_, hi.cnt_calls, hi.outs_calls⟩
          intro v m' hm'
          simp only [upd] at hm'
          split at hm'
          · simp only [viewOf, List.mem_append, List.mem_singleton] at hm' ⊢
            rcases hm' with h1 | h1
            · exact .inl (hi.view_imported _ _ h1)
            · exact .inr h1
          · exact List.mem_append_left _ (hi.view_imported _ _ hm')
        · cases h
  | call t m x =>
    simp only [mstep, mstepWith] at h
    split at h
    · cases h
    · split at h
      · cases h
        refine ⟨hi.vm_lt, hi.absent, hi.view_imported, ?_, ?_⟩
        · intro m'
          simp only [upd, List.filter_append, List.length_append]
          by_cases hm : m' = m
          · subst hm; simp [hi.cnt_calls m']
          · have : (m == m') = false := by simp; exact fun e => hm e.symm
            simp [hm, this, hi.cnt_calls m']
        · intro t'
          simp only [upd, List.filter_append, List.map_append]
          by_cases ht : t' = t
          · subst ht; simp [hi.outs_calls t']
          · have : (t == t') = false := by simp; exact fun e => ht e.symm
            simp [ht, this, hi.outs_calls t']
      · cases h
        refine ⟨hi.vm_lt, ?_, hi.view_imported, hi.cnt_calls, hi.outs_calls⟩
        intro t' ht'
        simp only [upd]
        split
        · rename_i he
          subst he
          rename_i hrun _
          simp only [Bool.or_eq_true, bne_iff_ne, ne_eq, not_or, Decidable.not_not] at hrun
          have := hi.absent t' ht'
          rw [this] at hrun
          exact absurd hrun.1 (by decide +kernel)
        · exact hi.absent t' ht'
  | spawn p =>
    simp only [mstep, mstepWith] at h
    split at h
    · cases h
    · cases h
      refine ⟨?_, ?_, ?_, hi.cnt_calls, hi.outs_calls⟩
      · intro t
        dsimp only [upd]
        split
        · omega
        · have := hi.vm_lt t; omega
      · intro t ht
        dsimp only at ht
        dsimp only [upd]
        split
        · omega
        · exact hi.absent t (by omega)
      · intro v m hm
        simp only [upd] at hm
        split at hm
        · exact hi.view_imported _ _ hm
        · exact hi.view_imported _ _ hm
  | fin t =>
    simp only [mstep, mstepWith] at h
    split at h
    · cases h
    · rename_i hc
      cases h
      refine ⟨hi.vm_lt, ?_, hi.view_imported, hi.cnt_calls, hi.outs_calls⟩
      intro t' ht'
      simp only [upd]
      split
      · rename_i he
        subst he
        simp only [Bool.or_eq_true, beq_iff_eq, bne_iff_ne, ne_eq, not_or, Decidable.not_not] at hc
        have := hi.absent t' ht'
        rw [this] at hc
        exact absurd hc.2 (by decide +kernel)
      · exact hi.absent t' ht'
  | wait w t =>
    simp only [mstep, mstepWith] at h
    split at h
    · cases h
    · split at h <;> first | (cases h; exact hi) | cases h

theorem mrun_inv (ops : List MOp) (s s' : Mods) (hi : MInv s) (h : mrun s ops = some s') : MInv s' := by
  induction ops generalizing s with
  | nil => simp only [mrun, mrunWith] at h; cases h; exact hi
  | cons o os ih =>
    simp only [mrun, mrunWith] at h
    split at h
    · rename_i s1 ob hst
      exact ih s1 (mstep_inv s s1 o ob hi hst) h
    · cases h

/-- **The snapshot is taken at this spawn** (every state): the new thread's VM knows exactly
    what its spawner's VM knows at the moment of the spawn — not what some VM knew at an
    earlier spawn. -/
theorem spawn_view_is_spawners_now (s s' : Mods) (p t : Nat) (h : mstep s (.spawn p) = some (s', .spawned t)) :
    t = s.nthreads ∧ s'.st t = .running ∧ viewOf s' t = viewOf s p := by
  simp only [mstep, mstepWith] at h
  split at h
  · cases h
  · cases h
    simp [viewOf, upd]

/-- a thread that exists keeps existing; what a thread's VM knows only grows (one step) -/
theorem mstep_knows_mono (s s' : Mods) (o : MOp) (ob : MObs) (hi : MInv s) (h : mstep s o = some (s', ob))
    (t m : Nat) (ht : s.st t ≠ .absent) (hm : m ∈ viewOf s t) : s'.st t ≠ .absent ∧ m ∈ viewOf s' t := by
  have hlt : t < s.nthreads := by
    false_or_by_contra
    rename_i hge
    exact ht (hi.absent t (by omega))
  cases o with
  | imp t' m' =>
    simp only [mstep, mstepWith] at h
    split at h
    · cases h
    · split at h
      · cases h; exact ⟨ht, hm⟩
      · split at h
        · cases h
          refine ⟨ht, ?_⟩
          simp only [viewOf, upd] at hm ⊢
          split
          · rename_i he
            rw [← he]
            exact List.mem_append_left _ hm
          · exact hm
        · cases h
  | call t' m' x =>
    simp only [mstep, mstepWith] at h
    split at h
    · cases h
    · split at h
      · cases h; exact ⟨ht, hm⟩
      · cases h
        refine ⟨?_, hm⟩
        simp only [upd]
        split
        · decide +kernel
        · exact ht
  | spawn p =>
    simp only [mstep, mstepWith] at h
    split at h
    · cases h
    · cases h
      have hne : t ≠ s.nthreads := by omega
      have hv : s.vmOf t ≠ s.nvms := by have := hi.vm_lt t; omega
      simp only [viewOf, upd, hne, if_false, hv] at hm ⊢
      exact ⟨ht, hm⟩
  | fin t' =>
    simp only [mstep, mstepWith] at h
    split at h
    · cases h
    · cases h
      refine ⟨?_, hm⟩
      simp only [upd]
      split
      · decide +kernel
      · exact ht
  | wait w t' =>
    simp only [mstep, mstepWith] at h
    split at h
    · cases h
    · split at h <;> first | (cases h; exact ⟨ht, hm⟩) | cases h

theorem mrun_knows_mono (ops : List MOp) (s s' : Mods) (hi : MInv s) (h : mrun s ops = some s')
    (t m : Nat) (ht : s.st t ≠ .absent) (hm : m ∈ viewOf s t) : m ∈ viewOf s' t := by
  induction ops generalizing s with
  | nil => simp only [mrun, mrunWith] at h; cases h; exact hm
  | cons o os ih =>
    simp only [mrun, mrunWith] at h
    split at h
    · rename_i s1 ob hst
      obtain ⟨a, b⟩ := mstep_knows_mono s s1 o ob hi hst t m ht hm
      exact ih s1 (mstep_inv s s1 o ob hi hst) h a b
    · cases h

/-- **A thread can call into every module its spawner knew when it started the thread**
    (every schedule before the spawn — any number of threads started, run and finished, any
    imports —, every thread `p` that spawns, every schedule after the spawn): if `p`'s VM
    knows module `m` at the spawn, the new thread's call of `m.bump(x)` — made at any later
    moment at which that thread is still running — RETURNS, and it returns `x*1000 + c + 1`
    for the current value `c` of the module's ONE counter.  It never faults. -/
theorem thread_can_call_what_its_spawner_knew (ops0 ops2 : List MOp) (s s1 s2 : Mods) (p t m x : Nat)
    (h0 : mrun {} ops0 = some s) (hm : m ∈ viewOf s p)
    (hsp : mstep s (.spawn p) = some (s1, .spawned t))
    (h2 : mrun s1 ops2 = some s2) (hr : s2.st t = .running) :
    ∃ s3, mstep s2 (.call t m x) = some (s3, .val (x * 1000 + s2.cnt m + 1)) := by
  have hi := mrun_inv ops0 {} s minv_init h0
  have hi1 := mstep_inv s s1 _ _ hi hsp
  obtain ⟨_, hrun, hv⟩ := spawn_view_is_spawners_now s s1 p t hsp
  have hm1 : m ∈ viewOf s1 t := by rw [hv]; exact hm
  have hm2 := mrun_knows_mono ops2 s1 s2 hi1 h2 t m (by rw [hrun]; decide) hm1
  have hi2 := mrun_inv ops2 s1 s2 hi1 h2
  have himp : m ∈ s2.imported := hi2.view_imported _ _ hm2
  simp only [mstep, mstepWith, hr, bne_self_eq_false, Bool.false_or, List.contains_eq_mem, himp,
    decide_true, Bool.not_true, hm2, if_true]
  exact ⟨_, rfl⟩

/-- **Module state is shared, not copied** (every schedule): a module has ONE counter in the
    whole evaluation — it equals the number of calls into the module that have returned, by
    whichever threads —, and what a thread's function returns (what `wait()` hands out) is
    exactly the list of values its own calls returned, in order. -/
theorem module_state_is_shared (ops : List MOp) (s : Mods) (h : mrun {} ops = some s) :
    (∀ m, s.cnt m = (s.calls.filter (fun c => c.2.1 == m)).length) ∧
    (∀ t, s.outs t = (s.calls.filter (fun c => c.1 == t)).map (·.2.2)) :=
  have hi := mrun_inv ops {} s minv_init h
  ⟨hi.cnt_calls, hi.outs_calls⟩

/-- **wait() returns exactly the call's results** (every state): a wait hands out the list
    the thread's function returned, and only once the function has returned. -/
theorem wait_returns_thread_results (s s' : Mods) (w t : Nat) (vs : List Nat)
    (h : mstep s (.wait w t) = some (s', .ret vs)) : s.st t = .returned ∧ vs = s.outs t := by
  simp only [mstep, mstepWith] at h
  split at h
  · cases h
  · split at h
    · rename_i hst
      cases h
      exact ⟨hst, rfl⟩
    · cases h
    · cases h

/-! #### The full statement, the defect of the code as it is, the guard -/

/-- **The full statement** (module part): whatever the schedule, every step of the code is
    the step the property demands — in particular every call into a module that exists in
    the evaluation returns that function's value. -/
def C10_modules_full : Prop := ∀ ops : List MOp, mtrace mstep {} ops = mtrace mspecStep {} ops

/-- **Counterexample** (the code as it is violates the full statement): the main program
    starts a thread, THEN imports a module; the thread calls a function of that module (it
    reaches it through a shared global, a channel, a closure): its VM's snapshot does not
    have the module's root code, `loadCode` dereferences nil, the thread ends with a
    recovered Go panic instead of the call's result. -/
theorem C10_counterexample_thread_older_than_import : ¬ C10_modules_full := by
  intro h
  have := h [.spawn 0, .imp 0 0, .call 1 0 5, .wait 0 1]
  revert this
  decide +kernel

example : mtrace mstep {} [.spawn 0, .imp 0 0, .call 1 0 5, .wait 0 1]
    = [some (.spawned 1), some .ran, some .panic, some .perr] := by decide +kernel
example : mtrace mspecStep {} [.spawn 0, .imp 0 0, .call 1 0 5, .fin 1, .wait 0 1]
    = [some (.spawned 1), some .ran, some (.val 5001), some .unit, some (.ret [5001])] := by decide +kernel

/-- one step under the guard: the code does what the property demands -/
theorem C10_modules_partial_step (s : Mods) (o : MOp)
    (hg : ∀ t m x, o = .call t m x → (viewOf s t).contains m = true) : mstep s o = mspecStep s o := by
  cases o with
  | call t m x =>
    have := hg t m x rfl
    simp only [mstep, mstepWith, mspecStep, this, if_true]
  | imp t m => rfl
  | spawn p => rfl
  | fin t => rfl
  | wait w t => rfl

/-- **Partial theorem** (every schedule in which no thread calls into a module that was
    loaded after the thread was started — `knownCalls`): every observation of the code as it
    is — every call's value, every `wait()` — is the one the property demands. -/
theorem C10_modules_partial (ops : List MOp) (s : Mods) (hg : knownCalls s ops = true) :
    mtrace mstep s ops = mtrace mspecStep s ops := by
  induction ops generalizing s with
  | nil => rfl
  | cons o os ih =>
    simp only [knownCalls, Bool.and_eq_true] at hg
    have hstep : mstep s o = mspecStep s o := by
      apply C10_modules_partial_step
      intro t m x he
      subst he
      exact hg.1
    simp only [mtrace, ← hstep]
    cases hst : mstep s o with
    | none =>
      simp only [hst] at hg
      simp only [ih s hg.2]
    | some r =>
      obtain ⟨s1, ob⟩ := r
      simp only [hst] at hg
      simp only [ih s1 hg.2]

/-- the guard is satisfiable by schedules with late imports, finished threads and threads that
    import themselves -/
example : knownCalls {} [.spawn 0, .fin 1, .imp 0 0, .spawn 0, .call 2 0 7, .imp 2 0, .call 0 0 3, .call 2 0 4,
    .fin 2, .wait 0 2] = true := by decide +kernel
example : mtrace mstep {} [.spawn 0, .fin 1, .imp 0 0, .spawn 0, .call 2 0 7, .imp 2 0, .call 0 0 3, .call 2 0 4, .fin 2, .wait 0 2]
    = [some (.spawned 1), some .unit, some .ran, some (.spawned 2), some (.val 7001), some .unit, some (.val 3002),
       some (.val 4003), some .unit, some (.ret [7001, 4003])] := by decide +kernel
example : knownCalls {} [.spawn 0, .imp 0 0, .call 1 0 5] = false := by decide +kernel

/-! #### Why the moment of the snapshot is part of the statement -/

/-- CONTRAST (not the code): clones of returned calls are kept and handed to later spawns
    with the snapshot they were made with.  A thread is started and returns; the main program
    imports module 0; the next thread gets the first thread's clone: its VM does not know the
    module its spawner knows at this spawn, and its call faults —
    `thread_can_call_what_its_spawner_knew` fails for the variant. -/
theorem pooled_clone_variant_misses_late_import :
    (mrunWith true {} [.spawn 0, .fin 1, .imp 0 0, .spawn 0]).map
      (fun s => ((viewOf s 0).contains 0, s.st 2, (viewOf s 2).contains 0, (mstepWith true s (.call 2 0 7)).map (·.2)))
      = some (true, .running, false, some .panic) := by decide +kernel

/-- the code as it is on the same schedule -/
example : (mrun {} [.spawn 0, .fin 1, .imp 0 0, .spawn 0]).map
      (fun s => ((viewOf s 0).contains 0, s.st 2, (viewOf s 2).contains 0, (mstep s (.call 2 0 7)).map (·.2)))
      = some (true, .running, true, some (.val 7001)) := by decide +kernel

end Risor.C10
