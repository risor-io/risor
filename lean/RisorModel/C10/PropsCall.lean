import RisorModel.C10.ModelCall
/-
C10 — §3 (round 5): a spawned call is the call.  Theorems over `ModelCall.lean`.

Quantification: every list of statements (`COp`: nested calls to any depth, calls under `try`,
`defer` at any moment — before or after nested calls returned —, effects, returns, raised
errors, deferred calls that raise), every schedule of the thread net (`CNOp`: spawns by any
running thread at any depth of its own calls, statements of all threads interleaved, waits).
-/
namespace Risor.C10

/-! ### The frame chain of one call -/

theorem leaveFrames_counts (fs : List CFrame) (l : List Nat) (r : COutcome) (n : Nat) :
    (leaveFrames fs l r n).2.2.2 + pendingDefers (leaveFrames fs l r n).1 = n + pendingDefers fs := by
  induction fs generalizing l r n with
  | nil => simp [leaveFrames, pendingDefers]
  | cons f fs ih =>
    unfold leaveFrames
    simp only
    split
    · split
      · rename_i h
        have : fs = [] := by simpa using h
        subst this
        simp [pendingDefers]
      · simp only [pendingDefers]; omega
    · split
      · simp only [pendingDefers]; omega
      · rw [ih]; simp only [pendingDefers]; omega

theorem leaveFrames_done (fs : List CFrame) (l : List Nat) (r : COutcome) (n : Nat) :
    (leaveFrames fs l r n).2.2.1.isSome → (leaveFrames fs l r n).1 = [] := by
  induction fs generalizing l r n with
  | nil => simp [leaveFrames]
  | cons f fs ih =>
    unfold leaveFrames
    simp only
    split
    · split <;> simp
    · split
      · simp
      · exact ih _ _ _

/-- The invariant of a call: every `defer` executed so far has either run or is pending on a
frame that is still active; a finished call has no frame left. -/
def CInv (c : CallSt) : Prop :=
  c.reg = c.ran + pendingDefers c.frames ∧ (c.out.isSome → c.frames = [])

theorem cinv_fresh : CInv cfresh := by
  simp [CInv, cfresh, pendingDefers]

theorem cinv_leave (c : CallSt) (r : COutcome) (h : CInv c) : CInv (leaveWith c r) := by
  obtain ⟨h1, _⟩ := h
  refine ⟨?_, ?_⟩
  · have := leaveFrames_counts c.frames c.log r c.ran
    simp only [leaveWith]
    omega
  · simp only [leaveWith]
    exact leaveFrames_done _ _ _ _

theorem cinv_step (c : CallSt) (o : COp) (h : CInv c) : CInv (cstep c o) := by
  unfold cstep
  split
  · exact h
  · rename_i hout
    split
    · exact h
    · rename_i f fs hf
      obtain ⟨h1, h2⟩ := h
      have hnone : c.out = none := by
        cases hc : c.out with
        | none => rfl
        | some x => simp [hc] at hout
      cases o with
      | call => simp [CInv, hnone, pendingDefers, hf] at *; omega
      | tcall => simp [CInv, hnone, pendingDefers, hf] at *; omega
      | «defer» a => simp [CInv, hnone, pendingDefers, hf] at *; omega
      | emit k => simp [CInv, hnone, hf] at *; omega
      | ret v => exact cinv_leave c _ ⟨h1, h2⟩
      | raise k => exact cinv_leave c _ ⟨h1, h2⟩

theorem cinv_run (c : CallSt) (ops : List COp) (h : CInv c) : CInv (crun c ops) := by
  induction ops generalizing c with
  | nil => exact h
  | cons o ops ih => exact ih _ (cinv_step c o h)

/-- **Every deferred call of a call that has ended has run, once.**  For every list of
statements: when the call is over (it returned, or an error left its outermost frame), the number
of deferred calls that ran equals the number of `defer` statements that were executed — whatever
the nesting of the calls in between, whether a `defer` came before or after deeper calls, and
however the frames were left (return, error, error raised by another deferred call, `try`). -/
theorem deferred_calls_all_run (ops : List COp) :
    (crun cfresh ops).out.isSome → (crun cfresh ops).ran = (crun cfresh ops).reg := by
  intro h
  obtain ⟨h1, h2⟩ := cinv_run cfresh ops cinv_fresh
  rw [h2 h] at h1
  simp [pendingDefers] at h1
  omega

/-- While a call runs, the deferred calls that have not run are exactly those registered on its
active frames (every reachable state, every list of statements). -/
theorem deferred_calls_pending_on_active_frames (ops : List COp) :
    (crun cfresh ops).reg = (crun cfresh ops).ran + pendingDefers (crun cfresh ops).frames :=
  (cinv_run cfresh ops cinv_fresh).1

/-- A `defer` executed in the outermost frame AFTER nested calls of any depth `d` returned runs
when the call returns: its effect is the last effect of the call and the call's value stands. -/
theorem defer_after_deep_calls_runs (d k v : Nat) :
    crun cfresh (List.replicate d COp.call ++ List.replicate d (COp.ret 0) ++ [.defer (.emit k), .ret v])
      = { frames := [], log := [k], out := some (.val v), reg := 1, ran := 1 } := by
  have down : ∀ (d : Nat) (fs : List CFrame) (rest : List COp), fs ≠ [] →
      crun { frames := fs } (List.replicate d COp.call ++ rest)
        = crun { frames := List.replicate d ⟨false, []⟩ ++ fs } rest := by
    intro d
    induction d with
    | zero => intro fs rest _; simp
    | succ d ih =>
      intro fs rest hfs
      cases fs with
      | nil => exact absurd rfl hfs
      | cons f fs =>
        rw [List.replicate_succ, List.cons_append]
        show crun (cstep _ _) _ = _
        have : cstep { frames := f :: fs } COp.call = { frames := ⟨false, []⟩ :: f :: fs } := by
          simp [cstep]
        rw [this, ih _ _ (by simp)]
        congr 2
        rw [show (⟨false, []⟩ : CFrame) :: f :: fs = [⟨false, []⟩] ++ (f :: fs) from rfl, ← List.append_assoc]
        congr 1
        rw [List.replicate_succ']
  have up : ∀ (d : Nat) (fs : List CFrame) (rest : List COp), fs ≠ [] →
      crun { frames := List.replicate d ⟨false, []⟩ ++ fs } (List.replicate d (COp.ret 0) ++ rest)
        = crun { frames := fs } rest := by
    intro d
    induction d with
    | zero => intro fs rest _; simp
    | succ d ih =>
      intro fs rest hfs
      rw [List.replicate_succ, List.replicate_succ, List.cons_append, List.cons_append]
      show crun (cstep _ _) _ = _
      have hne : (List.replicate d (⟨false, []⟩ : CFrame) ++ fs).isEmpty = false := by
        cases fs with
        | nil => exact absurd rfl hfs
        | cons f fs => cases d <;> simp [List.replicate_succ]
      have : cstep { frames := ⟨false, []⟩ :: (List.replicate d ⟨false, []⟩ ++ fs) } (COp.ret 0)
          = { frames := List.replicate d ⟨false, []⟩ ++ fs } := by
        simp [cstep, leaveWith, leaveFrames, runDefers, hne]
      rw [this, ih _ _ hfs]
  rw [List.append_assoc]
  show crun { frames := [⟨false, []⟩] } _ = _
  rw [down d _ _ (by simp), up d _ _ (by simp)]
  simp [crun, cstep, leaveWith, leaveFrames, runDefers]

/-! ### The threads -/

theorem cnstep_n_mono (s : CNet) (o : CNOp) : s.n ≤ (cnstep s o).n := by
  cases o with
  | sp p => simp only [cnstep]; split <;> simp
  | op t o => simp only [cnstep]; split <;> simp
  | wait w t => simp [cnstep]

/-- **The state of a thread's call is made of its own statements only.**  For every state of the
net, every thread `t` that exists and every schedule: the call state of `t` afterwards (frames,
pending deferred calls, effects, outcome) is what `t`'s own statements make of its state before —
spawns (by `t` itself or by others, at any depth) and the statements of all other threads, however
interleaved, change nothing of it.  Each thread has its own VM and with it its own frames. -/
theorem thread_state_is_own_statements (s : CNet) (ops : List CNOp) (t : Nat) (ht : t < s.n) :
    (cnrun s ops).th t = crun (s.th t) (cproj t ops) := by
  induction ops generalizing s with
  | nil => rfl
  | cons o ops ih =>
    show (cnrun (cnstep s o) ops).th t = _
    rw [ih (cnstep s o) (Nat.lt_of_lt_of_le ht (cnstep_n_mono s o))]
    cases o with
    | sp p =>
      simp only [cnstep, cproj]
      split
      · have : t ≠ s.n := by omega
        simp [this]
      · rfl
    | op t' o =>
      simp only [cnstep, cproj]
      by_cases h : t' = t
      · subst h
        simp [ht, crun]
      · have h' : t ≠ t' := fun e => h e.symm
        simp only [h, if_false]
        split <;> simp [h']
    | wait w t' => rfl

/-- **A spawned call is the call.**  Take any schedule `pre` (the spawner may be at any depth of
its own calls, with deferred calls pending; other threads may have come and gone), let a running
thread `p` spawn a call, and let any schedule `post` follow.  The spawned thread's call state —
its effects in order, its result or error, the deferred calls it ran — is exactly that of a fresh
call executing the thread's own statements. -/
theorem spawned_call_is_direct_call (pre post : List CNOp) (p : Nat)
    (hp : p < (cnrun {} pre).n) (hrun : ((cnrun {} pre).th p).out = none) :
    (cnrun {} (pre ++ CNOp.sp p :: post)).th (cnrun {} pre).n = crun cfresh (cproj (cnrun {} pre).n post) := by
  have hsplit : cnrun {} (pre ++ CNOp.sp p :: post) = cnrun (cnstep (cnrun {} pre) (.sp p)) post := by
    simp [cnrun, List.foldl_append]
  rw [hsplit]
  have hstep : cnstep (cnrun {} pre) (.sp p)
      = { n := (cnrun {} pre).n + 1, th := fun i => if i = (cnrun {} pre).n then cfresh else (cnrun {} pre).th i } := by
    simp [cnstep, hp, hrun]
  rw [hstep, thread_state_is_own_statements _ _ _ (by simp)]
  simp

/-- The same, stated against the main program: the spawned thread ends in the state in which the
main program (thread 0 of a net in which nothing else happens) ends when it makes the call
DIRECTLY, executing the same statements `body`. -/
theorem spawn_equals_direct (pre post : List CNOp) (p : Nat) (body : List COp)
    (hp : p < (cnrun {} pre).n) (hrun : ((cnrun {} pre).th p).out = none)
    (hbody : cproj (cnrun {} pre).n post = body) :
    (cnrun {} (pre ++ CNOp.sp p :: post)).th (cnrun {} pre).n
      = (cnrun {} (body.map (CNOp.op 0))).th 0 := by
  rw [spawned_call_is_direct_call pre post p hp hrun, hbody,
    thread_state_is_own_statements {} _ 0 (by decide +kernel)]
  have : ∀ b : List COp, cproj 0 (b.map (CNOp.op 0)) = b := by
    intro b; induction b with
    | nil => rfl
    | cons o b ih => simp [cproj, ih]
  rw [this]

/-- **`wait()` hands out the call's result or error.**  After any schedule, what a wait on the
spawned thread returns is the outcome of the direct call with the thread's statements — nothing
while that call is still running. -/
theorem wait_returns_call_outcome (pre post : List CNOp) (p : Nat)
    (hp : p < (cnrun {} pre).n) (hrun : ((cnrun {} pre).th p).out = none) :
    waitObs (cnrun {} (pre ++ CNOp.sp p :: post)) (cnrun {} pre).n
      = (crun cfresh (cproj (cnrun {} pre).n post)).out := by
  have hn : (cnrun {} pre).n < (cnrun {} (pre ++ CNOp.sp p :: post)).n := by
    have hsplit : cnrun {} (pre ++ CNOp.sp p :: post) = cnrun (cnstep (cnrun {} pre) (.sp p)) post := by
      simp [cnrun, List.foldl_append]
    rw [hsplit]
    have mono : ∀ (ops : List CNOp) (s : CNet), s.n ≤ (cnrun s ops).n := by
      intro ops
      induction ops with
      | nil => intro s; exact Nat.le_refl _
      | cons o ops ih => intro s; exact Nat.le_trans (cnstep_n_mono s o) (ih (cnstep s o))
    have : (cnstep (cnrun {} pre) (.sp p)).n = (cnrun {} pre).n + 1 := by simp [cnstep, hp, hrun]
    have := mono post (cnstep (cnrun {} pre) (.sp p))
    omega
  simp only [waitObs, hn, if_true]
  rw [spawned_call_is_direct_call pre post p hp hrun]

/-! ### Non-vacuity and the contrast -/

/-- The hypotheses are satisfiable: the main program, two calls deep with a deferred call
pending, spawns; the spawned call nests, defers after the nested call returned, and a deferred
call raises: `wait()` gives that error. -/
example :
    let pre := [CNOp.op 0 .call, .op 0 (.defer (.emit 9)), .op 0 .call]
    let post := [CNOp.op 1 .call, .op 0 (.ret 0), .op 1 (.ret 0), .op 1 (.defer (.fail 5)), .op 1 (.emit 3), .op 1 (.ret 7)]
    (cnrun {} pre).n = 1 ∧ ((cnrun {} pre).th 0).out = none ∧
    waitObs (cnrun {} (pre ++ CNOp.sp 0 :: post)) 1 = some (.err 5) ∧
    ((cnrun {} (pre ++ CNOp.sp 0 :: post)).th 1).log = [3, 5] := by
  decide +kernel

/-- CONTRAST: in the variant whose frame array is replaced while calls are running (capacity 2
here), a `defer` executed after the nested calls returned is never run — the call made on such a
VM differs from the direct call (`defer_after_deep_calls_runs`: effect 7 is made, 1 is returned). -/
theorem growing_frame_array_variant_drops_defer :
    (grun (gfresh 2) [.call, .call, .ret 0, .ret 0, .defer (.emit 7), .ret 1]).log = [] ∧
    (crun cfresh [.call, .call, .ret 0, .ret 0, .defer (.emit 7), .ret 1]).log = [7] ∧
    (grun (gfresh 2) [.call, .call, .ret 0, .ret 0, .defer (.fail 7), .ret 1]).out = some (.val 1) ∧
    (crun cfresh [.call, .call, .ret 0, .ret 0, .defer (.fail 7), .ret 1]).out = some (.err 7) := by
  decide +kernel

/-- The variant agrees with the code as it is as long as the capacity is never exceeded … -/
example : (grun (gfresh 8) [.call, .call, .ret 0, .ret 0, .defer (.emit 7), .ret 1]).log = [7] := by decide +kernel

end Risor.C10
