/-
C13 — executable model of the lexical path handling that confines risor's rooted
filesystems and mounts (os/os.go ResolvePath, os/localfs, os/virtual.go findMount) and of
the Go library functions they call (path/filepath Clean, Join, IsAbs; strings.HasPrefix,
TrimPrefix) on Unix.  Paths are byte lists (Go strings are bytes; '/' = 47, '.' = 46).

`cleanStr` is written at component level (split on '/', a stack machine, re-join); it is
tied to Go's real `filepath.Clean` by the exhaustive correspondence check, not by proof.
Core Lean only.
-/
namespace Risor.C13

abbrev Path := List Nat

/-- split on '/' (47); always returns at least one component -/
def split : Path → List Path
  | [] => [[]]
  | c :: cs =>
    if c = 47 then [] :: split cs
    else match split cs with
      | [] => [[c]]
      | h :: t => (c :: h) :: t

/-- join components with '/' -/
def joinSep : List Path → Path
  | [] => []
  | [c] => c
  | c :: d :: rest => c ++ 47 :: joinSep (d :: rest)

def dotdot : Path := [46, 46]

/-- one step of Go's lexical `Clean` on a reversed component stack -/
def push (rooted : Bool) (st : List Path) (c : Path) : List Path :=
  if c = [] ∨ c = [46] then st
  else if c = dotdot then
    match st with
    | [] => if rooted then [] else [dotdot]
    | x :: rest => if x = dotdot then dotdot :: x :: rest else rest
  else c :: st

def cleanComps (rooted : Bool) (cs : List Path) : List Path :=
  (cs.foldl (push rooted) []).reverse

def isAbs : Path → Bool
  | 47 :: _ => true
  | _ => false

def render (rooted : Bool) (cs : List Path) : Path :=
  if rooted then 47 :: joinSep cs
  else if cs.isEmpty then [46] else joinSep cs

/-- model of `filepath.Clean` (Unix) -/
def cleanStr (p : Path) : Path :=
  if p.isEmpty then [46] else render (isAbs p) (cleanComps (isAbs p) (split p))

/-- model of `strings.HasPrefix` -/
def hasPrefix : Path → Path → Bool
  | _, [] => true
  | [], _ :: _ => false
  | a :: as, b :: bs => a == b && hasPrefix as bs

/-- model of `filepath.Join(a, b)` for two elements (empty elements are ignored) -/
def join2 (a b : Path) : Path :=
  if a.isEmpty && b.isEmpty then []
  else if a.isEmpty then cleanStr b
  else if b.isEmpty then cleanStr a
  else cleanStr (a ++ 47 :: b)

inductive Res where
  | ok (p : Path)
  | invalid          -- fs.ErrInvalid wrapped in *fs.PathError
  deriving Repr, DecidableEq

/-- model of `os.ResolvePath(base, path, op)`; its control skeleton is also regenerated
    from the source by the extractor (Generated/C13.lean) and compared in Ties. -/
def resolvePath (base p : Path) : Res :=
  let c := cleanStr p
  if hasPrefix c dotdot then .invalid
  else if base == [] || base == [47] then .ok c
  else .ok (join2 base c)

/-- model of `localfs.New(WithBase(base))`: the stored base, or rejection -/
def newBase (base : Path) : Option Path :=
  if base.isEmpty then some []
  else
    let b := cleanStr base
    if hasPrefix b dotdot then none else some b

def hasSuffixSlash (p : Path) : Bool := p.getLast? == some 47

def trimPrefix (p pre : Path) : Path :=
  if hasPrefix p pre then p.drop pre.length else p

/-- the path string `findMount` matches against the mount table -/
def mountKeyPath (cwd p : Path) : Path :=
  let ends := hasSuffixSlash p
  let p1 := if isAbs p then p else join2 cwd p
  let p2 := cleanStr p1
  if ends && p2 != [47] then p2 ++ [47] else p2

/-- `k` is a string prefix of `path` that ends at a component boundary (the mount point ends
    with '/', or the next byte of the path is '/') -/
def mountMatches (path k : Path) : Bool :=
  hasPrefix path k && (hasSuffixSlash k || path[k.length]? == some 47)

/-- model of `VirtualOS.findMount` over mount targets (keys = targets), visited in the
    order of the list (Go visits in arbitrary map order; see `findMount_order_independent`).
    Returns (target, relative path). -/
def findMountLoop (path : Path) : List Path → Option Path → Option (Path × Path)
  | [], none => none
  | [], some m =>
    let rel := trimPrefix path m
    some (m, if rel.isEmpty then [47] else rel)
  | k :: ks, best =>
    if k = path then some (k, [47])
    else if mountMatches path k then
      match best with
      | none => findMountLoop path ks (some k)
      | some m => findMountLoop path ks (if k.length > m.length then some k else some m)
    else findMountLoop path ks best

def findMount (mounts : List Path) (cwd p : Path) : Option (Path × Path) :=
  findMountLoop (mountKeyPath cwd p) mounts none

/-- NOT the code: the tempting optimisation "the mount table is keyed by mount point, so look
    the path up, then each of its ancestor directories (`filepath.Dir` repeatedly), deepest
    first".  Ancestors never end with a separator, so a mount point registered WITH a trailing
    separator (`/vault/`, what `--mount dir:/vault/` produces) is only ever found for the exact
    path.  Kept as an executable definition so that `Props` can show that it hands paths below
    such a mount point to the enclosing mount (`parent_walk_misses_trailing_sep_mount`). -/
def findMountByParents (mounts : List Path) (cwd p : Path) : Option (Path × Path) :=
  let key := mountKeyPath cwd p
  if mounts.contains key then some (key, [47])
  else
    let cs := (split key).filter (fun c => !c.isEmpty)
    let ancestors := (List.range cs.length).reverse.map (fun n => 47 :: joinSep (cs.take n))
    match ancestors.find? (fun a => mounts.contains a) with
    | some m =>
      let rel := trimPrefix key m
      some (m, if rel.isEmpty then [47] else rel)
    | none => none

/-! ### Spec: what the property demands of mount selection (component-wise prefixes). -/

/-- non-empty components of a path -/
def comps (p : Path) : List Path := (split p).filter (fun c => !c.isEmpty)

def isCompPrefix : List Path → List Path → Bool
  | [], _ => true
  | _ :: _, [] => false
  | a :: as, b :: bs => a == b && isCompPrefix as bs

/-- the mount the property asks for: longest component-wise prefix among the targets -/
def specMount (mounts : List Path) (cwd p : Path) : Option Path :=
  let key := comps (mountKeyPath cwd p)
  let cands := mounts.filter (fun m => isCompPrefix (comps m) key)
  cands.foldl (fun best m => match best with
    | none => some m
    | some b => if (comps m).length > (comps b).length then some m else some b) none

/-- the defect repaired by the `fix:` commit in os/virtual.go: the chosen mount was a raw
    string prefix of the path without being a component-wise prefix of it (mount `/tmp`,
    path `/tmpfoo/x`).  Kept as an executable predicate: it must now be false on every
    answer (theorem `C13_mounts_component_prefix`), and the harness evaluates it. -/
def stringPrefixOnly (mounts : List Path) (cwd p : Path) : Bool :=
  match findMount mounts cwd p with
  | none => false
  | some (m, _) => !isCompPrefix (comps m) (comps (mountKeyPath cwd p))

/-! ### two-path operations of the virtual OS (`VirtualOS.Rename`, `VirtualOS.Symlink`,
    os/virtual.go): each of the two path arguments is looked up in the mount table on its
    own; the operation is forwarded to a filesystem only when both lookups name the SAME
    mount, and then with the two relative paths of the two lookups. -/

inductive TwoRes where
  | noMount1                       -- "no such file or directory: <first path>"
  | noMount2                       -- "no such file or directory: <second path>"
  | cross                          -- "cannot rename/symlink across filesystems"
  | forward (m rel1 rel2 : Path)   -- `m.Source.Rename(rel1, rel2)`
  deriving Repr, DecidableEq

/-- model of `VirtualOS.Rename(p, q)` / `VirtualOS.Symlink(p, q)` (mounts are identified by
    their targets: the mount table is keyed by target) -/
def twoPath (mounts : List Path) (cwd p q : Path) : TwoRes :=
  match findMount mounts cwd p with
  | none => .noMount1
  | some (m1, r1) =>
    match findMount mounts cwd q with
    | none => .noMount2
    | some (m2, r2) => if m1 = m2 then .forward m1 r1 r2 else .cross

/-- Spec of a two-path operation: each path belongs to the mount whose mount point is its own
    longest component-wise prefix; the operation may reach a filesystem only if both paths
    belong to the same mount, and then it is that mount's. -/
def specTwoPath (mounts : List Path) (cwd p q : Path) : Option Path :=
  match specMount mounts cwd p, specMount mounts cwd q with
  | some a, some b => if a = b then some a else none
  | _, _ => none

/-- the components handed to the serving filesystem must be the path's own components below
    the mount point: `comps m ++ comps rel = comps (cleaned path)` -/
def relFaithful (m rel : Path) (cwd p : Path) : Bool :=
  comps m ++ comps rel == comps (mountKeyPath cwd p)

/-- NOT the code: the tempting shortcut "both arguments have to live on the same mount anyway"
    — look up the first path, then only test that the second path lies under THAT mount point.
    Kept as an executable definition so that `Props` can show that it is wrong exactly on nested
    mount points (`shortcut_routes_into_nested_mount`). -/
def twoPathShortcut (mounts : List Path) (cwd p q : Path) : TwoRes :=
  match findMount mounts cwd p with
  | none => .noMount1
  | some (m1, r1) =>
    let key := mountKeyPath cwd q
    if key = m1 then .forward m1 r1 [47]
    else if mountMatches key m1 then
      let rel := trimPrefix key m1
      .forward m1 r1 (if rel.isEmpty then [47] else rel)
    else .cross

/-! ### sessions: lookups interleaved with `Chdir` on one VirtualOS.  `Chdir` stores the
    directory verbatim (os/virtual.go); a lookup consults the mount table with the working
    directory of that moment and leaves no trace. -/

inductive SOp where
  | chdir (d : Path)
  | lookup (p : Path)
  deriving Repr, DecidableEq

def SOp.isChdir : SOp → Bool
  | .chdir _ => true
  | .lookup _ => false

def cwdAfter : Path → List SOp → Path
  | cwd, [] => cwd
  | _, .chdir d :: r => cwdAfter d r
  | cwd, .lookup _ :: r => cwdAfter cwd r

/-- the answers of the lookups of a session, in order -/
def runSession (mounts : List Path) : Path → List SOp → List (Option (Path × Path))
  | _, [] => []
  | _, .chdir d :: r => runSession mounts d r
  | cwd, .lookup p :: r => findMount mounts cwd p :: runSession mounts cwd r

/-! ### the rooted local filesystem as an OBJECT that is used over time (os/localfs/localfs.go).
    Every method resolves each path argument with the method `(*Filesystem).resolvePath` and
    gives the result to the Go `os` package.  Some methods hand HOST paths back to the caller:
    `MkdirTemp` (its result), `WalkDir` (the paths its callback is called with) and
    `Create`/`Open`/`OpenFile` (the returned file's `Name()`).  A caller can build later
    arguments from such a path — append `/../..`, a sibling's name, anything — so a session is
    a sequence of calls whose arguments are literal strings or handed-out paths with arbitrary
    bytes appended. -/

/-- model of the method `(*Filesystem).resolvePath(path, op)`: the stored base and the RAW
    argument go to `os.ResolvePath`; nothing else looks at the argument (its body is
    regenerated from the source by the extractor and compared in Ties: `localResolve_tie`) -/
def localResolve (base p : Path) : Res := resolvePath base p

/-- Go's `os.MkdirTemp(dir, pattern)` joins the directory and the name it generated WITHOUT
    cleaning: a separator is inserted unless the directory ends with one -/
def hostJoin (d name : Path) : Path :=
  if hasSuffixSlash d then d ++ name else d ++ 47 :: name

/-- `os.MkdirTemp`'s split of its name pattern at the LAST `*` (42): `none` when there is no
    `*` (the generated digits are then appended) -/
def patternParts : Path → Option (Path × Path)
  | [] => none
  | c :: cs =>
    match patternParts cs with
    | some (pre, suf) => some (c :: pre, suf)
    | none => if c = 42 then some ([], cs) else none

/-- the directory-entry name `os.MkdirTemp(dir, pattern)` makes from the caller's PATTERN and
    the digits `rnd` it generated: a pattern that contains a path separator is refused
    (`errPatternHasSeparator`) — the pattern is the one script-controlled string of the local
    filesystem that is NOT resolved, so this refusal is what keeps it a directory-entry name -/
def tempName (pattern rnd : Path) : Option Path :=
  if pattern.contains 47 then none
  else match patternParts pattern with
    | some (pre, suf) => some (pre ++ rnd ++ suf)
    | none => some (pattern ++ rnd)

/-- NOT the code: the name built from the pattern WITHOUT the separator test and joined to the
    resolved directory with `filepath.Join` ("make the directory ourselves, with our own mode").
    Kept as an executable definition so that `Props` can show that the pattern then leads out of
    the base (`pattern_join_escapes`). -/
def tempPathJoined (d pattern rnd : Path) : Path :=
  match patternParts pattern with
  | some (pre, suf) => join2 d (pre ++ rnd ++ suf)
  | none => join2 d (pattern ++ rnd)

/-- how a caller spells a path argument -/
inductive LArg where
  | lit (p : Path)                   -- a string of the caller's own
  | handed (i : Nat) (suffix : Path) -- the i-th host path the filesystem handed out, with bytes appended
  deriving Repr, DecidableEq

def LArg.eval (hs : List Path) : LArg → Path
  | .lit p => p
  | .handed i s => hs.getD i [] ++ s

inductive LOp where
  /-- a one-path method that hands nothing back (Mkdir, MkdirAll, Stat, ReadFile, ReadDir,
      Remove, RemoveAll, WriteFile) -/
  | access (a : LArg)
  /-- Create / Open / OpenFile: the file that is returned reports the host path it was opened
      with (`File.Name()`) -/
  | openFile (a : LArg)
  /-- Rename / Symlink: both arguments are resolved, the first one first -/
  | access2 (a b : LArg)
  /-- MkdirTemp(dir, pattern); `name` is the name the operating system generated -/
  | mkdirTemp (dir : LArg) (name : Path)
  /-- MkdirTemp(dir, pattern) with the caller's PATTERN (arbitrary bytes); `rnd` are the digits
      the operating system generated -/
  | mkdirTempP (dir : LArg) (pattern rnd : Path)
  /-- WalkDir(root, fn); `rels` are the entries found below the root, each as the list of
      directory-entry names leading to it (what the host's directory tree contains) -/
  | walk (root : LArg) (rels : List (List Path))
  deriving Repr, DecidableEq

structure LState where
  handed : List Path := []    -- host paths handed to the caller so far, oldest first
  touched : List Path := []   -- host paths given to the Go `os` package so far
  deriving Repr, DecidableEq

/-- the directory `MkdirTemp` creates in: the resolved argument, or the base itself for the
    empty argument (for an unrooted filesystem, base = "", Go passes "" on and the host's
    default temporary directory is used; the model is compared on rooted filesystems only) -/
def mkdirTempDir (base d : Path) : Res :=
  if d.isEmpty then .ok base else localResolve base d

/-- the paths `filepath.WalkDir(root, …)` reports: the root, then `filepath.Join(dir, name)`
    level by level for every entry -/
def walkPaths (root : Path) (rels : List (List Path)) : List Path :=
  root :: rels.map (fun rel => rel.foldl join2 root)

def lstep (base : Path) (st : LState) : LOp → LState
  | .access a =>
    match localResolve base (a.eval st.handed) with
    | .ok r => { st with touched := st.touched ++ [r] }
    | .invalid => st
  | .openFile a =>
    match localResolve base (a.eval st.handed) with
    | .ok r => { handed := st.handed ++ [r], touched := st.touched ++ [r] }
    | .invalid => st
  | .access2 a b =>
    match localResolve base (a.eval st.handed) with
    | .invalid => st
    | .ok r1 =>
      match localResolve base (b.eval st.handed) with
      | .invalid => st
      | .ok r2 => { st with touched := st.touched ++ [r1, r2] }
  | .mkdirTemp dir name =>
    match mkdirTempDir base (dir.eval st.handed) with
    | .ok d => { handed := st.handed ++ [hostJoin d name], touched := st.touched ++ [hostJoin d name] }
    | .invalid => st
  | .mkdirTempP dir pattern rnd =>
    match tempName pattern rnd with
    | none => st
    | some name =>
      match mkdirTempDir base (dir.eval st.handed) with
      | .ok d => { handed := st.handed ++ [hostJoin d name], touched := st.touched ++ [hostJoin d name] }
      | .invalid => st
  | .walk root rels =>
    match localResolve base (root.eval st.handed) with
    | .ok r => { handed := st.handed ++ walkPaths r rels, touched := st.touched ++ walkPaths r rels }
    | .invalid => st

def lrun (base : Path) (ops : List LOp) : LState := ops.foldl (lstep base) {}

/-- NOT the code: the tempting convenience "a host path this filesystem handed out itself is
    accepted as it is when it comes back" — recognised by the RAW string starting with the base
    directory and a separator.  Kept as an executable definition so that `Props` can show that
    it lets `<base>/t1/../../x` out (`passthrough_escapes`). -/
def localResolvePassThrough (base p : Path) : Res :=
  if base != [] && base != [47] && hasPrefix p (base ++ [47]) then .ok p else resolvePath base p

/-! ### symbolic links MADE by the filesystem, moved by the filesystem, and read through
    (os/localfs/localfs.go `Symlink`, `Rename`, `Remove`/`RemoveAll`, then any read).

    Every single argument of these calls is confined lexically (above).  What a LINK denotes,
    however, is decided by the host kernel when the link is used: an absolute content is walked
    from the root, a relative content from the directory the link lies in AT THAT MOMENT.
    `Rename` moves links (and directories with links in them) without touching their content.
    So the question "does the tree stay closed under the filesystem's own operations" is about
    SEQUENCES: which links exist where, with which content, after any number of confined
    calls, and where a read through them ends.

    State: the links the session made, as (physical location as components from the host
    root, content).  Whether the kernel lets a call succeed (`ok`: existence, emptiness of
    directories, …) is a parameter of the model, like the generated name of `MkdirTemp`. -/

abbrev Links := List (List Path × Path)

def linkAt (links : Links) (loc : List Path) : Option Path :=
  match links.find? (fun e => e.1 == loc) with
  | some e => some e.2
  | none => none

/-- the host kernel's walk of a path: `cur` = the directory reached so far (components from the
    root, no links left in it), then the remaining components one by one; a component that is a
    link is replaced by its content (absolute: start again at the root; relative: continue in
    the directory of the link).  `fuel` bounds the number of steps (the kernel gives up with
    ELOOP). -/
def kwalk (links : Links) : Nat → List Path → List Path → Option (List Path)
  | 0, _, _ => none
  | _ + 1, cur, [] => some cur
  | fuel + 1, cur, c :: rest =>
    if c = [] ∨ c = [46] then kwalk links fuel cur rest
    else if c = dotdot then kwalk links fuel cur.dropLast rest
    else match linkAt links (cur ++ [c]) with
      | some content => kwalk links fuel (if isAbs content then [] else cur) (split content ++ rest)
      | none => kwalk links fuel (cur ++ [c]) rest

/-- where a host path string leads (all links followed); `cwd` = the process's working
    directory as components -/
def hostWalk (links : Links) (cwd : List Path) (fuel : Nat) (r : Path) : Option (List Path) :=
  kwalk links fuel (if isAbs r then [] else cwd) (split r)

def plainComp (c : Path) : Bool := c != [] && c != [46] && c != dotdot

/-- the directory entry a host path string names (the last component is NOT followed: what
    `symlink`, `rename`, `unlink` act on) -/
def physLoc (links : Links) (cwd : List Path) (fuel : Nat) (r : Path) : Option (List Path) :=
  match (split r).getLast? with
  | none => none
  | some last =>
    if plainComp last then
      match kwalk links fuel (if isAbs r then [] else cwd) (split r).dropLast with
      | some d => some (d ++ [last])
      | none => none
    else hostWalk links cwd fuel r

def relocate (a b loc : List Path) : List Path :=
  if isCompPrefix a loc then b ++ loc.drop a.length else loc

inductive KOp where
  | symlink (old new : Path) (ok : Bool)
  | rename (old new : Path) (ok : Bool)
  | remove (p : Path) (ok : Bool)          -- Remove and RemoveAll
  deriving Repr, DecidableEq

/-- one call; `content r1 r2` is what `Symlink` writes into the link, given the two RESOLVED
    host paths (target, link) -/
def kstepG (content : Path → Path → Path) (base : Path) (cwd : List Path) (fuel : Nat)
    (links : Links) : KOp → Links
  | .symlink old new ok =>
    match localResolve base old, localResolve base new with
    | .ok r1, .ok r2 =>
      if ok then
        match physLoc links cwd fuel r2 with
        | some loc => (loc, content r1 r2) :: links
        | none => links
      else links
    | _, _ => links
  | .rename old new ok =>
    match localResolve base old, localResolve base new with
    | .ok r1, .ok r2 =>
      if ok then
        match physLoc links cwd fuel r1, physLoc links cwd fuel r2 with
        | some a, some b =>
          if a = b then links
          else (links.filter (fun e => !isCompPrefix b e.1)).map (fun e => (relocate a b e.1, e.2))
        | _, _ => links
      else links
    | _, _ => links
  | .remove p ok =>
    match localResolve base p with
    | .ok r =>
      if ok then
        match physLoc links cwd fuel r with
        | some a => links.filter (fun e => !isCompPrefix a e.1)
        | none => links
      else links
    | .invalid => links

/-- the code: `os.Symlink(resolvedOld, resolvedNew)` — the content is the resolved host path of
    the target -/
def kstep := kstepG (fun r1 _ => r1)

def krun (base : Path) (cwd : List Path) (fuel : Nat) (ops : List KOp) : Links :=
  ops.foldl (kstep base cwd fuel) []

/-- a read (Stat, ReadFile, Open, ReadDir, …) of `p` with the links `links` in place: the host
    file it ends at -/
def kread (base : Path) (cwd : List Path) (fuel : Nat) (links : Links) (p : Path) : Option (List Path) :=
  match localResolve base p with
  | .ok r => hostWalk links cwd fuel r
  | .invalid => none

/-- Spec, per link: where the link points, read the way the kernel reads it (lexically: absolute
    content from the root, relative content from the directory of the link) -/
def linkTarget (e : List Path × Path) : List Path :=
  cleanComps true (if isAbs e.2 then split e.2 else e.1.dropLast ++ split e.2)

/-- Spec of the tree: no link leads out of the directory with the components `b` -/
def linksClosed (b : List Path) (links : Links) : Bool :=
  links.all (fun e => isCompPrefix b (linkTarget e))

/-- NOT the code: `filepath.Rel(filepath.Dir(link), target)` for two clean host paths of the same
    kind — "do not embed the host location of the base in the link".  Kept as an executable
    definition so that `Props` can show that the tree is then NOT closed under `Rename`
    (`relative_links_escape_after_rename`). -/
def relComps : List Path → List Path → List Path
  | a :: as, b :: bs => if a = b then relComps as bs else (a :: as).map (fun _ => dotdot) ++ (b :: bs)
  | as, bs => as.map (fun _ => dotdot) ++ bs

def relContent (r1 r2 : Path) : Path :=
  let r := relComps (comps r2).dropLast (comps r1)
  if r.isEmpty then [46] else joinSep r

def kstepRel := kstepG relContent

end Risor.C13
