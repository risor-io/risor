import RisorModel.C13.Lemmas
/-!
C13 — property theorems.  Rooted filesystems and mounts cannot be escaped by any path
string.  Everything here is for ALL byte strings `p` (no bound on length or on the number
of segments).
-/
namespace Risor.C13

def Good (cs : List Path) : Prop := ∀ x ∈ cs, plain x = true ∧ 47 ∉ x

theorem foldl_split_render (rooted r : Bool) (st cs : List Path) (h : Good cs) :
    (split (render r cs)).foldl (push rooted) st = cs.reverse ++ st := by
  have hp : ∀ x ∈ cs, plain x = true := fun x hx => (h x hx).1
  have hs : ∀ x ∈ cs, 47 ∉ x := fun x hx => (h x hx).2
  cases r with
  | true =>
    cases cs with
    | nil => simp [render, joinSep, split, push]
    | cons c t =>
      simp only [render, ↓reduceIte, split]
      rw [split_joinSep _ (by simp) hs, List.foldl_cons, push_skip rooted st [] (Or.inl rfl),
        foldl_push_plain rooted st _ hp]
  | false =>
    cases cs with
    | nil => simp [render, split, push]
    | cons c t =>
      simp only [render, Bool.false_eq_true, ↓reduceIte, List.isEmpty_cons]
      rw [split_joinSep _ (by simp) hs, foldl_push_plain rooted st _ hp]

theorem render_ne_nil (r : Bool) (cs : List Path) (h : Good cs) : render r cs ≠ [] := by
  cases r with
  | true => simp [render]
  | false =>
    cases cs with
    | nil => simp [render]
    | cons c t =>
      have hc : c ≠ [] := ((plain_iff c).1 (h c (by simp)).1).1
      cases t with
      | nil => simpa [render, joinSep] using hc
      | cons d t => simp [render, joinSep, hc]

theorem isAbs_cons_ne (x : Nat) (xs : Path) (hx : x ≠ 47) : isAbs (x :: xs) = false := by
  unfold isAbs
  split
  · rename_i h; simp only [List.cons.injEq] at h; exact absurd h.1 hx
  · rfl

theorem isAbs_render_append (r : Bool) (cs : List Path) (s : Path) (h : Good cs) :
    isAbs (render r cs ++ s) = r := by
  cases r with
  | true => simp [render, isAbs]
  | false =>
    cases cs with
    | nil => simp [render, isAbs]
    | cons c t =>
      have hc : c ≠ [] := ((plain_iff c).1 (h c (by simp)).1).1
      have hs : 47 ∉ c := (h c (by simp)).2
      cases c with
      | nil => exact absurd rfl hc
      | cons x xs =>
        have hx : x ≠ 47 := fun e => hs (by simp [e])
        cases t with
        | nil => simpa [render, joinSep] using isAbs_cons_ne x _ hx
        | cons d t => simpa [render, joinSep] using isAbs_cons_ne x _ hx

/-- `Clean(B + "/" + C)` where `B`, `C` are renderings of good component lists is the
    rendering of the concatenation: nothing of `C` can cancel a component of `B`. -/
theorem clean_join_render (rb rp : Bool) (cb cp : List Path) (hb : Good cb) (hp : Good cp) :
    cleanStr (render rb cb ++ 47 :: render rp cp) = render rb (cb ++ cp) := by
  have hne : (render rb cb ++ 47 :: render rp cp).isEmpty = false := by
    cases h : render rb cb ++ 47 :: render rp cp with
    | nil => simp at h
    | cons _ _ => rfl
  unfold cleanStr
  rw [hne]
  simp only [Bool.false_eq_true, ↓reduceIte]
  rw [isAbs_render_append rb cb _ hb, split_append_sep, cleanComps, List.foldl_append,
    foldl_split_render rb rb [] cb hb, foldl_split_render rb rp _ cp hp]
  simp

/-- every accepted cleaned path is the rendering of plain, separator-free components -/
theorem cleanStr_repr (p : Path) (h : hasPrefix (cleanStr p) dotdot = false) :
    ∃ cp, cleanStr p = render (isAbs p) cp ∧ Good cp := by
  by_cases hp : p = []
  · subst hp; exact ⟨[], by simp [cleanStr, render, isAbs], by simp [Good]⟩
  · have hne : p.isEmpty = false := by cases p <;> simp_all
    refine ⟨cleanComps (isAbs p) (split p), by simp [cleanStr, hne], ?_⟩
    intro x hx
    refine ⟨?_, cleanComps_sepfree _ p x hx⟩
    cases hr : isAbs p with
    | true =>
      rw [hr] at hx
      simp only [cleanComps, List.mem_reverse] at hx
      exact foldl_rooted_plain (split p) [] (by simp) x hx
    | false =>
      rw [hr] at hx
      obtain ⟨a, b, hab, ha, hb⟩ := foldl_rel_inv (split p) [] ⟨[], [], rfl, by simp, by simp⟩
      have hcl : cleanComps false (split p) = b.reverse ++ a.reverse := by simp [cleanComps, hab]
      cases hbr : b.reverse with
      | nil =>
        have : b = [] := by simpa using hbr
        subst this
        rw [hcl] at hx
        simp only [List.reverse_nil, List.nil_append, List.mem_reverse] at hx
        exact ha x hx
      | cons y t =>
        exfalso
        have hy : y = dotdot := hb y (by
          have : y ∈ b.reverse := by rw [hbr]; simp
          simpa using this)
        have : cleanStr p = joinSep (dotdot :: (t ++ a.reverse)) := by
          simp [cleanStr, hne, hr, render, hcl, hbr, hy]
        rw [this, joinSep_cons_prefix] at h
        exact absurd h (by simp)

/-- `r` lies in the directory tree whose root has the components `cb` -/
def Under (rooted : Bool) (cb : List Path) (r : Path) : Prop :=
  ∃ rest, Good rest ∧ r = render rooted (cb ++ rest)

theorem render_isEmpty (rb : Bool) (cs : List Path) (h : Good cs) : (render rb cs).isEmpty = false := by
  cases hh : render rb cs with
  | nil => exact absurd hh (render_ne_nil _ cs h)
  | cons _ _ => rfl

/-- the base stored by `localfs.New` is the rendering of plain, separator-free components -/
theorem newBase_repr (b0 base : Path) (hbase : newBase b0 = some base) (h1 : base ≠ []) :
    ∃ cb, Good cb ∧ base = render (isAbs b0) cb := by
  have hb0 : b0.isEmpty = false := by
    cases b0 with
    | nil => simp_all [newBase]
    | cons _ _ => rfl
  simp only [newBase, hb0, Bool.false_eq_true, ↓reduceIte] at hbase
  split at hbase
  · cases hbase
  · rename_i hpre
    obtain ⟨cb, hrb, hcb⟩ := cleanStr_repr b0 (by simpa using hpre)
    exact ⟨cb, hcb, by rw [← Option.some.inj hbase, hrb]⟩

/-- a request accepted by a filesystem whose base has the components `cb` resolves under them -/
theorem resolvePath_under (rb : Bool) (cb : List Path) (base p r : Path) (hcb : Good cb)
    (hb : base = render rb cb) (h2 : base ≠ [47])
    (h : resolvePath base p = .ok r) : Under rb cb r := by
  have h1 : base ≠ [] := by rw [hb]; exact render_ne_nil rb cb hcb
  unfold resolvePath at h
  simp only at h
  split at h
  · cases h
  · rename_i hc
    obtain ⟨cp, hrp, hcp⟩ := cleanStr_repr p (by simpa using hc)
    have hbe : (base == [] || base == [47]) = false := by
      rw [beq_false_of_ne h1, beq_false_of_ne h2]; rfl
    rw [hbe] at h
    simp only [Bool.false_eq_true, ↓reduceIte, Res.ok.injEq] at h
    refine ⟨cp, hcp, ?_⟩
    rw [← h, join2, hb, hrp, render_isEmpty rb cb hcb, render_isEmpty _ cp hcp]
    simp only [Bool.and_self, Bool.false_eq_true, ↓reduceIte]
    exact clean_join_render _ _ cb cp hcb hcp

/-- **Confinement of `ResolvePath`** (hence of every `localfs` operation, each of which
    passes every path argument through it): for every requested path string `p`, if the
    base stored by `localfs.New` is `base` (neither empty nor `/`) and the call is accepted
    with result `r`, then `base` is the rendering of good components `cb` and `r` is the
    rendering of `cb ++ rest` for good components `rest`: `r` lies under `base` at a
    component boundary, with no `.`/`..`/empty component left. -/
theorem resolvePath_confined (b0 base p r : Path)
    (hbase : newBase b0 = some base) (h1 : base ≠ []) (h2 : base ≠ [47])
    (h : resolvePath base p = .ok r) :
    ∃ cb rest, Good cb ∧ Good rest ∧ base = render (isAbs b0) cb
      ∧ r = render (isAbs b0) (cb ++ rest) := by
  obtain ⟨cb, hcb, hb⟩ := newBase_repr b0 base hbase h1
  obtain ⟨rest, hrest, hr⟩ := resolvePath_under _ cb base p r hcb hb h2 h
  exact ⟨cb, rest, hcb, hrest, hb, hr⟩

/-- the rendering of a list continued by more components: a separator, then the rest joined -/
theorem render_append (rb : Bool) (cs rest : List Path) (hne : cs ≠ []) (hr : rest ≠ []) :
    render rb (cs ++ rest) = render rb cs ++ 47 :: joinSep rest := by
  have hj := joinSep_append cs rest hne hr
  cases rb with
  | true => simp [render, hj]
  | false =>
    cases cs with
    | nil => exact absurd rfl hne
    | cons d u =>
      simp only [render, Bool.false_eq_true, ↓reduceIte, List.cons_append, List.isEmpty_cons]
      exact hj

/-- string-level reading of `Under`: the base itself, or the base, a separator and more bytes -/
theorem under_string (rb : Bool) (cb : List Path) (r : Path) (hne : cb ≠ []) (h : Under rb cb r) :
    r = render rb cb ∨ ∃ s, r = render rb cb ++ 47 :: s := by
  obtain ⟨rest, _, rfl⟩ := h
  cases rest with
  | nil => left; simp
  | cons c t => exact .inr ⟨_, render_append rb cb (c :: t) hne (by simp)⟩

/-- String-level reading of the same fact for an absolute base: the result is the base
    itself or the base followed by `/` and more bytes (a component boundary). -/
theorem resolvePath_confined_string (b0 base p r : Path)
    (hbase : newBase b0 = some base) (h1 : base ≠ []) (h2 : base ≠ [47])
    (habs : isAbs b0 = true) (h : resolvePath base p = .ok r) :
    r = base ∨ ∃ s, r = base ++ 47 :: s := by
  obtain ⟨cb, rest, -, hrest, hb, hr⟩ := resolvePath_confined b0 base p r hbase h1 h2 h
  rw [habs] at hb hr
  rw [hb]
  exact under_string true cb r (fun e => h2 (by rw [hb, e]; rfl)) ⟨rest, hrest, hr⟩

/-- escaping requests are rejected, and only those -/
theorem resolvePath_rejects_iff (base p : Path) :
    resolvePath base p = .invalid ↔ hasPrefix (cleanStr p) dotdot = true := by
  unfold resolvePath
  simp only
  split
  · simp_all
  · split <;> simp_all

/-- with no base (or `/`) the cleaned path is returned as is -/
theorem resolvePath_nobase (p : Path) (h : hasPrefix (cleanStr p) dotdot = false) :
    resolvePath [] p = .ok (cleanStr p) ∧ resolvePath [47] p = .ok (cleanStr p) := by
  simp [resolvePath, h]

/-! ### Mounts -/

theorem hasPrefix_split {p k : Path} (h : hasPrefix p k = true) : ∃ s, p = k ++ s := by
  induction k generalizing p with
  | nil => exact ⟨p, rfl⟩
  | cons x xs ih =>
    cases p with
    | nil => simp [hasPrefix] at h
    | cons y ys =>
      simp only [hasPrefix, Bool.and_eq_true, beq_iff_eq] at h
      obtain ⟨s, hs⟩ := ih h.2
      exact ⟨s, by rw [h.1, hs]; rfl⟩

theorem hasPrefix_eq_of_length (p a b : Path) (ha : hasPrefix p a = true) (hb : hasPrefix p b = true)
    (hl : a.length = b.length) : a = b := by
  obtain ⟨s, rfl⟩ := hasPrefix_split ha
  obtain ⟨t, h⟩ := hasPrefix_split hb
  exact List.append_inj_left h hl

theorem mountMatches_hasPrefix {path k : Path} (h : mountMatches path k = true) : hasPrefix path k = true := by
  simp only [mountMatches, Bool.and_eq_true] at h
  exact h.1

def relOf (path m : Path) : Path :=
  let rel := trimPrefix path m
  if rel.isEmpty then [47] else rel

/-- what `findMount`'s loop computes, independent of the visiting order -/
def IsBest (path : Path) (cands : List Path) (m : Path) : Prop :=
  m ∈ cands ∧ mountMatches path m = true ∧ ∀ k ∈ cands, mountMatches path k = true → k.length ≤ m.length

/-- the candidate the choosing loop holds after it has looked at the mount point `k` -/
def visit (path : Path) (best : Option Path) (k : Path) : Option Path :=
  if mountMatches path k = true ∧ ∀ m ∈ best, k.length > m.length then some k else best

theorem findMountLoop_cons (path k : Path) (ks : List Path) (best : Option Path) (hk : k ≠ path) :
    findMountLoop path (k :: ks) best = findMountLoop path ks (visit path best k) := by
  simp only [findMountLoop, if_neg hk, visit]
  cases best with
  | none => cases mountMatches path k <;> simp
  | some b => by_cases hl : k.length > b.length <;> cases mountMatches path k <;> simp [hl]

theorem visit_mem {path k : Path} {best : Option Path} (hb : ∀ b ∈ best, mountMatches path b = true) :
    ∀ y ∈ visit path best k, mountMatches path y = true ∧ (y ∈ best ∨ y = k) := by
  unfold visit
  split <;> grind

theorem visit_dom {path k : Path} {best : Option Path} (x : Path) (hx : x ∈ best ∨ x = k)
    (hm : mountMatches path x = true) : ∃ y ∈ visit path best k, x.length ≤ y.length := by
  unfold visit
  split <;> cases best <;> grind

theorem findMountLoop_hit {path : Path} {ks : List Path} (h : path ∈ ks) (best : Option Path) :
    findMountLoop path ks best = some (path, [47]) := by
  induction ks generalizing best with
  | nil => cases h
  | cons k ks ih =>
    by_cases hk : k = path
    · simp [findMountLoop, hk]
    · rw [findMountLoop_cons _ _ _ _ hk]
      exact ih ((List.mem_cons.1 h).resolve_left (Ne.symm hk)) _

/-- a stretch of the loop without the path itself: the candidate held at the end is the old one
    or a visited mount point, it matches, and it is at least as long as the old one and as every
    visited mount point that matches -/
theorem findMountLoop_miss (path : Path) (ks : List Path) (best : Option Path) (hp : path ∉ ks)
    (hb : ∀ b ∈ best, mountMatches path b = true) :
    ∃ b' : Option Path, findMountLoop path ks best = b'.map (fun m => (m, relOf path m)) ∧
      (∀ m ∈ b', mountMatches path m = true ∧ (m ∈ best ∨ m ∈ ks)) ∧
      (∀ k, k ∈ best ∨ k ∈ ks → mountMatches path k = true → ∃ m ∈ b', k.length ≤ m.length) := by
  induction ks generalizing best with
  | nil =>
    refine ⟨best, by cases best <;> rfl, fun m hm => ⟨hb m hm, .inl hm⟩, fun k hk _ => ?_⟩
    exact ⟨k, hk.resolve_right List.not_mem_nil, Nat.le_refl _⟩
  | cons k ks ih =>
    obtain ⟨hk, hp⟩ := not_or.1 (mt List.mem_cons.2 hp)
    -- the candidate after the visit of `k` is the old one or `k`, and dominates both
    have vm := visit_mem (k := k) hb
    have vd := visit_dom (path := path) (best := best) (k := k)
    obtain ⟨b', e, h1, h2⟩ := ih (visit path best k) hp (fun y hy => (vm y hy).1)
    refine ⟨b', by rw [findMountLoop_cons _ _ _ _ (Ne.symm hk), e], ?_, ?_⟩ <;> grind

/-- the three outcomes of `findMount`'s loop over the mount table: the path is itself a mount
    point; or it is not, and the answer is a longest mount point matching it; or none matches -/
theorem findMountLoop_cases (path : Path) (ms : List Path) :
    (path ∈ ms ∧ findMountLoop path ms none = some (path, [47])) ∨
    (path ∉ ms ∧
      ((∃ m, IsBest path ms m ∧ findMountLoop path ms none = some (m, relOf path m)) ∨
       ((∀ k ∈ ms, mountMatches path k = false) ∧ findMountLoop path ms none = none))) := by
  by_cases hin : path ∈ ms
  · exact .inl ⟨hin, findMountLoop_hit hin none⟩
  · obtain ⟨b', e, h1, h2⟩ := findMountLoop_miss path ms none hin (fun _ h => nomatch h)
    refine .inr ⟨hin, ?_⟩
    cases b' with
    | none =>
      refine .inr ⟨fun k hk => ?_, e⟩
      cases hkm : mountMatches path k with
      | false => rfl
      | true => exact nomatch h2 k (.inr hk) hkm
    | some m =>
      obtain ⟨hm, hmem⟩ := h1 m rfl
      refine .inl ⟨m, ⟨hmem.resolve_left (fun h => nomatch h), hm, fun k hk hkm => ?_⟩, e⟩
      obtain ⟨m', hm', hl⟩ := h2 k (.inr hk) hkm
      cases hm'
      exact hl

theorem findMountLoop_some {path m rel : Path} {ms : List Path}
    (h : findMountLoop path ms none = some (m, rel)) :
    (m = path ∧ path ∈ ms ∧ rel = [47]) ∨ (path ∉ ms ∧ IsBest path ms m ∧ rel = relOf path m) := by
  rcases findMountLoop_cases path ms with ⟨hin, e⟩ | ⟨hin, ⟨b, hb, e⟩ | ⟨-, e⟩⟩ <;> rw [e] at h
  · cases h; exact .inl ⟨rfl, hin, rfl⟩
  · cases h; exact .inr ⟨hin, hb, rfl⟩
  · cases h

/-- the best candidate is unique -/
theorem IsBest_unique (path : Path) (c1 c2 : List Path) (hperm : ∀ x, x ∈ c1 ↔ x ∈ c2)
    (m1 m2 : Path) (h1 : IsBest path c1 m1) (h2 : IsBest path c2 m2) : m1 = m2 := by
  obtain ⟨a1, a2, a3⟩ := h1
  obtain ⟨b1, b2, b3⟩ := h2
  have := a3 m2 ((hperm m2).2 b1) b2
  have := b3 m1 ((hperm m1).1 a1) a2
  exact hasPrefix_eq_of_length path m1 m2 (mountMatches_hasPrefix a2) (mountMatches_hasPrefix b2) (by omega)

/-- **Mount selection does not depend on Go's map iteration order**: any two visiting
    orders of the same set of mount points give the same mount and relative path, for
    every path string. -/
theorem findMount_order_independent (m1 m2 : List Path) (hperm : ∀ x, x ∈ m1 ↔ x ∈ m2)
    (cwd p : Path) : findMount m1 cwd p = findMount m2 cwd p := by
  unfold findMount
  generalize mountKeyPath cwd p = path
  rcases findMountLoop_cases path m1 with ⟨h1, e1⟩ | ⟨h1, c1⟩ <;>
    rcases findMountLoop_cases path m2 with ⟨h2, e2⟩ | ⟨h2, c2⟩
  · rw [e1, e2]
  · exact absurd ((hperm path).1 h1) h2
  · exact absurd ((hperm path).2 h2) h1
  · rcases c1 with ⟨a, ha, e1⟩ | ⟨n1, e1⟩ <;> rcases c2 with ⟨b, hb, e2⟩ | ⟨n2, e2⟩ <;> rw [e1, e2]
    · rw [IsBest_unique path m1 m2 hperm a b ha hb]
    · exact absurd (n2 a ((hperm a).1 ha.1)) (by simp [ha.2.1])
    · exact absurd (n1 b ((hperm b).2 hb.1)) (by simp [hb.2.1])

/-- what the code guarantees about the chosen mount: it is a *string* prefix of the
    cleaned path, and the relative path is the remainder (or `/`) -/
theorem findMount_string_prefix (mounts : List Path) (cwd p m rel : Path)
    (h : findMount mounts cwd p = some (m, rel)) :
    m ∈ mounts ∧ (m = mountKeyPath cwd p ∨ mountMatches (mountKeyPath cwd p) m = true) := by
  rcases findMountLoop_some h with ⟨rfl, hin, -⟩ | ⟨-, hb, -⟩
  · exact ⟨hin, .inl rfl⟩
  · exact ⟨hb.1, .inr hb.2.1⟩

theorem isCompPrefix_append (a b : List Path) : isCompPrefix a (a ++ b) = true := by
  induction a with
  | nil => cases b <;> rfl
  | cons x xs ih => simp [isCompPrefix, ih]

theorem comps_append_sep (a b : Path) : comps (a ++ 47 :: b) = comps a ++ comps b := by
  simp [comps, split_append_sep, List.filter_append]

theorem split_snoc_sep (a : Path) : split (a ++ [47]) = split a ++ [[]] := by
  have := split_append_sep a []
  simpa [split] using this

theorem getLast_eq_snoc {k : Path} (h : k.getLast? = some 47) : ∃ k', k = k' ++ [47] := by
  induction k with
  | nil => simp at h
  | cons x xs ih =>
    cases xs with
    | nil => simp at h; exact ⟨[], by simp [h]⟩
    | cons y ys =>
      have : (y :: ys).getLast? = some 47 := by simpa [List.getLast?_cons_cons] using h
      obtain ⟨k', hk'⟩ := ih this
      exact ⟨x :: k', by rw [hk']; rfl⟩

theorem comps_sep_cons (s : Path) : comps (47 :: s) = comps s := by
  have := comps_append_sep [] s
  simp [comps, split] at this ⊢

theorem hasPrefix_self (p : Path) : hasPrefix p p = true := by
  induction p with
  | nil => rfl
  | cons x xs ih => simp [hasPrefix, ih]

/-- a mount point that is the path itself, or matches it at a component boundary, splits the
    path's components into its own and those of the remainder -/
theorem comps_relOf {path k : Path} (h : k = path ∨ mountMatches path k = true) :
    comps k ++ comps (relOf path k) = comps path := by
  rcases h with rfl | h
  · simp [relOf, trimPrefix, hasPrefix_self, comps, split]
  · simp only [mountMatches, Bool.and_eq_true, Bool.or_eq_true, beq_iff_eq] at h
    obtain ⟨hp, hb⟩ := h
    obtain ⟨s, rfl⟩ := hasPrefix_split hp
    have htrim : trimPrefix (k ++ s) k = s := by simp [trimPrefix, hasPrefix_append]
    simp only [relOf, htrim]
    cases s with
    | nil => simp [comps, split]
    | cons c cs =>
      simp only [List.isEmpty_cons, Bool.false_eq_true, ↓reduceIte]
      rcases hb with hb | hb
      · -- the mount point ends with '/'
        obtain ⟨k', rfl⟩ := getLast_eq_snoc (by simpa [hasSuffixSlash] using hb)
        have h1 : comps (k' ++ [47]) = comps k' := by simp [comps, split_snoc_sep, List.filter_append]
        have e : k' ++ [47] ++ c :: cs = k' ++ 47 :: (c :: cs) := by simp
        rw [h1, e, comps_append_sep]
      · -- the byte after the mount point is '/'
        have : c = 47 := by simpa using hb
        subst this
        rw [comps_append_sep, comps_sep_cons]

/-- **Mounts are selected at component boundaries** (holds since the `fix:` commit in
    os/virtual.go; before it `/tmpfoo/x` was served by the mount `/tmp` as `foo/x`): for every
    mount table, working directory and path string, the mount that serves the path is a
    component-wise prefix of the (cleaned) path. -/
theorem C13_mounts_component_prefix (mounts : List Path) (cwd p m rel : Path)
    (h : findMount mounts cwd p = some (m, rel)) :
    isCompPrefix (comps m) (comps (mountKeyPath cwd p)) = true := by
  rw [← comps_relOf (findMount_string_prefix mounts cwd p m rel h).2]
  exact isCompPrefix_append _ _

/-- the old defect's guard is false on every answer of the repaired code -/
theorem C13_stringPrefixOnly_never (mounts : List Path) (cwd p : Path) :
    stringPrefixOnly mounts cwd p = false := by
  unfold stringPrefixOnly
  cases h : findMount mounts cwd p with
  | none => rfl
  | some mr =>
    obtain ⟨m, rel⟩ := mr
    simp [C13_mounts_component_prefix mounts cwd p m rel h]

/-- mount `/tmp`, path `/tmpfoo/x`: no longer served by `/tmp` -/
def cexMounts : List Path := [[47, 116, 109, 112]]
def cexPath : Path := [47, 116, 109, 112, 102, 111, 111, 47, 120]
theorem C13_former_counterexample_refused : findMount cexMounts [47] cexPath = none := by decide

/-! ### Non-vacuity: concrete inputs satisfying the hypotheses -/

-- base "/srv/data", request "a/../../x/./y" is rejected; "/../x" resolves inside the base
example : newBase [47,115,114,118] = some [47,115,114,118] := by decide +kernel
example : resolvePath [47,115,114,118] [97,47,46,46,47,46,46,47,120] = .invalid := by decide +kernel
example : resolvePath [47,115,114,118] [47,46,46,47,120] = .ok [47,115,114,118,47,120] := by decide +kernel
example : findMount [[47,97],[47,97,47,98]] [47] [47,97,47,98,47,99] = some ([47,97,47,98], [47,99]) := by decide +kernel
example : stringPrefixOnly [[47,97],[47,97,47,98]] [47] [47,97,47,98,47,99] = false := by decide

/-! ### two-path operations (rename, symlink): both arguments are routed independently -/

theorem hasPrefix_length {p k : Path} (h : hasPrefix p k = true) : k.length ≤ p.length := by
  obtain ⟨s, rfl⟩ := hasPrefix_split h
  simp

/-- the mount `findMount` answers with is the LONGEST mount point that matches the (cleaned)
    path at a component boundary, and the relative path is the rest of that path — for every
    mount table, working directory and path string. -/
theorem findMount_longest (mounts : List Path) (cwd p m rel : Path)
    (h : findMount mounts cwd p = some (m, rel)) :
    rel = relOf (mountKeyPath cwd p) m ∧
    ∀ k ∈ mounts, (k = mountKeyPath cwd p ∨ mountMatches (mountKeyPath cwd p) k = true) →
      k.length ≤ m.length := by
  rcases findMountLoop_some h with ⟨rfl, -, rfl⟩ | ⟨hin, hb, rfl⟩
  · refine ⟨by simp [relOf, trimPrefix, hasPrefix_self], fun k _ hk => ?_⟩
    rcases hk with rfl | hk
    · exact Nat.le_refl _
    · exact hasPrefix_length (mountMatches_hasPrefix hk)
  · refine ⟨rfl, fun k hk hkm => ?_⟩
    rcases hkm with rfl | hkm
    · exact absurd hk hin
    · exact hb.2.2 k hk hkm

/-- **A path that lies under a mount point is served** — by that mount or a longer one, never
    refused and never handed to a shorter (enclosing) mount: for every mount table, working
    directory and path string, if some mount point `k` equals the (cleaned) path or matches it
    at a component boundary, `findMount` answers, and with a mount point at least as long. -/
theorem findMount_serves_every_match (mounts : List Path) (cwd p k : Path) (hk : k ∈ mounts)
    (hm : k = mountKeyPath cwd p ∨ mountMatches (mountKeyPath cwd p) k = true) :
    ∃ m rel, findMount mounts cwd p = some (m, rel) ∧ k.length ≤ m.length := by
  unfold findMount
  generalize mountKeyPath cwd p = path at hm
  rcases findMountLoop_cases path mounts with ⟨-, e⟩ | ⟨hin, c⟩
  · refine ⟨path, [47], e, ?_⟩
    rcases hm with rfl | hm
    · exact Nat.le_refl _
    · exact hasPrefix_length (mountMatches_hasPrefix hm)
  · have hkm : mountMatches path k = true := hm.resolve_left fun e => hin (e ▸ hk)
    rcases c with ⟨b, hb, e⟩ | ⟨hnone, -⟩
    · exact ⟨b, relOf path b, e, hb.2.2 k hk hkm⟩
    · rw [hnone k hk] at hkm; cases hkm

/-- **Mount points registered with a trailing separator** (`/vault/` — what
    `risor --virtual-os --mount dir:/vault/` produces: the destination string is used verbatim
    as key and target): every path whose cleaned form continues such a mount point is served by
    that mount or a longer one — not by the enclosing mount (`/`), and not refused — and the
    serving mount is a component-wise prefix of the path. -/
theorem trailing_sep_mount_serves_below (mounts : List Path) (cwd p k' s : Path)
    (hk : k' ++ [47] ∈ mounts) (hkey : mountKeyPath cwd p = k' ++ 47 :: s) :
    ∃ m rel, findMount mounts cwd p = some (m, rel) ∧ (k' ++ [47]).length ≤ m.length
      ∧ isCompPrefix (comps m) (comps (mountKeyPath cwd p)) = true := by
  have hmm : mountMatches (mountKeyPath cwd p) (k' ++ [47]) = true := by
    rw [hkey]
    have e : k' ++ 47 :: s = (k' ++ [47]) ++ s := by simp
    rw [e]
    have h1 : hasPrefix ((k' ++ [47]) ++ s) (k' ++ [47]) = true := hasPrefix_append _ _
    have h2 : hasSuffixSlash (k' ++ [47]) = true := by simp [hasSuffixSlash]
    simp only [mountMatches, h1, h2, Bool.true_or, Bool.and_self]
  obtain ⟨m, rel, h, hl⟩ := findMount_serves_every_match mounts cwd p (k' ++ [47]) hk (Or.inr hmm)
  exact ⟨m, rel, h, hl, C13_mounts_component_prefix mounts cwd p m rel h⟩

/-- mounts `/` and `/v/`, path `/v/x` -/
def tsMounts : List Path := [[47], [47, 118, 47]]
def tsPath : Path := [47, 118, 47, 120]

/-- **Looking up the path's ancestor directories instead of scanning the mount table is NOT
    equivalent**: the code serves `/v/x` from the mount registered as `/v/` (relative path `x`);
    the parent walk never sees a key that ends with a separator and hands the path to the
    enclosing mount `/` as `v/x`. -/
theorem parent_walk_misses_trailing_sep_mount :
    findMount tsMounts [47] tsPath = some ([47, 118, 47], [120])
    ∧ findMountByParents tsMounts [47] tsPath = some ([47], [118, 47, 120])
    ∧ specMount tsMounts [47] tsPath = some [47, 118, 47] := by decide

/-- **The relative path handed to the serving filesystem is the path's own remainder below the
    mount point**: the components of the mount point followed by the components of the relative
    path are exactly the components of the cleaned path — nothing is dropped, added or
    re-interpreted, for every mount table and path string. -/
theorem findMount_rel_faithful (mounts : List Path) (cwd p m rel : Path)
    (h : findMount mounts cwd p = some (m, rel)) : relFaithful m rel cwd p = true := by
  have hr := (findMount_longest mounts cwd p m rel h).1
  have hm := (findMount_string_prefix mounts cwd p m rel h).2
  simp [relFaithful, hr, comps_relOf hm]

/-- **Two-path operations route each argument by its own lookup** (`VirtualOS.Rename`,
    `VirtualOS.Symlink`): for every mount table, working directory and pair of path strings,
    the operation reaches a filesystem — mount `m` with relative paths `r1`, `r2` — exactly
    when the lookup of the FIRST path answers `(m, r1)` and the lookup of the SECOND path,
    made on its own against the whole mount table, answers `(m, r2)`. -/
theorem twoPath_routed_independently (mounts : List Path) (cwd p q m r1 r2 : Path) :
    twoPath mounts cwd p q = .forward m r1 r2 ↔
      findMount mounts cwd p = some (m, r1) ∧ findMount mounts cwd q = some (m, r2) := by
  unfold twoPath
  cases h1 : findMount mounts cwd p with
  | none => simp
  | some a =>
    obtain ⟨m1, s1⟩ := a
    cases h2 : findMount mounts cwd q with
    | none => simp
    | some b =>
      obtain ⟨m2, s2⟩ := b
      simp only [Option.some.injEq, Prod.mk.injEq]
      by_cases hm : m1 = m2
      · subst hm
        simp only [↓reduceIte, TwoRes.forward.injEq]
        constructor
        · rintro ⟨rfl, rfl, rfl⟩; exact ⟨⟨rfl, rfl⟩, rfl, rfl⟩
        · rintro ⟨⟨rfl, rfl⟩, _, rfl⟩; exact ⟨rfl, rfl, rfl⟩
      · simp only [hm, ↓reduceIte]
        constructor
        · intro h; cases h
        · rintro ⟨⟨rfl, _⟩, rfl, _⟩; exact absurd rfl hm

/-- **An operation whose two paths belong to different mounts is refused**: nothing is
    forwarded to any filesystem — for every mount table and pair of path strings. -/
theorem cross_mount_refused (mounts : List Path) (cwd p q m1 r1 m2 r2 : Path)
    (h1 : findMount mounts cwd p = some (m1, r1)) (h2 : findMount mounts cwd q = some (m2, r2))
    (hne : m1 ≠ m2) : twoPath mounts cwd p q = .cross := by
  simp [twoPath, h1, h2, hne]

/-- … and so is one with a path that lies under no mount point -/
theorem unmounted_refused (mounts : List Path) (cwd p q : Path)
    (h : findMount mounts cwd p = none ∨ findMount mounts cwd q = none) :
    ∀ m r1 r2, twoPath mounts cwd p q ≠ .forward m r1 r2 := by
  intro m r1 r2 hf
  rw [twoPath_routed_independently] at hf
  rcases h with h | h
  · rw [h] at hf; cases hf.1
  · rw [h] at hf; cases hf.2

/-- **What a forwarded two-path operation guarantees about BOTH arguments**: the serving mount
    is in the table, is a component-wise prefix of each cleaned path, is the longest mount
    point matching each of them (so neither path belongs to a nested mount), and each relative
    path is the rest of its own cleaned path below the mount point. -/
theorem twoPath_forward_both_longest (mounts : List Path) (cwd p q m r1 r2 : Path)
    (h : twoPath mounts cwd p q = .forward m r1 r2) :
    m ∈ mounts ∧
    isCompPrefix (comps m) (comps (mountKeyPath cwd p)) = true ∧
    isCompPrefix (comps m) (comps (mountKeyPath cwd q)) = true ∧
    r1 = relOf (mountKeyPath cwd p) m ∧ r2 = relOf (mountKeyPath cwd q) m ∧
    (∀ k ∈ mounts, (k = mountKeyPath cwd p ∨ mountMatches (mountKeyPath cwd p) k = true) → k.length ≤ m.length) ∧
    (∀ k ∈ mounts, (k = mountKeyPath cwd q ∨ mountMatches (mountKeyPath cwd q) k = true) → k.length ≤ m.length) := by
  obtain ⟨h1, h2⟩ := (twoPath_routed_independently mounts cwd p q m r1 r2).1 h
  exact ⟨(findMount_string_prefix mounts cwd p m r1 h1).1,
    C13_mounts_component_prefix mounts cwd p m r1 h1,
    C13_mounts_component_prefix mounts cwd q m r2 h2,
    (findMount_longest mounts cwd p m r1 h1).1, (findMount_longest mounts cwd q m r2 h2).1,
    (findMount_longest mounts cwd p m r1 h1).2, (findMount_longest mounts cwd q m r2 h2).2⟩

/-- both relative paths of a forwarded two-path operation are faithful remainders -/
theorem twoPath_rels_faithful (mounts : List Path) (cwd p q m r1 r2 : Path)
    (h : twoPath mounts cwd p q = .forward m r1 r2) :
    relFaithful m r1 cwd p = true ∧ relFaithful m r2 cwd q = true := by
  obtain ⟨h1, h2⟩ := (twoPath_routed_independently mounts cwd p q m r1 r2).1 h
  exact ⟨findMount_rel_faithful mounts cwd p m r1 h1, findMount_rel_faithful mounts cwd q m r2 h2⟩

/-- the two arguments are treated alike: swapping them swaps the relative paths and nothing else -/
theorem twoPath_symmetric (mounts : List Path) (cwd p q m r1 r2 : Path) :
    twoPath mounts cwd p q = .forward m r1 r2 ↔ twoPath mounts cwd q p = .forward m r2 r1 := by
  rw [twoPath_routed_independently, twoPath_routed_independently]
  exact ⟨fun h => ⟨h.2, h.1⟩, fun h => ⟨h.2, h.1⟩⟩

/-- two-path routing does not depend on Go's map iteration order either -/
theorem twoPath_order_independent (m1 m2 : List Path) (hperm : ∀ x, x ∈ m1 ↔ x ∈ m2)
    (cwd p q : Path) : twoPath m1 cwd p q = twoPath m2 cwd p q := by
  unfold twoPath
  rw [findMount_order_independent m1 m2 hperm cwd p, findMount_order_independent m1 m2 hperm cwd q]

-- mounts "/" and "/priv"
def nestedMounts : List Path := [[47], [47,112,114,105,118]]
-- "/note.txt" and "/priv/moved.txt"
def notePath : Path := [47,110,111,116,101,46,116,120,116]
def privMoved : Path := [47,112,114,105,118,47,109,111,118,101,100,46,116,120,116]

/-- nested mount points `/` and `/priv`: `Rename("/note.txt", "/priv/moved.txt")` is refused
    as crossing filesystems; inside one mount it is forwarded with both relative paths -/
theorem nested_cross_refused : twoPath nestedMounts [47] notePath privMoved = .cross := by decide +kernel
example : twoPath nestedMounts [47] privMoved notePath = .cross := by decide +kernel
example : specTwoPath nestedMounts [47] notePath privMoved = none := by decide +kernel
example : twoPath nestedMounts [47,112,114,105,118] [97] [46,46,47,112,114,105,118,47,98]
    = .forward [47,112,114,105,118] [47,97] [47,98] := by decide +kernel
example : twoPath nestedMounts [47] notePath [47,120] = .forward [47] (notePath.drop 1) [120] := by decide

/-- the shortcut "resolve the second path against the first path's mount" is NOT equivalent:
    on the same input it hands `priv/moved.txt` — a path of the nested mount — to the root
    filesystem (this is why `twoPath_routed_independently` is stated for both arguments) -/
theorem shortcut_routes_into_nested_mount :
    twoPathShortcut nestedMounts [47] notePath privMoved = .forward [47] (notePath.drop 1) (privMoved.drop 1)
    ∧ twoPath nestedMounts [47] notePath privMoved ≠ twoPathShortcut nestedMounts [47] notePath privMoved := by
  decide

/-! ### sessions -/

theorem cwdAfter_append (c : Path) (a b : List SOp) : cwdAfter c (a ++ b) = cwdAfter (cwdAfter c a) b := by
  induction a generalizing c with
  | nil => rfl
  | cons o a ih => cases o <;> simp [cwdAfter, ih]

theorem runSession_append (ms : List Path) (c : Path) (a b : List SOp) :
    runSession ms c (a ++ b) = runSession ms c a ++ runSession ms (cwdAfter c a) b := by
  induction a generalizing c with
  | nil => rfl
  | cons o a ih => cases o <;> simp [runSession, cwdAfter, ih]

/-- C13 (sessions): after ANY history of working-directory changes and lookups, the answer to
    a lookup is `findMount` at the working directory of that moment. -/
theorem session_answers (ms : List Path) (c : Path) (pre : List SOp) (p : Path) :
    (runSession ms c (pre ++ [.lookup p])).getLast? = some (findMount ms (cwdAfter c pre) p) := by
  rw [runSession_append]
  simp [runSession]

/-- … and earlier lookups are irrelevant to it: only the `Chdir`s of the history matter
    (a lookup remembered under the path string it was asked with would break this). -/
theorem session_lookups_irrelevant (c : Path) (pre : List SOp) :
    cwdAfter c (pre.filter SOp.isChdir) = cwdAfter c pre := by
  induction pre generalizing c with
  | nil => rfl
  | cons o r ih => cases o <;> simp [List.filter, SOp.isChdir, cwdAfter, ih]

theorem session_answer_independent_of_lookups (ms : List Path) (c : Path) (pre : List SOp) (p : Path) :
    (runSession ms c (pre ++ [.lookup p])).getLast? =
      (runSession ms c (pre.filter SOp.isChdir ++ [.lookup p])).getLast? := by
  rw [session_answers, session_answers, session_lookups_irrelevant]

-- the same relative path under two working directories is served by two mounts
example : runSession [[47,112,117,98],[47,112,114,105,118]] [47]
    [.chdir [47,112,117,98], .lookup [110], .chdir [47,112,114,105,118], .lookup [110]] =
    [some ([47,112,117,98], [47,110]), some ([47,112,114,105,118], [47,110])] := by decide +kernel

/-! ### the local filesystem used over time: host paths handed out and handed back

`MkdirTemp` returns, `WalkDir` reports to its callback and the files returned by
`Create`/`Open`/`OpenFile` name HOST paths (`<base>/t-123`, `<base>/data/x`).  A caller may hand
such a path back, with anything appended.  The statements below are about every sequence of
calls, every argument built that way, every generated name and every directory content. -/

theorem good_append {a b : List Path} (ha : Good a) (hb : Good b) : Good (a ++ b) := by
  intro x hx
  rcases List.mem_append.1 hx with h | h
  · exact ha x h
  · exact hb x h

theorem good_single {n : Path} (hn : plain n = true) (hs : 47 ∉ n) : Good [n] := by
  intro x hx
  simp only [List.mem_cons, List.not_mem_nil, or_false] at hx
  subst hx
  exact ⟨hn, hs⟩

/-- `filepath.Join(dir, name)` of a rendered directory and a directory-entry name -/
theorem join2_render_comp (rb : Bool) (cs : List Path) (n : Path) (hcs : Good cs)
    (hn : plain n = true) (hs : 47 ∉ n) : join2 (render rb cs) n = render rb (cs ++ [n]) := by
  have hne : n ≠ [] := ((plain_iff n).1 hn).1
  have h2 : n.isEmpty = false := by
    cases hh : n with
    | nil => exact absurd hh hne
    | cons _ _ => rfl
  have hr : render false [n] = n := by simp [render, joinSep]
  rw [join2, render_isEmpty rb cs hcs, h2]
  simp only [Bool.and_self, Bool.false_eq_true, ↓reduceIte]
  have := clean_join_render rb false cs [n] hcs (good_single hn hs)
  rw [hr] at this
  exact this

theorem foldl_join2_render (rb : Bool) (cs rel : List Path) (hcs : Good cs) (hrel : Good rel) :
    rel.foldl join2 (render rb cs) = render rb (cs ++ rel) := by
  induction rel generalizing cs with
  | nil => simp
  | cons n rel ih =>
    simp only [List.foldl_cons]
    rw [join2_render_comp rb cs n hcs (hrel n (by simp)).1 (hrel n (by simp)).2,
      ih (cs ++ [n]) (good_append hcs (good_single (hrel n (by simp)).1 (hrel n (by simp)).2))
        (fun x hx => hrel x (by simp [hx]))]
    simp

theorem split_render (rb : Bool) (cs : List Path) (h : Good cs) (hne : cs ≠ []) :
    split (render rb cs) = if rb then [] :: cs else cs := by
  have hs : ∀ x ∈ cs, 47 ∉ x := fun x hx => (h x hx).2
  cases rb with
  | true => simp [render, split, split_joinSep cs hne hs]
  | false =>
    cases cs with
    | nil => exact absurd rfl hne
    | cons c t => simp [render, split_joinSep (c :: t) hne hs]

/-- a rendered, non-empty component list does not end with a separator -/
theorem render_no_trailing_sep (rb : Bool) (cs : List Path) (h : Good cs) (hne : cs ≠ []) :
    hasSuffixSlash (render rb cs) = false := by
  cases hh : hasSuffixSlash (render rb cs) with
  | false => rfl
  | true =>
    exfalso
    obtain ⟨k', hk'⟩ := getLast_eq_snoc (by simpa [hasSuffixSlash] using hh)
    have hsp : split (render rb cs) = split k' ++ [[]] := by rw [hk', split_snoc_sep]
    rw [split_render rb cs h hne] at hsp
    have hl : cs.getLast? = some [] := by
      cases rb with
      | true =>
        have : ([] :: cs).getLast? = some [] := by
          have e : ([] :: cs : List Path) = split k' ++ [[]] := by simpa using hsp
          rw [e]; simp
        cases cs with
        | nil => exact absurd rfl hne
        | cons c t => simpa [List.getLast?_cons_cons] using this
      | false =>
        have e : cs = split k' ++ [[]] := by simpa using hsp
        rw [e]; simp
    have hmem : ([] : Path) ∈ cs := List.mem_of_getLast? hl
    have := ((plain_iff []).1 (h [] hmem).1).1
    exact this rfl

theorem render_snoc (rb : Bool) (cs : List Path) (n : Path) (hne : cs ≠ []) :
    render rb (cs ++ [n]) = render rb cs ++ 47 :: n :=
  render_append rb cs [n] hne (by simp)

/-- the path `os.MkdirTemp` builds from a rendered directory and the generated name -/
theorem hostJoin_render (rb : Bool) (cs : List Path) (n : Path) (h : Good cs) (hne : cs ≠ []) :
    hostJoin (render rb cs) n = render rb (cs ++ [n]) := by
  rw [hostJoin, render_no_trailing_sep rb cs h hne, render_snoc rb cs n hne]
  simp

def srvBase0 : Path := [47,115,114,118]

theorem patternParts_mem (pat pre suf : Path) (h : patternParts pat = some (pre, suf)) :
    ∀ x, (x ∈ pre ∨ x ∈ suf) → x ∈ pat := by
  induction pat generalizing pre suf with
  | nil => simp [patternParts] at h
  | cons c cs ih =>
    simp only [patternParts] at h
    split at h
    · rename_i pre' suf' hp
      simp only [Option.some.injEq, Prod.mk.injEq] at h
      obtain ⟨rfl, rfl⟩ := h
      intro x hx
      rcases hx with hx | hx
      · rcases List.mem_cons.1 hx with rfl | hx
        · simp
        · exact List.mem_cons_of_mem _ (ih pre' suf' hp x (Or.inl hx))
      · exact List.mem_cons_of_mem _ (ih pre' suf' hp x (Or.inr hx))
    · split at h
      · simp only [Option.some.injEq, Prod.mk.injEq] at h
        obtain ⟨rfl, rfl⟩ := h
        intro x hx
        rcases hx with hx | hx
        · simp at hx
        · exact List.mem_cons_of_mem _ hx
      · cases h

/-- **The name `os.MkdirTemp` makes from ANY pattern it accepts is a plain directory-entry
    name**: for every pattern (arbitrary bytes) and every non-empty string of decimal digits, the
    generated name contains no separator and is not empty, `.` or `..`; a pattern with a
    separator yields no name at all. -/
theorem tempName_plain (pattern rnd name : Path) (hne : rnd ≠ [])
    (hd : ∀ x ∈ rnd, 48 ≤ x ∧ x ≤ 57) (h : tempName pattern rnd = some name) :
    plain name = true ∧ 47 ∉ name := by
  unfold tempName at h
  split at h
  · cases h
  · rename_i hsep
    have hp : 47 ∉ pattern := by
      intro hmem
      exact hsep (by simpa using hmem)
    have hr : 47 ∉ rnd := fun hmem => by have := hd 47 hmem; omega
    obtain ⟨d, rest, rfl⟩ : ∃ d rest, rnd = d :: rest := by
      cases rnd with
      | nil => exact absurd rfl hne
      | cons d rest => exact ⟨d, rest, rfl⟩
    have hdd := hd d (by simp)
    have key : d ∈ name ∧ 47 ∉ name := by
      split at h
      · rename_i pre suf hparts
        simp only [Option.some.injEq] at h
        subst h
        refine ⟨by simp, ?_⟩
        intro hm
        simp only [List.mem_append] at hm
        rcases hm with (hm | hm) | hm
        · exact hp (patternParts_mem pattern pre suf hparts 47 (Or.inl hm))
        · exact hr hm
        · exact hp (patternParts_mem pattern pre suf hparts 47 (Or.inr hm))
      · simp only [Option.some.injEq] at h
        subst h
        refine ⟨by simp, ?_⟩
        intro hm
        simp only [List.mem_append] at hm
        rcases hm with hm | hm
        · exact hp hm
        · exact hr hm
    refine ⟨(plain_iff name).2 ⟨?_, ?_, ?_⟩, key.2⟩
    · intro e; rw [e] at key; simp at key
    · intro e; rw [e] at key
      have : d = 46 := by simpa using key.1
      omega
    · intro e; rw [e] at key
      have : d = 46 := by simpa [dotdot] using key.1
      omega

/-- a pattern with a path separator is refused: the call touches nothing and hands nothing out -/
theorem mkdirTemp_separator_pattern_refused (base : Path) (st : LState) (dir : LArg)
    (pattern rnd : Path) (h : 47 ∈ pattern) : lstep base st (.mkdirTempP dir pattern rnd) = st := by
  have : tempName pattern rnd = none := by
    unfold tempName
    have hc : pattern.contains 47 = true := by simpa using h
    rw [if_pos hc]
  simp [lstep, this]

/-- base `/srv`, pattern `../esc-*`, digits `7` -/
def escPattern : Path := [46, 46, 47, 101, 115, 99, 45, 42]

/-- **Building the temporary directory's path from the pattern without `os.MkdirTemp`'s
    separator test is NOT equivalent**: the code refuses the pattern `../esc-*`; joining it to the
    (confined) directory with `filepath.Join` gives `/esc-7`, outside the base `/srv`. -/
theorem pattern_join_escapes :
    lstep srvBase0 {} (.mkdirTempP (.lit []) escPattern [55]) = {}
    ∧ tempPathJoined srvBase0 escPattern [55] = [47, 101, 115, 99, 45, 55]
    ∧ hasPrefix (tempPathJoined srvBase0 escPattern [55]) srvBase0 = false := by decide

/-- what a session must supply about the environment: a generated temporary name and the
    directory-entry names below a walked root are plain names (not empty, `.`, `..`; no
    separator) — what the operating system guarantees of directory entries -/
def LOp.WF : LOp → Prop
  | .mkdirTemp _ name => plain name = true ∧ 47 ∉ name
  | .mkdirTempP _ _ rnd => rnd ≠ [] ∧ ∀ x ∈ rnd, 48 ≤ x ∧ x ≤ 57   -- decimal digits; the PATTERN is arbitrary
  | .walk _ rels => ∀ rel ∈ rels, Good rel
  | _ => True

/-- everything touched and everything handed out so far lies under the base -/
def LInv (rb : Bool) (cb : List Path) (st : LState) : Prop :=
  (∀ r ∈ st.touched, Under rb cb r) ∧ (∀ r ∈ st.handed, Under rb cb r)

theorem under_base (rb : Bool) (cb : List Path) : Under rb cb (render rb cb) :=
  ⟨[], by simp [Good], by simp⟩

theorem linv_extend (rb : Bool) (cb : List Path) (st : LState) (ts hs : List Path)
    (hinv : LInv rb cb st) (ht : ∀ r ∈ ts, Under rb cb r) (hh : ∀ r ∈ hs, Under rb cb r) :
    LInv rb cb { handed := st.handed ++ hs, touched := st.touched ++ ts } := by
  refine ⟨?_, ?_⟩
  · intro r hr
    rcases List.mem_append.1 hr with h | h
    · exact hinv.1 r h
    · exact ht r h
  · intro r hr
    rcases List.mem_append.1 hr with h | h
    · exact hinv.2 r h
    · exact hh r h

theorem walkPaths_under (rb : Bool) (cb : List Path) (r : Path) (rels : List (List Path))
    (hcb : Good cb) (hr : Under rb cb r) (hrels : ∀ rel ∈ rels, Good rel) :
    ∀ x ∈ walkPaths r rels, Under rb cb x := by
  obtain ⟨rest, hrest, rfl⟩ := hr
  intro x hx
  simp only [walkPaths, List.mem_cons, List.mem_map] at hx
  rcases hx with rfl | ⟨rel, hrel, rfl⟩
  · exact ⟨rest, hrest, rfl⟩
  · rw [foldl_join2_render rb (cb ++ rest) rel (good_append hcb hrest) (hrels rel hrel)]
    exact ⟨rest ++ rel, good_append hrest (hrels rel hrel), by simp⟩

/-- the directory `MkdirTemp` makes lies under the base when its name is a plain entry name -/
theorem mkdirTemp_under (rb : Bool) (cb : List Path) (base dir d name : Path) (hcb : Good cb)
    (hne : cb ≠ []) (hb : base = render rb cb) (h2 : base ≠ [47])
    (hd : mkdirTempDir base dir = .ok d) (hn : plain name = true ∧ 47 ∉ name) :
    Under rb cb (hostJoin d name) := by
  have hdu : Under rb cb d := by
    unfold mkdirTempDir at hd
    split at hd
    · simp only [Res.ok.injEq] at hd
      rw [← hd, hb]; exact under_base rb cb
    · exact resolvePath_under rb cb base dir d hcb hb h2 hd
  obtain ⟨rest, hrest, rfl⟩ := hdu
  rw [hostJoin_render rb (cb ++ rest) name (good_append hcb hrest) (by simp [hne])]
  exact ⟨rest ++ [name], good_append hrest (good_single hn.1 hn.2), by simp⟩

theorem lstep_inv (rb : Bool) (cb : List Path) (base : Path) (hcb : Good cb) (hne : cb ≠ [])
    (hb : base = render rb cb) (h2 : base ≠ [47]) (st : LState) (op : LOp) (hwf : op.WF)
    (hinv : LInv rb cb st) : LInv rb cb (lstep base st op) := by
  have hres : ∀ p r, localResolve base p = .ok r → Under rb cb r :=
    fun p r h => resolvePath_under rb cb base p r hcb hb h2 h
  cases op with
  | access a =>
    simp only [lstep]
    split
    · rename_i r hr
      have := linv_extend rb cb st [r] [] hinv (by simpa using hres _ r hr) (by simp)
      simpa using this
    · exact hinv
  | openFile a =>
    simp only [lstep]
    split
    · rename_i r hr
      exact linv_extend rb cb st [r] [r] hinv (by simpa using hres _ r hr) (by simpa using hres _ r hr)
    · exact hinv
  | access2 a b =>
    simp only [lstep]
    split
    · exact hinv
    · rename_i r1 hr1
      split
      · exact hinv
      · rename_i r2 hr2
        have := linv_extend rb cb st [r1, r2] [] hinv (by
          intro r hr
          simp only [List.mem_cons, List.not_mem_nil, or_false] at hr
          rcases hr with rfl | rfl
          · exact hres _ _ hr1
          · exact hres _ _ hr2) (by simp)
        simpa using this
  | mkdirTemp dir name =>
    simp only [lstep]
    split
    · rename_i d hd
      have hu := mkdirTemp_under rb cb base _ d name hcb hne hb h2 hd hwf
      exact linv_extend rb cb st [_] [_] hinv (by simpa using hu) (by simpa using hu)
    · exact hinv
  | mkdirTempP dir pattern rnd =>
    simp only [lstep]
    split
    · exact hinv
    · rename_i name hname
      split
      · rename_i d hd
        have hu := mkdirTemp_under rb cb base _ d name hcb hne hb h2 hd
          (tempName_plain pattern rnd name hwf.1 hwf.2 hname)
        exact linv_extend rb cb st [_] [_] hinv (by simpa using hu) (by simpa using hu)
      · exact hinv
  | walk root rels =>
    simp only [lstep]
    split
    · rename_i r hr
      have hw := walkPaths_under rb cb r rels hcb (hres _ r hr) hwf
      exact linv_extend rb cb st _ _ hinv hw hw
    · exact hinv

theorem lrun_inv (rb : Bool) (cb : List Path) (base : Path) (hcb : Good cb) (hne : cb ≠ [])
    (hb : base = render rb cb) (h2 : base ≠ [47]) (ops : List LOp) (hwf : ∀ op ∈ ops, op.WF)
    (st : LState) (hinv : LInv rb cb st) : LInv rb cb (ops.foldl (lstep base) st) := by
  induction ops generalizing st with
  | nil => exact hinv
  | cons op ops ih =>
    simp only [List.foldl_cons]
    exact ih (fun o ho => hwf o (by simp [ho])) _
      (lstep_inv rb cb base hcb hne hb h2 st op (hwf op (by simp)) hinv)

/-- **A rooted local filesystem stays confined over ANY sequence of calls, also when the host
    paths it handed out itself come back.**  For every base that `localfs.New` accepts (other
    than the unrooted ones `""`, `/` and the working directory `.`), every sequence of calls —
    one-path and two-path operations, `MkdirTemp`, `WalkDir`, opening files — whose path
    arguments are arbitrary byte strings OR any host path handed out earlier in the session
    (a `MkdirTemp` result, a path reported by `WalkDir`, a file's `Name()`) with arbitrary bytes
    appended (`/../..`, a sibling's name, anything), every generated temporary name and every
    directory content: each host path that reaches the Go `os` package and each host path
    handed to the caller is the rendering of the base's components followed by plain
    components — it lies under the base at a component boundary, with no `.`/`..`/empty
    component left. -/
theorem lsession_confined (b0 base : Path) (hbase : newBase b0 = some base)
    (h1 : base ≠ []) (h2 : base ≠ [47]) (h3 : base ≠ [46])
    (ops : List LOp) (hwf : ∀ op ∈ ops, op.WF) :
    ∃ cb, Good cb ∧ cb ≠ [] ∧ base = render (isAbs b0) cb ∧
      ∀ r, (r ∈ (lrun base ops).touched ∨ r ∈ (lrun base ops).handed) → Under (isAbs b0) cb r := by
  obtain ⟨cb, hcb, hb⟩ := newBase_repr b0 base hbase h1
  have hne : cb ≠ [] := by
    intro e
    subst e
    cases hr : isAbs b0 with
    | true => rw [hr] at hb; exact h2 (by simpa [render, joinSep] using hb)
    | false => rw [hr] at hb; exact h3 (by simpa [render] using hb)
  have hinv := lrun_inv (isAbs b0) cb base hcb hne hb h2 ops hwf {} ⟨by simp, by simp⟩
  refine ⟨cb, hcb, hne, hb, ?_⟩
  intro r hr
  rcases hr with h | h
  · exact hinv.1 r h
  · exact hinv.2 r h

/-- … read on strings: everything a session touches or hands out is the base directory itself
    or begins with the base directory followed by a separator -/
theorem lsession_confined_string (b0 base : Path) (hbase : newBase b0 = some base)
    (h1 : base ≠ []) (h2 : base ≠ [47]) (h3 : base ≠ [46])
    (ops : List LOp) (hwf : ∀ op ∈ ops, op.WF) (r : Path)
    (hr : r ∈ (lrun base ops).touched ∨ r ∈ (lrun base ops).handed) :
    r = base ∨ ∃ s, r = base ++ 47 :: s := by
  obtain ⟨cb, _, hne, hb, hall⟩ := lsession_confined b0 base hbase h1 h2 h3 ops hwf
  rw [hb]
  exact under_string (isAbs b0) cb r hne (hall r hr)

/-- **No path that begins with the filesystem's own host base directory gets out**, whatever
    follows the base: for every byte string `s`, `<base>/s` is either refused or resolved under
    the base.  (The base directory is no secret — `MkdirTemp` and `WalkDir` disclose it.) -/
theorem own_host_prefix_confined (b0 base s r : Path) (hbase : newBase b0 = some base)
    (h1 : base ≠ []) (h2 : base ≠ [47]) (h : localResolve base (base ++ 47 :: s) = .ok r) :
    ∃ cb rest, Good cb ∧ Good rest ∧ base = render (isAbs b0) cb
      ∧ r = render (isAbs b0) (cb ++ rest) :=
  resolvePath_confined b0 base _ r hbase h1 h2 h

theorem cleanStr_render_rooted (cs : List Path) (h : Good cs) :
    cleanStr (render true cs) = render true cs := by
  have hab : isAbs (render true cs) = true := by simp [render, isAbs]
  rw [cleanStr, render_isEmpty true cs h]
  simp only [Bool.false_eq_true, ↓reduceIte, hab, cleanComps]
  rw [foldl_split_render true true [] cs h]
  simp

/-- **What the code does with a host path that comes back: it nests it under the base a second
    time.**  For an absolute base with components `cb`, a path under it, `<base>/rest`, handed
    back as it is resolves to `<base>/<base>/rest` — never to itself.  (An inconvenience for the
    caller, and exactly what keeps the raw string from being trusted.) -/
theorem handed_back_nests (cb rest : List Path) (base : Path) (hcb : Good cb) (hrest : Good rest)
    (hb : base = render true cb) (h2 : base ≠ [47]) :
    localResolve base (render true (cb ++ rest)) = .ok (render true (cb ++ (cb ++ rest))) := by
  have hg := good_append hcb hrest
  have hnp : hasPrefix (render true (cb ++ rest)) dotdot = false := by
    simp [render, hasPrefix, dotdot]
  have h1 : base ≠ [] := by rw [hb]; exact render_ne_nil true cb hcb
  have hbe : (base == [] || base == [47]) = false := by
    rw [beq_false_of_ne h1, beq_false_of_ne h2]; rfl
  unfold localResolve resolvePath
  simp only [cleanStr_render_rooted _ hg, hnp, hbe, Bool.false_eq_true, ↓reduceIte, Res.ok.injEq]
  rw [join2, hb, render_isEmpty true cb hcb, render_isEmpty true _ hg]
  simp only [Bool.and_self, Bool.false_eq_true, ↓reduceIte]
  exact clean_join_render true true cb (cb ++ rest) hcb hg

-- base "/srv"; MkdirTemp("") hands out "/srv/t1"; "/srv/t1" ++ "/../../etc" is then read
def srvBase : Path := [47,115,114,118]
def climb : Path := [47,46,46,47,46,46,47,101,116,99]

/-- a concrete session: the handed-out path with `/../../etc` appended stays inside -/
theorem handed_back_session_example :
    lrun srvBase [.mkdirTemp (.lit []) [116,49], .access (.handed 0 climb)] =
      { handed := [srvBase ++ [47,116,49]],
        touched := [srvBase ++ [47,116,49], srvBase ++ [47,101,116,99]] } := by decide

example : LOp.WF (.mkdirTemp (.lit []) [116,49]) := ⟨by decide +kernel, by decide +kernel⟩
example : newBase srvBase = some srvBase := by decide

/-- accepting "our own host paths" as they are, recognised on the RAW string, is NOT
    equivalent: `/srv/t1/../../etc` begins with `/srv/`, is passed on verbatim, and names the
    host's `/etc`; the code resolves the same string to `/srv/etc`. -/
theorem passthrough_escapes :
    localResolvePassThrough srvBase (srvBase ++ [47,116,49] ++ climb) = .ok (srvBase ++ [47,116,49] ++ climb)
    ∧ cleanStr (srvBase ++ [47,116,49] ++ climb) = [47,101,116,99]
    ∧ localResolve srvBase (srvBase ++ [47,116,49] ++ climb) = .ok (srvBase ++ [47,101,116,99]) := by
  decide +kernel

/-! ### links made, moved and read through: the tree stays closed under the filesystem's own
    operations

`Symlink`, `Rename` and `Remove`/`RemoveAll` are confined argument by argument (above).  The
statements below are about what the TREE looks like after any sequence of such calls — which
links exist, with which content — and about where the host kernel ends when a later call reads
through them. -/

/-- every link the session made holds a host path under the base -/
def KInv (rb : Bool) (cb : List Path) (links : Links) : Prop := ∀ e ∈ links, Under rb cb e.2

/-- what a call leaves in the tree: the contents it found (entries are moved or dropped, never
    rewritten) and, for `Symlink`, the resolved target in one new link -/
theorem kstep_contents (base : Path) (cwd : List Path) (fuel : Nat) (links : Links) (op : KOp) :
    ∀ e ∈ kstep base cwd fuel links op, (∃ e' ∈ links, e'.2 = e.2) ∨
      ∃ o n k, op = .symlink o n k ∧ localResolve base o = .ok e.2 := by
  intro e he
  cases op with
  | symlink old new ok =>
    simp only [kstep, kstepG] at he
    split at he
    · rename_i r1 r2 hr1 hr2
      split at he
      · split at he
        · rcases List.mem_cons.1 he with rfl | he
          · exact .inr ⟨old, new, ok, rfl, hr1⟩
          · exact .inl ⟨e, he, rfl⟩
        · exact .inl ⟨e, he, rfl⟩
      · exact .inl ⟨e, he, rfl⟩
    · exact .inl ⟨e, he, rfl⟩
  | rename old new ok =>
    simp only [kstep, kstepG] at he
    split at he
    · split at he
      · split at he
        · split at he
          · exact .inl ⟨e, he, rfl⟩
          · simp only [List.mem_map, List.mem_filter] at he
            obtain ⟨e', ⟨he', _⟩, rfl⟩ := he
            exact .inl ⟨e', he', rfl⟩
        · exact .inl ⟨e, he, rfl⟩
      · exact .inl ⟨e, he, rfl⟩
    · exact .inl ⟨e, he, rfl⟩
  | remove p ok =>
    simp only [kstep, kstepG] at he
    split at he
    · split at he
      · split at he
        · exact .inl ⟨e, (List.mem_filter.1 he).1, rfl⟩
        · exact .inl ⟨e, he, rfl⟩
      · exact .inl ⟨e, he, rfl⟩
    · exact .inl ⟨e, he, rfl⟩

theorem kstep_inv (rb : Bool) (cb : List Path) (base : Path) (hcb : Good cb)
    (hb : base = render rb cb) (h2 : base ≠ [47]) (cwd : List Path) (fuel : Nat) (links : Links)
    (op : KOp) (hinv : KInv rb cb links) : KInv rb cb (kstep base cwd fuel links op) := by
  intro e he
  rcases kstep_contents base cwd fuel links op e he with ⟨e', he', h⟩ | ⟨o, _, _, _, h⟩
  · exact h ▸ hinv e' he'
  · exact resolvePath_under rb cb base o e.2 hcb hb h2 h

theorem krun_inv (rb : Bool) (cb : List Path) (base : Path) (hcb : Good cb)
    (hb : base = render rb cb) (h2 : base ≠ [47]) (cwd : List Path) (fuel : Nat) (ops : List KOp)
    (links : Links) (hinv : KInv rb cb links) :
    KInv rb cb (ops.foldl (kstep base cwd fuel) links) := by
  induction ops generalizing links with
  | nil => exact hinv
  | cons op ops ih =>
    simp only [List.foldl_cons]
    exact ih _ (kstep_inv rb cb base hcb hb h2 cwd fuel links op hinv)

/-- **`Rename` and `Remove` never change what a link holds** (they move or drop entries): every
    content in the tree after the call was in the tree before it. -/
theorem rename_remove_keep_contents (base : Path) (cwd : List Path) (fuel : Nat) (links : Links)
    (op : KOp) (hop : ∀ o n k, op ≠ .symlink o n k) :
    ∀ e ∈ kstep base cwd fuel links op, ∃ e' ∈ links, e'.2 = e.2 := by
  intro e he
  rcases kstep_contents base cwd fuel links op e he with h | ⟨o, n, k, h, _⟩
  · exact h
  · exact absurd h (hop o n k)

theorem good_filter_plain (cs : List Path) (h : Good cs) : cs.filter plain = cs := by
  apply List.filter_eq_self.2
  intro x hx
  exact (h x hx).1

theorem good_no_dotdot (cs : List Path) (h : Good cs) : ∀ c ∈ cs, c ≠ dotdot :=
  fun c hc => ((plain_iff c).1 (h c hc).1).2.2

theorem linkAt_mem {links : Links} {loc : List Path} {content : Path}
    (h : linkAt links loc = some content) : ∃ e ∈ links, e.2 = content := by
  unfold linkAt at h
  split at h
  · rename_i e he
    simp only [Option.some.injEq] at h
    exact ⟨e, List.mem_of_find?_eq_some he, h⟩
  · cases h

/-- an absolute path under `cb` as the kernel splits it: the root, then `cb` and plain components -/
theorem under_split {cb : List Path} {r : Path} (hcb : Good cb) (hne : cb ≠ []) (h : Under true cb r) :
    ∃ r', Good (cb ++ r') ∧ isAbs r = true ∧ split r = [] :: (cb ++ r') := by
  obtain ⟨r', hr', rfl⟩ := h
  have hg := good_append hcb hr'
  refine ⟨r', hg, by simp [render, isAbs], ?_⟩
  rw [split_render true _ hg (by simp [hne])]; rfl

/-- a walk that starts again at the root with such a path in front of `rest` meets the
    conditions of `kwalk_confined` -/
theorem walk_from_root {cb r' rest : List Path} (hcb : Good cb) (hg : Good (cb ++ r'))
    (hnd : ∀ x ∈ rest, x ≠ dotdot) :
    (∀ x ∈ [] :: (cb ++ r') ++ rest, x ≠ dotdot) ∧
    ∃ t, [] ++ ([] :: (cb ++ r') ++ rest).filter plain = cb ++ t := by
  refine ⟨fun x hx => ?_, r'.filter plain ++ rest.filter plain, ?_⟩
  · rcases List.mem_append.1 hx with hx | hx
    · rcases List.mem_cons.1 hx with rfl | hx
      · decide
      · exact good_no_dotdot _ hg x hx
    · exact hnd x hx
  · have h0 : plain ([] : Path) = false := by decide
    simp [h0, List.filter_append, good_filter_plain _ hcb]

/-- the kernel's walk stays under the base: when every link holds an absolute path under the
    directory with the components `cb`, a walk whose pending path lies under `cb` and has no
    `..` left ends under `cb` — whatever the links' locations, for every bound on the steps -/
theorem kwalk_confined (cb : List Path) (links : Links) (hcb : Good cb) (hne : cb ≠ [])
    (hl : KInv true cb links) :
    ∀ (fuel : Nat) (cur rest h : List Path), (∀ c ∈ rest, c ≠ dotdot) →
      (∃ t, cur ++ rest.filter plain = cb ++ t) → kwalk links fuel cur rest = some h →
      ∃ t, h = cb ++ t := by
  intro fuel
  induction fuel with
  | zero => intro cur rest h _ _ hk; simp [kwalk] at hk
  | succ fuel ih =>
    intro cur rest h hnd hpre hk
    cases rest with
    | nil =>
      simp only [kwalk, Option.some.injEq] at hk
      obtain ⟨t, ht⟩ := hpre
      exact ⟨t, by rw [← hk]; simpa using ht⟩
    | cons c rest =>
      have hnd' : ∀ x ∈ rest, x ≠ dotdot := fun x hx => hnd x (by simp [hx])
      simp only [kwalk] at hk
      by_cases hskip : c = [] ∨ c = [46]
      · rw [if_pos hskip] at hk
        have hp : plain c = false := by
          rcases hskip with rfl | rfl <;> decide +kernel
        refine ih cur rest h hnd' ?_ hk
        simpa [List.filter_cons, hp] using hpre
      · rw [if_neg hskip] at hk
        have hdd : c ≠ dotdot := hnd c (by simp)
        rw [if_neg hdd] at hk
        have hp : plain c = true := (plain_iff c).2 ⟨fun e => hskip (Or.inl e), fun e => hskip (Or.inr e), hdd⟩
        have hpre' : ∃ t, (cur ++ [c]) ++ rest.filter plain = cb ++ t := by
          simpa [List.filter_cons, hp] using hpre
        split at hk
        · rename_i content hla
          obtain ⟨e, he, rfl⟩ := linkAt_mem hla
          obtain ⟨r', hg, habs, hsp⟩ := under_split hcb hne (hl e he)
          rw [habs, hsp] at hk
          obtain ⟨h1, h2⟩ := walk_from_root hcb hg hnd'
          exact ih [] _ h h1 h2 hk
        · exact ih (cur ++ [c]) rest h hnd' hpre' hk

/-- **Whatever a rooted local filesystem is asked to link, move and remove, a later read ends
    inside the base.**  For every absolute base that `localfs.New` accepts (other than `/`),
    every sequence of `Symlink`, `Rename` and `Remove`/`RemoveAll` calls with arbitrary byte
    strings as arguments and arbitrary outcomes in the kernel (`ok`), every working directory,
    every later path argument `p` and every bound on the kernel's steps: the host file that the
    kernel reaches for `p` — following every link the session made, wherever `Rename` moved it
    or a directory above it — has the base's components as a prefix.  (The links of the model
    are the ones made through this filesystem; a tree that already contains foreign links is
    outside the statement.) -/
theorem linked_read_confined (b0 base : Path) (hbase : newBase b0 = some base)
    (habs : isAbs b0 = true) (h1 : base ≠ []) (h2 : base ≠ [47])
    (cwd : List Path) (fuel fuel' : Nat) (ops : List KOp) (p : Path) (h : List Path)
    (hr : kread base cwd fuel' (krun base cwd fuel ops) p = some h) :
    ∃ cb t, Good cb ∧ base = render true cb ∧ h = cb ++ t := by
  obtain ⟨cb, hcb, hb⟩ := newBase_repr b0 base hbase h1
  rw [habs] at hb
  have hne : cb ≠ [] := fun e => h2 (by rw [hb, e]; rfl)
  have hinv : KInv true cb (krun base cwd fuel ops) :=
    krun_inv true cb base hcb hb h2 cwd fuel ops [] (by intro e he; cases he)
  unfold kread at hr
  split at hr
  · rename_i r hres
    obtain ⟨r', hg, habs', hsp⟩ :=
      under_split hcb hne (resolvePath_under true cb base p r hcb hb h2 hres)
    unfold hostWalk at hr
    rw [habs', hsp, ← List.append_nil (_ :: _)] at hr
    obtain ⟨h1, h2⟩ := walk_from_root (rest := []) hcb hg (fun _ h => nomatch h)
    obtain ⟨t, ht⟩ := kwalk_confined cb _ hcb hne hinv fuel' [] _ h h1 h2 hr
    exact ⟨cb, t, hcb, hb, ht⟩
  · cases hr

theorem cleanComps_rooted_good (cs : List Path) (h : Good cs) : cleanComps true ([] :: cs) = cs := by
  unfold cleanComps
  simp only [List.foldl_cons]
  rw [push_skip true [] [] (Or.inl rfl), foldl_push_plain true [] cs (fun c hc => (h c hc).1)]
  simp

/-- **No link the filesystem made leads out of the base, wherever it has been moved**: for every
    absolute base accepted by `localfs.New` (other than `/`) and every sequence of `Symlink`,
    `Rename`, `Remove`/`RemoveAll` calls (arbitrary arguments, arbitrary outcomes), each link in
    the resulting tree points — read the way the kernel reads it from the link's CURRENT
    location — under the base. -/
theorem links_closed (b0 base : Path) (hbase : newBase b0 = some base)
    (habs : isAbs b0 = true) (h1 : base ≠ []) (h2 : base ≠ [47])
    (cwd : List Path) (fuel : Nat) (ops : List KOp) :
    ∃ cb, Good cb ∧ base = render true cb ∧ linksClosed cb (krun base cwd fuel ops) = true := by
  obtain ⟨cb, hcb, hb⟩ := newBase_repr b0 base hbase h1
  rw [habs] at hb
  have hne : cb ≠ [] := fun e => h2 (by rw [hb, e]; rfl)
  have hinv : KInv true cb (krun base cwd fuel ops) :=
    krun_inv true cb base hcb hb h2 cwd fuel ops [] (by intro e he; cases he)
  refine ⟨cb, hcb, hb, ?_⟩
  simp only [linksClosed, List.all_eq_true]
  intro e he
  obtain ⟨r', hg, habs', hsp⟩ := under_split hcb hne (hinv e he)
  unfold linkTarget
  rw [habs', hsp]
  simp only [↓reduceIte]
  rw [cleanComps_rooted_good _ hg]
  exact isCompPrefix_append cb r'

-- base "/b"; Symlink("n", "d/l"); Rename("d/l", "l"); then a read of "l"
def lnkBase : Path := [47,98]
def lnkOps : List KOp := [.symlink [110] [100,47,108] true, .rename [100,47,108] [108] true]

/-- the code on that session: the moved link still holds `/b/n`, and the read of `l` ends at
    `/b/n` -/
theorem moved_link_example :
    krun lnkBase [] 16 lnkOps = [([[98],[108]], [47,98,47,110])]
    ∧ kread lnkBase [] 16 (krun lnkBase [] 16 lnkOps) [108] = some [[98],[110]]
    ∧ linksClosed [[98]] (krun lnkBase [] 16 lnkOps) = true := by decide +kernel

example : newBase lnkBase = some lnkBase := by decide

/-- **writing the target RELATIVE to the link's directory (`filepath.Rel(Dir(link), target)`) is
    NOT equivalent**: at creation the link denotes the same file (a read of `d/l` ends at `/b/n`
    either way), but after `Rename("d/l", "l")` — both arguments plain in-base paths — the link
    `/b/l` holds `../n`, the tree is no longer closed, and a read of `l` ends at the host's `/n`,
    outside the base. -/
theorem relative_links_escape_after_rename :
    (lnkOps.take 1).foldl (kstepRel lnkBase [] 16) [] = [([[98],[100],[108]], [46,46,47,110])]
    ∧ kread lnkBase [] 16 ((lnkOps.take 1).foldl (kstepRel lnkBase [] 16) []) [100,47,108] = some [[98],[110]]
    ∧ kread lnkBase [] 16 (krun lnkBase [] 16 (lnkOps.take 1)) [100,47,108] = some [[98],[110]]
    ∧ lnkOps.foldl (kstepRel lnkBase [] 16) [] = [([[98],[108]], [46,46,47,110])]
    ∧ linksClosed [[98]] (lnkOps.foldl (kstepRel lnkBase [] 16) []) = false
    ∧ kread lnkBase [] 16 (lnkOps.foldl (kstepRel lnkBase [] 16) []) [108] = some [[110]] := by decide +kernel

end Risor.C13
