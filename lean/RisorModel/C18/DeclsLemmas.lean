import RisorModel.C18.Decls
/-!
C18, layer 9 — helper lemmas about the two passes of `Decls.lean`: both passes only add names, a redeclaration stops
them, and pre-declaring the functions of a LATER input commutes with the second pass over an EARLIER one whose own
functions are already in the table (`comm_one`, `comm_all`) — the core of `whole_append` in `DeclsProps.lean`.
-/
namespace Risor.C18

theorem DEnv.has_ins (E : DEnv) (n : Nat) (c : Bool) (k : Nat) : (E.ins n c).has k = (decide (k = n) || E.has k) := by
  unfold DEnv.has DEnv.ins
  by_cases h : k = n <;> simp [h]

theorem DEnv.has_ins_of_has (E : DEnv) (n : Nat) (c : Bool) (k : Nat) (h : E.has k = true) : (E.ins n c).has k = true := by
  rw [DEnv.has_ins, h, Bool.or_true]

/-- the first pass only adds names -/
theorem dPass1_mono (p : DPiece) : ∀ (E E' : DEnv), dPass1 p E = some E' → ∀ k, E.has k = true → E'.has k = true := by
  induction p with
  | nil => intro E E' h k hk; simp only [dPass1, Option.some.injEq] at h; subst h; exact hk
  | cons s r ih =>
    intro E E' h k hk
    cases s with
    | fn n v refs =>
      dsimp only [dPass1] at h
      split at h
      · cases h
      · exact ih _ _ h k (DEnv.has_ins_of_has E n true k hk)
    | _ => exact ih _ _ h k hk

theorem dPass1_append (a b : DPiece) : ∀ E, dPass1 (a ++ b) E = (dPass1 a E).bind (dPass1 b) := by
  induction a with
  | nil => intro E; rfl
  | cons s r ih =>
    intro E
    cases s with
    | fn n v refs => simp only [List.cons_append, dPass1]; split <;> simp [ih]
    | _ => exact ih E

theorem dPass2_append (a b : DPiece) : ∀ E, dPass2 (a ++ b) E = (dPass2 a E).bind (dPass2 b) := by
  induction a with
  | nil => intro E; rfl
  | cons s r ih =>
    intro E
    cases s <;> simp only [List.cons_append, dPass2] <;> split <;> simp [ih]

theorem DEnv.ins_comm (E : DEnv) (n m : Nat) (c d : Bool) (h : n ≠ m) : (E.ins n c).ins m d = (E.ins m d).ins n c := by
  funext k
  unfold DEnv.ins
  by_cases h1 : k = m <;> by_cases h2 : k = n <;> simp [h1, h2]
  all_goals (intro e; first | exact absurd e h | exact absurd e.symm h)

theorem DEnv.has_ins_self (E : DEnv) (n : Nat) (c : Bool) : (E.ins n c).has n = true := by
  simp [DEnv.has_ins]

theorem DEnv.has_ins_ne (E : DEnv) (n k : Nat) (c : Bool) (h : k ≠ n) : (E.ins n c).has k = E.has k := by
  simp [DEnv.has_ins, h]

theorem DEnv.ins_ne (E : DEnv) (n k : Nat) (c : Bool) (h : k ≠ n) : (E.ins n c) k = E k := by
  simp [DEnv.ins, h]


/-- what one statement of the second pass does to the table, when it is accepted -/
theorem dPass2_one_mono (s : DStmt) (E E' : DEnv) (h : dPass2 [s] E = some E') : ∀ k, E.has k = true → E'.has k = true := by
  intro k hk
  cases s with
  | var n v | const n v =>
    dsimp only [dPass2] at h
    split at h
    · cases h
    · cases h
      exact DEnv.has_ins_of_has E n _ k hk
  | fn n v refs =>
    dsimp only [dPass2] at h
    split at h
    · cases h
      split
      · exact hk
      · exact DEnv.has_ins_of_has E n true k hk
    · cases h
  | set n v | use n =>
    dsimp only [dPass2] at h
    split at h
    · cases h
      exact hk
    · cases h

theorem dPass2_cons (s : DStmt) (r : DPiece) (E : DEnv) : dPass2 (s :: r) E = (dPass2 [s] E).bind (dPass2 r) :=
  dPass2_append [s] r E

/-- the second pass only adds names -/
theorem dPass2_mono (p : DPiece) : ∀ (E E' : DEnv), dPass2 p E = some E' → ∀ k, E.has k = true → E'.has k = true := by
  induction p with
  | nil => intro E E' h k hk; cases h; exact hk
  | cons s r ih =>
    intro E E' h k hk
    rw [dPass2_cons] at h
    obtain ⟨E1, h1, h2⟩ := Option.bind_eq_some_iff.1 h
    exact ih _ _ h2 k (dPass2_one_mono s E E1 h1 k hk)

/-- a named function whose name is already in the table stops the first pass — wherever it stands in the input:
    the statements before it keep the name -/
theorem dPass1_redefined (p : DPiece) (E : DEnv) (n : Nat) (v : Int) (refs : List Nat)
    (hm : DStmt.fn n v refs ∈ p) (hn : E.has n = true) : dPass1 p E = none := by
  obtain ⟨a, b, rfl⟩ := List.append_of_mem hm
  rw [dPass1_append]
  cases h1 : dPass1 a E with
  | none => rfl
  | some E1 => simp [dPass1, dPass1_mono a E E1 h1 n hn]

/-- `n := v` / `const n = v` over a name that is in the table stops the second pass — wherever it stands -/
theorem dPass2_redeclared (p : DPiece) (E : DEnv) (n : Nat) (v : Int)
    (hm : DStmt.var n v ∈ p ∨ DStmt.const n v ∈ p) (hn : E.has n = true) : dPass2 p E = none := by
  have key : ∀ s, (s = .var n v ∨ s = .const n v) → s ∈ p → dPass2 p E = none := by
    intro s hs hmem
    obtain ⟨a, b, rfl⟩ := List.append_of_mem hmem
    rw [dPass2_append]
    cases h1 : dPass2 a E with
    | none => rfl
    | some E1 =>
      have := dPass2_mono a E E1 h1 n hn
      rcases hs with rfl | rfl <;> simp [dPass2, this]
  rcases hm with hm | hm
  · exact key _ (.inl rfl) hm
  · exact key _ (.inr rfl) hm

theorem all_has_ins (refs : List Nat) (E : DEnv) (m : Nat) (c : Bool) (h : refs.all E.has = true) : refs.all (E.ins m c).has = true := by
  rw [List.all_eq_true] at h ⊢
  intro x hx
  exact DEnv.has_ins_of_has E m c x (h x hx)

theorem one_declares (s : DStmt) (E E' : DEnv) (m : Nat) (h : dPass2 [s] E = some E') (hm : E.has m = false) (hm' : E'.has m = true)
    (hs : ∀ n v refs, s = .fn n v refs → E.has n = true) : ∀ Eb : DEnv, Eb.has m = true → dPass2 [s] Eb = none := by
  intro Eb hb
  cases s with
  | var n v | const n v =>
    dsimp only [dPass2] at h
    split at h
    · cases h
    · cases h
      rw [DEnv.has_ins, hm, Bool.or_false, decide_eq_true_eq] at hm'
      subst hm'
      simp [dPass2, hb]
  | fn n v refs =>
    simp only [dPass2, hs n v refs rfl, if_true] at h
    split at h
    · cases h
      rw [hm] at hm'
      cases hm'
    · cases h
  | set n v | use n =>
    dsimp only [dPass2] at h
    split at h
    · cases h
      rw [hm] at hm'
      cases hm'
    · cases h

theorem one_commutes (s : DStmt) (E E' : DEnv) (m : Nat) (h : dPass2 [s] E = some E') (hm' : E'.has m = false) :
    dPass2 [s] (E.ins m true) = some (E'.ins m true) := by
  cases s with
  | var n v | const n v =>
    dsimp only [dPass2] at h
    split at h
    · cases h
    · rename_i hn
      cases h
      rw [DEnv.has_ins, Bool.or_eq_false_iff, decide_eq_false_iff_not] at hm'
      have hne : n ≠ m := fun e => hm'.1 e.symm
      simp only [dPass2, DEnv.has_ins_ne E m n true hne, hn, if_false, Bool.false_eq_true]
      rw [DEnv.ins_comm E n m _ true hne]
  | fn n v refs =>
    dsimp only [dPass2] at h
    split at h
    · rename_i hr
      simp only [dPass2, all_has_ins refs E m true hr, if_true]
      split at h
      · rename_i hn
        cases h
        simp only [DEnv.has_ins_of_has E m true n hn, if_true]
      · rename_i hn
        cases h
        rw [DEnv.has_ins, Bool.or_eq_false_iff, decide_eq_false_iff_not] at hm'
        have hne : n ≠ m := fun e => hm'.1 e.symm
        simp only [DEnv.has_ins_ne E m n true hne, hn, if_false, Bool.false_eq_true]
        rw [DEnv.ins_comm E n m true true hne]
    · cases h
  | set n v =>
    dsimp only [dPass2] at h
    split at h
    · rename_i hn
      cases h
      have hne : n ≠ m := by
        intro e; subst e; simp [DEnv.has, hn] at hm'
      simp only [dPass2, DEnv.ins_ne E m n true hne, hn, if_true]
    · cases h
  | use n =>
    dsimp only [dPass2] at h
    split at h
    · rename_i hn
      cases h
      have hne : n ≠ m := by
        intro e; subst e; rw [hn] at hm'; cases hm'
      simp only [dPass2, DEnv.has_ins_ne E m n true hne, hn, if_true]
    · cases h

theorem comm_one (s : DStmt) (p : DPiece) : ∀ (E E' : DEnv), (∀ n v refs, s = .fn n v refs → E.has n = true) →
    dPass2 [s] E = some E' → (dPass1 p E).bind (dPass2 [s]) = dPass1 p E' := by
  induction p with
  | nil => intro E E' _ h; simpa [dPass1] using h
  | cons t r ih =>
    intro E E' hs h
    cases t with
    | fn m w rs =>
      simp only [dPass1]
      by_cases hm : E.has m = true
      · simp only [hm, if_true, dPass2_one_mono s E E' h m hm, Option.bind_none]
      · have hm0 : E.has m = false := by simpa using hm
        simp only [hm0, if_false, Bool.false_eq_true]
        by_cases hm' : E'.has m = true
        · simp only [hm', if_true]
          cases h1 : dPass1 r (E.ins m true) with
          | none => rfl
          | some Eb =>
            simp only [Option.bind_some]
            exact one_declares s E E' m h hm0 hm' hs Eb (dPass1_mono r _ Eb h1 m (DEnv.has_ins_self E m true))
        · have hm1 : E'.has m = false := by simpa using hm'
          simp only [hm1, if_false, Bool.false_eq_true]
          exact ih (E.ins m true) (E'.ins m true)
            (fun n v refs e => DEnv.has_ins_of_has E m true n (hs n v refs e)) (one_commutes s E E' m h hm1)
    | _ => exact ih E E' hs h

theorem comm_all (A : DPiece) : ∀ (Ea E1 : DEnv), (∀ n v refs, DStmt.fn n v refs ∈ A → Ea.has n = true) →
    dPass2 A Ea = some E1 → ∀ p : DPiece, (dPass1 p Ea).bind (dPass2 A) = dPass1 p E1 := by
  induction A with
  | nil =>
    intro Ea E1 _ h p
    simp only [dPass2, Option.some.injEq] at h; subst h
    cases dPass1 p Ea <;> rfl
  | cons s r ih =>
    intro Ea E1 hf h p
    rw [dPass2_cons] at h
    cases h1 : dPass2 [s] Ea with
    | none => rw [h1] at h; cases h
    | some E' =>
      rw [h1] at h
      simp only [Option.bind_some] at h
      have hs : ∀ n v refs, s = .fn n v refs → Ea.has n = true := fun n v refs e => hf n v refs (e ▸ List.mem_cons_self)
      have hr : ∀ n v refs, DStmt.fn n v refs ∈ r → E'.has n = true :=
        fun n v refs hm => dPass2_one_mono s Ea E' h1 n (hf n v refs (List.mem_cons_of_mem _ hm))
      have e1 : (dPass1 p Ea).bind (dPass2 (s :: r)) = ((dPass1 p Ea).bind (dPass2 [s])).bind (dPass2 r) := by
        cases dPass1 p Ea with
        | none => rfl
        | some Eb => simp only [Option.bind_some]; exact dPass2_cons s r Eb
      rw [e1, comm_one s p Ea E' hs h1]
      exact ih E' E1 hr h p

/-- after the first pass every function of the input is in the table -/
theorem dPass1_has_fns (A : DPiece) (E Ea : DEnv) (h : dPass1 A E = some Ea) (n : Nat) (v : Int) (refs : List Nat)
    (hm : DStmt.fn n v refs ∈ A) : Ea.has n = true := by
  obtain ⟨a, b, rfl⟩ := List.append_of_mem hm
  rw [dPass1_append] at h
  obtain ⟨E1, _, h2⟩ := Option.bind_eq_some_iff.1 h
  dsimp only [dPass1] at h2
  split at h2
  · cases h2
  · exact dPass1_mono b _ Ea h2 n (DEnv.has_ins_self E1 n true)

end Risor.C18
