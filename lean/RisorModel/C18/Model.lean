import RisorModel.Util
/-
C18 — incremental (REPL-style) evaluation against whole-program evaluation.

Core Lean only.  Layers 1 and 2 are described here; layers 3 to 7 and the host-supplied globals
are described at their sections.

Layer 1 (`BIns`, `Sem`, `stepAt`; the runs `Steps` are in `Lemmas.lean`): a generic bytecode machine with risor's RELATIVE jumps
(`JumpForward d`, `JumpBackward d`, `PopJumpForwardIf* d`, `ForIter d`) over an arbitrary
state type and an arbitrary semantics of the non-jump instructions.  `Props.lean` proves
`exec_append`: running `c₁ ++ c₂` from 0 is running `c₁` and then `c₂` from `|c₁|`, provided
the jumps of a fragment stay inside it (`jumpsLocal`).  On the real compiler's output that
proviso is checked per piece by C04's verified certificate checker (oracle request `frag`).

Layer 2 (`Stmt`, `Piece`, `Repl`): the REPL state machine of cmd/risor/repl/repl.go
(`getEvaluator`): ONE compiler whose main code, symbol table and constant pool grow with every
ACCEPTED piece (compiler.Compile rolls back what a rejected piece added; compileFunc switches
back to the enclosing code on its error paths), ONE VM that resumes at the saved instruction
pointer on an EMPTY operand stack (the previous run's result is dropped when Run resumes), reloads
the main code with a fresh copy of the globals (and forgets the functions of the main code it had
loaded, so that they are wrapped again with the new copy — since the repair of
C18-function-globals-snapshot), and the REPL's `SetIP(end)` after a run-time error.  A top-level
statement is an opaque, position-independent, stack-neutral fragment (justified by layer 1 + C04),
so the machine state is the TRACE of executed statement identities: every real semantics of
statements is a function of that trace, hence equal traces give equal globals, values and
output.  `Impl` is the code as it is (defects included), `Spec` what the property demands.
The machine of the code BEFORE the three earlier repairs (no rollback, compiler stuck in a function,
one stack slot per piece) is kept as `PreFix.Repl` for the historical `C18_fixed_*` statements; the
machine before the fourth repair (functions kept the globals copy of the run that loaded them) as
`Repl.feedSnapshot` / `preFixReloadKeeps` (layer 2) and `BCtl.nextSnapshot` (layer 4).
-/
namespace Risor.C18

/-! ## Layer 1: generic bytecode with relative jumps -/

inductive BIns where
  | op  (k : Nat)        -- any non-jump instruction
  | jf  (d : Nat)        -- ip := pc + d
  | jb  (d : Nat)        -- ip := pc - d
  | cjf (k d : Nat)      -- conditional: ip := pc + d or fall through (decided by the state)
  deriving Repr, DecidableEq, Inhabited

/-- semantics of the non-jump instructions and of the branch decisions (arbitrary) -/
structure Sem (σ : Type) where
  exec : Nat → σ → Except σ σ            -- `error s` = run-time error raised in state `s`
  test : Nat → σ → Except σ (Bool × σ)   -- is the conditional jump taken?

def stepAt {σ : Type} (S : Sem σ) (i : BIns) (pc : Nat) (s : σ) : Except σ (Nat × σ) :=
  match i with
  | .op k => match S.exec k s with
    | .ok s' => .ok (pc + 1, s')
    | .error e => .error e
  | .jf d => .ok (pc + d, s)
  | .jb d => if d ≤ pc then .ok (pc - d, s) else .error s
  | .cjf k d => match S.test k s with
    | .ok (b, s') => .ok (if b then pc + d else pc + 1, s')
    | .error e => .error e

/-- the jumps of the instruction at `pc` stay inside a fragment of length `n`
    (the end position `n` itself is allowed: that is how a fragment is left) -/
def insLocal (n pc : Nat) : BIns → Bool
  | .op _ => true
  | .jf d => pc + d ≤ n
  | .jb d => d ≤ pc
  | .cjf _ d => pc + d ≤ n

def jumpsLocalFrom (n : Nat) : Nat → List BIns → Bool
  | _, [] => true
  | pc, i :: rest => insLocal n pc i && jumpsLocalFrom n (pc + 1) rest

/-- every jump of the fragment lands inside it or at its end -/
def jumpsLocal (c : List BIns) : Bool := jumpsLocalFrom c.length 0 c

/-! ## What the model assumes about the sources (tied to /repo by `Ties.lean` on every run) -/

/-- the calls of repl.getEvaluator that `Repl.feed` mirrors, in source order -/
def replProtocol : List String :=
  ["compiler.New", "parser.Parse", "c.Compile", "vm.New", "v.Run", "v.SetIP", "code.InstructionCount", "v.TOS"]

/-- (*Compiler).Compile rolls the main code back when compilation fails: the mark is taken before
    anything is compiled and `c.main.rollback(mark)` is the first statement of the error branch -/
def compileRollsBackOnError : Bool := true

/-- what `(*Code).rollback` restores: the fields of the code object it assigns and the method it calls on
    the symbol table; and what `(*SymbolTable).truncate` restores (`delete:` = entries removed from a map) -/
def rollbackRestores : List String :=
  ["c.children", "c.constants", "c.instructions", "c.names", "c.source", "call:c.symbols.truncate"]
def truncateRestores : List String := ["delete:t.symbolsByName", "t.children", "t.symbols"]

/-- (*VirtualMachine).Run drops what the previous run left on the operand stack before it resumes:
    `for vm.sp >= 0 { vm.pop() }` under `if !resetState` in runCodeInternal, before activateCode -/
def runStartsOnEmptyStack : Bool := true

/-- (*VirtualMachine).reloadCode removes from `vm.loadedCode`, together with the main code, every loaded
    code object whose `Root()` is the main code — before it wraps the main code afresh: the functions of
    the main code are wrapped again (with the NEW globals array) when they are next loaded (repair of
    C18-function-globals-snapshot; `reloadKeeps`, layer 4 `BCtl.next`) -/
def reloadDropsMainFunctions : Bool := true

/-! ## Layer 2: statements, pieces, compiler and VM of the REPL -/

/-- what the compiler and the VM do with one top-level statement.  Names are numbers. -/
structure Stmt where
  id     : Nat                -- identity of the statement's effect and of its value (> 0)
  isExpr : Bool := false      -- ast.Node.IsExpression
  leaves : Bool := false      -- compiler.leavesValue (expressions and named functions)
  uses   : List Nat := []     -- global names that must resolve when the statement is compiled
  asg    : List Nat := []     -- global names assigned to (must not be constants)
  vdecl  : List Nat := []     -- variables the statement declares once it has compiled
  cdecl  : List Nat := []     -- constants (const, named functions) it declares
  fails  : Bool := false      -- raises a run-time error when executed
  leak   : Nat := 0           -- operands the failing statement leaves on the stack
  need   : Nat := 1           -- operand-stack slots the statement needs above the current top (read by `PreFix` only)
  pre    : Nat := 0           -- values pushed by the code emitted BEFORE its compile error surfaces (`PreFix` only)
  inFn   : Bool := false      -- its compile error surfaces inside a function body (`PreFix` only)
  junk   : Bool := false      -- the code emitted before its compile error also holds stack-neutral instructions (`PreFix` only)
  fdefs  : List Nat := []     -- global-sensitive functions whose constants it adds to the main code
  calls  : List Nat := []     -- global-sensitive functions it may call when executed
  deriving Repr, DecidableEq, Inhabited

inductive Piece where
  | bad                          -- rejected by the parser
  | stmts (l : List Stmt)
  deriving Repr, Inhabited

structure Syms where
  vars : List Nat := []
  consts : List Nat := []
  deriving Repr, DecidableEq, Inhabited

def Syms.defined (y : Syms) (n : Nat) : Bool := y.vars.contains n || y.consts.contains n

/-- the statement compiles in symbol table `y`: every used name resolves, no constant is assigned -/
def Stmt.resolves (y : Syms) (s : Stmt) : Bool :=
  s.uses.all y.defined && s.asg.all (fun n => y.defined n && !y.consts.contains n)

def Syms.add (y : Syms) (s : Stmt) : Syms := ⟨y.vars ++ s.vdecl, y.consts ++ s.cdecl⟩

/-- instructions of the abstract main code -/
inductive AIns where
  | eff (id need : Nat) (calls : List Nat)   -- a statement's body: opaque, stack-neutral
  | fail (id leak : Nat)                     -- a statement that raises after an opaque partial effect
  | push (v : Nat)                           -- leave a value (0 = nil)
  | pop                                      -- POP_TOP
  deriving Repr, DecidableEq, Inhabited

/-- the statement leaves a value on the stack (expressions always do) -/
def Stmt.lv (s : Stmt) : Bool := s.isExpr || s.leaves

def frag (s : Stmt) : List AIns :=
  if s.fails then [.fail s.id s.leak]
  else .eff s.id s.need s.calls :: (if s.lv then [.push s.id] else [])

/-- what compileProgram emits after a statement: POP_TOP between statements, and the
    guarantee that the program evaluates to a value at the end -/
def sep (s : Stmt) (last : Bool) : List AIns :=
  if last then
    (if s.isExpr then [] else (if s.lv then [.pop] else []) ++ [.push 0])
  else (if s.lv then [.pop] else [])

structure COut where
  code : List AIns
  syms : Syms
  fns  : List Nat
  deriving Repr, Inhabited

/-- (*Compiler).Compile on one piece, statement by statement (compileProgram).  `none`: a statement is
    rejected — Compile then rolls the main code, its constants, names, child codes and the root symbol
    table back to what they were at entry (and compileFunc has switched back to the main code), so
    NOTHING the piece emitted or declared remains -/
def compileStmts (y : Syms) : List Stmt → Option COut
  | [] => some ⟨[], y, []⟩
  | s :: rest =>
    if s.resolves y then
      (compileStmts (y.add s) rest).map fun r => ⟨frag s ++ sep s rest.isEmpty ++ r.code, r.syms, s.fdefs ++ r.fns⟩
    else none

structure Comp where
  code  : List AIns := []
  syms  : Syms := {}
  fns   : List Nat := []       -- function constants of the main code
  deriving Repr, Inhabited

structure VM where
  ip    : Nat := 0
  stack : List Nat := []                 -- value identities, top first: what the LAST run left
  trace : List (Nat × Bool) := []        -- executed statements; `true` = ran against a stale globals copy (never, since the repair)
  old   : List Nat := []                 -- functions loaded by an earlier run (wrapped with that run's globals array)
  deriving Repr, Inhabited

structure XOut where
  stack : List Nat
  trace : List (Nat × Bool)
  ok    : Bool
  deriving Repr, Inhabited

/-- vm.eval over the abstract instructions from the resume point to the end of the code.  Every run starts
    on an empty stack and statements are stack-neutral, so the height never exceeds what ONE statement
    needs: a statement that overflows the VM on its own does so in the whole program too — it is a
    statement with `fails` — and the capacity plays no role in comparing the two evaluations. -/
def execFrom (old : List Nat) : List AIns → List Nat → List (Nat × Bool) → XOut
  | [], stk, tr => ⟨stk, tr, true⟩
  | .eff id _ calls :: rest, stk, tr => execFrom old rest stk (tr ++ [(id, calls.any old.contains)])
  | .fail id leak :: _, stk, tr => ⟨List.replicate leak 0 ++ stk, tr ++ [(id, false)], false⟩
  | .push v :: rest, stk, tr => execFrom old rest (v :: stk) tr
  | .pop :: rest, stk, tr => execFrom old rest stk.tail tr

/-- vm.reloadCode, the loaded functions' side: which of the functions loaded by earlier runs are still in
    `vm.loadedCode` — wrapped with the OLD globals array — when the reloaded main code runs.  None: every
    loaded code object whose root is the main code is dropped with it and wrapped again, with the new
    array, when it is next loaded (`reloadDropsMainFunctions`; repair of C18-function-globals-snapshot). -/
def reloadKeeps (_old : List Nat) : List Nat := []

/-- HISTORICAL (before the repair of C18-function-globals-snapshot): reloadCode dropped the main code
    only; every function loaded by an earlier run stayed in `vm.loadedCode` with the globals array of the
    run that loaded it.  Read only by `Repl.feedSnapshot` and `C18_fixed_function_globals_snapshot`. -/
def preFixReloadKeeps (old : List Nat) : List Nat := old

inductive Outcome where
  | ok (v : Nat)          -- the piece ran; `v` identifies the value on top of the stack (0 = nil)
  | parseRejected
  | compileRejected
  | failed                -- run-time error
  deriving Repr, DecidableEq, Inhabited

structure Repl where
  comp : Comp := {}
  vm   : VM := {}
  deriving Repr, Inhabited

/-- one call of the REPL's evaluator (getEvaluator): Parse, Compile into the same main code (rolled back
    when the piece is rejected: compiler and VM are exactly as before), Run from the saved ip on an EMPTY
    operand stack (`runStartsOnEmptyStack`), SetIP(end of code) after a run-time error, TOS -/
def Repl.feed (r : Repl) : Piece → Repl × Outcome
  | .bad => (r, .parseRejected)
  | .stmts l =>
    match compileStmts r.comp.syms l with
    | none => (r, .compileRejected)
    | some o =>
      let comp : Comp := { code := r.comp.code ++ o.code, syms := o.syms, fns := r.comp.fns ++ o.fns }
      let x := execFrom (reloadKeeps r.vm.old) (comp.code.drop r.vm.ip) [] r.vm.trace
      let vm : VM := { ip := comp.code.length, stack := x.stack, trace := x.trace, old := comp.fns }
      ({ comp := comp, vm := vm }, if x.ok then .ok (x.stack.headD 0) else .failed)

def Repl.run (r : Repl) : List Piece → Repl × List Outcome
  | [] => (r, [])
  | p :: ps =>
    let (r1, o) := r.feed p
    let (r2, os) := Repl.run r1 ps
    (r2, o :: os)

/-- HISTORICAL: `Repl.feed` as the code was before the repair of C18-function-globals-snapshot — the same
    machine, except that the functions loaded by earlier runs keep the globals array of that run
    (`preFixReloadKeeps`): a statement that calls one of them runs against a stale copy (marked in the trace) -/
def Repl.feedSnapshot (r : Repl) : Piece → Repl × Outcome
  | .bad => (r, .parseRejected)
  | .stmts l =>
    match compileStmts r.comp.syms l with
    | none => (r, .compileRejected)
    | some o =>
      let comp : Comp := { code := r.comp.code ++ o.code, syms := o.syms, fns := r.comp.fns ++ o.fns }
      let x := execFrom (preFixReloadKeeps r.vm.old) (comp.code.drop r.vm.ip) [] r.vm.trace
      let vm : VM := { ip := comp.code.length, stack := x.stack, trace := x.trace, old := comp.fns }
      ({ comp := comp, vm := vm }, if x.ok then .ok (x.stack.headD 0) else .failed)

def Repl.runSnapshot (r : Repl) : List Piece → Repl × List Outcome
  | [] => (r, [])
  | p :: ps =>
    let (r1, o) := r.feedSnapshot p
    let (r2, os) := Repl.runSnapshot r1 ps
    (r2, o :: os)

/-! ### Spec: what the property demands -/

structure SpecSt where
  syms  : Syms := {}
  trace : List (Nat × Bool) := []
  deriving Repr, DecidableEq, Inhabited

/-- all statements of the piece compile (each sees the declarations of the earlier ones) -/
def allResolve (y : Syms) : List Stmt → Bool
  | [] => true
  | s :: rest => s.resolves y && allResolve (y.add s) rest

structure SOut where
  syms  : Syms
  trace : List (Nat × Bool)
  ok    : Bool
  last  : Nat
  deriving Repr, Inhabited

/-- source-level execution of an accepted piece: statements run in order, each against the
    current globals; a failing statement stops the piece; only statements that completed
    have declared anything -/
def specExec (y : Syms) (tr : List (Nat × Bool)) (last : Nat) : List Stmt → SOut
  | [] => ⟨y, tr, true, last⟩
  | s :: rest =>
    if s.fails then ⟨y, tr ++ [(s.id, false)], false, 0⟩
    else specExec (y.add s) (tr ++ [(s.id, false)]) (if s.isExpr then s.id else 0) rest

/-- a rejected piece (parser or compiler) changes nothing; a failing piece keeps exactly the
    effects it had before failing -/
def SpecSt.feed (st : SpecSt) : Piece → SpecSt × Outcome
  | .bad => (st, .parseRejected)
  | .stmts l =>
    if allResolve st.syms l then
      let x := specExec st.syms st.trace 0 l
      (⟨x.syms, x.trace⟩, if x.ok then .ok x.last else .failed)
    else (st, .compileRejected)

def SpecSt.run (st : SpecSt) : List Piece → SpecSt × List Outcome
  | [] => (st, [])
  | p :: ps =>
    let (s1, o) := st.feed p
    let (s2, os) := SpecSt.run s1 ps
    (s2, o :: os)

/-- whole-program evaluation of the statements of all pieces at once -/
def wholeOf (ps : List (List Stmt)) : Piece := .stmts ps.flatten

/-! ### Guards: what `C18_partial` excludes (one per RECORDED defect of the code: G4 is the only one left) -/

/-- what guard G4 excludes: from its failing statement on, the piece declares a name -/
def declaresAfterFailure : List Stmt → Bool
  | [] => false
  | s :: rest =>
    if s.fails then (s :: rest).any (fun t => !(t.vdecl.isEmpty && t.cdecl.isEmpty))
    else declaresAfterFailure rest

/-- operand slots the failing statement of the piece leaves behind (`none` if none fails) -/
def leakOf : List Stmt → Option Nat
  | [] => none
  | s :: rest => if s.fails then some s.leak else leakOf rest

/-- the first statement of the piece that does not compile -/
def firstBad (y : Syms) : List Stmt → Option Stmt
  | [] => none
  | s :: rest => if s.resolves y then firstBad (y.add s) rest else some s

/-- function constants the piece adds -/
def fnsOf (l : List Stmt) : List Nat := (l.map (·.fdefs)).flatten

structure GSt where
  syms : Syms := {}
  ht   : Nat := 0            -- operand-stack height the LAST run left (not a guard: see `stack_holds_last_run_only`)
  fns  : List Nat := []      -- function constants loaded so far (every one of them by an earlier run; read by `preFixStaleCall` only)
  deriving Repr, Inhabited

/-- HISTORICAL (finding C18-function-globals-snapshot, repaired): a
    statement of the piece calls a global-sensitive function that an earlier run loaded -/
def preFixStaleCall (g : GSt) (l : List Stmt) : Bool := !l.all (fun s => !(s.calls.any g.fns.contains))

/-- guard of one piece, evaluated in the state the pieces before it produce.  A piece the compiler
    rejects is inside the guard whatever it emitted or declared before the error and wherever the error
    surfaces, so is every accepted piece however many pieces ran before it, and so is a piece that
    calls functions loaded by earlier runs, whatever globals they read and write. -/
def pieceGuard (g : GSt) : Piece → Bool
  | .bad => true
  | .stmts l =>
    if allResolve g.syms l then
      -- G4; and the piece has a statement
      !declaresAfterFailure l && !l.isEmpty
    else true

def GSt.next (g : GSt) : Piece → GSt
  | .bad => g
  | .stmts l =>
    if allResolve g.syms l then
      let x := specExec g.syms [] 0 l
      { syms := x.syms
        ht := match leakOf l with | some k => k | none => 1
        fns := g.fns ++ fnsOf l }
    else g

def guardFrom (g : GSt) : List Piece → Bool
  | [] => true
  | p :: ps => pieceGuard g p && guardFrom (g.next p) ps

/-- the decidable guard of `C18_partial` -/
def guard (h : List Piece) : Bool := guardFrom {} h

/-- which guard a history violates when the guard's bookkeeping starts in `g0`
    (for attributing a spec violation) -/
def violatedGuardsFrom (g0 : GSt) (h : List Piece) : List String :=
  let rec go (g : GSt) : List Piece → List String
    | [] => []
    | p :: ps =>
      let here : List String :=
        match p with
        | .bad => []
        | .stmts l =>
          if allResolve g.syms l then
            (if declaresAfterFailure l then ["decl-after-failure"] else [])
          else []
      here ++ go (g.next p) ps
  go g0 h

/-- which guard a history violates (no host-supplied names) -/
def violatedGuards (h : List Piece) : List String := violatedGuardsFrom {} h

/-! ### The machine of the code BEFORE the repairs (historical)

Until the `fix:` commits for C18-rejected-piece-code-runs-later, C18-compiler-stuck-in-function and
C18-stack-slot-per-piece: `Compile` had no rollback (what a rejected piece emitted and declared before its
error stayed in the main code and ran with the next accepted piece), `compileFunc` left `Compiler.current`
inside the function's code after an error in its body (every later piece was compiled into the dead code,
reported as accepted, and never ran), and `Run` resumed on the stack the previous runs had left (one value
per piece, 1024 slots).  Kept for the checked statements `C18_fixed_*` of `Props.lean`; nothing else uses it. -/
namespace PreFix

inductive CRes where
  | ok
  | rejected (inFn : Bool)
  deriving Repr, DecidableEq, Inhabited

structure COut where
  code : List AIns
  syms : Syms
  fns  : List Nat
  res  : CRes
  deriving Repr, Inhabited

/-- compileProgram WITHOUT rollback: when a statement is rejected, everything emitted and declared before it stays -/
def compileStmts (y : Syms) : List Stmt → COut
  | [] => ⟨[], y, [], .ok⟩
  | s :: rest =>
    if s.resolves y then
      let r := compileStmts (y.add s) rest
      ⟨frag s ++ sep s rest.isEmpty ++ r.code, r.syms, s.fdefs ++ r.fns, r.res⟩
    else ⟨List.replicate s.pre (.push 0) ++ (if s.junk then [.push 0, .pop] else []), y, [], .rejected s.inFn⟩

structure Comp where
  code  : List AIns := []
  syms  : Syms := {}
  fns   : List Nat := []
  stuck : Bool := false        -- compiler.current was left inside a function's code object
  deriving Repr, Inhabited

/-- capacity of the VM's operand stack (vm.MaxStackDepth) -/
def cap : Nat := 1024

/-- vm.eval with the capacity of the operand stack: the stack persisted between runs -/
def execFrom (old : List Nat) : List AIns → List Nat → List (Nat × Bool) → XOut
  | [], stk, tr => ⟨stk, tr, true⟩
  | .eff id need calls :: rest, stk, tr =>
    if stk.length + need > cap then ⟨stk, tr, false⟩
    else execFrom old rest stk (tr ++ [(id, calls.any old.contains)])
  | .fail id leak :: _, stk, tr => ⟨List.replicate leak 0 ++ stk, tr ++ [(id, false)], false⟩
  | .push v :: rest, stk, tr =>
    if stk.length ≥ cap then ⟨stk, tr, false⟩ else execFrom old rest (v :: stk) tr
  | .pop :: rest, stk, tr => execFrom old rest stk.tail tr

structure Repl where
  comp : Comp := {}
  vm   : VM := {}
  deriving Repr, Inhabited

def Repl.feed (r : Repl) : Piece → Repl × Outcome
  | .bad => (r, .parseRejected)
  | .stmts l =>
    let o := compileStmts r.comp.syms l
    let comp : Comp :=
      { code := if r.comp.stuck then r.comp.code else r.comp.code ++ o.code
        syms := o.syms
        fns := if r.comp.stuck then r.comp.fns else r.comp.fns ++ o.fns
        stuck := r.comp.stuck || o.res == .rejected true }
    match o.res with
    | .rejected _ => ({ r with comp := comp }, .compileRejected)
    | .ok =>
      let x := execFrom r.vm.old (comp.code.drop r.vm.ip) r.vm.stack r.vm.trace
      let vm : VM := { ip := comp.code.length, stack := x.stack, trace := x.trace, old := comp.fns }
      ({ comp := comp, vm := vm }, if x.ok then .ok (x.stack.headD 0) else .failed)

def Repl.run (r : Repl) : List Piece → Repl × List Outcome
  | [] => (r, [])
  | p :: ps =>
    let (r1, o) := r.feed p
    let (r2, os) := Repl.run r1 ps
    (r2, o :: os)

end PreFix

/-! ### Host-supplied globals

The embedding program hands the compiler and the VM a set of global names before the first
piece (risor.Config: the builtins `len`, `print`, … and the default modules `math`, `strings`, …).
For the compiler they are ordinary VARIABLES of the root symbol table, defined from the start:
every piece may read them, a top-level assignment (`len = func(v) { … }`, `math = 7`) compiles
and REBINDS them, and — like every other global — the rebinding must be carried from one run to
the next (vm.reloadCode copies the previous run's Globals over the freshly loaded ones, which
loadRootCode has just filled with the host's values again).  In the model a rebinding is an
ordinary statement in the trace: nothing but the trace determines the value of a global, host
supplied or not.  `host` lists the names (numbers, like every name of the model). -/

/-- the root symbol table before the first piece: the host's names are variables, no constants -/
def hostSyms (host : List Nat) : Syms := ⟨host, []⟩

/-- the REPL machine before the first piece, with the host's names defined -/
def Repl.init (host : List Nat) : Repl := { comp := { syms := hostSyms host } }

/-- the Spec's state before the first piece, with the host's names defined -/
def SpecSt.init (host : List Nat) : SpecSt := { syms := hostSyms host }

/-- the guard's bookkeeping before the first piece, with the host's names defined -/
def GSt.init (host : List Nat) : GSt := { syms := hostSyms host }

/-- the decidable guard of `C18_partial_host`: `guard`, evaluated with the host's names defined -/
def guardHost (host : List Nat) (h : List Piece) : Bool := guardFrom (GSt.init host) h

/-! ## Layer 3: compile-only state of the ONE compiler the pieces share

While a construct is being compiled the compiler keeps state that exists for the compilation
only: `Code.pipeActive` (the stages of a pipe: calls are emitted as `Partial`), `Code.loops`
(the loop `break`/`continue` target), `Code.symbols` (the block scope), `loop.pendingSwitchValues`
and `Compiler.current` (the code object of the function being compiled).  The REPL hands every
piece to the SAME compiler, so whatever a REJECTED piece leaves set is the state the next
piece is compiled in.  A piece's compilation is abstracted to its sequence of events:
`enter m` (the compile function of a construct sets mark `m`), `leave` (it returns normally and
resets it), `emit k sens` (an instruction is emitted whose form depends on which of the marks
`sens` are set, e.g. a call is sensitive to `pipe`), `err` (a compile error: every compile
function on the Go stack returns the error; the marks whose reset is DEFERRED are restored,
the others stay). -/

inductive Mark where
  | pipe | loop | block | switchVal | fn
  deriving Repr, DecidableEq, Inhabited

/-- per compile-only field of compiler.go: is it restored on the error path (every function
    that sets it resets it in a deferred function)?  Tied to the sources by `Ties.lean`. -/
def compileOnlyRestores : List (String × Bool) :=
  [("current", true), ("loops", true), ("pendingSwitchValues", true), ("pipeActive", true), ("symbols", true)]

def Mark.field : Mark → String
  | .pipe => "pipeActive"
  | .loop => "loops"
  | .block => "symbols"
  | .switchVal => "pendingSwitchValues"
  | .fn => "current"

/-- the mark is restored when a compile error unwinds through the construct that set it -/
def Mark.restored (m : Mark) : Bool := (compileOnlyRestores.lookup m.field).getD false

inductive CEv where
  | enter (m : Mark)
  | leave
  | emit (k : Nat) (sens : List Mark)
  | err
  deriving Repr, DecidableEq, Inhabited

structure MOut where
  own  : List Mark                  -- marks this Compile call set and left set
  code : List (Nat × List Mark)     -- emitted instructions with the marks (of `sens`) they were emitted under
  ok   : Bool
  deriving Repr, DecidableEq, Inhabited

/-- one call of Compile under a table `R` saying which marks are restored on the error path:
    `inh` = marks left set by earlier calls, `own` = marks set by this call -/
def compileEvsR (R : Mark → Bool) (inh : List Mark) : List Mark → List CEv → MOut
  | own, [] => ⟨own, [], true⟩
  | own, .enter m :: rest => compileEvsR R inh (m :: own) rest
  | own, .leave :: rest => compileEvsR R inh own.tail rest
  | own, .emit k sens :: rest =>
    let r := compileEvsR R inh own rest
    ⟨r.own, (k, sens.filter (fun m => own.contains m || inh.contains m)) :: r.code, r.ok⟩
  | own, .err :: _ => ⟨own.filter (fun m => !R m), [], false⟩

/-- the pieces of a history, compiled one after the other by the same compiler -/
def marksRunR (R : Mark → Bool) (inh : List Mark) : List (List CEv) → List MOut
  | [] => []
  | evs :: rest =>
    let r := compileEvsR R inh [] evs
    r :: marksRunR R (r.own ++ inh) rest

/-- one call of Compile as the code is (`Mark.restored`, the extracted table) -/
def compileEvs (inh : List Mark) : List Mark → List CEv → MOut := compileEvsR Mark.restored inh

/-- the pieces of a history, compiled one after the other by the same compiler (Impl) -/
def marksRun (inh : List Mark) : List (List CEv) → List MOut := marksRunR Mark.restored inh

/-- HISTORICAL: the table before the repair of C18-compiler-stuck-in-function — `Compiler.current` was set
    by compileFunc and not restored on its error paths -/
def preFixRestored : Mark → Bool
  | .fn => false
  | _ => true

/-- Spec: every piece is compiled as by a compiler that has seen no rejected piece -/
def marksSpec (h : List (List CEv)) : List MOut := h.map (compileEvs [] [])

/-- `enter`/`leave` are bracketed up to the first `err` (what a recursive-descent compiler produces) -/
def balancedFrom : Nat → List CEv → Bool
  | d, [] => d == 0
  | d, .enter _ :: rest => balancedFrom (d + 1) rest
  | d, .leave :: rest => d > 0 && balancedFrom (d - 1) rest
  | d, .emit _ _ :: rest => balancedFrom d rest
  | _, .err :: _ => true

/-- when the error surfaces, every mark set by this call is one that table `R` restores on the error path
    (true of every event sequence under the table of the code as it is: `errClean_restored`) -/
def errClean (R : Mark → Bool) : List Mark → List CEv → Bool
  | _, [] => true
  | own, .enter m :: rest => errClean R (m :: own) rest
  | own, .leave :: rest => errClean R own.tail rest
  | own, .emit _ _ :: rest => errClean R own rest
  | own, .err :: _ => own.all R

/-- what every history of piece compilations satisfies: `enter`/`leave` are bracketed -/
def marksWf (h : List (List CEv)) : Bool := h.all (balancedFrom 0)

/-- HISTORICAL guard of `marks_partial` before the repair: additionally, no compile error inside a function literal -/
def preFixMarksGuard (h : List (List CEv)) : Bool := h.all (fun evs => balancedFrom 0 evs && errClean preFixRestored [] evs)

/-! ## Layer 4: generations of the globals array and the time a function is bound to one

`vm.Run` (not the first) RELOADS the main code: a fresh `Globals` slice, the previous slice copied
into it, and every loaded code object of the main code forgotten (`reloadDropsMainFunctions`).  Then
every function constant of the main code is loaded — none is loaded at that point — and shares the
slice of THIS run (`loadChildCode`) until the next reload.  So every run binds every function to
its own slice: all reads and writes of a run, by top-level code and by functions declared in any
piece, go to one array (`BCtl.next`).  Before the repair of C18-function-globals-snapshot a function
stayed loaded across reloads: the run that first saw a function constant — the run of the piece that
declares it — fixed the slice the function read and wrote for ever (`BCtl.nextSnapshot`, historical).
Globals are numbers, values integers; function bodies are assignments to globals followed by a
returned expression. -/

inductive FExpr where
  | lit (v : Int)
  | glob (g : Nat)
  | arg
  | add (a b : FExpr)
  deriving Repr, DecidableEq, Inhabited

structure FnDef where
  body : List (Nat × FExpr)
  ret  : FExpr
  deriving Repr, DecidableEq, Inhabited

inductive TExpr where
  | lit (v : Int)
  | glob (g : Nat)
  | add (a b : TExpr)
  | call (f : Nat) (a : TExpr)
  deriving Repr, DecidableEq, Inhabited

inductive TStmt where
  | set (g : Nat) (e : TExpr)      -- `g := e` / `g = e` at top level
  | defn (f : Nat) (d : FnDef)     -- `func f(p) { … }`
  | expr (e : TExpr)
  deriving Repr, DecidableEq, Inhabited

/-- generation → global → value -/
abbrev Gens := Nat → Nat → Int

def Gens.put (G : Gens) (k g : Nat) (v : Int) : Gens :=
  fun k' g' => if k' = k ∧ g' = g then v else G k' g'

def FExpr.eval (σ : Nat → Int) (a : Int) : FExpr → Int
  | .lit v => v
  | .glob g => σ g
  | .arg => a
  | .add x y => x.eval σ a + y.eval σ a

/-- a function body runs against generation `k` -/
def runBody (k : Nat) (a : Int) : List (Nat × FExpr) → Gens → Gens
  | [], G => G
  | (g, e) :: rest, G => runBody k a rest (G.put k g (e.eval (G k) a))

/-- what a run knows: the current generation, the function constants of the main code, and the
    generation each loaded function is bound to -/
structure BEnv where
  cur  : Nat
  defs : Nat → Option FnDef
  bind : Nat → Option Nat

def TExpr.eval (E : BEnv) : TExpr → Gens → Int × Gens
  | .lit v, G => (v, G)
  | .glob g, G => (G E.cur g, G)
  | .add a b, G =>
    let r1 := a.eval E G
    let r2 := b.eval E r1.2
    (r1.1 + r2.1, r2.2)
  | .call f a, G =>
    let r1 := a.eval E G
    match E.defs f, E.bind f with
    | some d, some k =>
      let G2 := runBody k r1.1 d.body r1.2
      (d.ret.eval (G2 k) r1.1, G2)
    | _, _ => (0, r1.2)

def TStmt.exec (E : BEnv) : TStmt → Gens → Option Int × Gens
  | .set g e, G => let r := e.eval E G; (none, r.2.put E.cur g r.1)
  | .defn _ _, G => (none, G)
  | .expr e, G => let r := e.eval E G; (some r.1, r.2)

/-- the statements of a piece in order; the piece's value is the value of its last statement -/
def execPiece (E : BEnv) : List TStmt → Gens → Option Int → Option Int × Gens
  | [], G, v => (v, G)
  | s :: rest, G, _ => let r := s.exec E G; execPiece E rest r.2 r.1

/-- compile time: every function declaration of the piece becomes a constant of the main code -/
def addDefs (defs : Nat → Option FnDef) : List TStmt → Nat → Option FnDef
  | [] => defs
  | .defn f d :: rest => addDefs (fun x => if x = f then some d else defs x) rest
  | _ :: rest => addDefs defs rest

/-- control state of the VM between pieces (no values) -/
structure BCtl where
  cur     : Nat := 0
  started : Bool := false
  defs    : Nat → Option FnDef := fun _ => none
  bind    : Nat → Option Nat := fun _ => none

/-- runCodeInternal up to `eval`: reload (a new generation; the loaded functions of the main code are
    forgotten) unless this is the first run, then load — bind to the current generation — every function
    constant of the main code -/
def BCtl.next (c : BCtl) (l : List TStmt) : BCtl :=
  let defs := addDefs c.defs l
  let cur := if c.started then c.cur + 1 else c.cur
  { cur := cur, started := true, defs := defs,
    bind := fun f => (defs f).map fun _ => cur }

/-- HISTORICAL (before the repair of C18-function-globals-snapshot): a loaded function stayed loaded
    across reloads, so only the function constants that were not loaded yet were bound to the current
    generation; the others kept the generation of the run that first loaded them -/
def BCtl.nextSnapshot (c : BCtl) (l : List TStmt) : BCtl :=
  let defs := addDefs c.defs l
  let cur := if c.started then c.cur + 1 else c.cur
  { cur := cur, started := true, defs := defs,
    bind := fun f => match c.bind f with
      | some k => some k
      | none => (defs f).map fun _ => cur }

def BCtl.env (c : BCtl) : BEnv := ⟨c.cur, c.defs, c.bind⟩

/-- reloadCode: the new generation starts as a copy of the previous one -/
def reloadGens (c : BCtl) (G : Gens) : Gens :=
  if c.started then fun k g => if k = c.cur + 1 then G c.cur g else G k g else G

/-- Impl: the pieces one by one; per piece its value -/
def bindRun (c : BCtl) (G : Gens) : List (List TStmt) → List (Option Int) × BCtl × Gens
  | [] => ([], c, G)
  | l :: rest =>
    let c1 := c.next l
    let r := execPiece c1.env l (reloadGens c G) none
    let rr := bindRun c1 r.2 rest
    (r.1 :: rr.1, rr.2)

/-- HISTORICAL: the pieces one by one on the pre-fix control (`BCtl.nextSnapshot`) -/
def bindRunSnapshot (c : BCtl) (G : Gens) : List (List TStmt) → List (Option Int) × BCtl × Gens
  | [] => ([], c, G)
  | l :: rest =>
    let c1 := c.nextSnapshot l
    let r := execPiece c1.env l (reloadGens c G) none
    let rr := bindRunSnapshot c1 r.2 rest
    (r.1 :: rr.1, rr.2)

/-- Spec: one globals array (generation 0) that everything reads and writes -/
def specEnv (defs : Nat → Option FnDef) : BEnv := ⟨0, defs, fun f => (defs f).map fun _ => 0⟩

def bindSpec (defs : Nat → Option FnDef) (S : Gens) : List (List TStmt) → List (Option Int) × (Nat → Option FnDef) × Gens
  | [] => ([], defs, S)
  | l :: rest =>
    let d1 := addDefs defs l
    let r := execPiece (specEnv d1) l S none
    let rr := bindSpec d1 r.2 rest
    (r.1 :: rr.1, rr.2)

/-! ### the guard: every read goes to a generation that holds the up-to-date value -/

/-- global → generation → "this generation's slot holds the global's up-to-date value" -/
abbrev Valid := Nat → Nat → Bool

def Valid.write (V : Valid) (g k : Nat) : Valid := fun g' k' => if g' = g then k' == k else V g' k'

def FExpr.reads : FExpr → List Nat
  | .lit _ => []
  | .glob g => [g]
  | .arg => []
  | .add a b => a.reads ++ b.reads

def okBody (k : Nat) : List (Nat × FExpr) → Valid → Option Valid
  | [], V => some V
  | (g, e) :: rest, V => if e.reads.all (fun x => V x k) then okBody k rest (V.write g k) else none

def TExpr.ok (E : BEnv) : TExpr → Valid → Option Valid
  | .lit _, V => some V
  | .glob g, V => if V g E.cur then some V else none
  | .add a b, V => (a.ok E V).bind (b.ok E)
  | .call f a, V => (a.ok E V).bind fun V1 =>
    match E.defs f, E.bind f with
    | some d, some k => (okBody k d.body V1).bind fun V2 => if d.ret.reads.all (fun x => V2 x k) then some V2 else none
    | some _, none => none
    | none, _ => some V1

def TStmt.ok (E : BEnv) : TStmt → Valid → Option Valid
  | .set g e, V => (e.ok E V).map fun V1 => V1.write g E.cur
  | .defn _ _, V => some V
  | .expr e, V => e.ok E V

def okPiece (E : BEnv) : List TStmt → Valid → Option Valid
  | [], V => some V
  | s :: rest, V => (s.ok E V).bind (okPiece E rest)

def reloadValid (c : BCtl) (V : Valid) : Valid :=
  if c.started then fun g k => if k = c.cur + 1 then V g c.cur else V g k else V

/-- the validity bookkeeping after a history, `none` as soon as a read hits a stale slot -/
def bindGuardFrom (c : BCtl) (V : Valid) : List (List TStmt) → Option (BCtl × Valid)
  | [] => some (c, V)
  | l :: rest =>
    match okPiece (c.next l).env l (reloadValid c V) with
    | some V1 => bindGuardFrom (c.next l) V1 rest
    | none => none

/-- the decidable guard of `binding_partial` (since the repair it holds for EVERY history:
    `bindGuard_always`) -/
def bindGuard (h : List (List TStmt)) : Bool := (bindGuardFrom {} (fun _ _ => true) h).isSome

/-- HISTORICAL: the same bookkeeping over the pre-fix control -/
def bindGuardSnapshotFrom (c : BCtl) (V : Valid) : List (List TStmt) → Option (BCtl × Valid)
  | [] => some (c, V)
  | l :: rest =>
    match okPiece (c.nextSnapshot l).env l (reloadValid c V) with
    | some V1 => bindGuardSnapshotFrom (c.nextSnapshot l) V1 rest
    | none => none

/-! ## Layer 5: the context of each piece and the VM's halt flag

`vm.start` clears the halt flag and, when the context can be cancelled, starts a watcher that
sets it when the context is done; `eval` looks at the flag before every instruction and returns
`ctx.Err()` when it is set.  A piece whose run is ended by its context is a piece that fails at
run time (its last statement is one that only the context can end); what the model adds is the
FLAG that run leaves behind and the context of every later piece. -/

inductive Ctx where
  | background       -- context.Background(): Done() == nil, can never be cancelled
  | cancellable      -- can be cancelled, is not done while the history runs
  | done             -- is done before the piece's run ends (already cancelled, cancelled meanwhile, deadline)
  deriving Repr, DecidableEq, Inhabited

/-- `start` clears the halt flag unconditionally (not only when the context has a Done channel).
    Tied to vm/vm.go by `Ties.lean`. -/
def haltClearedForEveryContext : Bool := true

def startClearsHalt (c : Ctx) : Bool := haltClearedForEveryContext || c != .background

structure HRepl where
  r    : Repl := {}
  halt : Bool := false
  deriving Repr, Inhabited

/-- one call of the evaluator with the piece's own context -/
def HRepl.feed (h : HRepl) (c : Ctx) (p : Piece) : HRepl × Outcome :=
  let halt0 := if startClearsHalt c then false else h.halt
  let (r1, o) := h.r.feed p
  if halt0 then
    -- eval returns ctx.Err() before the first instruction: the piece is compiled, the stack is emptied, nothing runs
    match o with
    | .parseRejected => ({ h with r := r1 }, o)
    | .compileRejected => ({ h with r := r1 }, o)
    | _ => ({ r := { comp := r1.comp, vm := { h.r.vm with stack := [] } }, halt := true }, .ok 0)
  else
    match o with
    | .parseRejected => ({ r := r1, halt := h.halt }, o)
    | .compileRejected => ({ r := r1, halt := h.halt }, o)
    | _ => ({ r := r1, halt := c == .done }, o)

def HRepl.run (h : HRepl) : List (Ctx × Piece) → HRepl × List Outcome
  | [] => (h, [])
  | (c, p) :: ps =>
    let (h1, o) := h.feed c p
    let (h2, os) := HRepl.run h1 ps
    (h2, o :: os)

/-! ## Layer 6: the import cache of the ONE VM the pieces share

`vm.importModule` looks the name up in `vm.modules` first; only on a miss does it ask the importer,
run the module's top-level code (which may import further modules) and enter the module into the
cache.  `Run` — the incremental path — never touches `vm.modules` (only `resetForNewCode`, reached
with `resetState = true` from `RunCode`, replaces it), so within one session a module body runs at
most once, however many pieces import it and under whatever spelling (`import m`, `import m as a`,
`from m import f`).  Modules are numbers; module `m + 1`'s body may import module `m`
(`ModCfg.dep`); a module's state is one integer, initialised by its body; `log` records every
execution of a module body (the module's top-level side effect, its "tick").  Handles are the
main code's globals that an import binds (the module name, an alias, the names of a from-import). -/

structure ModCfg where
  init : Nat → Int          -- the value the module body gives the module's state
  dep  : Nat → Bool         -- module `m + 1`'s body imports module `m` (before initialising its own state)

inductive IStmt where
  | imp (h m : Nat)              -- `import m` / `import m as h` / `from m import …`: bind handle `h` to module `m`
  | bump (h : Nat) (d : Int)     -- expression `h.bump(d)`: add `d` to the module's state, yield the new state
  | get (hs : List Nat)          -- expression `[h₁.get(), h₂.state, …]`: the state seen through each handle
  | below (h : Nat)              -- expression `h.below()`: the state of the module that `h`'s module imported
  | keep (j h : Nat)             -- `vⱼ = h.get()`: copy the state seen through `h` into the integer global `j`

structure ISt where
  cache : List Nat := []                      -- vm.modules
  log   : List Nat := []                      -- module bodies executed, in order
  st    : Nat → Int := fun _ => 0             -- module-level state
  alias : Nat → Option Nat := fun _ => none   -- handle → module
  vars  : Nat → Int := fun _ => 0             -- integer globals of the main code
  vals  : List (List Int) := []               -- values of the expression statements, in order

/-- vm.importModule: a cache hit does nothing; a miss runs the body (tick, nested import, state
    initialisation) and then enters the module into the cache -/
def loadMod (cfg : ModCfg) : Nat → ISt → ISt
  | 0, s =>
    if s.cache.contains 0 then s
    else { s with log := s.log ++ [0], st := fun k => if k = 0 then cfg.init 0 else s.st k, cache := 0 :: s.cache }
  | m + 1, s =>
    if s.cache.contains (m + 1) then s
    else
      let s1 : ISt := { s with log := s.log ++ [m + 1] }
      let s2 := if cfg.dep (m + 1) then loadMod cfg m s1 else s1
      { s2 with st := fun k => if k = m + 1 then cfg.init (m + 1) else s2.st k, cache := (m + 1) :: s2.cache }

def ISt.seen (s : ISt) (h : Nat) : Int :=
  match s.alias h with
  | some m => s.st m
  | none => 0

def IStmt.exec (cfg : ModCfg) : IStmt → ISt → ISt
  | .imp h m, s =>
    let s1 := loadMod cfg m s
    { s1 with alias := fun k => if k = h then some m else s1.alias k }
  | .bump h d, s =>
    match s.alias h with
    | some m => { s with st := fun k => if k = m then s.st m + d else s.st k, vals := s.vals ++ [[s.st m + d]] }
    | none => { s with vals := s.vals ++ [[0]] }
  | .get hs, s => { s with vals := s.vals ++ [hs.map s.seen] }
  | .below h, s =>
    match s.alias h with
    | some (m + 1) => { s with vals := s.vals ++ [[s.st m]] }
    | _ => { s with vals := s.vals ++ [[0]] }
  | .keep j h, s => { s with vars := fun k => if k = j then s.seen h else s.vars k }

def execI (cfg : ModCfg) (l : List IStmt) (s : ISt) : ISt := l.foldl (fun s t => t.exec cfg s) s

/-- does the incremental path (`Run`) replace the import cache when a run starts?  As the code is:
    no.  Tied to vm/vm.go by `Ties.lean` (`importCacheKept_tie`). -/
def importCacheResetEveryRun : Bool := false

/-- the functions of vm/vm.go that replace or clear `vm.modules` -/
def importCacheReplacedBy : List String := ["resetForNewCode"]

/-- the start of a run: `seed` = the modules the host supplied as globals (always importable by name) -/
def startRun (reset : Bool) (seed : List Nat) (s : ISt) : ISt := if reset then { s with cache := seed } else s

/-- a session: the pieces one after the other on the same VM -/
def impRun (reset : Bool) (cfg : ModCfg) (seed : List Nat) : ISt → List (List IStmt) → ISt
  | s, [] => s
  | s, l :: rest => impRun reset cfg seed (execI cfg l (startRun reset seed s)) rest

/-- Impl: the session as the code runs it -/
def impImpl (cfg : ModCfg) (seed : List Nat) (s : ISt) (h : List (List IStmt)) : ISt :=
  impRun importCacheResetEveryRun cfg seed s h

/-- Spec: the concatenated program, evaluated at once -/
def impWhole (cfg : ModCfg) (s : ISt) (h : List (List IStmt)) : ISt := execI cfg h.flatten s

/-- the state a session starts in: the host's modules are in the cache, nothing has run -/
def ISt.start (seed : List Nat) : ISt := { cache := seed }

/-! ## Layer 7: the globals array is indexed by SLOT; names may repeat

Every `:=` (and every loop variable) of the main code claims the next index of the ROOT symbol
table, also when it sits in a top-level block (`SymbolTable.claimIndex` of a block delegates to its
parent): the block variable of `x := 1; if c { x := 2 }` is a second global slot that is also
called `x`.  Compiled code addresses globals by index only.  `reloadCode` gives the longer main
code a fresh array and copies the old array into it position by position (`copy`).  The model:
`names` is the root table (slot `i` is called `names[i]`), a piece adds `decls` slots and runs
straight-line slot statements (the harness resolves names to slots and unrolls its constant
loops; the real table is compared with `names` through `vm.GlobalNames`). -/

inductive SExpr where
  | lit (v : Int)
  | slot (i : Nat)
  | add (a b : SExpr)
  deriving Repr, DecidableEq, Inhabited

inductive SStmt where
  | set (i : Nat) (e : SExpr)
  | expr (e : SExpr)
  deriving Repr, DecidableEq, Inhabited

structure SPiece where
  decls : List Nat          -- names of the slots this piece's compilation adds to the root table
  stmts : List SStmt
  deriving Repr, DecidableEq, Inhabited

/-- the Globals array: `none` = never stored -/
abbrev Slots := List (Option Int)

def SExpr.eval (a : Slots) : SExpr → Int
  | .lit v => v
  | .slot i => (a.getD i none).getD 0
  | .add x y => x.eval a + y.eval a

/-- state of a run: the array and the values of the expression statements so far -/
abbrev SSt := Slots × List Int

def SStmt.exec : SStmt → SSt → SSt
  | .set i e, (a, vs) => (a.set i (some (e.eval a)), vs)
  | .expr e, (a, vs) => (a, vs ++ [e.eval a])

def execS (l : List SStmt) (s : SSt) : SSt := l.foldl (fun s t => t.exec s) s

/-- Go's `copy(dst, src)` on slices -/
def copyInto (dst src : Slots) : Slots := src.take dst.length ++ dst.drop src.length

/-- reloadCode as it is: a fresh array for the (longer) table, the old array copied in by position.
    The names of the table play no role: only its length is used. -/
def reloadBySlot (names : List Nat) (old : Slots) : Slots := copyInto (List.replicate names.length none) old

/-- the value a by-name carry-over finds for `nm`: the LAST stored slot of the old array called `nm` -/
def lastNamed (names : List Nat) (old : Slots) (nm : Nat) : Option Int :=
  (names.zip old).reverse.findSome? fun p => if p.1 = nm then p.2 else none

/-- CONTRAST (not the code): carry the values over by NAME — a map name → value built from the old
    array in slot order, then every slot of the new array whose name is in the map takes that value -/
def reloadByName (names : List Nat) (old : Slots) : Slots := names.map (lastNamed names old)

/-- a session over a reload function: per piece, the compiler extends the table, the run reloads
    (the first load is a reload from the empty array) and executes the piece's statements -/
def slotRun (reload : List Nat → Slots → Slots) : List Nat → SSt → List SPiece → List Nat × SSt
  | names, s, [] => (names, s)
  | names, (a, vs), p :: rest =>
    slotRun reload (names ++ p.decls) (execS p.stmts (reload (names ++ p.decls) a, vs)) rest

def allDecls (h : List SPiece) : List Nat := (h.map (·.decls)).flatten
def allStmts (h : List SPiece) : List SStmt := (h.map (·.stmts)).flatten

/-- Spec: the concatenated program on ONE array that has every slot from the start -/
def slotWhole (names : List Nat) (a : Slots) (vs : List Int) (h : List SPiece) : SSt :=
  execS (allStmts h) (a ++ List.replicate ((names ++ allDecls h).length - a.length) none, vs)

def SExpr.scoped (n : Nat) : SExpr → Bool
  | .lit _ => true
  | .slot i => i < n
  | .add x y => x.scoped n && y.scoped n

def SStmt.scoped (n : Nat) : SStmt → Bool
  | .set i e => i < n && e.scoped n
  | .expr e => e.scoped n

/-- what every compiler output satisfies: a piece's code addresses only slots of the table as it
    is after that piece's compilation -/
def scopedFrom : Nat → List SPiece → Bool
  | _, [] => true
  | n, p :: rest => p.stmts.all (·.scoped (n + p.decls.length)) && scopedFrom (n + p.decls.length) rest

/-- vm.Get: the FIRST slot with that name -/
def getByName (names : List Nat) (a : Slots) (nm : Nat) : Option Int :=
  match names.idxOf? nm with
  | some i => a.getD i none
  | none => none

end Risor.C18
