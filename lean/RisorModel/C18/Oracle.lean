import RisorModel.Util
import RisorModel.C04.Model
import RisorModel.C18.Model
import RisorModel.C18.Tables
import RisorModel.C18.Decls
/-! Line-protocol front end of the C18 model.

`hist <history>` → `ok <impl outcomes> <impl registers> <impl trace> <spec outcomes> <spec trace> <violated guards> <guard 0/1>`
  history  := piece ("|" piece)*            piece := "X" (parse error) | stmt (";" stmt)*
  stmt     := id:flags:need:leak:pre:uses:asg:vdecl:cdecl:fdefs:calls
  flags    := subset of "elfnj" (isExpr, leaves, fails, inFn, junk) or "-";  lists := n.n.n or "-"
              (need, pre, inFn, junk describe the piece for the historical `PreFix` machine; the Impl machine does not read them)
  outcomes := per piece `ok:<value id>` | `parse` | `compile` | `fail`
  registers:= per piece `<stack height>:<ip at end of code 1/0>:<code grew 1/0>:0` (the last field was "compiler stuck"
              before the repair of C18-compiler-stuck-in-function; kept so that the wire format is unchanged)
  trace    := per piece the statements executed by that piece's run, `id` or `id~` (stale globals view)
`histh <host names> <history>` → the same answer with the listed names (n.n.n or "-") defined as
  host-supplied variables before the first piece (`Repl.init`, `SpecSt.init`, `guardHost`)
`imp …` (layer 6: import cache), `slots …` (layer 7: slot-indexed globals) and `tabs …` (layer 8: constants and root symbol
  table under rollback): see the sections below.
`frag <instruction text>` → `accept <max height>` | `reject <why>`: the real fragment a piece added to
  the main code is position-independent (all jumps stay inside it), starts on an empty frame-relative
  stack, never reads below it and ends with exactly one value — C04's verified checker. -/
namespace Risor.C18

def parseList (s : String) : Option (List Nat) :=
  if s == "-" then some [] else (s.splitOn ".").mapM String.toNat?

def parseStmt (t : String) : Option Stmt :=
  match t.splitOn ":" with
  | [id, fl, need, leak, pre, uses, asg, vd, cd, fd, calls] => do
    let id ← id.toNat?
    let need ← need.toNat?
    let leak ← leak.toNat?
    let pre ← pre.toNat?
    let uses ← parseList uses
    let asg ← parseList asg
    let vd ← parseList vd
    let cd ← parseList cd
    let fd ← parseList fd
    let calls ← parseList calls
    let has (c : Char) : Bool := fl.toList.contains c
    pure { id := id, isExpr := has 'e', leaves := has 'l', fails := has 'f', inFn := has 'n', junk := has 'j',
           need := need, leak := leak, pre := pre, uses := uses, asg := asg, vdecl := vd, cdecl := cd,
           fdefs := fd, calls := calls }
  | _ => none

def parsePiece (t : String) : Option Piece :=
  if t == "X" then some .bad else (t.splitOn ";").mapM parseStmt |>.map .stmts

def parseHist (t : String) : Option (List Piece) := (t.splitOn "|").mapM parsePiece

def showOutcome : Outcome → String
  | .ok v => "ok:" ++ toString v
  | .parseRejected => "parse"
  | .compileRejected => "compile"
  | .failed => "fail"

def showTrace (l : List (Nat × Bool)) : String :=
  if l.isEmpty then "-" else ".".intercalate (l.map fun (i, st) => toString i ++ (if st then "~" else ""))

def b01 (b : Bool) : String := if b then "1" else "0"

/-- feed the pieces one by one, recording registers and the trace delta of each -/
def implLog : Repl → List Piece → List (String × String × String)
  | _, [] => []
  | r, p :: ps =>
    let (r1, o) := r.feed p
    let reg := toString r1.vm.stack.length ++ ":" ++ b01 (r1.vm.ip == r1.comp.code.length) ++ ":" ++
      b01 (r1.comp.code.length > r.comp.code.length) ++ ":0"
    (showOutcome o, reg, showTrace (r1.vm.trace.drop r.vm.trace.length)) :: implLog r1 ps

def specLog : SpecSt → List Piece → List (String × String)
  | _, [] => []
  | s, p :: ps =>
    let (s1, o) := s.feed p
    (showOutcome o, showTrace (s1.trace.drop s.trace.length)) :: specLog s1 ps

def bar (l : List String) : String := if l.isEmpty then "-" else "|".intercalate l

/-- the answer to a history request; `host` = the host-supplied global names the history mentions -/
def answerHist (host : List Nat) (ps : List Piece) : String :=
  let il := implLog (Repl.init host) ps
  let sl := specLog (SpecSt.init host) ps
  let gs := violatedGuardsFrom (GSt.init host) ps
  "\t".intercalate ["ok", bar (il.map (·.1)), bar (il.map (·.2.1)), bar (il.map (·.2.2)),
    bar (sl.map (·.1)), bar (sl.map (·.2)), (if gs.isEmpty then "-" else ",".intercalate gs),
    b01 (guardHost host ps)]


/-! ### layer 3: `marks <history>`
  history := piece ("|" piece)*   piece := "-" | ev ("," ev)*
  ev := "+" m (enter) | "<" (leave) | "e" k ":" letters-or-"-" (emit) | "!" (err);  m := p l b s f
  answer: `ok <impl> <spec> <bracketed 0/1>`, per piece `a|r : marks left set (letters or -) : code`, code := k or k~letters, "." separated -/

def markOf : Char → Option Mark
  | 'p' => some .pipe | 'l' => some .loop | 'b' => some .block | 's' => some .switchVal | 'f' => some .fn | _ => none

def markCh : Mark → Char
  | .pipe => 'p' | .loop => 'l' | .block => 'b' | .switchVal => 's' | .fn => 'f'

def showMarks (l : List Mark) : String := if l.isEmpty then "-" else String.ofList (l.map markCh)

def parseEv (t : String) : Option CEv :=
  match t.toList with
  | ['+', c] => (markOf c).map .enter
  | ['<'] => some .leave
  | ['!'] => some .err
  | 'e' :: rest =>
    match (String.ofList rest).splitOn ":" with
    | [k, ms] => do
      let k ← k.toNat?
      let ms ← if ms == "-" then some [] else ms.toList.mapM markOf
      pure (.emit k ms)
    | _ => none
  | _ => none

def parseEvs (t : String) : Option (List CEv) := if t == "-" then some [] else (t.splitOn ",").mapM parseEv

def showMOut (inh : List Mark) (r : MOut) : String :=
  (if r.ok then "a" else "r") ++ ":" ++ showMarks (r.own ++ inh) ++ ":" ++
    (if r.code.isEmpty then "-" else ".".intercalate (r.code.map fun (k, u) => toString k ++ (if u.isEmpty then "" else "~" ++ showMarks u)))

def marksLog (inh : List Mark) : List (List CEv) → List String
  | [] => []
  | evs :: rest =>
    let r := compileEvs inh [] evs
    showMOut inh r :: marksLog (r.own ++ inh) rest

/-! ### layer 4: `bind <number of globals> <history>`
  history := piece ("|" piece)*   piece := stmt (";" stmt)*
  stmt := "s" g "=" texpr | "d" f "=" body "@" fexpr | "x" texpr     body := "-" | g ":" fexpr ("&" g ":" fexpr)*
  texpr/fexpr := prefix token lists, "," separated: L<int> G<n> A + C<f>
  answer: `ok <impl values> <impl globals> <spec values> <spec globals> <valid> <first piece outside the guard or ->`,
  per piece ("|"): value `n` or an integer; globals/valid "." separated, valid = 1/0 per global of the current generation ("?" once outside the guard) -/

def tl1 (t : String) : String := String.ofList (t.toList.drop 1)

def parseIntTok (t : String) : Option Int :=
  if t.startsWith "-" then (tl1 t).toNat?.map (fun n => - (Int.ofNat n)) else t.toNat?.map Int.ofNat

def parseFTok : Nat → List String → Option (FExpr × List String)
  | 0, _ => none
  | fuel + 1, t :: rest =>
    if t == "A" then some (.arg, rest)
    else if t == "+" then do
      let (a, r1) ← parseFTok fuel rest
      let (b, r2) ← parseFTok fuel r1
      pure (.add a b, r2)
    else if t.startsWith "L" then (parseIntTok (tl1 t)).map fun v => (.lit v, rest)
    else if t.startsWith "G" then (tl1 t).toNat?.map fun g => (.glob g, rest)
    else none
  | _, [] => none

def parseTTok : Nat → List String → Option (TExpr × List String)
  | 0, _ => none
  | fuel + 1, t :: rest =>
    if t == "+" then do
      let (a, r1) ← parseTTok fuel rest
      let (b, r2) ← parseTTok fuel r1
      pure (.add a b, r2)
    else if t.startsWith "L" then (parseIntTok (tl1 t)).map fun v => (.lit v, rest)
    else if t.startsWith "G" then (tl1 t).toNat?.map fun g => (.glob g, rest)
    else if t.startsWith "C" then do
      let f ← (tl1 t).toNat?
      let (a, r1) ← parseTTok fuel rest
      pure (.call f a, r1)
    else none
  | _, [] => none

def parseF (t : String) : Option FExpr :=
  let toks := t.splitOn ","
  match parseFTok (toks.length + 1) toks with
  | some (e, []) => some e
  | _ => none

def parseT (t : String) : Option TExpr :=
  let toks := t.splitOn ","
  match parseTTok (toks.length + 1) toks with
  | some (e, []) => some e
  | _ => none

def parseBody (t : String) : Option (List (Nat × FExpr)) :=
  if t == "-" then some [] else (t.splitOn "&").mapM fun a =>
    match a.splitOn ":" with
    | [g, e] => do pure ((← g.toNat?), (← parseF e))
    | _ => none

def parseTStmt (t : String) : Option TStmt :=
  if t.startsWith "x" then (parseT (tl1 t)).map .expr
  else match (tl1 t).splitOn "=" with
    | [a, b] =>
      if t.startsWith "s" then do pure (.set (← a.toNat?) (← parseT b))
      else if t.startsWith "d" then
        match b.splitOn "@" with
        | [body, ret] => do pure (.defn (← a.toNat?) ⟨(← parseBody body), (← parseF ret)⟩)
        | _ => none
      else none
    | _ => none

def parseBindHist (t : String) : Option (List (List TStmt)) :=
  (t.splitOn "|").mapM fun p => (p.splitOn ";").mapM parseTStmt

def showVal : Option Int → String
  | none => "n"
  | some v => toString v

def dots (l : List String) : String := if l.isEmpty then "-" else ".".intercalate l

/-- Impl, piece by piece: value, the current generation's globals, and the guard's bookkeeping -/
def bindLog (ng : Nat) : BCtl → Gens → Option Valid → List (List TStmt) → List (String × String × String)
  | _, _, _, [] => []
  | c, G, V, l :: rest =>
    let c1 := c.next l
    let r := execPiece c1.env l (reloadGens c G) none
    let V1 := V.bind fun v => okPiece c1.env l (reloadValid c v)
    let snap := dots ((List.range ng).map fun g => toString (r.2 c1.cur g))
    let vs := match V1 with
      | some v => dots ((List.range ng).map fun g => b01 (v g c1.cur))
      | none => "?"
    (showVal r.1, snap, vs) :: bindLog ng c1 r.2 V1 rest

def bindSpecLog (ng : Nat) : (Nat → Option FnDef) → Gens → List (List TStmt) → List (String × String)
  | _, _, [] => []
  | defs, S, l :: rest =>
    let d1 := addDefs defs l
    let r := execPiece (specEnv d1) l S none
    (showVal r.1, dots ((List.range ng).map fun g => toString (r.2 0 g))) :: bindSpecLog ng d1 r.2 rest

/-! ### layer 5: `histc <host names> <contexts> <history>`: `histh` with one context letter per piece
  (b background, c cancellable, d done before the run ends); the answer of `histh` computed on the machine
  with the halt flag, plus the flag after every piece -/

def ctxOf : Char → Option Ctx
  | 'b' => some .background | 'c' => some .cancellable | 'd' => some .done | _ => none

def implLogC : HRepl → List (Ctx × Piece) → List (String × String × String × String)
  | _, [] => []
  | h, (c, p) :: ps =>
    let (h1, o) := h.feed c p
    let r := h.r
    let r1 := h1.r
    let reg := toString r1.vm.stack.length ++ ":" ++ b01 (r1.vm.ip == r1.comp.code.length) ++ ":" ++
      b01 (r1.comp.code.length > r.comp.code.length) ++ ":0"
    (showOutcome o, reg, showTrace (r1.vm.trace.drop r.vm.trace.length), b01 h1.halt) :: implLogC h1 ps

def answerHistC (host : List Nat) (cs : List Ctx) (ps : List Piece) : String :=
  let il := implLogC { r := Repl.init host } (cs.zip ps)
  let sl := specLog (SpecSt.init host) ps
  let gs := violatedGuardsFrom (GSt.init host) ps
  "\t".intercalate ["ok", bar (il.map (·.1)), bar (il.map (·.2.1)), bar (il.map (·.2.2.1)),
    bar (sl.map (·.1)), bar (sl.map (·.2)), (if gs.isEmpty then "-" else ",".intercalate gs),
    b01 (guardHost host ps), String.join (il.map (·.2.2.2))]

/-! ### layer 6: `imp <inits> <deps> <seed> <nvars> <history>`
  inits := one integer per module, "." separated (module numbers 0 … n-1)   deps := one 0/1 per module (module m imports m-1)
  seed  := host-supplied modules n.n or "-"                                  history := piece ("|" piece)*, piece := "-" | stmt (";" stmt)*
  stmt  := "i" h "." m | "b" h "." d | "g" h ("." h)* | "w" h | "k" j "." h
  answer: `ok <impl> <spec> <contrast>`, each one snapshot per piece ("|"): log "/" cache size "/" values of the piece's expression
  statements ("," between statements, "." inside) "/" module states "/" integer globals; spec = the concatenated program up to the end of
  that piece; contrast = an import cache that every run starts afresh -/

def parseIntList (s : String) : Option (List Int) :=
  if s == "-" then some [] else (s.splitOn ".").mapM parseIntTok

def parseIStmt (t : String) : Option IStmt :=
  let args := (tl1 t).splitOn "."
  if t.startsWith "i" then
    match args with
    | [h, m] => do pure (.imp (← h.toNat?) (← m.toNat?))
    | _ => none
  else if t.startsWith "b" then
    match args with
    | [h, d] => do pure (.bump (← h.toNat?) (← parseIntTok d))
    | _ => none
  else if t.startsWith "g" then (args.mapM String.toNat?).map .get
  else if t.startsWith "w" then (tl1 t).toNat?.map .below
  else if t.startsWith "k" then
    match args with
    | [j, h] => do pure (.keep (← j.toNat?) (← h.toNat?))
    | _ => none
  else none

def parseImpHist (t : String) : Option (List (List IStmt)) :=
  (t.splitOn "|").mapM fun p => if p == "-" then some [] else (p.splitOn ";").mapM parseIStmt

def showInts (l : List Int) : String := dots (l.map toString)

def impSnap (nm nv : Nat) (before s : ISt) : String :=
  "/".intercalate [dots (s.log.map toString), toString s.cache.length,
    (let vs := s.vals.drop before.vals.length; if vs.isEmpty then "-" else ",".intercalate (vs.map showInts)),
    showInts ((List.range nm).map s.st), showInts ((List.range nv).map s.vars)]

def impLog (reset : Bool) (cfg : ModCfg) (seed : List Nat) (nm nv : Nat) : ISt → List (List IStmt) → List String
  | _, [] => []
  | s, l :: rest =>
    let s1 := execI cfg l (startRun reset seed s)
    impSnap nm nv s s1 :: impLog reset cfg seed nm nv s1 rest

/-- Spec: the concatenated program; the snapshot after the statements of each piece -/
def impSpecLog (cfg : ModCfg) (nm nv : Nat) : ISt → List (List IStmt) → List String
  | _, [] => []
  | s, l :: rest =>
    let s1 := execI cfg l s
    impSnap nm nv s s1 :: impSpecLog cfg nm nv s1 rest

/-! ### layer 7: `slots <names> <values> <history>`
  names := the table before the first piece, n.n or "-"   values := its array, one entry per slot (an integer or "n"), "." separated, or "-"
  history := piece ("|" piece)*   piece := decls "@" stmts   decls := n.n or "-"   stmts := "-" | stmt (";" stmt)*
  stmt := "s" i "=" expr | "x" expr      expr := prefix tokens, "," separated: L<int> S<i> +
  answer: `ok <impl> <spec> <by-name contrast> <final table> <scoped 0/1>`; per piece ("|") array "/" values of the piece's expression
  statements; array entries "." separated, "n" = never stored; spec = the concatenated program on the full-size array -/

def parseSTok : Nat → List String → Option (SExpr × List String)
  | 0, _ => none
  | fuel + 1, t :: rest =>
    if t == "+" then do
      let (a, r1) ← parseSTok fuel rest
      let (b, r2) ← parseSTok fuel r1
      pure (.add a b, r2)
    else if t.startsWith "L" then (parseIntTok (tl1 t)).map fun v => (.lit v, rest)
    else if t.startsWith "S" then (tl1 t).toNat?.map fun i => (.slot i, rest)
    else none
  | _, [] => none

def parseS (t : String) : Option SExpr :=
  let toks := t.splitOn ","
  match parseSTok (toks.length + 1) toks with
  | some (e, []) => some e
  | _ => none

def parseSStmt (t : String) : Option SStmt :=
  if t.startsWith "x" then (parseS (tl1 t)).map .expr
  else if t.startsWith "s" then
    match (tl1 t).splitOn "=" with
    | [i, e] => do pure (.set (← i.toNat?) (← parseS e))
    | _ => none
  else none

def parseSPiece (t : String) : Option SPiece :=
  match t.splitOn "@" with
  | [d, ss] => do
    let decls ← parseList d
    let stmts ← if ss == "-" then some [] else (ss.splitOn ";").mapM parseSStmt
    pure ⟨decls, stmts⟩
  | _ => none

def parseSlotVals (t : String) : Option Slots :=
  if t == "-" then some [] else (t.splitOn ".").mapM fun x => if x == "n" then some none else (parseIntTok x).map some

def showSlots (a : Slots) : String :=
  dots (a.map fun v => match v with | some x => toString x | none => "n")

def slotSnap (vs0 : List Int) (s : SSt) : String := showSlots s.1 ++ "/" ++ showInts (s.2.drop vs0.length)

def slotLog (reload : List Nat → Slots → Slots) : List Nat → SSt → List SPiece → List String
  | _, _, [] => []
  | names, (a, vs), p :: rest =>
    let s1 := execS p.stmts (reload (names ++ p.decls) a, vs)
    slotSnap vs s1 :: slotLog reload (names ++ p.decls) s1 rest

def slotSpecLog : SSt → List SPiece → List String
  | _, [] => []
  | (a, vs), p :: rest =>
    let s1 := execS p.stmts (a, vs)
    slotSnap vs s1 :: slotSpecLog s1 rest


/-! ### layer 8: `tabs <history>`
  history := piece ("|" piece)*   piece := top ("/" top)*   top := line (";" line)*   line := ["~"] stmt   ("~": compiled, not executed)
  stmt := "D" n "=" expr (top-level `n := e`) | "B" n "=" expr (block variable) | "S" n "=" expr (`n = e` through the root table) |
          "T" j "=" expr (`n = e`, block variable j) | "x" expr | "!" (rejected for another reason)
  expr := prefix tokens, "," separated: L<int> R<name> K<block variable> +
  answer: `ok <impl> <spec> <unguarded contrast> <whole>`; impl/spec/contrast per piece ("|"): `a`/`r` ":" root symbols ":" constants ":"
  Globals array (one entry per symbol, "n" = never stored) ":" values of the piece's expression statements (lists "." separated, "-" = empty);
  whole = the accepted pieces concatenated, compiled and run at once: `a`/`r` ":" symbols ":" constants ":" array ":" all values -/

def parseKTok : Nat → List String → Option (KExpr × List String)
  | 0, _ => none
  | fuel + 1, t :: rest =>
    if t == "+" then do
      let (a, r1) ← parseKTok fuel rest
      let (b, r2) ← parseKTok fuel r1
      pure (.add a b, r2)
    else if t.startsWith "L" then (parseIntTok (tl1 t)).map fun v => (.lit v, rest)
    else if t.startsWith "R" then (tl1 t).toNat?.map fun n => (.root n, rest)
    else if t.startsWith "K" then (tl1 t).toNat?.map fun j => (.blk j, rest)
    else none
  | _, [] => none

def parseK (t : String) : Option KExpr :=
  let toks := t.splitOn ","
  match parseKTok (toks.length + 1) toks with
  | some (e, []) => some e
  | _ => none

def parseKStmt (t : String) : Option KStmt :=
  if t == "!" then some .bad
  else if t.startsWith "x" then (parseK (tl1 t)).map .expr
  else match (tl1 t).splitOn "=" with
    | [a, b] => do
      let n ← a.toNat?
      let e ← parseK b
      if t.startsWith "D" then pure (.declRoot n e)
      else if t.startsWith "B" then pure (.declBlk n e)
      else if t.startsWith "S" then pure (.setRoot n e)
      else if t.startsWith "T" then pure (.setBlk n e)
      else none
    | _ => none

def parseKLine (t : String) : Option KLine :=
  if t.startsWith "~" then (parseKStmt (tl1 t)).map fun s => ⟨s, false⟩ else (parseKStmt t).map fun s => ⟨s, true⟩

def parseKPiece (t : String) : Option KPiece := (t.splitOn "/").mapM fun top => (top.splitOn ";").mapM parseKLine

def tabSnap (ok : Bool) (T : Tab) (r : KRun) (nvals : Nat) : String :=
  ":".intercalate [(if ok then "a" else "r"), dots (T.syms.map toString), showInts T.consts,
    dots ((List.range T.syms.length).map fun i => match r.1 i with | some x => toString x | none => "n"),
    showInts (r.2.drop nvals)]

def tabLog (feed : KSess → KPiece → KSess) : KSess → List KPiece → List String
  | _, [] => []
  | s, p :: rest =>
    let s1 := feed s p
    tabSnap (s1.acc.getLastD false) s1.tab s1.run s.run.2.length :: tabLog feed s1 rest

/-! ### layer 9: `decl <host names> <probe names> <history>`
  history := piece ("|" piece)*   piece := stmt (";" stmt)*
  stmt := "v" n "=" int (`n := v`) | "c" n "=" int (`const n = v`) | "f" n "=" int ":" refs (`func n() { … return v }`, refs "." separated or "-") |
          "s" n "=" int (`n = v`) | "u" n (`try(n)`)
  answer: `ok <impl> <spec>`; per piece ("|"): `a`/`r` ":" per probe name ("." separated) "-" (not in the table) or `c`/`v` followed by
  "n" (never stored) | "i" int | "f" int ":" all values of expression statements so far ("." separated, "n" = nil, "-" = none) -/

def parseDStmt (t : String) : Option DStmt :=
  if t.startsWith "u" then (tl1 t).toNat?.map .use
  else match (tl1 t).splitOn "=" with
    | [a, b] => do
      let n ← a.toNat?
      if t.startsWith "f" then
        match b.splitOn ":" with
        | [v, rs] => do pure (.fn n (← parseIntTok v) (← parseList rs))
        | _ => none
      else
        let v ← parseIntTok b
        if t.startsWith "v" then pure (.var n v)
        else if t.startsWith "c" then pure (.const n v)
        else if t.startsWith "s" then pure (.set n v)
        else none
    | _ => none

def declSnap (probes : List Nat) (s : DSess) : String :=
  let one (n : Nat) : String :=
    match s.env n with
    | none => "-"
    | some c => (if c then "c" else "v") ++
      (match s.run.1 n with
       | none => "n"
       | some (.int v) => "i" ++ toString v
       | some (.fn v) => "f" ++ toString v)
  let val (v : Option Int) : String := match v with | none => "n" | some x => toString x
  ":".intercalate [if s.acc.getLast? == some true then "a" else "r", dots (probes.map one), dots (s.run.2.map val)]

def declLogImpl (probes : List Nat) : DSess → List DPiece → List String
  | _, [] => []
  | s, p :: rest => let s1 := dFeed firstPassRuns s p; declSnap probes s1 :: declLogImpl probes s1 rest

def handleDecl (hs ps h : String) : String :=
  match parseList hs, parseList ps, (h.splitOn "|").mapM (fun t => (t.splitOn ";").mapM parseDStmt) with
  | some hosts, some probes, some pieces =>
    let E0 := hostEnv hosts
    let spec := (List.range pieces.length).map fun i => declSnap probes (declSpec E0 (pieces.take (i + 1)))
    "\t".intercalate ["ok", bar (declLogImpl probes { env := E0 } pieces), bar spec]
  | _, _, _ => "error\tbad-declaration-session"


def handle : List String → String
  | ["hist", h] =>
    match parseHist h with
    | none => "error\tbad-history"
    | some ps => answerHist [] ps
  | ["histh", host, h] =>
    match parseList host, parseHist h with
    | some hs, some ps => answerHist hs ps
    | _, _ => "error\tbad-history"
  | ["histc", host, ctxs, h] =>
    match parseList host, ctxs.toList.mapM ctxOf, parseHist h with
    | some hs, some cs, some ps =>
      if cs.length == ps.length then answerHistC hs cs ps else "error\tbad-contexts"
    | _, _, _ => "error\tbad-history"
  | ["marks", h] =>
    match (h.splitOn "|").mapM parseEvs with
    | none => "error\tbad-events"
    | some ps =>
      "\t".intercalate ["ok", bar (marksLog [] ps), bar ((marksSpec ps).map (showMOut [])), b01 (marksWf ps)]
  | ["bind", ng, h] =>
    match ng.toNat?, parseBindHist h with
    | some ng, some ps =>
      let il := bindLog ng {} (fun _ _ => 0) (some fun _ _ => true) ps
      let sl := bindSpecLog ng (fun _ => none) (fun _ _ => 0) ps
      let firstBad := (il.map (·.2.2)).idxOf "?"
      "\t".intercalate ["ok", bar (il.map (·.1)), bar (il.map (·.2.1)), bar (sl.map (·.1)), bar (sl.map (·.2)),
        bar (il.map (·.2.2)), (if firstBad < il.length then toString firstBad else "-")]
    | _, _ => "error\tbad-history"
  | ["imp", inits, deps, seed, nv, h] =>
    match parseIntList inits, parseList seed, nv.toNat?, parseImpHist h with
    | some is, some sd, some nv, some ps =>
      let ds := deps.toList.map (· == '1')
      let cfg : ModCfg := ⟨fun m => is.getD m 0, fun m => ds.getD m false⟩
      let nm := is.length
      "\t".intercalate ["ok", bar (impLog importCacheResetEveryRun cfg sd nm nv (ISt.start sd) ps),
        bar (impSpecLog cfg nm nv (ISt.start sd) ps), bar (impLog true cfg sd nm nv (ISt.start sd) ps)]
    | _, _, _, _ => "error\tbad-import-session"
  | ["slots", names, vals, h] =>
    match parseList names, parseSlotVals vals, (h.splitOn "|").mapM parseSPiece with
    | some ns, some a, some ps =>
      if a.length != ns.length then "error\tarray and table differ in length" else
      let whole0 : SSt := (a ++ List.replicate ((ns ++ allDecls ps).length - a.length) none, [])
      "\t".intercalate ["ok", bar (slotLog reloadBySlot ns (a, []) ps), bar (slotSpecLog whole0 ps),
        bar (slotLog reloadByName ns (a, []) ps), (let t := ns ++ allDecls ps; if t.isEmpty then "-" else dots (t.map toString)),
        b01 (scopedFrom ns.length ps)]
    | _, _, _ => "error\tbad-slot-session"
  | ["tabs", h] =>
    match (h.splitOn "|").mapM parseKPiece with
    | some ps =>
      let w := tabWhole {} (fun _ => none, []) ps
      "\t".intercalate ["ok", bar (tabLog (tabFeed truncateDeleteGuarded) {} ps), bar (tabLog tabSpecFeed {} ps),
        bar (tabLog (tabFeed false) {} ps), tabSnap w.1.ok w.1.tab w.2 0]
    | none => "error\tbad-table-session"
  | ["decl", hs, ps, h] => handleDecl hs ps h
  | ["frag", text] =>
    match C04.decode true text with
    | .error e => "error\t" ++ e
    | .ok c =>
      match C04.infer c with
      | .error e => "reject\t" ++ e
      | .ok cert =>
        if C04.check c cert then "accept\t" ++ toString (C04.maxCert cert)
        else "reject\tcertificate refused by the verified checker (the fragment does not end with exactly one value)"
  | _ => "error\tunknown-request"

end Risor.C18
