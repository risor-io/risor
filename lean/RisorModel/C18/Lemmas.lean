import RisorModel.C18.Model
/-!
C18 helper lemmas.

One part per layer of `Model.lean` (there is none for layer 5).
-/
namespace Risor.C18

/-! ## Layer 1: small-step executions of the generic bytecode machine (`Steps`) and how they embed
into an appended code -/

variable {σ : Type}

/-- executions of any length: `Steps S c (pc, s) (pc', s')` -/
inductive Steps (S : Sem σ) (c : List BIns) : Nat × σ → Nat × σ → Prop where
  | refl (x : Nat × σ) : Steps S c x x
  | step {pc pc' : Nat} {s s' : σ} {i : BIns} {y : Nat × σ} :
      c[pc]? = some i → stepAt S i pc s = .ok (pc', s') → Steps S c (pc', s') y → Steps S c (pc, s) y

theorem Steps.trans {S : Sem σ} {c : List BIns} {x y z : Nat × σ}
    (h1 : Steps S c x y) (h2 : Steps S c y z) : Steps S c x z := by
  induction h1 with
  | refl => exact h2
  | step hi hs _ ih => exact .step hi hs (ih h2)

/-- shifting an instruction's position shifts its outcome -/
theorem stepAt_shift (S : Sem σ) (i : BIns) (n pc pc' : Nat) (s s' : σ)
    (h : stepAt S i pc s = .ok (pc', s')) : stepAt S i (n + pc) s = .ok (n + pc', s') := by
  cases i with
  | op k =>
    dsimp only [stepAt] at h ⊢
    cases hk : S.exec k s with
    | error e => rw [hk] at h; cases h
    | ok t => rw [hk] at h; cases h; rfl
  | jf d => cases h; simp only [stepAt, Nat.add_assoc]
  | jb d =>
    dsimp only [stepAt] at h ⊢
    split at h
    · cases h
      rw [if_pos (by omega), Nat.add_sub_assoc (by assumption)]
    · cases h
  | cjf k d =>
    dsimp only [stepAt] at h ⊢
    cases hk : S.test k s with
    | error e => rw [hk] at h; cases h
    | ok r =>
      obtain ⟨b, t⟩ := r
      rw [hk] at h; cases h
      cases b <;> simp [Nat.add_assoc]

/-- a step from inside a fragment whose jumps are local lands inside it or at its end -/
theorem stepAt_local (S : Sem σ) (i : BIns) (n pc pc' : Nat) (s s' : σ) (hl : insLocal n pc i = true)
    (hpc : pc < n) (h : stepAt S i pc s = .ok (pc', s')) : pc' ≤ n := by
  cases i with
  | op k | jb d =>
    dsimp only [stepAt] at h
    split at h
    · cases h; omega
    · cases h
  | jf d =>
    cases h
    simpa [insLocal] using hl
  | cjf k d =>
    dsimp only [stepAt] at h
    split at h
    · cases h
      have : pc + d ≤ n := by simpa [insLocal] using hl
      split <;> omega
    · cases h
theorem stepAt_shift_err (S : Sem σ) (i : BIns) (n pc : Nat) (s e : σ)
    (hl : ∀ d, i = .jb d → d ≤ pc)
    (h : stepAt S i pc s = .error e) : stepAt S i (n + pc) s = .error e := by
  cases i with
  | op k | cjf k d =>
    dsimp only [stepAt] at h ⊢
    split at h
    · cases h
    · exact h
  | jf d => simp [stepAt] at h
  | jb d =>
    have := hl d rfl
    simp [stepAt, this] at h

theorem getElem?_append_left' {α} (a b : List α) (pc : Nat) (x : α) (h : a[pc]? = some x) :
    (a ++ b)[pc]? = some x := by
  rw [List.getElem?_append_left (List.getElem?_eq_some_iff.1 h).1]
  exact h

theorem getElem?_append_shift {α} (a b : List α) (pc : Nat) : (a ++ b)[a.length + pc]? = b[pc]? := by
  rw [List.getElem?_append_right (by omega)]
  congr 1
  omega

/-! ## Layer 2: what the compiler emits for a piece whose statements all resolve, and what the VM
does with it -/

/-- the code a piece adds when all of its statements compile -/
def codeOf : List Stmt → List AIns
  | [] => []
  | s :: rest => frag s ++ sep s rest.isEmpty ++ codeOf rest

def addAll (y : Syms) : List Stmt → Syms
  | [] => y
  | s :: rest => addAll (y.add s) rest

theorem compileStmts_ok (y : Syms) (l : List Stmt) (h : allResolve y l = true) :
    compileStmts y l = some ⟨codeOf l, addAll y l, fnsOf l⟩ := by
  induction l generalizing y with
  | nil => simp [compileStmts, codeOf, addAll, fnsOf]
  | cons s rest ih =>
    simp only [allResolve, Bool.and_eq_true] at h
    have := ih (y.add s) h.2
    simp only [compileStmts, h.1, ↓reduceIte, this, Option.map_some, codeOf, addAll, fnsOf, List.map_cons,
      List.flatten_cons]

/-- a piece with a statement that does not compile — wherever in the piece, whatever was emitted or
    declared before it, inside a function body or not — is rolled back as a whole -/
theorem compileStmts_rejected (y : Syms) (l : List Stmt) (h : allResolve y l = false) :
    compileStmts y l = none := by
  induction l generalizing y with
  | nil => simp [allResolve] at h
  | cons s rest ih =>
    by_cases hs : s.resolves y = true
    · simp only [allResolve, hs, Bool.true_and] at h
      simp only [compileStmts, hs, ↓reduceIte, ih (y.add s) h, Option.map_none]
    · simp only [compileStmts, hs, Bool.false_eq_true, ↓reduceIte]

theorem add_nodecl (y : Syms) (s : Stmt) (h : (s.vdecl.isEmpty && s.cdecl.isEmpty) = true) :
    y.add s = y := by
  simp only [Bool.and_eq_true, List.isEmpty_iff] at h
  simp [Syms.add, h.1, h.2]

theorem addAll_nodecl (y : Syms) (l : List Stmt)
    (h : l.any (fun t => !(t.vdecl.isEmpty && t.cdecl.isEmpty)) = false) : addAll y l = y := by
  induction l generalizing y with
  | nil => rfl
  | cons s rest ih =>
    simp only [List.any_cons, Bool.or_eq_false_iff, Bool.not_eq_false'] at h
    simp only [addAll, add_nodecl y s h.1]
    exact ih y h.2

/-- without declarations after the failure, the symbols of the statements that completed are
    the symbols of the whole piece -/
theorem specExec_syms (y : Syms) (tr : List (Nat × Bool)) (v : Nat) (l : List Stmt)
    (h : declaresAfterFailure l = false) : (specExec y tr v l).syms = addAll y l := by
  induction l generalizing y tr v with
  | nil => rfl
  | cons s rest ih =>
    unfold declaresAfterFailure at h
    by_cases hf : s.fails = true
    · simp only [hf, ↓reduceIte] at h
      simp only [specExec, hf, ↓reduceIte]
      exact (addAll_nodecl y (s :: rest) h).symm
    · simp only [hf, Bool.false_eq_true, ↓reduceIte] at h
      simp only [specExec, hf, Bool.false_eq_true, ↓reduceIte, addAll]
      exact ih _ _ _ h

theorem specExec_ok_iff (y : Syms) (tr : List (Nat × Bool)) (v : Nat) (l : List Stmt) :
    (specExec y tr v l).ok = (leakOf l).isNone := by
  induction l generalizing y tr v with
  | nil => rfl
  | cons s rest ih =>
    by_cases hf : s.fails = true
    · simp [specExec, leakOf, hf]
    · simp only [specExec, hf, Bool.false_eq_true, ↓reduceIte, leakOf]
      exact ih _ _ _

/-- what running the code of an accepted piece does, next to the Spec's execution of the same
    statements: same trace, same verdict; on top of the stack the run started on, one value if it
    completes, the failing statement's leak if it does not -/
theorem exec_codeOf (old : List Nat) (y : Syms) (l : List Stmt) (hne : l ≠ []) (stk : List Nat)
    (tr : List (Nat × Bool)) (v : Nat)
    (hfresh : ∀ s ∈ l, s.calls.any old.contains = false) :
    let x := execFrom old (codeOf l) stk tr
    let sp := specExec y tr v l
    x.trace = sp.trace ∧ x.ok = sp.ok ∧
      x.stack = (match leakOf l with | some k => List.replicate k 0 | none => [sp.last]) ++ stk := by
  induction l generalizing y tr v with
  | nil => exact absurd rfl hne
  | cons s rest ih =>
    have hc := hfresh s (List.mem_cons_self ..)
    by_cases hf : s.fails = true
    · simp [codeOf, frag, hf, execFrom, specExec, leakOf]
    · have hf' : s.fails = false := by simpa using hf
      cases rest with
      | nil =>
        cases he : s.isExpr <;> cases hlv : s.leaves <;>
          simp [codeOf, frag, sep, hf', execFrom, specExec, hlv, he, hc, Stmt.lv, leakOf]
      | cons t rest' =>
        -- the statement's code and the POP_TOP after it leave the stack as it was
        have hx : execFrom old (codeOf (s :: t :: rest')) stk tr
            = execFrom old (codeOf (t :: rest')) stk (tr ++ [(s.id, false)]) := by
          cases he : s.isExpr <;> cases hlv : s.leaves <;>
            simp [codeOf, frag, sep, hf', execFrom, hlv, he, hc, Stmt.lv]
        simp only [hx, specExec, leakOf, hf', Bool.false_eq_true, ↓reduceIte]
        exact ih (y.add s) (by simp) (tr ++ [(s.id, false)]) (if s.isExpr then s.id else 0)
          (fun u hu => hfresh u (List.mem_cons_of_mem _ hu))

/-- the leak the guard records is the leak of a statement of the piece -/
theorem leakOf_mem (l : List Stmt) (j : Nat) (h : leakOf l = some j) : ∃ s ∈ l, s.leak = j := by
  induction l with
  | nil => cases h
  | cons s rest ih =>
    dsimp only [leakOf] at h
    split at h
    · exact ⟨s, List.mem_cons_self, Option.some.inj h⟩
    · obtain ⟨t, ht, e⟩ := ih h
      exact ⟨t, List.mem_cons_of_mem _ ht, e⟩

/-- with no function kept from earlier runs, every trace entry a run adds is unmarked -/
theorem execFrom_nil_unmarked (e : Nat × Bool) (c : List AIns) : ∀ (stk : List Nat) (tr : List (Nat × Bool)),
    e ∈ (execFrom [] c stk tr).trace → e ∈ tr ∨ e.2 = false := by
  have app : ∀ (tr : List (Nat × Bool)) (id : Nat), e ∈ tr ++ [(id, false)] → e ∈ tr ∨ e.2 = false := by
    intro tr id h
    rcases List.mem_append.1 h with h | h
    · exact Or.inl h
    · exact Or.inr (by rw [List.mem_singleton.1 h])
  induction c with
  | nil => intro stk tr h; exact Or.inl h
  | cons i rest ih =>
    intro stk tr h
    cases i with
    | eff id need calls =>
      have hc : calls.any ([] : List Nat).contains = false := by simp
      rw [execFrom, hc] at h
      exact (ih _ _ h).elim (app tr id) Or.inr
    | fail id leak => exact app tr id h
    | push v => exact ih _ _ h
    | pop => exact ih _ _ h

/-! ### the Spec's execution over concatenated statement lists -/

theorem allResolve_append (y : Syms) (a b : List Stmt) :
    allResolve y (a ++ b) = (allResolve y a && allResolve (addAll y a) b) := by
  induction a generalizing y with
  | nil => simp [allResolve, addAll]
  | cons s rest ih => simp [allResolve, addAll, ih, Bool.and_assoc]

theorem specExec_indep (y : Syms) (tr : List (Nat × Bool)) (v w : Nat) (l : List Stmt) :
    (specExec y tr v l).syms = (specExec y tr w l).syms ∧
    (specExec y tr v l).trace = (specExec y tr w l).trace ∧
    (specExec y tr v l).ok = (specExec y tr w l).ok := by
  cases l with
  | nil => exact ⟨rfl, rfl, rfl⟩
  | cons s rest =>
    by_cases hf : s.fails = true <;> simp [specExec, hf]

theorem specExec_append (y : Syms) (tr : List (Nat × Bool)) (v : Nat) (a b : List Stmt)
    (h : (specExec y tr v a).ok = true) :
    specExec y tr v (a ++ b)
      = specExec (specExec y tr v a).syms (specExec y tr v a).trace (specExec y tr v a).last b := by
  induction a generalizing y tr v with
  | nil => rfl
  | cons s rest ih =>
    by_cases hf : s.fails = true
    · simp [specExec, hf] at h
    · simp only [specExec, hf, Bool.false_eq_true, ↓reduceIte, List.cons_append] at h ⊢
      exact ih _ _ _ h

theorem specExec_ok_syms (y : Syms) (tr : List (Nat × Bool)) (v : Nat) (a : List Stmt)
    (h : (specExec y tr v a).ok = true) : (specExec y tr v a).syms = addAll y a := by
  induction a generalizing y tr v with
  | nil => rfl
  | cons s rest ih =>
    by_cases hf : s.fails = true
    · simp [specExec, hf] at h
    · simp only [specExec, hf, Bool.false_eq_true, ↓reduceIte, addAll] at h ⊢
      exact ih _ _ _ h

/-! ### invariants and auxiliary statements used by `Props.lean` -/

theorem jumpsLocalFrom_get (n : Nat) (c : List BIns) (base pc : Nat) (i : BIns)
    (h : jumpsLocalFrom n base c = true) (hi : c[pc]? = some i) : insLocal n (base + pc) i = true := by
  induction c generalizing base pc with
  | nil => simp at hi
  | cons j rest ih =>
    simp only [jumpsLocalFrom, Bool.and_eq_true] at h
    cases pc with
    | zero =>
      cases hi
      exact h.1
    | succ k =>
      have := ih (base + 1) k h.2 hi
      rwa [Nat.add_assoc, Nat.add_comm 1 k] at this


/-- the invariant that ties the REPL machine, the Spec state and the guard's bookkeeping -/
structure Inv (r : Repl) (st : SpecSt) (g : GSt) : Prop where
  syms  : r.comp.syms = st.syms
  gsyms : g.syms = st.syms
  trace : r.vm.trace = st.trace
  ip    : r.vm.ip = r.comp.code.length
  ht    : r.vm.stack.length = g.ht
  old   : r.vm.old = g.fns
  fns   : r.comp.fns = g.fns

theorem feed_step (r : Repl) (st : SpecSt) (g : GSt) (p : Piece) (inv : Inv r st g)
    (hg : pieceGuard g p = true) :
    (r.feed p).2 = (st.feed p).2 ∧ Inv (r.feed p).1 (st.feed p).1 (g.next p) := by
  cases p with
  | bad => exact ⟨rfl, inv⟩
  | stmts l =>
    by_cases hres : allResolve st.syms l = true
    · -- accepted by the compiler
      have hres' : allResolve g.syms l = true := by rw [inv.gsyms]; exact hres
      simp only [pieceGuard, hres', ↓reduceIte, Bool.and_eq_true,
        Bool.not_eq_eq_eq_not, Bool.not_true] at hg
      obtain ⟨hdecl, hne⟩ := hg
      have hne' : l ≠ [] := by
        intro h; subst h; simp at hne
      have hc := compileStmts_ok r.comp.syms l (by rw [inv.syms]; exact hres)
      -- reloadCode has forgotten every function an earlier run loaded: no call goes to a stale copy
      obtain ⟨htr, hok, hstk⟩ := exec_codeOf (reloadKeeps r.vm.old) st.syms l hne' [] st.trace 0
        (fun s _ => by simp [reloadKeeps])
      have hdrop : (r.comp.code ++ codeOf l).drop r.vm.ip = codeOf l := by
        rw [inv.ip]; simp
      have hsy := specExec_syms st.syms st.trace 0 l hdecl
      rw [specExec_ok_iff] at hok
      simp only [Repl.feed, hc, hdrop, SpecSt.feed, hres, ↓reduceIte, GSt.next, hres', inv.trace, hok, hstk,
        specExec_ok_iff]
      refine ⟨?_, ⟨?_, ?_, htr, ?_, ?_, ?_, ?_⟩⟩
      · cases leakOf l <;> rfl
      · simp only [inv.syms, hsy]
      · simp only [inv.gsyms, specExec_syms _ _ _ _ hdecl]
      · simp
      · cases leakOf l <;> simp
      · simp only [inv.fns]
      · simp only [inv.fns]
    · -- rejected by the compiler, at any statement: Compile rolled everything back
      have hres' : allResolve g.syms l = false := by
        rw [inv.gsyms]; simpa using hres
      have hresf : allResolve st.syms l = false := by simpa using hres
      have hc := compileStmts_rejected r.comp.syms l (by rw [inv.syms]; exact hresf)
      simp only [Repl.feed, hc, SpecSt.feed, hresf, Bool.false_eq_true, ↓reduceIte, GSt.next, hres']
      exact ⟨trivial, inv⟩

/-- the guard's bookkeeping after a history -/
def GSt.after (g : GSt) : List Piece → GSt
  | [] => g
  | p :: ps => GSt.after (g.next p) ps

theorem run_inv (h : List Piece) : ∀ (r : Repl) (st : SpecSt) (g : GSt), Inv r st g →
    guardFrom g h = true →
    (r.run h).2 = (st.run h).2 ∧ Inv (r.run h).1 (st.run h).1 (g.after h) := by
  induction h with
  | nil => intro r st g inv _; exact ⟨rfl, inv⟩
  | cons p ps ih =>
    intro r st g inv hg
    simp only [guardFrom, Bool.and_eq_true] at hg
    obtain ⟨ho, inv'⟩ := feed_step r st g p inv hg.1
    obtain ⟨h1, h2⟩ := ih _ _ _ inv' hg.2
    simp only [Repl.run, SpecSt.run, GSt.after]
    exact ⟨by rw [ho, h1], h2⟩


theorem feed_ok_inv (st : SpecSt) (a : List Stmt) (v : Nat) (h : (st.feed (.stmts a)).2 = .ok v) :
    allResolve st.syms a = true ∧ (specExec st.syms st.trace 0 a).ok = true ∧
    (st.feed (.stmts a)).1 = ⟨(specExec st.syms st.trace 0 a).syms, (specExec st.syms st.trace 0 a).trace⟩ := by
  by_cases hr : allResolve st.syms a = true
  · simp only [SpecSt.feed, hr, ↓reduceIte] at h ⊢
    cases hk : (specExec st.syms st.trace 0 a).ok
    · simp [hk] at h
    · simp
  · simp [SpecSt.feed, hr] at h

theorem spec_run_flatten (ls : List (List Stmt)) : ∀ (st : SpecSt),
    (∀ o ∈ (st.run (ls.map .stmts)).2, ∃ v, o = .ok v) →
    allResolve st.syms ls.flatten = true ∧ (specExec st.syms st.trace 0 ls.flatten).ok = true ∧
    (st.run (ls.map .stmts)).1 =
      ⟨(specExec st.syms st.trace 0 ls.flatten).syms, (specExec st.syms st.trace 0 ls.flatten).trace⟩ := by
  induction ls with
  | nil => intro st _; exact ⟨rfl, rfl, rfl⟩
  | cons a rest ih =>
    intro st hall
    simp only [List.map_cons, SpecSt.run, List.mem_cons, forall_eq_or_imp] at hall
    obtain ⟨⟨v, hv⟩, hrest⟩ := hall
    obtain ⟨hra, hoka, hst⟩ := feed_ok_inv st a v hv
    have ih' := ih (st.feed (.stmts a)).1 hrest
    rw [hst] at ih'
    obtain ⟨hr2, hok2, hst2⟩ := ih'
    simp only at hr2 hok2 hst2
    have hsy := specExec_ok_syms _ _ _ _ hoka
    have happ := specExec_append st.syms st.trace 0 a rest.flatten hoka
    have hind := specExec_indep (specExec st.syms st.trace 0 a).syms (specExec st.syms st.trace 0 a).trace
      (specExec st.syms st.trace 0 a).last 0 rest.flatten
    simp only [List.flatten_cons, List.map_cons, SpecSt.run]
    refine ⟨?_, ?_, ?_⟩
    · rw [allResolve_append, hra, ← hsy]; simpa using hr2
    · rw [happ, hind.2.2]; exact hok2
    · rw [hst, hst2, happ, hind.1, hind.2.1]


theorem spec_run_append (p q : List Piece) : ∀ (st : SpecSt),
    (st.run (p ++ q)).1 = ((st.run p).1.run q).1 ∧ (st.run (p ++ q)).2 = (st.run p).2 ++ ((st.run p).1.run q).2 := by
  induction p with
  | nil => intro st; exact ⟨rfl, rfl⟩
  | cons x rest ih =>
    intro st
    obtain ⟨h1, h2⟩ := ih (st.feed x).1
    simp only [List.cons_append, SpecSt.run]
    exact ⟨h1, by rw [h2]⟩

theorem specExec_last_indep (y : Syms) (tr : List (Nat × Bool)) (v w : Nat) (l : List Stmt) (hne : l ≠ []) :
    (specExec y tr v l).last = (specExec y tr w l).last := by
  cases l with
  | nil => exact absurd rfl hne
  | cons s rest => by_cases hf : s.fails = true <;> simp [specExec, hf]


/-! ### definitions only grow (used for the host-supplied names) -/

theorem add_defined_mono (y : Syms) (s : Stmt) (n : Nat) (h : y.defined n = true) :
    (y.add s).defined n = true := by
  simp only [Syms.defined, Syms.add, Bool.or_eq_true, List.contains_eq_mem, List.mem_append,
    decide_eq_true_eq] at h ⊢
  rcases h with h | h
  · exact Or.inl (Or.inl h)
  · exact Or.inr (Or.inl h)

theorem addAll_defined_mono (y : Syms) (l : List Stmt) (n : Nat) (h : y.defined n = true) :
    (addAll y l).defined n = true := by
  induction l generalizing y with
  | nil => exact h
  | cons s rest ih => exact ih _ (add_defined_mono y s n h)

theorem specExec_defined_mono (l : List Stmt) : ∀ (y : Syms) (tr : List (Nat × Bool)) (v n : Nat),
    y.defined n = true → (specExec y tr v l).syms.defined n = true := by
  induction l with
  | nil => intro y tr v n h; exact h
  | cons s rest ih =>
    intro y tr v n h
    by_cases hf : s.fails = true
    · simp only [specExec, hf, ↓reduceIte]; exact h
    · simp only [specExec, hf, Bool.false_eq_true, ↓reduceIte]
      exact ih _ _ _ _ (add_defined_mono y s n h)

theorem spec_feed_defined_mono (st : SpecSt) (p : Piece) (n : Nat) (h : st.syms.defined n = true) :
    (st.feed p).1.syms.defined n = true := by
  cases p with
  | bad => exact h
  | stmts l =>
    by_cases hr : allResolve st.syms l = true
    · simp only [SpecSt.feed, hr, ↓reduceIte]
      exact specExec_defined_mono l _ _ _ _ h
    · simp only [SpecSt.feed, hr, Bool.false_eq_true, ↓reduceIte]; exact h

theorem spec_run_defined_mono (h : List Piece) : ∀ (st : SpecSt) (n : Nat),
    st.syms.defined n = true → (st.run h).1.syms.defined n = true := by
  induction h with
  | nil => intro st n hd; exact hd
  | cons p ps ih =>
    intro st n hd
    simp only [SpecSt.run]
    exact ih _ _ (spec_feed_defined_mono st p n hd)

theorem compileStmts_defined_mono (l : List Stmt) (y : Syms) (n : Nat) (o : COut)
    (h : y.defined n = true) (ho : compileStmts y l = some o) : o.syms.defined n = true := by
  cases hr : allResolve y l
  · rw [compileStmts_rejected y l hr] at ho; cases ho
  · rw [compileStmts_ok y l hr] at ho; cases ho; exact addAll_defined_mono y l n h

theorem repl_feed_defined_mono (r : Repl) (p : Piece) (n : Nat) (h : r.comp.syms.defined n = true) :
    (r.feed p).1.comp.syms.defined n = true := by
  cases p with
  | bad => exact h
  | stmts l =>
    simp only [Repl.feed]
    split
    · exact h
    · rename_i o ho
      exact compileStmts_defined_mono l r.comp.syms n o h ho

theorem repl_run_defined_mono (h : List Piece) : ∀ (r : Repl) (n : Nat),
    r.comp.syms.defined n = true → (r.run h).1.comp.syms.defined n = true := by
  induction h with
  | nil => intro r n hd; exact hd
  | cons p ps ih =>
    intro r n hd
    simp only [Repl.run]
    exact ih _ _ (repl_feed_defined_mono r p n hd)

/-! ## Layer 3: compile-only marks -/

theorem compileEvsR_own_nil (R : Mark → Bool) (inh : List Mark) (evs : List CEv) :
    ∀ own, balancedFrom own.length evs = true → errClean R own evs = true →
      (compileEvsR R inh own evs).own = [] := by
  induction evs with
  | nil =>
    intro own hb _
    simp only [balancedFrom, beq_iff_eq] at hb
    simp only [compileEvsR]
    exact List.eq_nil_of_length_eq_zero hb
  | cons ev rest ih =>
    intro own hb hc
    cases ev with
    | enter m => exact ih (m :: own) hb hc
    | leave =>
      simp only [balancedFrom, Bool.and_eq_true, decide_eq_true_eq] at hb
      exact ih own.tail (by rw [List.length_tail]; exact hb.2) hc
    | emit k sens => exact ih own hb hc
    | err =>
      simp only [compileEvsR]
      simp only [errClean, List.all_eq_true] at hc
      rw [List.filter_eq_nil_iff]
      intro m hm
      simp [hc m hm]

/-- the table of the code as it is restores EVERY compile-only mark on the error path -/
theorem restored_all (m : Mark) : m.restored = true := by cases m <;> decide +kernel

/-- … so the side condition "the error surfaces where every mark set is a restored one" holds for every
    event sequence -/
theorem errClean_restored (evs : List CEv) (own : List Mark) : errClean Mark.restored own evs = true := by
  induction evs generalizing own with
  | nil => rfl
  | cons ev rest ih =>
    cases ev with
    | err => exact List.all_eq_true.2 fun m _ => restored_all m
    | _ => exact ih _

/-- a history compiled under any table whose error paths are clean equals the fresh-compiler Spec of
    that table -/
theorem marksRunR_eq (R : Mark → Bool) (h : List (List CEv))
    (hg : ∀ evs ∈ h, balancedFrom 0 evs = true ∧ errClean R [] evs = true) :
    marksRunR R [] h = h.map (compileEvsR R [] []) := by
  induction h with
  | nil => rfl
  | cons evs rest ih =>
    have h1 := hg evs (List.mem_cons_self ..)
    have hown := compileEvsR_own_nil R [] evs [] h1.1 h1.2
    simp only [marksRunR, List.map_cons, hown, List.append_nil]
    rw [ih (fun e he => hg e (List.mem_cons_of_mem _ he))]

/-- what a piece emits and whether it is accepted does not depend on the restore table when nothing is
    inherited (the table only decides what is LEFT SET after an error) -/
theorem compileEvsR_code_indep (R R' : Mark → Bool) (evs : List CEv) : ∀ own,
    (compileEvsR R [] own evs).code = (compileEvsR R' [] own evs).code ∧
    (compileEvsR R [] own evs).ok = (compileEvsR R' [] own evs).ok := by
  induction evs with
  | nil => intro own; exact ⟨rfl, rfl⟩
  | cons ev rest ih =>
    intro own
    cases ev with
    | enter m | leave => exact ih _
    | emit k sens =>
      simp only [compileEvsR]
      exact ⟨by rw [(ih own).1], (ih own).2⟩
    | err => simp only [compileEvsR]; exact ⟨trivial, trivial⟩

/-! ## Layer 4: generations -/

/-- the Impl's generations agree with the Spec's single array wherever the bookkeeping says "valid" -/
def Agree (V : Valid) (G S : Gens) : Prop := ∀ g k, V g k = true → G k g = S 0 g

theorem FExpr.eval_agree (V : Valid) (G S : Gens) (k : Nat) (a : Int) (h : Agree V G S) (e : FExpr)
    (hr : e.reads.all (fun x => V x k) = true) : e.eval (G k) a = e.eval (S 0) a := by
  induction e with
  | lit v => rfl
  | glob g =>
    simp only [FExpr.reads, List.all_cons, List.all_nil, Bool.and_true] at hr
    exact h g k hr
  | arg => rfl
  | add x y ihx ihy =>
    simp only [FExpr.reads, List.all_append, Bool.and_eq_true] at hr
    simp only [FExpr.eval, ihx hr.1, ihy hr.2]

theorem agree_write (V : Valid) (G S : Gens) (g k : Nat) (v : Int) (h : Agree V G S) :
    Agree (V.write g k) (G.put k g v) (S.put 0 g v) := by
  intro g' k' hv
  simp only [Valid.write] at hv
  simp only [Gens.put]
  by_cases hg : g' = g
  · subst hg
    simp only [↓reduceIte, beq_iff_eq] at hv
    subst hv
    simp
  · simp only [hg, ↓reduceIte] at hv
    simp only [hg, and_false, ↓reduceIte]
    exact h g' k' hv

theorem runBody_agree (k : Nat) (a : Int) (body : List (Nat × FExpr)) :
    ∀ (V V' : Valid) (G S : Gens), Agree V G S → okBody k body V = some V' →
      Agree V' (runBody k a body G) (runBody 0 a body S) := by
  induction body with
  | nil => intro V V' G S h hk; cases hk; exact h
  | cons ge rest ih =>
    intro V V' G S h hk
    obtain ⟨g, e⟩ := ge
    dsimp only [okBody] at hk
    split at hk
    · rename_i hr
      simp only [runBody]
      rw [FExpr.eval_agree V G S k a h e hr]
      exact ih _ _ _ _ (agree_write V G S g k _ h) hk
    · cases hk

theorem TExpr.eval_agree (E : BEnv) (e : TExpr) :
    ∀ (V V' : Valid) (G S : Gens), Agree V G S → e.ok E V = some V' →
      (e.eval E G).1 = (e.eval (specEnv E.defs) S).1 ∧ Agree V' (e.eval E G).2 (e.eval (specEnv E.defs) S).2 := by
  induction e with
  | lit v =>
    intro V V' G S h hk
    cases hk
    exact ⟨rfl, h⟩
  | glob g =>
    intro V V' G S h hk
    dsimp only [TExpr.ok] at hk
    split at hk
    · rename_i hv
      cases hk
      exact ⟨h g E.cur hv, h⟩
    · cases hk
  | add a b iha ihb =>
    intro V V' G S h hk
    obtain ⟨V1, ha, hb⟩ := Option.bind_eq_some_iff.1 hk
    obtain ⟨e1, h1⟩ := iha V V1 G S h ha
    obtain ⟨e2, h2⟩ := ihb V1 V' _ _ h1 hb
    exact ⟨by simp only [TExpr.eval, e1, e2], h2⟩
  | call f a iha =>
    intro V V' G S h hk
    obtain ⟨V1, ha, hk⟩ := Option.bind_eq_some_iff.1 hk
    obtain ⟨e1, h1⟩ := iha V V1 G S h ha
    simp only [TExpr.eval, specEnv] at e1 h1 ⊢
    cases hd : E.defs f with
    | none =>
      rw [hd] at hk
      cases hk
      exact ⟨rfl, h1⟩
    | some d =>
      cases hb : E.bind f with
      | none => rw [hd, hb] at hk; cases hk
      | some k =>
        rw [hd, hb] at hk
        obtain ⟨V2, hbody, hk⟩ := Option.bind_eq_some_iff.1 hk
        split at hk
        · rename_i hret
          cases hk
          -- the body runs against generation `k` in the Impl, against the one array in the Spec
          have h2 := runBody_agree k (a.eval E G).1 d.body V1 V' _ _ h1 hbody
          rw [e1] at h2 ⊢
          exact ⟨FExpr.eval_agree V' _ _ k _ h2 d.ret hret, h2⟩
        · cases hk
theorem TStmt.exec_agree (E : BEnv) (s : TStmt) (V V' : Valid) (G S : Gens) (h : Agree V G S)
    (hk : s.ok E V = some V') :
    (s.exec E G).1 = (s.exec (specEnv E.defs) S).1 ∧ Agree V' (s.exec E G).2 (s.exec (specEnv E.defs) S).2 := by
  cases s with
  | set g e =>
    obtain ⟨V1, he, rfl⟩ := Option.map_eq_some_iff.1 hk
    obtain ⟨e1, h1⟩ := TExpr.eval_agree E e V V1 G S h he
    simp only [TStmt.exec]
    refine ⟨trivial, ?_⟩
    rw [e1]
    exact agree_write V1 _ _ g E.cur _ h1
  | defn f d => cases hk; exact ⟨rfl, h⟩
  | expr e =>
    obtain ⟨e1, h1⟩ := TExpr.eval_agree E e V V' G S h hk
    exact ⟨by simp only [TStmt.exec, e1], h1⟩

theorem execPiece_agree (E : BEnv) (l : List TStmt) :
    ∀ (V V' : Valid) (G S : Gens) (v : Option Int), Agree V G S → okPiece E l V = some V' →
      (execPiece E l G v).1 = (execPiece (specEnv E.defs) l S v).1 ∧
      Agree V' (execPiece E l G v).2 (execPiece (specEnv E.defs) l S v).2 := by
  induction l with
  | nil => intro V V' G S v h hk; cases hk; exact ⟨rfl, h⟩
  | cons s rest ih =>
    intro V V' G S v h hk
    obtain ⟨V1, hs, hk⟩ := Option.bind_eq_some_iff.1 hk
    obtain ⟨e1, h1⟩ := TStmt.exec_agree E s V V1 G S h hs
    simp only [execPiece]
    rw [e1]
    exact ih V1 V' _ _ _ h1 hk

theorem reload_agree (c : BCtl) (V : Valid) (G S : Gens) (h : Agree V G S) :
    Agree (reloadValid c V) (reloadGens c G) S := by
  intro g k hv
  simp only [reloadValid, reloadGens] at hv ⊢
  cases hs : c.started with
  | false =>
    simp only [hs, Bool.false_eq_true, ↓reduceIte] at hv ⊢
    exact h g k hv
  | true =>
    simp only [hs, ↓reduceIte] at hv ⊢
    by_cases hk : k = c.cur + 1
    · simp only [hk, ↓reduceIte] at hv ⊢
      exact h g c.cur hv
    · simp only [hk, ↓reduceIte] at hv ⊢
      exact h g k hv

theorem bindRun_agree (h : List (List TStmt)) :
    ∀ (c : BCtl) (V : Valid) (G S : Gens) (c' : BCtl) (V' : Valid), Agree V G S →
      bindGuardFrom c V h = some (c', V') →
      (bindRun c G h).1 = (bindSpec c.defs S h).1 ∧ (bindRun c G h).2.1 = c' ∧
      Agree V' (bindRun c G h).2.2 (bindSpec c.defs S h).2.2 := by
  induction h with
  | nil =>
    intro c V G S c' V' ha hg
    cases hg
    exact ⟨rfl, rfl, ha⟩
  | cons l rest ih =>
    intro c V G S c' V' ha hg
    dsimp only [bindGuardFrom] at hg
    cases hp : okPiece (c.next l).env l (reloadValid c V) with
    | none => simp [hp] at hg
    | some V1 =>
      simp only [hp] at hg
      obtain ⟨e1, h1⟩ := execPiece_agree (c.next l).env l _ V1 _ S none (reload_agree c V G S ha) hp
      have hd : (c.next l).env.defs = addDefs c.defs l := rfl
      rw [hd] at e1 h1
      obtain ⟨e2, e3, h2⟩ := ih (c.next l) V1 _ _ c' V' h1 hg
      have hd2 : (c.next l).defs = addDefs c.defs l := rfl
      rw [hd2] at e2 h2
      simp only [bindRun, bindSpec]
      exact ⟨by rw [e1, e2], e3, h2⟩


/-! ### since the repair of C18-function-globals-snapshot every read goes to the current generation -/

/-- a write to generation `k` leaves generation `k` valid everywhere -/
theorem write_cur (V : Valid) (g k : Nat) (hV : ∀ g', V g' k = true) : ∀ g', V.write g k g' k = true := by
  intro g'
  simp only [Valid.write]
  split
  · exact beq_self_eq_true k
  · exact hV g'

theorem okBody_cur (k : Nat) (body : List (Nat × FExpr)) :
    ∀ (V : Valid), (∀ g, V g k = true) → ∃ V', okBody k body V = some V' ∧ ∀ g, V' g k = true := by
  induction body with
  | nil => intro V hV; exact ⟨V, rfl, hV⟩
  | cons ge rest ih =>
    intro V hV
    obtain ⟨g, e⟩ := ge
    have hr : e.reads.all (fun x => V x k) = true := List.all_eq_true.2 (fun x _ => hV x)
    simp only [okBody, hr, ↓reduceIte]
    exact ih _ (write_cur V g k hV)

/-- an environment in which every function constant is bound to the current generation -/
def BEnv.allCur (E : BEnv) : Prop := ∀ f, E.bind f = (E.defs f).map fun _ => E.cur

theorem TExpr.ok_cur (E : BEnv) (hE : E.allCur) (e : TExpr) :
    ∀ (V : Valid), (∀ g, V g E.cur = true) → ∃ V', e.ok E V = some V' ∧ ∀ g, V' g E.cur = true := by
  induction e with
  | lit v => intro V hV; exact ⟨V, rfl, hV⟩
  | glob g => intro V hV; exact ⟨V, by simp [TExpr.ok, hV g], hV⟩
  | add a b iha ihb =>
    intro V hV
    obtain ⟨V1, h1, hV1⟩ := iha V hV
    obtain ⟨V2, h2, hV2⟩ := ihb V1 hV1
    exact ⟨V2, by simp [TExpr.ok, h1, h2], hV2⟩
  | call f a iha =>
    intro V hV
    obtain ⟨V1, h1, hV1⟩ := iha V hV
    have hb := hE f
    cases hd : E.defs f with
    | none =>
      rw [hd] at hb
      exact ⟨V1, by simp [TExpr.ok, h1, hd, hb], hV1⟩
    | some d =>
      rw [hd] at hb
      obtain ⟨V2, h2, hV2⟩ := okBody_cur E.cur d.body V1 hV1
      exact ⟨V2, by simp [TExpr.ok, h1, hd, hb, h2]; exact fun x _ => hV2 x, hV2⟩

theorem TStmt.ok_cur (E : BEnv) (hE : E.allCur) (s : TStmt) (V : Valid) (hV : ∀ g, V g E.cur = true) :
    ∃ V', s.ok E V = some V' ∧ ∀ g, V' g E.cur = true := by
  cases s with
  | set g e =>
    obtain ⟨V1, h1, hV1⟩ := TExpr.ok_cur E hE e V hV
    exact ⟨V1.write g E.cur, by simp [TStmt.ok, h1], write_cur V1 g E.cur hV1⟩
  | defn f d => exact ⟨V, rfl, hV⟩
  | expr e => exact TExpr.ok_cur E hE e V hV

theorem okPiece_cur (E : BEnv) (hE : E.allCur) (l : List TStmt) :
    ∀ (V : Valid), (∀ g, V g E.cur = true) → ∃ V', okPiece E l V = some V' ∧ ∀ g, V' g E.cur = true := by
  induction l with
  | nil => intro V hV; exact ⟨V, rfl, hV⟩
  | cons s rest ih =>
    intro V hV
    obtain ⟨V1, h1, hV1⟩ := TStmt.ok_cur E hE s V hV
    obtain ⟨V2, h2, hV2⟩ := ih V1 hV1
    exact ⟨V2, by simp [okPiece, h1, h2], hV2⟩

/-- every run binds every function constant to its own generation … -/
theorem next_allCur (c : BCtl) (l : List TStmt) : (c.next l).env.allCur := fun _ => rfl

/-- … which starts as a copy of the previous one: valid wherever the previous one was -/
theorem reloadValid_cur (c : BCtl) (l : List TStmt) (V : Valid) (hV : ∀ g, V g c.cur = true) :
    ∀ g, reloadValid c V g (c.next l).env.cur = true := by
  intro g
  simp only [reloadValid, BCtl.next, BCtl.env]
  cases hs : c.started with
  | false => simp [hV g]
  | true => simp [hV g]

/-- the bookkeeping never runs into a stale read, and ends with the current generation valid everywhere -/
theorem bindGuardFrom_cur (h : List (List TStmt)) : ∀ (c : BCtl) (V : Valid), (∀ g, V g c.cur = true) →
    ∃ c' V', bindGuardFrom c V h = some (c', V') ∧ ∀ g, V' g c'.cur = true := by
  induction h with
  | nil => intro c V hV; exact ⟨c, V, rfl, hV⟩
  | cons l rest ih =>
    intro c V hV
    obtain ⟨V1, h1, hV1⟩ := okPiece_cur (c.next l).env (next_allCur c l) l (reloadValid c V) (reloadValid_cur c l V hV)
    simp only [bindGuardFrom, h1]
    exact ih (c.next l) V1 hV1


/-! ## Layer 6: the import cache -/
theorem execI_append (cfg : ModCfg) (a b : List IStmt) (s : ISt) :
    execI cfg (a ++ b) s = execI cfg b (execI cfg a s) := by
  simp [execI, List.foldl_append]

theorem impRun_keep (cfg : ModCfg) (seed : List Nat) (h : List (List IStmt)) :
    ∀ s, impRun false cfg seed s h = execI cfg h.flatten s := by
  induction h with
  | nil => intro s; rfl
  | cons l rest ih =>
    intro s
    simp only [impRun, startRun, List.flatten_cons, execI_append]
    exact ih _

/-! ## Layer 7: slot-indexed globals -/
theorem getD_append_none (a : Slots) (k i : Nat) :
    (a ++ List.replicate k none).getD i none = a.getD i none := by
  simp only [List.getD_eq_getElem?_getD, List.getElem?_append, List.getElem?_replicate]
  split
  · rfl
  · rw [List.getElem?_eq_none (by omega)]
    split <;> rfl

theorem eval_pad (a : Slots) (k : Nat) (e : SExpr) : e.eval (a ++ List.replicate k none) = e.eval a := by
  induction e with
  | lit v => rfl
  | slot i => simp only [SExpr.eval, getD_append_none]
  | add x y ihx ihy => simp only [SExpr.eval, ihx, ihy]

theorem exec_pad (t : SStmt) (a : Slots) (vs : List Int) (k : Nat) (h : t.scoped a.length = true) :
    t.exec (a ++ List.replicate k none, vs) = ((t.exec (a, vs)).1 ++ List.replicate k none, (t.exec (a, vs)).2) ∧
    (t.exec (a, vs)).1.length = a.length := by
  cases t with
  | set i e =>
    simp only [SStmt.scoped, Bool.and_eq_true, decide_eq_true_eq] at h
    simp only [SStmt.exec, eval_pad, List.length_set, and_true]
    rw [List.set_append_left _ _ h.1]
  | expr e => simp only [SStmt.exec, eval_pad, and_true]

theorem scoped_mono_e (e : SExpr) (n m : Nat) (hnm : n ≤ m) (h : e.scoped n = true) : e.scoped m = true := by
  induction e with
  | lit v => rfl
  | slot i => simp only [SExpr.scoped, decide_eq_true_eq] at h ⊢; omega
  | add x y ihx ihy =>
    simp only [SExpr.scoped, Bool.and_eq_true] at h ⊢
    exact ⟨ihx h.1, ihy h.2⟩

theorem execS_pad (l : List SStmt) : ∀ (a : Slots) (vs : List Int) (k : Nat), l.all (·.scoped a.length) = true →
    execS l (a ++ List.replicate k none, vs) = ((execS l (a, vs)).1 ++ List.replicate k none, (execS l (a, vs)).2) ∧
    (execS l (a, vs)).1.length = a.length := by
  induction l with
  | nil => intro a vs k _; exact ⟨rfl, rfl⟩
  | cons t rest ih =>
    intro a vs k h
    simp only [List.all_cons, Bool.and_eq_true] at h
    obtain ⟨e1, e2⟩ := exec_pad t a vs k h.1
    simp only [execS, List.foldl_cons] at ih ⊢
    rw [e1]
    have := ih (t.exec (a, vs)).1 (t.exec (a, vs)).2 k (by rw [e2]; exact h.2)
    rw [e2] at this
    exact this

theorem execS_append (a b : List SStmt) (s : SSt) : execS (a ++ b) s = execS b (execS a s) := by
  simp [execS, List.foldl_append]

theorem reloadBySlot_grow (names : List Nat) (a : Slots) (h : a.length ≤ names.length) :
    reloadBySlot names a = a ++ List.replicate (names.length - a.length) none := by
  simp only [reloadBySlot, copyInto, List.length_replicate, List.drop_replicate]
  rw [List.take_of_length_le h]

theorem allStmts_cons (p : SPiece) (rest : List SPiece) : allStmts (p :: rest) = p.stmts ++ allStmts rest := by
  simp [allStmts]

theorem allDecls_cons (p : SPiece) (rest : List SPiece) : allDecls (p :: rest) = p.decls ++ allDecls rest := by
  simp [allDecls]

/-- a session by slot is the concatenated program on an array that has the later pieces' slots from the start:
    each reload appends the piece's new slots, and statements scoped to the table do not see the padding -/
theorem slotRun_bySlot (h : List SPiece) : ∀ (names : List Nat) (a : Slots) (vs : List Int),
    a.length = names.length → scopedFrom names.length h = true →
    slotRun reloadBySlot names (a, vs) h
      = (names ++ allDecls h, execS (allStmts h) (a ++ List.replicate (allDecls h).length none, vs)) := by
  induction h with
  | nil => intro names a vs _ _; simp [slotRun, allStmts, allDecls, execS]
  | cons p rest ih =>
    intro names a vs ha hs
    simp only [scopedFrom, Bool.and_eq_true, ← List.length_append] at hs
    have hgrow : reloadBySlot (names ++ p.decls) a = a ++ List.replicate p.decls.length none := by
      rw [reloadBySlot_grow _ _ (by rw [List.length_append]; omega), List.length_append, ha, Nat.add_sub_cancel_left]
    have hlen : (a ++ List.replicate p.decls.length (none : Option Int)).length = (names ++ p.decls).length := by
      simp [ha]
    obtain ⟨e1, e2⟩ := execS_pad p.stmts _ vs (allDecls rest).length (hlen ▸ hs.1)
    rw [slotRun, hgrow, ih _ _ _ (e2.trans hlen) hs.2, allStmts_cons, allDecls_cons, execS_append,
      List.length_append, ← List.replicate_append_replicate, ← List.append_assoc a, e1, List.append_assoc names]


/-- invariant of the import cache: `pending` = modules whose body is running (logged, not cached yet) -/
def CacheInv (seed pending : List Nat) (s : ISt) : Prop :=
  s.log.Nodup ∧ (∀ x ∈ s.log, (x ∈ s.cache ∨ x ∈ pending) ∧ x ∉ seed) ∧ (∀ x ∈ seed, x ∈ s.cache)

/-- a module body starts: it is logged and pending -/
theorem CacheInv.start {seed pending : List Nat} {s : ISt} {m : Nat} (inv : CacheInv seed pending s)
    (hc : m ∉ s.cache) (hp : m ∉ pending) : CacheInv seed (m :: pending) { s with log := s.log ++ [m] } := by
  obtain ⟨i1, i2, i3⟩ := inv
  have hnl : m ∉ s.log := fun hl => (i2 m hl).1.elim hc hp
  refine ⟨?_, ?_, i3⟩
  · refine List.nodup_append.2 ⟨i1, by simp, fun a ha b hb e => hnl ?_⟩
    rw [← List.mem_singleton.1 hb, ← e]
    exact ha
  · intro x hx
    rcases List.mem_append.1 hx with hx | hx
    · exact ⟨(i2 x hx).1.imp id (List.mem_cons_of_mem _), (i2 x hx).2⟩
    · cases List.mem_singleton.1 hx
      exact ⟨Or.inr List.mem_cons_self, fun hs => hc (i3 _ hs)⟩

/-- a module body ends: the module moves from pending into the cache -/
theorem CacheInv.finish {seed pending : List Nat} {s : ISt} {m : Nat} (inv : CacheInv seed (m :: pending) s)
    (st : Nat → Int) : CacheInv seed pending { s with st := st, cache := m :: s.cache } := by
  obtain ⟨j1, j2, j3⟩ := inv
  refine ⟨j1, fun x hx => ⟨?_, (j2 x hx).2⟩, fun x hx => List.mem_cons_of_mem _ (j3 x hx)⟩
  rcases (j2 x hx).1 with h | h
  · exact Or.inl (List.mem_cons_of_mem _ h)
  · rcases List.mem_cons.1 h with h | h
    · exact Or.inl (h ▸ List.mem_cons_self)
    · exact Or.inr h

/-- the modules whose bodies are running are all above the one being imported (`dep` points downwards) -/
theorem loadMod_inv (cfg : ModCfg) (seed : List Nat) (m : Nat) : ∀ (s : ISt) (pending : List Nat),
    CacheInv seed pending s → (∀ x ∈ pending, m < x) → CacheInv seed pending (loadMod cfg m s) := by
  induction m with
  | zero =>
    intro s pending inv hp
    unfold loadMod
    split
    · exact inv
    · rename_i hc
      exact (inv.start (by simpa using hc) (fun h => Nat.lt_irrefl _ (hp _ h))).finish _
  | succ m ih =>
    intro s pending inv hp
    unfold loadMod
    split
    · exact inv
    · rename_i hc
      have inv1 := inv.start (by simpa using hc) (fun h => Nat.lt_irrefl _ (hp _ h))
      have hp1 : ∀ x ∈ (m + 1) :: pending, m < x := fun x hx => by
        rcases List.mem_cons.1 hx with hx | hx
        · omega
        · exact Nat.lt_of_succ_lt (hp x hx)
      refine CacheInv.finish (m := m + 1) ?_ _
      split
      · exact ih _ _ inv1 hp1
      · exact inv1

theorem exec_inv (cfg : ModCfg) (seed : List Nat) (t : IStmt) (s : ISt) (inv : CacheInv seed [] s) :
    CacheInv seed [] (t.exec cfg s) := by
  cases t with
  | imp h m => exact loadMod_inv cfg seed m s [] inv (fun _ hx => by cases hx)
  | bump h d | below h => simp only [IStmt.exec]; split <;> exact inv
  | get hs | keep j h => exact inv

theorem execI_inv (cfg : ModCfg) (l : List IStmt) : ∀ (s : ISt) (seed : List Nat), CacheInv seed [] s →
    CacheInv seed [] (execI cfg l s) := by
  induction l with
  | nil => intro s seed inv; exact inv
  | cons t rest ih => intro s seed inv; exact ih _ _ (exec_inv cfg seed t s inv)


theorem lastNamed_absent (names : List Nat) (a : Slots) (nm : Nat) (h : nm ∉ names) : lastNamed names a nm = none := by
  simp only [lastNamed, List.findSome?_eq_none_iff, List.mem_reverse]
  intro p hp
  have := (List.of_mem_zip (show (p.1, p.2) ∈ names.zip a from hp)).1
  split
  · rename_i e; subst e; exact absurd this h
  · rfl

theorem lastNamed_cons (x : Nat) (xs : List Nat) (v : Option Int) (vs : Slots) (nm : Nat) :
    lastNamed (x :: xs) (v :: vs) nm = (lastNamed xs vs nm).or (if x = nm then v else none) := by
  simp only [lastNamed, List.zip_cons_cons, List.reverse_cons, List.findSome?_append, List.findSome?_cons,
    List.findSome?_nil]
  cases (if x = nm then v else none) <;> rfl

theorem lastNamed_nodup (names : List Nat) : ∀ (a : Slots) (i : Nat) (hi : i < names.length), names.Nodup →
    lastNamed names a names[i] = a.getD i none := by
  induction names with
  | nil => intro a i hi; cases hi
  | cons x xs ih =>
    intro a i hi hn
    rw [List.nodup_cons] at hn
    cases a with
    | nil => simp [lastNamed]
    | cons v vs =>
      rw [lastNamed_cons]
      cases i with
      | zero =>
        simp only [List.getElem_cons_zero, ↓reduceIte, List.getD_cons_zero]
        rw [lastNamed_absent xs vs x hn.1]
        rfl
      | succ j =>
        have hj : j < xs.length := by simpa using hi
        simp only [List.getElem_cons_succ, List.getD_cons_succ]
        rw [ih vs j hj hn.2]
        have hne : x ≠ xs[j] := fun e => hn.1 (e ▸ List.getElem_mem hj)
        simp only [hne, ↓reduceIte, Option.or_none]

theorem reloadByName_eq_of_nodup (names : List Nat) (a : Slots) (hn : names.Nodup) (ha : a.length ≤ names.length) :
    reloadByName names a = reloadBySlot names a := by
  rw [reloadBySlot_grow names a ha]
  apply List.ext_getElem
  · simp only [reloadByName, List.length_map, List.length_append, List.length_replicate]; omega
  · intro i h1 h2
    simp only [reloadByName, List.length_map] at h1
    simp only [reloadByName, List.getElem_map]
    rw [lastNamed_nodup names a i h1 hn]
    have := getD_append_none a (names.length - a.length) i
    rw [← this, List.getD_eq_getElem?_getD, List.getElem?_eq_getElem h2]
    rfl

theorem slotRun_byName_eq (h : List SPiece) : ∀ (names : List Nat) (a : Slots) (vs : List Int),
    a.length = names.length → scopedFrom names.length h = true → (names ++ allDecls h).Nodup →
    slotRun reloadByName names (a, vs) h = slotRun reloadBySlot names (a, vs) h := by
  induction h with
  | nil => intro names a vs _ _ _; rfl
  | cons p rest ih =>
    intro names a vs ha hs hn
    simp only [scopedFrom, Bool.and_eq_true] at hs
    rw [allDecls_cons, ← List.append_assoc] at hn
    have hn1 : (names ++ p.decls).Nodup := (List.nodup_append.mp hn).1
    have hnl : (names ++ p.decls).length = names.length + p.decls.length := List.length_append
    have hle : a.length ≤ (names ++ p.decls).length := by rw [hnl]; omega
    simp only [slotRun]
    rw [reloadByName_eq_of_nodup _ a hn1 hle]
    have hgrow := reloadBySlot_grow (names ++ p.decls) a hle
    have hlen1 : (reloadBySlot (names ++ p.decls) a).length = names.length + p.decls.length := by
      rw [hgrow, List.length_append, List.length_replicate, hnl]; omega
    have hsc : p.stmts.all (·.scoped (reloadBySlot (names ++ p.decls) a).length) = true := by rw [hlen1]; exact hs.1
    have hlen2 := (execS_pad p.stmts (reloadBySlot (names ++ p.decls) a) vs 0 hsc).2
    exact ih (names ++ p.decls) _ _ (hlen2.trans (hlen1.trans hnl.symm)) (by rw [hnl]; exact hs.2) hn

end Risor.C18
