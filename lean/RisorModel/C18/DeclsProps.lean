import RisorModel.C18.DeclsLemmas
/-!
C18, layer 9 — property theorems about DECLARATIONS across the pieces of a session (`Decls.lean`).

Every theorem quantifies over ALL tables (whatever the host and the earlier pieces defined), ALL pieces (any
statements in any order and number — in particular pieces of ONE statement) and ALL histories.
-/
namespace Risor.C18

/-- For every table `E` (the host's
    names and whatever the earlier pieces declared: functions, constants, variables), every input `p` — of one statement
    or of many — that contains `func n` anywhere, `n` defined in `E`: Compile refuses the input. -/
theorem redeclared_function_rejected (E : DEnv) (p : DPiece) (n : Nat) (v : Int) (refs : List Nat)
    (hm : DStmt.fn n v refs ∈ p) (hn : E.has n = true) : dCheck firstPassRuns p E = none := by
  simp only [dCheck, firstPassRuns, firstPassOnEveryInput, if_true, dPass1_redefined p E n v refs hm hn, Option.bind_none]

/-- the same for `n := v` and `const n = v` -/
theorem redeclared_name_rejected (E : DEnv) (p : DPiece) (n : Nat) (v : Int)
    (hm : DStmt.var n v ∈ p ∨ DStmt.const n v ∈ p) (hn : E.has n = true) : dCheck firstPassRuns p E = none := by
  simp only [dCheck, firstPassRuns, firstPassOnEveryInput, if_true]
  cases h1 : dPass1 p E with
  | none => rfl
  | some E1 => exact dPass2_redeclared p E1 n v hm (dPass1_mono p E E1 h1 n hn)

/-- a rejected piece changes nothing: table, globals, values -/
theorem rejected_declaration_changes_nothing (s : DSess) (p : DPiece) (h : dCheck firstPassRuns p s.env = none) :
    (dFeed firstPassRuns s p).env = s.env ∧ (dFeed firstPassRuns s p).run = s.run := by
  unfold dFeed; rw [h]; exact ⟨rfl, rfl⟩

/-- hence: in every session, a piece that declares (by `func`, `:=` or `const`) a name the table holds leaves the table,
    the globals — the constant or function of that name included — and the values as they were -/
theorem redeclaring_piece_has_no_effect (s : DSess) (p : DPiece) (n : Nat) (v : Int) (refs : List Nat)
    (hm : DStmt.fn n v refs ∈ p ∨ DStmt.var n v ∈ p ∨ DStmt.const n v ∈ p) (hn : s.env.has n = true) :
    (dFeed firstPassRuns s p).env = s.env ∧ (dFeed firstPassRuns s p).run = s.run ∧
    (dFeed firstPassRuns s p).acc = s.acc ++ [false] := by
  have h : dCheck firstPassRuns p s.env = none := by
    rcases hm with hm | hm
    · exact redeclared_function_rejected s.env p n v refs hm hn
    · exact redeclared_name_rejected s.env p n v hm hn
  unfold dFeed; rw [h]; exact ⟨rfl, rfl, rfl⟩

/-- running a program = running its pieces one after the other (any cut) -/
theorem dRun_append (a b : DPiece) (s : DRun) : dRun (a ++ b) s = dRun b (dRun a s) := by
  simp [dRun, List.foldl_append]

/-- For every
    host table `E0`, every program `A` that compiles at once (leaving the table `E1`) and every continuation `p`: the program
    `A ++ p` compiles at once exactly when `p` compiles against `E1`, and to the same table — although the fresh compiler
    pre-declares the functions of `p` BEFORE it compiles `A`. -/
theorem whole_append (A p : DPiece) (E0 E1 : DEnv) (h : dWhole A E0 = some E1) : dWhole (A ++ p) E0 = dWhole p E1 := by
  simp only [dWhole, dCheck, if_true] at h ⊢
  rw [dPass1_append]
  cases h1 : dPass1 A E0 with
  | none => rw [h1] at h; cases h
  | some Ea =>
    rw [h1] at h
    simp only [Option.bind_some] at h ⊢
    have key := comm_all A Ea E1 (dPass1_has_fns A E0 Ea h1) h p
    rw [← key]
    cases dPass1 p Ea with
    | none => rfl
    | some Eb => simp only [Option.bind_some]; exact dPass2_append A p Eb

/-- (lemma) the invariant between the session of the code and the Spec's program of accepted pieces -/
def DeclInv (E0 : DEnv) (s : DSess) (t : DSpecSt) : Prop :=
  dWhole t.prog E0 = some s.env ∧ s.run = dRun t.prog (fun _ => none, []) ∧ s.acc = t.acc

theorem declInv_step (E0 : DEnv) (s : DSess) (t : DSpecSt) (p : DPiece) (h : DeclInv E0 s t) :
    DeclInv E0 (dFeed firstPassRuns s p) (dSpecFeed E0 t p) := by
  obtain ⟨h1, h2, h3⟩ := h
  have hk : dWhole (t.prog ++ p) E0 = dCheck firstPassRuns p s.env := whole_append t.prog p E0 s.env h1
  unfold dFeed dSpecFeed
  rw [hk]
  cases hc : dCheck firstPassRuns p s.env with
  | none => exact ⟨h1, h2, by simp [h3]⟩
  | some E =>
    refine ⟨?_, ?_, by simp [h3]⟩
    · simp only [Option.isSome_some, if_true]; rw [hk, hc]
    · simp only [Option.isSome_some, if_true]; rw [dRun_append, h2]

theorem declInv_run (E0 : DEnv) (h : List DPiece) : ∀ (s : DSess) (t : DSpecSt), DeclInv E0 s t →
    DeclInv E0 (declRun firstPassRuns s h) (h.foldl (dSpecFeed E0) t) := by
  induction h with
  | nil => intro s t hi; exact hi
  | cons p rest ih => intro s t hi; exact ih _ _ (declInv_step E0 s t p hi)

/-- For every host table and every history of
    pieces (redeclarations by `func`, `:=`, `const` of functions, constants, variables, host names; forward references;
    pieces of one statement or many): every piece is accepted by the shared compiler EXACTLY when the program made of the
    accepted pieces before it followed by the piece compiles at once with a fresh compiler, and the session ends with the table,
    the globals and the values of that program compiled and run at once. -/
theorem decl_session_eq_spec (E0 : DEnv) (h : List DPiece) :
    (declImpl E0 h).acc = (declSpec E0 h).acc ∧ (declImpl E0 h).env = (declSpec E0 h).env ∧
    (declImpl E0 h).run = (declSpec E0 h).run := by
  have hi := declInv_run E0 h { env := E0 } {} ⟨rfl, rfl, rfl⟩
  obtain ⟨h1, h2, h3⟩ := hi
  refine ⟨h3, ?_, h2⟩
  show _ = (dWhole (declSpecSt E0 h).prog E0).getD E0
  unfold declSpecSt
  rw [h1]; rfl

/-! ### contrast: the first pass only for inputs of two or more statements (NOT the code) -/

/-- `const c = 5` / `func c() { return 7 }` / `try(c)` -/
def w_redeclared : List DPiece := [[.const 0 5], [.fn 0 7 []], [.use 0]]

/-- with the gated first pass the one-statement piece `func c` over the constant `c` is ACCEPTED and overwrites the constant
    (later pieces see 7), while the same declaration in a two-statement piece and in the whole program is rejected; the code
    as it is rejects all three and keeps 5, like the Spec -/
theorem gated_first_pass_depends_on_the_cut :
    (declRun gateLong { env := fun _ => none } w_redeclared).acc = [true, true, true] ∧
    (declRun gateLong { env := fun _ => none } w_redeclared).run.2 = [some 7] ∧
    (declRun gateLong { env := fun _ => none } [[.const 0 5], [.fn 0 7 [], .use 0]]).acc = [true, false] ∧
    (dWhole w_redeclared.flatten (fun _ => none)).isSome = false ∧
    (declImpl (fun _ => none) w_redeclared).acc = [true, false, true] ∧
    (declImpl (fun _ => none) w_redeclared).run.2 = [some 5] ∧
    (declSpec (fun _ => none) w_redeclared).acc = [true, false, true] ∧
    (declSpec (fun _ => none) w_redeclared).run.2 = [some 5] := by decide +kernel

/-! ### the hypotheses are satisfiable; the statements are not vacuous -/

/-- forward reference inside a piece, a function over a host name, a variable over a function, an accepted redefinition-free tail -/
def w_decls : List DPiece :=
  [[.fn 1 3 [2], .fn 2 4 []], [.fn 50 1 []], [.var 1 9], [.var 3 6, .set 3 8, .use 3, .use 1], [.set 1 0], [.use 4]]

example : (declImpl (hostEnv [50]) w_decls).acc = [true, false, false, true, false, false] ∧
    (declImpl (hostEnv [50]) w_decls).run.2 = [some 8, some 3] := by decide +kernel
example : (declSpec (hostEnv [50]) w_decls).acc = (declImpl (hostEnv [50]) w_decls).acc ∧
    (declSpec (hostEnv [50]) w_decls).run.2 = (declImpl (hostEnv [50]) w_decls).run.2 := by decide +kernel
example : dCheck firstPassRuns [.fn 0 7 []] (DEnv.ins (fun _ => none) 0 true) = none :=
  redeclared_function_rejected _ _ 0 7 [] (List.mem_singleton.mpr rfl) (by decide +kernel)

end Risor.C18
