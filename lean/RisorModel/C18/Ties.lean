import RisorModel.C18.Model
import RisorModel.C18.Tables
import RisorModel.C18.Decls
import RisorModel.Generated.C18
/-!
C18 ties: facts regenerated from /repo's sources on this run equal what the REPL state machine
in `Model.lean` is built on.
-/
namespace Risor.C18

/-- getEvaluator makes exactly the calls `Repl.feed` models, in that order: one compiler, Parse,
    Compile, one VM, Run, SetIP(InstructionCount) and TOS -/
theorem replProtocol_tie : Risor.Generated.C18.replCalls = replProtocol := rfl

/-- after a run-time error the REPL moves the ip to the end of the code (`Repl.feed`: `ip := code.length`) -/
theorem replSetsIP_tie : Risor.Generated.C18.replSetsIPAfterError = true := rfl

/-- (*VirtualMachine).Run resumes (resetState = false): the ip survives between pieces … -/
theorem runKeepsState_tie : Risor.Generated.C18.runResetsState = false := rfl

/-- … and the operand stack does NOT: on the resuming path runCodeInternal pops it empty before the
    entrypoint is activated (`Repl.feed` runs every piece from `[]`; repair of C18-stack-slot-per-piece) -/
theorem runStartsOnEmptyStack_tie : Risor.Generated.C18.runStartsOnEmptyStack = runStartsOnEmptyStack := rfl

/-- reloadCode gives the main code a fresh Globals slice and copies the old values into it by
    position — Go's `copy`, the model's `copyInto` in `reloadBySlot` (layer 7) and
    `reloadGens` (layer 4) -/
theorem reloadCopies_tie : Risor.Generated.C18.reloadCopiesGlobals = true := rfl

/-- … and forgets, before it wraps the main code afresh, every loaded code object whose `Root()` is the
    main code: no function of the main code keeps the old slice (`reloadKeeps = []`, layer 4 `BCtl.next`
    binds every function constant to the generation of the current run; repair of
    C18-function-globals-snapshot — if the loop is lost, this tie breaks and the sessions with functions
    called from later pieces are violations again) -/
theorem reloadDropsMainFunctions_tie :
    Risor.Generated.C18.reloadDropsMainFunctions = reloadDropsMainFunctions := rfl

/-- Compile rolls back on error (`Repl.feed`: a rejected piece leaves the machine as it was; repair of
    C18-rejected-piece-code-runs-later): the mark is taken first, every error return follows
    `c.main.rollback(mark)`, and rollback / truncate restore the instructions, constants, names, child codes,
    source, the symbols (with their names) and the child tables of the root symbol table -/
theorem compileRollsBack_tie :
    Risor.Generated.C18.compileRollsBackOnError = compileRollsBackOnError ∧
    Risor.Generated.C18.rollbackRestores = rollbackRestores ∧
    Risor.Generated.C18.truncateRestores = truncateRestores := ⟨rfl, rfl, rfl⟩

/-- layer 8 (`Tab.rollback`, `truncNames`): truncate deletes the name of a removed symbol only when the name's
    entry IS that symbol — a removed block symbol does not take the name of a live global with it
    (`rollback_restores_tables`; the contrast without the guard: `unguarded_truncate_forgets_a_global`) -/
theorem truncateDeleteGuarded_tie : Risor.Generated.C18.truncateDeleteGuarded = truncateDeleteGuarded := rfl

/-- the compiler's state, field by field, is the state `compilerStateReviewed` classifies (restored by the rollback /
    compile-only with a deferred reset / assigned afresh by every Compile call / never assigned after construction):
    a field added to Compiler, Code or SymbolTable — e.g. a table the compiler keeps NEXT to the code object, which
    Code.rollback cannot restore — must be reviewed and modelled before this tie holds again -/
theorem compilerState_tie : Risor.Generated.C18.compilerStateFields = compilerStateReviewed.map (·.1) := rfl

/-- compile-only state (layer 3, `Mark.restored`): `pipeActive`, `loops`, `symbols`,
    `pendingSwitchValues` and — since the repair of C18-compiler-stuck-in-function — `Compiler.current`
    are reset by a deferred function in every compile function that sets them -/
theorem compileOnlyRestores_tie : Risor.Generated.C18.compileOnlyRestores = compileOnlyRestores := rfl

/-- `start` clears the halt flag for every context (layer 5, `startClearsHalt`) -/
theorem startClearsHalt_tie : Risor.Generated.C18.startClearsHaltUnconditionally = haltClearedForEveryContext := rfl

/-- every Run loads — binds to its generation of the globals — every function constant of the main
    code (none is loaded after a reload: `reloadDropsMainFunctions_tie`; layer 4, `BCtl.next`) -/
theorem loadsFunctionConstants_tie : Risor.Generated.C18.loadsFunctionConstantsEveryRun = true := rfl

/-- the import cache (layer 6, `importCacheResetEveryRun = false`): `vm.modules` is replaced or cleared
    by `resetForNewCode` only, which is reached only under `resetState` — and `Run` passes
    `resetState = false` (`runKeepsState_tie`): no piece boundary touches the cache -/
theorem importCacheKept_tie :
    Risor.Generated.C18.importCacheReplacedBy = importCacheReplacedBy ∧
    Risor.Generated.C18.resetOnlyWhenResetState = true ∧
    importCacheResetEveryRun = Risor.Generated.C18.runResetsState := ⟨rfl, rfl, rfl⟩

/-- layer 9: compileMain calls collectFunctionDeclarations at the top level of its body and before `c.compile(node)` — on every
    input, also on a program of one statement: the first pass is the only place that refuses `func` over an existing name -/
theorem firstPassOnEveryInput_tie : Risor.Generated.C18.firstPassOnEveryInput = firstPassOnEveryInput := rfl

end Risor.C18
