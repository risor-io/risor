import RisorModel.Util
/-
C18, layer 8 — the TABLES of the main code under rollback.

The pieces of a session share ONE compiler.  Besides instructions, the main code object owns two
tables that every piece extends and that compiled code addresses BY INDEX:

  * `Code.constants` — every literal a piece mentions is appended (`Compiler.constant`) and loaded by
    its slot (`LoadConst k`);
  * the ROOT symbol table — `SymbolTable.symbols` (slot → symbol; every `:=` and every loop variable of
    the main code claims the next slot, ALSO inside top-level blocks: `claimIndex` of a block delegates
    to its parent) and `SymbolTable.symbolsByName` (name → symbol; only symbols declared at top level:
    a block's variables are named in the block's own table).

When a piece is rejected, `Compile` undoes what the piece added: `Code.rollback` cuts the constants
back to the mark and `SymbolTable.truncate` cuts `symbols` back and deletes the names of the removed
symbols from `symbolsByName` — a name is deleted only when its entry IS the removed symbol, because a
removed BLOCK symbol may carry the name of a live global declared by an earlier piece.

`Impl` is that mechanism (mark, compile up to the error, truncate); `Spec` is what the property
demands: a rejected piece leaves the compiler exactly as it was (a snapshot), and the pieces that were
accepted evaluate like their concatenation compiled at once.  Values are integers; names are numbers.
Core Lean only (linked into the oracle).
-/
namespace Risor.C18

/-! ### what the model assumes about the sources (tied by `Ties.lean`) -/

/-- `(*SymbolTable).truncate` deletes the name of a removed symbol only under
    `if t.symbolsByName[s.name] == s` -/
def truncateDeleteGuarded : Bool := true

/-- every field of the compiler's three state-carrying structs, with what happens to it when a piece is
    rejected.  `rollback`: restored by Code.rollback / SymbolTable.truncate (`rollbackRestores` in `Model.lean`);
    `compile-only`: reset by a deferred function of the compile function that sets it (layer 3);
    `per-call`: assigned afresh by every Compile call before it is read; `fixed`: never assigned after
    construction; `root-unused`: only written for tables/codes of FUNCTIONS (the root table has no free
    variables), which a rejected piece's rollback removes as a whole (`c.children`, `t.children`) -/
def compilerStateReviewed : List (String × String) :=
  [("Code.children", "rollback"), ("Code.constants", "rollback"), ("Code.filename", "per-call"),
   ("Code.functionID", "fixed"), ("Code.id", "fixed"), ("Code.instructions", "rollback"),
   ("Code.isNamed", "fixed"), ("Code.loops", "compile-only"), ("Code.name", "fixed"),
   ("Code.names", "rollback"), ("Code.parent", "fixed"), ("Code.pipeActive", "compile-only"),
   ("Code.source", "rollback"), ("Code.symbols", "compile-only"),
   ("Compiler.current", "compile-only"), ("Compiler.failure", "per-call"), ("Compiler.filename", "fixed"),
   ("Compiler.funcIndex", "rollback"), ("Compiler.globalNames", "fixed"), ("Compiler.main", "fixed"),
   ("SymbolTable.children", "rollback"), ("SymbolTable.free", "root-unused"),
   ("SymbolTable.freeByName", "root-unused"), ("SymbolTable.id", "fixed"), ("SymbolTable.isBlock", "fixed"),
   ("SymbolTable.parent", "fixed"), ("SymbolTable.symbols", "rollback"),
   ("SymbolTable.symbolsByName", "rollback")]

/-! ### source and compiled forms -/

inductive KExpr where
  | lit (v : Int)          -- a literal: appended to Code.constants, loaded by its slot
  | root (n : Nat)         -- an identifier that resolves through the names of the ROOT table
  | blk (j : Nat)          -- an identifier that resolves to the j-th block variable declared so far by this top-level statement
  | add (a b : KExpr)
  deriving Repr, DecidableEq, Inhabited

inductive KStmt where
  | declRoot (n : Nat) (e : KExpr)   -- `n := e` at top level: claims a slot AND enters the name into the root table
  | declBlk (n : Nat) (e : KExpr)    -- `n := e` / a loop variable inside a top-level block: claims a slot of the root table, named in the block only
  | setRoot (n : Nat) (e : KExpr)    -- `n = e`, the name resolving through the root table
  | setBlk (j : Nat) (e : KExpr)     -- `n = e`, the name resolving to a block variable
  | expr (e : KExpr)
  | bad                              -- anything else the compiler rejects (constant reassignment, `break` outside a loop, …)
  deriving Repr, DecidableEq, Inhabited

/-- one statement as the compiler meets it; `live = false`: it sits in a branch that is compiled but not executed -/
structure KLine where
  stmt : KStmt
  live : Bool := true
  deriving Repr, DecidableEq, Inhabited

/-- a top-level statement (block variables are numbered per top-level statement) -/
abbrev KTop := List KLine
/-- a piece: top-level statements -/
abbrev KPiece := List KTop

inductive RExpr where
  | ldc (k : Nat)          -- LoadConst k
  | ldg (i : Nat)          -- LoadGlobal i
  | add (a b : RExpr)
  deriving Repr, DecidableEq, Inhabited

inductive RStmt where
  | stg (i : Nat) (e : RExpr)        -- … StoreGlobal i
  | expr (e : RExpr)
  deriving Repr, DecidableEq, Inhabited

/-- the tables of the main code -/
structure Tab where
  consts : List Int := []                        -- Code.constants
  syms   : List Nat := []                        -- root SymbolTable.symbols: slot i is called syms[i]
  byName : Nat → Option Nat := fun _ => none     -- root SymbolTable.symbolsByName (a symbol is identified by its slot)

/-! ### the compiler -/

/-- compile an expression: `none` = a compile error (the table is returned as it is at that point) -/
def KExpr.comp (blks : List Nat) : KExpr → Tab → Tab × Option RExpr
  | .lit v, T => ({ T with consts := T.consts ++ [v] }, some (.ldc T.consts.length))
  | .root n, T => (T, (T.byName n).map .ldg)
  | .blk j, T => (T, (blks[j]?).map .ldg)
  | .add a b, T =>
    match a.comp blks T with
    | (T1, some ra) =>
      match b.comp blks T1 with
      | (T2, some rb) => (T2, some (.add ra rb))
      | (T2, none) => (T2, none)
    | (T1, none) => (T1, none)

/-- the compiler in the middle of a piece -/
structure CSt where
  tab  : Tab
  blks : List Nat := []          -- slots of the block variables of the current top-level statement
  code : List RStmt := []        -- what the piece has emitted (live statements only)
  ok   : Bool := true

def CSt.emit (c : CSt) (live : Bool) (T : Tab) (r : RStmt) : CSt :=
  { c with tab := T, code := if live then c.code ++ [r] else c.code }

def CSt.fail (c : CSt) (T : Tab) : CSt := { c with tab := T, ok := false }

/-- one statement: compileVar (right-hand side first, then InsertVariable → claimIndex), compileAssign (Resolve first),
    compileIdent.  After an error nothing more is compiled. -/
def KLine.comp (l : KLine) (c : CSt) : CSt :=
  if !c.ok then c else
  match l.stmt with
  | .declRoot n e =>
    match e.comp c.blks c.tab with
    | (T1, some r) =>
      match T1.byName n with
      | some _ => c.fail T1                                  -- InsertVariable: the variable already exists
      | none =>
        let i := T1.syms.length
        c.emit l.live { T1 with syms := T1.syms ++ [n], byName := fun k => if k = n then some i else T1.byName k } (.stg i r)
    | (T1, none) => c.fail T1
  | .declBlk n e =>
    match e.comp c.blks c.tab with
    | (T1, some r) =>
      let i := T1.syms.length
      { c.emit l.live { T1 with syms := T1.syms ++ [n] } (.stg i r) with blks := c.blks ++ [i] }
    | (T1, none) => c.fail T1
  | .setRoot n e =>
    match c.tab.byName n with
    | none => c.fail c.tab                                   -- undefined variable
    | some i =>
      match e.comp c.blks c.tab with
      | (T1, some r) => c.emit l.live T1 (.stg i r)
      | (T1, none) => c.fail T1
  | .setBlk j e =>
    match c.blks[j]? with
    | none => c.fail c.tab
    | some i =>
      match e.comp c.blks c.tab with
      | (T1, some r) => c.emit l.live T1 (.stg i r)
      | (T1, none) => c.fail T1
  | .expr e =>
    match e.comp c.blks c.tab with
    | (T1, some r) => c.emit l.live T1 (.expr r)
    | (T1, none) => c.fail T1
  | .bad => c.fail c.tab

def compLines (t : List KLine) (c : CSt) : CSt := t.foldl (fun c l => l.comp c) c

/-- a top-level statement: its blocks' tables are new, and gone when it ends -/
def compTop (t : KTop) (c : CSt) : CSt := { compLines t { c with blks := [] } with blks := [] }

def compTops (p : List KTop) (c : CSt) : CSt := p.foldl (fun c t => compTop t c) c

/-- compileMain on one piece, from table `T` -/
def compPiece (p : KPiece) (T : Tab) : CSt := compTops p { tab := T }

/-! ### rollback -/

def delName (f : Nat → Option Nat) (n : Nat) : Nat → Option Nat := fun k => if k = n then none else f k

/-- the loop of `truncate` over the removed symbols (slot `i`, `i+1`, … with their names): with the guard
    (`g = true`, the code as it is) a name is deleted only when its entry is the removed symbol -/
def truncNames (g : Bool) (f : Nat → Option Nat) : Nat → List Nat → (Nat → Option Nat)
  | _, [] => f
  | i, n :: rest => truncNames g (if !g || f n == some i then delName f n else f) (i + 1) rest

/-- Code.rollback to the mark (number of constants, number of symbols) -/
def Tab.rollback (g : Bool) (cm sm : Nat) (T : Tab) : Tab :=
  { consts := T.consts.take cm, syms := T.syms.take sm, byName := truncNames g T.byName sm (T.syms.drop sm) }

/-! ### the VM -/

/-- the Globals array: slot → value (`none` = never stored) -/
abbrev KGlob := Nat → Option Int

def RExpr.eval (pool : List Int) (G : KGlob) : RExpr → Int
  | .ldc k => pool.getD k 0
  | .ldg i => (G i).getD 0
  | .add a b => a.eval pool G + b.eval pool G

/-- state of a run: the array and the values of the expression statements so far -/
abbrev KRun := KGlob × List Int

def RStmt.exec (pool : List Int) : RStmt → KRun → KRun
  | .stg i e, (G, vs) => (fun k => if k = i then some (e.eval pool G) else G k, vs)
  | .expr e, (G, vs) => (G, vs ++ [e.eval pool G])

def execR (pool : List Int) (code : List RStmt) (s : KRun) : KRun := code.foldl (fun s t => t.exec pool s) s

/-! ### sessions -/

structure KSess where
  tab  : Tab := {}
  run  : KRun := (fun _ => none, [])
  acc  : List Bool := []           -- per piece: accepted?

/-- Impl: mark, compile; on an error roll back to the mark (`g`: is the deletion of names guarded?), else run the
    piece's code against the constants as they are now -/
def tabFeed (g : Bool) (s : KSess) (p : KPiece) : KSess :=
  let c := compPiece p s.tab
  if c.ok then { tab := c.tab, run := execR c.tab.consts c.code s.run, acc := s.acc ++ [true] }
  else { s with tab := c.tab.rollback g s.tab.consts.length s.tab.syms.length, acc := s.acc ++ [false] }

def tabRun (g : Bool) (s : KSess) (h : List KPiece) : KSess := h.foldl (tabFeed g) s

/-- the session as the code runs it -/
def tabImpl (s : KSess) (h : List KPiece) : KSess := tabRun truncateDeleteGuarded s h

/-- Spec, piece by piece: a rejected piece leaves the compiler EXACTLY as it was -/
def tabSpecFeed (s : KSess) (p : KPiece) : KSess :=
  let c := compPiece p s.tab
  if c.ok then { tab := c.tab, run := execR c.tab.consts c.code s.run, acc := s.acc ++ [true] }
  else { s with acc := s.acc ++ [false] }

def tabSpec (s : KSess) (h : List KPiece) : KSess := h.foldl tabSpecFeed s

/-- the pieces of a history that are accepted when each is offered to a compiler that has seen only the
    accepted ones before it -/
def acceptedOf : Tab → List KPiece → List KPiece
  | _, [] => []
  | T, p :: rest =>
    let c := compPiece p T
    if c.ok then p :: acceptedOf c.tab rest else acceptedOf T rest

/-- Spec, whole program: the accepted pieces concatenated, compiled at once, run at once -/
def tabWhole (T : Tab) (r : KRun) (h : List KPiece) : CSt × KRun :=
  let c := compPiece (acceptedOf T h).flatten T
  (c, execR c.tab.consts c.code r)

/-! ### what a literal and a name MEAN (source level) -/

/-- the value of an expression in the scope it is compiled in: a literal denotes itself, a name the value
    of the slot it stands for -/
def KExpr.val (T : Tab) (blks : List Nat) (G : KGlob) : KExpr → Int
  | .lit v => v
  | .root n => ((T.byName n).bind G).getD 0
  | .blk j => ((blks[j]?).bind G).getD 0
  | .add a b => a.val T blks G + b.val T blks G

/-! ### well-formedness of the root table -/

/-- every name of the table stands for a slot that exists and is called so -/
def Tab.Wf (T : Tab) : Prop := ∀ n i, T.byName n = some i → i < T.syms.length ∧ T.syms[i]? = some n

/-! ### observations (for the oracle and for the witnesses of `TablesProps`) -/

def RExpr.scoped (n : Nat) : RExpr → Bool
  | .ldc k => k < n
  | .ldg _ => true
  | .add a b => a.scoped n && b.scoped n

def RStmt.scoped (n : Nat) : RStmt → Bool
  | .stg _ e => e.scoped n
  | .expr e => e.scoped n

/-- vm.Get: the FIRST slot with that name -/
def getK (T : Tab) (G : KGlob) (nm : Nat) : Option Int :=
  match T.syms.idxOf? nm with
  | some i => G i
  | none => none

end Risor.C18
