import RisorModel.C18.TablesLemmas
/-!
C18, layer 8 — property theorems about the tables of the main code (constants, root symbol table) that the
pieces of a session share, and about the rollback of a rejected piece (`Tables.lean`).

Every theorem quantifies over ALL tables (well-formed where a rollback is involved: `Tab.Wf`, which holds of the
empty table and is preserved by every compilation — `compiled_table_wf`), ALL pieces (any statements, block
variables with any names — in particular names of live globals —, literals of any value, the compile error
anywhere) and ALL histories.
-/
namespace Risor.C18

theorem empty_table_wf : ({} : Tab).Wf := by intro n i h; cases h

/-- whatever a piece does — accepted or rejected, stopped at any statement — the table stays well-formed -/
theorem compiled_table_wf (T : Tab) (hw : T.Wf) (p : KPiece) : (compPiece p T).tab.Wf :=
  (compPiece_ext p T).wf hw

/-- For every well-formed table `T` and every piece `p` (accepted or rejected;
    if rejected, at whichever statement, after whichever literals, top-level declarations and block variables —
    also block variables called like a live global): cutting the tables the compilation stopped in back to the
    mark taken on `T` gives exactly `T`: the constants, the symbols and the names. -/
theorem rollback_restores_tables (T : Tab) (hw : T.Wf) (p : KPiece) :
    (compPiece p T).tab.rollback true T.consts.length T.syms.length = T :=
  (compPiece_ext p T).rollback hw

/-- a rejected piece leaves the session of the code as it is EXACTLY as it was: the tables (so every later piece is
    compiled as if the rejected piece had never been offered), the globals and the values -/
theorem rejected_piece_leaves_tables (s : KSess) (hw : s.tab.Wf) (p : KPiece) (hrej : (compPiece p s.tab).ok = false) :
    (tabFeed truncateDeleteGuarded s p).tab = s.tab ∧ (tabFeed truncateDeleteGuarded s p).run = s.run := by
  show (tabFeed true s p).tab = s.tab ∧ (tabFeed true s p).run = s.run
  unfold tabFeed
  simp only [hrej, Bool.false_eq_true, if_false]
  exact ⟨rollback_restores_tables s.tab hw p, trivial⟩

/-- For every history of pieces (rejected ones anywhere) from every
    well-formed state: mark / compile / truncate-on-error ends in the same tables, globals, values and accept flags
    as the session in which a rejected piece is simply not there (the compiler restored from a snapshot). -/
theorem tab_session_eq_spec (h : List KPiece) : ∀ s : KSess, s.tab.Wf → tabImpl s h = tabSpec s h := by
  show ∀ s : KSess, s.tab.Wf → tabRun true s h = tabSpec s h
  induction h with
  | nil => intro s _; rfl
  | cons p rest ih =>
    intro s hw
    have hfeed : tabFeed true s p = tabSpecFeed s p := by
      simp only [tabFeed, tabSpecFeed]
      split
      · rfl
      · rw [rollback_restores_tables s.tab hw p]
    have hw1 : (tabSpecFeed s p).tab.Wf := by
      simp only [tabSpecFeed]
      split
      · exact compiled_table_wf s.tab hw p
      · exact hw
    simp only [tabRun, tabSpec, List.foldl_cons]
    rw [hfeed]
    exact ih _ hw1

/-- the code an accepted (or partly compiled) piece has emitted loads only constants that EXIST in the table when
    the compilation ends: for every table and piece -/
theorem emitted_constants_exist (T : Tab) (p : KPiece) :
    (compPiece p T).code.all (·.scoped (compPiece p T).tab.consts.length) = true :=
  compPiece_scoped p T

/-- the value of an expression depends on the table through its names only -/
theorem KExpr.val_congr {T T1 : Tab} (h : T1.byName = T.byName) (blks : List Nat) (G : KGlob) (e : KExpr) :
    e.val T1 blks G = e.val T blks G := by
  induction e with
  | lit v => rfl
  | root n => simp only [KExpr.val, h]
  | blk j => rfl
  | add x y ihx ihy => simp only [KExpr.val, ihx, ihy]

/-- For every expression the compiler accepts in table `T`: evaluated against the
    constants as they are when its compilation ends, OR ANY LATER EXTENSION of them (`more`: whatever later
    statements and pieces append), the compiled form yields the source-level value — every literal its own value,
    every name the value of the slot it stands for. -/
theorem literal_denotes_itself (blks : List Nat) (e : KExpr) : ∀ (T T' : Tab) (r : RExpr) (more : List Int) (G : KGlob),
    e.comp blks T = (T', some r) → r.eval (T'.consts ++ more) G = e.val T blks G := by
  induction e with
  | lit v =>
    intro T T' r more G h
    cases h
    simp [RExpr.eval, KExpr.val, List.getD_eq_getElem?_getD]
  | root n =>
    intro T T' r more G h
    obtain ⟨i, hb, rfl⟩ := Option.map_eq_some_iff.1 (Prod.mk.inj h).2
    simp [RExpr.eval, KExpr.val, hb]
  | blk j =>
    intro T T' r more G h
    obtain ⟨i, hb, rfl⟩ := Option.map_eq_some_iff.1 (Prod.mk.inj h).2
    simp [RExpr.eval, KExpr.val, hb]
  | add a b iha ihb =>
    intro T T' r more G h
    obtain ⟨T1, ra, rb, ha, hb, rfl⟩ := KExpr.comp_add_some h
    -- the second summand only appends constants (`eb`) to the table the first left, and keeps its names
    obtain ⟨eb, heb⟩ := KExpr.comp_tab blks b T1
    have hn1 := (KExpr.comp_syms blks a T).2
    rw [hb] at heb
    rw [ha] at hn1
    change T' = _ at heb
    subst heb
    have hva := iha T T1 ra (eb ++ more) G ha
    rw [← List.append_assoc] at hva
    simp only [RExpr.eval, KExpr.val, hva, ihb T1 _ rb more G hb, KExpr.val_congr hn1]

/-- For every history from every state: the pieces one by one — a rejected
    piece dropped, each accepted piece compiled into the shared tables and run against the constants as they are
    at that moment — end in the same tables, the same Globals array and the same values as the accepted pieces
    CONCATENATED, compiled at once and run at once against the final constants; and the concatenation is accepted. -/
theorem tab_pieces_eq_whole (h : List KPiece) : ∀ s : KSess,
    (tabSpec s h).run = (tabWhole s.tab s.run h).2 ∧
    (tabSpec s h).tab = (tabWhole s.tab s.run h).1.tab ∧
    (tabWhole s.tab s.run h).1.ok = true := by
  induction h with
  | nil => intro s; exact ⟨rfl, rfl, rfl⟩
  | cons p rest ih =>
    intro s
    by_cases hok : (compPiece p s.tab).ok = true
    · have hfeed : tabSpecFeed s p = KSess.mk (compPiece p s.tab).tab
          (execR (compPiece p s.tab).tab.consts (compPiece p s.tab).code s.run) (s.acc ++ [true]) := by
        unfold tabSpecFeed; simp only [hok, if_true]
      have hacc : acceptedOf s.tab (p :: rest) = p :: acceptedOf (compPiece p s.tab).tab rest := by
        simp only [acceptedOf, hok, if_true]
      obtain ⟨i1, i2, i3⟩ := ih (tabSpecFeed s p)
      rw [hfeed] at i1 i2 i3
      simp only at i1 i2 i3
      have happ := compPiece_append p (acceptedOf (compPiece p s.tab).tab rest).flatten s.tab hok
      obtain ⟨more, hmore⟩ := (compPiece_ext (acceptedOf (compPiece p s.tab).tab rest).flatten (compPiece p s.tab).tab).consts
      simp only [tabSpec, List.foldl_cons] at i1 i2 ⊢
      rw [hfeed]
      simp only [tabWhole] at i1 i2 i3 ⊢
      rw [hacc, List.flatten_cons, happ]
      refine ⟨?_, i2, i3⟩
      rw [i1]
      have e1 : ∀ (pre : List RStmt) (c : CSt), (CSt.withPre pre c).tab = c.tab := fun _ _ => rfl
      have e2 : ∀ (pre : List RStmt) (c : CSt), (CSt.withPre pre c).code = pre ++ c.code := fun _ _ => rfl
      rw [e1, e2, execR_append, hmore, execR_pool _ _ more s.run (compPiece_scoped p s.tab)]
    · have hfeed : tabSpecFeed s p = { s with acc := s.acc ++ [false] } := by
        unfold tabSpecFeed; simp only [hok, Bool.false_eq_true, if_false]
      have hacc : acceptedOf s.tab (p :: rest) = acceptedOf s.tab rest := by
        simp only [acceptedOf, hok, Bool.false_eq_true, if_false]
      have := ih { s with acc := s.acc ++ [false] }
      simp only [tabSpec, List.foldl_cons, tabWhole] at this ⊢
      rw [hfeed, hacc]
      exact this

/-- the session of the code as it is, against the whole program (both steps together): from every well-formed
    state, every history -/
theorem tab_session_eq_whole (h : List KPiece) (s : KSess) (hw : s.tab.Wf) :
    (tabImpl s h).run = (tabWhole s.tab s.run h).2 ∧ (tabImpl s h).tab = (tabWhole s.tab s.run h).1.tab := by
  rw [tab_session_eq_spec h s hw]
  exact ⟨(tab_pieces_eq_whole h s).1, (tab_pieces_eq_whole h s).2.1⟩

/-! ### contrast: truncate WITHOUT the identity guard (not the code) -/

/-- `za := 5` / `if c { za := 0; no_such_name }` (rejected) / `za` -/
def w_block_shadow : List KPiece :=
  [[[⟨.declRoot 0 (.lit 5), true⟩]],
   [[⟨.declBlk 0 (.lit 0), true⟩, ⟨.bad, true⟩]],
   [[⟨.expr (.root 0), true⟩]]]

/-- deleting the name of every removed symbol (no `== s` guard) makes the rollback of a rejected piece whose BLOCK
    declares a variable called like a live global delete the global's name: the later piece that mentions it is
    rejected, while the code as it is accepts it and yields 5, like the whole program -/
theorem unguarded_truncate_forgets_a_global :
    (tabRun false {} w_block_shadow).acc = [true, false, false] ∧ (tabRun false {} w_block_shadow).run.2 = [] ∧
    (tabImpl {} w_block_shadow).acc = [true, false, true] ∧ (tabImpl {} w_block_shadow).run.2 = [5] ∧
    (tabWhole {} (fun _ => none, []) w_block_shadow).2.2 = [5] := by decide +kernel

/-- … and a later `za := 7` is then accepted as a FRESH declaration into a second slot, while vm.Get(za) keeps
    answering from the first -/
theorem unguarded_truncate_redeclares :
    let h := [[[⟨.declRoot 0 (.lit 5), true⟩]], [[⟨.declBlk 0 (.lit 0), true⟩, ⟨.bad, true⟩]], [[⟨.declRoot 0 (.lit 7), true⟩]]]
    (tabRun false {} h).acc = [true, false, true] ∧ (tabRun false {} h).tab.syms = [0, 0] ∧
    getK (tabRun false {} h).tab (tabRun false {} h).run.1 0 = some 5 ∧
    (tabImpl {} h).acc = [true, false, false] ∧ (tabImpl {} h).tab.syms = [0] := by decide +kernel

/-! ### the hypotheses are satisfiable; the statements are not vacuous -/

/-- a history with a rejected piece that mentions a new literal and shadows two globals in a block, then pieces that
    use the same literal and the globals -/
def w_tables : List KPiece :=
  [[[⟨.declRoot 0 (.lit 5), true⟩], [⟨.declRoot 1 (.add (.root 0) (.lit 41)), true⟩]],
   [[⟨.declBlk 0 (.lit 41), true⟩, ⟨.declBlk 1 (.blk 0), true⟩, ⟨.expr (.root 9), true⟩]],
   [[⟨.declBlk 1 (.lit 7), true⟩, ⟨.setRoot 0 (.add (.blk 0) (.lit 41)), true⟩, ⟨.declBlk 0 (.lit 1), false⟩]],
   [[⟨.expr (.add (.root 0) (.root 1)), true⟩]]]

example : (tabImpl {} w_tables).acc = [true, false, true, true] ∧ (tabImpl {} w_tables).run.2 = [94] ∧
    (tabImpl {} w_tables).tab.syms = [0, 1, 1, 0] ∧ (tabImpl {} w_tables).tab.consts = [5, 41, 7, 41, 1] := by decide +kernel
example : (tabImpl {} w_tables).run.2 = (tabWhole {} (fun _ => none, []) w_tables).2.2 :=
  congrArg Prod.snd (tab_session_eq_whole w_tables {} empty_table_wf).1
example : (acceptedOf {} w_tables).length = 3 := by decide +kernel

end Risor.C18
