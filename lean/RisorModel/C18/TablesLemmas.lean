import RisorModel.C18.Tables
/-! Helper lemmas of layer 8 (the tables of the main code under rollback). -/
namespace Risor.C18

/-! ### the loop of truncate -/

/-- one round of the guarded loop: the name `n` loses its entry exactly when it is the removed symbol's name and
    its entry is that symbol -/
theorem truncStep_apply (f : Nat → Option Nat) (m i n : Nat) :
    (if (!true || f m == some i) = true then delName f m else f) n = if m = n ∧ f n = some i then none else f n := by
  by_cases hmn : m = n
  · subst hmn
    by_cases hf : f m = some i <;> simp [hf, delName]
  · by_cases hf : f m = some i <;> simp [hf, hmn, delName, Ne.symm hmn]

/-- a name none of whose removed symbols is the name's entry keeps its entry -/
theorem truncNames_keep (names : List Nat) : ∀ (f : Nat → Option Nat) (i n : Nat),
    (∀ k, names[k]? = some n → f n ≠ some (i + k)) → truncNames true f i names n = f n := by
  induction names with
  | nil => intro f i n _; rfl
  | cons m rest ih =>
    intro f i n h
    have h0 : ¬ (m = n ∧ f n = some i) := fun ⟨e, hf⟩ => h 0 (by simp [e]) hf
    rw [truncNames, ih _ (i + 1) n ?_, truncStep_apply, if_neg h0]
    intro k hk
    rw [truncStep_apply, if_neg h0, Nat.add_assoc, Nat.add_comm 1 k]
    exact h (k + 1) (by simpa using hk)

/-- a name whose entry is one of the removed symbols loses it -/
theorem truncNames_del (names : List Nat) : ∀ (f : Nat → Option Nat) (i k n : Nat),
    names[k]? = some n → f n = some (i + k) → truncNames true f i names n = none := by
  induction names with
  | nil => intro f i k n h; simp at h
  | cons m rest ih =>
    intro f i k n hk hf
    rw [truncNames]
    cases k with
    | zero =>
      cases (by simpa using hk : m = n)
      have hdel : (if (!true || f m == some i) = true then delName f m else f) m = none := by
        rw [truncStep_apply, if_pos ⟨rfl, hf⟩]
      rw [truncNames_keep rest _ (i + 1) m (fun k _ => by rw [hdel]; exact nofun), hdel]
    | succ k' =>
      have h0 : ¬ (m = n ∧ f n = some i) := fun ⟨_, e⟩ => by
        rw [hf, Option.some.injEq] at e; omega
      exact ih _ (i + 1) k' n (by simpa using hk) (by rw [truncStep_apply, if_neg h0, hf]; congr 1; omega)
/-! ### what compilation does to the tables -/

/-- `T'` is `T` after some compilation: constants and symbols appended, names only ADDED, every added name
    standing for an added symbol that is called so -/
structure Ext (T T' : Tab) : Prop where
  consts : ∃ ec, T'.consts = T.consts ++ ec
  syms   : ∃ es, T'.syms = T.syms ++ es
  names  : ∀ n, T'.byName n = T.byName n ∨
            (T.byName n = none ∧ ∃ i, T'.byName n = some i ∧ T.syms.length ≤ i ∧ T'.syms[i]? = some n)

theorem Ext.refl (T : Tab) : Ext T T := ⟨⟨[], by simp⟩, ⟨[], by simp⟩, fun _ => Or.inl rfl⟩

theorem Ext.addConsts {T T1 : Tab} (h : Ext T T1) (ec : List Int) : Ext T { T1 with consts := T1.consts ++ ec } := by
  obtain ⟨⟨e0, h0⟩, hs, hn⟩ := h
  exact ⟨⟨e0 ++ ec, by simp [h0]⟩, hs, hn⟩

/-- a block variable claims a slot -/
theorem Ext.claim {T T1 : Tab} (h : Ext T T1) (n : Nat) : Ext T { T1 with syms := T1.syms ++ [n] } := by
  obtain ⟨hc, ⟨es, hs⟩, hn⟩ := h
  refine ⟨hc, ⟨es ++ [n], by simp [hs]⟩, fun k => ?_⟩
  rcases hn k with h1 | ⟨h1, i, h2, h3, h4⟩
  · exact Or.inl h1
  · refine Or.inr ⟨h1, i, h2, h3, ?_⟩
    show (T1.syms ++ [n])[i]? = some k
    rw [List.getElem?_append_left (List.getElem?_eq_some_iff.1 h4).1]
    exact h4

/-- a top-level declaration claims a slot and enters its name -/
theorem Ext.declare {T T1 : Tab} (h : Ext T T1) (n : Nat) (hfree : T1.byName n = none) :
    Ext T { T1 with syms := T1.syms ++ [n], byName := fun k => if k = n then some T1.syms.length else T1.byName k } := by
  have hcl := h.claim n
  obtain ⟨hc, ⟨es, hs⟩, hn⟩ := h
  refine ⟨hc, ⟨es ++ [n], by simp [hs]⟩, fun k => ?_⟩
  by_cases hk : k = n
  · subst hk
    have hT : T.byName k = none := by
      rcases hn k with h1 | ⟨h1, _⟩
      · rw [← h1]; exact hfree
      · exact h1
    refine Or.inr ⟨hT, T1.syms.length, by simp, ?_, ?_⟩
    · rw [hs]; simp
    · show (T1.syms ++ [k])[T1.syms.length]? = some k
      simp
  · rcases hcl.names k with h1 | ⟨h1, i, h2, h3, h4⟩
    · exact Or.inl (by simpa [hk] using h1)
    · exact Or.inr ⟨h1, i, by simpa [hk] using h2, h3, h4⟩

/-- compiling an expression only appends constants -/
theorem KExpr.comp_tab (blks : List Nat) (e : KExpr) : ∀ T : Tab,
    ∃ ec, (e.comp blks T).1 = { T with consts := T.consts ++ ec } := by
  induction e with
  | lit v => intro T; exact ⟨[v], rfl⟩
  | root n => intro T; exact ⟨[], by simp [KExpr.comp]⟩
  | blk j => intro T; exact ⟨[], by simp [KExpr.comp]⟩
  | add a b iha ihb =>
    intro T
    obtain ⟨ea, ha⟩ := iha T
    simp only [KExpr.comp]
    cases hca : a.comp blks T with
    | mk T1 ra =>
      rw [hca] at ha
      simp only at ha
      cases ra with
      | none => exact ⟨ea, ha⟩
      | some ra =>
        obtain ⟨eb, hb⟩ := ihb T1
        dsimp only
        cases hcb : b.comp blks T1 with
        | mk T2 rb =>
          rw [hcb] at hb
          simp only at hb
          have : T2 = { T with consts := T.consts ++ (ea ++ eb) } := by
            rw [hb, ha]; simp [List.append_assoc]
          cases rb <;> exact ⟨ea ++ eb, this⟩

theorem KExpr.comp_ext {T T0 : Tab} (h : Ext T T0) (blks : List Nat) (e : KExpr) : Ext T (e.comp blks T0).1 := by
  obtain ⟨ec, hec⟩ := KExpr.comp_tab blks e T0
  rw [hec]; exact h.addConsts ec

theorem KExpr.comp_syms (blks : List Nat) (e : KExpr) (T : Tab) :
    (e.comp blks T).1.syms = T.syms ∧ (e.comp blks T).1.byName = T.byName := by
  obtain ⟨ec, hec⟩ := KExpr.comp_tab blks e T
  rw [hec]; exact ⟨rfl, rfl⟩

theorem RExpr.scoped_mono (e : RExpr) (n m : Nat) (hnm : n ≤ m) (h : e.scoped n = true) : e.scoped m = true := by
  induction e with
  | ldc k => simp [RExpr.scoped] at h ⊢; omega
  | ldg i => rfl
  | add a b iha ihb =>
    simp only [RExpr.scoped, Bool.and_eq_true] at h ⊢
    exact ⟨iha h.1, ihb h.2⟩

theorem RStmt.scoped_mono (t : RStmt) (n m : Nat) (hnm : n ≤ m) (h : t.scoped n = true) : t.scoped m = true := by
  cases t <;> exact RExpr.scoped_mono _ n m hnm h

theorem KExpr.comp_len (blks : List Nat) (e : KExpr) (T : Tab) : T.consts.length ≤ (e.comp blks T).1.consts.length := by
  obtain ⟨ec, hec⟩ := KExpr.comp_tab blks e T
  rw [hec]; simp

/-- a sum is accepted when both summands are, the second in the table the first left -/
theorem KExpr.comp_add_some {blks : List Nat} {a b : KExpr} {T T' : Tab} {r : RExpr}
    (h : (KExpr.add a b).comp blks T = (T', some r)) :
    ∃ T1 ra rb, a.comp blks T = (T1, some ra) ∧ b.comp blks T1 = (T', some rb) ∧ r = .add ra rb := by
  dsimp only [KExpr.comp] at h
  rcases ha : a.comp blks T with ⟨T1, _ | ra⟩
  · rw [ha] at h; cases h
  · rw [ha] at h
    dsimp only at h
    rcases hb : b.comp blks T1 with ⟨T2, _ | rb⟩
    · rw [hb] at h; cases h
    · rw [hb] at h; cases h; exact ⟨T1, ra, rb, rfl, hb, rfl⟩

/-- an accepted expression loads only constants that are in the table when its compilation ends -/
theorem KExpr.comp_scoped (blks : List Nat) (e : KExpr) : ∀ (T T' : Tab) (r : RExpr),
    e.comp blks T = (T', some r) → r.scoped T'.consts.length = true := by
  induction e with
  | lit v => intro T T' r h; cases h; simp [RExpr.scoped]
  | root n =>
    intro T T' r h
    obtain ⟨i, _, rfl⟩ := Option.map_eq_some_iff.1 (Prod.mk.inj h).2
    rfl
  | blk j =>
    intro T T' r h
    obtain ⟨i, _, rfl⟩ := Option.map_eq_some_iff.1 (Prod.mk.inj h).2
    rfl
  | add a b iha ihb =>
    intro T T' r h
    obtain ⟨T1, ra, rb, ha, hb, rfl⟩ := KExpr.comp_add_some h
    have hl := KExpr.comp_len blks b T1
    rw [hb] at hl
    simp only [RExpr.scoped, Bool.and_eq_true]
    exact ⟨RExpr.scoped_mono ra _ _ hl (iha T T1 ra ha), ihb T1 T' rb hb⟩

/-- compiling one line, whatever has been emitted so far (`code`): nothing after an error; else the right-hand side's
    constants are appended and at most one slot is claimed (`T'`), and the line either fails there or emits one
    instruction that loads constants of `T'` -/
theorem KLine.comp_cases (l : KLine) (tab : Tab) (blks : List Nat) (ok : Bool) :
    (∀ code, l.comp ⟨tab, blks, code, ok⟩ = ⟨tab, blks, code, ok⟩) ∨
    ∃ T', (∀ T0, Ext T0 tab → Ext T0 T') ∧ tab.consts.length ≤ T'.consts.length ∧
      ((∀ code, l.comp ⟨tab, blks, code, ok⟩ = CSt.fail ⟨tab, blks, code, ok⟩ T') ∨
       ∃ r b, r.scoped T'.consts.length = true ∧
         ∀ code, l.comp ⟨tab, blks, code, ok⟩ = { CSt.emit ⟨tab, blks, code, ok⟩ l.live T' r with blks := b }) := by
  unfold KLine.comp
  cases ok with
  | false => exact Or.inl fun _ => rfl
  | true =>
    right
    simp only [Bool.not_true, Bool.false_eq_true, if_false]
    have stay : (∀ T0, Ext T0 tab → Ext T0 tab) ∧ tab.consts.length ≤ tab.consts.length := ⟨fun _ h => h, Nat.le_refl _⟩
    -- the right-hand side `e` compiles to `(T1, r)`
    have rhs : ∀ e : KExpr, ∃ T1 r, e.comp blks tab = (T1, r) ∧
        (∀ T0, Ext T0 tab → Ext T0 T1) ∧ tab.consts.length ≤ T1.consts.length ∧
        ∀ r', r = some r' → r'.scoped T1.consts.length = true :=
      fun e => ⟨_, _, rfl, fun _ h => KExpr.comp_ext h blks e, KExpr.comp_len blks e tab,
        fun r' hr => KExpr.comp_scoped blks e tab _ r' (Prod.ext rfl hr)⟩
    cases l.stmt with
    | declRoot n e =>
      obtain ⟨T1, r, hc, hx, hl, hr⟩ := rhs e
      simp only [hc]
      cases r with
      | none => exact ⟨T1, hx, hl, Or.inl fun _ => rfl⟩
      | some r =>
        dsimp only
        cases hb : T1.byName n with
        | some _ => exact ⟨T1, hx, hl, Or.inl fun _ => rfl⟩
        | none =>
          exact ⟨_, fun T0 h => (hx T0 h).declare n hb, hl, Or.inr ⟨.stg T1.syms.length r, blks, hr r rfl, fun _ => rfl⟩⟩
    | declBlk n e =>
      obtain ⟨T1, r, hc, hx, hl, hr⟩ := rhs e
      simp only [hc]
      cases r with
      | none => exact ⟨T1, hx, hl, Or.inl fun _ => rfl⟩
      | some r =>
        exact ⟨_, fun T0 h => (hx T0 h).claim n, hl, Or.inr ⟨.stg T1.syms.length r, _, hr r rfl, fun _ => rfl⟩⟩
    | setRoot n e =>
      obtain ⟨T1, r, hc, hx, hl, hr⟩ := rhs e
      simp only [hc]
      cases tab.byName n with
      | none => exact ⟨tab, stay.1, stay.2, Or.inl fun _ => rfl⟩
      | some i =>
        cases r with
        | none => exact ⟨T1, hx, hl, Or.inl fun _ => rfl⟩
        | some r => exact ⟨T1, hx, hl, Or.inr ⟨.stg i r, blks, hr r rfl, fun _ => rfl⟩⟩
    | setBlk j e =>
      obtain ⟨T1, r, hc, hx, hl, hr⟩ := rhs e
      simp only [hc]
      cases blks[j]? with
      | none => exact ⟨tab, stay.1, stay.2, Or.inl fun _ => rfl⟩
      | some i =>
        cases r with
        | none => exact ⟨T1, hx, hl, Or.inl fun _ => rfl⟩
        | some r => exact ⟨T1, hx, hl, Or.inr ⟨.stg i r, blks, hr r rfl, fun _ => rfl⟩⟩
    | expr e =>
      obtain ⟨T1, r, hc, hx, hl, hr⟩ := rhs e
      simp only [hc]
      cases r with
      | none => exact ⟨T1, hx, hl, Or.inl fun _ => rfl⟩
      | some r => exact ⟨T1, hx, hl, Or.inr ⟨.expr r, blks, hr r rfl, fun _ => rfl⟩⟩
    | bad => exact ⟨tab, stay.1, stay.2, Or.inl fun _ => rfl⟩

theorem KLine.comp_ext {T : Tab} (l : KLine) (c : CSt) (h : Ext T c.tab) : Ext T (l.comp c).tab := by
  obtain ⟨tab, blks, code, ok⟩ := c
  rcases l.comp_cases tab blks ok with hc | ⟨T', hx, _, hc | ⟨r, b, _, hc⟩⟩
  · rw [hc]; exact h
  · rw [hc]; exact hx T h
  · rw [hc]; exact hx T h

theorem compLines_ext {T : Tab} (t : List KLine) : ∀ c : CSt, Ext T c.tab → Ext T (compLines t c).tab := by
  induction t with
  | nil => intro c h; exact h
  | cons l rest ih => intro c h; exact ih (l.comp c) (l.comp_ext c h)

theorem compTop_ext {T : Tab} (t : KTop) (c : CSt) (h : Ext T c.tab) : Ext T (compTop t c).tab :=
  compLines_ext t { c with blks := [] } h

theorem compTops_ext {T : Tab} (p : List KTop) : ∀ c : CSt, Ext T c.tab → Ext T (compTops p c).tab := by
  induction p with
  | nil => intro c h; exact h
  | cons t rest ih => intro c h; exact ih (compTop t c) (compTop_ext t c h)

theorem compPiece_ext (p : KPiece) (T : Tab) : Ext T (compPiece p T).tab := compTops_ext p _ (Ext.refl T)

/-- a table reached by compilation from a well-formed one is well-formed -/
theorem Ext.wf {T T' : Tab} (h : Ext T T') (hw : T.Wf) : T'.Wf := by
  intro n i hn
  obtain ⟨_, ⟨es, hs⟩, hnm⟩ := h
  rcases hnm n with h1 | ⟨_, j, h2, _, h4⟩
  · rw [h1] at hn
    obtain ⟨hi, hg⟩ := hw n i hn
    refine ⟨by rw [hs]; simp; omega, ?_⟩
    rw [hs, List.getElem?_append_left hi]; exact hg
  · rw [h2] at hn
    cases hn
    exact ⟨(List.getElem?_eq_some_iff.1 h4).1, h4⟩

/-- THE rollback lemma: from any table compilation can reach, truncating to the mark gives the table the
    mark was taken on — constants, symbols and names -/
theorem Ext.rollback {T T' : Tab} (h : Ext T T') (hw : T.Wf) :
    T'.rollback true T.consts.length T.syms.length = T := by
  obtain ⟨⟨ec, hc⟩, ⟨es, hs⟩, hnm⟩ := h
  have h1 : T'.consts.take T.consts.length = T.consts := by rw [hc]; simp
  have h2 : T'.syms.take T.syms.length = T.syms := by rw [hs]; simp
  have h3 : truncNames true T'.byName T.syms.length (T'.syms.drop T.syms.length) = T.byName := by
    have hd : T'.syms.drop T.syms.length = es := by rw [hs]; simp
    rw [hd]
    funext n
    rcases hnm n with he | ⟨hnone, i, hi, hle, hget⟩
    · rw [truncNames_keep es T'.byName T.syms.length n ?_, he]
      intro k _
      rw [he]
      cases hb : T.byName n with
      | none => simp
      | some j =>
        have := (hw n j hb).1
        intro hc; cases hc; omega
    · rw [hnone]
      refine truncNames_del es T'.byName T.syms.length (i - T.syms.length) n ?_ ?_
      · rw [hs, List.getElem?_append_right hle] at hget; exact hget
      · rw [hi]; congr 1; omega
  show ({ consts := T'.consts.take T.consts.length, syms := T'.syms.take T.syms.length,
          byName := truncNames true T'.byName T.syms.length (T'.syms.drop T.syms.length) } : Tab) = T
  rw [h1, h2, h3]

/-! ### constants: emitted code addresses constants that exist, and finds the literal there -/

/-- evaluation does not look beyond the constants the code addresses -/
theorem RExpr.eval_pool (e : RExpr) (pool more : List Int) (G : KGlob) (h : e.scoped pool.length = true) :
    e.eval (pool ++ more) G = e.eval pool G := by
  induction e with
  | ldc k =>
    simp [RExpr.scoped] at h
    simp [RExpr.eval, List.getD_eq_getElem?_getD, List.getElem?_append_left h]
  | ldg i => rfl
  | add a b iha ihb =>
    simp only [RExpr.scoped, Bool.and_eq_true] at h
    simp [RExpr.eval, iha h.1, ihb h.2]

theorem RStmt.exec_pool (t : RStmt) (pool more : List Int) (s : KRun) (h : t.scoped pool.length = true) :
    t.exec (pool ++ more) s = t.exec pool s := by
  obtain ⟨G, vs⟩ := s
  cases t with
  | stg i e => simp only [RStmt.exec]; rw [RExpr.eval_pool e pool more G h]
  | expr e => simp only [RStmt.exec]; rw [RExpr.eval_pool e pool more G h]

theorem execR_pool (code : List RStmt) (pool more : List Int) : ∀ s : KRun,
    code.all (·.scoped pool.length) = true → execR (pool ++ more) code s = execR pool code s := by
  induction code with
  | nil => intro s _; rfl
  | cons t rest ih =>
    intro s h
    simp only [List.all_cons, Bool.and_eq_true] at h
    simp only [execR, List.foldl_cons]
    rw [RStmt.exec_pool t pool more s h.1]
    exact ih _ h.2

theorem execR_append (pool : List Int) (a b : List RStmt) (s : KRun) :
    execR pool (a ++ b) s = execR pool b (execR pool a s) := by
  simp [execR, List.foldl_append]

/-- the invariant of the compiler's state: what it has emitted addresses constants that exist -/
def CSt.Scoped (c : CSt) : Prop := c.code.all (·.scoped c.tab.consts.length) = true

theorem all_scoped_mono (code : List RStmt) (n m : Nat) (hnm : n ≤ m) (h : code.all (·.scoped n) = true) :
    code.all (·.scoped m) = true := by
  simp only [List.all_eq_true] at h ⊢
  intro t ht; exact RStmt.scoped_mono t n m hnm (h t ht)

theorem CSt.emit_scoped (c : CSt) (live : Bool) (T : Tab) (r : RStmt) (hc : c.Scoped)
    (hle : c.tab.consts.length ≤ T.consts.length) (hr : r.scoped T.consts.length = true) : (c.emit live T r).Scoped := by
  unfold CSt.Scoped CSt.emit
  have h0 := all_scoped_mono c.code _ _ hle hc
  cases live
  · exact h0
  · simp only [if_true, List.all_append, Bool.and_eq_true, List.all_cons, List.all_nil, Bool.and_true]
    exact ⟨h0, hr⟩

theorem CSt.fail_scoped (c : CSt) (T : Tab) (hc : c.Scoped) (hle : c.tab.consts.length ≤ T.consts.length) : (c.fail T).Scoped :=
  all_scoped_mono c.code _ _ hle hc

theorem KLine.comp_scoped (l : KLine) (c : CSt) (h : c.Scoped) : (l.comp c).Scoped := by
  obtain ⟨tab, blks, code, ok⟩ := c
  rcases l.comp_cases tab blks ok with hc | ⟨T', _, hl, hc | ⟨r, b, hr, hc⟩⟩
  · rw [hc]; exact h
  · rw [hc]; exact CSt.fail_scoped _ T' h hl
  · rw [hc]; exact CSt.emit_scoped _ l.live T' r h hl hr

theorem compLines_scoped (t : List KLine) : ∀ c : CSt, c.Scoped → (compLines t c).Scoped := by
  induction t with
  | nil => intro c h; exact h
  | cons l rest ih => intro c h; exact ih (l.comp c) (l.comp_scoped c h)

theorem compTops_scoped (p : List KTop) : ∀ c : CSt, c.Scoped → (compTops p c).Scoped := by
  induction p with
  | nil => intro c h; exact h
  | cons t rest ih => intro c h; exact ih (compTop t c) (compLines_scoped t { c with blks := [] } h)

theorem compPiece_scoped (p : KPiece) (T : Tab) : (compPiece p T).Scoped := compTops_scoped p _ rfl

/-! ### compiling a concatenation -/

/-- the same compiler state with `pre` emitted before -/
def CSt.withPre (pre : List RStmt) (c : CSt) : CSt := { c with code := pre ++ c.code }

theorem KLine.comp_withPre (pre : List RStmt) (l : KLine) (c : CSt) : l.comp (c.withPre pre) = (l.comp c).withPre pre := by
  obtain ⟨tab, blks, code, ok⟩ := c
  rcases l.comp_cases tab blks ok with hc | ⟨T', _, _, hc | ⟨r, b, _, hc⟩⟩
  · rw [CSt.withPre, hc, hc]; rfl
  · rw [CSt.withPre, hc, hc]; rfl
  · rw [CSt.withPre, hc, hc]
    cases l.live <;> simp [CSt.emit, CSt.withPre]

theorem compLines_withPre (pre : List RStmt) (t : List KLine) : ∀ c : CSt,
    compLines t (c.withPre pre) = (compLines t c).withPre pre := by
  induction t with
  | nil => intro c; rfl
  | cons l rest ih =>
    intro c
    simp only [compLines, List.foldl_cons] at ih ⊢
    rw [KLine.comp_withPre]; exact ih _

theorem compTop_withPre (pre : List RStmt) (t : KTop) (c : CSt) : compTop t (c.withPre pre) = (compTop t c).withPre pre := by
  unfold compTop
  have : ({ c.withPre pre with blks := [] } : CSt) = ({ c with blks := [] } : CSt).withPre pre := rfl
  rw [this, compLines_withPre]; rfl

theorem compTops_withPre (pre : List RStmt) (p : List KTop) : ∀ c : CSt,
    compTops p (c.withPre pre) = (compTops p c).withPre pre := by
  induction p with
  | nil => intro c; rfl
  | cons t rest ih =>
    intro c
    simp only [compTops, List.foldl_cons] at ih ⊢
    rw [compTop_withPre]; exact ih _

theorem compTops_blks (p : List KTop) : ∀ c : CSt, c.blks = [] → (compTops p c).blks = [] := by
  induction p with
  | nil => intro c h; exact h
  | cons t rest ih => intro c _; exact ih (compTop t c) rfl

/-- compiling `p ++ q` at once: the state after `p`, then `q` — its code after `p`'s -/
theorem compPiece_append (p q : KPiece) (T : Tab) (hok : (compPiece p T).ok = true) :
    compPiece (p ++ q) T = (compPiece q (compPiece p T).tab).withPre (compPiece p T).code := by
  have hb : (compPiece p T).blks = [] := compTops_blks p _ rfl
  have h1 : compPiece (p ++ q) T = compTops q (compPiece p T) := by simp [compPiece, compTops, List.foldl_append]
  have h2 : compPiece p T = ({ tab := (compPiece p T).tab } : CSt).withPre (compPiece p T).code := by
    cases hc : compPiece p T with
    | mk tab blks code ok =>
      rw [hc] at hb hok
      simp only at hb hok
      subst hb hok
      simp [CSt.withPre]
  rw [h1]
  conv => lhs; rw [h2]
  rw [compTops_withPre]; rfl

end Risor.C18
