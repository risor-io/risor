import RisorModel.C18.Model
import RisorModel.C18.Lemmas
/-!
C18 — property theorems.

Layer 1: for ANY semantics of the non-jump instructions, any state type and executions of any
length, code with relative jumps that stay inside their fragment can be appended to and resumed
at the saved instruction pointer.

Layer 2: the REPL state machine (`Repl`, the code as it is) against the Spec (`SpecSt`), for ALL
histories of pieces.  `C18_full` is the property as stated; it is false on the code (one proved
counterexample — a failed piece has declared its names — replayed on the real code by the
harness); `C18_partial` proves it for every history inside the decidable `guard` (G4).  Four
further defects were REPAIRED in /repo (rejected piece's code ran later, compiler stuck in a
function, one stack slot per piece, functions kept the globals copy of the run that loaded them):
`rejected_piece_has_no_effect`, `leftover_stack_invisible` and `no_stale_view` hold without any
guard, and their witnesses are the historical statements `C18_fixed_*` about the pre-fix machines
(`PreFix.Repl`, `Repl.feedSnapshot`).

Layers 3 to 7 take one part of the shared state each: what a rejected piece leaves on the one
compiler, the generation of the globals a function is bound to, per-piece contexts and the halt
flag, the import cache, and globals carried across piece boundaries by slot.
-/
namespace Risor.C18

variable {σ : Type}

/-! ## Layer 1: appending code and resuming at the saved instruction pointer -/

/-- An execution of `c₁` is an execution of `c₁ ++ c₂` (any semantics, any length). -/
theorem steps_append_left (S : Sem σ) (c₁ c₂ : List BIns) {x y : Nat × σ}
    (h : Steps S c₁ x y) : Steps S (c₁ ++ c₂) x y := by
  induction h with
  | refl => exact .refl _
  | step hi hs _ ih => exact .step (getElem?_append_left' _ _ _ _ hi) hs ih

/-- An execution of `c₂` from `pc` is an execution of `c₁ ++ c₂` from `|c₁| + pc`: compiled
    fragments are position independent because every jump is relative. -/
theorem steps_append_right (S : Sem σ) (c₁ c₂ : List BIns) {pc pc' : Nat} {s s' : σ}
    (h : Steps S c₂ (pc, s) (pc', s')) :
    Steps S (c₁ ++ c₂) (c₁.length + pc, s) (c₁.length + pc', s') := by
  generalize hx : (pc, s) = x at h
  generalize hy : (pc', s') = y at h
  induction h generalizing pc s with
  | refl =>
    subst hx
    cases hy
    exact .refl _
  | @step p p' t t' i y hi hs _ ih =>
    cases hx
    refine .step (i := i) ?_ (stepAt_shift S i c₁.length _ _ _ _ hs) (ih rfl hy)
    rw [getElem?_append_shift]
    exact hi

/-- **exec_append.**  If `c₁` run from 0 in state `s` reaches its end in state `s₁`, and `c₂`
    run from 0 in `s₁` reaches its end in `s₂`, then `c₁ ++ c₂` run from 0 in `s` passes through
    `(|c₁|, s₁)` — the configuration the REPL's VM was left in — and reaches its end in `s₂`.
    For every semantics of the non-jump instructions and executions of any length. -/
theorem exec_append (S : Sem σ) (c₁ c₂ : List BIns) (s s₁ s₂ : σ)
    (h₁ : Steps S c₁ (0, s) (c₁.length, s₁)) (h₂ : Steps S c₂ (0, s₁) (c₂.length, s₂)) :
    Steps S (c₁ ++ c₂) (0, s) (c₁.length, s₁) ∧
    Steps S (c₁ ++ c₂) (c₁.length, s₁) ((c₁ ++ c₂).length, s₂) ∧
    Steps S (c₁ ++ c₂) (0, s) ((c₁ ++ c₂).length, s₂) := by
  have a := steps_append_left S c₁ c₂ h₁
  have b := steps_append_right S c₁ c₂ h₂
  simp only [Nat.add_zero] at b
  rw [List.length_append]
  exact ⟨a, b, a.trans b⟩

/-- A run-time error of the earlier code is the same run-time error of the appended code. -/
theorem fails_append (S : Sem σ) (c₁ c₂ : List BIns) (s s₁ e : σ) (pc : Nat) (i : BIns)
    (h : Steps S c₁ (0, s) (pc, s₁)) (hi : c₁[pc]? = some i) (he : stepAt S i pc s₁ = .error e) :
    Steps S (c₁ ++ c₂) (0, s) (pc, s₁) ∧ (c₁ ++ c₂)[pc]? = some i ∧ stepAt S i pc s₁ = .error e :=
  ⟨steps_append_left S c₁ c₂ h, getElem?_append_left' _ _ _ _ hi, he⟩

/-- **jumps_local ⇒ control stays inside.**  If every jump of `c` is local, an execution that
    starts inside `c` (or at its end) stays inside `c` or at its end: a fragment can only be left
    through its end, where the next piece's code will be appended. -/
theorem stays_inside (S : Sem σ) (c : List BIns) (hl : jumpsLocal c = true) {x y : Nat × σ}
    (h : Steps S c x y) (hx : x.1 ≤ c.length) : y.1 ≤ c.length := by
  induction h with
  | refl => exact hx
  | @step pc pc' s s' i y hi hs _ ih =>
    have hloc := jumpsLocalFrom_get c.length c 0 pc i hl hi
    rw [Nat.zero_add] at hloc
    exact ih (stepAt_local S i _ pc pc' s s' hloc (List.getElem?_eq_some_iff.1 hi).1 hs)

/-- The machine is deterministic: two executions from the same configuration that both end at
    the end of the code (where `vm.eval`'s loop stops) end in the same state.  With
    `exec_append` this makes the whole program's result THE incremental result. -/
theorem steps_deterministic (S : Sem σ) (c : List BIns) {x : Nat × σ} {s₁ s₂ : σ}
    (h₁ : Steps S c x (c.length, s₁)) (h₂ : Steps S c x (c.length, s₂)) : s₁ = s₂ := by
  generalize hy : (c.length, s₁) = y at h₁
  induction h₁ with
  | refl =>
    subst hy
    cases h₂ with
    | refl => rfl
    | step hi _ _ => simp at hi
  | @step pc pc' s s' i y hi hs _ ih =>
    cases h₂ with
    | refl => simp at hi
    | @step _ pc2 _ s2 i2 _ hi2 hs2 rest2 =>
      rw [hi] at hi2
      cases hi2
      rw [hs] at hs2
      cases hs2
      exact ih rest2 hy

/-! ## Layer 2: the REPL state machine against the Spec -/

/-- what the property compares: per-piece outcomes (value identities and error classes), the
    trace of executed statements (it determines globals, values and output) and the names
    defined for later pieces -/
structure Obs where
  outcomes : List Outcome
  trace    : List (Nat × Bool)
  syms     : Syms
  deriving DecidableEq, Repr

def implObs (h : List Piece) : Obs :=
  let r := Repl.run {} h
  ⟨r.2, r.1.vm.trace, r.1.comp.syms⟩

def specObs (h : List Piece) : Obs :=
  let r := SpecSt.run {} h
  ⟨r.2, r.1.trace, r.1.syms⟩

/-- **The property as stated**: for every history, feeding the pieces to one compiler and one
    VM gives the outcomes, effects and definitions the Spec demands (accepted pieces behave as
    the concatenated program, rejected pieces change nothing, failing pieces keep only what
    ran before the failure). -/
def C18_full : Prop := ∀ h : List Piece, implObs h = specObs h

/-- **C18_partial.**  For EVERY history of pieces (any number of pieces, any statements, with
    rejected and failing pieces anywhere — rejected at any statement, after any amount of emitted
    code and declarations, inside function bodies or not; calling functions that earlier pieces
    declared, whatever globals those read and write and whatever was assigned in between) that
    satisfies the decidable `guard` — G4 a failing piece declares nothing from its failing statement
    on (the one recorded defect); and no accepted piece is empty — the REPL machine yields exactly the Spec's per-piece outcomes (same value identities,
    same rejections and failures), the same trace of executed statements (hence the same globals,
    values and output) and the same definitions for later pieces.  The guard asks nothing about where
    a rejected piece is rejected, about the number of pieces, or about calls of functions loaded by
    earlier runs (`rejected_piece_has_no_effect`, `leftover_stack_invisible`, `no_stale_view`). -/
theorem C18_partial (h : List Piece) (hg : guard h = true) : implObs h = specObs h := by
  have inv0 : Inv {} {} {} := ⟨rfl, rfl, rfl, rfl, rfl, rfl, rfl⟩
  obtain ⟨h1, inv⟩ := run_inv h {} {} {} inv0 hg
  simp only [implObs, specObs, h1, inv.trace, inv.syms]

/-- **A rejected piece has no effect** — for EVERY state of the machine (reached by any history,
    inside the guard or not) and EVERY piece with a statement that does not compile, wherever that
    statement sits, whatever the statements before it emitted and declared, inside a function body
    or not: the compiler and the VM are exactly as before (`Compile` rolled everything back), and
    so is everything any later piece can observe. -/
theorem rejected_piece_has_no_effect (r : Repl) (l : List Stmt) (hrej : allResolve r.comp.syms l = false) :
    r.feed (.stmts l) = (r, .compileRejected) := by
  simp only [Repl.feed, compileStmts_rejected r.comp.syms l hrej]

/-- … and a piece is rejected exactly when one of its statements does not compile -/
theorem rejected_iff (r : Repl) (l : List Stmt) :
    (r.feed (.stmts l)).2 = .compileRejected ↔ allResolve r.comp.syms l = false := by
  constructor
  · intro h
    by_cases hr : allResolve r.comp.syms l = true
    · simp only [Repl.feed, compileStmts_ok r.comp.syms l hr] at h
      split at h <;> cases h
    · simpa using hr
  · intro h
    rw [rejected_piece_has_no_effect r l h]

/-- **No statement runs against a stale copy of the globals** — for EVERY state of the machine and
    EVERY piece, whatever functions earlier runs loaded and whatever the piece calls: the trace entries
    the piece's run adds are all unmarked (reloadCode forgot the loaded functions of the main code, so
    every call wraps the function's code with the globals array of this run). -/
theorem no_stale_view (r : Repl) (p : Piece) (e : Nat × Bool)
    (he : e ∈ (r.feed p).1.vm.trace) : e ∈ r.vm.trace ∨ e.2 = false := by
  cases p with
  | bad => exact Or.inl he
  | stmts l =>
    simp only [Repl.feed] at he
    split at he
    · exact Or.inl he
    · exact execFrom_nil_unmarked e _ _ _ he

/-- **What the previous run left on the operand stack is invisible** — for EVERY state and EVERY
    piece: replacing the stack by any other changes neither the outcome of the piece nor, when the
    piece is accepted, anything of the state it leaves (Run drops the leftovers before it resumes). -/
theorem leftover_stack_invisible (r : Repl) (stk : List Nat) (p : Piece) :
    ({ r with vm := { r.vm with stack := stk } }.feed p).2 = (r.feed p).2 ∧
    ((r.feed p).2 ≠ .parseRejected → (r.feed p).2 ≠ .compileRejected →
      ({ r with vm := { r.vm with stack := stk } }.feed p).1 = (r.feed p).1) := by
  cases p with
  | bad => exact ⟨rfl, fun h => absurd rfl h⟩
  | stmts l =>
    simp only [Repl.feed]
    split
    · exact ⟨rfl, fun _ h => absurd rfl h⟩
    · exact ⟨rfl, fun _ _ => rfl⟩

/-- **The operand stack holds what the LAST run left, never more**, for every history inside the
    guard: one value after a piece that completed, the failing statement's leak after a piece that
    failed — however many pieces were fed before; and the instruction pointer sits at the end of
    the main code. -/
theorem stack_holds_last_run_only (h : List Piece) (hg : guard h = true) :
    (Repl.run {} h).1.vm.stack.length = (GSt.after {} h).ht ∧
    (Repl.run {} h).1.vm.ip = (Repl.run {} h).1.comp.code.length := by
  have inv0 : Inv {} {} {} := ⟨rfl, rfl, rfl, rfl, rfl, rfl, rfl⟩
  obtain ⟨_, inv⟩ := run_inv h {} {} {} inv0 hg
  exact ⟨inv.ht, inv.ip⟩

/-- the height the guard's bookkeeping records never exceeds one value or one failing statement's leak -/
theorem ht_bounded (g : GSt) (p : Piece) (k : Nat) (hk : ∀ l, p = .stmts l → ∀ s ∈ l, s.leak ≤ k) :
    (g.next p).ht ≤ max g.ht (max 1 k) := by
  cases p with
  | bad => exact Nat.le_max_left ..
  | stmts l =>
    simp only [GSt.next]
    split
    · show (match leakOf l with | some j => j | none => 1) ≤ _
      cases hj : leakOf l with
      | none => simp only; omega
      | some j =>
        obtain ⟨s, hs, rfl⟩ := leakOf_mem l j hj
        have := hk l rfl s hs
        simp only; omega
    · omega

/-- **Incremental = whole, at the source level** (first sentence of the property, Spec side):
    for every state and every way of cutting a statement list into consecutive pieces that are
    all accepted and all complete, feeding the pieces one by one leaves exactly the state
    (definitions and trace of executed statements, hence globals and output) that evaluating
    the concatenated program at once leaves, and the concatenated program is accepted and
    completes too. -/
theorem spec_incremental_eq_whole (st : SpecSt) (ls : List (List Stmt))
    (hall : ∀ o ∈ (st.run (ls.map .stmts)).2, ∃ v, o = .ok v) :
    (st.run (ls.map .stmts)).1 = (st.feed (wholeOf ls)).1 ∧ ∃ v, (st.feed (wholeOf ls)).2 = .ok v := by
  obtain ⟨hr, hok, hst⟩ := spec_run_flatten ls st hall
  simp only [wholeOf, SpecSt.feed, hr, ↓reduceIte, hok]
  exact ⟨hst, _, rfl⟩

/-- **Same value.**  When all pieces are accepted and complete and the last piece is not empty,
    the value the last piece yields in the incremental run is the value of the concatenated
    program (per-piece values follow by applying this to every prefix of the pieces). -/
theorem spec_incremental_value_eq_whole (st : SpecSt) (ls : List (List Stmt)) (a : List Stmt) (hne : a ≠ [])
    (hall : ∀ o ∈ (st.run ((ls ++ [a]).map .stmts)).2, ∃ v, o = .ok v) :
    (st.run ((ls ++ [a]).map .stmts)).2.getLast? = some (st.feed (wholeOf (ls ++ [a]))).2 := by
  obtain ⟨hrW, hokW, _⟩ := spec_run_flatten (ls ++ [a]) st hall
  have happ := spec_run_append (ls.map .stmts) [.stmts a] st
  simp only [List.map_append, List.map_cons, List.map_nil] at hall ⊢
  rw [happ.2] at hall ⊢
  have hpre : ∀ o ∈ (st.run (ls.map .stmts)).2, ∃ v, o = .ok v := fun o ho => hall o (List.mem_append_left _ ho)
  obtain ⟨hr1, hok1, hst1⟩ := spec_run_flatten ls st hpre
  have hlast : ∃ v, ((st.run (ls.map .stmts)).1.feed (.stmts a)).2 = .ok v := by
    apply hall
    apply List.mem_append_right
    simp [SpecSt.run]
  obtain ⟨v, hv⟩ := hlast
  obtain ⟨hra, hoka, _⟩ := feed_ok_inv _ a v hv
  rw [hst1] at hra hoka
  simp only at hra hoka
  have hfl : (ls ++ [a]).flatten = ls.flatten ++ a := by simp
  have hW := specExec_append st.syms st.trace 0 ls.flatten a hok1
  rw [hfl] at hrW hokW
  simp only [SpecSt.run, List.getLast?_append, List.getLast?_singleton, Option.some_or, wholeOf, hfl,
    SpecSt.feed, hrW, ↓reduceIte, hokW, hst1, hra, hoka, Option.some.injEq, Outcome.ok.injEq]
  rw [hW]
  exact specExec_last_indep _ _ _ _ a hne

/-- Every name a completed piece declares resolves in every later piece ("gives each piece
    everything the earlier pieces defined"): definitions only grow. -/
theorem defined_mono (y : Syms) (l : List Stmt) (n : Nat) (h : y.defined n = true) :
    (addAll y l).defined n = true :=
  addAll_defined_mono y l n h

/-! ### host-supplied globals (builtins, default modules) -/

def implObsFrom (host : List Nat) (h : List Piece) : Obs :=
  let r := Repl.run (Repl.init host) h
  ⟨r.2, r.1.vm.trace, r.1.comp.syms⟩

def specObsFrom (host : List Nat) (h : List Piece) : Obs :=
  let r := SpecSt.run (SpecSt.init host) h
  ⟨r.2, r.1.trace, r.1.syms⟩

/-- **C18_partial with host-supplied globals.**  For EVERY list `host` of names the embedding
    program supplies before the first piece (builtins, default modules — variables of the root
    symbol table) and EVERY history of pieces inside the guard evaluated with those names defined
    (`guardHost`, the same condition G4 as `C18_partial`), the REPL machine started with
    the host's names yields exactly the Spec's per-piece outcomes, trace of executed statements
    and definitions.  In particular a piece that REBINDS a host-supplied name (a statement whose
    `asg` contains it) is accepted, is part of the trace from then on, and every later piece runs
    against that trace — the rebinding is not forgotten.  `C18_partial` is the case `host = []`. -/
theorem C18_partial_host (host : List Nat) (h : List Piece) (hg : guardHost host h = true) :
    implObsFrom host h = specObsFrom host h := by
  have inv0 : Inv (Repl.init host) (SpecSt.init host) (GSt.init host) :=
    ⟨rfl, rfl, rfl, rfl, rfl, rfl, rfl⟩
  obtain ⟨h1, inv⟩ := run_inv h _ _ _ inv0 hg
  simp only [implObsFrom, specObsFrom, h1, inv.trace, inv.syms]

theorem C18_partial_host_nil (h : List Piece) :
    guardHost [] h = guard h ∧ implObsFrom [] h = implObs h ∧ specObsFrom [] h = specObs h :=
  ⟨rfl, rfl, rfl⟩

/-- **Host-supplied names stay defined (Spec).**  For every host list, every history (no guard)
    and every host-supplied name: the name still resolves after the history — no piece, accepted,
    rejected or failing, takes a host-supplied name away from later pieces. -/
theorem host_stays_defined_spec (host : List Nat) (h : List Piece) (n : Nat) (hn : n ∈ host) :
    (SpecSt.run (SpecSt.init host) h).1.syms.defined n = true := by
  apply spec_run_defined_mono
  simp [SpecSt.init, hostSyms, Syms.defined, hn]

/-- **Host-supplied names stay defined (Impl).**  The same for the compiler of the REPL machine
    as it is, for every history (no guard): an accepted `Compile` only adds to the symbol table, a
    rejected one rolls back to exactly the table it started from. -/
theorem host_stays_defined_impl (host : List Nat) (h : List Piece) (n : Nat) (hn : n ∈ host) :
    (Repl.run (Repl.init host) h).1.comp.syms.defined n = true := by
  apply repl_run_defined_mono
  simp [Repl.init, hostSyms, Syms.defined, hn]

/-- `xs := [3, 1, 2]` / `len = func(v) { return 42 }` / `n := len(xs)` / `n` with `len` (name 1)
    supplied by the host -/
def w_host_rebind : List Piece :=
  [.stmts [{ id := 1, vdecl := [2] }],
   .stmts [{ id := 2, uses := [1], asg := [1] }],
   .stmts [{ id := 3, uses := [1, 2], vdecl := [3] }],
   .stmts [{ id := 4, isExpr := true, leaves := true, uses := [3] }]]

example : guardHost [1] w_host_rebind = true := by decide +kernel
example : implObsFrom [1] w_host_rebind = specObsFrom [1] w_host_rebind := C18_partial_host _ _ (by decide +kernel)
/-- the rebinding (statement 2) is in the trace every later piece runs against -/
example : (implObsFrom [1] w_host_rebind).trace.map (·.1) = [1, 2, 3, 4] ∧
    (implObsFrom [1] w_host_rebind).outcomes = [.ok 0, .ok 0, .ok 0, .ok 4] := by decide +kernel
/-- the host list matters: without it the pieces that mention `len` are rejected as undefined -/
example : (implObsFrom [] w_host_rebind).outcomes = [.ok 0, .compileRejected, .compileRejected, .compileRejected] := by
  decide +kernel
/-- a host-supplied name is a variable, not a constant: contrast with `const k = 7` / `k = 2` -/
example : (implObsFrom [] [.stmts [{ id := 1, cdecl := [1] }], .stmts [{ id := 2, uses := [1], asg := [1] }]]).outcomes
    = [.ok 0, .compileRejected] := by decide +kernel
/-- a function loaded by an earlier run that reads a host-supplied name rebound later sees the
    rebinding (since the repair of C18-function-globals-snapshot): inside the guard, equal to the Spec -/
def w_host_fn : List Piece :=
    [.stmts [{ id := 1, leaves := true, uses := [1], cdecl := [2], fdefs := [2] }],
     .stmts [{ id := 2, uses := [1], asg := [1] }],
     .stmts [{ id := 3, isExpr := true, leaves := true, uses := [2], calls := [2] }]]
example : guardHost [1] w_host_fn = true := by decide +kernel
example : implObsFrom [1] w_host_fn = specObsFrom [1] w_host_fn := C18_partial_host _ _ (by decide +kernel)

/-! ### witnesses: the repaired finding C18-function-globals-snapshot (historical), then the one
recorded finding on which the code violates the property -/

/-- `x := 1; func f() { return x }` / `x = 5` / `f()` -/
def w_stale : List Piece :=
  [.stmts [{ id := 1, vdecl := [1] }, { id := 2, leaves := true, uses := [1], cdecl := [2], fdefs := [2] }],
   .stmts [{ id := 3, uses := [1], asg := [1] }],
   .stmts [{ id := 4, isExpr := true, leaves := true, uses := [2], calls := [2] }]]

def snapshotObs (h : List Piece) : Obs :=
  let r := Repl.runSnapshot {} h
  ⟨r.2, r.1.vm.trace, r.1.comp.syms⟩

/-- **HISTORICAL (finding C18-function-globals-snapshot, repaired).**  Before reloadCode forgot the
    loaded functions of the main code, `Run` reloaded the main code with a fresh copy of the globals
    while a function loaded by an earlier run still read and wrote the old copy: `f()` in the third
    piece of `w_stale` did not see `x = 5` (its trace entry carries the stale mark; the history was
    outside the former guard G3, `preFixStaleCall`).  On the code as it is the history is inside the
    guard and equals the Spec, and for every state and piece no entry is marked (`no_stale_view`). -/
theorem C18_fixed_function_globals_snapshot :
    snapshotObs w_stale ≠ specObs w_stale ∧ (snapshotObs w_stale).trace = [(1, false), (2, false), (3, false), (4, true)] ∧
    preFixStaleCall (GSt.after {} (w_stale.take 2)) [{ id := 4, isExpr := true, leaves := true, uses := [2], calls := [2] }] = true ∧
    preFixReloadKeeps [2] = [2] ∧ reloadKeeps [2] = [] ∧
    guard w_stale = true ∧ implObs w_stale = specObs w_stale ∧
    (implObs w_stale).trace = [(1, false), (2, false), (3, false), (4, false)] ∧
    (implObs w_stale).outcomes = [.ok 0, .ok 0, .ok 4] := by decide +kernel

/-- `x := 1 / 0` / `x` -/
def w_failed_decl : List Piece :=
  [.stmts [{ id := 1, vdecl := [1], fails := true }],
   .stmts [{ id := 2, isExpr := true, leaves := true, uses := [1] }]]

/-- **Counterexample (a failed piece has still declared its names).**  The declaration never
    executed, yet the next piece compiles against it (and reads nil) instead of being rejected. -/
theorem C18_counterexample_failed_piece_declares : ¬ C18_full := fun h =>
  absurd (h w_failed_decl) (by decide +kernel)

/-! ### the three other repaired defects (rejected piece's code ran later, one stack slot per piece,
compiler stuck in a function): their witnesses, on the pre-fix machine and on the code as it is -/

def preFixObs (h : List Piece) : Obs :=
  let r := PreFix.Repl.run {} h
  ⟨r.2, r.1.vm.trace, r.1.comp.syms⟩

/-- `print("a")` / `print("x"); undefined_name` / `print("b")` -/
def w_rejected : List Piece :=
  [.stmts [{ id := 1, isExpr := true, leaves := true }],
   .stmts [{ id := 2, isExpr := true, leaves := true }, { id := 3, isExpr := true, leaves := true, uses := [99] }],
   .stmts [{ id := 4, isExpr := true, leaves := true }]]

/-- `zr := 5; 1 + undefined_name` / `zr`: a declaration and a pending operand before the error -/
def w_rejected_decl : List Piece :=
  [.stmts [{ id := 1, vdecl := [1] }, { id := 2, isExpr := true, leaves := true, uses := [99], pre := 1 }],
   .stmts [{ id := 3, isExpr := true, leaves := true, uses := [1] }]]

/-- **HISTORICAL (finding C18-rejected-piece-code-runs-later, repaired).**  Before `Compile` rolled
    back, the second piece of `w_rejected` was rejected, yet its first statement's code stayed in the
    main code and ran with the third piece (trace 1,2,4 where the Spec demands 1,4), and the rejected
    piece of `w_rejected_decl` had declared `zr` for later input.  On the code as it is both histories
    are inside the guard and equal the Spec. -/
theorem C18_fixed_rejected_piece_code_ran_later :
    preFixObs w_rejected ≠ specObs w_rejected ∧ (preFixObs w_rejected).trace.map (·.1) = [1, 2, 4] ∧
    preFixObs w_rejected_decl ≠ specObs w_rejected_decl ∧
    guard w_rejected = true ∧ implObs w_rejected = specObs w_rejected ∧ (implObs w_rejected).trace.map (·.1) = [1, 4] ∧
    guard w_rejected_decl = true ∧ implObs w_rejected_decl = specObs w_rejected_decl ∧
    (implObs w_rejected_decl).outcomes = [.compileRejected, .compileRejected] := by decide +kernel

/-- `7` / an expression whose evaluation needs all 1024 operand slots -/
def w_capacity : List Piece :=
  [.stmts [{ id := 1, isExpr := true, leaves := true }],
   .stmts [{ id := 2, isExpr := true, leaves := true, need := 1024 }]]

/-- **HISTORICAL (finding C18-stack-slot-per-piece, repaired).**  Before `Run` dropped the previous
    result, every piece left its value on the operand stack, so the second piece started one slot
    higher than the same statement in the whole program and overflowed, while the concatenated
    program ran (it pops between statements).  On the code as it is the history equals the Spec and
    the stack holds one value after it. -/
theorem C18_fixed_stack_slot_per_piece :
    preFixObs w_capacity ≠ specObs w_capacity ∧ (preFixObs w_capacity).outcomes = [.ok 1, .failed] ∧
    preFixObs [wholeOf [[{ id := 1, isExpr := true, leaves := true }],
                        [{ id := 2, isExpr := true, leaves := true, need := 1024 }]]]
      = specObs [wholeOf [[{ id := 1, isExpr := true, leaves := true }],
                          [{ id := 2, isExpr := true, leaves := true, need := 1024 }]]] ∧
    (PreFix.Repl.run {} (w_capacity.take 1 ++ w_capacity.take 1 ++ w_capacity.take 1)).1.vm.stack.length = 3 ∧
    (Repl.run {} (w_capacity.take 1 ++ w_capacity.take 1 ++ w_capacity.take 1)).1.vm.stack.length = 1 ∧
    guard w_capacity = true ∧ implObs w_capacity = specObs w_capacity ∧
    (Repl.run {} w_capacity).1.vm.stack.length = 1 := by decide +kernel

/-- `x := 1` / `func g() { undefined_name }` / `print("hello")` -/
def w_stuck : List Piece :=
  [.stmts [{ id := 1, vdecl := [1] }],
   .stmts [{ id := 2, leaves := true, uses := [99], cdecl := [2], inFn := true }],
   .stmts [{ id := 3, isExpr := true, leaves := true }]]

/-- **HISTORICAL (finding C18-compiler-stuck-in-function, repaired).**  Before compileFunc switched
    back on its error paths, a compile error inside a function body left `compiler.current` in that
    function's code object; every later piece was compiled into it, reported as accepted, and never
    ran.  On the code as it is the third piece runs. -/
theorem C18_fixed_stuck_compiler :
    preFixObs w_stuck ≠ specObs w_stuck ∧ (preFixObs w_stuck).trace.map (·.1) = [1] ∧
    (PreFix.Repl.run {} w_stuck).1.comp.stuck = true ∧
    guard w_stuck = true ∧ implObs w_stuck = specObs w_stuck ∧ (implObs w_stuck).trace.map (·.1) = [1, 3] := by decide +kernel

/-! ### the guard names exactly the one recorded situation; it is satisfiable by rich histories -/

example : guard w_stale = true ∧ guard w_failed_decl = false := by decide +kernel
example : violatedGuards w_stale = [] ∧ violatedGuards w_failed_decl = ["decl-after-failure"] ∧
    violatedGuards w_rejected = [] ∧ violatedGuards w_capacity = [] ∧ violatedGuards w_stuck = [] := by decide +kernel

/-- a history inside the guard: definitions used by later pieces, a function defined and called
    in one piece, a parse error, an undefined name, a constant reassignment, a piece rejected at its
    second statement after a declaration and pending operands, a compile error inside a function body,
    a failing piece between prints, a use of an earlier definition afterwards, and a call of the
    function of the third piece after the global it reads was reassigned -/
def w_inside : List Piece :=
  [.stmts [{ id := 1, cdecl := [1] }, { id := 2, vdecl := [2] }],
   .bad,
   .stmts [{ id := 3, leaves := true, uses := [2], cdecl := [3], fdefs := [3] },
           { id := 4, isExpr := true, leaves := true, uses := [3], calls := [3] }],
   .stmts [{ id := 5, isExpr := true, leaves := true, uses := [77] }],
   .stmts [{ id := 6, uses := [1], asg := [1] }],
   .stmts [{ id := 12, vdecl := [9] }, { id := 13, isExpr := true, leaves := true, uses := [77], pre := 2, junk := true }],
   .stmts [{ id := 14, leaves := true, uses := [77], cdecl := [8], inFn := true }],
   .stmts [{ id := 7, isExpr := true, leaves := true }, { id := 8, isExpr := true, leaves := true, fails := true, leak := 1 },
           { id := 9, isExpr := true, leaves := true }],
   .stmts [{ id := 10, uses := [2], asg := [2] }, { id := 11, isExpr := true, leaves := true, uses := [2] }],
   .stmts [{ id := 15, isExpr := true, leaves := true, uses := [3], calls := [3] }]]

example : guard w_inside = true := by decide +kernel
example : implObs w_inside = specObs w_inside := C18_partial _ (by decide +kernel)
example : (implObs w_inside).outcomes =
    [.ok 0, .parseRejected, .ok 4, .compileRejected, .compileRejected, .compileRejected, .compileRejected, .failed, .ok 11, .ok 15] := by decide +kernel
example : (implObs w_inside).trace.map (·.1) = [1, 2, 3, 4, 7, 8, 10, 11, 15] := by decide +kernel
/-- the last piece calls the function of the third piece after the global it reads was reassigned: not marked -/
example : (implObs w_inside).trace.getLast? = some (15, false) := by decide +kernel
/-- the names the two late-rejected pieces declared before their errors (9, 8) are not defined afterwards -/
example : (implObs w_inside).syms.defined 9 = false ∧ (implObs w_inside).syms.defined 8 = false := by decide +kernel

example : (GSt.after {} w_inside).ht = 1 := by decide +kernel
/-- many pieces, one value: the former capacity witness shape, 3 pieces deep -/
example : (Repl.run {} [.stmts [{ id := 1, isExpr := true, leaves := true }], .stmts [{ id := 2, isExpr := true, leaves := true }],
    .stmts [{ id := 3, isExpr := true, leaves := true }]]).1.vm.stack = [3] := by decide +kernel

/-- `jumpsLocal` is satisfiable by a fragment with a loop and a conditional exit, and refuses a
    jump past the end and a backward jump before the start -/
example : jumpsLocal [.op 1, .cjf 0 3, .op 2, .jb 2] = true := by decide +kernel
example : jumpsLocal [.op 1, .jf 5] = false := by decide +kernel
example : jumpsLocal [.jb 1, .op 1] = false := by decide +kernel

/-! ## Layer 3: what a rejected piece leaves on the shared compiler -/

/-- **The property as stated, for the compiler's own state**: for every history of piece
    compilations, every piece is compiled exactly as a compiler that has seen no earlier piece
    would compile it — same emitted instruction forms, same acceptance, nothing left set. -/
def C18_marks_full : Prop := ∀ h : List (List CEv), (∀ evs ∈ h, balancedFrom 0 evs = true) → marksRun [] h = marksSpec h

/-- **C18_marks: the full statement holds.**  For EVERY history of piece compilations (any number of
    pieces, accepted and rejected ones in any order, any nesting of pipes, loops, blocks, switches AND
    function literals, compile errors anywhere — inside function bodies too) in which `enter`/`leave`
    are bracketed, every piece — in particular every piece that follows a REJECTED one — is compiled
    exactly as by a fresh compiler: the instruction forms (`Call` vs `Partial`, …) do not depend on the
    pieces before it and no compile-only mark survives a Compile call.  (Before the repair of
    C18-compiler-stuck-in-function this was `marks_partial` under a guard excluding errors inside
    function literals, and `C18_marks_full` was refuted: see `C18_fixed_marks`.) -/
theorem C18_marks : C18_marks_full := by
  intro h hb
  have := marksRunR_eq Mark.restored h (fun evs he => ⟨hb evs he, errClean_restored evs []⟩)
  simpa [marksRun, marksSpec, compileEvs] using this

/-- `C18_marks` in the form with the decidable well-formedness predicate `marksWf` (kept under the name the
    guarded theorem had: the guard `errClean` is gone) -/
theorem marks_partial (h : List (List CEv)) (hb : marksWf h = true) : marksRun [] h = marksSpec h :=
  C18_marks h (fun evs he => by simpa using (List.all_eq_true.1 hb) evs he)

/-- **Nothing survives a Compile call**: for every bracketed event sequence, accepted or rejected at
    any point (inside a function literal too), and whatever earlier calls left set. -/
theorem marks_restored (inh : List Mark) (evs : List CEv) (hb : balancedFrom 0 evs = true) :
    (compileEvs inh [] evs).own = [] :=
  compileEvsR_own_nil Mark.restored inh evs [] hb (errClean_restored evs [])

/-- all five compile-only marks are restored on the error path -/
theorem marks_table : Mark.pipe.restored = true ∧ Mark.loop.restored = true ∧ Mark.block.restored = true ∧
    Mark.switchVal.restored = true ∧ Mark.fn.restored = true := by decide +kernel

/-- `func() { undefined }` / `f(1)`: before the repair the second piece was emitted inside the dead function -/
def w_marks_fn : List (List CEv) := [[.enter .fn, .err], [.emit 1 [.pipe, .fn]]]

/-- **HISTORICAL (finding C18-compiler-stuck-in-function, repaired): compile-only state survived a
    rejected piece.**  Under the pre-fix table (`Compiler.current` not restored when the error
    surfaces inside a function literal) the second piece of `w_marks_fn` was emitted under the `fn`
    mark; under the table of the code as it is it is compiled as by a fresh compiler.  What WAS
    provable before the repair: the statement under `preFixMarksGuard` (general, second conjunct). -/
theorem C18_fixed_marks :
    (marksRunR preFixRestored [] w_marks_fn ≠ w_marks_fn.map (compileEvsR preFixRestored [] [])) ∧
    (∀ h : List (List CEv), preFixMarksGuard h = true →
      marksRunR preFixRestored [] h = h.map (compileEvsR preFixRestored [] [])) ∧
    preFixMarksGuard w_marks_fn = false ∧ marksRun [] w_marks_fn = marksSpec w_marks_fn := by
  refine ⟨by decide +kernel, fun h hg => ?_, by decide +kernel, by decide +kernel⟩
  apply marksRunR_eq
  intro evs he
  have := (List.all_eq_true.1 hg) evs he
  simpa using this

/-- a rejected pipe (`xs | sorted | undefined`) followed by a call and a pipe:
    the call is emitted as `Call` (under no mark), the call inside the later pipe as `Partial` -/
def w_marks_pipe : List (List CEv) :=
  [[.enter .pipe, .emit 1 [], .err], [.emit 2 [.pipe]], [.enter .pipe, .emit 3 [.pipe], .emit 4 [], .leave]]

example : marksWf w_marks_pipe = true ∧ marksWf w_marks_fn = true := by decide +kernel
example : (marksRun [] w_marks_pipe).map (·.code) = [[(1, [])], [(2, [])], [(3, [.pipe]), (4, [])]] := by decide +kernel
example : (marksRun [] w_marks_fn).map (·.code) = [[], [(1, [])]] := by decide +kernel

/-! ## Layer 4: the time a function is bound to a generation of the globals -/

def bindImplVals (h : List (List TStmt)) : List (Option Int) := (bindRun {} (fun _ _ => 0) h).1
def bindSpecVals (h : List (List TStmt)) : List (Option Int) := (bindSpec (fun _ => none) (fun _ _ => 0) h).1

/-- **The property as stated, for globals and functions**: every piece yields the value it yields
    when all reads and writes go to one globals array (the concatenated program). -/
def C18_binding_full : Prop := ∀ h : List (List TStmt), bindImplVals h = bindSpecVals h

/-- The statement under the guard `bindGuard`, which holds for every history (`bindGuard_always`,
    `C18_binding`).  For EVERY history (any number of pieces; function declarations in any
    piece; calls in any later piece; globals read, written and re-assigned by functions and by
    top-level code in any order; any integer values) in which every read — by top-level code
    through the current generation, by a function through the generation it is bound to, that of the
    current run (`bound_at_every_run`) — goes to a slot that holds the up-to-date value (`bindGuard`,
    decidable), every piece yields exactly the value the concatenated program yields, and after
    the history every global whose current slot is marked valid holds the whole program's value.
    In particular functions bound by the SAME run keep communicating through their common
    generation however many pieces later they are first called. -/
theorem binding_partial (h : List (List TStmt)) (hg : bindGuard h = true) :
    bindImplVals h = bindSpecVals h ∧
    ∀ c V, bindGuardFrom {} (fun _ _ => true) h = some (c, V) →
      (bindRun {} (fun _ _ => 0) h).2.1 = c ∧
      ∀ g, V g c.cur = true → (bindRun {} (fun _ _ => 0) h).2.2 c.cur g = (bindSpec (fun _ => none) (fun _ _ => 0) h).2.2 0 g := by
  simp only [bindGuard, Option.isSome_iff_exists] at hg
  obtain ⟨⟨c, V⟩, hcv⟩ := hg
  have h0 : Agree (fun _ _ => true) (fun _ _ => (0 : Int)) (fun _ _ => 0) := fun _ _ _ => rfl
  obtain ⟨e1, e2, h2⟩ := bindRun_agree h {} _ _ _ c V h0 hcv
  refine ⟨e1, ?_⟩
  intro c' V' hcv'
  rw [hcv] at hcv'
  simp only [Option.some.injEq, Prod.mk.injEq] at hcv'
  obtain ⟨hc, hV⟩ := hcv'
  subst hc; subst hV
  exact ⟨e2, fun g hv => h2 g c.cur hv⟩

/-- **Every history is inside the guard of `binding_partial`**: since reloadCode forgets the loaded
    functions of the main code, every read — by top-level code and by every function, whichever piece
    declared it — goes to the generation of the current run, which holds the up-to-date values. -/
theorem bindGuard_always (h : List (List TStmt)) : bindGuard h = true := by
  obtain ⟨c, V, e, _⟩ := bindGuardFrom_cur h {} (fun _ _ => true) (fun _ => rfl)
  rw [bindGuard, e]
  rfl

/-- **C18_binding (the full statement, no guard).**  For EVERY history (any number of pieces; function
    declarations in any piece; calls in any later piece; globals read, written and re-assigned by
    functions and by top-level code in any order; any integer values) every piece yields exactly the
    value the concatenated program yields, and after the history every global holds the whole program's
    value. -/
theorem C18_binding : C18_binding_full := fun h => (binding_partial h (bindGuard_always h)).1

theorem C18_binding_globals (h : List (List TStmt)) (g : Nat) :
    (bindRun {} (fun _ _ => 0) h).2.2 (bindRun {} (fun _ _ => 0) h).2.1.cur g
      = (bindSpec (fun _ => none) (fun _ _ => 0) h).2.2 0 g := by
  obtain ⟨c, V, hcv, hV⟩ := bindGuardFrom_cur h {} (fun _ _ => true) (fun _ => rfl)
  obtain ⟨hc, hg⟩ := (binding_partial h (bindGuard_always h)).2 c V hcv
  rw [hc]
  exact hg g (hV g)

/-- **Binding time.**  After a piece has been fed, every function constant of the main code is
    bound to the generation of THIS run — for every control state and every piece, whether the function
    was loaded before or not. -/
theorem bound_at_every_run (c : BCtl) (l : List TStmt) (f : Nat) (d : FnDef)
    (hd : (c.next l).defs f = some d) : (c.next l).bind f = some (c.next l).cur := by
  simp only [BCtl.next] at hd ⊢
  simp [hd]

/-- HISTORICAL (before the repair): a function constant that was not bound before was bound to the generation
    of the run that first saw it, and once bound it stayed bound to that generation -/
theorem preFix_bound_at_declaring_run (c : BCtl) (l : List TStmt) (f : Nat) (d : FnDef)
    (hd : (c.nextSnapshot l).defs f = some d) (hb : c.bind f = none) :
    (c.nextSnapshot l).bind f = some (c.nextSnapshot l).cur := by
  simp only [BCtl.nextSnapshot] at hd ⊢
  simp [hb, hd]

theorem preFix_binding_was_stable (c : BCtl) (l : List TStmt) (f k : Nat) (hb : c.bind f = some k) :
    (c.nextSnapshot l).bind f = some k := by
  simp [BCtl.nextSnapshot, hb]

/-- `x := 1; func f() { return x }` / `x = 5` / `f()` (globals: x = 0; functions: f = 0) -/
def w_bind_stale : List (List TStmt) :=
  [[.set 0 (.lit 1), .defn 0 ⟨[], .glob 0⟩], [.set 0 (.lit 5)], [.expr (.call 0 (.lit 0))]]

/-- **HISTORICAL (finding C18-function-globals-snapshot, repaired): functions kept the generation they
    were bound to.**  On the pre-fix control `f()` yielded 1, the concatenated program 5, and the history
    was outside the guard; on the code as it is `f()` yields 5. -/
theorem C18_fixed_binding_kept_generation :
    (bindRunSnapshot {} (fun _ _ => 0) w_bind_stale).1 = [none, none, some 1] ∧
    bindSpecVals w_bind_stale = [none, none, some 5] ∧
    (bindGuardSnapshotFrom {} (fun _ _ => true) w_bind_stale).isSome = false ∧
    bindImplVals w_bind_stale = [none, none, some 5] := by decide +kernel

/-- `total := 0` / `func add(n) { total = total + n }; func report() { return total }` / `add(5)` /
    `add(7); report()`: declared together in a non-first piece, first called in different pieces -/
def w_bind_together : List (List TStmt) :=
  [[.set 0 (.lit 0)],
   [.defn 0 ⟨[(0, .add (.glob 0) .arg)], .glob 0⟩, .defn 1 ⟨[], .glob 0⟩],
   [.expr (.call 0 (.lit 5))],
   [.expr (.call 0 (.lit 7)), .expr (.call 1 (.lit 0))]]

example : bindGuard w_bind_together = true := by decide +kernel
example : bindImplVals w_bind_together = [none, none, some 5, some 12] := by decide +kernel
example : bindGuard w_bind_stale = true := by decide +kernel

/-! ## Layer 5: per-piece contexts and the halt flag -/

/-- **The context of a piece is invisible.**  For EVERY history of pieces, each run with its own
    context (background, cancellable, or done before the run ends — the piece is then one that
    fails at run time), the machine with the halt flag yields exactly the outcomes and the state
    of the machine without it: what a run's context did to the halt flag never reaches a later
    piece, whatever that piece's context is. -/
theorem ctx_invisible (l : List (Ctx × Piece)) : ∀ (h : HRepl),
    (h.run l).2 = (h.r.run (l.map (·.2))).2 ∧ (h.run l).1.r = (h.r.run (l.map (·.2))).1 := by
  induction l with
  | nil => intro h; exact ⟨rfl, rfl⟩
  | cons cp rest ih =>
    intro h
    obtain ⟨c, p⟩ := cp
    have hs : startClearsHalt c = true := by cases c <;> decide
    have hf : (h.feed c p).2 = (h.r.feed p).2 ∧ (h.feed c p).1.r = (h.r.feed p).1 := by
      simp only [HRepl.feed, hs, ↓reduceIte, Bool.false_eq_true]
      cases (h.r.feed p).2 <;> exact ⟨rfl, rfl⟩
    obtain ⟨i1, i2⟩ := ih (h.feed c p).1
    simp only [HRepl.run, Repl.run, List.map_cons]
    rw [i2, hf.2] at *
    rw [i1, hf.1]
    exact ⟨rfl, rfl⟩

/-- **C18_partial with per-piece contexts.**  For every assignment of contexts to the pieces of a
    history inside `guard`, the machine with the halt flag yields the Spec's outcomes, trace and
    definitions: later pieces behave as in the whole program made of the pieces that completed. -/
theorem C18_partial_ctx (l : List (Ctx × Piece)) (hg : guard (l.map (·.2)) = true) :
    (⟨((HRepl.run {} l).2), (HRepl.run {} l).1.r.vm.trace, (HRepl.run {} l).1.r.comp.syms⟩ : Obs) = specObs (l.map (·.2)) := by
  obtain ⟨h1, h2⟩ := ctx_invisible l {}
  rw [h1, h2]
  exact C18_partial _ hg

/-- a piece ended by its context (`for { }`, a failing statement without effect) between ordinary
    pieces run with the background context -/
example : (HRepl.run {} [(.background, .stmts [{ id := 1, vdecl := [1] }]),
    (.done, .stmts [{ id := 2, isExpr := true, leaves := true, fails := true }]),
    (.background, .stmts [{ id := 3, isExpr := true, leaves := true, uses := [1] }])]).2 = [.ok 0, .failed, .ok 3] := by decide +kernel

/-! ## Layer 6: the import cache across pieces -/

/-- **import_once_across_pieces.**  For EVERY module configuration (initial states, which module
    imports which), every set of host-supplied modules, every state the session is in and EVERY
    partition of a program into consecutive pieces (any number of pieces, imports of the same
    module under any handles in any pieces, mutations through any handle in between), the session
    fed piece by piece to the one VM ends in exactly the state of the concatenated program evaluated
    at once: the same tick log — each module body runs exactly when it runs in the whole program —
    the same module states, the same bindings of handles, the same integer globals and the same
    value for every expression statement. -/
theorem import_once_across_pieces (cfg : ModCfg) (seed : List Nat) (s : ISt) (h : List (List IStmt)) :
    impImpl cfg seed s h = impWhole cfg s h :=
  impRun_keep cfg seed h s

/-- the two observables the harness compares on the real code, for every partition: the order in
    which module bodies ran and the values of all expression statements -/
theorem import_log_and_values (cfg : ModCfg) (seed : List Nat) (s : ISt) (h : List (List IStmt)) :
    (impImpl cfg seed s h).log = (impWhole cfg s h).log ∧ (impImpl cfg seed s h).vals = (impWhole cfg s h).vals := by
  rw [import_once_across_pieces]
  exact ⟨rfl, rfl⟩

/-- two partitions of the same program cannot be told apart -/
theorem import_partition_irrelevant (cfg : ModCfg) (seed : List Nat) (s : ISt) (h₁ h₂ : List (List IStmt))
    (e : h₁.flatten = h₂.flatten) : impImpl cfg seed s h₁ = impImpl cfg seed s h₂ := by
  rw [import_once_across_pieces, import_once_across_pieces, impWhole, impWhole, e]

/-- **A module body runs at most once per session and never for a host-supplied module**: from the
    start state, for every session, the tick log has no repetition and names no seeded module. -/
theorem module_body_runs_once (cfg : ModCfg) (seed : List Nat) (h : List (List IStmt)) :
    (impImpl cfg seed (ISt.start seed) h).log.Nodup ∧ ∀ m ∈ (impImpl cfg seed (ISt.start seed) h).log, m ∉ seed := by
  rw [import_once_across_pieces]
  have inv := execI_inv cfg h.flatten (ISt.start seed) seed
    ⟨List.nodup_nil, fun _ hm => (List.not_mem_nil hm).elim, fun _ hm => hm⟩
  exact ⟨inv.1, fun m hm => (inv.2.1 m hm).2⟩

/-- `import m as a; a.bump(1)` / `import m as b; [a.get()]` with `init m = 0` -/
def w_reimport : List (List IStmt) := [[.imp 0 0, .bump 0 1], [.imp 1 0, .get [0, 1]]]

def w_cfg : ModCfg := ⟨fun _ => 0, fun _ => false⟩

/-- **Contrast (not the code): an import cache that every run starts afresh.**  The second piece's
    import misses, the module body runs again on the loaded module: the tick is repeated and the
    state set through the first handle is lost — for both handles. -/
theorem reset_every_run_differs :
    (impRun true w_cfg [] (ISt.start []) w_reimport).log = [0, 0] ∧
    (impRun true w_cfg [] (ISt.start []) w_reimport).vals = [[1], [0, 0]] ∧
    (impWhole w_cfg (ISt.start []) w_reimport).log = [0] ∧
    (impWhole w_cfg (ISt.start []) w_reimport).vals = [[1], [1, 1]] := by decide +kernel

example : (impImpl w_cfg [] (ISt.start []) w_reimport).log = [0] ∧
    (impImpl w_cfg [] (ISt.start []) w_reimport).vals = [[1], [1, 1]] := by decide +kernel

/-- a module that imports another one: `import m1` runs m1's body, which ticks, imports m0, and
    initialises; a later `import m0 as h` in another piece is a cache hit -/
example : (impImpl ⟨fun m => 10 * (m + 1), fun _ => true⟩ [] (ISt.start [])
    [[.imp 1 1], [.imp 0 0, .bump 0 5], [.imp 2 1, .below 2, .get [0, 1, 2]]]).log = [1, 0] := by decide +kernel

/-! ## Layer 7: globals are carried across piece boundaries by slot -/

/-- **reload_preserves_slots.**  For EVERY root symbol table (`names`, with or without repeated
    names), every array of that length, EVERY number of pieces each adding any slots under any names
    (also names already in the table: block variables that shadow top-level variables) and running
    any slot statements that address the table as it is after that piece's compilation
    (`scopedFrom`, what a compiler emits): after all piece boundaries the table is the whole
    program's table, EVERY slot holds exactly what it holds when the concatenated program is
    evaluated at once on one array, and every expression statement has yielded the same value. -/
theorem reload_preserves_slots (names : List Nat) (a : Slots) (vs : List Int) (h : List SPiece)
    (ha : a.length = names.length) (hs : scopedFrom names.length h = true) :
    slotRun reloadBySlot names (a, vs) h = (names ++ allDecls h, slotWhole names a vs h) := by
  rw [slotRun_bySlot h names a vs ha hs, slotWhole, List.length_append, ha, Nat.add_sub_cancel_left]

/-- every slot, one by one (the form the harness evaluates through `vm.Get` for the first slot of
    every name) -/
theorem reload_preserves_every_slot (names : List Nat) (a : Slots) (vs : List Int) (h : List SPiece)
    (ha : a.length = names.length) (hs : scopedFrom names.length h = true) (i : Nat) :
    (slotRun reloadBySlot names (a, vs) h).2.1.getD i none = (slotWhole names a vs h).1.getD i none := by
  rw [reload_preserves_slots names a vs h ha hs]

/-- what `vm.Get` returns for every name is what it returns after whole-program evaluation -/
theorem get_by_name_preserved (names : List Nat) (a : Slots) (vs : List Int) (h : List SPiece)
    (ha : a.length = names.length) (hs : scopedFrom names.length h = true) (nm : Nat) :
    getByName (slotRun reloadBySlot names (a, vs) h).1 (slotRun reloadBySlot names (a, vs) h).2.1 nm
      = getByName (names ++ allDecls h) (slotWhole names a vs h).1 nm := by
  rw [reload_preserves_slots names a vs h ha hs]

/-- **Names play no role.**  Renaming the slots in any way — making distinct names equal or equal
    names distinct — changes neither an array nor a value of any session. -/
theorem slot_names_irrelevant (ρ : Nat → Nat) (h : List SPiece) : ∀ (names : List Nat) (s : SSt),
    (slotRun reloadBySlot (names.map ρ) s (h.map fun p => { p with decls := p.decls.map ρ })).2
      = (slotRun reloadBySlot names s h).2 := by
  induction h with
  | nil => intro names s; rfl
  | cons p rest ih =>
    intro names s
    obtain ⟨a, vs⟩ := s
    simp only [List.map_cons, slotRun, ← List.map_append]
    rw [show reloadBySlot (List.map ρ (names ++ p.decls)) a = reloadBySlot (names ++ p.decls) a by
      simp only [reloadBySlot, List.length_map]]
    exact ih _ _

/-- `x := 100; for x := 0; x < 3; x++ { }` / `x`: slots 0 and 1 are both called 7 -/
def w_shadow : List SPiece :=
  [⟨[7, 7], [.set 0 (.lit 100), .set 1 (.lit 0), .set 1 (.add (.slot 1) (.lit 1)), .set 1 (.add (.slot 1) (.lit 1)),
             .set 1 (.add (.slot 1) (.lit 1))]⟩,
   ⟨[], [.expr (.slot 0)]⟩]

/-- **Contrast (not the code): carrying the globals over by NAME.**  At the piece boundary the outer
    variable takes the block variable's last value: the second piece yields 3, the whole program 100. -/
theorem reload_by_name_conflates :
    (slotRun reloadByName [] ([], []) w_shadow).2 = ([some 3, some 3], [3]) ∧
    (slotRun reloadBySlot [] ([], []) w_shadow).2 = ([some 100, some 3], [100]) ∧
    slotWhole [] [] [] w_shadow = ([some 100, some 3], [100]) := by decide +kernel

example : scopedFrom 0 w_shadow = true := by decide +kernel
example : slotRun reloadBySlot [] ([], []) w_shadow = ([7, 7], slotWhole [] [] [] w_shadow) :=
  reload_preserves_slots [] [] [] w_shadow rfl (by decide +kernel)

/-- **Why no existing test could tell the two apart**: for a table WITHOUT repeated names the by-name
    carry-over is the by-slot copy — for every array no longer than the table. -/
theorem reload_by_name_eq_by_slot_of_nodup (names : List Nat) (a : Slots) (hn : names.Nodup)
    (ha : a.length ≤ names.length) : reloadByName names a = reloadBySlot names a :=
  reloadByName_eq_of_nodup names a hn ha

/-- … and so is every session whose final table has no repeated name: the repeated names (block
    variables shadowing top-level variables) are exactly what separates the contrast from the code. -/
theorem by_name_session_eq_of_nodup (names : List Nat) (a : Slots) (vs : List Int) (h : List SPiece)
    (ha : a.length = names.length) (hs : scopedFrom names.length h = true) (hn : (names ++ allDecls h).Nodup) :
    slotRun reloadByName names (a, vs) h = slotRun reloadBySlot names (a, vs) h :=
  slotRun_byName_eq h names a vs ha hs hn

end Risor.C18
