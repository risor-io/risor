import RisorModel.C15.Lemmas
/-! Lemmas for C15 about containers with a HISTORY (`setStep`/`setRun`, `mapStep`/`mapRun`):
the orders of `Set.SortedItems` (`hkLess`) and of `Map.SortedKeys` (`keyLt`) are strict total
orders, so that inserting into / deleting from a canonical (strictly sorted) list keeps it
canonical — every set and map reachable by any history is well-formed (`wf`), and membership
after a history is decided by the last operation that mentions the key. -/
namespace Risor.C15

/-! ### strict total orders -/

structure StrictTotal {κ : Type} (r : κ → κ → Prop) : Prop where
  irrefl : ∀ a, ¬ r a a
  trans : ∀ a b c, r a b → r b c → r a c
  tri : ∀ a b, r a b ∨ a = b ∨ r b a

theorem StrictTotal.asymm {κ : Type} {r : κ → κ → Prop} (h : StrictTotal r) (a b : κ) :
    r a b → r b a → False := fun hab hba => h.irrefl a (h.trans a b a hab hba)

theorem StrictTotal.lt_of_not_lt {κ : Type} {r : κ → κ → Prop} (h : StrictTotal r) {a b : κ}
    (h1 : ¬ r a b) (h2 : a ≠ b) : r b a := ((h.tri a b).resolve_left h1).resolve_left h2

/-- a relation that is the `<` of a three-way comparison is a strict total order -/
theorem StrictTotal.of_cmp {κ : Type} {cmp : κ → κ → Int} (h : Cmp3 cmp) {r : κ → κ → Prop}
    (e : ∀ a b, r a b ↔ cmp a b = -1) : StrictTotal r where
  irrefl a := by rw [e, h.self]; omega
  trans a b c := by rw [e, e, e]; exact h.lt_trans
  tri a b := by
    rw [e, e, h.antisymm a b, ← h.eq_zero (a := a)]
    have := h.range a b
    omega

/-! ### `hkLess` (order of `Set.SortedItems`) and `keyLt` (order of `Map.SortedKeys`) -/

def hkTuple (k : HashKey) : Int × Int × List Nat × F := (tyRank k.ty, k.int, k.str, k.flt)

theorem tyRank_inj (a b : Ty) (h : tyRank a = tyRank b) : a = b := by
  cases a <;> cases b <;> simp [tyRank] at h <;> rfl

theorem hkTuple_inj (a b : HashKey) (h : hkTuple a = hkTuple b) : a = b := by
  cases a; cases b
  simp only [hkTuple, Prod.mk.injEq, Int.natCast_inj] at h
  obtain ⟨h1, h2, h3, h4⟩ := h
  simp only [HashKey.mk.injEq]
  exact ⟨tyRank_inj _ _ h1, h4, h2, h3⟩

/-- the order of `Set.SortedItems` compares type name, `IntValue`, `StrValue`, `FltValue`, in this order -/
theorem hkLess_iff (a b : HashKey) : hkLess a b = true ↔
    lexCmp cmpInt (lexCmp cmpInt (lexCmp cmpBytes cmpF)) (hkTuple a) (hkTuple b) = -1 := by
  have e : cmpInt (tyRank a.ty) (tyRank b.ty) = 0 ↔ a.ty = b.ty := by
    rw [cmpInt_eq_zero, Int.natCast_inj]; exact ⟨tyRank_inj _ _, congrArg _⟩
  simp only [hkLess, lexCmp, hkTuple, e, cmpInt_eq_zero, cmpBytes_eq_zero, ne_eq, ite_not]
  split
  · split
    · split
      · split
        · rename_i h; simp [h, cmpF_cmp3.self]
        · simp
      · simp
    · simp [cmpInt_lt]
  · simp [cmpInt_lt]

theorem hkLess_strictTotal : StrictTotal (fun a b : HashKey => hkLess a b = true) :=
  .of_cmp ((cmpInt_cmp3.lex (cmpInt_cmp3.lex (cmpBytes_cmp3.lex cmpF_cmp3))).pullback hkTuple hkTuple_inj
    fun _ _ => rfl) hkLess_iff

theorem keyLt_strictTotal : StrictTotal (fun a b : List Nat => keyLt a b = true) :=
  .of_cmp cmpBytes_cmp3 fun a b => by simp [keyLt]
/-! ### presence of a key in a list of items -/

section Keys
variable {α κ : Type} [DecidableEq κ] (key : α → κ)

/-- is the key present (`_, ok := items[k]`) -/
def memB (s : List α) (k : κ) : Bool := s.any (fun y => decide (key y = k))

theorem memB_iff (s : List α) (k : κ) : memB key s k = true ↔ k ∈ s.map key := by
  simp only [memB, List.any_eq_true, decide_eq_true_eq, List.mem_map]

/-- storing under the key `k'` makes `k'` present and changes no other key -/
theorem memB_insert {s s' : List α} {k' : κ} (h : ∀ k, k ∈ s'.map key ↔ k = k' ∨ k ∈ s.map key) (k : κ) :
    memB key s' k = (decide (k' = k) || memB key s k) := by
  rw [Bool.eq_iff_iff]
  simp only [Bool.or_eq_true, decide_eq_true_eq, memB_iff, h]
  exact or_congr eq_comm Iff.rfl

/-- deleting the key `k'` makes `k'` absent and changes no other key -/
theorem memB_filter_ne (k' : κ) (s : List α) (k : κ) :
    memB key (s.filter (fun y => decide (key y ≠ k'))) k = (memB key s k && decide (k' ≠ k)) := by
  rw [Bool.eq_iff_iff]
  simp only [memB, List.any_eq_true, List.mem_filter, decide_eq_true_eq, Bool.and_eq_true, ne_eq]
  constructor
  · rintro ⟨y, ⟨hy, hne⟩, e⟩
    exact ⟨⟨y, hy, e⟩, fun h => hne (e.trans h.symm)⟩
  · rintro ⟨⟨y, hy, e⟩, hne⟩
    exact ⟨y, ⟨hy, fun h => hne (h.symm.trans e)⟩, e⟩

end Keys

/-! ### inserting into a strictly sorted list -/

section SetH
variable {α : Type} (key : α → HashKey)

/-- a new key placed by `insertByKey` keeps the list strictly sorted -/
theorem insertByKey_sorted (x : α) : ∀ (l : List α),
    (l.map key).Pairwise (fun a b => hkLess a b = true) → key x ∉ l.map key →
    ((insertByKey key x l).map key).Pairwise (fun a b => hkLess a b = true)
  | [], _, _ => by simp [insertByKey]
  | y :: rest, hs, hn => by
    simp only [List.map_cons, List.pairwise_cons, List.mem_cons, not_or] at hs hn
    unfold insertByKey
    split
    · rename_i hlt
      simp only [List.map_cons, List.pairwise_cons, List.mem_cons]
      refine ⟨?_, hs.1, hs.2⟩
      rintro k (rfl | hk)
      · exact hlt
      · exact hkLess_strictTotal.trans _ _ _ hlt (hs.1 k hk)
    · rename_i hlt
      simp only [List.map_cons, List.pairwise_cons]
      refine ⟨?_, insertByKey_sorted x rest hs.2 hn.2⟩
      intro k hk
      rcases List.mem_cons.1 (((insertByKey_perm key x rest).map key).mem_iff.1 hk) with rfl | hk'
      · exact hkLess_strictTotal.lt_of_not_lt hlt hn.1
      · exact hs.1 k hk'

theorem setInsert_sorted (x : α) (l : List α)
    (hs : (l.map key).Pairwise (fun a b => hkLess a b = true)) :
    ((setInsert key x l).map key).Pairwise (fun a b => hkLess a b = true) := by
  unfold setInsert
  split
  · rw [replaceKey_keys]; exact hs
  · rename_i hn
    exact insertByKey_sorted key x l hs (by simpa using hn)

theorem buildSet_sorted (xs : List α) : ((buildSet key xs).map key).Pairwise (fun a b => hkLess a b = true) :=
  List.foldlRecOn (motive := fun acc => (acc.map key).Pairwise (fun a b => hkLess a b = true)) xs _ .nil
    fun acc h x _ => setInsert_sorted key x acc h

theorem memB_setInsert (x : α) (s : List α) (k : HashKey) :
    memB key (setInsert key x s) k = (decide (key x = k) || memB key s k) :=
  memB_insert key (setInsert_mem_keys key x s) k

end SetH

/-! ### sets of values -/

theorem wf_of_hashable {v : Val} (h : isHashable v = true) : wf v = true := by
  cases v <;> simp_all [isHashable, hashKey, wf]

/-- a set value is well-formed exactly when its items are hashable and strictly sorted by key -/
theorem wf_set_iff (xs : List Val) : wf (.set xs) = true ↔
    (∀ x ∈ xs, isHashable x = true) ∧ (xs.map keyOf).Pairwise (fun a b => hkLess a b = true) := by
  simp only [wf, Bool.and_eq_true, allHashable_iff, sortedBy_iff, hashKeys_eq_map, wfL_iff, List.pairwise_map]
  -- on hashable items `okLt` of the hash keys is `hkLess` of `keyOf`
  have pw (h1 : ∀ x ∈ xs, isHashable x = true) :
      xs.Pairwise (fun a b => okLt (hashKey a) (hashKey b) = true) ↔
        xs.Pairwise (fun a b => hkLess (keyOf a) (keyOf b) = true) :=
    List.Pairwise.iff_of_mem fun ha hb => by
      rw [hashKey_of_hashable (h1 _ ha), hashKey_of_hashable (h1 _ hb)]; exact Iff.rfl
  exact ⟨fun ⟨⟨h1, h2⟩, _⟩ => ⟨h1, (pw h1).1 h2⟩,
    fun ⟨h1, h2⟩ => ⟨⟨h1, (pw h1).2 h2⟩, fun x hx => wf_of_hashable (h1 x hx)⟩⟩

theorem setStep_wf (s : List Val) (o : SetOp Val) (h : wf (.set s) = true) :
    wf (.set (setStep isHashable keyOf s o).1) = true := by
  rw [wf_set_iff] at h ⊢
  cases o with
  | add x =>
    simp only [setStep]; split
    · rename_i hx
      exact ⟨fun y hy => (setInsert_mem keyOf hy).elim (· ▸ hx) (h.1 y), setInsert_sorted keyOf x s h.2⟩
    · exact h
  | remove x | del x =>
    simp only [setStep]; split
    · exact ⟨fun y hy => h.1 y (List.mem_filter.1 hy).1, h.2.sublist (List.filter_sublist.map keyOf)⟩
    · exact h
  | clear => exact ⟨nofun, .nil⟩
  | observe => exact h

theorem setHist_wf (s : List Val) (ops : List (SetOp Val)) (h : wf (.set s) = true) :
    wf (.set (setHist s ops)) = true :=
  List.foldlRecOn (motive := fun s => wf (.set s) = true) ops _ h fun s hs o _ => setStep_wf s o hs

/-- membership (`x in s`, by hash key) for a hashable probe is presence of its key -/
theorem contains_set_memB (xs : List Val) (hx : ∀ y ∈ xs, isHashable y = true) (x : Val) (k : HashKey)
    (hk : hashKey x = some k) : contains (.set xs) x = some (memB keyOf xs k) := by
  simp only [contains, hk, Option.some.injEq, memB]
  rw [Bool.eq_iff_iff]
  simp only [List.any_eq_true, beq_iff_eq, decide_eq_true_eq]
  constructor
  · rintro ⟨y, hy, e⟩
    rw [hashKey_of_hashable (hx y hy)] at e
    exact ⟨y, hy, Option.some.inj e⟩
  · rintro ⟨y, hy, e⟩
    exact ⟨y, hy, by rw [hashKey_of_hashable (hx y hy), e]⟩

theorem mkSet_spec {xs s : List Val} (h : mkSet xs = some s) : allHashable xs = true ∧ buildSet keyOf xs = s := by
  unfold mkSet at h
  split at h
  · exact ⟨‹_›, Option.some.inj h⟩
  · contradiction

/-- `NewSet(items)` is well-formed -/
theorem mkSet_wf {xs s : List Val} (h : mkSet xs = some s) : wf (.set s) = true := by
  obtain ⟨hh, rfl⟩ := mkSet_spec h
  exact (wf_set_iff _).2
    ⟨fun y hy => (allHashable_iff xs).1 hh y (buildSet_mem keyOf xs hy), buildSet_sorted keyOf xs⟩

/-- in a well-formed set no two slots hold values of one type that are `==` -/
theorem wf_set_single_slot {s : List Val} (h : wf (.set s) = true) :
    s.Pairwise (fun a b => ¬ (ty a = ty b ∧ equals a b = true)) := by
  obtain ⟨hh, hs⟩ := (wf_set_iff _).1 h
  rw [List.pairwise_map] at hs
  refine List.Pairwise.imp_of_mem ?_ hs
  intro a b ha hb hlt hc
  rw [(hashKey_eq_iff toF (hashKey_of_hashable (hh a ha)) (hashKey_of_hashable (hh b hb))).2 hc] at hlt
  exact hkLess_strictTotal.irrefl _ hlt

/-- membership in a well-formed set (by hash key) agrees with iterating its items and comparing within
    the type of the probe, for all probes, hashable or not -/
theorem wf_set_in_iff_iter {s : List Val} (h : wf (.set s) = true) (x : Val) :
    contains (.set s) x = some true ↔ ∃ y ∈ s, ty y = ty x ∧ equals y x = true := by
  have hh := ((wf_set_iff _).1 h).1
  cases hx : hashKey x with
  | none =>
    simp only [contains, hx, Option.some.injEq, Bool.false_eq_true, false_iff]
    rintro ⟨y, hy, ht, _⟩
    have := hashable_of_ty ht
    rw [hashKey_of_hashable (hh y hy), hx] at this
    simp at this
  | some k =>
    rw [contains_set_memB _ hh x k hx]
    simp only [Option.some.injEq, memB, List.any_eq_true, decide_eq_true_eq]
    exact exists_congr fun y => and_congr_right fun hy => hashKey_eq_iff toF (hashKey_of_hashable (hh y hy)) hx

/-- the fold of `specMember`, from any starting answer -/
def specFold (k : HashKey) (m : Bool) (ops : List (SetOp Val)) : Bool :=
  ops.foldl (fun m o =>
    match o with
    | .add x => if hashKey x = some k then true else m
    | .remove x => if hashKey x = some k then false else m
    | .del x => if hashKey x = some k then false else m
    | .clear => false
    | .observe => m) m

theorem specMember_eq (init : List Val) (ops : List (SetOp Val)) (k : HashKey) :
    specMember init ops k = specFold k (memB keyOf init k) ops := rfl

theorem hashKey_of_not_hashable {v : Val} (h : ¬ isHashable v = true) : hashKey v = none := by
  cases hk : hashKey v with
  | none => rfl
  | some _ => simp [isHashable, hk] at h

theorem memB_setStep (s : List Val) (o : SetOp Val) (k : HashKey) :
    memB keyOf (setStep isHashable keyOf s o).1 k = specFold k (memB keyOf s k) [o] := by
  cases o with
  | add x =>
    simp only [setStep, specFold, List.foldl_cons, List.foldl_nil]
    by_cases hx : isHashable x = true
    · simp only [hx, if_true, memB_setInsert, hashKey_of_hashable hx, Option.some.injEq]
      by_cases e : keyOf x = k <;> simp [e]
    · simp [hx, hashKey_of_not_hashable hx]
  | remove x | del x =>
    simp only [setStep, specFold, List.foldl_cons, List.foldl_nil]
    by_cases hx : isHashable x = true
    · simp only [hx, if_true, memB_filter_ne, hashKey_of_hashable hx, Option.some.injEq]
      by_cases e : keyOf x = k <;> simp [e]
    · simp [hx, hashKey_of_not_hashable hx]
  | clear => simp [setStep, specFold, memB]
  | observe => simp [setStep, specFold]

theorem memB_setHist (k : HashKey) (ops : List (SetOp Val)) (s : List Val) :
    memB keyOf (setHist s ops) k = specFold k (memB keyOf s k) ops :=
  (List.foldl_hom (fun s => memB keyOf s k) fun s o => (memB_setStep s o k).symm).symm

def SetOp.isObserve {α : Type} : SetOp α → Bool
  | .observe => true
  | _ => false

theorem setRun_drop_observe {α : Type} (hashable : α → Bool) (key : α → HashKey) (ops : List (SetOp α))
    (s : List α) : setRun hashable key s (ops.filter (fun o => !o.isObserve)) = setRun hashable key s ops := by
  unfold setRun
  rw [List.foldl_filter]
  congr; funext s o; cases o <;> rfl

/-! ### maps -/

section MapH
variable {α : Type}

theorem mapPut_keys_mem (k : List Nat) (v : α) : ∀ (es : List (List Nat × α)) (k' : List Nat),
    k' ∈ (mapPut k v es).map (·.1) ↔ k' = k ∨ k' ∈ es.map (·.1)
  | [], k' => by simp [mapPut]
  | e :: rest, k' => by
    unfold mapPut
    split
    · rename_i h
      simp only [List.map_cons, List.mem_cons, ← h, ← or_assoc, or_self]
    · split
      · simp
      · simp only [List.map_cons, List.mem_cons, mapPut_keys_mem k v rest k']
        exact or_left_comm

theorem mapPut_sorted (k : List Nat) (v : α) : ∀ (es : List (List Nat × α)),
    (es.map (·.1)).Pairwise (fun a b => keyLt a b = true) →
    ((mapPut k v es).map (·.1)).Pairwise (fun a b => keyLt a b = true)
  | [], _ => by simp [mapPut]
  | e :: rest, hs => by
    simp only [List.map_cons, List.pairwise_cons] at hs
    unfold mapPut
    split
    · rename_i h
      simp only [List.map_cons, List.pairwise_cons]
      rw [h]; exact hs
    · rename_i hne
      split
      · rename_i hlt
        simp only [List.map_cons, List.pairwise_cons, List.mem_cons]
        refine ⟨?_, hs.1, hs.2⟩
        rintro k' (rfl | hk)
        · exact hlt
        · exact keyLt_strictTotal.trans _ _ _ hlt (hs.1 k' hk)
      · rename_i hlt
        simp only [List.map_cons, List.pairwise_cons]
        refine ⟨?_, mapPut_sorted k v rest hs.2⟩
        intro k' hk'
        rcases (mapPut_keys_mem k v rest k').1 hk' with rfl | g
        · exact keyLt_strictTotal.lt_of_not_lt hlt hne
        · exact hs.1 k' g

theorem mapPut_mem {k : List Nat} {v : α} {w : List Nat × α} : ∀ {es : List (List Nat × α)},
    w ∈ mapPut k v es → w = (k, v) ∨ w ∈ es
  | [], h => by simpa [mapPut] using h
  | e :: rest, h => by
    unfold mapPut at h
    split at h
    · rcases List.mem_cons.1 h with g | g <;> simp [g]
    · split at h
      · simpa using h
      · rcases List.mem_cons.1 h with g | g
        · simp [g]
        · rcases mapPut_mem g with g' | g' <;> simp [g']

/-- the value an operation stores, if any -/
def MapOp.stored : MapOp α → Option α
  | .set _ v => some v
  | .setdefault _ v => some v
  | _ => none

theorem memB_mapPut (k' : List Nat) (v : α) (es : List (List Nat × α)) (k : List Nat) :
    memB (·.1) (mapPut k' v es) k = (decide (k' = k) || memB (·.1) es k) :=
  memB_insert _ (mapPut_keys_mem k' v es) k

end MapH

theorem wf_map_iff (es : List (List Nat × Val)) : wf (mapVal es) = true ↔
    (es.map (·.1)).Pairwise (fun a b => keyLt a b = true) ∧ ∀ e ∈ es, wf e.2 = true := by
  simp only [mapVal, wf, Bool.and_eq_true, List.length_map, beq_self_eq_true, true_and, sortedBy_iff,
    wfL_iff, List.mem_map]
  constructor
  · rintro ⟨h1, h2⟩; exact ⟨h1, fun e he => h2 e.2 ⟨e, he, rfl⟩⟩
  · rintro ⟨h1, h2⟩; exact ⟨h1, fun x ⟨e, he, hx⟩ => hx ▸ h2 e he⟩

/-- every operation on a map that stores a well-formed value (if any) keeps it well-formed -/
theorem mapStep_wf (es : List (List Nat × Val)) (o : MapOp Val) (ho : ∀ v, o.stored = some v → wf v = true)
    (h : wf (mapVal es) = true) : wf (mapVal (mapStep es o).1) = true := by
  rw [wf_map_iff] at h ⊢
  have put (k : List Nat) (v : Val) (hv : wf v = true) :
      ((mapPut k v es).map (·.1)).Pairwise (fun a b => keyLt a b = true) ∧ ∀ e ∈ mapPut k v es, wf e.2 = true :=
    ⟨mapPut_sorted k v es h.1, fun e he => (mapPut_mem he).elim (· ▸ hv) (h.2 e)⟩
  cases o with
  | set k v => exact put k v (ho v rfl)
  | del k | pop k =>
    exact ⟨h.1.sublist (List.filter_sublist.map _), fun e he => h.2 e (List.mem_filter.1 he).1⟩
  | setdefault k v =>
    simp only [mapStep]; split
    · exact h
    · exact put k v (ho v rfl)
  | badkey | observe => exact h
  | clear => exact ⟨.nil, nofun⟩
def specFoldM (k : List Nat) (m : Bool) (ops : List (MapOp Val)) : Bool :=
  ops.foldl (fun m o =>
    match o with
    | .set k' _ => if k' = k then true else m
    | .del k' => if k' = k then false else m
    | .pop k' => if k' = k then false else m
    | .setdefault k' _ => if k' = k then true else m
    | .badkey => m
    | .clear => false
    | .observe => m) m

theorem specHasKey_eq (init : List (List Nat × Val)) (ops : List (MapOp Val)) (k : List Nat) :
    specHasKey init ops k = specFoldM k (memB (·.1) init k) ops := rfl

theorem memB_mapStep (es : List (List Nat × Val)) (o : MapOp Val) (k : List Nat) :
    memB (·.1) (mapStep es o).1 k = specFoldM k (memB (·.1) es k) [o] := by
  cases o with
  | set k' v =>
    simp only [mapStep, specFoldM, List.foldl_cons, List.foldl_nil, memB_mapPut]
    by_cases e : k' = k <;> simp [e]
  | del k' | pop k' =>
    simp only [mapStep, specFoldM, List.foldl_cons, List.foldl_nil, memB_filter_ne]
    by_cases e : k' = k <;> simp [e]
  | setdefault k' v =>
    simp only [mapStep, specFoldM, List.foldl_cons, List.foldl_nil]
    split
    · rename_i h
      by_cases e : k' = k
      · subst e; simp; exact h
      · simp [e]
    · simp only [memB_mapPut]
      by_cases e : k' = k <;> simp [e]
  | badkey => simp [mapStep, specFoldM]
  | clear => simp [mapStep, specFoldM, memB]
  | observe => simp [mapStep, specFoldM]

theorem memB_mapRun (k : List Nat) (ops : List (MapOp Val)) (es : List (List Nat × Val)) :
    memB (·.1) (mapRun es ops) k = specFoldM k (memB (·.1) es k) ops :=
  (List.foldl_hom (fun es => memB (·.1) es k) fun es o => (memB_mapStep es o k).symm).symm

def MapOp.isObserve {α : Type} : MapOp α → Bool
  | .observe => true
  | _ => false

theorem mapRun_drop_observe {α : Type} (ops : List (MapOp α)) (es : List (List Nat × α)) :
    mapRun es (ops.filter (fun o => !o.isObserve)) = mapRun es ops := by
  unfold mapRun
  rw [List.foldl_filter]
  congr; funext es o; cases o <;> rfl

end Risor.C15
