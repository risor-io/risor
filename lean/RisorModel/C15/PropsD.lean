import RisorModel.C15.Props
import RisorModel.C15.Dispatch
/-!
C15 — theorems over the DISPATCH tables (`comparableWith`, `equalsWith`, `hashField`, tied to
object/*.go by `Ties.lean`) and the laws of the comparable scalar types added in `Dispatch.lean`
(byte_slice, time).  All statements are for every value / every conversion; nothing is bounded.
-/
namespace Risor.C15

/-! ## the model's pattern matches implement the tables -/

theorem scalarCompare_isSome_table (conv : Int → F) (a b : Val) (hs : isScalar a = true) :
    (scalarCompare conv a b).isSome = decide (ty b ∈ comparableWith (ty a)) := by
  cases a <;> first | contradiction | (cases b <;> rfl)

/-- `a.Compare(b)` of a non-container value returns a value EXACTLY for the operand types listed in
    the table row of `a`'s type — for every int→float conversion (Impl and Spec) and all values. -/
theorem compare_defined_iff_table (conv : Int → F) (a b : Val) (hs : isScalar a = true) :
    (compareG conv a b).isSome = true ↔ ty b ∈ comparableWith (ty a) := by
  rw [compareG_scalar hs, scalarCompare_isSome_table conv a b hs, decide_eq_true_iff]

/-- For ALL values (containers included): a comparison that returns a value is in the table; so a
    pair outside the table is always a type error. -/
theorem compare_defined_only_in_table (conv : Int → F) (a b : Val)
    (h : compareG conv a b ≠ none) : ty b ∈ comparableWith (ty a) := by
  cases hs : isScalar a
  · -- a container: only a list is comparable, and only with a list
    cases a <;> first | contradiction | (cases b <;> first | exact absurd rfl h | exact List.mem_singleton.2 rfl)
  · exact (compare_defined_iff_table conv a b hs).1 (Option.isSome_iff_ne_none.2 h)

/-- `a.Equals(b)` can be True only for the operand types in the `Equals` table row of `a`'s type. -/
theorem equals_true_only_in_table (conv : Int → F) (a b : Val)
    (h : equalsG conv a b = true) : ty b ∈ equalsWith (ty a) := by
  cases hs : isScalar a
  · cases a <;> first | contradiction | (cases b <;> first | cases h | exact List.mem_singleton.2 rfl)
  · rw [equalsG_scalar hs] at h
    revert h
    fun_cases scalarEquals conv a b <;> intro h <;> first | exact of_decide_eq_true rfl | cases h

/-- The `Compare` table of the model types is symmetric: if `a`'s type accepts `b`'s type then `b`'s
    type accepts `a`'s. -/
theorem compare_table_symmetric (s t : Ty) (h : t ∈ comparableWith s) : s ∈ comparableWith t := by
  revert t; cases s <;> decide

/-- The `Equals` table of the model types is symmetric. -/
theorem equals_table_symmetric (s t : Ty) (h : t ∈ equalsWith s) : s ∈ equalsWith t := by
  revert t; cases s <;> decide

/-- `Compare` and `Equals` accept the same operand types wherever a type is comparable at all. -/
theorem compare_table_within_equals_table (s t : Ty) (h : t ∈ comparableWith s) : t ∈ equalsWith s := by
  revert t; cases s <;> decide

/-- A value is hashable exactly when the table names a field for its type. -/
theorem hashable_iff_table (a : Val) : (hashKey a).isSome = (hashField (ty a)).isSome := by
  cases a <;> rfl

/-- The hash key of a value carries its type and NOTHING outside the field the table names: all
    other fields are zero. -/
theorem hash_field_carries_value (a : Val) (k : HashKey) (f : HField)
    (hk : hashKey a = some k) (hf : hashField (ty a) = some f) :
    k.ty = ty a ∧ (k.flt, k.int, k.str) = k.proj f := by
  cases a <;> simp [hashKey, hashField, ty] at hk hf <;> subst hk <;> subst hf <;> simp [HashKey.proj, ty]

/-- Within one type, the single field named by the table determines the value: two values of the
    same type whose hash keys agree on that field are the same value (so equal values ⇔ equal
    field, and `hash_eq_same_type` rests on this field alone). -/
theorem hash_field_injective_per_type (a b : Val) (f : HField) (hty : ty a = ty b)
    (hf : hashField (ty a) = some f) (h : (keyOf a).proj f = (keyOf b).proj f) : a = b := by
  cases a <;> cases b <;> try contradiction
  all_goals simp [hashField, ty] at hf <;> subst hf <;>
    simp [keyOf, hashKey, HashKey.proj] at h ⊢
  · rename_i x y; cases x <;> cases y <;> simp at h ⊢
  · exact h
  · exact h
  · omega
  · exact h

example : hashField (ty (.int 3)) = some .int := rfl
example : ty (.float (.fin 0)) ∈ comparableWith (ty (.int 1)) := by decide

/-! ## byte_slice and time -/

/-- the extended tables are the base tables on the model types -/
theorem xtable_extends (t u : Ty) : (XTy.base u ∈ xComparableWith (.base t) ↔ u ∈ comparableWith t) := by
  simp [xComparableWith]

/-- `Compare`/`Equals` on the extended values return a value / True only inside the extended tables. -/
theorem vcompare_defined_only_in_table (a b : XVal) (h : vcompare a b ≠ none) :
    xty b ∈ xComparableWith (xty a) := by
  cases a with
  | base v =>
    cases b with
    | base w =>
      have := compare_defined_only_in_table toF v w h
      simpa [xty, xComparableWith] using this
    | bslice _ | time _ => simp [vcompare] at h
  | bslice bs =>
    cases b with
    | base w => cases w <;> simp [vcompare, xty, xComparableWith, ty] at h ⊢
    | bslice _ => simp [xty, xComparableWith]
    | time _ => simp [vcompare] at h
  | time s => cases b <;> simp [vcompare, xty, xComparableWith] at h ⊢

/-- The full statement "the `Compare`/`Equals` dispatch is symmetric" over the covered types. -/
def C15_full_xtable_symmetric : Prop :=
  ∀ s t : XTy, (t ∈ xComparableWith s → s ∈ xComparableWith t) ∧ (t ∈ xEqualsWith s → s ∈ xEqualsWith t)

/-- It fails on the unchanged code: `ByteSlice.Compare`/`Equals` accept a `*String`,
    `String.Compare`/`Equals` do not accept a `*ByteSlice` (tie `asymmetric_pairs_tie`). -/
theorem C15_counterexample_xtable_symmetric : ¬ C15_full_xtable_symmetric := by
  intro h
  have := (h .bslice (.base .str)).1 (by decide)
  revert this; decide

/-- Outside the byte_slice/string pair the dispatch is symmetric. -/
theorem C15_partial_xtable_symmetric (s t : XTy)
    (hg : ¬ (s = .bslice ∧ t = .base .str)) :
    (t ∈ xComparableWith s → s ∈ xComparableWith t) ∧ (t ∈ xEqualsWith s → s ∈ xEqualsWith t) := by
  cases s with
  | base s' =>
    cases t with
    | base t' =>
      constructor
      · intro h; simp [xComparableWith] at h ⊢; exact compare_table_symmetric s' t' h
      · intro h; simp [xEqualsWith] at h ⊢; exact equals_table_symmetric s' t' h
    | bslice | time => constructor <;> intro h <;> simp [xComparableWith, xEqualsWith] at h
  | bslice =>
    cases t with
    | base t' =>
      constructor <;> intro h <;> simp [xComparableWith, xEqualsWith] at h <;> subst h <;> exact absurd ⟨rfl, rfl⟩ hg
    | bslice => simp [xComparableWith, xEqualsWith]
    | time => constructor <;> intro h <;> simp [xComparableWith, xEqualsWith] at h
  | time => cases t <;> simp [xComparableWith, xEqualsWith]

/-- `==` is reflexive on byte_slice and time values too. -/
theorem veq_refl (a : XVal) : vequals a a = true := by
  cases a with
  | base v => exact eq_refl v
  | bslice bs => simp [vequals, cmpBytes_cmp3.self]
  | time t => simp [vequals]

/-- The full statement: `==` is symmetric for all covered values. -/
def C15_full_veq_symm : Prop := ∀ a b : XVal, vequals a b = vequals b a

/-- It fails on the unchanged code: `byte_slice("a") == "a"` is true, `"a" == byte_slice("a")` is false. -/
theorem C15_counterexample_veq_symm : ¬ C15_full_veq_symm := by
  intro h
  have := h (.bslice [97]) (.base (.str [97]))
  revert this; decide

/-- Outside the guard `crossBytes` (a byte_slice meeting a string), `==` is symmetric. -/
theorem C15_partial_veq_symm (a b : XVal) (hg : crossBytes a b = false) : vequals a b = vequals b a := by
  cases a with
  | base v =>
    cases b with
    | base w => exact eq_symm v w
    | bslice bs => cases v <;> simp [vequals, crossBytes] at hg ⊢
    | time _ => simp [vequals]
  | bslice bs =>
    cases b with
    | base w => cases w <;> simp [vequals, crossBytes] at hg ⊢
    | bslice cs =>
      simp only [vequals]
      rw [Bool.eq_iff_iff, beq_iff_eq, beq_iff_eq, cmpBytes_eq_zero, cmpBytes_eq_zero]
      exact eq_comm
    | time _ => simp [vequals]
  | time s => cases b <;> simp [vequals, eq_comm]

example : crossBytes (.bslice [1]) (.bslice [2]) = false := rfl

/-- byte_slices are ordered and compared exactly as the strings with the same bytes, so every law of
    string `==`/`<` (`eq_trans_scalar_same_type`, `le_trans_scalar_same_type`, `compare_antisymm`,
    `compare_total_scalar`) is a law of byte_slices; and a byte_slice against a string gives what
    the two strings give. -/
theorem bslice_as_string (a b : List Nat) :
    vcompare (.bslice a) (.bslice b) = compare (.str a) (.str b) ∧
    vcompare (.bslice a) (.base (.str b)) = compare (.str a) (.str b) ∧
    vequals (.bslice a) (.bslice b) = equals (.str a) (.str b) ∧
    vequals (.bslice a) (.base (.str b)) = equals (.str a) (.str b) := by
  have e : (cmpBytes a b == 0) = (a == b) := by
    rw [Bool.eq_iff_iff, beq_iff_eq, beq_iff_eq, cmpBytes_eq_zero]
  refine ⟨rfl, rfl, ?_, ?_⟩ <;> simp [vequals, equals, equalsG, scalarEquals, e]

/-- `==` on byte_slices is transitive and agrees with `Compare = 0` and with the hash key. -/
theorem bslice_eq_laws (a b c : List Nat) :
    (vequals (.bslice a) (.bslice b) = true → vequals (.bslice b) (.bslice c) = true →
      vequals (.bslice a) (.bslice c) = true) ∧
    (vcompare (.bslice a) (.bslice b) = some 0 ↔ vequals (.bslice a) (.bslice b) = true) ∧
    (vequals (.bslice a) (.bslice b) = true ↔ vhashKey (.bslice a) = vhashKey (.bslice b)) := by
  simp [vequals, vcompare, vhashKey, cmpBytes_eq_zero]
  intro h1 h2; exact h1.trans h2

/-- `==` on times is an equivalence and `Compare` returns 0 exactly on `==` times. -/
theorem time_eq_laws (s t u : GoTime) :
    vequals (.time s) (.time s) = true ∧
    vequals (.time s) (.time t) = vequals (.time t) (.time s) ∧
    (vequals (.time s) (.time t) = true → vequals (.time t) (.time u) = true → vequals (.time s) (.time u) = true) ∧
    (vcompare (.time s) (.time t) = some 0 ↔ vequals (.time s) (.time t) = true) := by
  refine ⟨by simp [vequals], by simp [vequals, eq_comm], ?_, ?_⟩
  · simp [vequals]; intro h1 h2; exact h1.trans h2
  · simp only [vcompare, vequals, timeCmp]
    by_cases h : s = t
    · simp [h]
    · simp [h]; split <;> simp

/-- `After` never holds in both directions. -/
theorem timeAfter_asymm (s t : GoTime) (h : timeAfter s t = true) : timeAfter t s = false := by
  unfold timeAfter at h ⊢
  cases hs : s.mono <;> cases ht : t.mono <;> simp [hs, ht] at h ⊢ <;> omega

/-- The full statement "the order on times is antisymmetric": `t.Compare(s) = -s.Compare(t)`. -/
def C15_full_time_antisymm : Prop := ∀ s t : GoTime, timeCmp t s = -timeCmp s t

/-- It fails on the unchanged code: the same instant in two `*Location`s is neither `==` nor
    `After` in either direction, so BOTH `s < t` and `t < s` hold.  (The property's text lists the
    ordered types int, float, byte, string, bool, list; time is not among them, so the harness
    records such pairs in a histogram and not as a violation.) -/
theorem C15_counterexample_time_antisymm : ¬ C15_full_time_antisymm := by
  intro h
  have := h ⟨0, 0, none, 0⟩ ⟨0, 0, none, 1⟩
  revert this; decide

/-- Outside the guard `timeTwins`, the order on times is antisymmetric. -/
theorem C15_partial_time_antisymm (s t : GoTime) (hg : timeTwins s t = false) :
    timeCmp t s = -timeCmp s t := by
  unfold timeCmp
  by_cases h : s = t
  · subst h; simp
  · have h' : ¬ t = s := fun e => h e.symm
    simp only [h, h', if_false]
    cases hst : timeAfter s t
    · cases hts : timeAfter t s
      · simp [timeTwins, h, hst, hts] at hg
      · simp
    · have := timeAfter_asymm s t hst
      simp [this]

example : timeTwins ⟨5, 0, none, 0⟩ ⟨6, 0, none, 1⟩ = false := by decide

end Risor.C15
