import RisorModel.C15.Lemmas
import RisorModel.C15.LemmasW
import RisorModel.C15.LemmasH
/-!
C15 — equality, ordering and hashing of values obey their algebraic laws.

All theorems are about the Impl model of `RisorModel/C15/Model.lean` (`equals`, `compare`,
`hashKey`, `contains`, `sorted`, `mkSet`, `truthy` = the functions at the conversion
`toF`, Go's `float64(int64)`), for ALL model values: arbitrary nesting depth and length,
every int and every float64 other than NaN (NaN has no model value, as the property
excludes it).  Where the unchanged code violates the property's text the full statement is
kept as a `def … : Prop`, refuted by a concrete witness, and proved under the decidable
guard `lossy` (an integer that `float64()` does not represent exactly is compared with a
float somewhere in the pointwise comparison of the two values).
-/
namespace Risor.C15

/-! ## `==` -/

/-- `==` is reflexive: for every value `v` (NaN excluded by construction), `v == v`. -/
theorem eq_refl (v : Val) : equals v v = true := equalsG_refl toF v

/-- `==` is symmetric: for all values `a b` of any types, `a == b` and `b == a` agree. -/
theorem eq_symm (a b : Val) : equals a b = equals b a := equalsG_symm toF a b

/-- `!=` is the exact negation of `==`, for all values. -/
theorem ne_is_not_eq (a b : Val) : notEquals a b = !(equals a b) := rfl

/-- The full statement of "`==` is transitive within a type": for all values of one type. -/
def C15_full_eq_trans_same_type : Prop :=
  ∀ a b c : Val, ty a = ty b → ty b = ty c →
    equals a b = true → equals b c = true → equals a c = true

/-- The unchanged code violates it: the three lists `[2^53+1]`, `[2^53 as float]`, `[2^53]`. -/
theorem C15_counterexample_eq_trans : ¬ C15_full_eq_trans_same_type := by
  intro h
  have := h (.list [.int 9007199254740993]) (.list [.float (exactF 9007199254740992)])
    (.list [.int 9007199254740992]) rfl rfl (by decide +kernel) (by decide +kernel)
  revert this
  decide +kernel

/-- Outside the guard `==` is transitive — for values of ANY types, not only within one
    type: for all `a b c` such that no pair of them is in the guard. -/
theorem C15_partial_eq_trans (a b c : Val)
    (gab : lossy a b = false) (gbc : lossy b c = false) (gac : lossy a c = false)
    (hab : equals a b = true) (hbc : equals b c = true) : equals a c = true := by
  unfold equals at *
  rw [(agree_outside_guard a b gab).2] at hab
  rw [(agree_outside_guard b c gbc).2] at hbc
  rw [(agree_outside_guard a c gac).2, xequals_congr a b hab c]
  exact hbc

/-- Within every non-container type (int, float, byte, string, bool, nil, error) `==` is
    transitive without any guard. -/
theorem eq_trans_scalar_same_type (a b c : Val) (hs : isScalar a = true)
    (hab : ty a = ty b) (hbc : ty b = ty c)
    (h1 : equals a b = true) (h2 : equals b c = true) : equals a c = true := by
  have hsb : isScalar b = true := isScalar_of_ty hab hs
  exact C15_partial_eq_trans a b c (lossy_scalar_same_ty hs hab) (lossy_scalar_same_ty hsb hbc)
    (lossy_scalar_same_ty hs (hab.trans hbc)) h1 h2

/-! ## ordering -/

/-- `Compare` is antisymmetric for ALL pairs of values, of equal or different types:
    `b.Compare(a) = -a.Compare(b)`, and one fails (type error) exactly when the other does. -/
theorem compare_antisymm (a b : Val) : compare b a = (compare a b).map (fun c => -c) :=
  compareG_antisymm toF a b

/-- `Compare` only ever returns -1, 0 or 1. -/
theorem compare_range (a b : Val) (c : Int) (h : compare a b = some c) : c = -1 ∨ c = 0 ∨ c = 1 :=
  compareG_range toF a b c h

/-- Across numeric types (and in fact for all values) the code never reports both `a < b`
    and `b < a`. -/
theorem lt_asymm_mixed (a b : Val) : ¬ (opLt a b = some true ∧ opLt b a = some true) := by
  unfold opLt
  rw [compare_antisymm a b]
  cases compare a b with
  | none => simp
  | some c => simp; omega

/-- `>` and `>=` are `<` and `<=` with the operands exchanged, for all values. -/
theorem op_dual (a b : Val) : opGt a b = opLt b a ∧ opGe a b = opLe b a := by
  unfold opGt opLt opGe opLe
  rw [compare_antisymm a b]
  cases compare a b with
  | none => simp
  | some c => simp <;> constructor <;> (rw [Bool.eq_iff_iff]; simp; omega)

/-- The ordering agrees with `==` wherever it is defined (so in particular within each of
    int, float, byte, string, bool and list): `a.Compare(b) = 0` exactly when `a == b`. -/
theorem compare_agrees_eq (a b : Val) (c : Int) (h : compare a b = some c) :
    c = 0 ↔ equals a b = true := compareG_zero_iff_equals toF a b c h

/-- `<=` and `>=` together are `==`, and `<` is `<=` without `>=`, wherever defined. -/
theorem le_antisymm_iff_eq (a b : Val) (c : Int) (h : compare a b = some c) :
    ((opLe a b = some true ∧ opLe b a = some true) ↔ equals a b = true) ∧
    (opLt a b = some true ↔ (opLe a b = some true ∧ opLe b a = some false)) := by
  have hz := compare_agrees_eq a b c h
  have hr := compare_range a b c h
  unfold opLe opLt
  rw [compare_antisymm a b, h]
  simp
  constructor
  · rw [← hz]; omega
  · omega

/-- Totality within each ordered scalar type (and across int/float/byte): the comparison
    never fails, and one of `a <= b`, `b <= a` holds. -/
theorem compare_total_scalar (a b : Val) (h : ty a = ty b) (ho : orderedScalar (ty a) = true) :
    ∃ c, compare a b = some c ∧ (opLe a b = some true ∨ opLe b a = some true) := by
  have : ∃ c, compare a b = some c := by
    cases a <;> cases b <;> first | contradiction | exact ⟨_, rfl⟩
  obtain ⟨c, hc⟩ := this
  refine ⟨c, hc, ?_⟩
  unfold opLe
  rw [compare_antisymm a b, hc]
  simp; omega

/-- The three numeric types are mutually comparable. -/
theorem compare_total_numeric (a b : Val) (ha : (nkey a).isSome = true) (hb : (nkey b).isSome = true) :
    ∃ c, compare a b = some c := by
  cases a <;> first | contradiction | (cases b <;> first | contradiction | exact ⟨_, rfl⟩)

/-- `<=` is reflexive wherever `Compare` is defined: `a.Compare(a) = 0`. -/
theorem compare_refl (a : Val) (c : Int) (h : compare a a = some c) : c = 0 :=
  (compare_agrees_eq a a c h).2 (eq_refl a)

/-- The full statement of "`<=` is transitive within a type" (wherever the comparisons
    involved are defined). -/
def C15_full_le_trans_same_type : Prop :=
  ∀ a b c : Val, ty a = ty b → ty b = ty c →
    opLe a b = some true → opLe b c = some true → opLe a c = some true

/-- The unchanged code violates it within the type list: `[2^53+1] <= [2^53.0] <= [2^53]`
    but not `[2^53+1] <= [2^53]`. -/
theorem C15_counterexample_le_trans : ¬ C15_full_le_trans_same_type := by
  intro h
  have := h (.list [.int 9007199254740993]) (.list [.float (exactF 9007199254740992)])
    (.list [.int 9007199254740992]) rfl rfl (by decide +kernel) (by decide +kernel)
  revert this
  decide +kernel

/-- Outside the guard `<=` is transitive, for values of any types (hence within int, float,
    byte, string, bool and list, and across the numeric types), and the comparison of the
    outer pair is defined whenever the two inner ones are. -/
theorem C15_partial_le_trans (a b c : Val)
    (gab : lossy a b = false) (gbc : lossy b c = false) (gac : lossy a c = false)
    (hab : opLe a b = some true) (hbc : opLe b c = some true) : opLe a c = some true := by
  unfold opLe compare at *
  rw [(agree_outside_guard a b gab).1] at hab
  rw [(agree_outside_guard b c gbc).1] at hbc
  rw [(agree_outside_guard a c gac).1]
  simp only [Option.map_eq_some_iff, decide_eq_true_eq] at hab hbc ⊢
  obtain ⟨d1, e1, l1⟩ := hab
  obtain ⟨d2, e2, l2⟩ := hbc
  obtain ⟨d3, h3, l3, _⟩ := xcompare_le_trans e1 e2 l1 l2
  exact ⟨d3, h3, l3⟩

/-- Within every non-container type `<=` is transitive without any guard. -/
theorem le_trans_scalar_same_type (a b c : Val) (hs : isScalar a = true)
    (hab : ty a = ty b) (hbc : ty b = ty c)
    (h1 : opLe a b = some true) (h2 : opLe b c = some true) : opLe a c = some true := by
  have hsb : isScalar b = true := isScalar_of_ty hab hs
  exact C15_partial_le_trans a b c (lossy_scalar_same_ty hs hab) (lossy_scalar_same_ty hsb hbc)
    (lossy_scalar_same_ty hs (hab.trans hbc)) h1 h2

/-! ## hashing, sets, membership -/

/-- Within a type, two hashable values are `==` exactly when their hash keys are equal
    (and values of different types never share a key). -/
theorem hash_eq_same_type (a b : Val) (ka kb : HashKey)
    (ha : hashKey a = some ka) (hb : hashKey b = some kb) :
    ka = kb ↔ (ty a = ty b ∧ equals a b = true) := hashKey_eq_iff toF ha hb

/-- Values of one type that are `==` occupy a single slot: in the set built from ANY list of
    items no two different slots hold values of one type that are `==`. -/
theorem set_single_slot (xs s : List Val) (h : mkSet xs = some s) :
    s.Pairwise (fun a b => ¬ (ty a = ty b ∧ equals a b = true)) := wf_set_single_slot (mkSet_wf h)

/-- Membership in a set agrees with iterating the items it was built from and comparing
    within the type of the probe: `v in set(xs)` iff some `x` in `xs` has `v`'s type and
    `x == v`.  For all item lists and all probes (unhashable probes are never members). -/
theorem set_in_iff_exists_eq_same_type (xs s : List Val) (v : Val) (h : mkSet xs = some s) :
    contains (.set s) v = some true ↔ ∃ x ∈ xs, ty x = ty v ∧ equals x v = true := by
  rw [wf_set_in_iff_iter (mkSet_wf h)]
  obtain ⟨hh, rfl⟩ := mkSet_spec h
  constructor
  · rintro ⟨y, hy, e⟩; exact ⟨y, buildSet_mem keyOf xs hy, e⟩
  · rintro ⟨x, hx, ht, he⟩
    have hkx := allHashable_mem hh x hx
    cases hv : hashKey v with
    | none => have := hashable_of_ty ht; rw [hkx, hv] at this; cases this
    | some k =>
      -- the slot that holds `x`'s hash key holds a value of `v`'s type that is `==` to `v`
      have hk : keyOf x = k := (hash_eq_same_type x v _ _ hkx hv).2 ⟨ht, he⟩
      obtain ⟨y, hy, hyk⟩ := List.mem_map.1 ((buildSet_mem_keys keyOf xs k).2 (List.mem_map.2 ⟨x, hx, hk⟩))
      exact ⟨y, hy, (hash_eq_same_type y v _ _ (allHashable_mem hh y (buildSet_mem keyOf xs hy)) hv).1 hyk⟩

/-- `v in list` agrees with iterating and comparing with `==` (any types). -/
theorem list_in_iff_exists_eq (xs : List Val) (v : Val) :
    contains (.list xs) v = some true ↔ ∃ x ∈ xs, equals x v = true := by
  simp [contains]

/-- `v in map` agrees with iterating the keys and comparing them with `v`. -/
theorem map_in_iff_exists_eq (ks : List (List Nat)) (vs : List Val) (v : Val) :
    contains (.map ks vs) v = some true ↔ ∃ k ∈ ks, equals (.str k) v = true := by
  cases v <;> simp [contains, equals, equalsG, scalarEquals]

/-- A container (string, list, map, set) is truthy exactly when its length is non-zero. -/
theorem truthy_iff_len_pos (v : Val) (n : Nat) (h : len v = some n) :
    truthy v = true ↔ n ≠ 0 := by
  cases v <;> simp [len] at h <;> subst h <;> simp [truthy, List.length_pos_iff]

/-! ## maps and sets: `==` as the code computes it

`equals` (used above) compares the canonical forms of maps and sets pointwise.  The code
does something else: `Map.Equals` and `Set.Equals` test the sizes and then range over the
LEFT operand's entries, looking each key up in the RIGHT operand (`equalsW`, Model.lean).
The theorems below are about that loop, for all well-formed values (`wf`: distinct, sorted
keys at every nesting level — what the harness's encoder produces from a real object). -/

/-- `Equals` as written (size test + range-and-lookup loops, at every nesting level) computes
    the same result as the pointwise comparison of canonical forms, for ALL well-formed
    values `a b` of any types — so every law of `equals` in this file is a law of the loops. -/
theorem equals_as_written (a b : Val) (ha : wf a = true) (hb : wf b = true) :
    equalsW a b = equals a b := equalsWG_eq_equalsG toF a ha b hb

/-- `==` as written is reflexive on every well-formed value (in particular every map and
    every set, nested containers included). -/
theorem eqW_refl (v : Val) (h : wf v = true) : equalsW v v = true := by
  rw [equals_as_written v v h h]; exact eq_refl v

/-- `==` as written is SYMMETRIC for all well-formed values of any types: the result of the
    loop over `a`'s entries with lookups in `b` equals the result of the loop over `b`'s
    entries with lookups in `a`. -/
theorem eqW_symm (a b : Val) (ha : wf a = true) (hb : wf b = true) :
    equalsW a b = equalsW b a := by
  rw [equals_as_written a b ha hb, equals_as_written b a hb ha]; exact eq_symm a b

/-- `Map.Equals` is reflexive: for every well-formed map (any keys, any nested values). -/
theorem map_eq_refl (ks : List (List Nat)) (vs : List Val) (h : wf (.map ks vs) = true) :
    equalsW (.map ks vs) (.map ks vs) = true := eqW_refl _ h

/-- `Map.Equals` is symmetric: for all pairs of well-formed maps — equal or different key
    sets, equal or different sizes, any values (nil included). -/
theorem map_eq_symm (ks ks' : List (List Nat)) (vs vs' : List Val)
    (h : wf (.map ks vs) = true) (h' : wf (.map ks' vs') = true) :
    equalsW (.map ks vs) (.map ks' vs') = equalsW (.map ks' vs') (.map ks vs) :=
  eqW_symm _ _ h h'

/-- `Map.Equals` agrees with the entry-by-entry comparison: two well-formed maps are `==`
    exactly when their key SETS are equal and the values under every key are `==`.  (A key
    bound to nil on one side never matches an absent key on the other.) -/
theorem map_eq_iff_entries (ks ks' : List (List Nat)) (vs vs' : List Val)
    (h : wf (.map ks vs) = true) (h' : wf (.map ks' vs') = true) :
    equalsW (.map ks vs) (.map ks' vs') = true ↔
      (∀ k, k ∈ ks ↔ k ∈ ks') ∧
      (∀ k v v', lookupKV k ks vs = some v → lookupKV k ks' vs' = some v' → equalsW v v' = true) :=
  equalsWG_map_iff_entries toF h h'

/-- The full statement "`==` on maps is transitive" … -/
def C15_full_map_eq_trans : Prop :=
  ∀ a b c : Val, ty a = .map → ty b = .map → ty c = .map → wf a = true → wf b = true → wf c = true →
    equalsW a b = true → equalsW b c = true → equalsW a c = true

/-- … is violated by the unchanged code through the known int/float defect:
    `{"k": 2^53+1} == {"k": 2^53.0} == {"k": 2^53}` but `{"k": 2^53+1} != {"k": 2^53}`. -/
theorem C15_counterexample_map_eq_trans : ¬ C15_full_map_eq_trans := by
  intro h
  have := h (.map [[107]] [.int 9007199254740993]) (.map [[107]] [.float (exactF 9007199254740992)])
    (.map [[107]] [.int 9007199254740992]) rfl rfl rfl (by decide +kernel) (by decide +kernel)
    (by decide +kernel) (by decide +kernel) (by decide +kernel)
  revert this
  decide +kernel

/-- Outside the guard `==` as written is transitive, for all well-formed values (maps, sets,
    lists of them, …). -/
theorem eqW_trans (a b c : Val) (ha : wf a = true) (hb : wf b = true) (hc : wf c = true)
    (gab : lossy a b = false) (gbc : lossy b c = false) (gac : lossy a c = false)
    (hab : equalsW a b = true) (hbc : equalsW b c = true) : equalsW a c = true := by
  rw [equals_as_written _ _ ha hb] at hab
  rw [equals_as_written _ _ hb hc] at hbc
  rw [equals_as_written _ _ ha hc]
  exact C15_partial_eq_trans a b c gab gbc gac hab hbc

/-- `Map.Equals` is transitive outside the guard: for all well-formed maps. -/
theorem map_eq_trans (ks ks' ks'' : List (List Nat)) (vs vs' vs'' : List Val)
    (h : wf (.map ks vs) = true) (h' : wf (.map ks' vs') = true) (h'' : wf (.map ks'' vs'') = true)
    (g1 : lossy (.map ks vs) (.map ks' vs') = false) (g2 : lossy (.map ks' vs') (.map ks'' vs'') = false)
    (g3 : lossy (.map ks vs) (.map ks'' vs'') = false)
    (e1 : equalsW (.map ks vs) (.map ks' vs') = true) (e2 : equalsW (.map ks' vs') (.map ks'' vs'') = true) :
    equalsW (.map ks vs) (.map ks'' vs'') = true := eqW_trans _ _ _ h h' h'' g1 g2 g3 e1 e2

/-- The Spec as written (the same loops over exact-value equality) is transitive without any
    guard, for all well-formed values. -/
theorem spec_eqW_trans (a b c : Val) (ha : wf a = true) (hb : wf b = true) (hc : wf c = true)
    (hab : xequalsW a b = true) (hbc : xequalsW b c = true) : xequalsW a c = true := by
  unfold xequalsW at *
  rw [equalsWG_eq_equalsG exactF a ha b hb] at hab
  rw [equalsWG_eq_equalsG exactF b hb c hc] at hbc
  rw [equalsWG_eq_equalsG exactF a ha c hc]
  rw [xequals_congr a b hab c]; exact hbc

/-- `Set.Equals` is reflexive and symmetric: for all well-formed sets. -/
theorem set_eq_refl (xs : List Val) (h : wf (.set xs) = true) : equalsW (.set xs) (.set xs) = true :=
  eqW_refl _ h

theorem set_eq_symm (xs ys : List Val) (h : wf (.set xs) = true) (h' : wf (.set ys) = true) :
    equalsW (.set xs) (.set ys) = equalsW (.set ys) (.set xs) := eqW_symm _ _ h h'

/-- `Set.Equals` is transitive without any guard (set items are scalars of distinct hash keys;
    an int never meets a float under one hash key): for all well-formed sets. -/
theorem set_eq_trans (xs ys zs : List Val) (h : wf (.set xs) = true) (h' : wf (.set ys) = true)
    (h'' : wf (.set zs) = true) (e1 : equalsW (.set xs) (.set ys) = true)
    (e2 : equalsW (.set ys) (.set zs) = true) : equalsW (.set xs) (.set zs) = true := by
  unfold equalsW at *
  rw [equalsWG_set_iff_keys toF h h'] at e1
  rw [equalsWG_set_iff_keys toF h' h''] at e2
  rw [equalsWG_set_iff_keys toF h h'']
  exact fun k => (e1 k).trans (e2 k)

/-- `Set.Equals` agrees with item-by-item comparison: two well-formed sets are `==` exactly
    when every item of each is `in` the other. -/
theorem set_eq_iff_members (xs ys : List Val) (h : wf (.set xs) = true) (h' : wf (.set ys) = true) :
    equalsW (.set xs) (.set ys) = true ↔
      (∀ x ∈ xs, contains (.set ys) x = some true) ∧ (∀ y ∈ ys, contains (.set xs) y = some true) := by
  unfold equalsW
  rw [equalsWG_set_iff_keys toF h h']
  simp only [wf, Bool.and_eq_true] at h h'
  -- every item of one set is a member of the other: the hash keys of the one are among those of the other
  have hc : ∀ {zs ws : List Val}, allHashable zs = true →
      ((∀ z ∈ zs, contains (.set ws) z = some true) ↔ ∀ k ∈ hashKeys zs, k ∈ hashKeys ws) := by
    intro zs ws hz
    rw [hashKeys_eq_map zs, List.forall_mem_map]
    exact forall₂_congr fun z m => contains_set_iff (by rw [allHashable_mem hz z m]; rfl)
  rw [hc h.1.1, hc h'.1.1]
  exact ⟨fun hk => ⟨fun k => (hk k).1, fun k => (hk k).2⟩, fun ⟨h1, h2⟩ k => ⟨h1 k, h2 k⟩⟩

/-! ## sorted() -/

/-- Whenever `sorted()` returns (no comparison failed), the result is a permutation of the
    input — for every input list, comparable or not, inside or outside the guard. -/
theorem sorted_perm (xs ys : List Val) (h : sorted xs = some ys) : ys.Perm xs := sortM_perm h

/-- `sorted()` succeeds on mutually comparable input (inside or outside the guard), and
    returns what the stable insertion pass by `less` returns. -/
theorem sorted_succeeds (xs : List Val) (h : Comparable xs) : sorted xs = some (sortBy less xs) :=
  sortM_eq xs (lessM_eq h)

/-- The full statement "the output of sorted() on mutually comparable input is ordered". -/
def C15_full_sorted_ordered : Prop :=
  ∀ xs ys : List Val, (∀ a ∈ xs, ∀ b ∈ xs, compare a b ≠ none) → sorted xs = some ys →
    ys.Pairwise (fun a b => less b a = false)

/-- The unchanged code violates it: `sorted([2^53+1, 2^53.0, 2^53])` returns its input,
    whose last item is `<` its first. -/
theorem C15_counterexample_sorted : ¬ C15_full_sorted_ordered := by
  intro h
  have hc : Comparable [.int 9007199254740993, .float (exactF 9007199254740992), .int 9007199254740992] := by
    intro a ha b hb
    simp only [List.mem_cons, List.mem_nil_iff, or_false] at ha hb
    rcases ha with rfl | rfl | rfl <;> rcases hb with rfl | rfl | rfl <;> decide +kernel
  have := (orderedB_iff _).2 (h _ _ hc (sorted_succeeds _ hc))
  revert this
  decide +kernel

/-- Outside the guard the output is ordered: no later item is `<` an earlier one. For all
    mutually comparable lists of any length. -/
theorem C15_partial_sorted_ordered (xs ys : List Val) (h : Sortable xs) (hs : sorted xs = some ys) :
    ys.Pairwise (fun a b => less b a = false) := by
  rw [sorted_succeeds xs h.comparable] at hs
  simp at hs; subst hs
  exact sortBy_sorted (less_swo h) xs (fun y hy => hy)

/-- … and stable: for every item `e` of the input, the items that compare equal to `e`
    appear in the output in their input order. -/
theorem C15_partial_sorted_stable (xs ys : List Val) (h : Sortable xs) (hs : sorted xs = some ys)
    (e : Val) (he : e ∈ xs) :
    ys.filter (fun w => !less e w && !less w e) = xs.filter (fun w => !less e w && !less w e) := by
  rw [sorted_succeeds xs h.comparable] at hs
  simp at hs; subst hs
  refine sortBy_stable (S := fun v => v ∈ xs) _ ?_ xs (fun y hy => hy)
  intro x y hx hy hpx hxy
  simp only [Bool.and_eq_true, Bool.not_eq_true'] at hpx
  have hnt := (less_swo h).negtrans x e y hx he hy hpx.2
  cases hey : less e y with
  | true => simp
  | false => rw [hnt hey] at hxy; contradiction

/-- … and idempotent: sorting the output again returns it unchanged. -/
theorem C15_partial_sorted_idempotent (xs ys : List Val) (h : Sortable xs) (hs : sorted xs = some ys) :
    sorted ys = some ys := by
  have hp := sorted_perm xs ys hs
  have h' : Sortable ys := fun a ha b hb => h a (hp.mem_iff.1 ha) b (hp.mem_iff.1 hb)
  rw [sorted_succeeds ys h'.comparable, sortBy_of_sorted ys (C15_partial_sorted_ordered xs ys h hs)]

/-- Lists of one non-container ordered type are always sortable (no guard needed). -/
theorem sortable_same_scalar_type (xs : List Val) (t : Ty) (ho : orderedScalar t = true)
    (h : ∀ a ∈ xs, ty a = t) : Sortable xs := by
  intro a ha b hb
  have hta := h a ha
  have htb := h b hb
  have hs : isScalar a = true := isScalar_of_ordered (by rw [hta]; exact ho)
  refine ⟨?_, lossy_scalar_same_ty hs (hta.trans htb.symm)⟩
  obtain ⟨c, hc, _⟩ := compare_total_scalar a b (hta.trans htb.symm) (by rw [hta]; exact ho)
  rw [hc]; simp

/-! ## the int → float conversion -/

/-- Go's `float64(int64)` (round to nearest, ties to even, 53 significant bits) is monotone:
    for ALL integers `i ≤ j`, `float64(i) ≤ float64(j)`. -/
theorem toFloat_monotone (i j : Int) (h : i ≤ j) : cmpF (toF i) (toF j) ≤ 0 := toF_mono h

/-- Hence comparisons between ints and floats never invert the order of the integers: if a
    float is `<` an int it is `<` every larger int, and if an int is `<` a float so is every
    smaller int.  For all floats and all integers. -/
theorem mixed_order_consistent (f : F) (i j : Int) (h : i ≤ j) :
    (compare (.float f) (.int i) = some (-1) → compare (.float f) (.int j) = some (-1)) ∧
    (compare (.int j) (.float f) = some (-1) → compare (.int i) (.float f) = some (-1)) := by
  have hm := toF_mono h
  simp only [compare, compareG, scalarCompare, Option.some.injEq]
  exact ⟨fun h1 => cmpF_cmp3.lt_of_lt_of_le h1 hm, fun h1 => cmpF_cmp3.lt_of_le_of_lt hm h1⟩

/-- Integers of magnitude up to 2^53 are converted exactly, so the guard `lossy` can only
    fire for |i| > 2^53. -/
theorem guard_only_beyond_2_53 (i : Int) (f : F) (h : i.natAbs ≤ 2 ^ 53) :
    lossy (.int i) (.float f) = false ∧ lossy (.float f) (.int i) = false := by
  simp [lossy, exactInt_of_abs_le h]

/-! ## Impl against Spec -/

/-- Refinement: outside the guard the code (Impl) computes exactly the comparison and the
    equality of the exact numeric values (Spec), for all values of any nesting. -/
theorem impl_eq_spec_outside_guard (a b : Val) (h : lossy a b = false) :
    compare a b = xcompare a b ∧ equals a b = xequals a b := agree_outside_guard a b h

/-- The Spec satisfies the property without any guard: exact-value `==` is transitive for
    all values of all types … -/
theorem spec_eq_trans (a b c : Val) (h1 : xequals a b = true) (h2 : xequals b c = true) :
    xequals a c = true := by
  unfold xequals at *
  rw [xequals_congr a b h1 c]; exact h2

/-- … and exact-value `<=` is transitive for all values (the outer comparison is defined
    whenever the inner two are). -/
theorem spec_le_trans (a b c : Val) (d1 d2 : Int) (h1 : xcompare a b = some d1)
    (h2 : xcompare b c = some d2) (l1 : d1 ≤ 0) (l2 : d2 ≤ 0) :
    ∃ d3, xcompare a c = some d3 ∧ d3 ≤ 0 := by
  obtain ⟨d3, h3, l3, _⟩ := xcompare_le_trans h1 h2 l1 l2
  exact ⟨d3, h3, l3⟩

/-! ## non-vacuity: the guards and hypotheses are satisfiable by non-trivial inputs -/

/-- a mixed int/float/byte triple outside the guard that is really `==` -/
example : lossy (.int 1) (.float (exactF 1)) = false ∧ lossy (.float (exactF 1)) (.byte 1) = false ∧
    equals (.int 1) (.float (exactF 1)) = true ∧ equals (.float (exactF 1)) (.byte 1) = true := by
  decide +kernel

/-- nested lists with mixed numbers outside the guard, strictly ordered -/
example : lossy (.list [.int 1, .list [.float (exactF 2)]]) (.list [.byte 1, .list [.int 3]]) = false ∧
    opLt (.list [.int 1, .list [.float (exactF 2)]]) (.list [.byte 1, .list [.int 3]]) = some true := by
  decide +kernel

/-- a sortable list mixing the three numeric types, and what `sorted` returns for it
    (stability: `1` stays before `1.0`) -/
example : (sorted [.int 3, .int 1, .float (exactF 1), .byte 0]).map (fun ys => ys.map ty) =
    some [.byte, .int, .float, .int] := by decide +kernel
example : Sortable [.int 3, .int 1, .float (exactF 1), .byte 0] := by
  intro a ha b hb
  simp only [List.mem_cons, List.mem_nil_iff, or_false] at ha hb
  rcases ha with rfl | rfl | rfl | rfl <;> rcases hb with rfl | rfl | rfl | rfl <;> decide +kernel

/-- the guard really fires on the finding's witness, and only there -/
example : lossy (.int 9007199254740993) (.float (exactF 9007199254740992)) = true ∧
    lossy (.int 9007199254740992) (.float (exactF 9007199254740992)) = false := by decide +kernel

/-- well-formed maps of the same size with different key sets and a nil value are not `==`,
    in either direction, by the loop and by the canonical comparison alike:
    `{"a": nil, "b": 1}` / `{"b": 1, "c": 2}` and `{"a": nil}` / `{"b": nil}` -/
example : wf (.map [[97], [98]] [.nil, .int 1]) = true ∧ wf (.map [[98], [99]] [.int 1, .int 2]) = true ∧
    equalsW (.map [[97], [98]] [.nil, .int 1]) (.map [[98], [99]] [.int 1, .int 2]) = false ∧
    equalsW (.map [[98], [99]] [.int 1, .int 2]) (.map [[97], [98]] [.nil, .int 1]) = false ∧
    equalsW (.map [[97]] [.nil]) (.map [[98]] [.nil]) = false ∧
    equals (.map [[97]] [.nil]) (.map [[98]] [.nil]) = false := by decide +kernel

/-- nested: a list holding a map holding a set, equal to a copy of itself by the loops -/
example : wf (.list [.map [[97]] [.set [.int 1, .str [97]]]]) = true ∧
    equalsW (.list [.map [[97]] [.set [.int 1, .str [97]]]]) (.list [.map [[97]] [.set [.int 1, .str [97]]]]) = true := by
  decide +kernel

/-- the hypotheses of `map_eq_trans` are satisfiable by maps that are really `==` -/
example : lossy (.map [[107]] [.int 1]) (.map [[107]] [.float (exactF 1)]) = false ∧
    equalsW (.map [[107]] [.int 1]) (.map [[107]] [.float (exactF 1)]) = true ∧
    equalsW (.map [[107]] [.float (exactF 1)]) (.map [[107]] [.byte 1]) = true := by decide +kernel

/-- a set built from `==` values of one type has one slot; of different types, two -/
example : (mkSet [.int 1, .int 1, .float (exactF 1)]).map (fun s => s.map ty) = some [.float, .int] := by
  decide +kernel

/-! ## error objects: `==` and the ordering see the message and the raised flag, nothing else

An error value holds a Go `error` with an identity, a Go type and a chain of wrapped errors
(`ErrObj`, Model.lean).  The theorems below are for ALL error objects — any identities, any Go
types, any wrap chains, related or unrelated. -/

/-- `Error.Equals` / `Error.Compare` on two error objects are `==` / `Compare` of the script values
    they present (`Val.err message raised`): every law of this file about `Val.err` — alone or
    nested in lists, maps, … — is a law of error objects whatever Go errors they hold. -/
theorem errobj_eq_is_val_eq (a b : ErrObj) :
    errObjEquals a b = equals a.val b.val ∧ compare a.val b.val = some (errObjCompare a b) := by
  simp [errObjEquals, errObjCompare, ErrObj.val, equals, equalsG, scalarEquals, compare, compareG, scalarCompare]

/-- `==` on error objects is reflexive and SYMMETRIC for all pairs: in particular for an error
    and an error that wraps it (`fmt.Errorf("…: %w", e)`), in both directions. -/
theorem errobj_eq_refl_symm (a b : ErrObj) :
    errObjEquals a a = true ∧ errObjEquals a b = errObjEquals b a := by
  rw [(errobj_eq_is_val_eq a a).1, (errobj_eq_is_val_eq a b).1, (errobj_eq_is_val_eq b a).1]
  exact ⟨eq_refl _, eq_symm _ _⟩

/-- `==` on error objects is transitive, without any guard. -/
theorem errobj_eq_trans (a b c : ErrObj) (h1 : errObjEquals a b = true) (h2 : errObjEquals b c = true) :
    errObjEquals a c = true := by
  rw [(errobj_eq_is_val_eq _ _).1] at *
  exact eq_trans_scalar_same_type a.val b.val c.val rfl rfl rfl h1 h2

/-- The ordering of error objects agrees with `==` and is antisymmetric:
    `a.Compare(b) = 0` exactly when `a == b`, and `b.Compare(a) = -a.Compare(b)`. -/
theorem errobj_compare_agrees_eq (a b : ErrObj) :
    (errObjCompare a b = 0 ↔ errObjEquals a b = true) ∧ errObjCompare b a = -errObjCompare a b := by
  constructor
  · rw [(errobj_eq_is_val_eq a b).1]
    exact compare_agrees_eq a.val b.val _ (errobj_eq_is_val_eq a b).2
  · exact errCmp_cmp3.antisymm (_, _) (_, _)

/-- The provenance is invisible: two error objects with the same message and raised flag are
    `==` and interchangeable in every comparison, whatever their identities, Go types and wrap
    chains (e.g. `errors.new("x")` twice, `errors.type_error("x")`, `fmt.Errorf("%w", e)`). -/
theorem errobj_eq_ignores_provenance (a a' b : ErrObj) (hm : a.go.msg = a'.go.msg) (hr : a.raised = a'.raised) :
    errObjEquals a a' = true ∧ errObjEquals a b = errObjEquals a' b ∧ errObjEquals b a = errObjEquals b a' ∧
    errObjCompare a b = errObjCompare a' b := by
  simp [errObjEquals, errObjCompare, hm, hr]

/-- Conversely an error and an error that wraps it under a longer message are NOT `==`, in either
    direction (what `errors.is` answers is not what `==` answers). -/
theorem errobj_wrapper_ne (a b : ErrObj) (hm : a.go.msg ≠ b.go.msg) :
    errObjEquals a b = false ∧ errObjEquals b a = false := by
  simp [errObjEquals, hm, Ne.symm hm]

/-- Why the provenance must not enter `==`: `errors.Is` is directional, so an equality that also
    accepted `errors.Is(a, b)` would not be symmetric — witness: a sentinel and a wrapper of it. -/
theorem eq_consulting_is_not_symmetric :
    ¬ ∀ a b : ErrObj, errObjEqualsIs a b = errObjEqualsIs b a := by
  intro h
  have := h ⟨⟨1, 1, [108, 58, 110], [0]⟩, false⟩ ⟨⟨0, 0, [110], []⟩, false⟩
  revert this
  decide

/-! ## sets and maps with a history

`setHist s ops` is the set object `s` after the operations `ops` (add / remove / delete() /
clear, interleaved with observations), `mapRun es ops` the same for a map (assignment,
delete(), pop, setdefault, clear, a rejected non-string key, observations).  The theorems are
for ALL histories of any length over any values. -/

/-- Every set reachable from a well-formed set by ANY history is well-formed (hashable items,
    strictly sorted, distinct hash keys): all set theorems of this file (`set_eq_refl/_symm/_trans`,
    `set_eq_iff_members`, `equals_as_written`, …) apply to sets with a history. -/
theorem set_hist_wf (s : List Val) (ops : List (SetOp Val)) (h : wf (.set s) = true) :
    wf (.set (setHist s ops)) = true := setHist_wf s ops h

/-- After any history, membership (`x in s`, decided by hash key) agrees with ITERATING the set
    (its `SortedItems` order, what `for … range s`, `list(s)`, `sorted(s)` and printing walk) and
    comparing within the type of the probe — for all probes, hashable or not. -/
theorem set_hist_in_iff_iter (s : List Val) (ops : List (SetOp Val)) (x : Val) (h : wf (.set s) = true) :
    contains (.set (setHist s ops)) x = some true ↔
      ∃ y ∈ setHist s ops, ty y = ty x ∧ equals y x = true := wf_set_in_iff_iter (setHist_wf s ops h) x

/-- After any history, membership is what the history says: the LAST operation that mentions the
    probe's hash key decides (add → member; remove or delete() → not a member; clear → nothing is a
    member); observations and rejected (unhashable) arguments decide nothing. -/
theorem set_hist_in_iff_spec (s : List Val) (ops : List (SetOp Val)) (x : Val) (k : HashKey)
    (h : wf (.set s) = true) (hx : hashKey x = some k) :
    contains (.set (setHist s ops)) x = some (specMember s ops k) := by
  have hw := (wf_set_iff _).1 (setHist_wf s ops h)
  rw [contains_set_memB _ hw.1 x k hx, memB_setHist, specMember_eq]

/-- Observations are invisible: dropping every observation from a history changes nothing of
    the resulting set (so no later `in`, `len`, iteration, `sorted` or `==` can tell whether the
    set was printed, iterated, listed or sorted on the way). -/
theorem set_hist_observe_irrelevant (s : List Val) (ops : List (SetOp Val)) :
    setHist s (ops.filter (fun o => !o.isObserve)) = setHist s ops :=
  setRun_drop_observe isHashable keyOf ops s

/-- After any history no two slots hold values of one type that are `==`. -/
theorem set_hist_single_slot (s : List Val) (ops : List (SetOp Val)) (h : wf (.set s) = true) :
    (setHist s ops).Pairwise (fun a b => ¬ (ty a = ty b ∧ equals a b = true)) :=
  wf_set_single_slot (setHist_wf s ops h)

/-- After any history `sorted(s)`, when it succeeds, is a permutation of the set's items: as many
    items as `len(s)`, each of them a member (`in`), and the set is truthy exactly when that
    number is non-zero. -/
theorem set_hist_sorted_members (s : List Val) (ops : List (SetOp Val)) (ys : List Val)
    (h : wf (.set s) = true) (hs : sorted (setHist s ops) = some ys) :
    ys.Perm (setHist s ops) ∧ len (.set (setHist s ops)) = some ys.length ∧
    (∀ y ∈ ys, contains (.set (setHist s ops)) y = some true) ∧
    (truthy (.set (setHist s ops)) = true ↔ ys.length ≠ 0) := by
  have hp := sorted_perm _ _ hs
  refine ⟨hp, by simp [len, hp.length_eq], ?_, ?_⟩
  · intro y hy
    exact (set_hist_in_iff_iter s ops y h).2 ⟨y, hp.mem_iff.1 hy, rfl, eq_refl y⟩
  · rw [truthy_iff_len_pos _ _ (show len (.set (setHist s ops)) = some ys.length by simp [len, hp.length_eq])]

/-- Every map reachable from a well-formed map by ANY history that stores well-formed values is
    well-formed (strictly sorted, distinct keys): the map theorems of this file apply to it. -/
theorem map_hist_wf (es : List (List Nat × Val)) (ops : List (MapOp Val)) (h : wf (mapVal es) = true)
    (hv : ∀ o ∈ ops, ∀ v, o.stored = some v → wf v = true) : wf (mapVal (mapRun es ops)) = true :=
  List.foldlRecOn (motive := fun es => wf (mapVal es) = true) ops _ h fun es hs o ho =>
    mapStep_wf es o (hv o ho) hs

/-- After any history `k in m` agrees with iterating the map's keys (`SortedKeys`: iteration,
    `keys()`, `sorted(m)`, printing) and comparing them with the probe, for all probes. -/
theorem map_hist_in_iff_iter (es : List (List Nat × Val)) (ops : List (MapOp Val)) (x : Val) :
    contains (mapVal (mapRun es ops)) x = some true ↔ ∃ e ∈ mapRun es ops, equals (.str e.1) x = true := by
  unfold mapVal
  rw [map_in_iff_exists_eq]
  simp only [List.mem_map]
  constructor
  · rintro ⟨k, ⟨e, he, rfl⟩, hk⟩; exact ⟨e, he, hk⟩
  · rintro ⟨e, he, hk⟩; exact ⟨e.1, ⟨e, he, rfl⟩, hk⟩

/-- After any history key membership is what the history says: the last operation that mentions
    the key decides (assignment / setdefault → present; delete() / pop → absent; clear → no key is
    present); observations and rejected non-string keys decide nothing. -/
theorem map_hist_in_iff_spec (es : List (List Nat × Val)) (ops : List (MapOp Val)) (k : List Nat) :
    contains (mapVal (mapRun es ops)) (.str k) = some (specHasKey es ops k) := by
  rw [specHasKey_eq, ← memB_mapRun]
  simp only [mapVal, contains, memB, Option.some.injEq, List.any_map]
  congr 1
  funext e
  simp only [Function.comp]
  rw [Bool.eq_iff_iff]; simp

/-- Observations of a map are invisible to every later view. -/
theorem map_hist_observe_irrelevant (es : List (List Nat × Val)) (ops : List (MapOp Val)) :
    mapRun es (ops.filter (fun o => !o.isObserve)) = mapRun es ops := mapRun_drop_observe ops es

/-- A map after any history is truthy exactly when it has a key, and `len` counts the keys that
    iteration yields. -/
theorem map_hist_truthy_len (es : List (List Nat × Val)) (ops : List (MapOp Val)) :
    len (mapVal (mapRun es ops)) = some (mapRun es ops).length ∧
    (truthy (mapVal (mapRun es ops)) = true ↔ (mapRun es ops).length ≠ 0) := by
  have hl : len (mapVal (mapRun es ops)) = some (mapRun es ops).length := by simp [mapVal, len]
  exact ⟨hl, truthy_iff_len_pos _ _ hl⟩

/-- non-vacuity: a set that is iterated, then shrunk with delete(), then iterated again —
    `{0.0, 1, 2, "a"}`; observe; `delete(s, 2)`; observe; `s.add(2.0)`; `delete(s, [])` (rejected):
    the items are `0.0`, `2.0`, `1`, `"a"` (by hash key), and `2` is not a member -/
example : (setHist [.float (exactF 0), .int 1, .int 2, .str [97]]
      [.observe, .del (.int 2), .observe, .add (.float (exactF 2)), .del (.list [])]).map keyOf =
    [⟨.float, .fin 0, 0, []⟩, ⟨.float, exactF 2, 0, []⟩, ⟨.int, .fin 0, 1, []⟩, ⟨.str, .fin 0, 0, [97]⟩] ∧
    wf (.set [.float (exactF 0), .int 1, .int 2, .str [97]]) = true ∧
    specMember [.float (exactF 0), .int 1, .int 2, .str [97]]
      [.observe, .del (.int 2), .observe, .add (.float (exactF 2)), .del (.list [])] ⟨.int, .fin 0, 2, []⟩ = false := by
  decide +kernel

/-- non-vacuity: a map history `{"b": 1}`; `m["a"] = nil`; observe; `delete(m, "b")`;
    `m.setdefault("a", 2)`; `m[1] = 0` (rejected): one key `"a"`, still bound to nil -/
example : (mapRun [([98], Val.int 1)]
      [.set [97] .nil, .observe, .del [98], .setdefault [97] (.int 2), .badkey]).map (fun e => (e.1, ty e.2)) =
    [([97], Ty.nil)] := by decide +kernel

end Risor.C15
