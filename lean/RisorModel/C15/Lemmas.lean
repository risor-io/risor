import RisorModel.C15.Model
/-! Lemmas for C15: the laws of a three-way comparison (`Cmp3`) and their lexicographic product, with the
comparisons on Int / F / byte strings / bool / errors as instances; the scalar layer of `Compare`/`Equals` and
its lifting to nested values by `Val.induct`; the stable insertion sort for any `lt`; hash keys and set
construction; the rounding `toF`. -/
namespace Risor.C15

/-! ### three-way comparisons and their lexicographic product -/

/-- the laws of a three-way comparison (`-1`, `0`, `1`) that orders `κ` totally -/
structure Cmp3 {κ : Type} (cmp : κ → κ → Int) : Prop where
  range : ∀ a b, cmp a b = -1 ∨ cmp a b = 0 ∨ cmp a b = 1
  eq_zero : ∀ {a b}, cmp a b = 0 ↔ a = b
  antisymm : ∀ a b, cmp b a = -cmp a b
  lt_trans : ∀ {a b c}, cmp a b = -1 → cmp b c = -1 → cmp a c = -1

section Cmp3Sec
variable {α β : Type} {c : α → α → Int} {d : β → β → Int}

theorem Cmp3.self (h : Cmp3 c) (a : α) : c a a = 0 := h.eq_zero.2 rfl

/-- compare the first components and, where they are equal, the second -/
def lexCmp (c : α → α → Int) (d : β → β → Int) (p q : α × β) : Int :=
  if c p.1 q.1 = 0 then d p.2 q.2 else c p.1 q.1

theorem Cmp3.lex (hc : Cmp3 c) (hd : Cmp3 d) : Cmp3 (lexCmp c d) where
  range p q := by
    unfold lexCmp; split
    · exact hd.range _ _
    · exact hc.range _ _
  eq_zero := by
    intro p q
    unfold lexCmp; split
    · rename_i h; rw [hd.eq_zero, Prod.ext_iff]; exact (and_iff_right (hc.eq_zero.1 h)).symm
    · rename_i h; exact ⟨fun g => absurd g h, fun g => absurd (hc.eq_zero.2 (congrArg Prod.fst g)) h⟩
  antisymm p q := by
    unfold lexCmp
    rw [hc.antisymm p.1 q.1, hd.antisymm p.2 q.2]
    split <;> split <;> omega
  lt_trans := by
    rintro ⟨a₁, b₁⟩ ⟨a₂, b₂⟩ ⟨a₃, b₃⟩
    simp only [lexCmp]
    intro h1 h2
    split at h1 <;> split at h2
    · rename_i e1 e2
      cases hc.eq_zero.1 e1
      rw [if_pos e2]; exact hd.lt_trans h1 h2
    · rename_i e1 e2
      cases hc.eq_zero.1 e1
      rw [if_neg e2]; exact h2
    · rename_i e1 e2
      cases hc.eq_zero.1 e2
      rw [if_neg e1]; exact h1
    · have := hc.lt_trans h1 h2
      rw [if_neg (by omega)]; exact this

theorem Cmp3.lt_of_lt_of_le (h : Cmp3 c) {x y z : α} (h1 : c x y = -1) (h2 : c y z ≤ 0) : c x z = -1 := by
  rcases h.range y z with e | e | e
  · exact h.lt_trans h1 e
  · rw [← h.eq_zero.1 e]; exact h1
  · omega

theorem Cmp3.lt_of_le_of_lt (h : Cmp3 c) {x y z : α} (h1 : c x y ≤ 0) (h2 : c y z = -1) : c x z = -1 := by
  rcases h.range x y with e | e | e
  · exact h.lt_trans e h2
  · rw [h.eq_zero.1 e]; exact h2
  · omega

/-- a comparison that compares injective keys by a three-way comparison is one -/
theorem Cmp3.pullback {κ : Type} (h : Cmp3 c) (f : κ → α) (hf : ∀ a b, f a = f b → a = b)
    {cmp : κ → κ → Int} (e : ∀ a b, cmp a b = c (f a) (f b)) : Cmp3 cmp where
  range a b := by rw [e]; exact h.range _ _
  eq_zero := by intro a b; rw [e, h.eq_zero]; exact ⟨hf a b, congrArg f⟩
  antisymm a b := by rw [e, e]; exact h.antisymm _ _
  lt_trans := by intro a b c; rw [e, e, e]; exact h.lt_trans

end Cmp3Sec

/-! ### cmpInt, cmpF -/

theorem cmpInt_eq_zero {a b : Int} : cmpInt a b = 0 ↔ a = b := by
  unfold cmpInt; split <;> (try split) <;> omega

theorem cmpInt_antisymm (a b : Int) : cmpInt b a = -cmpInt a b := by
  unfold cmpInt; split <;> split <;> (try split) <;> (try split) <;> omega

theorem cmpInt_range (a b : Int) : cmpInt a b = -1 ∨ cmpInt a b = 0 ∨ cmpInt a b = 1 := by
  unfold cmpInt; split <;> (try split) <;> omega

theorem cmpInt_lt {a b : Int} : cmpInt a b = -1 ↔ a < b := by
  unfold cmpInt; split <;> (try split) <;> omega

theorem cmpInt_gt {a b : Int} : cmpInt a b = 1 ↔ a > b := by
  unfold cmpInt; split <;> (try split) <;> omega

theorem cmpInt_cmp3 : Cmp3 cmpInt :=
  ⟨cmpInt_range, cmpInt_eq_zero, cmpInt_antisymm, by intro a b c; rw [cmpInt_lt, cmpInt_lt, cmpInt_lt]; omega⟩

theorem F.eq_of_rank_mag {a b : F} (h : (a.rank, a.mag) = (b.rank, b.mag)) : a = b := by
  cases a <;> cases b <;> simp_all [F.rank, F.mag]

/-- float64 comparison is the lexicographic comparison of (−∞ / finite / +∞, magnitude) -/
theorem cmpF_lex (a b : F) : cmpF a b = lexCmp cmpInt cmpInt (a.rank, a.mag) (b.rank, b.mag) := by
  unfold cmpF lexCmp
  by_cases h : a.rank = b.rank
  · rw [if_pos h, if_pos (cmpInt_eq_zero.2 h)]
  · rw [if_neg h, if_neg (mt cmpInt_eq_zero.1 h), cmpInt, if_neg h]

theorem cmpF_cmp3 : Cmp3 cmpF :=
  (cmpInt_cmp3.lex cmpInt_cmp3).pullback _ (fun _ _ => F.eq_of_rank_mag) cmpF_lex

/-! ### cmpBytes -/

theorem cmpBytes_eq_zero : ∀ {s t}, cmpBytes s t = 0 ↔ s = t
  | [], [] | [], _ :: _ | _ :: _, [] => by simp [cmpBytes]
  | a :: as, b :: bs => by
    unfold cmpBytes
    split
    · rename_i h; subst h; simp [cmpBytes_eq_zero (s := as) (t := bs)]
    · rename_i h; split <;> simp [h]

theorem cmpBytes_antisymm : ∀ s t, cmpBytes t s = -cmpBytes s t
  | [], [] | [], _ :: _ | _ :: _, [] => by simp [cmpBytes]
  | a :: as, b :: bs => by
    unfold cmpBytes
    split <;> split <;> (try split) <;> (try split) <;>
      first | omega | exact cmpBytes_antisymm as bs | (exfalso; omega)

theorem cmpBytes_range : ∀ s t, cmpBytes s t = -1 ∨ cmpBytes s t = 0 ∨ cmpBytes s t = 1
  | [], [] | [], _ :: _ | _ :: _, [] => by simp [cmpBytes]
  | a :: as, b :: bs => by
    unfold cmpBytes
    split
    · exact cmpBytes_range as bs
    · split <;> omega

theorem cmpBytes_lt_trans : ∀ {s t u}, cmpBytes s t = -1 → cmpBytes t u = -1 → cmpBytes s u = -1
  | [], [], _ | [], _ :: _, [] | [], _ :: _, _ :: _ | _ :: _, [], _ | _ :: _, _ :: _, [] => by simp [cmpBytes]
  | a :: as, b :: bs, c :: cs => by
    unfold cmpBytes
    intro h1 h2
    split at h1 <;> split at h2
    · rw [if_pos (by omega)]; exact cmpBytes_lt_trans h1 h2
    · split at h2
      · omega
      · rw [if_neg (by omega), if_neg (by omega)]
    · split at h1
      · omega
      · rw [if_neg (by omega), if_neg (by omega)]
    · split at h1
      · omega
      · split at h2
        · omega
        · rw [if_neg (by omega), if_neg (by omega)]

theorem cmpBytes_cmp3 : Cmp3 cmpBytes :=
  ⟨cmpBytes_range, cmpBytes_eq_zero, cmpBytes_antisymm, cmpBytes_lt_trans⟩

/-! ### scale, exactF, toF -/

theorem scale_pos : 0 < scale := by decide +kernel

theorem cmpInt_mul_scale (a b : Int) : cmpInt (a * scale) (b * scale) = cmpInt a b := by
  simp only [cmpInt, gt_iff_lt, Int.mul_eq_mul_right_iff (Int.ne_of_gt scale_pos), Int.mul_lt_mul_right scale_pos]

theorem cmpF_exactF (a b : Int) : cmpF (exactF a) (exactF b) = cmpInt a b := by
  simp [cmpF, exactF, F.rank, F.mag, cmpInt_mul_scale]

theorem toF_of_exact {i : Int} (h : exactInt i = true) : toF i = exactF i := by
  simp [exactInt] at h
  simp [toF, exactF, h]

/-! ### bool and error comparison -/

theorem boolCmp_cmp3 : Cmp3 boolCmp := ⟨by decide, by decide, by decide, by decide⟩

theorem boolCmp_self (x : Bool) : boolCmp x x = 0 := boolCmp_cmp3.self x

/-- `Error.Compare` is the lexicographic comparison of (message, raised) -/
theorem errCmp_lex (m : List Nat) (r : Bool) (m' : List Nat) (r' : Bool) :
    errCmp m r m' r' = lexCmp cmpBytes boolCmp (m, r) (m', r') := by
  unfold errCmp lexCmp
  rcases cmpBytes_range m m' with h | h | h
  · have hne : m ≠ m' := fun e => by rw [cmpBytes_eq_zero.2 e] at h; omega
    simp [h, hne]
  · have he : m = m' := cmpBytes_eq_zero.1 h
    subst he
    cases r <;> cases r' <;> simp [h, boolCmp]
  · have hne : m ≠ m' := fun e => by rw [cmpBytes_eq_zero.2 e] at h; omega
    simp [h, hne]

theorem errCmp_cmp3 : Cmp3 (fun p q : List Nat × Bool => errCmp p.1 p.2 q.1 q.2) :=
  (cmpBytes_cmp3.lex boolCmp_cmp3).pullback id (fun _ _ h => h) fun p q => errCmp_lex p.1 p.2 q.1 q.2

theorem errCmp_eq_zero {m r m' r'} : errCmp m r m' r' = 0 ↔ m = m' ∧ r = r' :=
  (errCmp_cmp3.eq_zero (a := (m, r)) (b := (m', r'))).trans Prod.ext_iff

/-! ### the scalar layer

The case analyses follow the thirteen arms of `scalarCompare` / `scalarEquals`; laws are stated from
`scalarCompare conv a b = some c` wherever that makes the catch-all arm vacuous. -/

theorem scalarCompare_swap {conv : Int → F} {a b : Val} {c : Int}
    (h : scalarCompare conv a b = some c) : scalarCompare conv b a = some (-c) := by
  revert h
  fun_cases scalarCompare conv a b <;> rintro ⟨⟩ <;>
    first
    | exact congrArg some (cmpF_cmp3.antisymm _ _)
    | exact congrArg some (cmpInt_antisymm _ _)
    | exact congrArg some (cmpBytes_antisymm _ _)
    | exact congrArg some (boolCmp_cmp3.antisymm _ _)
    | exact congrArg some (errCmp_cmp3.antisymm (_, _) (_, _))
    | rfl

theorem scalarCompare_antisymm (conv : Int → F) (a b : Val) :
    scalarCompare conv b a = (scalarCompare conv a b).map (fun c => -c) := by
  cases h : scalarCompare conv a b with
  | some c => exact scalarCompare_swap h
  | none =>
    cases h' : scalarCompare conv b a with
    | none => rfl
    | some d => rw [scalarCompare_swap h'] at h; cases h

theorem scalarCompare_range {conv : Int → F} {a b : Val} {c : Int}
    (h : scalarCompare conv a b = some c) : c = -1 ∨ c = 0 ∨ c = 1 := by
  revert h
  fun_cases scalarCompare conv a b <;> rintro ⟨⟩ <;>
    first
    | exact cmpF_cmp3.range _ _ | exact cmpInt_range _ _ | exact cmpBytes_range _ _
    | exact boolCmp_cmp3.range _ _ | exact errCmp_cmp3.range (_, _) (_, _) | exact Or.inr (Or.inl rfl)

theorem scalarCompare_zero_iff {conv : Int → F} {a b : Val} {c : Int}
    (h : scalarCompare conv a b = some c) : c = 0 ↔ scalarEquals conv a b = true := by
  revert h
  fun_cases scalarCompare conv a b <;> rintro ⟨⟩ <;>
    simp only [scalarEquals, beq_iff_eq, Bool.and_eq_true, cmpInt_eq_zero, cmpBytes_eq_zero,
      boolCmp_cmp3.eq_zero, errCmp_eq_zero, Int.ofNat.injEq]

/-- which pairs are comparable does not depend on the conversion -/
theorem scalarCompare_isSome_conv (conv conv' : Int → F) (a b : Val) :
    (scalarCompare conv a b).isSome = (scalarCompare conv' a b).isSome := by
  cases a <;> cases b <;> rfl

theorem scalarCompare_of_equals {conv : Int → F} {a b : Val} (h : scalarEquals conv a b = true) :
    (scalarCompare conv a b).isSome = true := by
  revert h
  fun_cases scalarEquals conv a b <;> first | exact fun _ => rfl | exact nofun

/-- `Equals` is `Compare = 0` on every pair of scalars, comparable or not -/
theorem scalarEquals_eq_compare (conv : Int → F) (a b : Val) :
    scalarEquals conv a b = (scalarCompare conv a b == some 0) := by
  cases h : scalarCompare conv a b with
  | some c =>
    rw [Bool.eq_iff_iff, ← scalarCompare_zero_iff h, beq_iff_eq, Option.some.injEq]
  | none =>
    cases e : scalarEquals conv a b with
    | false => rfl
    | true => have := scalarCompare_of_equals e; rw [h] at this; cases this

theorem scalarEquals_refl (conv : Int → F) (a : Val) (h : isScalar a = true) :
    scalarEquals conv a a = true := by
  cases a <;> simp_all [scalarEquals, isScalar, cmpF_cmp3.self]

theorem scalarEquals_symm (conv : Int → F) (a b : Val) :
    scalarEquals conv a b = scalarEquals conv b a := by
  rw [scalarEquals_eq_compare, scalarEquals_eq_compare, scalarCompare_antisymm conv a b]
  cases scalarCompare conv a b with
  | none => rfl
  | some c => rw [Bool.eq_iff_iff]; simp only [Option.map, beq_iff_eq, Option.some.injEq]; omega

/-! #### Spec (conv = exactF): scalars are compared by a key that forgets the numeric type -/

/-- what the Spec compares a value by: a number by its exact value, whatever its type -/
inductive XKey where
  | nil | bool (b : Bool) | num (f : F) | str (s : List Nat) | err (m : List Nat) (r : Bool) | container

def xkey : Val → XKey
  | .nil => .nil
  | .bool b => .bool b
  | .int i => .num (exactF i)
  | .float f => .num f
  | .byte n => .num (exactF (Int.ofNat n))
  | .str s => .str s
  | .err m r => .err m r
  | _ => .container

def cmpKey : XKey → XKey → Option Int
  | .nil, .nil => some 0
  | .bool x, .bool y => some (boolCmp x y)
  | .num f, .num g => some (cmpF f g)
  | .str s, .str t => some (cmpBytes s t)
  | .err m r, .err m' r' => some (errCmp m r m' r')
  | _, _ => none

theorem scalarCompare_spec (a b : Val) : scalarCompare exactF a b = cmpKey (xkey a) (xkey b) := by
  cases a <;> cases b <;> first | rfl | exact congrArg some (cmpF_exactF _ _).symm

theorem cmpKey_zero {k l : XKey} (h : cmpKey k l = some 0) : k = l := by
  revert h
  fun_cases cmpKey k l <;> simp only [Option.some.injEq, reduceCtorEq, false_imp_iff, imp_self] <;> intro h
  · rw [boolCmp_cmp3.eq_zero.1 h]
  · rw [cmpF_cmp3.eq_zero.1 h]
  · rw [cmpBytes_eq_zero.1 h]
  · rw [(errCmp_eq_zero.1 h).1, (errCmp_eq_zero.1 h).2]

theorem cmpKey_lt_trans {k l m : XKey} (h1 : cmpKey k l = some (-1)) (h2 : cmpKey l m = some (-1)) :
    cmpKey k m = some (-1) := by
  revert h1 h2
  fun_cases cmpKey k l <;> intro h1 h2 <;> try cases h1
  all_goals cases m <;> simp only [cmpKey, Option.some.injEq, reduceCtorEq] at h1 h2 ⊢
  · exact boolCmp_cmp3.lt_trans h1 h2
  · exact cmpF_cmp3.lt_trans h1 h2
  · exact cmpBytes_lt_trans h1 h2
  · exact errCmp_cmp3.lt_trans (a := (_, _)) (b := (_, _)) (c := (_, _)) h1 h2

theorem scalarCompare_spec_congr {a b : Val} (h : scalarCompare exactF a b = some 0) (x : Val) :
    scalarCompare exactF a x = scalarCompare exactF b x := by
  rw [scalarCompare_spec] at h
  rw [scalarCompare_spec, scalarCompare_spec, cmpKey_zero h]

theorem scalarCompare_spec_lt_trans {a b c : Val} (h1 : scalarCompare exactF a b = some (-1))
    (h2 : scalarCompare exactF b c = some (-1)) : scalarCompare exactF a c = some (-1) := by
  rw [scalarCompare_spec] at h1 h2 ⊢
  exact cmpKey_lt_trans h1 h2

/-! #### agreement of Impl and Spec outside the guard, on scalars -/

theorem scalarCompare_agree {a b : Val} (h : lossy a b = false) :
    scalarCompare toF a b = scalarCompare exactF a b := by
  cases e : scalarCompare toF a b with
  | none =>
    have d := scalarCompare_isSome_conv toF exactF a b
    rw [e] at d
    cases e' : scalarCompare exactF a b with
    | none => rfl
    | some _ => rw [e'] at d; cases d
  | some c =>
    revert e h
    fun_cases scalarCompare toF a b <;> rintro h ⟨⟩ <;>
      first
      | (simp only [lossy, Bool.not_eq_eq_eq_not, Bool.not_false] at h; rw [toF_of_exact h]; rfl)
      | rfl

/-! ### induction over nested values -/

mutual
theorem Val.induct {P : Val → Prop} {Q : List Val → Prop}
    (scalar : ∀ v, isScalar v = true → P v)
    (list : ∀ xs, Q xs → P (.list xs))
    (map : ∀ ks vs, Q vs → P (.map ks vs))
    (set : ∀ xs, Q xs → P (.set xs))
    (nil : Q [])
    (cons : ∀ x xs, P x → Q xs → Q (x :: xs)) : ∀ v, P v
  | .nil | .bool _ | .int _ | .float _ | .byte _ | .str _ | .err _ _ => scalar _ rfl
  | .list xs => list xs (Val.inductL scalar list map set nil cons xs)
  | .map ks vs => map ks vs (Val.inductL scalar list map set nil cons vs)
  | .set xs => set xs (Val.inductL scalar list map set nil cons xs)
theorem Val.inductL {P : Val → Prop} {Q : List Val → Prop}
    (scalar : ∀ v, isScalar v = true → P v)
    (list : ∀ xs, Q xs → P (.list xs))
    (map : ∀ ks vs, Q vs → P (.map ks vs))
    (set : ∀ xs, Q xs → P (.set xs))
    (nil : Q [])
    (cons : ∀ x xs, P x → Q xs → Q (x :: xs)) : ∀ vs, Q vs
  | [] => nil
  | x :: xs => cons x xs (Val.induct scalar list map set nil cons x) (Val.inductL scalar list map set nil cons xs)
end

theorem compareG_scalar {conv : Int → F} {a : Val} (h : isScalar a = true) (b : Val) :
    compareG conv a b = scalarCompare conv a b := by
  cases a <;> first | contradiction | simp only [compareG]

theorem equalsG_scalar {conv : Int → F} {a : Val} (h : isScalar a = true) (b : Val) :
    equalsG conv a b = scalarEquals conv a b := by
  cases a <;> first | contradiction | simp only [equalsG]

theorem scalarCompare_nonscalar_right {conv : Int → F} (a : Val) {b : Val} (h : isScalar b = false) :
    scalarCompare conv a b = none := by
  cases b <;> first | contradiction | (cases a <;> rfl)

theorem scalarEquals_nonscalar_right {conv : Int → F} (a : Val) {b : Val} (h : isScalar b = false) :
    scalarEquals conv a b = false := by
  cases b <;> first | contradiction | (cases a <;> rfl)

theorem compareG_nonscalar_scalar {conv : Int → F} {a b : Val} (ha : isScalar a = false)
    (hb : isScalar b = true) : compareG conv a b = none := by
  cases a <;> first | contradiction | (cases b <;> first | rfl | contradiction)

theorem equalsG_nonscalar_scalar {conv : Int → F} {a b : Val} (ha : isScalar a = false)
    (hb : isScalar b = true) : equalsG conv a b = false := by
  cases a <;> first | contradiction | (cases b <;> first | rfl | contradiction)

/-! ### laws that hold for every conversion (hence for Impl and Spec alike) -/

theorem equalsG_refl (conv : Int → F) : ∀ v, equalsG conv v v = true := by
  refine Val.induct (P := fun v => equalsG conv v v = true) (Q := fun vs => equalsLG conv vs vs = true)
    ?_ ?_ ?_ ?_ ?_ ?_
  · intro v h; rw [equalsG_scalar h]; exact scalarEquals_refl conv v h
  · intro xs h; simp [equalsG, h]
  · intro ks vs h; simp [equalsG, h]
  · intro xs h; simp [equalsG, h]
  · simp [equalsLG]
  · intro x xs h1 h2; simp [equalsLG, h1, h2]

theorem decide_eq_comm {α : Type} [DecidableEq α] (a b : α) : decide (a = b) = decide (b = a) := by
  by_cases h : a = b
  · subst h; rfl
  · have h' : ¬ b = a := fun e => h e.symm
    simp [h, h']

theorem equalsG_symm (conv : Int → F) : ∀ a b, equalsG conv a b = equalsG conv b a := by
  refine Val.induct (P := fun a => ∀ b, equalsG conv a b = equalsG conv b a)
    (Q := fun xs => ∀ ys, equalsLG conv xs ys = equalsLG conv ys xs) ?_ ?_ ?_ ?_ ?_ ?_
  · intro a h b
    rw [equalsG_scalar h]
    cases hb : isScalar b
    · rw [scalarEquals_nonscalar_right a hb, equalsG_nonscalar_scalar hb h]
    · rw [equalsG_scalar hb, scalarEquals_symm]
  · intro xs ih b
    cases b <;> simp [equalsG, scalarEquals]
    rename_i ys
    rw [ih ys, BEq.comm (a := xs.length)]
  · intro ks vs ih b
    cases b <;> simp [equalsG, scalarEquals]
    rename_i ks' vs'
    rw [ih vs', decide_eq_comm ks]
  · intro xs ih b
    cases b <;> simp [equalsG, scalarEquals]
    rename_i ys
    rw [ih ys, decide_eq_comm (hashKeys xs)]
  · intro ys; cases ys <;> simp [equalsLG]
  · intro x xs h1 h2 ys
    cases ys with
    | nil => simp [equalsLG]
    | cons y ys => simp [equalsLG, h1 y, h2 ys]


theorem compareG_antisymm (conv : Int → F) :
    ∀ a b, compareG conv b a = (compareG conv a b).map (fun c => -c) := by
  refine Val.induct (P := fun a => ∀ b, compareG conv b a = (compareG conv a b).map (fun c => -c))
    (Q := fun xs => ∀ ys, compareLG conv ys xs = (compareLG conv xs ys).map (fun c => -c)) ?_ ?_ ?_ ?_ ?_ ?_
  · intro a h b
    rw [compareG_scalar h]
    cases hb : isScalar b
    · rw [scalarCompare_nonscalar_right a hb, compareG_nonscalar_scalar hb h]; rfl
    · rw [compareG_scalar hb, scalarCompare_antisymm]
  · intro xs ih b
    cases b <;> simp only [compareG, scalarCompare, Option.map_none]
    rename_i ys
    by_cases h1 : xs.length > ys.length
    · simp [h1, show ¬ ys.length > xs.length by omega]
    · by_cases h2 : xs.length < ys.length
      · simp [h1, h2]
      · simp [h1, h2, ih ys]
  · intro ks vs _ b
    cases b <;> simp only [compareG, scalarCompare, Option.map_none]
  · intro xs _ b
    cases b <;> simp only [compareG, scalarCompare, Option.map_none]
  · intro ys; cases ys <;> simp [compareLG]
  · intro x xs h1 h2 ys
    cases ys with
    | nil => simp [compareLG]
    | cons y ys =>
      simp only [compareLG]
      rw [h1 y]
      cases compareG conv x y with
      | none => rfl
      | some c =>
        simp only [Option.map]
        by_cases hc : c = 0
        · rw [if_pos hc, if_pos (by omega)]; exact h2 ys
        · rw [if_neg hc, if_neg (by omega)]

mutual
theorem compareG_range (conv : Int → F) : ∀ (a b : Val) (c : Int),
    compareG conv a b = some c → c = -1 ∨ c = 0 ∨ c = 1
  | .list xs, b, c => by
    cases b <;> simp only [compareG] <;> try (intro h; contradiction)
    rename_i ys
    intro h
    split at h
    · simp at h; omega
    · split at h
      · simp at h; omega
      · exact compareLG_range conv xs ys c h
  | .map _ _, _, _ | .set _, _, _ => by simp [compareG]
  | .nil, _, _ | .bool _, _, _ | .int _, _, _ | .float _, _, _ | .byte _, _, _ | .str _, _, _ | .err _ _, _, _ => by
    simp only [compareG]; exact scalarCompare_range
theorem compareLG_range (conv : Int → F) : ∀ (xs ys : List Val) (c : Int),
    compareLG conv xs ys = some c → c = -1 ∨ c = 0 ∨ c = 1
  | [], _, c | _ :: _, [], c => by simp [compareLG]; omega
  | x :: xs, y :: ys, c => by
    simp only [compareLG]
    cases h : compareG conv x y with
    | none => simp
    | some d =>
      simp only
      split
      · exact compareLG_range conv xs ys c
      · intro e; simp at e; subst e; exact compareG_range conv x y d h
end

theorem compareG_zero_iff_equals (conv : Int → F) :
    ∀ a b c, compareG conv a b = some c → (c = 0 ↔ equalsG conv a b = true) := by
  refine Val.induct
    (P := fun a => ∀ b c, compareG conv a b = some c → (c = 0 ↔ equalsG conv a b = true))
    (Q := fun xs => ∀ ys c, xs.length = ys.length → compareLG conv xs ys = some c →
      (c = 0 ↔ equalsLG conv xs ys = true)) ?_ ?_ ?_ ?_ ?_ ?_
  · intro a h b c hc
    rw [compareG_scalar h] at hc
    rw [equalsG_scalar h]
    exact scalarCompare_zero_iff hc
  · intro xs ih b c hc
    cases b <;> simp only [compareG] at hc <;> try contradiction
    rename_i ys
    simp only [equalsG]
    split at hc
    · cases hc
      simp; intro e; omega
    · split at hc
      · cases hc
        simp; intro e; omega
      · have hl : xs.length = ys.length := by omega
        rw [ih ys c hl hc]; simp [hl]
  · intro ks vs _ b c hc; simp [compareG] at hc
  · intro xs _ b c hc; simp [compareG] at hc
  · intro ys c hl hc
    cases ys with
    | nil => simp [compareLG] at hc; simp [equalsLG]; omega
    | cons y ys => simp at hl
  · intro x xs h1 h2 ys c hl hc
    cases ys with
    | nil => simp at hl
    | cons y ys =>
      simp only [compareLG] at hc
      simp only [equalsLG]
      cases hd : compareG conv x y with
      | none => rw [hd] at hc; contradiction
      | some d =>
        rw [hd] at hc
        simp only at hc
        have hx := h1 y d hd
        split at hc
        · rename_i hd0
          have hl' : xs.length = ys.length := by simpa using hl
          rw [h2 ys c hl' hc]
          simp [hx.1 hd0]
        · rename_i hd0
          cases hc
          have : equalsG conv x y = false := by
            cases he : equalsG conv x y
            · rfl
            · exact absurd (hx.2 he) hd0
          simp [this, hd0]

/-! ### Spec (`conv := exactF`): `compare = 0` is a congruence; `<` is transitive; `==` is a congruence -/

theorem xcompare_congr : ∀ a b, compareG exactF a b = some 0 →
    ∀ x, compareG exactF a x = compareG exactF b x := by
  refine Val.induct
    (P := fun a => ∀ b, compareG exactF a b = some 0 → ∀ x, compareG exactF a x = compareG exactF b x)
    (Q := fun xs => ∀ ys, xs.length = ys.length → compareLG exactF xs ys = some 0 →
      ∀ zs, compareLG exactF xs zs = compareLG exactF ys zs) ?_ ?_ ?_ ?_ ?_ ?_
  · intro a h b hab x
    rw [compareG_scalar h] at hab
    cases hb : isScalar b
    · rw [scalarCompare_nonscalar_right a hb] at hab; contradiction
    · rw [compareG_scalar h, compareG_scalar hb]
      exact scalarCompare_spec_congr hab x
  · intro xs ih b hab x
    cases b <;> simp only [compareG] at hab <;> try contradiction
    rename_i ys
    split at hab
    · simp at hab
    · split at hab
      · simp at hab
      · have hl : xs.length = ys.length := by omega
        cases x <;> simp only [compareG]
        rename_i zs
        rw [hl, ih ys hl hab zs]
  · intro ks vs _ b hab; simp [compareG] at hab
  · intro xs _ b hab; simp [compareG] at hab
  · intro ys hl _ zs
    cases ys with
    | nil => rfl
    | cons y ys => simp at hl
  · intro x xs h1 h2 ys hl hab zs
    cases ys with
    | nil => simp at hl
    | cons y ys =>
      simp only [compareLG] at hab
      cases hd : compareG exactF x y with
      | none => rw [hd] at hab; contradiction
      | some d =>
        rw [hd] at hab
        simp only at hab
        split at hab
        · rename_i hd0
          subst hd0
          cases zs with
          | nil => rfl
          | cons z zs =>
            simp only [compareLG]
            rw [h1 y hd z, h2 ys (by simpa using hl) hab zs]
        · rename_i hd0
          simp at hab; exact absurd hab hd0

theorem xcompare_congr_right {a b : Val} (h : compareG exactF a b = some 0) (x : Val) :
    compareG exactF x a = compareG exactF x b := by
  rw [compareG_antisymm exactF a x, compareG_antisymm exactF b x, xcompare_congr a b h x]

theorem xcompare_lt_trans : ∀ a b c, compareG exactF a b = some (-1) →
    compareG exactF b c = some (-1) → compareG exactF a c = some (-1) := by
  refine Val.induct
    (P := fun a => ∀ b c, compareG exactF a b = some (-1) → compareG exactF b c = some (-1) →
      compareG exactF a c = some (-1))
    (Q := fun xs => ∀ ys zs, xs.length = ys.length → ys.length = zs.length →
      compareLG exactF xs ys = some (-1) → compareLG exactF ys zs = some (-1) →
      compareLG exactF xs zs = some (-1)) ?_ ?_ ?_ ?_ ?_ ?_
  · intro a h b c hab hbc
    rw [compareG_scalar h] at hab
    cases hb : isScalar b
    · rw [scalarCompare_nonscalar_right a hb] at hab; contradiction
    · rw [compareG_scalar hb] at hbc
      cases hc : isScalar c
      · rw [scalarCompare_nonscalar_right b hc] at hbc; contradiction
      · rw [compareG_scalar h]; exact scalarCompare_spec_lt_trans hab hbc
  · intro xs ih b c hab hbc
    cases b <;> simp only [compareG] at hab <;> try contradiction
    rename_i ys
    cases c <;> simp only [compareG] at hbc <;> try contradiction
    rename_i zs
    simp only [compareG]
    split at hab
    · simp at hab
    · split at hbc
      · simp at hbc
      · split at hab
        · rw [if_neg (by omega), if_pos (by omega)]
        · split at hbc
          · rw [if_neg (by omega), if_pos (by omega)]
          · rw [if_neg (by omega), if_neg (by omega)]
            exact ih ys zs (by omega) (by omega) hab hbc
  · intro ks vs _ b c hab; simp [compareG] at hab
  · intro xs _ b c hab; simp [compareG] at hab
  · intro ys zs hl _ hab
    cases ys with
    | nil => simp [compareLG] at hab
    | cons y ys => simp at hl
  · intro x xs h1 h2 ys zs hl1 hl2 hab hbc
    cases ys with
    | nil => simp at hl1
    | cons y ys =>
      cases zs with
      | nil => simp at hl2
      | cons z zs =>
        simp only [compareLG] at hab hbc ⊢
        cases hd1 : compareG exactF x y with
        | none => rw [hd1] at hab; contradiction
        | some d1 =>
          cases hd2 : compareG exactF y z with
          | none => rw [hd2] at hbc; contradiction
          | some d2 =>
            rw [hd1] at hab; rw [hd2] at hbc
            simp only at hab hbc
            split at hab
            · rename_i e1; subst e1
              rw [xcompare_congr x y hd1 z, hd2]
              simp only
              split at hbc
              · rename_i e2; subst e2
                simp only [if_true]
                exact h2 ys zs (by simpa using hl1) (by simpa using hl2) hab hbc
              · rename_i e2
                rw [if_neg e2]; exact hbc
            · rename_i e1
              cases hab
              split at hbc
              · rename_i e2; subst e2
                rw [← xcompare_congr_right hd2 x, hd1]; rfl
              · rename_i e2
                cases hbc
                rw [h1 y z hd1 hd2]; rfl

theorem scalarEquals_spec_congr {a b : Val} (h : scalarEquals exactF a b = true) (x : Val) :
    scalarEquals exactF a x = scalarEquals exactF b x := by
  rw [scalarEquals_eq_compare] at h
  rw [scalarEquals_eq_compare, scalarEquals_eq_compare, scalarCompare_spec_congr (by simpa using h) x]

theorem xequals_congr : ∀ a b, equalsG exactF a b = true →
    ∀ x, equalsG exactF a x = equalsG exactF b x := by
  refine Val.induct
    (P := fun a => ∀ b, equalsG exactF a b = true → ∀ x, equalsG exactF a x = equalsG exactF b x)
    (Q := fun xs => ∀ ys, equalsLG exactF xs ys = true →
      ∀ zs, equalsLG exactF xs zs = equalsLG exactF ys zs) ?_ ?_ ?_ ?_ ?_ ?_
  · intro a h b hab x
    rw [equalsG_scalar h] at hab
    cases hb : isScalar b
    · rw [scalarEquals_nonscalar_right a hb] at hab; contradiction
    · rw [equalsG_scalar h, equalsG_scalar hb]
      exact scalarEquals_spec_congr hab x
  · intro xs ih b hab x
    cases b <;> simp only [equalsG] at hab <;> try contradiction
    rename_i ys
    simp only [Bool.and_eq_true, beq_iff_eq] at hab
    cases x <;> simp only [equalsG]
    rename_i zs
    rw [hab.1, ih ys hab.2 zs]
  · intro ks vs ih b hab x
    cases b <;> simp only [equalsG] at hab <;> try contradiction
    rename_i ks' vs'
    simp only [Bool.and_eq_true, decide_eq_true_eq] at hab
    cases x <;> simp only [equalsG]
    rename_i ks'' vs''
    rw [hab.1, ih vs' hab.2 vs'']
  · intro xs ih b hab x
    cases b <;> simp only [equalsG] at hab <;> try contradiction
    rename_i ys
    simp only [Bool.and_eq_true, decide_eq_true_eq] at hab
    cases x <;> simp only [equalsG]
    rename_i zs
    rw [hab.1, ih ys hab.2 zs]
  · intro ys hab zs
    cases ys with
    | nil => rfl
    | cons y ys => simp [equalsLG] at hab
  · intro x xs h1 h2 ys hab zs
    cases ys with
    | nil => simp [equalsLG] at hab
    | cons y ys =>
      simp only [equalsLG, Bool.and_eq_true] at hab
      cases zs with
      | nil => rfl
      | cons z zs =>
        simp only [equalsLG]
        rw [h1 y hab.1 z, h2 ys hab.2 zs]

/-! ### Impl = Spec outside the guard -/

theorem scalarEquals_agree {a b : Val} (h : lossy a b = false) :
    scalarEquals toF a b = scalarEquals exactF a b := by
  rw [scalarEquals_eq_compare, scalarEquals_eq_compare, scalarCompare_agree h]

theorem agree_outside_guard : ∀ a b, lossy a b = false →
    compareG toF a b = compareG exactF a b ∧ equalsG toF a b = equalsG exactF a b := by
  refine Val.induct
    (P := fun a => ∀ b, lossy a b = false →
      compareG toF a b = compareG exactF a b ∧ equalsG toF a b = equalsG exactF a b)
    (Q := fun xs => ∀ ys, lossyL xs ys = false →
      compareLG toF xs ys = compareLG exactF xs ys ∧ equalsLG toF xs ys = equalsLG exactF xs ys)
    ?_ ?_ ?_ ?_ ?_ ?_
  · intro a h b hl
    rw [compareG_scalar h, compareG_scalar h, equalsG_scalar h, equalsG_scalar h]
    exact ⟨scalarCompare_agree hl, scalarEquals_agree hl⟩
  · intro xs ih b hl
    cases b <;> simp only [compareG, equalsG, and_self]
    rename_i ys
    simp only [lossy] at hl
    rw [(ih ys hl).1, (ih ys hl).2]
    exact ⟨rfl, rfl⟩
  · intro ks vs ih b hl
    cases b <;> simp only [compareG, equalsG, and_self]
    rename_i ks' vs'
    simp only [lossy] at hl
    rw [(ih vs' hl).2]
    simp
  · intro xs ih b hl
    cases b <;> simp only [compareG, equalsG, and_self]
    rename_i ys
    simp only [lossy] at hl
    by_cases hk : hashKeys xs = hashKeys ys
    · simp only [hk, decide_true, Bool.true_and] at hl ⊢
      rw [(ih ys hl).2]
      simp
    · simp [hk]
  · intro ys _
    cases ys <;> simp [compareLG, equalsLG]
  · intro x xs h1 h2 ys hl
    cases ys with
    | nil => simp [compareLG, equalsLG]
    | cons y ys =>
      simp only [lossyL, Bool.or_eq_false_iff] at hl
      simp only [compareLG, equalsLG]
      rw [(h1 y hl.1).1, (h1 y hl.1).2, (h2 ys hl.2).1, (h2 ys hl.2).2]
      exact ⟨rfl, rfl⟩

/-! ### the stable insertion sort, for any `lt` -/

section SortSec
variable {α : Type} (lt : α → α → Bool)

theorem insR_perm (x : α) : ∀ l : List α, (insR lt x l).Perm (x :: l)
  | [] => List.Perm.refl _
  | y :: rest => by
    unfold insR
    split
    · exact ((insR_perm x rest).cons y).trans (List.Perm.swap x y rest)
    · exact List.Perm.refl _

theorem mem_insR {x w : α} {l : List α} (h : w ∈ insR lt x l) : w = x ∨ w ∈ l := by
  have := (insR_perm lt x l).mem_iff.1 h
  simpa using this

theorem foldl_insR_perm : ∀ (xs acc : List α),
    (xs.foldl (fun acc x => insR lt x acc) acc).Perm (xs ++ acc)
  | [], acc => List.Perm.refl _
  | x :: xs, acc => by
    simp only [List.foldl_cons]
    refine (foldl_insR_perm xs (insR lt x acc)).trans ?_
    refine ((insR_perm lt x acc).append_left xs).trans ?_
    simp

theorem sortBy_perm (xs : List α) : (sortBy lt xs).Perm xs := by
  unfold sortBy sortRev
  refine (List.reverse_perm _).trans ?_
  simpa using foldl_insR_perm lt xs []

/-- carrier-relative strict-weak-order facts used below -/
structure SWO (S : α → Prop) : Prop where
  asym : ∀ a b, S a → S b → lt a b = true → lt b a = false
  negtrans : ∀ a b c, S a → S b → S c → lt a b = false → lt b c = false → lt a c = false

variable {lt}

theorem insR_sorted {S : α → Prop} (h : SWO lt S) {x : α} (hx : S x) :
    ∀ {l : List α}, (∀ y ∈ l, S y) → l.Pairwise (fun a b => lt a b = false) →
      (insR lt x l).Pairwise (fun a b => lt a b = false)
  | [], _, _ => by simp [insR]
  | y :: rest, hS, hp => by
    have hy : S y := hS y (by simp)
    have hrest : ∀ z ∈ rest, S z := fun z hz => hS z (by simp [hz])
    rw [List.pairwise_cons] at hp
    unfold insR
    split
    · rename_i hlt
      rw [List.pairwise_cons]
      refine ⟨?_, insR_sorted h hx hrest hp.2⟩
      intro w hw
      rcases mem_insR lt hw with e | e
      · subst e; exact h.asym _ _ hx hy hlt
      · exact hp.1 w e
    · rename_i hlt
      have hxy : lt x y = false := by simpa using hlt
      rw [List.pairwise_cons]
      refine ⟨?_, List.pairwise_cons.2 hp⟩
      intro w hw
      rcases List.mem_cons.1 hw with e | e
      · subst e; exact hxy
      · exact h.negtrans x y w hx hy (hrest w e) hxy (hp.1 w e)

/-- the output is ordered: no later item is `lt` an earlier one -/
theorem sortBy_sorted {S : α → Prop} (h : SWO lt S) (xs : List α) (hxs : ∀ y ∈ xs, S y) :
    (sortBy lt xs).Pairwise (fun a b => lt b a = false) := by
  unfold sortBy sortRev
  rw [List.pairwise_reverse]
  exact (List.foldlRecOn (motive := fun acc => (∀ y ∈ acc, S y) ∧ acc.Pairwise (fun a b => lt a b = false))
    xs _ ⟨by simp, .nil⟩ fun acc ha x hx =>
      ⟨fun y hy => (mem_insR lt hy).elim (· ▸ hxs x hx) (ha.1 y), insR_sorted h (hxs x hx) ha.1 ha.2⟩).2

theorem insR_filter {S : α → Prop} (p : α → Bool) {x : α}
    (hc : ∀ y, S y → p x = true → lt x y = true → p y = false) :
    ∀ {l : List α}, (∀ y ∈ l, S y) →
      (insR lt x l).filter p = if p x then x :: l.filter p else l.filter p
  | [], _ => by cases h : p x <;> simp [insR, List.filter, h]
  | y :: rest, hS => by
    have hy : S y := hS y (by simp)
    have hrest : ∀ z ∈ rest, S z := fun z hz => hS z (by simp [hz])
    unfold insR
    split
    · rename_i hlt
      rw [List.filter_cons, insR_filter p hc hrest]
      by_cases hpx : p x = true
      · have hpy : p y = false := hc y hy hpx hlt
        simp [hpx, hpy]
      · simp [hpx, List.filter_cons]
    · simp [List.filter_cons]

theorem foldl_insR_filter {S : α → Prop} (p : α → Bool)
    (hc : ∀ x y, S x → S y → p x = true → lt x y = true → p y = false) : ∀ (xs acc : List α),
    (∀ y ∈ xs, S y) → (∀ y ∈ acc, S y) →
    (xs.foldl (fun acc x => insR lt x acc) acc).filter p = (xs.filter p).reverse ++ acc.filter p
  | [], acc, _, _ => by simp
  | x :: xs, acc, hxs, hacc => by
    simp only [List.foldl_cons]
    have hx : S x := hxs x (by simp)
    have hacc' : ∀ y ∈ insR lt x acc, S y := by
      intro y hy
      rcases mem_insR lt hy with e | e
      · subst e; exact hx
      · exact hacc y e
    rw [foldl_insR_filter p hc xs _ (fun y hy => hxs y (by simp [hy])) hacc',
      insR_filter p (fun y hy => hc x y hx hy) hacc]
    by_cases hpx : p x = true
    · simp [hpx]
    · simp [hpx]

/-- stability: every class `p` that `lt` cannot split keeps its input order -/
theorem sortBy_stable {S : α → Prop} (p : α → Bool)
    (hc : ∀ x y, S x → S y → p x = true → lt x y = true → p y = false)
    (xs : List α) (hxs : ∀ y ∈ xs, S y) : (sortBy lt xs).filter p = xs.filter p := by
  unfold sortBy sortRev
  rw [List.filter_reverse, foldl_insR_filter p hc xs [] hxs (by simp)]
  simp

theorem foldl_insR_of_sorted : ∀ (xs acc : List α),
    (acc.reverse ++ xs).Pairwise (fun a b => lt b a = false) →
    xs.foldl (fun acc x => insR lt x acc) acc = xs.reverse ++ acc
  | [], acc, _ => by simp
  | x :: xs, acc, hp => by
    simp only [List.foldl_cons]
    have hins : insR lt x acc = x :: acc := by
      cases acc with
      | nil => rfl
      | cons y rest =>
        have : lt x y = false := by
          rw [List.pairwise_append] at hp
          exact hp.2.2 y (by simp) x (by simp)
        simp [insR, this]
    rw [hins, foldl_insR_of_sorted xs (x :: acc) (by simpa using hp)]
    simp

/-- an ordered list is a fixed point -/
theorem sortBy_of_sorted (xs : List α) (h : xs.Pairwise (fun a b => lt b a = false)) :
    sortBy lt xs = xs := by
  unfold sortBy sortRev
  rw [foldl_insR_of_sorted xs [] (by simpa using h)]
  simp

/-! the same pass with a comparison that may fail -/

theorem insRM_eq {cmp : α → α → Option Bool} {x : α} :
    ∀ {l : List α}, (∀ y ∈ l, cmp x y = some (lt x y)) → insRM cmp x l = some (insR lt x l)
  | [], _ => rfl
  | y :: rest, h => by
    unfold insRM insR
    rw [h y (by simp)]
    cases hlt : lt x y
    · simp
    · simp [insRM_eq (l := rest) (fun z hz => h z (by simp [hz]))]

theorem sortRevM_eq {cmp : α → α → Option Bool} : ∀ (xs acc : List α),
    (∀ a ∈ xs ++ acc, ∀ b ∈ xs ++ acc, cmp a b = some (lt a b)) →
    sortRevM cmp acc xs = some (xs.foldl (fun acc x => insR lt x acc) acc)
  | [], acc, _ => rfl
  | x :: xs, acc, h => by
    unfold sortRevM
    rw [insRM_eq (lt := lt) (fun y hy => h x (by simp) y (by simp [hy]))]
    simp only [List.foldl_cons]
    apply sortRevM_eq xs (insR lt x acc)
    intro a ha b hb
    have mem : ∀ w, w ∈ xs ++ insR lt x acc → w ∈ x :: xs ++ acc := by
      intro w hw
      rcases List.mem_append.1 hw with e | e
      · simp [e]
      · rcases mem_insR lt e with e' | e' <;> simp [e']
    exact h a (mem a ha) b (mem b hb)

theorem sortM_eq {cmp : α → α → Option Bool} (xs : List α)
    (h : ∀ a ∈ xs, ∀ b ∈ xs, cmp a b = some (lt a b)) : sortM cmp xs = some (sortBy lt xs) := by
  unfold sortM sortBy sortRev
  rw [sortRevM_eq xs [] (by simpa using h)]
  rfl

theorem insRM_perm {cmp : α → α → Option Bool} {x : α} :
    ∀ {l r : List α}, insRM cmp x l = some r → r.Perm (x :: l)
  | [], r, h => by simp [insRM] at h; subst h; exact List.Perm.refl _
  | y :: rest, r, h => by
    unfold insRM at h
    split at h
    · contradiction
    · cases hr : insRM cmp x rest with
      | none => rw [hr] at h; contradiction
      | some r' =>
        rw [hr] at h
        simp at h; subst h
        exact ((insRM_perm hr).cons y).trans (List.Perm.swap x y rest)
    · simp at h; subst h; exact List.Perm.refl _

theorem sortRevM_perm {cmp : α → α → Option Bool} : ∀ {xs acc r : List α},
    sortRevM cmp acc xs = some r → r.Perm (xs ++ acc)
  | [], acc, r, h => by simp [sortRevM] at h; subst h; exact List.Perm.refl _
  | x :: xs, acc, r, h => by
    unfold sortRevM at h
    split at h
    · contradiction
    · rename_i acc' hacc
      refine (sortRevM_perm h).trans ?_
      refine ((insRM_perm hacc).append_left xs).trans ?_
      simp

/-- whenever the failing-comparison sort returns, it returns a permutation of its input -/
theorem sortM_perm {cmp : α → α → Option Bool} {xs r : List α} (h : sortM cmp xs = some r) :
    r.Perm xs := by
  unfold sortM at h
  cases hr : sortRevM cmp [] xs with
  | none => rw [hr] at h; contradiction
  | some r' =>
    rw [hr] at h
    simp at h; subst h
    refine (List.reverse_perm _).trans ?_
    simpa using sortRevM_perm hr

end SortSec
/-! ### hash keys and sets -/

theorem hashKey_ty {a : Val} {k : HashKey} (h : hashKey a = some k) : k.ty = ty a := by
  cases a <;> first | contradiction | (cases h; rfl)

theorem hashKey_eq_iff (conv : Int → F) {a b : Val} {ka kb : HashKey}
    (ha : hashKey a = some ka) (hb : hashKey b = some kb) :
    ka = kb ↔ (ty a = ty b ∧ equalsG conv a b = true) := by
  by_cases ht : ty a = ty b
  · -- same type: the one value field decides
    cases a <;> first | contradiction | skip
    all_goals cases b <;> first | contradiction | skip
    all_goals
      cases ha; cases hb
      simp [ty, equalsG, scalarEquals, cmpF_cmp3.eq_zero]
    · rename_i x y; cases x <;> cases y <;> simp
    · omega
  · exact ⟨fun e => absurd (by rw [← hashKey_ty ha, ← hashKey_ty hb, e]) ht, fun e => absurd e.1 ht⟩

theorem hashable_of_ty {a b : Val} (h : ty a = ty b) : (hashKey a).isSome = (hashKey b).isSome := by
  cases a <;> cases b <;> first | rfl | contradiction

section SetSec
variable {α : Type} (key : α → HashKey)

theorem replaceKey_keys (x : α) : ∀ l : List α, (replaceKey key x l).map key = l.map key
  | [] => rfl
  | y :: rest => by
    unfold replaceKey
    split
    · rename_i h; simp [h]
    · simp [replaceKey_keys x rest]

theorem insertByKey_perm (x : α) : ∀ l : List α, (insertByKey key x l).Perm (x :: l)
  | [] => List.Perm.refl _
  | y :: rest => by
    unfold insertByKey
    split
    · exact List.Perm.refl _
    · exact ((insertByKey_perm x rest).cons y).trans (List.Perm.swap x y rest)

theorem setInsert_mem_keys (x : α) (l : List α) (k : HashKey) :
    k ∈ (setInsert key x l).map key ↔ k = key x ∨ k ∈ l.map key := by
  unfold setInsert
  split
  · rename_i h
    have hx : key x ∈ l.map key := by simpa using h
    rw [replaceKey_keys]
    exact ⟨Or.inr, fun hk => hk.elim (· ▸ hx) id⟩
  · rw [((insertByKey_perm key x l).map key).mem_iff]
    simp

theorem replaceKey_mem {x w : α} : ∀ {l : List α}, w ∈ replaceKey key x l → w = x ∨ w ∈ l
  | [], h => by simp [replaceKey] at h
  | y :: rest, h => by
    unfold replaceKey at h
    split at h
    · rcases List.mem_cons.1 h with g | g <;> simp [g]
    · rcases List.mem_cons.1 h with g | g
      · simp [g]
      · rcases replaceKey_mem g with g' | g' <;> simp [g']

theorem setInsert_mem {x w : α} {l : List α} (h : w ∈ setInsert key x l) : w = x ∨ w ∈ l := by
  unfold setInsert at h
  split at h
  · exact replaceKey_mem key h
  · have := (insertByKey_perm key x l).mem_iff.1 h
    simpa using this

theorem foldl_setInsert (xs : List α) : ∀ (acc : List α),
    (∀ k, k ∈ (xs.foldl (fun acc x => setInsert key x acc) acc).map key ↔ k ∈ xs.map key ∨ k ∈ acc.map key) ∧
    (∀ w, w ∈ xs.foldl (fun acc x => setInsert key x acc) acc → w ∈ xs ∨ w ∈ acc) := by
  induction xs with
  | nil => intro acc; simp
  | cons x xs ih =>
    intro acc
    simp only [List.foldl_cons]
    obtain ⟨h2, h3⟩ := ih (setInsert key x acc)
    refine ⟨fun k => ?_, fun w hw => ?_⟩
    · rw [h2 k, setInsert_mem_keys, List.map_cons, List.mem_cons, or_left_comm, or_assoc]
    · rcases h3 w hw with e | e
      · exact Or.inl (by simp [e])
      · rcases setInsert_mem key e with e' | e'
        · exact Or.inl (by simp [e'])
        · exact Or.inr e'

theorem buildSet_mem_keys (xs : List α) (k : HashKey) :
    k ∈ (buildSet key xs).map key ↔ k ∈ xs.map key := by
  have := (foldl_setInsert key xs []).1 k
  simpa [buildSet] using this

theorem buildSet_mem (xs : List α) {w : α} (h : w ∈ buildSet key xs) : w ∈ xs := by
  have := (foldl_setInsert key xs []).2 w h
  simpa using this

end SetSec

theorem allHashable_iff : ∀ xs : List Val, allHashable xs = true ↔ ∀ x ∈ xs, isHashable x = true
  | [] => by simp [allHashable]
  | x :: xs => by simp [allHashable, allHashable_iff xs, isHashable]

theorem hashKey_of_hashable {v : Val} (h : isHashable v = true) : hashKey v = some (keyOf v) := by
  unfold keyOf
  cases hk : hashKey v with
  | none => simp [isHashable, hk] at h
  | some k => rfl

theorem allHashable_mem {xs : List Val} (h : allHashable xs = true) (x : Val) (hx : x ∈ xs) :
    hashKey x = some (keyOf x) := hashKey_of_hashable ((allHashable_iff xs).1 h x hx)

/-! ### `<=` in the Spec is transitive (with the exact result) -/

theorem xcompare_le_trans {a b c : Val} {d1 d2 : Int}
    (h1 : compareG exactF a b = some d1) (h2 : compareG exactF b c = some d2)
    (l1 : d1 ≤ 0) (l2 : d2 ≤ 0) :
    ∃ d3, compareG exactF a c = some d3 ∧ d3 ≤ 0 ∧ (d3 = 0 ↔ d1 = 0 ∧ d2 = 0) := by
  have r1 := compareG_range exactF a b d1 h1
  have r2 := compareG_range exactF b c d2 h2
  by_cases e1 : d1 = 0
  · subst e1
    refine ⟨d2, ?_, l2, by omega⟩
    rw [xcompare_congr a b h1 c]; exact h2
  · have e1' : d1 = -1 := by omega
    subst e1'
    by_cases e2 : d2 = 0
    · subst e2
      refine ⟨-1, ?_, by omega, by omega⟩
      rw [← xcompare_congr_right h2 a]; exact h1
    · have e2' : d2 = -1 := by omega
      subst e2'
      exact ⟨-1, xcompare_lt_trans a b c h1 h2, by omega, by omega⟩

theorem lossy_symm : ∀ a b, lossy a b = lossy b a := by
  refine Val.induct (P := fun a => ∀ b, lossy a b = lossy b a)
    (Q := fun xs => ∀ ys, lossyL xs ys = lossyL ys xs) ?_ ?_ ?_ ?_ ?_ ?_
  · intro a hs b; cases a <;> first | contradiction | (cases b <;> rfl)
  · intro xs ih b; cases b <;> simp [lossy]; rename_i ys; exact ih ys
  · intro ks vs ih b; cases b <;> simp [lossy]; rename_i ks' vs'; exact ih vs'
  · intro xs ih b
    cases b <;> simp [lossy]
    rename_i ys
    rw [ih ys, decide_eq_comm (hashKeys xs)]
  · intro ys; cases ys <;> simp [lossyL]
  · intro x xs h1 h2 ys
    cases ys with
    | nil => simp [lossyL]
    | cons y ys => simp [lossyL, h1 y, h2 ys]

theorem lossy_scalar_same_ty {a b : Val} (hs : isScalar a = true) (ht : ty a = ty b) :
    lossy a b = false := by
  cases a <;> cases b <;> first | rfl | contradiction

theorem less_asymm (a b : Val) (h : less a b = true) : less b a = false := by
  unfold less compare at *
  rw [compareG_antisymm toF a b]
  have : compareG toF a b = some (-1) := by simpa using h
  rw [this]; simp

/-- outside the guard and among mutually comparable values `less` is negatively transitive -/
theorem less_negtrans {a b c : Val}
    (hab : compare a b ≠ none) (hbc : compare b c ≠ none)
    (lab : lossy a b = false) (lbc : lossy b c = false) (lac : lossy a c = false)
    (h1 : less a b = false) (h2 : less b c = false) : less a c = false := by
  unfold less compare at *
  obtain ⟨d1, e1⟩ := Option.ne_none_iff_exists'.1 hab
  obtain ⟨d2, e2⟩ := Option.ne_none_iff_exists'.1 hbc
  rw [e1] at h1; rw [e2] at h2
  have r1 := compareG_range toF a b d1 e1
  have r2 := compareG_range toF b c d2 e2
  have n1 : d1 ≠ -1 := by intro e; subst e; simp at h1
  have n2 : d2 ≠ -1 := by intro e; subst e; simp at h2
  -- move to the Spec, reversed direction
  have x1 : compareG exactF b a = some (-d1) := by
    rw [compareG_antisymm exactF a b, ← (agree_outside_guard a b lab).1, e1]; rfl
  have x2 : compareG exactF c b = some (-d2) := by
    rw [compareG_antisymm exactF b c, ← (agree_outside_guard b c lbc).1, e2]; rfl
  obtain ⟨d3, h3, l3, _⟩ := xcompare_le_trans x2 x1 (by omega) (by omega)
  rw [(agree_outside_guard a c lac).1, compareG_antisymm exactF c a, h3]
  have r3 := compareG_range exactF c a d3 h3
  simp; omega

/-! ### `float64(int64)` is monotone -/

/-- rounding to a multiple of `d`, ties to the even multiple -/
def roundD (q d : Nat) : Nat :=
  if 2 * (q % d) > d ∨ (2 * (q % d) = d ∧ (q / d) % 2 = 1) then (q / d + 1) * d else (q / d) * d

theorem roundTo_eq (q k : Nat) : roundTo q k = roundD q (2 ^ k) := rfl

theorem roundD_lo (q d : Nat) : (q / d) * d ≤ roundD q d := by
  unfold roundD; split
  · exact Nat.mul_le_mul_right d (Nat.le_succ _)
  · exact Nat.le_refl _

theorem roundD_hi (q d : Nat) : roundD q d ≤ (q / d + 1) * d := by
  unfold roundD; split
  · exact Nat.le_refl _
  · exact Nat.mul_le_mul_right d (Nat.le_succ _)

theorem roundD_mono {d q1 q2 : Nat} (_hd : 0 < d) (h : q1 ≤ q2) : roundD q1 d ≤ roundD q2 d := by
  have hm : q1 / d ≤ q2 / d := Nat.div_le_div_right h
  rcases Nat.lt_or_eq_of_le hm with hlt | heq
  · exact Nat.le_trans (roundD_hi q1 d) (Nat.le_trans (Nat.mul_le_mul_right d hlt) (roundD_lo q2 d))
  · have e1 := Nat.div_add_mod q1 d
    have e2 := Nat.div_add_mod q2 d
    rw [heq] at e1
    have hr : q1 % d ≤ q2 % d := by omega
    unfold roundD
    rw [heq]
    split <;> split
    · exact Nat.le_refl _
    · exfalso; omega
    · exact Nat.mul_le_mul_right d (Nat.le_succ _)
    · exact Nat.le_refl _

theorem roundD_mul (m : Nat) {d : Nat} (hd : 0 < d) : roundD (m * d) d = m * d := by
  unfold roundD
  rw [Nat.mul_mod_left, Nat.mul_div_cancel m hd]
  rw [if_neg (by omega)]

theorem log2_mono {a b : Nat} (ha : a ≠ 0) (h : a ≤ b) : a.log2 ≤ b.log2 := by
  have hb : b ≠ 0 := by omega
  apply Nat.le_of_not_lt
  intro hlt
  have h1 : b < 2 ^ a.log2 := (Nat.log2_lt hb).1 hlt
  have h2 : 2 ^ a.log2 ≤ a := Nat.log2_self_le ha
  omega

theorem roundNat_mono {q1 q2 : Nat} (h : q1 ≤ q2) : roundNat q1 ≤ roundNat q2 := by
  unfold roundNat
  rw [roundTo_eq, roundTo_eq]
  by_cases h0 : q1 = 0
  · subst h0
    have : roundD 0 (2 ^ shiftOf 0) = 0 := by unfold roundD; simp
    rw [this]; exact Nat.zero_le _
  · have hq2 : q2 ≠ 0 := by omega
    have hL : q1.log2 ≤ q2.log2 := log2_mono h0 h
    have hk : shiftOf q1 ≤ shiftOf q2 := by unfold shiftOf; omega
    rcases Nat.lt_or_eq_of_le hk with hlt | heq
    · -- different binades: separated by a power of two
      have hpos1 : 0 < 2 ^ shiftOf q1 := Nat.two_pow_pos _
      have hpos2 : 0 < 2 ^ shiftOf q2 := Nat.two_pow_pos _
      have up : roundD q1 (2 ^ shiftOf q1) ≤ 2 ^ 53 * 2 ^ shiftOf q1 := by
        have hq : q1 ≤ 2 ^ 53 * 2 ^ shiftOf q1 := by
          rw [← Nat.pow_add]
          have h1 : q1 < 2 ^ (q1.log2 + 1) := Nat.lt_log2_self
          have h2 : 2 ^ (q1.log2 + 1) ≤ 2 ^ (53 + shiftOf q1) :=
            Nat.pow_le_pow_right (by omega) (by unfold shiftOf; omega)
          omega
        have := roundD_mono hpos1 hq
        rwa [roundD_mul _ hpos1] at this
      have lo : 2 ^ 52 * 2 ^ shiftOf q2 ≤ roundD q2 (2 ^ shiftOf q2) := by
        have hq : 2 ^ 52 * 2 ^ shiftOf q2 ≤ q2 := by
          rw [← Nat.pow_add]
          have h1 : 2 ^ q2.log2 ≤ q2 := Nat.log2_self_le hq2
          have h2 : 52 + shiftOf q2 = q2.log2 := by unfold shiftOf at *; omega
          rw [h2]; exact h1
        have := roundD_mono hpos2 hq
        rwa [roundD_mul _ hpos2] at this
      have mid : 2 ^ 53 * 2 ^ shiftOf q1 ≤ 2 ^ 52 * 2 ^ shiftOf q2 := by
        rw [← Nat.pow_add, ← Nat.pow_add]
        exact Nat.pow_le_pow_right (by omega) (by omega)
      exact Nat.le_trans up (Nat.le_trans mid lo)
    · rw [heq]; exact roundD_mono (Nat.two_pow_pos _) h

theorem roundInt_mono {i j : Int} (h : i ≤ j) : roundInt i ≤ roundInt j := by
  unfold roundInt
  by_cases hi : i < 0
  · by_cases hj : j < 0
    · rw [if_pos hi, if_pos hj]
      have : roundNat j.natAbs ≤ roundNat i.natAbs := roundNat_mono (by omega)
      simp only [Int.ofNat_eq_natCast]; omega
    · rw [if_pos hi, if_neg hj]
      simp only [Int.ofNat_eq_natCast]; omega
  · have hj : ¬ j < 0 := by omega
    rw [if_neg hi, if_neg hj]
    have : roundNat i.natAbs ≤ roundNat j.natAbs := roundNat_mono (by omega)
    simp only [Int.ofNat_eq_natCast]; omega

theorem toF_mono {i j : Int} (h : i ≤ j) : cmpF (toF i) (toF j) ≤ 0 := by
  have hr := roundInt_mono h
  have hs : roundInt i * scale ≤ roundInt j * scale :=
    Int.mul_le_mul_of_nonneg_right hr (Int.le_of_lt scale_pos)
  simp only [toF, cmpF, F.rank, F.mag, if_true]
  unfold cmpInt
  split
  · omega
  · split <;> omega

theorem roundNat_small {q : Nat} (h : q ≤ 2 ^ 53) : roundNat q = q := by
  rcases Nat.lt_or_eq_of_le h with hlt | heq
  · have hs : shiftOf q = 0 := by
      unfold shiftOf
      by_cases h0 : q = 0
      · subst h0; decide
      · have : q.log2 < 53 := (Nat.log2_lt h0).2 hlt
        omega
    unfold roundNat roundTo
    rw [hs]
    simp [Nat.mod_one]
  · subst heq; decide

theorem exactInt_of_abs_le {i : Int} (h : i.natAbs ≤ 2 ^ 53) : exactInt i = true := by
  unfold exactInt roundInt
  rw [roundNat_small h]
  split <;> simp <;> omega


/-! ### the recursive definitions on lists, as list operations -/

theorem sortedBy_iff {α : Type} (lt : α → α → Bool) : ∀ l : List α,
    sortedBy lt l = true ↔ l.Pairwise (fun a b => lt a b = true)
  | [] => by simp [sortedBy]
  | a :: rest => by
    simp only [sortedBy, Bool.and_eq_true, List.all_eq_true, List.pairwise_cons, sortedBy_iff lt rest]

theorem hashKeys_eq_map : ∀ xs : List Val, hashKeys xs = xs.map hashKey
  | [] => rfl
  | x :: xs => by simp [hashKeys, hashKeys_eq_map xs]

theorem hashKeys_length : ∀ xs : List Val, (hashKeys xs).length = xs.length
  | [] => rfl
  | _ :: xs => by simp [hashKeys, hashKeys_length xs]

theorem wfL_iff : ∀ xs : List Val, wfL xs = true ↔ ∀ x ∈ xs, wf x = true
  | [] => by simp [wfL]
  | x :: xs => by simp [wfL, wfL_iff xs]

/-! ### helpers for the statements in Props -/

theorem isScalar_of_ty {a b : Val} (h : ty a = ty b) (hs : isScalar a = true) : isScalar b = true := by
  cases a <;> cases b <;> first | rfl | contradiction

theorem isScalar_of_ordered {a : Val} (h : orderedScalar (ty a) = true) : isScalar a = true := by
  cases a <;> first | rfl | contradiction

theorem Sortable.comparable {xs : List Val} (h : Sortable xs) : Comparable xs :=
  fun a ha b hb => (h a ha b hb).1

theorem lessM_eq {xs : List Val} (h : Comparable xs) :
    ∀ a ∈ xs, ∀ b ∈ xs, lessM a b = some (less a b) := by
  intro a ha b hb
  have := h a ha b hb
  unfold lessM less
  cases hc : compare a b with
  | none => exact absurd hc this
  | some c => simp

theorem less_swo {xs : List Val} (h : Sortable xs) : SWO less (fun v => v ∈ xs) where
  asym := fun a b _ _ hab => less_asymm a b hab
  negtrans := fun a b c ha hb hc h1 h2 =>
    less_negtrans (h a ha b hb).1 (h b hb c hc).1 (h a ha b hb).2 (h b hb c hc).2 (h a ha c hc).2 h1 h2

theorem orderedB_iff : ∀ ys : List Val, orderedB ys = true ↔ ys.Pairwise (fun a b => less b a = false)
  | [] => by simp [orderedB]
  | a :: rest => by simp [orderedB, orderedB_iff rest, List.pairwise_cons]


end Risor.C15
