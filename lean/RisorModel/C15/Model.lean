/-
C15 — executable model of risor's value equality, ordering, hashing, truthiness,
membership, `sorted()` and set construction (object/{int,float,byte,string,bool,nil,list,
map,set,error,operations,sort}.go, builtins.Sorted/Bool), as the code IS.

Floats: Lean's `Float` is never used.  Every finite float64 is an integer multiple of
2^-1074, so a finite float is the `Int` number of such units (`F.fin`); `+0` and `-0` are the
same model value (Go's `==` and Go map keys identify them); `±Inf` are separate
constructors; NaN is excluded by the property and has no model value.

Go's `float64(int64)` conversion (round to nearest, ties to even, 53 significant bits) is
`toF`; the exact embedding of an integer is `exactF`.  All model functions that convert an
int to a float take the conversion as a parameter `conv`:

  Impl  = the function at `conv := toF`     (what the code computes)
  Spec  = the function at `conv := exactF`  (comparison of the exact numeric values).

Maps are modelled in canonical form (keys strictly sorted, parallel value list) and sets in
canonical form (items in the order of `Set.SortedItems`).  `equalsG` compares these canonical
forms pointwise; `equalsWG` follows the Go loops
`for k, v := range m.items { otherValue, found := other.items[k] … }` (size test, then every
left entry looked up on the right) on the same values read as association lists.  That the
two agree on all well-formed values (`wf`) is proved (`equalsWG_eq_equalsG`, LemmasW.lean);
the oracle answers both and the harness compares each with the real `Equals`.
Core Lean only.
-/
namespace Risor.C15

/-! ## numbers -/

/-- a float64 other than NaN, in units of 2^-1074 -/
inductive F where
  | ninf
  | fin (n : Int)
  | pinf
  deriving DecidableEq, Repr

def F.rank : F → Int
  | .ninf => -1
  | .fin _ => 0
  | .pinf => 1

def F.mag : F → Int
  | .fin n => n
  | _ => 0

/-- the three-way comparison coded in every `Compare` method: `==` → 0, `>` → 1, else -1 -/
def cmpInt (a b : Int) : Int := if a = b then 0 else if a > b then 1 else -1

/-- float64 `==` / `>` without NaN -/
def cmpF (a b : F) : Int :=
  if a.rank = b.rank then cmpInt a.mag b.mag else if a.rank > b.rank then 1 else -1

/-- 2^1074: the number of model units in 1.0 -/
@[irreducible] def scale : Int := 2 ^ 1074

/-- the exact value of an integer, in model units -/
def exactF (i : Int) : F := .fin (i * scale)

/-- round `q` to a multiple of `2^k`, to nearest, ties to the even multiple -/
def roundTo (q k : Nat) : Nat :=
  if 2 * (q % 2 ^ k) > 2 ^ k ∨ (2 * (q % 2 ^ k) = 2 ^ k ∧ (q / 2 ^ k) % 2 = 1)
  then (q / 2 ^ k + 1) * 2 ^ k else (q / 2 ^ k) * 2 ^ k

/-- how many low bits do not fit into 53 significant bits -/
def shiftOf (q : Nat) : Nat := q.log2 - 52

/-- a natural number rounded to 53 significant bits (round-half-even) -/
def roundNat (q : Nat) : Nat := roundTo q (shiftOf q)

/-- the integer nearest-even-rounded to 53 significant bits (sign-symmetric) -/
def roundInt (i : Int) : Int :=
  if i < 0 then -(Int.ofNat (roundNat i.natAbs)) else Int.ofNat (roundNat i.natAbs)

/-- Go's `float64(i)` for an int64 `i` -/
def toF (i : Int) : F := .fin (roundInt i * scale)

/-- the integer survives `float64(i)` unchanged -/
def exactInt (i : Int) : Bool := roundInt i == i

/-- Go string comparison: bytewise lexicographic -/
def cmpBytes : List Nat → List Nat → Int
  | [], [] => 0
  | [], _ :: _ => -1
  | _ :: _, [] => 1
  | a :: as, b :: bs => if a = b then cmpBytes as bs else if a > b then 1 else -1

/-! ## values -/

inductive Ty where
  | nil | bool | int | float | byte | str | err | list | map | set
  deriving DecidableEq, Repr

/-- script values in scope.  `byte n` has `n < 256`; `str`/`err` carry bytes; `map ks vs` has
    strictly sorted keys `ks` and `vs.length = ks.length`; `set xs` holds hashable scalars
    with distinct hash keys in `SortedItems` order. -/
inductive Val where
  | nil
  | bool (b : Bool)
  | int (i : Int)
  | float (f : F)
  | byte (n : Nat)
  | str (s : List Nat)
  | err (msg : List Nat) (raised : Bool)
  | list (xs : List Val)
  | map (ks : List (List Nat)) (vs : List Val)
  | set (xs : List Val)
  deriving Repr

def ty : Val → Ty
  | .nil => .nil
  | .bool _ => .bool
  | .int _ => .int
  | .float _ => .float
  | .byte _ => .byte
  | .str _ => .str
  | .err _ _ => .err
  | .list _ => .list
  | .map _ _ => .map
  | .set _ => .set

/-- `Bool.Compare`: false < true -/
def boolCmp (x y : Bool) : Int := if x = y then 0 else if x then 1 else -1

/-- `Error.Compare`: by message, then not-raised < raised -/
def errCmp (m : List Nat) (r : Bool) (m' : List Nat) (r' : Bool) : Int :=
  if m = m' ∧ r = r' then 0
  else if cmpBytes m m' = 1 then 1
  else if cmpBytes m m' = -1 then -1
  else if r ∧ ¬ r' then 1
  else if ¬ r ∧ r' then -1
  else 0

/-- the per-type `Compare` methods on non-container values; `none` = type error -/
def scalarCompare (conv : Int → F) : Val → Val → Option Int
  | .nil, .nil => some 0
  | .bool x, .bool y => some (boolCmp x y)
  | .int a, .int b => some (cmpInt a b)
  | .int a, .float f => some (cmpF (conv a) f)
  | .int a, .byte b => some (cmpInt a (Int.ofNat b))
  | .float f, .float g => some (cmpF f g)
  | .float f, .int b => some (cmpF f (conv b))
  | .float f, .byte b => some (cmpF f (conv (Int.ofNat b)))
  | .byte a, .byte b => some (cmpInt (Int.ofNat a) (Int.ofNat b))
  | .byte a, .int b => some (cmpInt (Int.ofNat a) b)
  | .byte a, .float f => some (cmpF (conv (Int.ofNat a)) f)
  | .str a, .str b => some (cmpBytes a b)
  | .err m r, .err m' r' => some (errCmp m r m' r')
  | _, _ => none

/-- the per-type `Equals` methods on non-container values -/
def scalarEquals (conv : Int → F) : Val → Val → Bool
  | .nil, .nil => true
  | .bool x, .bool y => x == y
  | .int a, .int b => a == b
  | .int a, .float f => cmpF (conv a) f == 0
  | .int a, .byte b => a == Int.ofNat b
  | .float f, .float g => cmpF f g == 0
  | .float f, .int b => cmpF f (conv b) == 0
  | .float f, .byte b => cmpF f (conv (Int.ofNat b)) == 0
  | .byte a, .byte b => a == b
  | .byte a, .int b => Int.ofNat a == b
  | .byte a, .float f => cmpF (conv (Int.ofNat a)) f == 0
  | .str a, .str b => a == b
  | .err m r, .err m' r' => m == m' && r == r'
  | _, _ => false

/-! ### hash keys -/

/-- `object.HashKey{Type, FltValue, IntValue, StrValue}` -/
structure HashKey where
  ty : Ty
  flt : F
  int : Int
  str : List Nat
  deriving DecidableEq, Repr

def hashKey : Val → Option HashKey
  | .nil => some ⟨.nil, .fin 0, 0, []⟩
  | .bool b => some ⟨.bool, .fin 0, if b then 1 else 0, []⟩
  | .int i => some ⟨.int, .fin 0, i, []⟩
  | .float f => some ⟨.float, f, 0, []⟩
  | .byte n => some ⟨.byte, .fin 0, Int.ofNat n, []⟩
  | .str s => some ⟨.str, .fin 0, 0, s⟩
  | _ => none

def hashKeys : List Val → List (Option HashKey)
  | [] => []
  | x :: xs => hashKey x :: hashKeys xs

/-! ### Equals, Compare (parametrised by the int→float conversion) -/

mutual
/-- `a.Equals(b)` -/
def equalsG (conv : Int → F) : Val → Val → Bool
  | .list xs, b =>
    (match b with
     | .list ys => xs.length == ys.length && equalsLG conv xs ys
     | _ => false)
  | .map ks vs, b =>
    (match b with
     | .map ks' vs' => decide (ks = ks') && equalsLG conv vs vs'
     | _ => false)
  | .set xs, b =>
    (match b with
     | .set ys => decide (hashKeys xs = hashKeys ys) && equalsLG conv xs ys
     | _ => false)
  | .nil, b => scalarEquals conv .nil b
  | .bool x, b => scalarEquals conv (.bool x) b
  | .int x, b => scalarEquals conv (.int x) b
  | .float x, b => scalarEquals conv (.float x) b
  | .byte x, b => scalarEquals conv (.byte x) b
  | .str x, b => scalarEquals conv (.str x) b
  | .err m r, b => scalarEquals conv (.err m r) b
/-- pointwise `Equals` of two item slices (false when the lengths differ) -/
def equalsLG (conv : Int → F) : List Val → List Val → Bool
  | [], [] => true
  | x :: xs, y :: ys => equalsG conv x y && equalsLG conv xs ys
  | _, _ => false
end

mutual
/-- `a.Compare(b)`; `none` = type error (also: `a` does not implement Comparable) -/
def compareG (conv : Int → F) : Val → Val → Option Int
  | .list xs, b =>
    (match b with
     | .list ys =>
       if xs.length > ys.length then some 1
       else if xs.length < ys.length then some (-1)
       else compareLG conv xs ys
     | _ => none)
  | .map _ _, _ => none
  | .set _, _ => none
  | .nil, b => scalarCompare conv .nil b
  | .bool x, b => scalarCompare conv (.bool x) b
  | .int x, b => scalarCompare conv (.int x) b
  | .float x, b => scalarCompare conv (.float x) b
  | .byte x, b => scalarCompare conv (.byte x) b
  | .str x, b => scalarCompare conv (.str x) b
  | .err m r, b => scalarCompare conv (.err m r) b
/-- the element loop of `List.Compare` (lengths already equal) -/
def compareLG (conv : Int → F) : List Val → List Val → Option Int
  | x :: xs, y :: ys =>
    (match compareG conv x y with
     | none => none
     | some c => if c = 0 then compareLG conv xs ys else some c)
  | _, _ => some 0
end

/-- Impl: the code as it is -/
def equals : Val → Val → Bool := equalsG toF
def compare : Val → Val → Option Int := compareG toF
/-- Spec: numbers compared by their exact values -/
def xequals : Val → Val → Bool := equalsG exactF
def xcompare : Val → Val → Option Int := compareG exactF

/-! ### `Equals` as it is written: `Map.Equals` / `Set.Equals` range over the LEFT items and
look each key up in the RIGHT items (`other.items[k]`; absent → not equal)

`equalsG` above compares the canonical forms pointwise.  `equalsW` below follows the Go
loops: `len(m.items) != len(other.items) → false`, then for every entry `(k, v)` of the left
map the value `other.items[k]` must exist and `v.Equals(otherValue)` must hold (sets: the
same with hash keys).  A map is an association list (parallel key/value lists, distinct
keys), a set an association list from hash keys to items.  `equalsWG_eq_equalsG` (LemmasW)
PROVES that the two definitions agree on all well-formed values (`wf`), so every law proved
for `equals` is a law of the loops; `map_eq_iff_entries` (Props) characterises the loop's
result entry by entry. -/

/-- `items[k]` with its `found` flag, on parallel key/value lists -/
def lookupKV {κ : Type} [DecidableEq κ] (k : κ) : List κ → List Val → Option Val
  | k' :: ks, v :: vs => if k = k' then some v else lookupKV k ks vs
  | _, _ => none

/-- the body of the `for k, v := range left { … right[k] … }` loops for an arbitrary value
    equality `eq` (used by the lemmas; `equalsWM`/`equalsWS` are this loop at `equalsW`) -/
def loopAll {κ : Type} [DecidableEq κ] (eq : Val → Val → Bool) :
    List κ → List Val → List κ → List Val → Bool
  | k :: ks, v :: vs, ks', vs' =>
    (match lookupKV k ks' vs' with
     | none => false
     | some v' => eq v v') && loopAll eq ks vs ks' vs'
  | _, _, _, _ => true

mutual
/-- `a.Equals(b)`, following the code of `List.Equals`, `Map.Equals`, `Set.Equals` -/
def equalsWG (conv : Int → F) : Val → Val → Bool
  | .list xs, b =>
    (match b with
     | .list ys => xs.length == ys.length && equalsWL conv xs ys
     | _ => false)
  | .map ks vs, b =>
    (match b with
     | .map ks' vs' => ks.length == ks'.length && equalsWM conv ks vs ks' vs'
     | _ => false)
  | .set xs, b =>
    (match b with
     | .set ys => xs.length == ys.length && equalsWS conv xs ys
     | _ => false)
  | .nil, b => scalarEquals conv .nil b
  | .bool x, b => scalarEquals conv (.bool x) b
  | .int x, b => scalarEquals conv (.int x) b
  | .float x, b => scalarEquals conv (.float x) b
  | .byte x, b => scalarEquals conv (.byte x) b
  | .str x, b => scalarEquals conv (.str x) b
  | .err m r, b => scalarEquals conv (.err m r) b
/-- `for i, v := range ls.items { Equals(v, other.items[i]) }` -/
def equalsWL (conv : Int → F) : List Val → List Val → Bool
  | [], [] => true
  | x :: xs, y :: ys => equalsWG conv x y && equalsWL conv xs ys
  | _, _ => false
/-- `for k, v := range m.items { otherValue, found := other.items[k]; … v.Equals(otherValue) }` -/
def equalsWM (conv : Int → F) : List (List Nat) → List Val → List (List Nat) → List Val → Bool
  | k :: ks, v :: vs, ks', vs' =>
    (match lookupKV k ks' vs' with
     | none => false
     | some v' => equalsWG conv v v') && equalsWM conv ks vs ks' vs'
  | _, _, _, _ => true
/-- `for k, v := range s.items { otherV, ok := other.items[k]; … v.Equals(otherV) }`, `k` the hash key -/
def equalsWS (conv : Int → F) : List Val → List Val → Bool
  | x :: xs, ys =>
    (match lookupKV (hashKey x) (hashKeys ys) ys with
     | none => false
     | some y => equalsWG conv x y) && equalsWS conv xs ys
  | [], _ => true
end

/-- Impl, as written -/
def equalsW : Val → Val → Bool := equalsWG toF
/-- Spec, as written: the same loops over exact-value equality -/
def xequalsW : Val → Val → Bool := equalsWG exactF

/-! #### well-formed values: what the representation of a real `*object.Map` / `*object.Set` satisfies -/

/-- strict order of map keys in the canonical form (Go string `<`) -/
def keyLt (a b : List Nat) : Bool := cmpBytes a b == -1

/-- `lt a b` for every later `b`: strictly sorted (hence distinct) -/
def sortedBy {α : Type} (lt : α → α → Bool) : List α → Bool
  | [] => true
  | a :: rest => rest.all (fun b => lt a b) && sortedBy lt rest

/-- `object.Compare(op.NotEqual, a, b)` = `Not(a.Equals(b))` -/
def notEquals (a b : Val) : Bool := !(equals a b)

/-- `object.Compare(op.LessThan | LessThanOrEqual | GreaterThan | GreaterThanOrEqual, a, b)` -/
def opLt (a b : Val) : Option Bool := (compare a b).map (fun c => decide (c < 0))
def opLe (a b : Val) : Option Bool := (compare a b).map (fun c => decide (c ≤ 0))
def opGt (a b : Val) : Option Bool := (compare a b).map (fun c => decide (c > 0))
def opGe (a b : Val) : Option Bool := (compare a b).map (fun c => decide (c ≥ 0))

/-! ### truthiness, length, membership -/

def truthy : Val → Bool
  | .nil => false
  | .bool b => b
  | .int i => i != 0
  | .float f => f != .fin 0
  | .byte n => n > 0
  | .str s => s != []
  | .err _ _ => true
  | .list xs => xs.length > 0
  | .map ks _ => ks.length > 0
  | .set xs => xs.length > 0

/-- `len(c)` of a container -/
def len : Val → Option Nat
  | .str s => some s.length      -- bytes here; `len` of a string counts runes, zero iff empty
  | .list xs => some xs.length
  | .map ks _ => some ks.length
  | .set xs => some xs.length
  | _ => none

/-- is `pat` a contiguous sub-list of `s` (Go `strings.Contains`) -/
def isPrefix : List Nat → List Nat → Bool
  | [], _ => true
  | _ :: _, [] => false
  | a :: as, b :: bs => a == b && isPrefix as bs

def isInfix (pat : List Nat) : List Nat → Bool
  | [] => pat.isEmpty
  | c :: cs => isPrefix pat (c :: cs) || isInfix pat cs

/-- `container.Contains(x)` (the `in` operator); `none` = not a container -/
def contains : Val → Val → Option Bool
  | .list xs, x => some (xs.any fun v => equals v x)
  | .map ks _, x =>
    (match x with
     | .str s => some (ks.any fun k => k == s)
     | _ => some false)
  | .set xs, x =>
    (match hashKey x with
     | none => some false
     | some k => some (xs.any fun v => hashKey v == some k))
  | .str s, x =>
    (match x with
     | .str p => some (isInfix p s)
     | _ => some false)
  | _, _ => none

/-! ### sorting: `object.Sort` = `sort.SliceStable` with `less(a,b) = (a.Compare(b) == -1)`

For up to 20 items Go's stable sort is one insertion-sort pass
(`for i: for j := i; j > 0 && less(j, j-1); j-- { swap }`); the model is exactly that, on
the *reversed* sorted prefix.  For a `less` that is a strict weak order every stable sorting
algorithm returns the same list, so the model also predicts longer inputs (theorems
`sortBy_stable`/`sortBy_sorted`/`sortBy_perm` characterise that list). -/

/-- insert `x` (the next input item) into the reversed sorted prefix: it moves left past
    every item `y` with `lt x y`, and stops at the first one without -/
def insR {α : Type} (lt : α → α → Bool) (x : α) : List α → List α
  | [] => [x]
  | y :: rest => if lt x y then y :: insR lt x rest else x :: y :: rest

def sortRev {α : Type} (lt : α → α → Bool) (xs : List α) : List α :=
  xs.foldl (fun acc x => insR lt x acc) []

def sortBy {α : Type} (lt : α → α → Bool) (xs : List α) : List α := (sortRev lt xs).reverse

/-- the same pass with a comparison that can fail: the first failing comparison aborts
    (Go records the error, finishes the sort and then discards the result) -/
def insRM {α : Type} (cmp : α → α → Option Bool) (x : α) : List α → Option (List α)
  | [] => some [x]
  | y :: rest =>
    match cmp x y with
    | none => none
    | some true => (insRM cmp x rest).map (y :: ·)
    | some false => some (x :: y :: rest)

def sortRevM {α : Type} (cmp : α → α → Option Bool) : List α → List α → Option (List α)
  | acc, [] => some acc
  | acc, x :: xs =>
    match insRM cmp x acc with
    | none => none
    | some acc' => sortRevM cmp acc' xs

def sortM {α : Type} (cmp : α → α → Option Bool) (xs : List α) : Option (List α) :=
  (sortRevM cmp [] xs).map List.reverse

/-- `less` of `object.Sort` -/
def less (a b : Val) : Bool := compare a b == some (-1)

/-- `less` with the error made visible -/
def lessM (a b : Val) : Option Bool := (compare a b).map (fun c => c == -1)

/-- `builtins.Sorted` on a list (one argument): `none` = error -/
def sorted (xs : List Val) : Option (List Val) := sortM lessM xs

/-! ### set construction: `object.NewSet(items)` / set literals / `set(list)` -/

/-- order of `Set.SortedItems`: by type name, then IntValue, StrValue, FltValue -/
def tyRank : Ty → Nat
  | .bool => 0
  | .byte => 1
  | .err => 2
  | .float => 3
  | .int => 4
  | .list => 5
  | .map => 6
  | .nil => 7
  | .set => 8
  | .str => 9

def hkLess (a b : HashKey) : Bool :=
  if a.ty ≠ b.ty then tyRank a.ty < tyRank b.ty
  else if a.int ≠ b.int then a.int < b.int
  else if a.str ≠ b.str then cmpBytes a.str b.str == -1
  else if a.flt ≠ b.flt then cmpF a.flt b.flt == -1
  else false

/-- replace the item that has the key of `x` by `x` (`s.items[key] = item`, key present) -/
def replaceKey {α : Type} (key : α → HashKey) (x : α) : List α → List α
  | [] => []
  | y :: rest => if key y = key x then x :: rest else y :: replaceKey key x rest

/-- place a new item into the canonical (`SortedItems`) order (key absent) -/
def insertByKey {α : Type} (key : α → HashKey) (x : α) : List α → List α
  | [] => [x]
  | y :: rest => if hkLess (key x) (key y) then x :: y :: rest else y :: insertByKey key x rest

/-- `s.items[key] = item` on the canonical item list -/
def setInsert {α : Type} (key : α → HashKey) (x : α) (l : List α) : List α :=
  if l.any (fun y => key y = key x) then replaceKey key x l else insertByKey key x l

/-- `NewSet(items)` for hashable items -/
def buildSet {α : Type} (key : α → HashKey) (xs : List α) : List α :=
  xs.foldl (fun acc x => setInsert key x acc) []

def allHashable : List Val → Bool
  | [] => true
  | x :: xs => (hashKey x).isSome && allHashable xs

def keyOf (v : Val) : HashKey :=
  match hashKey v with
  | some k => k
  | none => ⟨.nil, .fin 0, 0, []⟩

/-- `NewSet(items)`: `none` = "unhashable" type error -/
def mkSet (xs : List Val) : Option (List Val) :=
  if allHashable xs then some (buildSet keyOf xs) else none

/-- the `SortedItems` order on the hash keys of set items (an unhashable item has no place) -/
def okLt : Option HashKey → Option HashKey → Bool
  | some a, some b => hkLess a b
  | _, _ => false

mutual
/-- well-formed: every map has as many values as keys and strictly sorted (so distinct) keys,
    every set holds hashable items in strict `SortedItems` order (so with distinct hash
    keys) — at every nesting level.  This is what `c15Enc` produces from a real object. -/
def wf : Val → Bool
  | .list xs => wfL xs
  | .map ks vs => ks.length == vs.length && sortedBy keyLt ks && wfL vs
  | .set xs => allHashable xs && sortedBy okLt (hashKeys xs) && wfL xs
  | _ => true
def wfL : List Val → Bool
  | [] => true
  | x :: xs => wf x && wfL xs
end

/-! ## Spec side -/

mutual
/-- guard of the known finding `C15-int-float-lossy-compare`: somewhere in the (pointwise)
    comparison of `a` and `b` an integer that `float64()` does not represent exactly meets a
    float -/
def lossy : Val → Val → Bool
  | .int a, b => (match b with | .float _ => !exactInt a | _ => false)
  | .byte a, b => (match b with | .float _ => !exactInt (Int.ofNat a) | _ => false)
  | .float _, b =>
    (match b with
     | .int a => !exactInt a
     | .byte a => !exactInt (Int.ofNat a)
     | _ => false)
  | .list xs, b => (match b with | .list ys => lossyL xs ys | _ => false)
  | .map _ vs, b => (match b with | .map _ vs' => lossyL vs vs' | _ => false)
  | .set xs, b =>
    (match b with
     | .set ys => decide (hashKeys xs = hashKeys ys) && lossyL xs ys   -- never true for real sets
     | _ => false)
  | _, _ => false
def lossyL : List Val → List Val → Bool
  | x :: xs, y :: ys => lossy x y || lossyL xs ys
  | _, _ => false
end

/-- some two items of the list are in the guard -/
def lossyAny (xs : List Val) : Bool := xs.any fun a => xs.any fun b => lossy a b


/-! ### vocabulary of the property statements -/

/-- non-container values -/
def isScalar : Val → Bool
  | .list _ => false
  | .map _ _ => false
  | .set _ => false
  | _ => true

/-- exact numeric value of a number -/
def nkey : Val → Option F
  | .int i => some (exactF i)
  | .byte n => some (exactF (Int.ofNat n))
  | .float f => some f
  | _ => none

/-- The ordered scalar types. -/
def orderedScalar : Ty → Bool
  | .int | .float | .byte | .str | .bool => true
  | _ => false

/-- mutually comparable: no comparison among the items fails -/
def Comparable (xs : List Val) : Prop := ∀ a ∈ xs, ∀ b ∈ xs, compare a b ≠ none

/-- mutually comparable and outside the guard -/
def Sortable (xs : List Val) : Prop :=
  ∀ a ∈ xs, ∀ b ∈ xs, compare a b ≠ none ∧ lossy a b = false

/-- decidable form of "ordered" -/
def orderedB : List Val → Bool
  | [] => true
  | a :: rest => rest.all (fun b => !less b a) && orderedB rest

/-! ## error objects: what Go can see of the wrapped `error` (`object/error.go`)

An `*object.Error` holds a Go `error` and a raised flag.  Beyond its message a Go error has an
identity (what `==` on the interface value compares: the pointer of an `errors.New` /
`fmt.Errorf` / `errors.Join` / `errz.*Error` value), a Go type, and the errors it wraps
(`Unwrap`), which is what `errors.Is` / `errors.As` and the script functions `errors.is` /
`errors.as` consult.  `Error.Equals` and `Error.Compare` consult none of that: they read
`Message()` and `raised` only.  The model keeps the provenance so that this is a statement. -/

/-- a Go `error` value: identity, Go type (0 `errors.New`, 1 `fmt.Errorf` with `%w`, 2 `errors.Join`,
    3/4/5 `errz.EvalError/ArgsError/TypeError`), message bytes, and the identities of all errors
    reachable from it through `Unwrap` -/
structure GoErr where
  id : Nat
  cls : Nat
  msg : List Nat
  wraps : List Nat
  deriving DecidableEq, Repr

/-- an `*object.Error` -/
structure ErrObj where
  go : GoErr
  raised : Bool
  deriving DecidableEq, Repr

/-- `errors.Is(a, b)` for errors without an `Is` method: `b` is `a` or one of the errors `a` wraps.
    Directional: a wrapper matches what it wraps, never the other way round. -/
def goIs (a b : GoErr) : Bool := a.id == b.id || a.wraps.contains b.id

/-- the script value an error object presents: `Message()` and `IsRaised()` -/
def ErrObj.val (e : ErrObj) : Val := .err e.go.msg e.raised

/-- `Error.Equals` as the code is: equal message and equal raised flag -/
def errObjEquals (a b : ErrObj) : Bool := a.go.msg == b.go.msg && a.raised == b.raised

/-- `Error.Compare` as the code is -/
def errObjCompare (a b : ErrObj) : Int := errCmp a.go.msg a.raised b.go.msg b.raised

/-- an `==` on errors that ALSO accepts `errors.Is(a, b)` (not what the code does: kept to state
    why the provenance must not enter `==`, see `eq_consulting_is_not_symmetric`) -/
def errObjEqualsIs (a b : ErrObj) : Bool :=
  a.raised == b.raised && (a.go.msg == b.go.msg || goIs a.go b.go)

/-! ## containers with a history (`object/set.go`, `object/map.go`)

A set or map OBJECT is reached through a sequence of mutations — `s.add(x)` (`Set.Add`),
`s.remove(x)` (`Set.Remove`), `delete(s, x)` (`Set.DelItem`), `s.clear()`; `m[k] = v`
(`Map.SetItem`/`Set`), `delete(m, k)` (`Map.DelItem`/`Delete`), `m.pop(k)`, `m.setdefault(k, v)`,
`m.clear()` — interleaved with observations (printing, iterating, `list()`, `sorted()`, `keys()`,
JSON, `==`, `in`, `len`).  The code keeps ONE piece of state per object, the Go map `items`; the
order-based view (`SortedItems`/`SortedKeys`: iteration, `list`, `sorted`, printing) is recomputed
from it on every call and the hash-based view (`in`, `len`, truthiness) reads it directly.  The
model state is the canonical item list; an observation leaves it unchanged. -/

inductive SetOp (α : Type) where
  | add (x : α)
  | remove (x : α)
  | del (x : α)
  | clear
  | observe
  deriving Repr

/-- one operation on a set: the new canonical item list and whether the call succeeded
    (`false` = "unhashable" type error, set unchanged) -/
def setStep {α : Type} (hashable : α → Bool) (key : α → HashKey) (s : List α) : SetOp α → List α × Bool
  | .add x => if hashable x then (setInsert key x s, true) else (s, false)
  | .remove x => if hashable x then (s.filter (fun y => decide (key y ≠ key x)), true) else (s, false)
  | .del x => if hashable x then (s.filter (fun y => decide (key y ≠ key x)), true) else (s, false)
  | .clear => ([], true)
  | .observe => (s, true)

/-- the set after a history -/
def setRun {α : Type} (hashable : α → Bool) (key : α → HashKey) (s : List α) (ops : List (SetOp α)) : List α :=
  ops.foldl (fun s o => (setStep hashable key s o).1) s

/-- the state and the success flag after every operation of a history -/
def setTrace {α : Type} (hashable : α → Bool) (key : α → HashKey) : List α → List (SetOp α) → List (List α × Bool)
  | _, [] => []
  | s, o :: ops => setStep hashable key s o :: setTrace hashable key (setStep hashable key s o).1 ops

def isHashable (v : Val) : Bool := (hashKey v).isSome

/-- Impl: a history on a set of values -/
def setHist (s : List Val) (ops : List (SetOp Val)) : List Val := setRun isHashable keyOf s ops

/-- Spec of membership after a history: the last operation that mentions the key decides
    (`add` → present, `remove`/`delete` → absent, `clear` → absent for every key); operations
    with an unhashable argument and observations decide nothing -/
def specMember (init : List Val) (ops : List (SetOp Val)) (k : HashKey) : Bool :=
  ops.foldl (fun m o =>
    match o with
    | .add x => if hashKey x = some k then true else m
    | .remove x => if hashKey x = some k then false else m
    | .del x => if hashKey x = some k then false else m
    | .clear => false
    | .observe => m) (init.any (fun y => decide (keyOf y = k)))

inductive MapOp (α : Type) where
  | set (k : List Nat) (v : α)
  | del (k : List Nat)
  | pop (k : List Nat)
  | setdefault (k : List Nat) (v : α)
  | badkey
  | clear
  | observe
  deriving Repr

/-- `m.items[k] = v` on the canonical entry list (sorted by key) -/
def mapPut {α : Type} (k : List Nat) (v : α) : List (List Nat × α) → List (List Nat × α)
  | [] => [(k, v)]
  | e :: rest =>
    if k = e.1 then (k, v) :: rest
    else if keyLt k e.1 then (k, v) :: e :: rest
    else e :: mapPut k v rest

/-- one operation on a map: the new canonical entry list and whether the call succeeded
    (`badkey`: `m[1] = v` / `delete(m, 1)` with a non-string key — type error, map unchanged) -/
def mapStep {α : Type} (es : List (List Nat × α)) : MapOp α → List (List Nat × α) × Bool
  | .set k v => (mapPut k v es, true)
  | .del k => (es.filter (fun e => decide (e.1 ≠ k)), true)
  | .pop k => (es.filter (fun e => decide (e.1 ≠ k)), true)
  | .setdefault k v => if es.any (fun e => decide (e.1 = k)) then (es, true) else (mapPut k v es, true)
  | .badkey => (es, false)
  | .clear => ([], true)
  | .observe => (es, true)

def mapRun {α : Type} (es : List (List Nat × α)) (ops : List (MapOp α)) : List (List Nat × α) :=
  ops.foldl (fun es o => (mapStep es o).1) es

def mapTrace {α : Type} : List (List Nat × α) → List (MapOp α) → List (List (List Nat × α) × Bool)
  | _, [] => []
  | es, o :: ops => mapStep es o :: mapTrace (mapStep es o).1 ops

/-- the map value of an entry list -/
def mapVal (es : List (List Nat × Val)) : Val := .map (es.map (·.1)) (es.map (·.2))

/-- Spec of key membership after a history: the last operation that mentions the key decides -/
def specHasKey (init : List (List Nat × Val)) (ops : List (MapOp Val)) (k : List Nat) : Bool :=
  ops.foldl (fun m o =>
    match o with
    | .set k' _ => if k' = k then true else m
    | .del k' => if k' = k then false else m
    | .pop k' => if k' = k then false else m
    | .setdefault k' _ => if k' = k then true else m
    | .badkey => m
    | .clear => false
    | .observe => m) (init.any (fun e => decide (e.1 = k)))

end Risor.C15
