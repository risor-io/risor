import RisorModel.C15.LemmasH
/-! Lemmas for C15 about `Equals` as it is written (`equalsWG`: the range-and-lookup loops of
`Map.Equals` / `Set.Equals`): the loop over an association list with distinct keys, its
characterisation entry by entry, and its agreement with the pointwise comparison of the
canonical forms (`equalsG`) on well-formed values. -/
namespace Risor.C15

/-! ### association lists: `lookupKV`, `loopAll` -/

section Assoc
variable {κ : Type} [DecidableEq κ]

theorem lookupKV_mem {k : κ} {v : Val} : ∀ {ks : List κ} {vs : List Val},
    lookupKV k ks vs = some v → k ∈ ks ∧ v ∈ vs
  | [], _, h => by simp [lookupKV] at h
  | _ :: _, [], h => by simp [lookupKV] at h
  | k' :: ks, v' :: vs, h => by
    simp only [lookupKV] at h
    split at h
    · rename_i e; simp at h; subst e; subst h; simp
    · have := lookupKV_mem h
      exact ⟨List.mem_cons_of_mem _ this.1, List.mem_cons_of_mem _ this.2⟩

theorem lookupKV_of_mem {k : κ} : ∀ {ks : List κ} {vs : List Val},
    ks.length = vs.length → k ∈ ks → ∃ v, lookupKV k ks vs = some v
  | [], _, _, h => by simp at h
  | _ :: _, [], hl, _ => by simp at hl
  | k' :: ks, v' :: vs, hl, h => by
    simp only [lookupKV]
    by_cases e : k = k'
    · exact ⟨v', by simp [e]⟩
    · simp only [if_neg e]
      simp only [List.mem_cons] at h
      rcases h with h | h
      · exact absurd h e
      · exact lookupKV_of_mem (by simpa using hl) h

theorem lookupKV_cons_ne {k k' : κ} (h : k ≠ k') (v' : Val) (ks : List κ) (vs : List Val) :
    lookupKV k (k' :: ks) (v' :: vs) = lookupKV k ks vs := by
  simp [lookupKV, h]

/-- a key that the left list does not contain can be dropped from the right one -/
theorem loopAll_skip (eq : Val → Val → Bool) (k : κ) (v' : Val) (ks' : List κ) (vs' : List Val) :
    ∀ (ks : List κ) (vs : List Val), k ∉ ks →
      loopAll eq ks vs (k :: ks') (v' :: vs') = loopAll eq ks vs ks' vs'
  | [], _, _ => by simp [loopAll]
  | _ :: _, [], _ => by simp [loopAll]
  | k1 :: ks, v1 :: vs, h => by
    simp only [List.mem_cons, not_or] at h
    simp only [loopAll]
    rw [lookupKV_cons_ne (fun e => h.1 e.symm), loopAll_skip eq k v' ks' vs' ks vs h.2]

/-- pointwise comparison of two value lists by `eq` (false when the lengths differ) -/
def pw (eq : Val → Val → Bool) : List Val → List Val → Bool
  | [], [] => true
  | x :: xs, y :: ys => eq x y && pw eq xs ys
  | _, _ => false

theorem pw_congr {eq eq' : Val → Val → Bool} : ∀ (xs ys : List Val),
    (∀ x ∈ xs, ∀ y ∈ ys, eq x y = eq' x y) → pw eq xs ys = pw eq' xs ys
  | [], [], _ | [], _ :: _, _ | _ :: _, [], _ => rfl
  | x :: xs, y :: ys, h => by
    simp only [pw]
    rw [h x (by simp) y (by simp), pw_congr xs ys (fun a ha b hb => h a (by simp [ha]) b (by simp [hb]))]

/-- with the same distinct keys on both sides the loop is the pointwise comparison -/
theorem loopAll_self (eq : Val → Val → Bool) : ∀ (ks : List κ) (vs vs' : List Val),
    ks.Nodup → ks.length = vs.length → ks.length = vs'.length →
      loopAll eq ks vs ks vs' = pw eq vs vs'
  | [], [], [], _, _, _ => rfl
  | [], _ :: _, _, _, h, _ | _ :: _, [], _, _, h, _ => by simp at h
  | [], [], _ :: _, _, _, h | _ :: _, _ :: _, [], _, _, h => by simp at h
  | k :: ks, v :: vs, v' :: vs', hn, h1, h2 => by
    rw [List.nodup_cons] at hn
    simp only [loopAll, lookupKV, if_pos, pw]
    rw [loopAll_skip eq k v' ks vs' ks vs hn.1,
      loopAll_self eq ks vs vs' hn.2 (by simpa using h1) (by simpa using h2)]

/-- the loop, entry by entry: every binding `k ↦ v` on the left has a binding `k ↦ v'` on
    the right with `eq v v'` -/
theorem loopAll_iff (eq : Val → Val → Bool) (ks' : List κ) (vs' : List Val) :
    ∀ (ks : List κ) (vs : List Val), ks.Nodup → ks.length = vs.length →
      (loopAll eq ks vs ks' vs' = true ↔
        ∀ k v, lookupKV k ks vs = some v → ∃ v', lookupKV k ks' vs' = some v' ∧ eq v v' = true)
  | [], _, _, _ => by simp [loopAll, lookupKV]
  | _ :: _, [], _, h => by simp at h
  | k1 :: ks, v1 :: vs, hn, hl => by
    rw [List.nodup_cons] at hn
    have ih := loopAll_iff eq ks' vs' ks vs hn.2 (by simpa using hl)
    simp only [loopAll, Bool.and_eq_true]
    rw [ih]
    constructor
    · rintro ⟨h1, h2⟩ k v hk
      simp only [lookupKV] at hk
      split at hk
      · rename_i e
        simp at hk; subst hk; subst e
        cases e' : lookupKV k ks' vs' with
        | none => rw [e'] at h1; simp at h1
        | some w => rw [e'] at h1; exact ⟨w, rfl, h1⟩
      · exact h2 k v hk
    · intro h
      constructor
      · obtain ⟨w, hw, he⟩ := h k1 v1 (by simp [lookupKV])
        rw [hw]; exact he
      · intro k v hk
        have hne : k ≠ k1 := fun e => hn.1 (e ▸ (lookupKV_mem hk).1)
        exact h k v (by rw [lookupKV_cons_ne hne]; exact hk)

/-- pigeonhole: a duplicate-free list inside a list of the same length fills it -/
theorem subset_of_nodup_length {l₁ l₂ : List κ} (h₁ : l₁.Nodup) (hs : l₁ ⊆ l₂)
    (hl : l₁.length = l₂.length) : l₂ ⊆ l₁ := by
  intro b hb
  apply Classical.byContradiction
  intro hnb
  have hsub : l₁ ⊆ l₂.erase b := by
    intro x hx
    have hxb : x ≠ b := fun e => hnb (e ▸ hx)
    exact (List.mem_erase_of_ne hxb).2 (hs hx)
  have hle := h₁.length_le_of_subset hsub
  have hlen : (l₂.erase b).length = l₂.length - 1 := by rw [List.length_erase]; simp [hb]
  have hpos : 1 ≤ l₂.length := List.length_pos_of_mem hb
  omega

omit [DecidableEq κ] in
theorem nodup_of_sortedBy {lt : κ → κ → Bool} (hirr : ∀ a, lt a a = false) {l : List κ}
    (h : sortedBy lt l = true) : l.Nodup := by
  rw [sortedBy_iff] at h
  refine List.Pairwise.imp ?_ h
  intro a b hab e
  subst e
  rw [hirr a] at hab
  contradiction

omit [DecidableEq κ] in
theorem irrefl_of_asymm {lt : κ → κ → Bool} (hasym : ∀ a b, lt a b = true → lt b a = true → False)
    (a : κ) : lt a a = false := by
  cases e : lt a a with
  | false => rfl
  | true => exact (hasym a a e e).elim

omit [DecidableEq κ] in
/-- two strictly sorted lists with the same elements are the same list -/
theorem eq_of_sortedBy {lt : κ → κ → Bool} (hasym : ∀ a b, lt a b = true → lt b a = true → False)
    {l₁ l₂ : List κ} (h₁ : sortedBy lt l₁ = true) (h₂ : sortedBy lt l₂ = true)
    (hm : ∀ a, a ∈ l₁ ↔ a ∈ l₂) : l₁ = l₂ := by
  have hirr := irrefl_of_asymm hasym
  have n₁ := nodup_of_sortedBy hirr h₁
  have n₂ := nodup_of_sortedBy hirr h₂
  have hp := (List.perm_ext_iff_of_nodup n₁ n₂).2 hm
  rw [sortedBy_iff] at h₁ h₂
  exact List.Perm.eq_of_pairwise (le := fun a b => lt a b = true)
    (fun a b _ _ hab hba => (hasym a b hab hba).elim) h₁ h₂ hp

/-- The Go loop, entry by entry and key set by key set: for strictly sorted (distinct) keys
    with as many values as keys, "same size and every left entry matched on the right" is
    "the two key SETS are equal and the values under every common key are `eq`". -/
theorem loop_iff_entries {lt : κ → κ → Bool} (hasym : ∀ a b, lt a b = true → lt b a = true → False)
    (eq : Val → Val → Bool) {ks ks' : List κ} {vs vs' : List Val}
    (hs : sortedBy lt ks = true) (hs' : sortedBy lt ks' = true)
    (hl : ks.length = vs.length) (hl' : ks'.length = vs'.length) :
    (ks.length == ks'.length && loopAll eq ks vs ks' vs') = true ↔
      (∀ k, k ∈ ks ↔ k ∈ ks') ∧
      (∀ k v v', lookupKV k ks vs = some v → lookupKV k ks' vs' = some v' → eq v v' = true) := by
  have hirr := irrefl_of_asymm hasym
  have hn := nodup_of_sortedBy hirr hs
  have hn' := nodup_of_sortedBy hirr hs'
  simp only [Bool.and_eq_true, beq_iff_eq]
  rw [loopAll_iff eq ks' vs' ks vs hn hl]
  constructor
  · rintro ⟨hlen, hall⟩
    have hsub : ks ⊆ ks' := by
      intro k hk
      obtain ⟨v, hv⟩ := lookupKV_of_mem hl hk
      obtain ⟨v', hv', _⟩ := hall k v hv
      exact (lookupKV_mem hv').1
    have hsup := subset_of_nodup_length hn hsub hlen
    refine ⟨fun k => ⟨fun m => hsub m, fun m => hsup m⟩, ?_⟩
    intro k v v' h1 h2
    obtain ⟨w, hw, he⟩ := hall k v h1
    rw [h2] at hw
    cases hw
    exact he
  · rintro ⟨hkeys, hvals⟩
    refine ⟨((List.perm_ext_iff_of_nodup hn hn').2 hkeys).length_eq, ?_⟩
    intro k v h1
    obtain ⟨v', hv'⟩ := lookupKV_of_mem hl' ((hkeys k).1 (lookupKV_mem h1).1)
    exact ⟨v', hv', hvals k v v' h1 hv'⟩

/-- The Go loop against the canonical form.  For strictly sorted key lists with as many
    values as keys: "same size, and every left entry has an `eq`-equal right entry under
    the same key" is "the key lists are identical and the values are pointwise equal". -/
theorem loop_eq_canonical {lt : κ → κ → Bool} (hasym : ∀ a b, lt a b = true → lt b a = true → False)
    (eq eq' : Val → Val → Bool) {ks ks' : List κ} {vs vs' : List Val}
    (hs : sortedBy lt ks = true) (hs' : sortedBy lt ks' = true)
    (hl : ks.length = vs.length) (hl' : ks'.length = vs'.length)
    (hag : ∀ v ∈ vs, ∀ v' ∈ vs', eq v v' = eq' v v') :
    (ks.length == ks'.length && loopAll eq ks vs ks' vs') = (decide (ks = ks') && pw eq' vs vs') := by
  have hirr := irrefl_of_asymm hasym
  by_cases h : ks = ks'
  · subst h
    simp only [BEq.rfl, Bool.true_and, decide_true]
    rw [loopAll_self eq ks vs vs' (nodup_of_sortedBy hirr hs) hl hl', pw_congr vs vs' hag]
  · simp only [h, decide_false, Bool.false_and]
    cases hb : (ks.length == ks'.length && loopAll eq ks vs ks' vs') with
    | false => rfl
    | true => exact absurd (eq_of_sortedBy hasym hs hs' ((loop_iff_entries hasym eq hs hs' hl hl').1 hb).1) h

end Assoc

/-! ### the mutual definitions are these loops -/

theorem equalsWL_eq_pw (conv : Int → F) : ∀ xs ys, equalsWL conv xs ys = pw (equalsWG conv) xs ys
  | [], [] | [], _ :: _ | _ :: _, [] => by simp [equalsWL, pw]
  | x :: xs, y :: ys => by simp [equalsWL, pw, equalsWL_eq_pw conv xs ys]

theorem equalsLG_eq_pw (conv : Int → F) : ∀ xs ys, equalsLG conv xs ys = pw (equalsG conv) xs ys
  | [], [] | [], _ :: _ | _ :: _, [] => by simp [equalsLG, pw]
  | x :: xs, y :: ys => by simp [equalsLG, pw, equalsLG_eq_pw conv xs ys]

theorem equalsWM_eq_loop (conv : Int → F) (ks' : List (List Nat)) (vs' : List Val) :
    ∀ ks vs, equalsWM conv ks vs ks' vs' = loopAll (equalsWG conv) ks vs ks' vs'
  | [], _ => by simp [equalsWM, loopAll]
  | _ :: _, [] => by simp [equalsWM, loopAll]
  | k :: ks, v :: vs => by simp only [equalsWM, loopAll, equalsWM_eq_loop conv ks' vs' ks vs]

theorem equalsWS_eq_loop (conv : Int → F) (ys : List Val) :
    ∀ xs, equalsWS conv xs ys = loopAll (equalsWG conv) (hashKeys xs) xs (hashKeys ys) ys
  | [] => by simp [equalsWS, loopAll, hashKeys]
  | x :: xs => by simp only [equalsWS, loopAll, hashKeys, equalsWS_eq_loop conv ys xs]

theorem okLt_asymm (a b : Option HashKey) : okLt a b = true → okLt b a = true → False := by
  cases a <;> cases b <;> simp only [okLt] <;> try (intro h; contradiction)
  exact hkLess_strictTotal.asymm _ _

/-! ### as written = canonical, on well-formed values -/

theorem equalsWG_scalar {conv : Int → F} {a : Val} (h : isScalar a = true) (b : Val) :
    equalsWG conv a b = scalarEquals conv a b := by
  cases a <;> simp_all [equalsWG, isScalar]

/-- `Equals` as the code computes it (size test, then range over the left entries and look
    each key up on the right) is the pointwise comparison of the canonical forms — for ALL
    well-formed values of any nesting depth, for every int→float conversion (so for Impl
    and for Spec). -/
theorem equalsWG_eq_equalsG (conv : Int → F) :
    ∀ a, wf a = true → ∀ b, wf b = true → equalsWG conv a b = equalsG conv a b := by
  refine Val.induct
    (P := fun a => wf a = true → ∀ b, wf b = true → equalsWG conv a b = equalsG conv a b)
    (Q := fun xs => ∀ x ∈ xs, wf x = true → ∀ b, wf b = true → equalsWG conv x b = equalsG conv x b)
    ?_ ?_ ?_ ?_ ?_ ?_
  · intro a h _ b _
    rw [equalsWG_scalar h, equalsG_scalar h]
  · intro xs ih hw b hb
    cases b <;> simp only [equalsWG, equalsG]
    rename_i ys
    simp only [wf] at hw hb
    rw [wfL_iff] at hw hb
    rw [equalsWL_eq_pw, equalsLG_eq_pw,
      pw_congr xs ys (fun x hx y hy => ih x hx (hw x hx) y (hb y hy))]
  · intro ks vs ih hw b hb
    cases b <;> simp only [equalsWG, equalsG]
    rename_i ks' vs'
    simp only [wf, Bool.and_eq_true, beq_iff_eq] at hw hb
    rw [equalsWM_eq_loop, equalsLG_eq_pw]
    have hv := (wfL_iff vs).1 hw.2
    have hv' := (wfL_iff vs').1 hb.2
    exact loop_eq_canonical keyLt_strictTotal.asymm _ _ hw.1.2 hb.1.2 hw.1.1 hb.1.1
      (fun x hx y hy => ih x hx (hv x hx) y (hv' y hy))
  · intro xs ih hw b hb
    cases b <;> simp only [equalsWG, equalsG]
    rename_i ys
    simp only [wf, Bool.and_eq_true] at hw hb
    rw [equalsWS_eq_loop, equalsLG_eq_pw, ← hashKeys_length xs, ← hashKeys_length ys]
    have hv := (wfL_iff xs).1 hw.2
    have hv' := (wfL_iff ys).1 hb.2
    exact loop_eq_canonical okLt_asymm _ _ hw.1.2 hb.1.2 (hashKeys_length xs) (hashKeys_length ys)
      (fun x hx y hy => ih x hx (hv x hx) y (hv' y hy))
  · intro x hx; simp at hx
  · intro x xs h1 h2 y hy
    simp only [List.mem_cons] at hy
    rcases hy with rfl | hy
    · exact h1
    · exact h2 y hy

/-- `Map.Equals` as written, entry by entry -/
theorem equalsWG_map_iff_entries (conv : Int → F) {ks ks' : List (List Nat)} {vs vs' : List Val}
    (h : wf (.map ks vs) = true) (h' : wf (.map ks' vs') = true) :
    equalsWG conv (.map ks vs) (.map ks' vs') = true ↔
      (∀ k, k ∈ ks ↔ k ∈ ks') ∧
      (∀ k v v', lookupKV k ks vs = some v → lookupKV k ks' vs' = some v' →
        equalsWG conv v v' = true) := by
  simp only [wf, Bool.and_eq_true, beq_iff_eq] at h h'
  simp only [equalsWG]
  rw [equalsWM_eq_loop]
  exact loop_iff_entries keyLt_strictTotal.asymm _ h.1.2 h'.1.2 h.1.1 h'.1.1

theorem lookupKV_hashKeys {k : Option HashKey} {v : Val} : ∀ {xs : List Val},
    lookupKV k (hashKeys xs) xs = some v → hashKey v = k ∧ v ∈ xs
  | [], h => by simp [hashKeys, lookupKV] at h
  | x :: xs, h => by
    simp only [hashKeys, lookupKV] at h
    split at h
    · rename_i e; simp at h; subst h; exact ⟨e.symm, by simp⟩
    · have := lookupKV_hashKeys h
      exact ⟨this.1, List.mem_cons_of_mem _ this.2⟩

/-- `Set.Equals` as written: two sets are equal exactly when they have the same hash keys -/
theorem equalsWG_set_iff_keys (conv : Int → F) {xs ys : List Val}
    (h : wf (.set xs) = true) (h' : wf (.set ys) = true) :
    equalsWG conv (.set xs) (.set ys) = true ↔ ∀ k, k ∈ hashKeys xs ↔ k ∈ hashKeys ys := by
  simp only [wf, Bool.and_eq_true] at h h'
  simp only [equalsWG]
  rw [equalsWS_eq_loop, ← hashKeys_length xs, ← hashKeys_length ys,
    loop_iff_entries okLt_asymm _ h.1.2 h'.1.2 (hashKeys_length xs) (hashKeys_length ys)]
  constructor
  · exact fun hh => hh.1
  · intro hk
    refine ⟨hk, ?_⟩
    intro k v v' h1 h2
    have e1 := lookupKV_hashKeys h1
    have e2 := lookupKV_hashKeys h2
    have hv := allHashable_mem h.1.1 v e1.2
    have hv' := allHashable_mem h'.1.1 v' e2.2
    have hsc : isScalar v = true := by
      cases v <;> simp_all [hashKey, isScalar]
    rw [equalsWG_scalar hsc, ← equalsG_scalar hsc]
    have hkk : keyOf v = keyOf v' := by
      have : some (keyOf v) = some (keyOf v') := by rw [← hv, ← hv', e1.1, e2.1]
      exact Option.some.inj this
    exact ((hashKey_eq_iff conv hv hv').1 hkk).2

/-- `x in set` for a hashable probe is "the probe's hash key is one of the set's" -/
theorem contains_set_iff {ys : List Val} {x : Val} (hx : (hashKey x).isSome = true) :
    contains (.set ys) x = some true ↔ hashKey x ∈ hashKeys ys := by
  rw [hashKeys_eq_map]
  cases e : hashKey x with
  | none => rw [e] at hx; simp at hx
  | some k =>
    simp only [contains, e, Option.some.injEq, List.any_eq_true, beq_iff_eq, List.mem_map]

end Risor.C15
