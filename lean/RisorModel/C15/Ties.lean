import RisorModel.C15.Lemmas
import RisorModel.C15.Dispatch
import RisorModel.Generated.C15
/-!
C15 ties: what the extractor (`extract/c15.go`, go/ast + go/types) regenerates from object/*.go on
this run equals what the model and the theorems of `PropsD.lean` are stated over:

* the DISPATCH tables — for every object type the model covers (nil, bool, int, float, byte,
  string, error, list, map, set, byte_slice, time) the operand types its `Compare` / `Equals`
  method accepts, in source order, are `xComparableWith` / `xEqualsWith`; every other operand
  gets an error / False; the interfaces implemented (Comparable, Hashable) are the non-empty
  rows; no type outside the model accepts a model type except the listed ones;
* the `HashKey` field each hashable type fills (with the expression stored);
* the ARMS of the numeric and bool `Compare` / `Equals` methods, translated statement by
  statement to Lean definitions, equal `scalarCompare` / `scalarEquals` on that pair of types for
  EVERY conversion and every pair of values (so the side on which `float64()` is applied, the
  order of the tests and the returned constants are those of the model);
* the remaining arms (string, error, nil, list, map, set, byte_slice, time) as normalised text.
-/
namespace Risor.C15
open Risor.Generated.C15

/-! ### dispatch tables -/

/-- the row of a type in a table in model types (`[]` when the type declares no such method) -/
def rowOf (tbl : List (XTy × List (Option XTy) × String)) (t : XTy) : List (Option XTy) :=
  match tbl.find? (fun r => r.1 == t) with
  | some (_, arms, _) => arms
  | none => []

/-- `Compare` of every covered type accepts exactly the operand types of `xComparableWith`, in that order -/
theorem compare_dispatch_tie :
    allXTy.all (fun t => rowOf (modelRows compareDispatch) t == (xComparableWith t).map some) = true := by decide +kernel

/-- `Equals` of every covered type can return True exactly on the operand types of `xEqualsWith` -/
theorem equals_dispatch_tie :
    allXTy.all (fun t => rowOf (modelRows equalsDispatch) t == (xEqualsWith t).map some) = true := by decide +kernel

/-- any other operand: `Compare` returns an error, `Equals` returns False -/
theorem dispatch_default_tie :
    (modelRows compareDispatch).all (fun r => r.2.2 == "error") = true ∧
    (modelRows equalsDispatch).all (fun r => r.2.2 == "False") = true := by decide +kernel

/-- the only types outside the model whose `Compare` / `Equals` accepts a type of the model:
    `Buffer.Compare` (string, byte_slice) and `FileMode` (int) -/
theorem foreign_rows_tie :
    foreignRows compareDispatch = [("Buffer", ["String", "ByteSlice"]), ("FileMode", ["Int"])] ∧
    foreignRows equalsDispatch = [("FileMode", ["Int"])] := by decide +kernel

/-- ALL pairs (A, B) of the real tables where A accepts B but B does not accept A.  For `Equals`
    these are the pairs on which `==` can be asymmetric (finding `C15-eq-asymmetric-cross-type`):
    a new one-sided arm anywhere in package object changes this list. -/
theorem asymmetric_pairs_tie :
    asymmetricPairs compareDispatch =
      [("Buffer", "String"), ("Buffer", "ByteSlice"), ("ByteSlice", "String"), ("FileMode", "Int")] ∧
    asymmetricPairs equalsDispatch = [("ByteSlice", "String"), ("FileMode", "Int")] := by decide +kernel

/-- the covered types that implement `Comparable` / `Hashable` are those with a non-empty
    `xComparableWith` row / a `xHashField` -/
theorem interfaces_tie :
    (objectTypes.filterMap fun (n, c, h, e) => (goTy n).map fun t => (t, c, h, e)).all
      (fun (t, c, h, e) => c == !(xComparableWith t).isEmpty && h == (xHashField t).isSome && e) = true ∧
    allXTy.all (fun t => objectTypes.any fun (n, _) => goTy n == some t) = true := by decide +kernel

/-- every `HashKey` method of package object: the one field it fills and the value stored -/
theorem hash_fields_tie : hashFields =
    [("Bool", [("IntValue", "var value int64 ; if x { value = 1 } else { value = 0 } ; value")]),
     ("Byte", [("IntValue", "int64(x)")]),
     ("ByteSlice", [("StrValue", "string(x)")]),
     ("Float", [("FltValue", "x")]),
     ("Int", [("IntValue", "x")]),
     ("NilType", []),
     ("String", [("StrValue", "x")])] := rfl

def fieldName : HField → List String
  | .none => []
  | .int => ["IntValue"]
  | .flt => ["FltValue"]
  | .str => ["StrValue"]

/-- the field named by `xHashField` is the field the code fills, for every hashable covered type -/
theorem hash_field_table_tie :
    hashFields.all (fun (n, fs) =>
      match goTy n with
      | some t => (xHashField t).map fieldName == some (fs.map (·.1))
      | none => false) = true := by decide +kernel

/-! ### translated arms -/

theorem F.gt_iff (a b : F) : (a > b) ↔ cmpF b a = -1 := Iff.rfl

/- In each translated arm `==` is "the comparison is 0" and `>` is "it is 1"; the comparison takes one
   of its three values. -/

theorem cmp3Int (a b : Int) :
    (if (a == b) = true then some (0:Int) else if decide (a > b) = true then some 1 else some (-1)) = some (cmpInt a b) := by
  simp only [beq_iff_eq, decide_eq_true_eq, ← cmpInt_eq_zero (a := a), ← cmpInt_gt (a := a)]
  rcases cmpInt_range a b with e | e | e <;> rw [e] <;> rfl

theorem cmp3Nat (a b : Nat) :
    (if (a == b) = true then some (0:Int) else if decide (a > b) = true then some 1 else some (-1))
      = some (cmpInt (Int.ofNat a) (Int.ofNat b)) := by
  rw [← cmp3Int (Int.ofNat a) (Int.ofNat b)]
  simp only [beq_iff_eq, decide_eq_true_eq, gt_iff_lt, Int.ofNat_eq_natCast, Int.natCast_inj, Int.ofNat_lt]

theorem cmp3F (a b : F) :
    (if (a == b) = true then some (0:Int) else if decide (a > b) = true then some 1 else some (-1)) = some (cmpF a b) := by
  simp only [beq_iff_eq, decide_eq_true_eq, F.gt_iff, ← cmpF_cmp3.eq_zero (a := a), cmpF_cmp3.antisymm a b]
  rcases cmpF_cmp3.range a b with e | e | e <;> rw [e] <;> rfl

theorem beqF (a b : F) : (a == b) = (cmpF a b == 0) := by
  rw [Bool.eq_iff_iff, beq_iff_eq, beq_iff_eq, cmpF_cmp3.eq_zero]

/-- the ten translated `Compare` arms of Int, Float, Byte and Bool ARE `scalarCompare` on those
    types: for every int→float conversion and all operand values -/
theorem compare_arms_tie (conv : Int → F) :
    (∀ x y, Int_Compare_Int conv x y = scalarCompare conv (.int x) (.int y)) ∧
    (∀ x y, Int_Compare_Float conv x y = scalarCompare conv (.int x) (.float y)) ∧
    (∀ x y, Int_Compare_Byte conv x y = scalarCompare conv (.int x) (.byte y)) ∧
    (∀ x y, Float_Compare_Float conv x y = scalarCompare conv (.float x) (.float y)) ∧
    (∀ x y, Float_Compare_Int conv x y = scalarCompare conv (.float x) (.int y)) ∧
    (∀ x y, Float_Compare_Byte conv x y = scalarCompare conv (.float x) (.byte y)) ∧
    (∀ x y, Byte_Compare_Byte conv x y = scalarCompare conv (.byte x) (.byte y)) ∧
    (∀ x y, Byte_Compare_Int conv x y = scalarCompare conv (.byte x) (.int y)) ∧
    (∀ x y, Byte_Compare_Float conv x y = scalarCompare conv (.byte x) (.float y)) ∧
    (∀ x y, Bool_Compare_Bool conv x y = scalarCompare conv (.bool x) (.bool y)) := by
  refine ⟨fun x y => cmp3Int x y, fun x y => cmp3F (conv x) y, fun x y => cmp3Int x (Int.ofNat y),
    fun x y => cmp3F x y, fun x y => cmp3F x (conv y), fun x y => cmp3F x (conv (Int.ofNat y)),
    fun x y => cmp3Nat x y, fun x y => cmp3Int (Int.ofNat x) y, fun x y => cmp3F (conv (Int.ofNat x)) y, ?_⟩
  intro x y; cases x <;> cases y <;> rfl

/-- the ten translated `Equals` conditions ARE `scalarEquals` on those types -/
theorem equals_arms_tie (conv : Int → F) :
    (∀ x y, Int_Equals_Int conv x y = scalarEquals conv (.int x) (.int y)) ∧
    (∀ x y, Int_Equals_Float conv x y = scalarEquals conv (.int x) (.float y)) ∧
    (∀ x y, Int_Equals_Byte conv x y = scalarEquals conv (.int x) (.byte y)) ∧
    (∀ x y, Float_Equals_Float conv x y = scalarEquals conv (.float x) (.float y)) ∧
    (∀ x y, Float_Equals_Int conv x y = scalarEquals conv (.float x) (.int y)) ∧
    (∀ x y, Float_Equals_Byte conv x y = scalarEquals conv (.float x) (.byte y)) ∧
    (∀ x y, Byte_Equals_Byte conv x y = scalarEquals conv (.byte x) (.byte y)) ∧
    (∀ x y, Byte_Equals_Int conv x y = scalarEquals conv (.byte x) (.int y)) ∧
    (∀ x y, Byte_Equals_Float conv x y = scalarEquals conv (.byte x) (.float y)) ∧
    (∀ x y, Bool_Equals_Bool conv x y = scalarEquals conv (.bool x) (.bool y)) :=
  ⟨fun _ _ => rfl, fun x y => beqF (conv x) y, fun _ _ => rfl, fun x y => beqF x y,
   fun x y => beqF x (conv y), fun x y => beqF x (conv (Int.ofNat y)), fun _ _ => rfl, fun _ _ => rfl,
   fun x y => beqF (conv (Int.ofNat x)) y, fun _ _ => rfl⟩

/-! ### the arms that are not translated, as normalised text -/

def textReceivers : List String := ["String", "Error", "NilType", "List", "Map", "Set", "ByteSlice", "Time"]

/-- the `Compare` arms of string, error, nil, list, byte_slice and time as they are in the source on
    this run: the reviewed text that `cmpBytes`, `errCmp`, `compareG`/`compareLG`, `timeCmp` model -/
theorem compare_shapes_tie : compareShapes.filter (fun r => textReceivers.contains r.1) = [
  ("ByteSlice", "ByteSlice", "return bytes.Compare(x, y), nil"),
  ("ByteSlice", "String", "return bytes.Compare(x, []byte(y)), nil"),
  ("Error", "Error", "thisMsg := X.Message().Value() ; otherMsg := Y.Message().Value() ; if thisMsg == otherMsg && X.raised == Y.raised { return 0, nil } ; if thisMsg > otherMsg { return 1, nil } ; if thisMsg < otherMsg { return -1, nil } ; if X.raised && !Y.raised { return 1, nil } ; if !X.raised && Y.raised { return -1, nil } ; return 0, nil"),
  ("List", "List", "if len(X.items) > len(Y.items) { return 1, nil } else if len(ls.items) < len(otherList.items) { return -1, nil } ; for i := 0; i < len(ls.items); i++ { comparable, ok := ls.items[i].(Comparable) if !ok { return 0, errz.TypeErrorf(\"type error: %s object is not comparable\", ls.items[i].Type()) } comp, err := comparable.Compare(otherList.items[i]) if err != nil { return 0, err } if comp != 0 { return comp, nil } } ; return 0, nil"),
  ("NilType", "NilType", "return 0, nil"),
  ("String", "String", "if x == y { return 0, nil } ; if x > y { return 1, nil } ; return -1, nil"),
  ("Time", "Time", "if x == y { return 0, nil } ; if x.After(y) { return 1, nil } ; return -1, nil")] := by rfl

/-- the `Equals` arms of string, error, nil, list, map, set, byte_slice and time (the loops of
    List/Map/Set.Equals are what `equalsWG/L/M/S` follow) -/
theorem equals_shapes_tie : equalsShapes.filter (fun r => textReceivers.contains r.1) = [
  ("ByteSlice", "ByteSlice", "cmp := bytes.Compare(x, y) ; if cmp == 0 { return True } ; return False ; return False"),
  ("ByteSlice", "String", "cmp := bytes.Compare(x, []byte(y)) ; if cmp == 0 { return True } ; return False ; return False"),
  ("Error", "Error", "if X.Message().Value() == Y.Message().Value() && X.raised == Y.raised { return True } ; return False"),
  ("List", "List", "otherList := Y.(*List) ; if len(X.items) != len(otherList.items) { return False } ; for i, v := range ls.items { otherV := otherList.items[i] if !Equals(v, otherV) { return False } } ; return True"),
  ("Map", "Map", "otherMap := Y.(*Map) ; if len(X.items) != len(otherMap.items) { return False } ; for k, v := range m.items { otherValue, found := otherMap.items[k] if !found { return False } if !v.Equals(otherValue).(*Bool).value { return False } } ; return True"),
  ("NilType", "NilType", "if Y.Type() == NIL { return True } ; return False"),
  ("Set", "Set", "otherSet := Y.(*Set) ; if len(X.items) != len(otherSet.items) { return False } ; for k, v := range s.items { if otherV, ok := otherSet.items[k]; !ok || !v.Equals(otherV).(*Bool).value { return False } } ; return True"),
  ("String", "String", "if Y.Type() == STRING && x == y { return True } ; return False"),
  ("Time", "Time", "if Y.Type() == TIME && x == y { return True } ; return False")] := by rfl


end Risor.C15
