import RisorModel.C17.Lemmas
/-!
C17 — property theorems.  Serialised bytecode behaves exactly like the code it was made from.

Everything is for ALL programs `p : Prog` (any number of code objects, any nesting of
functions, any constants, any symbol-table tree).  `WF p` collects what `compile` guarantees
of the tree it returns (unique code ids, Flatten order, parents before children, unique
function ids, every function constant linked to the code that names it, every code's symbol
table present in the table tree).  `WF` is a hypothesis here: it is evaluated by the oracle
on every real compiled tree of the correspondence run (a tree that fails it is reported),
and `FragWFProps.lean` proves it of the fragment models of `compile` (`frag_compile_wf`,
`fun_compile_wf`).  `CompileNames p` is a hypothesis evaluated in the same way (the compiler's
naming discipline: a code object carries a name exactly when it is a named function), under
which the second guard is exactly "a function called `__main__`" (section "names, `isNamed`
and the call frame").
-/
namespace Risor.C17

/-! ## the first and the second loop of `codeFromState` undo `stateFromCode` -/

/-- **What `codeFromState ∘ stateFromCode` computes (Impl, no JSON involved)**: for every
    well-formed program the flat state is rebuilt into the same tree — same nodes, same
    parent links, same function↔code links, same symbol tables — except that `isNamed` is
    recomputed from the name (`renamed`). -/
theorem codeFromState_stateFromCode (p : Prog) (hwf : WF p) :
    codeFromState (stateFromCode p) = .ok { nodes := p.nodes.map renamed, table := p.table } := by
  obtain ⟨hne, hord, hids, hidne, hpar, htab, hfn, hfid, hlink, hfound⟩ := hwf
  rw [stateFromCode_eq p hord]
  unfold codeFromState
  have hb := build_image p.table p.nodes hids hidne htab p.nodes [] (by simp) (by simpa using hpar)
  simp only [List.map_nil] at hb
  simp only [hb]
  have hne2 : (p.nodes.map bnode).isEmpty = false := by
    cases hn : p.nodes with
    | nil => exact absurd hn hne
    | cons a l => rfl
  rw [hne2]
  simp only [Bool.false_eq_true, ↓reduceIte]
  rw [missingFn_bnode p.nodes hfound]
  simp only
  have hl : ∀ n ∈ p.nodes, ∀ f code, Const.fn f code ∈ n.consts →
      linkOf (p.nodes.map bnode) f.id = code := by
    intro n hn f code hm
    exact linkOf_bnode p.nodes hfid f code (hlink n hn _ hm)
  rw [relinkNodes_bnode (linkOf (p.nodes.map bnode)) p.nodes hfn hl]

/-! ## the property, under the two guards -/

/-- **Round trip.**  For every well-formed program whose strings are valid UTF-8 and that has
    no function called `__main__`, unmarshalling the marshalled code succeeds and yields the
    SAME program: every node, constant (value and type), name, instruction array, parent
    link, function↔code link and symbol table. -/
theorem C17_partial_roundtrip (p : Prog) (hwf : WF p) (hn : NamedConsistent p = true)
    (hu : ValidUtf8Consts p = true) : unmarshal (marshal p) = .ok p := by
  unfold unmarshal marshal
  rw [json_trip_valid _ hu, codeFromState_stateFromCode p hwf, renamed_self _ hn]

/-- **Execution reads the same thing** (`roundtrip_execView`): under the same hypotheses the
    reloaded code has the same execution view — instructions, constants with their types,
    attribute names, locals counts, global names, `IsNamed`, source text, Root() and the code
    each function runs. -/
theorem C17_partial_roundtrip_execView (p : Prog) (hwf : WF p) (hn : NamedConsistent p = true)
    (hu : ValidUtf8Consts p = true) :
    ∃ q, unmarshal (marshal p) = .ok q ∧ execView q = execView p :=
  ⟨p, C17_partial_roundtrip p hwf hn hu, rfl⟩

/-- **Same behaviour**: whatever the VM computes from what it reads —
    any function `run` of the execution view: result, output, error — it computes the same
    from the reloaded code.  (That the real VM is such a function of exactly this view is the
    modelling assumption checked by the side-by-side runs of the harness.) -/
theorem C17_partial_run_congr {Outcome : Type} (run : View → Outcome) (p : Prog) (hwf : WF p)
    (hn : NamedConsistent p = true) (hu : ValidUtf8Consts p = true) :
    ∃ q, unmarshal (marshal p) = .ok q ∧ run (execView q) = run (execView p) :=
  ⟨p, C17_partial_roundtrip p hwf hn hu, rfl⟩

/-- **Marshalling the reloaded code reproduces the same bytes** (`marshal_stable`). -/
theorem C17_partial_marshal_stable (p : Prog) (hwf : WF p) (hn : NamedConsistent p = true)
    (hu : ValidUtf8Consts p = true) :
    ∃ q, unmarshal (marshal p) = .ok q ∧ marshal q = marshal p :=
  ⟨p, C17_partial_roundtrip p hwf hn hu, rfl⟩

/-- **Unmarshalling what the marshaller produced never fails** (`unmarshal_total_on_image`):
    for every well-formed program with valid UTF-8 strings — functions called `__main__`
    included — `unmarshal (marshal p)` is `ok`, and the result is the program with `isNamed`
    recomputed from the names. -/
theorem C17_unmarshal_total_on_image (p : Prog) (hwf : WF p) (hu : ValidUtf8Consts p = true) :
    unmarshal (marshal p) = .ok { nodes := p.nodes.map renamed, table := p.table } := by
  unfold unmarshal marshal
  rw [json_trip_valid _ hu, codeFromState_stateFromCode p hwf]

/-- **What `UnmarshalCode ∘ MarshalCode` computes for EVERY program (Impl, guards dropped).**
    Let `p' = p.mapStr sanitize` be the program with every string sent through JSON once
    (bytes that are not valid UTF-8 become U+FFFD).  Whenever `p'` is well-formed — in
    particular for every compiled program, whose ids are ASCII — the reload succeeds and
    yields exactly `p'` with `isNamed` recomputed from the names.  The two known defects are
    the two ways in which this result can differ from `p`. -/
theorem C17_reload_characterised (p : Prog) (hwf : WF (p.mapStr sanitize)) :
    unmarshal (marshal p) =
      .ok { nodes := (p.mapStr sanitize).nodes.map renamed, table := (p.mapStr sanitize).table } := by
  unfold unmarshal marshal
  rw [json_trip, ← stateFromCode_mapStr sanitize sanitize_nil p]
  exact codeFromState_stateFromCode _ hwf

/-- **Unmarshalling what the marshaller produced never fails, invalid UTF-8 constants
    included**: no guard on constants, names or source text; only the sanitised program must
    be well-formed (ids that are valid UTF-8 stay distinct). -/
theorem C17_unmarshal_total_on_image_any_strings (p : Prog) (hwf : WF (p.mapStr sanitize)) :
    ∃ q, unmarshal (marshal p) = .ok q :=
  ⟨_, C17_reload_characterised p hwf⟩

/-- **Marshalling is deterministic** as far as the model can say it: the marshalled state is
    a function of the nodes in Flatten order and of the table with `symbols_by_name` in key
    order; it does not depend on `isNamed`, on the function↔code pointers (only on the ids)
    or on anything else of the program.  (Go map iteration order cannot enter: the only map,
    `symbolsByName`, is copied into a map and written by `encoding/json` in key order.) -/
theorem C17_marshal_depends_on_serialised_fields (p q : Prog)
    (hn : p.nodes.map (defOf p.nodes) = q.nodes.map (defOf q.nodes))
    (hl : p.nodes.length = q.nodes.length)
    (ho : flattenOrder p.nodes = flattenOrder q.nodes)
    (hp : flattenOrder p.nodes = List.range p.nodes.length)
    (ht : p.table = q.table) : marshal p = marshal q := by
  unfold marshal
  rw [stateFromCode_eq p hp, stateFromCode_eq q (by rw [← ho, hp, hl]), hn, ht]

/-- **Go's map iteration order cannot influence the marshalled bytes.**  The only `range`
    over a map on the marshalling path copies `symbolsByName` into a fresh map keyed by the
    symbols' names; for any two iteration orders of the same entries (names pairwise
    distinct, as in every symbol table) the resulting map is the same, and `encoding/json`
    writes a map as a function of its contents (keys sorted). -/
theorem C17_marshal_map_order_independent (o1 o2 : List Sym) (hperm : o1.Perm o2)
    (hnd : (o1.map (·.name)).Nodup) : goMapOf o1 = goMapOf o2 := by
  funext k
  have hnd2 : (o2.map (·.name)).Nodup := (hperm.map _).nodup_iff.mp hnd
  by_cases h : ∃ s ∈ o1, s.name = k
  · obtain ⟨s, hs, rfl⟩ := h
    rw [goMapOf_eq_of_mem o1 hnd s hs, goMapOf_eq_of_mem o2 hnd2 s (hperm.mem_iff.mp hs)]
  · have h1 : ∀ s ∈ o1, s.name ≠ k := fun s hs hk => h ⟨s, hs, hk⟩
    have h2 : ∀ s ∈ o2, s.name ≠ k := fun s hs => h1 s (hperm.mem_iff.mpr hs)
    rw [goMapOf_none o1 k h1, goMapOf_none o2 k h2]

/-- the executable Spec the harness evaluates through the oracle holds under the guards -/
theorem C17_partial_specOK (p : Prog) (hwf : WF p) (hn : NamedConsistent p = true)
    (hu : ValidUtf8Consts p = true) : specOK p = true := by
  unfold specOK
  rw [C17_partial_roundtrip p hwf hn hu]
  simp [State.beq, Table.beq_refl]

/-! ## the full statement, and why it is false of the unchanged code -/

/-- The property as written: for every compiled (well-formed) program the reload succeeds,
    execution reads the same thing, and re-marshalling gives the same bytes. -/
def C17_full : Prop :=
  ∀ p : Prog, WF p → ∃ q, unmarshal (marshal p) = .ok q ∧ execView q = execView p ∧ marshal q = marshal p

def emptyRoot : Table := .mk [114, 111, 111, 116] [] [] [] false []      -- "root"

/-- `"\377"`: one code object whose only constant is the one-byte string FF -/
def cexUtf8 : Prog :=
  { nodes := [{ id := mainName, name := mainName, isNamed := false, parent := none, functionID := [],
                tableID := [114, 111, 111, 116], instrs := [24, 0], consts := [.basic (.str [255])],
                names := [], source := [34, 92, 120, 102, 102, 34] }],
    table := emptyRoot }

/-- the same program after the reload: the constant has become U+FFFD (EF BF BD) -/
def cexUtf8Reloaded : Prog :=
  { cexUtf8 with nodes := cexUtf8.nodes.map fun n => { n with consts := [.basic (.str [239, 191, 189])] } }

/-- non-vacuity of the refutation -/
theorem cexUtf8_wf : WF cexUtf8 := by decide +kernel

/-- what the Impl model computes for the witness (the harness replays `"\377"` on the real code) -/
theorem cexUtf8_reload : unmarshal (marshal cexUtf8) = .ok cexUtf8Reloaded := by rfl

/-- **Known defect (invalid UTF-8 constant).**  The unchanged code violates the property: the
    string constant `"\377"` (one byte, FF) comes back as U+FFFD (three bytes), so execution
    reads a different constant. -/
theorem C17_counterexample_invalid_utf8 : ¬ C17_full := by
  intro h
  obtain ⟨q, hq, hv, _⟩ := h cexUtf8 cexUtf8_wf
  rw [cexUtf8_reload] at hq
  injection hq with hq
  subst hq
  revert hv
  decide +kernel

/-- ... and the bytes of a second marshalling differ from the first (the `\ufffd` escape against
    the three raw bytes) -/
theorem C17_counterexample_invalid_utf8_bytes :
    (marshal cexUtf8Reloaded).code ≠ (marshal cexUtf8).code := by decide +kernel

/-- the witness lies outside the first guard and inside the second -/
theorem C17_counterexample_invalid_utf8_guard :
    ValidUtf8Consts cexUtf8 = false ∧ NamedConsistent cexUtf8 = true := by decide +kernel

/-- `func __main__(n) { … __main__(n-1) … }`: a root and one function whose name is `__main__`;
    the compiler marks it named (its own name is local slot 1) -/
def cexMain : Prog :=
  { nodes := [
      { id := mainName, name := mainName, isNamed := false, parent := none, functionID := [],
        tableID := [114], instrs := [], consts := [.fn ⟨[49], mainName, [[110]], [.nil]⟩ (some 1)],
        names := [], source := [] },
      { id := mainName ++ [46, 48], name := mainName, isNamed := true, parent := some 0, functionID := [49],
        tableID := [114, 46, 48], instrs := [], consts := [], names := [], source := [] }],
    table := .mk [114] [⟨mainName, 0, true⟩] [(mainName, ⟨mainName, 0, true⟩)] [] false
      [.mk [114, 46, 48] [⟨[110], 0, false⟩, ⟨mainName, 1, true⟩]
        [(mainName, ⟨mainName, 1, true⟩), ([110], ⟨[110], 0, false⟩)] [] false []] }

theorem cexMain_wf : WF cexMain := by decide +kernel

/-- **New defect (function called `__main__`).**  `codeFromState` recomputes `isNamed` as
    `name != "" && name != "__main__"`, so a function whose name is `__main__` is reloaded as
    unnamed: the VM no longer stores the function in the local slot the body reads for the
    recursive call.  All strings are valid UTF-8 here. -/
theorem C17_counterexample_func_named_main :
    ValidUtf8Consts cexMain = true ∧
    ∃ q, unmarshal (marshal cexMain) = .ok q ∧ execView q ≠ execView cexMain := by
  refine ⟨by decide +kernel, _, C17_unmarshal_total_on_image cexMain cexMain_wf (by decide +kernel), ?_⟩
  decide +kernel

/-- The property restricted to programs whose strings are all valid UTF-8 (the first
    finding's guard alone) -/
def C17_full_valid_utf8 : Prop :=
  ∀ p : Prog, WF p → ValidUtf8Consts p = true →
    ∃ q, unmarshal (marshal p) = .ok q ∧ execView q = execView p ∧ marshal q = marshal p

/-- ... is still false: the function called `__main__` refutes it, so the second guard is
    needed as well -/
theorem C17_counterexample_func_named_main_full : ¬ C17_full_valid_utf8 := by
  intro h
  obtain ⟨q, hq, hv, _⟩ := h cexMain cexMain_wf (by decide +kernel)
  rw [C17_unmarshal_total_on_image cexMain cexMain_wf (by decide +kernel)] at hq
  injection hq with hq
  subst hq
  revert hv
  decide +kernel

/-- the witness lies outside the second guard -/
theorem C17_counterexample_func_named_main_guard :
    NamedConsistent cexMain = false := by decide +kernel

/-- both guards are needed and nothing else: the full statement restricted to the guards -/
theorem C17_partial (p : Prog) (hwf : WF p) (hn : NamedConsistent p = true)
    (hu : ValidUtf8Consts p = true) :
    ∃ q, unmarshal (marshal p) = .ok q ∧ execView q = execView p ∧ marshal q = marshal p :=
  ⟨p, C17_partial_roundtrip p hwf hn hu, rfl, rfl⟩

/-! ## names, `isNamed` and the call frame: the second guard made exact

`isNamed` is not serialised; `codeFromState` recomputes it from the name.  The guard
`NamedConsistent` ("`isNamed` is what would be recomputed") is therefore what the round trip
needs — but it is coarser than the recorded finding: it also excludes trees in which a code
object carries a name WITHOUT being a named function (`labelled`), which the compiler never
builds.  `CompileNames` states the compiler's naming discipline (root = `__main__`, every
other code object named exactly when it is a named function, with the function's own name;
evaluated on every compiled tree, source tie `codeNameWrites_tie`).  Under it the guard is
exactly "no function is called `__main__`" — and without it the property is false although no
function is called `__main__`: a label on an anonymous function makes the reloaded code
named, and the VM then writes the function object past the frame's locals. -/

/-- **The three ways a code object can be outside the second guard**: a named function called
    `__main__` (the recorded finding), a name on something that is not a named function, or a
    named function without a name. -/
theorem namedOK_false_iff (n : Node) :
    namedOK n = false ↔ (mainFn n = true ∨ labelled n = true ∨ (n.isNamed = true ∧ n.name = [])) := by
  unfold namedOK mainFn labelled
  by_cases h1 : n.name = [] <;> by_cases h2 : n.name = mainName <;> cases hn : n.isNamed <;>
    simp_all [mainName_ne_nil, bne]

/-- **On compiled code the second guard is exact**: for every program that obeys the
    compiler's naming discipline, `NamedConsistent` fails exactly when some function is called
    `__main__` — the guard of finding C17-func-named-main excludes nothing else. -/
theorem compileNames_guard_exact (p : Prog) (hc : CompileNames p = true) :
    NamedConsistent p = !HasMainFn p := by
  unfold CompileNames at hc
  simp only [Bool.and_eq_true, List.all_eq_true] at hc
  exact all_namedOK_of_nameOK p.nodes hc.1

/-- **The property for compiled programs**: every well-formed program that obeys the compiler's
    naming discipline, has valid UTF-8 strings and no function called `__main__` reloads into
    code with the same execution view and the same bytes — whatever its functions are bound
    to (`f := func…`, `const f = func…`, arguments, results, containers). -/
theorem C17_partial_compiled (p : Prog) (hwf : WF p) (hc : CompileNames p = true)
    (hm : HasMainFn p = false) (hu : ValidUtf8Consts p = true) :
    ∃ q, unmarshal (marshal p) = .ok q ∧ execView q = execView p ∧ marshal q = marshal p :=
  C17_partial p hwf (by rw [compileNames_guard_exact p hc, hm]; rfl) hu

/-- The property with the second guard replaced by the finding's words alone ("no function is
    called `__main__`"), WITHOUT the compiler's naming discipline -/
def C17_full_no_main_fn : Prop :=
  ∀ p : Prog, WF p → ValidUtf8Consts p = true → HasMainFn p = false →
    ∃ q, unmarshal (marshal p) = .ok q ∧ execView q = execView p ∧ marshal q = marshal p

/-- `f := func() { … }; f()` as a compiler that labels the anonymous function's code object
    with the variable's name would build it: root, and an UNNAMED code object whose name is
    `f`; the function constant itself has no name and its table has no slot for one -/
def cexLabel : Prog :=
  { nodes := [
      { id := mainName, name := mainName, isNamed := false, parent := none, functionID := [],
        tableID := [114], instrs := [], consts := [.fn ⟨[49], [], [], []⟩ (some 1)], names := [], source := [] },
      { id := mainName ++ [46, 48], name := [102], isNamed := false, parent := some 0, functionID := [49],
        tableID := [114, 46, 48], instrs := [], consts := [], names := [], source := [] }],
    table := .mk [114] [⟨[102], 0, false⟩] [([102], ⟨[102], 0, false⟩)] [] false
      [.mk [114, 46, 48] [] [] [] false []] }

theorem cexLabel_wf : WF cexLabel := by decide +kernel

/-- **The naming discipline is needed**: without it the statement is false even though every
    string is valid UTF-8 and no function is called `__main__` — the label comes back as the
    name of a named function (`execView` differs in `isNamed`). -/
theorem C17_counterexample_labelled_unnamed : ¬ C17_full_no_main_fn := by
  intro h
  obtain ⟨q, hq, hv, _⟩ := h cexLabel cexLabel_wf (by decide +kernel) (by decide +kernel)
  rw [C17_unmarshal_total_on_image cexLabel cexLabel_wf (by decide +kernel)] at hq
  injection hq with hq
  subst hq
  revert hv
  decide +kernel

/-- where the witness lies: outside the naming discipline and the coarse guard, not a
    `__main__` function; its frames fit before the reload and not after -/
theorem C17_counterexample_labelled_unnamed_guard :
    CompileNames cexLabel = false ∧ NamedConsistent cexLabel = false ∧ HasMainFn cexLabel = false
    ∧ FramesFit cexLabel = true ∧ FramesFit (reloadOf cexLabel) = false := by decide +kernel

/-- **`IsNamed()` after a reload is a function of the name alone**, for every well-formed
    program with valid strings and every code object of it. -/
theorem reload_isNamed_from_name (p : Prog) (hwf : WF p) (hu : ValidUtf8Consts p = true) :
    ∃ q, unmarshal (marshal p) = .ok q ∧
      ∀ (i : Nat) (n : Node), p.nodes[i]? = some n →
        (q.nodes[i]?).map Node.isNamed = some (n.name != [] && n.name != mainName) := by
  refine ⟨_, C17_unmarshal_total_on_image p hwf hu, ?_⟩
  intro i n h
  simp [List.getElem?_map, h, renamed]

/-- **No reloaded compiled program is written past a frame.**  For every well-formed program
    with valid strings that obeys the naming discipline — functions called `__main__`
    included — if every function of the compiled code can be called inside its frame
    (`FramesFit`: parameters, plus the function itself when named, fit the code's local
    slots), so can every function of the reloaded code. -/
theorem C17_reload_frames_fit (p : Prog) (hwf : WF p) (hu : ValidUtf8Consts p = true)
    (hc : CompileNames p = true) (hf : FramesFit p = true) :
    ∃ q, unmarshal (marshal p) = .ok q ∧ FramesFit q = true := by
  refine ⟨_, C17_unmarshal_total_on_image p hwf hu, ?_⟩
  unfold CompileNames at hc
  simp only [Bool.and_eq_true, List.all_eq_true] at hc
  exact frames_fit_reloadOf p (fun n hn => nameOK_not_labelled n (hc.1 n hn)) hf

/-- **What a label does** (Impl, any program): if a function constant is linked to an unnamed
    code object that carries a name other than `__main__`, and that code has exactly as many
    local slots as the function has parameters (it declares nothing of its own), then the
    reload succeeds and the reloaded program no longer fits its frames: a call writes the
    function object into slot `len(params)` of `len(params)` slots. -/
theorem C17_reload_frame_overflow (p : Prog) (hwf : WF p) (hu : ValidUtf8Consts p = true)
    (n m : Node) (f : FuncDef) (j : Nat) (t : Table)
    (hn : n ∈ p.nodes) (hc : Const.fn f (some j) ∈ n.consts) (hm : p.nodes[j]? = some m)
    (hl : labelled m = true) (ht : findTable p.table m.tableID = some t)
    (hs : t.symbols.length = f.params.length) :
    ∃ q, unmarshal (marshal p) = .ok q ∧ FramesFit q = false :=
  ⟨_, C17_unmarshal_total_on_image p hwf hu, frames_overflow_of_labelled p n m f j t hn hc hm hl ht hs⟩

/-! ## sessions: a result, once returned, is not changed by any later call

`run s ops` is a history of `MarshalCode` / `UnmarshalCode` calls of ANY length over a store
of code objects and retained byte strings (Model.lean, "sessions").  The theorems below say
that the results a caller keeps are values: whatever is called afterwards, each of them stays
what the same call, made alone, returns.  For the pure functions of the model this is true by
construction of `run`; it is stated and proved so that it is a CHECKED tie and not a silent
assumption: the harness runs real sessions and compares every retained real result, at the
END of the session, with `(run s ops).2` — which by these theorems is the single-call result.
A `MarshalCode` that hands out a pooled buffer, or an `UnmarshalCode` whose objects share
state with a later call, breaks that correspondence. -/

/-- **The store only grows**: after a session of any length every code object and every byte
    string the store held before is still there, at the same position, unchanged. -/
theorem session_store_append_only (s : Store) (ops : List Op) :
    ∃ cs bs, (run s ops).1.codes = s.codes ++ cs ∧ (run s ops).1.blobs = s.blobs ++ bs := by
  obtain ⟨⟨cs, hc⟩, ⟨bs, hb⟩⟩ := run_extends ops s
  exact ⟨cs, bs, hc, hb⟩

theorem session_one_result_per_call (s : Store) (ops : List Op) :
    (run s ops).2.length = ops.length := run_length ops s

/-- **What call number `k` returned** is the operation evaluated, alone, on the store as it
    was when the call was made (after the first `k` calls) — for every session, every `k`. -/
theorem session_result_at_call (s : Store) (ops : List Op) (k : Nat) (op : Op)
    (h : ops[k]? = some op) :
    (run s ops).2[k]? = some (op.eval (run s (ops.take k)).1) :=
  run_result_at ops s k op h

/-- **Results are independent of the rest of the session** (`session_results_independent`).
    For every session `ops` of any length from any store `s`, every call `k` of it and the
    result `r` it returned: performing the same operation ALONE at the end of the session —
    after every later call has been made — returns the same `r`; and so does performing it
    alone on the store as it was before call `k` (no earlier call matters beyond providing the
    operand). -/
theorem session_results_independent (s : Store) (ops : List Op) (k : Nat) (op : Op) (r : Res)
    (h : ops[k]? = some op) (hr : (run s ops).2[k]? = some (some r)) :
    op.eval (run s ops).1 = some r
    ∧ (run (run s ops).1 [op]).2 = [some r]
    ∧ (run (run s (ops.take k)).1 [op]).2 = [some r] := by
  rw [run_result_at ops s k op h] at hr
  simp only [Option.some.injEq] at hr
  have hext : (run s ops).1.Extends (run s (ops.take k)).1 := by
    rw [run_split ops s k op h]
    exact (run_extends _ _).trans (Store.retain_extends _ _)
  have hfin := Op.eval_mono hext op r hr
  refine ⟨hfin, ?_, ?_⟩
  · rw [run_cons, run_nil, hfin]
  · rw [run_cons, run_nil, hr]

/-- the single-call form: a `marshal` inside a session returns `marshal p` of the code object
    `p` it was given, an `unmarshal` returns `unmarshal w` of the bytes it was given -/
theorem session_marshal_alone (s : Store) (ops : List Op) (k i : Nat) (p : Prog)
    (h : ops[k]? = some (.marshal i)) (hp : (run s (ops.take k)).1.codes[i]? = some p) :
    (run s ops).2[k]? = some (some (.bytes (marshal p))) := by
  rw [run_result_at ops s k _ h]
  simp [Op.eval, hp]

theorem session_unmarshal_alone (s : Store) (ops : List Op) (k j : Nat) (w : State)
    (h : ops[k]? = some (.unmarshal j)) (hw : (run s (ops.take k)).1.blobs[j]? = some w) :
    (run s ops).2[k]? = some (some (match unmarshal w with
      | .ok q => Res.code q
      | .error e => Res.failed e)) := by
  rw [run_result_at ops s k _ h]
  simp only [Op.eval, hw, Option.map_some]
  cases unmarshal w <;> rfl

/-- **Reading a retained result back at the END of the session gives what the call returned**:
    the bytes returned by call `k` are, after all later calls, still the bytes at the position
    they were retained at, and likewise for a returned code object.  (This is the comparison
    the harness makes on the real code: a private copy taken immediately against the retained
    slice at the end, and the retained tree against the model's.) -/
theorem session_retained_read_back (s : Store) (ops : List Op) (k : Nat) (op : Op) (r : Res)
    (h : ops[k]? = some op) (hr : (run s ops).2[k]? = some (some r)) :
    (run s ops).1.readBack ((run s (ops.take k)).1.slot op) r = some r := by
  rw [run_result_at ops s k op h] at hr
  simp only [Option.some.injEq] at hr
  have hext := run_extends (ops.drop (k + 1)) ((run s (ops.take k)).1.retain (op.eval (run s (ops.take k)).1))
  rw [← run_split ops s k op h, hr] at hext
  obtain ⟨⟨cs, hc⟩, ⟨bs, hb⟩⟩ := hext
  cases op with
  | marshal i =>
    simp only [Op.eval, Option.map_eq_some_iff] at hr
    obtain ⟨p, _, rfl⟩ := hr
    simp only [Store.retain] at hb
    simp [Store.readBack, Store.slot, hb]
  | unmarshal j =>
    simp only [Op.eval, Option.map_eq_some_iff] at hr
    obtain ⟨w, _, hr⟩ := hr
    cases hu : unmarshal w with
    | error e =>
      rw [hu] at hr
      subst hr
      rfl
    | ok q =>
      rw [hu] at hr
      subst hr
      simp only [Store.retain] at hc
      simp [Store.readBack, Store.slot, hc]

/-- what `compile` guarantees plus the two guards -/
def Good (p : Prog) : Prop := WF p ∧ NamedConsistent p = true ∧ ValidUtf8Consts p = true

/-- **Every retained result still behaves like its source, in sessions of any length.**  Start
    from compiled programs inside the two guards (and byte strings that are marshallings of
    them).  Then, whatever sequence of calls follows: no call fails, every code object in the
    final store IS one of the programs the session started with, and every retained byte
    string is the marshalling of one of them. -/
theorem session_closed_partial (ops : List Op) : ∀ (s : Store),
    (∀ p ∈ s.codes, Good p) → (∀ w ∈ s.blobs, ∃ p ∈ s.codes, w = marshal p) →
    (∀ q ∈ (run s ops).1.codes, q ∈ s.codes)
    ∧ (∀ w ∈ (run s ops).1.blobs, ∃ p ∈ s.codes, w = marshal p)
    ∧ (∀ r ∈ (run s ops).2, ∀ e, r ≠ some (.failed e)) := by
  induction ops with
  | nil =>
    intro s _ hb
    exact ⟨fun q hq => hq, hb, fun r hr => by simp [run_nil] at hr⟩
  | cons op ops ih =>
    intro s hg hb
    -- the store after the first call: same set of programs, blobs still marshallings of them
    have key : (∀ q ∈ (s.retain (op.eval s)).codes, q ∈ s.codes)
        ∧ (∀ w ∈ (s.retain (op.eval s)).blobs, ∃ p ∈ s.codes, w = marshal p)
        ∧ (∀ e, op.eval s ≠ some (.failed e)) := by
      cases op with
      | marshal i =>
        cases hi : s.codes[i]? with
        | none => simp [Op.eval, hi, Store.retain]; exact hb
        | some p =>
          have hp : p ∈ s.codes := List.mem_of_getElem? hi
          simp only [Op.eval, hi, Option.map_some, Store.retain]
          refine ⟨fun q hq => hq, ?_, by simp⟩
          intro w hw
          rcases List.mem_append.mp hw with hw | hw
          · exact hb w hw
          · exact ⟨p, hp, by simpa using hw⟩
      | unmarshal j =>
        cases hj : s.blobs[j]? with
        | none => simp [Op.eval, hj, Store.retain]; exact hb
        | some w =>
          obtain ⟨p, hp, rfl⟩ := hb w (List.mem_of_getElem? hj)
          obtain ⟨hwf, hn, hu⟩ := hg p hp
          simp only [Op.eval, hj, Option.map_some, C17_partial_roundtrip p hwf hn hu, Store.retain]
          refine ⟨?_, hb, by simp⟩
          intro q hq
          rcases List.mem_append.mp hq with hq | hq
          · exact hq
          · simpa [List.mem_singleton.mp hq] using hp
    obtain ⟨kc, kb, kf⟩ := key
    have hsub : ∀ p ∈ s.codes, p ∈ (s.retain (op.eval s)).codes := by
      intro p hp
      obtain ⟨⟨cs, hc⟩, _⟩ := Store.retain_extends s (op.eval s)
      rw [hc]
      exact List.mem_append_left _ hp
    obtain ⟨ic, ib, ifl⟩ := ih (s.retain (op.eval s)) (fun p hp => hg p (kc p hp))
      (fun w hw => by
        obtain ⟨p, hp, hw⟩ := kb w hw
        exact ⟨p, hsub p hp, hw⟩)
    rw [run_cons]
    refine ⟨fun q hq => kc q (ic q hq), ?_, ?_⟩
    · intro w hw
      obtain ⟨p, hp, hw⟩ := ib w hw
      exact ⟨p, kc p hp, hw⟩
    · intro r hr e
      rcases List.mem_cons.mp hr with hr | hr
      · rw [hr]; exact kf e
      · exact ifl r hr e

/-- ... hence whatever the VM computes from what it reads, it computes from every code object
    a session leaves in the store what it computes from one of the compiled programs, and
    unmarshalling any retained byte string gives one of the compiled programs back. -/
theorem session_behaves_like_source_partial {Outcome : Type} (runVM : View → Outcome) (s : Store)
    (ops : List Op) (hg : ∀ p ∈ s.codes, Good p) (hb : ∀ w ∈ s.blobs, ∃ p ∈ s.codes, w = marshal p) :
    (∀ q ∈ (run s ops).1.codes, ∃ p ∈ s.codes, runVM (execView q) = runVM (execView p))
    ∧ (∀ w ∈ (run s ops).1.blobs, ∃ p ∈ s.codes, unmarshal w = .ok p) := by
  obtain ⟨hc, hbl, _⟩ := session_closed_partial ops s hg hb
  refine ⟨fun q hq => ⟨q, hc q hq, rfl⟩, ?_⟩
  intro w hw
  obtain ⟨p, hp, rfl⟩ := hbl w hw
  obtain ⟨hwf, hn, hu⟩ := hg p hp
  exact ⟨p, hp, C17_partial_roundtrip p hwf hn hu⟩

/-- what `compile` guarantees (structure and names) plus the two findings' exact guards -/
def GoodCompiled (p : Prog) : Prop :=
  WF p ∧ CompileNames p = true ∧ HasMainFn p = false ∧ ValidUtf8Consts p = true

theorem goodCompiled_good (p : Prog) (h : GoodCompiled p) : Good p :=
  ⟨h.1, by rw [compileNames_guard_exact p h.2.1, h.2.2.1]; rfl, h.2.2.2⟩

/-- **Sessions over compiled programs**: the closure theorem with the guard in the finding's
    words — start from compiled programs without a function called `__main__` and with valid
    strings; whatever calls follow, none fails and every retained code object is one of them. -/
theorem session_closed_compiled (ops : List Op) (s : Store)
    (hg : ∀ p ∈ s.codes, GoodCompiled p) (hb : ∀ w ∈ s.blobs, ∃ p ∈ s.codes, w = marshal p) :
    (∀ q ∈ (run s ops).1.codes, q ∈ s.codes)
    ∧ (∀ w ∈ (run s ops).1.blobs, ∃ p ∈ s.codes, w = marshal p)
    ∧ (∀ r ∈ (run s ops).2, ∀ e, r ≠ some (.failed e)) :=
  session_closed_partial ops s (fun p hp => goodCompiled_good p (hg p hp)) hb

/-- the statement discriminates: a `MarshalCode` that handed out its internal buffer (every
    retained byte string a window on it, `aliasedBlobs`) would NOT leave the store `run`
    leaves — two marshal calls on two different programs suffice. -/
theorem aliased_buffer_session_differs :
    ∃ (s : Store) (ops : List Op), (aliasedBlobs (run s ops).1).map (·.code) ≠ (run s ops).1.blobs.map (·.code) :=
  ⟨⟨[cexUtf8, cexUtf8Reloaded], []⟩, [.marshal 0, .marshal 1], by decide +kernel⟩

/-! ## non-vacuity -/

/-- a program with a closure inside a function with a default parameter: root, `f`, inner -/
def exNested : Prog :=
  { nodes := [
      { id := [109], name := mainName, isNamed := false, parent := none, functionID := [],
        tableID := [114], instrs := [24, 0, 33, 0],
        consts := [.fn ⟨[49], [102], [[97], [98]], [.nil, .str [195, 169]]⟩ (some 1), .basic (.float 4609434218613702656)],
        names := [[120]], source := [102] },
      { id := [109, 46, 48], name := [102], isNamed := true, parent := some 0, functionID := [49],
        tableID := [114, 46, 48], instrs := [24, 0, 4], consts := [.fn ⟨[50], [], [], []⟩ (some 2), .basic (.int (-7))],
        names := [], source := [] },
      { id := [109, 46, 48, 46, 48], name := [], isNamed := false, parent := some 1, functionID := [50],
        tableID := [114, 46, 48, 46, 48], instrs := [4], consts := [.basic (.bool true)], names := [], source := [] }],
    table := .mk [114] [⟨[102], 0, true⟩] [([102], ⟨[102], 0, true⟩)] [] false
      [.mk [114, 46, 48] [⟨[97], 0, false⟩, ⟨[98], 1, false⟩, ⟨[102], 2, true⟩] [] [] false
        [.mk [114, 46, 48, 46, 48] [] [] [⟨⟨[97], 0, false⟩, .free, 1, 0⟩] false
          [.mk [114, 46, 48, 46, 48, 46, 48] [] [] [] true []]]] }

example : WF exNested ∧ NamedConsistent exNested = true ∧ ValidUtf8Consts exNested = true := by decide +kernel
example : unmarshal (marshal exNested) = .ok exNested :=
  C17_partial_roundtrip exNested (by decide +kernel) (by decide +kernel) (by decide +kernel)
example : (execView exNested).codes.length = 3 := by decide +kernel
example : CompileNames exNested = true ∧ HasMainFn exNested = false ∧ FramesFit exNested = true := by decide +kernel
example : CompileNames cexMain = true ∧ HasMainFn cexMain = true ∧ FramesFit cexMain = true := by decide +kernel
example : GoodCompiled exNested := ⟨by decide +kernel, by decide +kernel, by decide +kernel, by decide +kernel⟩
example : WF (cexUtf8.mapStr sanitize) := by decide +kernel
example : ∃ q, unmarshal (marshal cexUtf8) = .ok q := C17_unmarshal_total_on_image_any_strings cexUtf8 (by decide +kernel)
example : validStr [195, 169] = true ∧ validStr [255] = false ∧ validStr [237, 160, 128] = false := by decide +kernel
example : sanitize [113, 255, 122] = [113, 239, 191, 189, 122] := by decide +kernel

-- sessions: a concrete history (marshal both programs, reload the first bytes, marshal the
-- reloaded code) returns four results
example : (run ⟨[exNested, exNested], []⟩ [.marshal 0, .marshal 1, .unmarshal 0, .marshal 2]).2.length = 4 := by
  decide +kernel
example : Good exNested := ⟨by decide +kernel, by decide +kernel, by decide +kernel⟩
example : (run ⟨[exNested], []⟩ [.marshal 0, .unmarshal 0, .marshal 1]).1.codes = [exNested, exNested] := by
  have h := session_closed_partial [.marshal 0, .unmarshal 0, .marshal 1] ⟨[exNested], []⟩
    (by intro p hp; simp at hp; subst hp; exact ⟨by decide +kernel, by decide +kernel, by decide +kernel⟩) (by simp)
  simp only [run_cons, run_nil, Op.eval, Store.retain, List.getElem?_cons_zero, Option.map_some,
    C17_partial_roundtrip exNested (by decide +kernel) (by decide +kernel) (by decide +kernel), List.nil_append]
  rfl

/-! ## the order of the serialised code list

`codeFromState` is NOT indifferent to the order of `state.Code`: it resolves `parent_id` among
the code objects it has already created and returns the first one as the entry point.  The
property therefore demands of the marshaller that the list is written in ONE order, parents
first — the Flatten order (`stateFromCode_code_order`, `marshal_code_order`); the harness
evaluates this on the real bytes of every program and feeds the real loader the real bytes
with the list permuted, comparing its verdict with `unmarshal ∘ State.reorder`. -/

/-- **Spec of the file order**: the code list `stateFromCode` writes is the Flatten sequence
    of the tree, id by id — for every program (any number of code objects). -/
theorem stateFromCode_code_order (p : Prog) : (stateFromCode p).codeIds = flattenIds p := by
  simp only [State.codeIds, stateFromCode, flattenIds, List.map_filterMap, Option.map_map]
  rfl

/-- the same of the bytes: the ids of the marshalled list are the (JSON-encoded) ids of the
    Flatten sequence, in that order. -/
theorem marshal_code_order (p : Prog) : (marshal p).codeIds = (flattenIds p).map encStr := by
  rw [← stateFromCode_code_order]
  simp only [marshal, encodeState, State.mapStr, State.codeIds, List.map_map]
  rfl

/-- taking the list in its own order changes nothing -/
theorem reorder_range (s : State) : (s.reorder (List.range s.code.length)).code = s.code := by
  have h := range_filterMap_getElem? (fun d : CodeDef => d) s.code
  simpa [State.reorder] using h

/-- **The loader keeps the order of the file**: whenever `codeFromState` succeeds, the code
    objects of the result are those of the list, in the order of the list. -/
theorem codeFromState_ids (st : State) (p : Prog) (h : codeFromState st = .ok p) :
    p.nodes.map (·.id) = st.codeIds := by
  unfold codeFromState at h
  split at h
  · exact absurd h (by simp)
  · rename_i ns hb
    split at h
    · exact absurd h (by simp)
    · split at h
      · exact absurd h (by simp)
      · simp only [Except.ok.injEq] at h
        subst h
        have := build_ids st.table st.code [] ns hb
        simpa [relinkNodes_ids, State.codeIds] using this

/-- **The entry point is whatever comes first**: the code object `UnmarshalCode` hands back
    (`codes[0]`) is the first element of the list, root or not. -/
theorem codeFromState_entry (st : State) (p : Prog) (h : codeFromState st = .ok p) :
    p.nodes.head?.map (·.id) = st.code.head?.map (·.id) := by
  have := congrArg List.head? (codeFromState_ids st p h)
  simpa [State.codeIds, List.head?_map] using this

/-- **A child before its parent is rejected**: a list in which some code object names a parent
    that does not come EARLIER in the list is never loaded — whatever else the list holds.
    (So a marshaller may not write the list in any order but parents-first.) -/
theorem codeFromState_child_before_parent (st : State) (h : st.childBeforeParent = true) :
    ∀ p, codeFromState st ≠ .ok p := by
  intro p hp
  unfold codeFromState at hp
  split at hp
  · exact absurd hp (by simp)
  · rename_i ns hb
    exact build_orphan_fails st.table st.code [] (by simpa [State.childBeforeParent] using h) ns hb

theorem unmarshal_child_before_parent (w : State) (h : (decodeState w).childBeforeParent = true) :
    ∀ p, unmarshal w ≠ .ok p :=
  codeFromState_child_before_parent (decodeState w) h

theorem unmarshal_entry (w : State) (p : Prog) (h : unmarshal w = .ok p) :
    p.nodes.head?.map (·.id) = (decodeState w).code.head?.map (·.id) :=
  codeFromState_entry (decodeState w) p h

-- the nested example: its file is [root, outer, inner]; with the inner function first the
-- loader fails on the parent id, with the list reversed too; in its own order it loads
example : ((marshal exNested).reorder [0, 2, 1]).childBeforeParent = true := by decide +kernel
example : ((marshal exNested).reorder [2, 1, 0]).childBeforeParent = true := by decide +kernel
example : ((marshal exNested).reorder [0, 1, 2]).childBeforeParent = false := by decide +kernel
example : (marshal exNested).codeIds = (flattenIds exNested).map encStr := marshal_code_order exNested

end Risor.C17
