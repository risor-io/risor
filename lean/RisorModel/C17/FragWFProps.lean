import RisorModel.C17.FragWF
import RisorModel.C17.Props
/-!
C17 — well-formedness of the compiler's output PROVED for the modelled compiler fragments.

`WF` (Model.lean) is a hypothesis of C17's round-trip theorems; for arbitrary programs it is
evaluated per compiled tree.  Here it is a THEOREM for every program of C01's proved compiler
fragments: `frag_compile_wf` (F1–F3, `Frag.compF`), `fun_compile_wf` (F4, every code object of
`Fun.compFun`, children included), for all programs of the fragment and for every value of
what the fragment compilers do not determine (`Env`: source texts, the contents of the root
symbol table, the whole tree of block/function tables, the order of global names).  The
corollaries `frag_roundtrip` / `fun_roundtrip` instantiate `C17_partial_roundtrip` without the
`WF` hypothesis.  That `…ToC17 env (comp… p)` IS the code object the real compiler produced is
the correspondence obligation of harness/c17frag.go (oracle request `C17 frag`).
-/
namespace Risor.C17.FragWF
open Risor.C17 Risor.C01

/-! ### decimal numbers -/

theorem dec_lt {n : Nat} (h : n < 10) : dec n = [48 + n] := by
  rw [dec]; simp [h]

theorem dec_ge {n : Nat} (h : ¬ n < 10) : dec n = dec (n / 10) ++ [48 + n % 10] := by
  rw [dec]; simp [h]

theorem dec_ne_nil (n : Nat) : dec n ≠ [] := by
  by_cases h : n < 10
  · rw [dec_lt h]; simp
  · rw [dec_ge h]; simp

/-- `%d` is injective: different numbers have different decimal texts -/
theorem dec_inj : ∀ a b : Nat, dec a = dec b → a = b := by
  intro a
  induction a using Nat.strongRecOn with
  | _ a ih =>
    intro b h
    by_cases ha : a < 10 <;> by_cases hb : b < 10
    · rw [dec_lt ha, dec_lt hb] at h
      simp at h; omega
    · rw [dec_lt ha, dec_ge hb] at h
      cases hd : dec (b / 10) with
      | nil => exact absurd hd (dec_ne_nil _)
      | cons x xs => rw [hd] at h; simp at h
    · rw [dec_ge ha, dec_lt hb] at h
      cases hd : dec (a / 10) with
      | nil => exact absurd hd (dec_ne_nil _)
      | cons x xs => rw [hd] at h; simp at h
    · rw [dec_ge ha, dec_ge hb] at h
      obtain ⟨h1, h2⟩ := List.append_inj' h (by simp)
      have := ih (a / 10) (by omega) (b / 10) h1
      simp at h2
      omega

/-! ### symbol tables -/

theorem findTable_self (t : Table) : findTable t t.id = some t := by
  cases t with
  | mk id s b f k c => simp [findTable, Table.id]

theorem findTables_isSome (ch : List Table) (t : Table) (h : t ∈ ch) :
    (findTables ch t.id).isSome = true := by
  induction ch with
  | nil => cases h
  | cons a l ih =>
    rw [findTables]
    cases hfa : findTable a t.id with
    | some r => rfl
    | none =>
      simp only
      rcases List.mem_cons.mp h with rfl | hm
      · rw [findTable_self] at hfa; cases hfa
      · exact ih hm

theorem root_present (env : Env) : (findTable (rootTable env) rootId).isSome = true := by
  simp [rootTable, findTable]

theorem funTable_present (env : Env) (k : Nat) :
    (findTable (rootTable env) (funTableId env k)).isSome = true := by
  unfold funTableId
  split
  · rename_i t ht
    have hm : t ∈ env.kids := List.mem_of_getElem? ht
    simp only [rootTable, findTable]
    split
    · rfl
    · exact findTables_isSome _ _ hm
  · exact root_present env

/-! ### constants -/

theorem fnIdsOf_basic (cs : List Const) (h : ∀ c ∈ cs, ∃ b, c = .basic b) : fnIdsOf cs = [] := by
  unfold fnIdsOf
  rw [List.filterMap_eq_nil_iff]
  intro c hc
  obtain ⟨b, rfl⟩ := h c hc
  rfl

theorem fragConsts_basic (code : Frag.Code) : ∀ c ∈ fragConsts code, ∃ b, c = .basic b := by
  intro c hc
  unfold fragConsts at hc
  obtain ⟨s, _, hs⟩ := List.mem_filterMap.mp hc
  unfold fragConstOf at hs
  split at hs <;> simp at hs <;> exact ⟨_, hs.symm⟩

/-! ### a program of one code object -/

/-- a single root code object whose table exists and whose constants are basic is well-formed -/
theorem wf_single (n : Node) (t : Table) (hid : n.id ≠ []) (hp : n.parent = none)
    (hfid : n.functionID = []) (ht : (findTable t n.tableID).isSome = true)
    (hc : ∀ c ∈ n.consts, ∃ b, c = .basic b) : WF { nodes := [n], table := t } := by
  have hfn : fnIds [n] = [] := by simp [fnIds, fnIdsOf_basic n.consts hc]
  refine ⟨by simp, ?_, by simp, by simpa using hid, by simp [parentsOK, hp], by simpa using ht,
    by rw [hfn]; exact List.nodup_nil, by simp, ?_, by simp [hfid]⟩
  · simp [flattenOrder, pre, childrenOf, hp, List.range_succ]
  · intro m hm c hcm
    simp at hm; subst hm
    obtain ⟨b, rfl⟩ := hc c hcm
    rfl

/-! ### F1–F3 -/

/-- **The compiler's output is well-formed (F1–F3).**  For every program `p` of the fragment
    and every environment (source text, symbol-table contents and tree, order of globals) the
    code object `Frag.compF p` embedded into C17's model satisfies `WF`.  (The proof does not
    use `inFrag p`: every output of `Frag.comp` is one root code object whose constants are ints
    and strings; the hypothesis is kept because only for programs of the fragment is
    `Frag.compF p` tied to the real compiler's output.) -/
theorem frag_compile_wf (env : Env) (p : N) (_h : Frag.inFrag p = true) :
    WF (fragToC17 env (Frag.compF p)) := by
  unfold fragToC17
  exact wf_single _ _ (by simp [mainNode, mainName]) rfl rfl (root_present env) (fragConsts_basic _)

theorem frag_named (env : Env) (code : Frag.Code) : NamedConsistent (fragToC17 env code) = true := by
  simp [NamedConsistent, fragToC17, namedOK, mainNode]

/-- **Round trip without the `WF` hypothesis (F1–F3).**  For every program of the fragment whose
    strings are valid UTF-8 (the decidable guard of finding C17-invalid-utf8-const),
    unmarshalling the marshalled compiler output yields the same program: same instructions,
    constants with their types, names, source, symbol tables. -/
theorem frag_roundtrip (env : Env) (p : N) (h : Frag.inFrag p = true)
    (hu : ValidUtf8Consts (fragToC17 env (Frag.compF p)) = true) :
    unmarshal (marshal (fragToC17 env (Frag.compF p))) = .ok (fragToC17 env (Frag.compF p)) :=
  C17_partial_roundtrip _ (frag_compile_wf env p h) (frag_named env _) hu

/-- the same for the execution view and any function of it (what the VM computes) -/
theorem frag_roundtrip_run {Outcome : Type} (run : View → Outcome) (env : Env) (p : N)
    (h : Frag.inFrag p = true) (hu : ValidUtf8Consts (fragToC17 env (Frag.compF p)) = true) :
    ∃ q, unmarshal (marshal (fragToC17 env (Frag.compF p))) = .ok q ∧
      run (execView q) = run (execView (fragToC17 env (Frag.compF p))) :=
  C17_partial_run_congr run _ (frag_compile_wf env p h) (frag_named env _) hu

/-- **Reload never fails (F1–F3), no guard at all**: whatever bytes the string constants hold,
    the reload of a fragment program succeeds and yields the program with every string sent
    through JSON once. -/
theorem frag_reload_total (env : Env) (p : N) (_h : Frag.inFrag p = true) :
    ∃ q, unmarshal (marshal (fragToC17 env (Frag.compF p))) = .ok q := by
  apply C17_unmarshal_total_on_image_any_strings
  have hroot : (findTable ((rootTable env).mapStr sanitize) (sanitize rootId)).isSome = true := by
    simp [rootTable, Table.mapStr, findTable]
  refine wf_single _ _ ?_ rfl ?_ ?_ ?_
  · simp [Node.mapStr, mainNode]; decide
  · simp [Node.mapStr, mainNode]; decide
  · simpa [Node.mapStr, mainNode, fragToC17] using hroot
  · intro c hc
    simp only [Node.mapStr, mainNode, List.mem_map] at hc
    obtain ⟨c0, hc0, rfl⟩ := hc
    obtain ⟨b, rfl⟩ := fragConsts_basic _ c0 hc0
    exact ⟨_, rfl⟩

/-! ### F4: which function constants a piece of code loads -/

open Risor.C01.Fun in
theorem fnLoads_append (a b : Fun.Code) : fnLoads (a ++ b) = fnLoads a ++ fnLoads b := by
  induction a with
  | nil => rfl
  | cons hd r ih =>
    cases hd with
    | none => exact ih
    | some i =>
      cases i with
      | constFn g => exact congrArg (g :: ·) ih
      | _ => exact ih

theorem fnLoads_two_loadV (ls : List String) (x : String) : fnLoads (Fun.two (Fun.loadV ls x)) = [] := by
  unfold Fun.loadV; split <;> rfl

theorem fnLoads_two_storeV (ls : List String) (x : String) : fnLoads (Fun.two (Fun.storeV ls x)) = [] := by
  unfold Fun.storeV; split <;> rfl

theorem fnLoads_two_opIns (op : BinOp) : fnLoads (Fun.two (Fun.opIns op)) = [] := by
  cases op <;> rfl

theorem fnLoads_pre (ls : List String) (h : N) : fnLoads (Fun.pre ls h) = [] := by
  unfold Fun.pre
  split
  · simp [fnLoads_append, fnLoads_two_loadV]; rfl
  · rfl

theorem noFuncInside_not_lit {e : N} (h : Fun.noFuncInside e = true) : Fun.isFuncLit e = false := by
  cases e with
  | func => cases h
  | _ => rfl

section NoFn
open Risor.C01.Fun

/-- all nine pieces of generated code load no function constant -/
def NoLoads (n : N) : Prop :=
  (∀ ls kb kc, fnLoads (comp ls kb kc n) = []) ∧ (∀ ls k, fnLoads (compVals ls k n) = []) ∧
  (∀ ls k, fnLoads (compCmpCase ls k n) = []) ∧ (∀ ls b, fnLoads (compCmp ls b n) = []) ∧
  (∀ ls a, fnLoads (compBody ls a n) = []) ∧ (∀ ls d, fnLoads (compBodies ls d n) = []) ∧
  (∀ ls, fnLoads (compDfltBody ls n) = []) ∧ (∀ ls, fnLoads (compDflt ls n) = []) ∧
  (∀ ls, fnLoads (compArgs ls n) = [])

/-- neither a list cell, a case nor a default: only `comp` has code for such a node -/
def isPlain : N → Bool
  | .cons _ _ | .case_ _ _ | .default_ _ => false
  | _ => true

/-- on a plain node the other eight components are their catch-all value (`[]`, or the `Nil` of a
    switch without default) -/
theorem noLoads_of_plain {n : N} (hp : isPlain n = true) (h : ∀ ls kb kc, fnLoads (comp ls kb kc n) = []) :
    NoLoads n := by
  refine ⟨h, ?_⟩
  cases n with
  | cons | case_ | default_ => cases hp
  | _ =>
    exact ⟨fun _ _ => rfl, fun _ _ => rfl, fun _ _ => rfl, fun _ _ => rfl, fun _ _ => rfl, fun _ => rfl,
      fun _ => rfl, fun _ => rfl⟩

/-- **Code of a node without function literals loads no function constant** — by structural
    induction over the nine mutually recursive functions of the functional compiler. -/
theorem noLoads (n : N) : noFuncInside n = true → NoLoads n := by
  induction n with
  | cons h t ihh iht =>
    intro hn
    obtain ⟨hh, ht⟩ := Bool.and_eq_true_iff.mp hn
    obtain ⟨h1, _, h3, _, h5, _, h7, _, _⟩ := ihh hh
    obtain ⟨t1, t2, _, t4, _, t6, _, t8, t9⟩ := iht ht
    refine ⟨fun ls kb kc => ?_, fun ls k => ?_, fun _ _ => rfl, fun ls b => ?_, fun _ _ => rfl,
      fun ls d => ?_, fun _ => rfl, fun ls => ?_, fun ls => ?_⟩
    · dsimp only [comp]
      simp [apply_ite fnLoads, fnLoads_append, fnLoads_pre, h1, t1, one, fnLoads]
    · dsimp only [compVals]
      simp [fnLoads_append, h1, t2, two, fnLoads]
    · dsimp only [compCmp]
      rw [fnLoads_append, h3, t4]; rfl
    · dsimp only [compBodies]
      rw [fnLoads_append, h5, t6]; rfl
    · dsimp only [compDflt]
      split
      · exact h7 ls
      · exact t8 ls
    · dsimp only [compArgs]
      rw [fnLoads_append, h1, t9]; rfl
  | case_ vals body ihv ihb =>
    intro hn
    obtain ⟨hv, hb⟩ := Bool.and_eq_true_iff.mp hn
    refine ⟨fun _ _ _ => rfl, fun _ _ => rfl, (ihv hv).2.1, fun _ _ => rfl, fun ls a => ?_, fun _ _ => rfl,
      fun _ => rfl, fun _ => rfl, fun _ => rfl⟩
    dsimp only [compBody]
    rw [fnLoads_append, (ihb hb).1]; rfl
  | default_ body ihb =>
    intro hn
    exact ⟨fun _ _ _ => rfl, fun _ _ => rfl, fun _ _ => rfl, fun _ _ => rfl, fun _ _ => rfl, fun _ _ => rfl,
      fun ls => (ihb hn).1 ls 0 0, fun _ => rfl, fun _ => rfl⟩
  | «infix» op l r ihl ihr =>
    intro hn
    obtain ⟨hl, hr⟩ := Bool.and_eq_true_iff.mp hn
    have hl := (ihl hl).1
    have hr := (ihr hr).1
    refine noLoads_of_plain rfl fun ls kb kc => ?_
    dsimp only [comp]
    simp only [apply_ite fnLoads, fnLoads_append, hl, hr, fnLoads_two_opIns]
    simp [two, one, fnLoads]
  | assign x op e ih =>
    intro hn
    have he := (ih hn).1
    refine noLoads_of_plain rfl fun ls kb kc => ?_
    dsimp only [comp]
    simp only [apply_ite fnLoads, fnLoads_append, he, fnLoads_two_loadV, fnLoads_two_storeV]
    simp [two, fnLoads]
  | for3 i c p b ihi ihc ihp ihb =>
    intro hn
    have hn : (noFuncInside i && noFuncInside c && noFuncInside p && noFuncInside b) = true := hn
    simp only [Bool.and_eq_true] at hn
    have h1 := (ihi hn.1.1.1).1
    have h2 := (ihc hn.1.1.2).1
    have h3 := (ihp hn.1.2).1
    have h4 := (ihb hn.2).1
    refine noLoads_of_plain rfl fun ls kb kc => ?_
    dsimp only [comp]
    simp [apply_ite fnLoads, fnLoads_append, h1, h2, h3, h4, two, one, fnLoads]
  | switch subj cases ihs ihc =>
    intro hn
    obtain ⟨hs, hc⟩ := Bool.and_eq_true_iff.mp hn
    obtain ⟨-, -, -, c4, -, c6, -, c8, -⟩ := ihc hc
    refine noLoads_of_plain rfl fun ls kb kc => ?_
    dsimp only [comp]
    simp [fnLoads_append, (ihs hs).1, c4, c6, c8, two, one, fnLoads]
  | tern c a b ihc iha ihb =>
    intro hn
    have hn : (noFuncInside c && noFuncInside a && noFuncInside b) = true := hn
    simp only [Bool.and_eq_true] at hn
    refine noLoads_of_plain rfl fun ls kb kc => ?_
    dsimp only [comp]
    simp [fnLoads_append, (ihc hn.1.1).1, (iha hn.1.2).1, (ihb hn.2).1, two, fnLoads]
  | if_ c a b ihc iha ihb =>
    intro hn
    have hn : (noFuncInside c && noFuncInside a && noFuncInside b) = true := hn
    simp only [Bool.and_eq_true] at hn
    refine noLoads_of_plain rfl fun ls kb kc => ?_
    dsimp only [comp]
    simp [fnLoads_append, (ihc hn.1.1).1, (iha hn.1.2).1, (ihb hn.2).1, two, fnLoads]
  | forcond c b ihc ihb =>
    intro hn
    obtain ⟨hc, hb⟩ := Bool.and_eq_true_iff.mp hn
    refine noLoads_of_plain rfl fun ls kb kc => ?_
    dsimp only [comp]
    simp [fnLoads_append, (ihc hc).1, (ihb hb).1, two, one, fnLoads]
  | forever b ihb =>
    intro hn
    refine noLoads_of_plain rfl fun ls kb kc => ?_
    dsimp only [comp]
    simp [fnLoads_append, (ihb hn).1, two, one, fnLoads]
  | neg e ih | not e ih | return_ e ih =>
    intro hn
    refine noLoads_of_plain rfl fun ls kb kc => ?_
    dsimp only [comp]
    rw [fnLoads_append, (ih hn).1]; rfl
  | var x e ih =>
    intro hn
    have hn : noFuncInside e = true := hn
    refine noLoads_of_plain rfl fun ls kb kc => ?_
    dsimp only [comp]
    simp [noFuncInside_not_lit hn, fnLoads_append, (ih hn).1, fnLoads_two_storeV]
  | call f args ihf iha =>
    intro hn
    obtain ⟨hf, ha⟩ := Bool.and_eq_true_iff.mp hn
    refine noLoads_of_plain rfl fun ls kb kc => ?_
    dsimp only [comp]
    simp [fnLoads_append, (ihf hf).1, (iha ha).2.2.2.2.2.2.2.2, two, fnLoads]
  | block s ih | prog s ih => exact fun hn => noLoads_of_plain rfl (ih hn).1
  | expr e ih =>
    intro hn
    have hn : noFuncInside e = true := hn
    refine noLoads_of_plain rfl fun ls kb kc => ?_
    dsimp only [comp]
    simp [noFuncInside_not_lit hn, (ih hn).1]
  | func name ps b => intro hn; cases hn
  | id x => exact fun _ => noLoads_of_plain rfl fun ls kb kc => fnLoads_two_loadV ls x
  | «postfix» x inc =>
    intro _
    refine noLoads_of_plain rfl fun ls kb kc => ?_
    dsimp only [comp]
    by_cases hc : x ∈ ls <;> simp [two, loadV, storeV, hc, fnLoads]
  | bool b => intro _; refine noLoads_of_plain rfl fun ls kb kc => ?_; cases b <;> rfl
  | _ => exact fun _ => noLoads_of_plain rfl fun _ _ _ => rfl

/-- a function body without function literals loads no function constant -/
theorem compFnStmts_noLoads (ls : List String) (n : N) (hn : noFuncInside n = true) :
    fnLoads (compFnStmts ls n) = [] := by
  induction n with
  | cons h t _ iht =>
    have hn : (noFuncInside h && noFuncInside t) = true := hn
    simp only [Bool.and_eq_true] at hn
    have hh := (noLoads h hn.1).1
    dsimp only [compFnStmts]
    simp [apply_ite fnLoads, fnLoads_append, fnLoads_pre, hh, iht hn.2, one, fnLoads]
  | _ => rfl

theorem eq_nilL_of_isNilL {t : N} (h : Frag.isNilL t = true) : t = .nilL := by
  cases t with
  | nilL => rfl
  | _ => cases h

/-- one top-level statement of the main code loads exactly the constant of the function it
    declares (`wf`: a named literal is a declaration statement, a bound literal is anonymous) -/
theorem top_loads (h : N) (hw : wf h = true) (hnf : declOfStmt h = none → noFuncInside h = true)
    (kb kc : Nat) : (fnLoads (comp [] kb kc h)).length = (declOfStmt h).toList.length := by
  cases hd : declOfStmt h with
  | none => rw [(noLoads h (hnf hd)).1]; rfl
  | some d =>
    -- only `func f(..) {..}` as a statement and `x := func(..) {..}` declare a function
    unfold declOfStmt at hd
    split at hd
    · dsimp only [comp, isFuncLit, funcName]
      simp [storeV, two, one, fnLoads]
    · dsimp only [comp, isFuncLit]
      simp [storeV, two, fnLoads]
    · cases hd

/-- **The main code loads one function constant per declared function, in order of
    declaration** (by induction over the statement list the compiler walks). -/
theorem main_loads (s : N) (hl : isL s = true) (hw : wf s = true)
    (hnf : ∀ h ∈ s.toList, declOfStmt h = none → noFuncInside h = true) (kb kc : Nat) :
    (fnLoads (comp [] kb kc s)).length = (s.toList.filterMap declOfStmt).length := by
  induction s generalizing kb kc with
  | cons h t _ iht =>
    have hw : (isS h && isL t && wf h && wf t) = true := hw
    simp only [Bool.and_eq_true] at hw
    obtain ⟨⟨⟨_, hlt⟩, hwh⟩, hwt⟩ := hw
    have hh := fun kb kc => top_loads h hwh (hnf h (by simp [N.toList])) kb kc
    have ht := fun kb kc => iht hlt hwt (fun x hx => hnf x (by simp [N.toList, hx])) kb kc
    have hfm : ((N.cons h t).toList.filterMap declOfStmt).length =
        (declOfStmt h).toList.length + (t.toList.filterMap declOfStmt).length := by
      simp only [N.toList, List.filterMap_cons]
      cases declOfStmt h <;> simp <;> omega
    rw [hfm]
    dsimp only [comp]
    split
    · rename_i hnil
      obtain rfl := eq_nilL_of_isNilL hnil
      simp [apply_ite fnLoads, fnLoads_append, fnLoads_pre, hh, N.toList, one, fnLoads]
    · simp [apply_ite fnLoads, fnLoads_append, fnLoads_pre, hh, ht, one, fnLoads]
  | nilL => rfl
  | _ => cases hl

/-- what `topsOK` says of every top-level statement -/
theorem topsOK_each (consts : List String) (l : List N) : ∀ genv, topsOK consts genv l = true →
    ∀ h ∈ l, (declOfStmt h = none → noFuncInside h = true) ∧
      (∀ d, declOfStmt h = some d → noFuncInside d.body = true) := by
  induction l with
  | nil => intro _ _ h hh; cases hh
  | cons a r ih =>
    intro genv ht h hh
    simp only [topsOK, Bool.and_eq_true] at ht
    rcases List.mem_cons.mp hh with rfl | hm
    · have hto := ht.1.1
      unfold topOK at hto
      constructor
      · intro hd; rw [hd] at hto; simp only [Bool.and_eq_true] at hto; exact hto.1
      · intro d hd; rw [hd] at hto; simp only [Bool.and_eq_true] at hto; exact hto.1.1.2
    · exact ih _ ht.2 h hm

end NoFn

/-- the two facts about `Fun.compFun p` that well-formedness needs, for every program of F4:
    the main code loads as many function constants as there are functions, and no function's
    code loads one -/
theorem compFun_loads (p : N) (h : Fun.inFun p = true) :
    (fnLoads (Fun.compFun p).main).length = (Fun.compFun p).funs.length ∧
    ∀ fc ∈ (Fun.compFun p).funs, fnLoads fc.code = [] := by
  cases p with
  | prog s =>
    simp only [Fun.inFun, Bool.and_eq_true] at h
    obtain ⟨⟨⟨⟨hwf, _⟩, _⟩, htops⟩, _⟩ := h
    have hwf : (Fun.isL s && !Fun.escapes s && Fun.wf s) = true := hwf
    simp only [Bool.and_eq_true] at hwf
    have hall := topsOK_each _ s.toList _ htops
    constructor
    · show (fnLoads (Fun.comp [] 0 0 s)).length = ((s.toList.filterMap Fun.declOfStmt).map Fun.compDecl).length
      rw [List.length_map]
      exact main_loads s hwf.1.1 hwf.2 (fun x hx => (hall x hx).1) 0 0
    · intro fc hfc
      simp only [Fun.compFun, Fun.funsOf, List.mem_map, List.mem_filterMap] at hfc
      obtain ⟨d, ⟨x, hx, hd⟩, rfl⟩ := hfc
      exact compFnStmts_noLoads _ _ ((hall x hx).2 d hd)
  | _ => simp [Fun.inFun] at h

/-! ### F4: the constant pools -/

theorem funConsts_mem (funs : List Fun.FunCode) (code : Fun.Code) : ∀ j c, c ∈ funConsts funs j code →
    (∃ b, c = .basic b) ∨ ∃ i, j ≤ i ∧ i < j + (fnLoads code).length ∧
      c = .fn (funcDefOf i (funs.getD i default)) (some (i + 1)) := by
  induction code with
  | nil => intro j c h; cases h
  | cons hd r ih =>
    intro j c h
    cases hd with
    | none => exact ih j c h
    | some i =>
      cases i with
      | constInt v =>
        rcases List.mem_cons.mp h with rfl | h
        · exact .inl ⟨_, rfl⟩
        · exact ih j c h
      | constStr v =>
        rcases List.mem_cons.mp h with rfl | h
        · exact .inl ⟨_, rfl⟩
        · exact ih j c h
      | constFn g =>
        rcases List.mem_cons.mp h with rfl | h
        · exact .inr ⟨j, Nat.le_refl _, by simp [fnLoads], rfl⟩
        · rcases ih (j + 1) c h with hb | ⟨i, h1, h2, h3⟩
          · exact .inl hb
          · exact .inr ⟨i, by omega, by simp [fnLoads]; omega, h3⟩
      | _ => exact ih j c h

theorem funConsts_basic (funs : List Fun.FunCode) (code : Fun.Code) (h : fnLoads code = []) (j : Nat) :
    ∀ c ∈ funConsts funs j code, ∃ b, c = .basic b := by
  intro c hc
  rcases funConsts_mem funs code j c hc with hb | ⟨i, h1, h2, _⟩
  · exact hb
  · rw [h] at h2; simp at h2; omega

theorem funConsts_fnIds_mem (funs : List Fun.FunCode) (code : Fun.Code) (j : Nat) (x : Bytes)
    (hx : x ∈ fnIdsOf (funConsts funs j code)) :
    ∃ i, j ≤ i ∧ i < j + (fnLoads code).length ∧ x = dec (i + 1) := by
  unfold fnIdsOf at hx
  obtain ⟨c, hc, hcx⟩ := List.mem_filterMap.mp hx
  rcases funConsts_mem funs code j c hc with ⟨b, rfl⟩ | ⟨i, h1, h2, rfl⟩
  · cases hcx
  · refine ⟨i, h1, h2, ?_⟩
    simp [Const.fnId?, funcDefOf] at hcx
    exact hcx.symm

theorem fnIdsOf_cons_basic (b : Basic) (cs : List Const) : fnIdsOf (.basic b :: cs) = fnIdsOf cs := rfl
theorem fnIdsOf_cons_fn (f : FuncDef) (o : Option Nat) (cs : List Const) :
    fnIdsOf (.fn f o :: cs) = f.id :: fnIdsOf cs := rfl

/-- the function ids of a constant pool are pairwise different: `funcIndex` only grows -/
theorem funConsts_fnIds_nodup (funs : List Fun.FunCode) (code : Fun.Code) :
    ∀ j, (fnIdsOf (funConsts funs j code)).Nodup := by
  induction code with
  | nil => intro j; exact List.nodup_nil
  | cons hd r ih =>
    intro j
    cases hd with
    | none => exact ih j
    | some i =>
      cases i with
      | constInt v => exact ih j
      | constStr v => exact ih j
      | constFn g =>
        show (fnIdsOf (.fn _ _ :: funConsts funs (j + 1) r)).Nodup
        rw [fnIdsOf_cons_fn, List.nodup_cons]
        refine ⟨?_, ih (j + 1)⟩
        intro hm
        obtain ⟨i, h1, _, h3⟩ := funConsts_fnIds_mem funs r (j + 1) _ hm
        have := dec_inj _ _ h3
        omega
      | _ => exact ih j

/-- every function number in range is the id of a constant of the pool -/
theorem funConsts_fnIds_all (funs : List Fun.FunCode) (code : Fun.Code) :
    ∀ j i, j ≤ i → i < j + (fnLoads code).length → dec (i + 1) ∈ fnIdsOf (funConsts funs j code) := by
  induction code with
  | nil => intro j i h1 h2; simp [fnLoads] at h2; omega
  | cons hd r ih =>
    intro j i h1 h2
    cases hd with
    | none => exact ih j i h1 h2
    | some ins =>
      cases ins with
      | constInt v => exact ih j i h1 h2
      | constStr v => exact ih j i h1 h2
      | constFn g =>
        show dec (i + 1) ∈ fnIdsOf (.fn _ _ :: funConsts funs (j + 1) r)
        rw [fnIdsOf_cons_fn]
        simp only [fnLoads, List.length_cons] at h2
        by_cases hij : i = j
        · subst hij; exact List.mem_cons_self
        · exact List.mem_cons_of_mem _ (ih (j + 1) i (by omega) (by omega))
      | _ => exact ih j i h1 h2

/-! ### F4: the code objects of the functions -/

section Nodes
variable (env : Env) (Φ : List Fun.FDecl) (funs : List Fun.FunCode)

theorem funNodes_mem (l : List Fun.FunCode) : ∀ k n, n ∈ funNodes env Φ funs k l →
    ∃ i fc, k ≤ i ∧ i < k + l.length ∧ n = funNode env Φ funs i fc ∧ fc ∈ l := by
  induction l with
  | nil => intro k n h; cases h
  | cons a r ih =>
    intro k n h
    rcases List.mem_cons.mp h with rfl | h
    · exact ⟨k, a, Nat.le_refl _, by simp, rfl, List.mem_cons_self⟩
    · obtain ⟨i, fc, h1, h2, h3, h4⟩ := ih (k + 1) n h
      exact ⟨i, fc, by omega, by simp; omega, h3, List.mem_cons_of_mem _ h4⟩

theorem funNodes_length (l : List Fun.FunCode) : ∀ k, (funNodes env Φ funs k l).length = l.length := by
  induction l with
  | nil => intro k; rfl
  | cons a r ih => intro k; simp [funNodes, ih]

theorem funNodes_getElem (l : List Fun.FunCode) : ∀ k i,
    (funNodes env Φ funs k l)[i]? = (l[i]?).map (funNode env Φ funs (k + i)) := by
  induction l with
  | nil => intro k i; simp [funNodes]
  | cons a r ih =>
    intro k i
    cases i with
    | zero => simp [funNodes]
    | succ i => simp [funNodes, ih, show k + 1 + i = k + (i + 1) by omega]

theorem childId_inj {a b : Nat} (h : childId a = childId b) : a = b := by
  unfold childId at h
  exact dec_inj _ _ (List.append_cancel_left h)

theorem childId_ne_main (k : Nat) : mainName ≠ childId k := by
  intro h
  unfold childId at h
  rw [List.append_assoc] at h
  have := List.self_eq_append_right.mp h
  simp at this

theorem funNodes_ids (l : List Fun.FunCode) : ∀ k,
    (funNodes env Φ funs k l).Pairwise (fun a b => a.id ≠ b.id) := by
  induction l with
  | nil => intro k; exact List.Pairwise.nil
  | cons a r ih =>
    intro k
    show (funNode env Φ funs k a :: funNodes env Φ funs (k + 1) r).Pairwise _
    rw [List.pairwise_cons]
    refine ⟨?_, ih (k + 1)⟩
    intro n hn hid
    obtain ⟨i, fc, h1, _, rfl, _⟩ := funNodes_mem env Φ funs r (k + 1) n hn
    have := childId_inj hid
    omega

theorem funNodes_fids (l : List Fun.FunCode) : ∀ k,
    (funNodes env Φ funs k l).Pairwise (fun a b => a.functionID = [] ∨ a.functionID ≠ b.functionID) := by
  induction l with
  | nil => intro k; exact List.Pairwise.nil
  | cons a r ih =>
    intro k
    show (funNode env Φ funs k a :: funNodes env Φ funs (k + 1) r).Pairwise _
    rw [List.pairwise_cons]
    refine ⟨?_, ih (k + 1)⟩
    intro n hn
    right
    intro hid
    obtain ⟨i, fc, h1, _, rfl, _⟩ := funNodes_mem env Φ funs r (k + 1) n hn
    have := dec_inj _ _ hid
    omega

end Nodes

/-! ### a root with leaf children is in Flatten order -/

theorem parentsOK_flat (fs : List Node) (hf : ∀ n ∈ fs, n.parent = some 0) :
    ∀ i, 0 < i → parentsOK fs i = true := by
  induction fs with
  | nil => intro i _; rfl
  | cons a r ih =>
    intro i hi
    have ha := hf a List.mem_cons_self
    simp only [parentsOK, ha, Bool.and_eq_true, decide_eq_true_eq]
    exact ⟨hi, ih (fun n hn => hf n (List.mem_cons_of_mem _ hn)) (i + 1) (by omega)⟩

theorem childrenOf_flat_succ (m : Node) (fs : List Node) (hm : m.parent = none)
    (hf : ∀ n ∈ fs, n.parent = some 0) (j : Nat) : childrenOf (m :: fs) (j + 1) = [] := by
  unfold childrenOf
  rw [List.filter_eq_nil_iff]
  intro i _
  cases i with
  | zero => simp [hm]
  | succ i =>
    simp only [List.getElem?_cons_succ]
    cases hfi : fs[i]? with
    | none => simp
    | some n => simp [hf n (List.mem_of_getElem? hfi)]

theorem childrenOf_flat_zero (m : Node) (fs : List Node) (hm : m.parent = none)
    (hf : ∀ n ∈ fs, n.parent = some 0) :
    childrenOf (m :: fs) 0 = (List.range fs.length).map (· + 1) := by
  unfold childrenOf
  rw [List.length_cons, List.range_succ_eq_map, List.filter_cons]
  simp only [List.getElem?_cons_zero, hm]
  rw [List.filter_map, if_neg (by simp), List.filter_eq_self.mpr]
  intro i hi
  have hi' : i < fs.length := List.mem_range.mp hi
  simp only [Function.comp, Nat.succ_eq_add_one, List.getElem?_cons_succ, List.getElem?_eq_getElem hi']
  simp [hf fs[i] (List.getElem_mem hi')]

theorem flatMap_single {α : Type} (f : α → List α) (l : List α) (h : ∀ a ∈ l, f a = [a]) :
    l.flatMap f = l := by
  induction l with
  | nil => rfl
  | cons a r ih =>
    rw [List.flatMap_cons, h a List.mem_cons_self, ih (fun x hx => h x (List.mem_cons_of_mem _ hx))]
    rfl

theorem flattenOrder_flat (m : Node) (fs : List Node) (hm : m.parent = none)
    (hf : ∀ n ∈ fs, n.parent = some 0) : flattenOrder (m :: fs) = List.range (m :: fs).length := by
  unfold flattenOrder
  simp only [List.isEmpty_cons, Bool.false_eq_true, if_false, List.length_cons, pre]
  rw [childrenOf_flat_zero m fs hm hf, List.range_succ_eq_map, flatMap_single]
  intro a ha
  obtain ⟨i, hi, rfl⟩ := List.mem_map.mp ha
  have hi' : i < fs.length := List.mem_range.mp hi
  cases hlen : fs.length with
  | zero => omega
  | succ k => simp [pre, childrenOf_flat_succ m fs hm hf]

/-! ### F4: the theorem -/

/-- the tree `main :: functions` is well-formed whenever the main code loads one function
    constant per function and no function's code loads one -/
theorem funToC17_wf (env : Env) (Φ : List Fun.FDecl) (P : Fun.Prog)
    (h1 : (fnLoads P.main).length = P.funs.length) (h2 : ∀ fc ∈ P.funs, fnLoads fc.code = []) :
    WF (funToC17 env Φ P) := by
  have hfs : ∀ n ∈ funNodes env Φ P.funs 0 P.funs, ∃ i fc, i < P.funs.length ∧
      n = funNode env Φ P.funs i fc ∧ fc ∈ P.funs := by
    intro n hn
    obtain ⟨i, fc, _, hi, rfl, hfc⟩ := funNodes_mem env Φ P.funs P.funs 0 n hn
    exact ⟨i, fc, by omega, rfl, hfc⟩
  have hpar : ∀ n ∈ funNodes env Φ P.funs 0 P.funs, n.parent = some 0 := by
    intro n hn; obtain ⟨i, fc, _, rfl, _⟩ := hfs n hn; rfl
  have hbasic : ∀ n ∈ funNodes env Φ P.funs 0 P.funs, ∀ c ∈ n.consts, ∃ b, c = .basic b := by
    intro n hn
    obtain ⟨i, fc, _, rfl, hfc⟩ := hfs n hn
    exact funConsts_basic P.funs fc.code (h2 fc hfc) 0
  have hfn0 : fnIds (funNodes env Φ P.funs 0 P.funs) = [] := by
    unfold fnIds
    rw [List.flatMap_eq_nil_iff]
    intro n hn
    exact fnIdsOf_basic _ (hbasic n hn)
  have hfnIds : fnIds (funToC17 env Φ P).nodes = fnIdsOf (funConsts P.funs 0 P.main) := by
    show fnIds (_ :: funNodes env Φ P.funs 0 P.funs) = _
    unfold fnIds at hfn0 ⊢
    rw [List.flatMap_cons, hfn0, List.append_nil]
    rfl
  refine ⟨by simp [funToC17], ?_, ?_, ?_, ?_, ?_, ?_, ?_, ?_, ?_⟩
  · exact flattenOrder_flat _ _ rfl hpar
  · show (_ :: funNodes env Φ P.funs 0 P.funs).Pairwise _
    rw [List.pairwise_cons]
    refine ⟨?_, funNodes_ids env Φ P.funs P.funs 0⟩
    intro n hn
    obtain ⟨i, fc, _, rfl, _⟩ := hfs n hn
    exact childId_ne_main i
  · intro n hn
    rcases List.mem_cons.mp hn with rfl | hn
    · simp [mainNode, mainName]
    · obtain ⟨i, fc, _, rfl, _⟩ := hfs n hn
      simp [funNode, childId, mainName]
  · show parentsOK (_ :: funNodes env Φ P.funs 0 P.funs) 0 = true
    simp only [parentsOK, mainNode, Bool.true_and]
    exact parentsOK_flat _ hpar 1 (by omega)
  · intro n hn
    rcases List.mem_cons.mp hn with rfl | hn
    · exact root_present env
    · obtain ⟨i, fc, _, rfl, _⟩ := hfs n hn
      exact funTable_present env i
  · rw [hfnIds]; exact funConsts_fnIds_nodup P.funs P.main 0
  · show (_ :: funNodes env Φ P.funs 0 P.funs).Pairwise _
    rw [List.pairwise_cons]
    exact ⟨fun _ _ => .inl rfl, funNodes_fids env Φ P.funs P.funs 0⟩
  · intro n hn c hc
    rcases List.mem_cons.mp hn with rfl | hn
    · rcases funConsts_mem P.funs P.main 0 c hc with ⟨b, rfl⟩ | ⟨i, _, hi, rfl⟩
      · rfl
      · have hi' : i < P.funs.length := by omega
        have hget : (funToC17 env Φ P).nodes[i + 1]? = some (funNode env Φ P.funs i P.funs[i]) := by
          show (_ :: funNodes env Φ P.funs 0 P.funs)[i + 1]? = _
          rw [List.getElem?_cons_succ, funNodes_getElem, List.getElem?_eq_getElem hi']
          simp
        simp only [linkOK, hget]
        simp [funcDefOf, funNode, dec_ne_nil]
    · obtain ⟨b, rfl⟩ := hbasic n hn c hc
      rfl
  · intro n hn hne
    rcases List.mem_cons.mp hn with rfl | hn
    · exact absurd rfl hne
    · obtain ⟨i, fc, hi, rfl, _⟩ := hfs n hn
      rw [hfnIds]
      exact funConsts_fnIds_all P.funs P.main 0 i (by omega) (by omega)

/-- **The compiler's output is well-formed (F4): every code object of `Fun.compFun p`, children
    included.**  For every program `p` of the function fragment and every environment (source
    texts, symbol-table contents, the tree of block and function tables and which child each
    function got, order of globals) the embedded tree — the main code and one code object per
    function — satisfies `WF`: Flatten order, unique code ids `__main__.k`, parents first, every
    table present, unique function ids, every function constant linked to the code object that
    names it, every code object's function registered.  By structural induction over the
    compiler functions (`noLoads`, `main_loads`, `compFnStmts_noLoads`). -/
theorem fun_compile_wf (env : Env) (p : N) (h : Fun.inFun p = true) : WF (funProg env p) :=
  funToC17_wf env _ _ (compFun_loads p h).1 (compFun_loads p h).2

/-- **Round trip without the `WF` hypothesis (F4)**, under the two decidable guards of the known
    findings (no function called `__main__`; strings valid UTF-8). -/
theorem fun_roundtrip (env : Env) (p : N) (h : Fun.inFun p = true)
    (hn : NamedConsistent (funProg env p) = true) (hu : ValidUtf8Consts (funProg env p) = true) :
    unmarshal (marshal (funProg env p)) = .ok (funProg env p) :=
  C17_partial_roundtrip _ (fun_compile_wf env p h) hn hu

/-- the same for the execution view and any function of it (what the VM computes) -/
theorem fun_roundtrip_run {Outcome : Type} (run : View → Outcome) (env : Env) (p : N)
    (h : Fun.inFun p = true) (hn : NamedConsistent (funProg env p) = true)
    (hu : ValidUtf8Consts (funProg env p) = true) :
    ∃ q, unmarshal (marshal (funProg env p)) = .ok q ∧ run (execView q) = run (execView (funProg env p)) :=
  C17_partial_run_congr run _ (fun_compile_wf env p h) hn hu

/-- **Reload never fails (F4)** for valid UTF-8 strings, functions called `__main__` included:
    the result is the program with `isNamed` recomputed from the names. -/
theorem fun_reload_total (env : Env) (p : N) (h : Fun.inFun p = true)
    (hu : ValidUtf8Consts (funProg env p) = true) :
    unmarshal (marshal (funProg env p)) =
      .ok { nodes := (funProg env p).nodes.map renamed, table := (funProg env p).table } :=
  C17_unmarshal_total_on_image _ (fun_compile_wf env p h) hu

/-! ### the hypotheses are satisfiable -/

/-- `x := 1; x + 2` -/
def exFrag : N := .prog (.cons (.var "x" (.int 1)) (.cons (.expr (.infix .add (.id "x") (.int 2))) .nilL))

/-- `func f(a) { return a }; g := func(b) { b }; f(1)` -/
def exFun : N :=
  .prog (.cons (.expr (.func "f" (.cons (.param "a" .none_) .nilL) (.block (.cons (.return_ (.id "a")) .nilL))))
    (.cons (.var "g" (.func "" (.cons (.param "b" .none_) .nilL) (.block (.cons (.expr (.id "b")) .nilL))))
      (.cons (.expr (.call (.id "f") (.cons (.int 1) .nilL))) .nilL)))

def exEnv : Env :=
  { source := [], funSources := [], globalNames := ["f", "g", "x"], syms := [], byName := [], free := [],
    kids := [.mk (rootId ++ [46, 48]) [] [] [] false [], .mk (rootId ++ [46, 49]) [] [] [] false []],
    funTablePos := [0, 1] }

example : Frag.inFrag exFrag = true := by decide +kernel
example : Fun.inFun exFun = true := by decide +kernel
example : WF (fragToC17 exEnv (Frag.compF exFrag)) := frag_compile_wf exEnv exFrag (by decide +kernel)
example : WF (funProg exEnv exFun) := fun_compile_wf exEnv exFun (by decide +kernel)
example : (funProg exEnv exFun).nodes.length = 3 := by decide +kernel
example : (funProg exEnv exFun).nodes.map (·.parent) = [none, some 0, some 0] := by decide +kernel
example : (funProg exEnv exFun).nodes.map (·.isNamed) = [false, true, false] := by decide +kernel
example (hn : NamedConsistent (funProg exEnv exFun) = true) (hu : ValidUtf8Consts (funProg exEnv exFun) = true) :
    unmarshal (marshal (funProg exEnv exFun)) = .ok (funProg exEnv exFun) :=
  fun_roundtrip exEnv exFun (by decide +kernel) hn hu

end Risor.C17.FragWF
