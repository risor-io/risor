import RisorModel.C17.Model
import RisorModel.C17.FragWF
import RisorModel.Generated.C17
/-!
C17 ties: the JSON schema regenerated from compiler/store.go on this run against the schema
the model (and the oracle's rendering of `marshal`) was written from.  Dropping or renaming
a serialised field, changing an `omitempty`, a type tag, the set of fields copied by
stateFromCode/codeFromState/definitionFrom…/…FromDefinition, the expression `isNamed` is
recomputed from, or the places that give a code object its name breaks exactly one lemma below.
-/
namespace Risor.C17

/-- every struct of store.go: fields, json names, omitempty — as the model renders them -/
theorem store_schema_matches : Risor.Generated.C17.schema = schema := rfl

/-- the type tags written by marshalConstant / read by unmarshalConstant -/
theorem marshal_tags_match : Risor.Generated.C17.marshalTags = marshalTags := rfl
theorem unmarshal_tags_match : Risor.Generated.C17.unmarshalTags = unmarshalTags := rfl

/-- every tag the marshaller writes is understood by the unmarshaller -/
theorem tags_closed : ∀ t ∈ Risor.Generated.C17.marshalTags, t ∈ Risor.Generated.C17.unmarshalTags := by decide +kernel

/-- stateFromCode fills exactly these codeDef fields: all nine of the struct (model: `defOf`) -/
theorem codeDef_fields_match : Risor.Generated.C17.codeDefFields =
    ["Constants", "FunctionID", "ID", "Instructions", "Name", "Names", "ParentID", "Source", "SymbolTableID"] := rfl

/-- codeFromState sets exactly these Code fields (model: `mkNode`); `filename`, `children`
    (appended afterwards) and the compile-time fields are not among them -/
theorem code_fields_match : Risor.Generated.C17.codeFields =
    ["constants", "functionID", "id", "instructions", "isNamed", "name", "names", "parent", "source", "symbols"] := rfl

/-- `isNamed: c.Name != "" && c.Name != "__main__"` (model: `mkNode`, `mainName`) -/
theorem isNamed_expr_matches :
    Risor.Generated.C17.isNamedOps = ["&&", "!=", ".Name", "!=", ".Name"] ∧
    Risor.Generated.C17.isNamedLits = ["", "__main__"] ∧
    mainName = "__main__".toList.map Char.toNat := by decide +kernel

/-- functions: id, name, parameters, defaults both ways (model: `FuncDef`) -/
theorem function_fields_match :
    Risor.Generated.C17.functionDefFields = ["Defaults", "ID", "Name", "Parameters"] ∧
    Risor.Generated.C17.functionOptsFields = ["Defaults", "ID", "Name", "Parameters"] := by decide +kernel

/-- symbol tables and symbols both ways (model: `Table`, `Sym`; `Value` is always nil in
    compiled code, which the harness checks) -/
theorem symbol_fields_match :
    Risor.Generated.C17.symbolTableDefFields = ["Children", "Free", "ID", "IsBlock", "Symbols", "SymbolsByName"] ∧
    Risor.Generated.C17.symbolTableFields = ["freeByName", "id", "isBlock", "symbols", "symbolsByName"] ∧
    Risor.Generated.C17.symbolDefFields = ["Index", "IsConstant", "Name", "Value"] ∧
    Risor.Generated.C17.symbolFields = ["index", "isConstant", "name", "value"] := by decide +kernel

/-- **Who gives a code object its name.**  In package compiler a `Code` gets `name` and
    `isNamed` in three places only, all of them composite literals: `newChild` (`name` = its
    argument, `isNamed: name != ""` — model `nameOK`, non-root case), `New` (the root: the
    literal `"__main__"`, `isNamed` left false — `nameOK`, root case) and `codeFromState`
    (`mkNode`).  Nothing assigns to a field called `name` or `isNamed` afterwards, so in
    compiled code a code object carries a name exactly when it is a named function
    (`CompileNames`), which is what makes the recomputed `isNamed` the original one
    (`compileNames_guard_exact`, `C17_partial_compiled`). -/
theorem codeNameWrites_tie :
    Risor.Generated.C17.codeLits =
      [("newChild", "ident", "( $name != \"\" )"), ("New", "lit:\"__main__\"", "absent"),
       ("codeFromState", "sel:.Name", "( ( $name != \"\" ) && ( $name != \"__main__\" ) )")]
    ∧ Risor.Generated.C17.codeNameAssigns = [] := by decide +kernel

/-- **The fields of `Code` the file carries** (sorted): `parent` as `parent_id`, `symbols` as
    `symbol_table_id`, the rest under their own json names. -/
def serialisedCodeFields : List String :=
  ["constants", "functionID", "id", "instructions", "name", "names", "parent", "source", "symbols"]

/-- **The fields of `Code` the file does not carry** (reviewed list, in source order):
    `isNamed` is recomputed from the name on reload, `children` are rebuilt from the parent ids
    (and the code list is written in `Flatten` order), `filename` is dropped, `loops` and
    `pipeActive` are used during compilation only. -/
def notSerialisedCodeFields : List String := ["isNamed", "children", "filename", "loops", "pipeActive"]

/-- every field of `type Code struct` in compiler/code.go, in source order: a field added,
    removed or renamed breaks this tie and has to be placed in one of the two lists above -/
theorem code_struct_fields_tie :
    Risor.Generated.C17.codeStructFields =
      ["id", "name", "isNamed", "parent", "children", "symbols", "instructions", "constants",
       "names", "source", "functionID", "filename", "loops", "pipeActive"] := rfl

/-- the fields of `Code` that stateFromCode does not read are exactly the reviewed list; the ones
    it reads (apart from the call of `Flatten`) are exactly the serialised ones; and `Flatten`
    reads `children` only -/
theorem code_fields_not_serialised_tie :
    Risor.Generated.C17.codeStructFields.filter
        (fun f => !Risor.Generated.C17.stateFromCodeReads.contains f) = notSerialisedCodeFields
    ∧ Risor.Generated.C17.stateFromCodeReads.filter (· ≠ "Flatten()") = serialisedCodeFields
    ∧ Risor.Generated.C17.flattenReads = ["children"] := by decide +kernel

/-- the two lists partition the struct: together they are all fourteen fields, none twice -/
theorem code_fields_partition_tie :
    (∀ f ∈ Risor.Generated.C17.codeStructFields,
        (f ∈ serialisedCodeFields) ≠ (f ∈ notSerialisedCodeFields))
    ∧ (serialisedCodeFields ++ notSerialisedCodeFields).length =
        Risor.Generated.C17.codeStructFields.length := by decide +kernel

/-- what an accessor of `*Code` reads, from the generated table; an unknown method reads the
    pseudo field `?M` so that it cannot pass a tie unnoticed -/
def accessorReads (m : String) : List String :=
  (Risor.Generated.C17.codeAccessors.lookup m).getD ["?" ++ m]

/-- the same with the `M()` entries (a method of `*Code` used by the accessor) resolved one
    level through the table; the entry of the method itself is dropped (`Flatten` recursing on
    the children), any other entry that is not in the table (`f(recv)`, a second level) is kept
    as it is -/
def accessorReadsResolved (m : String) : List String :=
  (accessorReads m).flatMap fun e =>
    match Risor.Generated.C17.codeAccessors.find? (fun p => p.1 ++ "()" == e) with
    | some (m', reads) => if m' = m then [] else reads
    | none => [e]

/-- **The fields of `Code` the VM can read**: the union, de-duplicated in order of first
    occurrence, of what the accessors in `vmCodeMethods` read (package vm has no other access:
    the fields are unexported). -/
def vmReadFields : List String :=
  (Risor.Generated.C17.vmCodeMethods.flatMap accessorReadsResolved).eraseDups

/-- **What execution reads of a code object is in the file, or recomputed.**  Package vm uses
    eleven methods of `*compiler.Code` (`Root` and `IsNamed` among them; not `Filename`, not
    `Flatten`, not `Parent`, not `MarshalJSON`); through them it reads `constants`, `symbols`,
    `instructions`, `isNamed`, `names` and `parent` and nothing else.  Five of these are
    serialised.  The only not-serialised field the VM reads is `isNamed`, and that one is covered
    by the model's recomputation (`mkNode`, `reload_isNamed_from_name`).  `children` is not read
    by the VM at all (only by `Flatten`, i.e. by the serialiser: `stateFromCode_code_order`,
    `marshal_code_order`), and `filename` is neither serialised nor read during execution: vm
    never calls `Filename()`.  The first conjunct is the weaker statement that would also allow
    `children` and `filename`; the others say exactly what is read today. -/
theorem vm_reads_are_serialised_tie :
    (∀ f ∈ vmReadFields, f ∈ serialisedCodeFields ++ ["isNamed", "children", "filename"])
    ∧ Risor.Generated.C17.vmCodeMethods =
        ["Constant", "ConstantsCount", "Global", "GlobalNames", "Instruction", "InstructionCount",
         "IsNamed", "LocalsCount", "Name", "NameCount", "Root"]
    ∧ vmReadFields = ["constants", "symbols", "instructions", "isNamed", "names", "parent"]
    ∧ vmReadFields.filter (fun f => notSerialisedCodeFields.contains f) = ["isNamed"]
    ∧ "Filename" ∉ Risor.Generated.C17.vmCodeMethods
    ∧ "Flatten" ∉ Risor.Generated.C17.vmCodeMethods := by decide +kernel

/-- **Opcode numbers of the fragment embedding.**  Every opcode number `FragWF.fragWords` /
    `FragWF.funWords` write (`FragWF.opNums`, the reviewed table the two functions were written
    from) is the number op/op.go gives that opcode on this run: renumbering an opcode breaks this
    lemma (and the field-by-field comparison of harness/c17frag.go). -/
theorem frag_opcodes_tie : ∀ e ∈ FragWF.opNums, e ∈ Risor.Generated.C17.opcodes := by decide +kernel

end Risor.C17
