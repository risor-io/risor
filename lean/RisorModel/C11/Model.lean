/-
C11 — executable model of how a risor `Config` builds the global environment a script sees
(risor_config.go: init = applyDefaultGlobals; applyDenylist; applyOverrides;
object/module.go: Module.GetAttr / Override; object/builtin.go: `__module__`;
vm/vm.go: modules importable by name = the globals that are modules) and of what
"reachable" means for a script (graph reachability over identifier / import / attribute /
back-reference edges).

The parts:

* `reach` — a complete reachability procedure on finite labelled graphs.  One run decides
  whether ANY access path (of any length) leads from the roots to a target
  (`Props.reach_sound_complete`).  The harness dumps the REAL object graph of a Config
  and the oracle runs `reach` on it.

* `St`, `denyParts`, `overrideParts`, `initCfg` — the Impl model of `Config.init`:
  `resolveImpl` reproduces `resolveModule` as repaired in /repo (a cursor that descends one
  module per path component); `resolveSpec` is what the property demands (descend component
  by component) and `Lemmas.resolveImpl_eq_spec` shows they agree on every path.  The
  resolver as it was BEFORE the repair — every component looked up in the ROOT module — is
  kept as the historical definitions `preFixResolve`, `preFixDenyParts`, `preFixOverrideParts`.

* `Opt`, `applyOpts`, `initFrom` — option sequences as the host writes them (risor_options.go);
  `VM`, `vmRuns` — a reused virtual machine; `addConfig` — a second configuration on the same heap.

* `HOpt`, `HCfg`, `build`, `runBuilds` — the host's Go maps as heap objects with identity,
  `cfg.globals` as a reference, any number of configurations built in one world
  (`adopt = false`: risor_options.go as it is, `WithGlobals` copies; `adopt = true`: contrast).

* `overrideModO`, `initCfgO`, `buildO`, `runBuildsO`, `accessIn` — host OBJECTS (replacement builtins,
  host values) shared between configurations built in one world: `adopt = false` is
  object/module.go as it is (`Module.Override` writes the module's table only, no back-pointer);
  `adopt = true` is the contrast in which Override re-aims the replacement's `Builtin.module`.

* `XOpt`, `XCfg`, `applyXOpts`, `core`, `initFromX` — option sequences that mix the global-related
  options with options writing other Config fields (WithConcurrency, WithFilename, WithOS);
  `initFromXRestoring` is the contrast in which init re-installs missing defaults under a flag.

Object identities are natural numbers; `root = 0` stands for the script's global scope.
Core Lean only.
-/
namespace Risor.C11

abbrev Id := Nat

/-- the script's global scope (source of identifier and import edges) -/
def root : Id := 0

/-- names are byte strings (Go strings), as lists of byte values -/
abbrev Name := List Nat

/-- `__name__` -/
def dunderName : Name := [95, 95, 110, 97, 109, 101, 95, 95]

/-- how a script takes a step: an identifier of the global scope, an `import`, an attribute
    (`x.a`, `getattr(x, "a")`, `from x import a`, container item), or the `__module__`
    back-reference of a builtin -/
inductive Lbl where
  | ident (n : Name)
  | imp (n : Name)
  | attr (n : Name)
  | back
deriving DecidableEq, Repr

structure Edge where
  src : Id
  lbl : Lbl
  dst : Id
deriving DecidableEq, Repr

abbrev Graph := List Edge

/-! ## Reachability -/

/-- edges whose source is already visited -/
def fire (vis : List Id) (es : Graph) : Graph := es.filter fun e => vis.contains e.src

/-- edges whose source is not yet visited -/
def rest (vis : List Id) (es : Graph) : Graph := es.filter fun e => !vis.contains e.src

/-- Round-based closure: every round moves the targets of all edges leaving the visited set
    into the visited set and drops those edges; it stops when no remaining edge leaves the
    visited set.  Each non-final round consumes at least one edge, so `fuel = number of
    edges` always suffices (`Lemmas.reachAux_closed`). -/
def reachAux : Nat → List Id → Graph → List Id
  | 0, vis, _ => vis
  | n + 1, vis, es =>
    if (fire vis es).isEmpty then vis
    else reachAux n (vis ++ (fire vis es).map (·.dst)) (rest vis es)

def reach (g : Graph) (roots : List Id) : List Id := reachAux g.length roots g

def reachable (g : Graph) (roots : List Id) (t : Id) : Bool := (reach g roots).contains t

/-- `IsPath g a p t`: `p` lists the nodes visited after `a`; consecutive nodes are joined by
    an edge of `g`; the walk ends in `t`.  `p` may have any length (0 = stay at `a`). -/
def IsPath (g : Graph) : Id → List Id → Id → Prop
  | a, [], t => a = t
  | a, b :: p, t => (∃ e ∈ g, e.src = a ∧ e.dst = b) ∧ IsPath g b p t

/-! ## Tables (Go maps with string keys) -/

abbrev Table := List (Name × Id)

def tget : Table → Name → Option Id
  | [], _ => none
  | (k, v) :: t, n => if k = n then some v else tget t n

/-- `delete(m, n)` -/
def terase (t : Table) (n : Name) : Table := t.filter fun kv => kv.1 != n

/-- `m[n] = v` for a key that is present -/
def treplace (t : Table) (n : Name) (v : Id) : Table :=
  t.map fun kv => if kv.1 = n then (kv.1, v) else kv

/-- `m[n] = v` -/
def tput (t : Table) (n : Name) (v : Id) : Table :=
  if (tget t n).isSome then treplace t n v else t ++ [(n, v)]

/-- Go `strings.Split(name, ".")` on bytes ('.' = 46); always at least one component -/
def splitDots : Name → List Name
  | [] => [[]]
  | c :: cs =>
    if c = 46 then [] :: splitDots cs
    else match splitDots cs with
      | [] => [[c]]
      | h :: t => (c :: h) :: t

/-! ## Config state -/

/-- `globals`: Config.globals (name ↦ object).  `mods`: the heap of module objects, each
    with its `builtins` attribute table (edited in place by `Module.Override`).
    `back`: the immutable `Builtin.module` back-pointer of every builtin (builtin ↦ its
    module, or ↦ the `nil` object when it has none), observable as `__module__`. -/
structure St where
  globals : Table
  mods : List (Id × Table)
  back : List (Id × Id)
deriving Repr, DecidableEq

def mtable : List (Id × Table) → Id → Option Table
  | [], _ => none
  | (i, t) :: r, m => if i = m then some t else mtable r m

def St.table (st : St) (m : Id) : Option Table := mtable st.mods m

def St.isModule (st : St) (m : Id) : Bool := (st.table m).isSome

def bget : List (Id × Id) → Id → Option Id
  | [], _ => none
  | (k, v) :: t, n => if k = n then some v else bget t n

def modsUpdate (mods : List (Id × Table)) (m : Id) (f : Table → Table) : List (Id × Table) :=
  mods.map fun it => if it.1 = m then (it.1, f it.2) else it

/-- the table edit of `Override`: delete (`none`) or replace (`some x`) -/
def editTable (a : Name) (v : Option Id) (t : Table) : Table :=
  match v with
  | none => terase t a
  | some x => treplace t a x

/-- `Module.Override(name, value)`; `v = none` is Override(name, nil) = delete.
    `__name__` is refused; a name that is not a current attribute is refused (the error is
    ignored by the callers in risor_config.go). -/
def overrideMod (st : St) (m : Id) (name : Name) (v : Option Id) : St :=
  if name = dunderName then st
  else match st.table m with
    | none => st
    | some t =>
      if (tget t name).isSome then
        { st with mods := modsUpdate st.mods m (editTable name v) }
      else st

/-- `Module.GetAttr(name)` when the result is itself a module -/
def memberModule (st : St) (m : Id) (n : Name) : Option Id :=
  if n = dunderName then none
  else match st.table m with
    | none => none
    | some t =>
      match tget t n with
      | some x => if st.isModule x then some x else none
      | none => none

/-- the loop of `resolveModule` (risor_config.go) as repaired ("fix: resolve a nested module
    path by descending one module per component"): `cur` is the module found so far (Go:
    `result`, which starts at the root module `m`); each component is looked up in `cur` and the
    module found becomes the next `cur` -/
def resolveLoop (st : St) : Id → List Name → Option Id
  | cur, [] => some cur
  | cur, n :: ns =>
    match memberModule st cur n with
    | some x => resolveLoop st x ns
    | none => none

/-- `resolveModule(m, path)` as the code is (the `len(attr) == 0` early return, then the loop) -/
def resolveImpl (st : St) (m : Id) (path : List Name) : Option Id :=
  match path with
  | [] => some m
  | _ => resolveLoop st m path

/-- HISTORICAL (before the repair): the loop of `resolveModule` looked every component up in
    the ROOT module `m`; the last hit was returned -/
def preFixResolveLoop (st : St) (m : Id) : List Name → Option Id → Option Id
  | [], r => r
  | n :: ns, _ =>
    match memberModule st m n with
    | some x => preFixResolveLoop st m ns (some x)
    | none => none

/-- HISTORICAL: `resolveModule(m, path)` as the code was before the repair (recorded finding
    C11-nested-module-path; `Props.C11_fixed_nested_deny_was_ignored`) -/
def preFixResolve (st : St) (m : Id) (path : List Name) : Option Id :=
  match path with
  | [] => some m
  | _ => preFixResolveLoop st m path none

/-- what "the nested module named by `path`" means: descend one component at a time -/
def resolveSpec (st : St) (m : Id) : List Name → Option Id
  | [] => some m
  | n :: ns =>
    match memberModule st m n with
    | some x => resolveSpec st x ns
    | none => none

/-- (all but last, last) of a non-empty list -/
def splitLast : List Name → Option (List Name × Name)
  | [] => none
  | [x] => some ([], x)
  | x :: y :: r =>
    match splitLast (y :: r) with
    | some (i, l) => some (x :: i, l)
    | none => none

/-- the member edit shared by applyDenylist (v = none) and applyOverrides (v = some _) for a
    dotted name `mname.attr…`, parametrised by the module-path resolver -/
def editMember (resolve : St → Id → List Name → Option Id)
    (st : St) (mname : Name) (attr : List Name) (v : Option Id) : St :=
  match tget st.globals mname with
  | none => st
  | some m =>
    if st.isModule m then
      match splitLast attr with
      | none => st
      | some (mp, last) =>
        match resolve st m mp with
        | some tm => overrideMod st tm last v
        | none => st
    else st

/-- one denylist entry; `parts` = the name split on "." -/
def denyWith (resolve : St → Id → List Name → Option Id) (st : St) : List Name → St
  | [] => st
  | [n] => { st with globals := terase st.globals n }
  | mname :: attr => editMember resolve st mname attr none

/-- one overrides entry -/
def overrideWith (resolve : St → Id → List Name → Option Id) (st : St) (parts : List Name)
    (v : Id) : St :=
  match parts with
  | [] => st
  | [n] => { st with globals := tput st.globals n v }
  | mname :: attr => editMember resolve st mname attr (some v)

def denyParts := denyWith resolveImpl
def overrideParts := overrideWith resolveImpl
def denySpec := denyWith resolveSpec
def overrideSpec := overrideWith resolveSpec
/-- HISTORICAL: one denylist / overrides entry as applied before the repair -/
def preFixDenyParts := denyWith preFixResolve
def preFixOverrideParts := overrideWith preFixResolve

/-- applyDefaultGlobals: defaults are written OVER whatever the options put into
    cfg.globals, unless WithoutDefaultGlobals -/
def mergeDefaults (without : Bool) (host dflt : Table) : Table :=
  if without then host else dflt.foldl (fun g kv => tput g kv.1 kv.2) host

/-- `Config.init`: denylist first, overrides second (in the iteration order given) -/
def initCfg (st : St) (denies : List (List Name)) (ovs : List (List Name × Id)) : St :=
  ovs.foldl (fun s pv => overrideParts s pv.1 pv.2) (denies.foldl denyParts st)

def initSpec (st : St) (denies : List (List Name)) (ovs : List (List Name × Id)) : St :=
  ovs.foldl (fun s pv => overrideSpec s pv.1 pv.2) (denies.foldl denySpec st)

/-! ## The graph a script can walk -/

def identEdges (g : Table) : Graph := g.map fun kv => ⟨root, .ident kv.1, kv.2⟩

/-- vm.go: every global that is a module is importable under its global name -/
def importEdges (st : St) : Graph :=
  (st.globals.filter fun kv => st.isModule kv.2).map fun kv => ⟨root, .imp kv.1, kv.2⟩

def memberEdges (mods : List (Id × Table)) : Graph :=
  mods.flatMap fun it => it.2.map fun kv => ⟨it.1, .attr kv.1, kv.2⟩

def backEdges (back : List (Id × Id)) : Graph := back.map fun bm => ⟨bm.1, .back, bm.2⟩

def graphOf (st : St) : Graph :=
  identEdges st.globals ++ importEdges st ++ memberEdges st.mods ++ backEdges st.back

/-- the object registered under a dotted name in `st` (proper, descending resolution) -/
def target (st : St) : List Name → Option Id
  | [] => none
  | [n] => tget st.globals n
  | mname :: attr =>
    match tget st.globals mname with
    | none => none
    | some m =>
      match splitLast attr with
      | none => none
      | some (mp, last) =>
        match resolveSpec st m mp with
        | some tm => if last = dunderName then none else (st.table tm).bind fun t => tget t last
        | none => none

/-- a dotted name with two or more intermediate module components (`a.b.c.f`): the only shape
    on which the pre-fix resolver `preFixResolve` and `resolveSpec` differed (it was the guard of
    the repaired finding C11-nested-module-path; no theorem about the code as it is carries it
    any more — the oracle still reports it so that the harness can count such names) -/
def deepName (parts : List Name) : Bool := decide (4 ≤ parts.length)

/-! ## Script access attempts on the skeleton -/

/-- `__module__` -/
def dunderModule : Name := [95, 95, 109, 111, 100, 117, 108, 101, 95, 95]

/-- one attribute step as a script performs it (`x.a`, `getattr(x, "a")`): a module member,
    or the `__module__` back-reference of a builtin.  `none` = the access fails. -/
def attrStep (st : St) (x : Id) (a : Name) : Option Id :=
  match st.table x with
  | some t => if a = dunderName then none else tget t a
  | none => if a = dunderModule then bget st.back x else none

/-- `first` = identifier (`imp = false`) or `import first` (`imp = true`), then attributes -/
def access (st : St) (imp : Bool) (first : Name) (attrs : List Name) : Option Id :=
  let start : Option Id :=
    match tget st.globals first with
    | some x => if imp && !st.isModule x then none else some x
    | none => none
  attrs.foldl (fun cur a => cur.bind fun x => attrStep st x a) start

/-- freshness of two configs' object sets (identity disjointness, exempt ids removed) -/
def sharedIds (a b exempt : List Id) : List Id :=
  a.filter fun x => b.contains x && !exempt.contains x

/-! ## Option sequences (risor_options.go) -/

/-- one configuration option as the host writes it.  `WithGlobals(m)` is one `withGlobal`
    per entry, `WithoutGlobals(ns…)` one `without` per name. -/
inductive Opt where
  | withGlobal (n : Name) (v : Id)
  | without (n : Name)
  | override (n : Name) (v : Id)
  | noDefaults
deriving DecidableEq, Repr

/-- the fields of `Config` the options write before `init` runs -/
structure Cfg where
  globals : Table
  denylist : List Name
  overrides : Table
  noDefaults : Bool
deriving Repr, DecidableEq

def Cfg.empty : Cfg := ⟨[], [], [], false⟩

/-- the option functions of risor_options.go as they are: every one writes its own field,
    none looks at what an earlier option did -/
def applyOpt (c : Cfg) : Opt → Cfg
  | .withGlobal n v => { c with globals := tput c.globals n v }
  | .without n => { c with denylist := if c.denylist.contains n then c.denylist else c.denylist ++ [n] }
  | .override n v => { c with overrides := tput c.overrides n v }
  | .noDefaults => { c with noDefaults := true }

/-- `NewConfig(opts...)` before `init` -/
def applyOpts (opts : List Opt) : Cfg := opts.foldl applyOpt Cfg.empty

/-- `Config.init` on the fields the options left, with the iteration orders of the two Go maps
    (`ds` enumerates the denylist, `os` the overrides) as parameters -/
def initFrom (c : Cfg) (dflt : Table) (mods : List (Id × Table)) (back : List (Id × Id))
    (ds : List Name) (os : Table) : St :=
  initCfg ⟨mergeDefaults c.noDefaults c.globals dflt, mods, back⟩
    (ds.map splitDots) (os.map fun kv => (splitDots kv.1, kv.2))

/-- the same with descending module-path resolution (what the property demands) -/
def initFromSpec (c : Cfg) (dflt : Table) (mods : List (Id × Table)) (back : List (Id × Id))
    (ds : List Name) (os : Table) : St :=
  initSpec ⟨mergeDefaults c.noDefaults c.globals dflt, mods, back⟩
    (ds.map splitDots) (os.map fun kv => (splitDots kv.1, kv.2))

/-- `ds` enumerates the set `s` (any order, repetitions allowed) -/
def EnumSet (s ds : List Name) : Prop := ∀ x, x ∈ ds ↔ x ∈ s

/-- `os` enumerates the map `m`: every entry of `os` is the entry of its key in `m`, and every
    key of `m` occurs (any order) — what ranging over a Go map yields -/
def EnumMap (m os : Table) : Prop :=
  (∀ kv ∈ os, tget m kv.1 = some kv.2) ∧ (∀ k v, tget m k = some v → (k, v) ∈ os)

/-- a name without '.' : it denotes a top-level global -/
def undotted (n : Name) : Bool := decide (splitDots n = [n])

/-- the override in force for the exact name `n` after the whole sequence: the LAST
    `WithGlobalOverride(n, ·)` (`Props.lastOverride_append`) -/
def lastOverride (opts : List Opt) (n : Name) : Option Id := tget (applyOpts opts).overrides n

/-- some `WithoutGlobal(n)` occurs in the sequence -/
def deniedIn (opts : List Opt) (n : Name) : Bool := opts.contains (.without n)

/-- the value the host supplied for `n` with WithGlobal(s) AFTER its last `WithoutGlobal(n)` -/
def hostAfterDeny (opts : List Opt) (n : Name) : Option Id :=
  opts.foldl (fun acc o =>
    match o with
    | .without m => if m = n then none else acc
    | .withGlobal m v => if m = n then some v else acc
    | _ => acc) none

/-- **Spec for option sequences** (top-level name `n`, final binding `b`):
    * an override in force is what the name is bound to;
    * otherwise, if the host denied `n` anywhere in the sequence, the name is unbound — or, at
      most, bound to what the host itself supplied under `n` after the last denial ("last
      explicit decision wins"); in particular it is never the default object and never a
      value supplied before the denial;
    * names the host neither denied nor overrode are not constrained by this property. -/
def allowedTop (opts : List Opt) (n : Name) (b : Option Id) : Bool :=
  match lastOverride opts n with
  | some v => b == some v
  | none => if deniedIn opts n then (b == none || b == hostAfterDeny opts n) else true

/-! ## A reused virtual machine (vm/vm.go: applyOptions, RunCode, resetForNewCode) -/

/-- `inputGlobals` only ever grows; `globals` is re-converted from it by every
    `applyOptions`; `modules` are the importable names; `runs` = `startCount` -/
structure VM where
  input : Table
  globals : Table
  modules : Table
  runs : Nat
deriving Repr, DecidableEq

/-- `vm.NewEmpty()` -/
def VM.empty : VM := ⟨[], [], [], 0⟩

def putAll (t g : Table) : Table := g.foldl (fun t kv => tput t kv.1 kv.2) t

def isMod (mods : List (Id × Table)) (x : Id) : Bool := (mtable mods x).isSome

/-- `applyOptions(cfg.VMOpts())`: the configuration's globals are written over
    `inputGlobals`, ALL of `inputGlobals` becomes `globals`, every global that is a module
    becomes importable -/
def vmApply (mods : List (Id × Table)) (vm : VM) (g : Table) : VM :=
  let input := putAll vm.input g
  { vm with input := input, globals := input,
            modules := putAll vm.modules (input.filter fun kv => isMod mods kv.2) }

/-- `RunCode` up to the first instruction: `applyOptions`, `start` (startCount++), and
    `resetForNewCode` — which empties `modules` — on every start but the first -/
def vmBegin (mods : List (Id × Table)) (vm : VM) (g : Table) : VM :=
  let v := vmApply mods vm g
  { v with runs := v.runs + 1, modules := if v.runs = 0 then v.modules else [] }

/-- what a script obtains in a run that was compiled against configuration `g` (the compiler
    knows exactly the names of `g`; `LoadGlobal` reads `vm.globals` by name; `import` reads
    `vm.modules`), then attribute steps on the heap -/
def vmAccess (mods : List (Id × Table)) (back : List (Id × Id)) (vm : VM) (g : Table)
    (imp : Bool) (first : Name) (attrs : List Name) : Option Id :=
  let h : St := ⟨[], mods, back⟩
  let start : Option Id :=
    if imp then tget vm.modules first
    else if (tget g first).isSome then tget vm.globals first else none
  attrs.foldl (fun cur a => cur.bind fun x => attrStep h x a) start

/-- one evaluation as `risor.Eval(…, WithVM(vm))` performs it: the source is compiled against the
    configuration first; an identifier the configuration does not bind is a COMPILE error and
    the VM is not touched; otherwise `RunCode` -/
def vmEval (mods : List (Id × Table)) (back : List (Id × Id)) (vm : VM) (g : Table)
    (imp : Bool) (first : Name) (attrs : List Name) : VM × Option Id :=
  if !imp && (tget g first).isNone then (vm, none)
  else (vmBegin mods vm g, vmAccess mods back (vmBegin mods vm g) g imp first attrs)

/-- a history of runs on one VM: each with the heap as it was then and its configuration -/
def vmRuns (vm : VM) (hist : List (List (Id × Table) × Table)) : VM :=
  hist.foldl (fun v h => vmBegin h.1 v h.2) vm

/-- `g` is a map: every entry is THE entry of its key -/
def IsMap (g : Table) : Prop := ∀ k v, (k, v) ∈ g → tget g k = some v

/-! ## A second configuration on the same heap -/

/-- building another Config allocates new modules and new builtins (with their
    back-pointers); nothing that exists is written -/
def addConfig (st : St) (newMods : List (Id × Table)) (newBack : List (Id × Id)) : St :=
  { st with mods := st.mods ++ newMods, back := st.back ++ newBack }

/-! ## Host-owned inputs shared between configurations (risor_options.go: WithGlobals)

The host's Go maps are OBJECTS WITH IDENTITY: the same map value may be handed to
`risor.WithGlobals` in several option sequences (several Configs / evaluations, one after the
other or at the same time).  `heap` holds them (`mtable heap h` = the entries of map `h`; an
identity that is not in the heap is the nil map).  A Config's `globals` field is a REFERENCE:
either the map `NewConfig` allocated (`gref = none`, contents in `c.globals`) or — only in the
contrast variant `adopt = true` — the host's own map (`gref = some h`).  Every write to
`cfg.globals` (the option functions, `applyDefaultGlobals`, `applyDenylist`, `applyOverrides`)
goes through that reference. -/

/-- an option as the host writes it; `globalsMap h` = `WithGlobals(m)` with `m` the host map of
    identity `h` -/
inductive HOpt where
  | globalsMap (h : Id)
  | opt (o : Opt)
deriving DecidableEq, Repr

/-- a Config under construction, next to the host's maps -/
structure HCfg where
  heap : List (Id × Table)
  gref : Option Id
  c : Cfg
deriving Repr, DecidableEq

/-- the map `cfg.globals` refers to -/
def HCfg.globals (s : HCfg) : Table :=
  match s.gref with
  | none => s.c.globals
  | some h => (mtable s.heap h).getD []

/-- a write through `cfg.globals`: into the Config's own map, or into the host's -/
def HCfg.setGlobals (s : HCfg) (t : Table) : HCfg :=
  match s.gref with
  | none => { s with c := { s.c with globals := t } }
  | some h => { s with heap := modsUpdate s.heap h (fun _ => t) }

/-- the option functions.  `adopt = false` is risor_options.go AS IT IS: `WithGlobals` ranges over
    the host's map and stores every entry into the map the Config allocated.  `adopt = true` is
    the contrast ("no-copy fast path"): when the Config has no globals yet and the map is not
    nil, the host's map itself becomes `cfg.globals`. -/
def applyHOpt (adopt : Bool) (s : HCfg) : HOpt → HCfg
  | .globalsMap h =>
    match mtable s.heap h with
    | none => s
    | some t =>
      if adopt && s.globals.isEmpty then { s with gref := some h }
      else s.setGlobals (putAll s.globals t)
  | .opt o =>
    match o with
    | .withGlobal n v => s.setGlobals (tput s.globals n v)
    | o => { s with c := applyOpt s.c o }

/-- one request to build a configuration: the option sequence, the FRESH default objects
    `DefaultGlobals()` hands to this Config (table, modules, back-pointers), and the iteration
    orders of its denylist and overrides maps -/
structure Build where
  opts : List HOpt
  dflt : Table
  newMods : List (Id × Table)
  newBack : List (Id × Id)
  ds : List Name
  os : Table
deriving Repr, DecidableEq

/-- everything configurations built in one process share: the host's maps, the heap of module
    objects and the builtins' back-pointers -/
structure World where
  heap : List (Id × Table)
  mods : List (Id × Table)
  back : List (Id × Id)
deriving Repr, DecidableEq

/-- a built Config: where its globals live -/
structure Built where
  gref : Option Id
  own : Table
deriving Repr, DecidableEq

/-- the globals a built Config holds when the host's maps are `heap` (`cfg.Globals()` then) -/
def Built.visible (b : Built) (heap : List (Id × Table)) : Table :=
  match b.gref with
  | none => b.own
  | some h => (mtable heap h).getD []

/-- `NewConfig(opts...)`: fold the options, then `Config.init` on the map `cfg.globals` refers
    to; what `init` leaves in the globals is written back THROUGH the reference -/
def build (adopt : Bool) (w : World) (b : Build) : World × Built :=
  let s := b.opts.foldl (applyHOpt adopt) ⟨w.heap, none, Cfg.empty⟩
  let st := initFrom { s.c with globals := s.globals } b.dflt (w.mods ++ b.newMods)
    (w.back ++ b.newBack) b.ds b.os
  let s' := s.setGlobals st.globals
  (⟨s'.heap, st.mods, st.back⟩, ⟨s'.gref, s'.c.globals⟩)

/-- several configurations built one after the other in one world -/
def runBuilds (adopt : Bool) : World → List Build → World × List Built
  | w, [] => (w, [])
  | w, b :: bs =>
    let r := build adopt w b
    let rs := runBuilds adopt r.1 bs
    (rs.1, r.2 :: rs.2)

/-- the option sequence with every `WithGlobals(m)` spelled out as one `WithGlobal` per entry the
    host's map `m` had in `heap0` (a nil map: nothing) -/
def flatten (heap0 : List (Id × Table)) : List HOpt → List Opt
  | [] => []
  | .globalsMap h :: r =>
    ((mtable heap0 h).getD []).map (fun kv => Opt.withGlobal kv.1 kv.2) ++ flatten heap0 r
  | .opt o :: r => o :: flatten heap0 r

/-- **Spec**: the globals of a configuration are a function of ITS OWN option sequence and of the
    contents the host's maps have as the host wrote them (`heap0`) — `applyOpts`/`initFrom` of
    section "Option sequences" on the flattened sequence; no other configuration, no earlier
    evaluation and no module heap enters -/
def ownGlobals (heap0 : List (Id × Table)) (b : Build) : Table :=
  (initFrom (applyOpts (flatten heap0 b.opts)) b.dflt [] [] b.ds b.os).globals

/-! ## Host OBJECTS shared between configurations (object/module.go: Module.Override;
object/builtin.go: the `module` field)

The value handed to `WithGlobalOverride` (or to `WithGlobal(s)`) is an OBJECT of the host.  A host
creates such a replacement once and installs the same object in any number of configurations
(one per tenant), which differ in what else they deny or override.  The only state of a builtin
function a script can follow is its `Builtin.module` field (`__module__`): `St.back` / `World.back`.
`Module.Override` as it is stores the replacement in the module's table and writes nothing else —
the replacement keeps the back-pointer the host gave it (none: `__module__` is nil).  The contrast
variant ("a replacement becomes a member like any other") re-aims the replacement's back-pointer at
the module being edited; every configuration built later then re-aims the ONE shared field at ITS
module. -/

/-- `builtin.module = m` for the builtin `b`; an object that has no such field (no entry in
    `back`: a module, a string, a container) is left alone -/
def bput (back : List (Id × Id)) (b m : Id) : List (Id × Id) :=
  back.map fun e => if e.1 = b then (e.1, m) else e

/-- `Module.Override(name, value)` finds `name` among the attributes of `m` (and is not refused) -/
def overrideHits (st : St) (m : Id) (name : Name) : Bool :=
  name != dunderName &&
    match st.table m with
    | some t => (tget t name).isSome
    | none => false

/-- `Module.Override(name, value)` with the treatment of the replacement as a parameter.
    `adopt = false` is object/module.go AS IT IS (`overrideMod`: only the table is written).
    `adopt = true` is the contrast: a replacement that is stored also gets `module = m`. -/
def overrideModO (adopt : Bool) (st : St) (m : Id) (name : Name) (v : Option Id) : St :=
  let st' := overrideMod st m name v
  match v with
  | some x => if adopt && overrideHits st m name then { st' with back := bput st'.back x m } else st'
  | none => st'

/-- `editMember` (resolver as repaired) over `overrideModO` -/
def editMemberO (adopt : Bool) (st : St) (mname : Name) (attr : List Name) (v : Option Id) : St :=
  match tget st.globals mname with
  | none => st
  | some m =>
    if st.isModule m then
      match splitLast attr with
      | none => st
      | some (mp, last) =>
        match resolveImpl st m mp with
        | some tm => overrideModO adopt st tm last v
        | none => st
    else st

/-- one overrides entry (`applyOverrides`) over `overrideModO` -/
def overridePartsO (adopt : Bool) (st : St) (parts : List Name) (v : Id) : St :=
  match parts with
  | [] => st
  | [n] => { st with globals := tput st.globals n v }
  | mname :: attr => editMemberO adopt st mname attr (some v)

/-- `Config.init` over `overrideModO` (removals are `Override(name, nil)`: nothing is stored) -/
def initCfgO (adopt : Bool) (st : St) (denies : List (List Name)) (ovs : List (List Name × Id)) : St :=
  ovs.foldl (fun s pv => overridePartsO adopt s pv.1 pv.2) (denies.foldl denyParts st)

/-- `NewConfig(opts...)` in a world (`WithGlobals` copies: risor_options.go as it is) with the
    Override rule as a parameter; `buildO false = build false` (`Lemmas.buildO_false`) -/
def buildO (adoptOv : Bool) (w : World) (b : Build) : World × Built :=
  let s := b.opts.foldl (applyHOpt false) ⟨w.heap, none, Cfg.empty⟩
  let st := initCfgO adoptOv
    ⟨mergeDefaults s.c.noDefaults s.globals b.dflt, w.mods ++ b.newMods, w.back ++ b.newBack⟩
    (b.ds.map splitDots) (b.os.map fun kv => (splitDots kv.1, kv.2))
  let s' := s.setGlobals st.globals
  (⟨s'.heap, st.mods, st.back⟩, ⟨s'.gref, s'.c.globals⟩)

/-- several configurations built one after the other in one world; the result lists, for every
    build, the built Config and the world right after that build -/
def runBuildsO (adoptOv : Bool) : World → List Build → World × List (Built × World)
  | w, [] => (w, [])
  | w, b :: bs =>
    let r := buildO adoptOv w b
    let rs := runBuildsO adoptOv r.1 bs
    (rs.1, (r.2, r.1) :: rs.2)

/-- what a script obtains under a configuration whose globals are `g`, in the world `w` (the
    module heap and the back-pointers as they are THEN — after any number of later builds) -/
def accessIn (w : World) (g : Table) (imp : Bool) (first : Name) (attrs : List Name) : Option Id :=
  access ⟨g, w.mods, w.back⟩ imp first attrs

/-! ## Options that do not speak about globals (WithConcurrency, WithFilename, WithOS, …)

A host combines the options of section "Option sequences" with options that configure something
else.  They write a Config field of their own; `Config.init` as it is reads none of these
fields when it computes the globals (tie `Ties.initReads_tie`). -/

/-- an option sequence as the host writes it: the global-related options plus `flag k` — an
    option that writes only the Config field number `k` (0 `withConcurrency`, 1 `filename`,
    2 `os`, 3 `localImportPath`…; the number only tells the fields apart) -/
inductive XOpt where
  | opt (o : Opt)
  | flag (k : Nat)
deriving DecidableEq, Repr

/-- the Config fields: those of `Cfg` and the set of other fields that were written -/
structure XCfg where
  c : Cfg
  flags : List Nat
deriving Repr, DecidableEq

def applyXOpt (s : XCfg) : XOpt → XCfg
  | .opt o => { s with c := applyOpt s.c o }
  | .flag k => { s with flags := if s.flags.contains k then s.flags else s.flags ++ [k] }

/-- `NewConfig(opts...)` before `init`, all options -/
def applyXOpts (xs : List XOpt) : XCfg := xs.foldl applyXOpt ⟨Cfg.empty, []⟩

/-- the global-related options of a sequence, in order -/
def core : List XOpt → List Opt
  | [] => []
  | .opt o :: r => o :: core r
  | .flag _ :: r => core r

/-- `Config.init` as it is on all the fields: the three steps of `initFrom`; the other fields
    are not consulted -/
def initFromX (x : XCfg) (dflt : Table) (mods : List (Id × Table)) (back : List (Id × Id))
    (ds : List Name) (os : Table) : St :=
  initFrom x.c dflt mods back ds os

/-- CONTRAST (not the code): a last step of `init` that, when field `k` was written, makes sure
    the names `names` are bound by installing the default object of each one that is missing
    from the globals — "so that the feature the flag enables is usable without the defaults".
    A name can be missing because the host removed it (`Props.restoring_flag_defeats_denial`). -/
def initFromXRestoring (k : Nat) (names : List Name) (x : XCfg) (dflt : Table)
    (mods : List (Id × Table)) (back : List (Id × Id)) (ds : List Name) (os : Table) : St :=
  let st := initFrom x.c dflt mods back ds os
  if x.flags.contains k then
    { st with globals := names.foldl (fun g n =>
        match tget g n, tget dflt n with
        | none, some v => tput g n v
        | _, _ => g) st.globals }
  else st

end Risor.C11
