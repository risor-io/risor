import RisorModel.C11.Lemmas
/-!
C11 — property theorems.  "Scripts can reach only the globals the host configuration allows."

The file goes from reachability (`reach` decides reachability by access paths of ANY length, for
every finite graph; the harness runs it on the real object graph of every generated Config) to
the Config model (`St`, `denyParts`, `overrideParts` = risor_config.go as it is): denied names,
overrides — for dotted names of any depth —, independence of configurations, then sequences of
options, a reused virtual machine, configurations built later on the same heap, host-owned maps
and host objects shared between configurations, and options that do not speak about globals.
The variants that adopt the caller's map or the replacement object are refuted next to the
theorems they contrast with.

Before the repair of `resolveModule` in /repo ("fix: resolve a nested module path by descending
one module per component", finding C11-nested-module-path) the deny and override statements were
false for names with two or more intermediate modules: the pre-fix resolver is kept as
`preFixResolve` and the refutations as `C11_fixed_nested_deny_was_ignored` /
`C11_fixed_nested_override_was_ignored`.

All statements quantify over ALL states, names, graphs and paths; nothing is bounded.
-/
namespace Risor.C11

/-! ## 1. reachability is decided completely -/

theorem reach_closed (g : Graph) (roots : List Id) :
    Closed g (reach g roots) ∧ ∀ r ∈ roots, r ∈ reach g roots :=
  reachAux_closed g g.length roots g (fun _ he => Or.inl he) (Nat.le_refl _)

/-- **Soundness and completeness of `reach`.** For every graph `g`, root set and node `t`:
    `t` is in `reach g roots` iff some root is joined to `t` by a path — a list of
    intermediate nodes of ANY length whose consecutive nodes are joined by edges of `g`.
    So one run of `reach` settles every access path, not the paths up to a bound. -/
theorem reach_sound_complete (g : Graph) (roots : List Id) (t : Id) :
    t ∈ reach g roots ↔ ∃ r ∈ roots, ∃ p : List Id, IsPath g r p t := by
  constructor
  · exact reachAux_sound g roots g.length roots g (fun v hv => ⟨v, hv, [], rfl⟩) (fun _ he => he) t
  · rintro ⟨r, hr, p, hp⟩
    exact closed_path g _ (reach_closed g roots).1 r p t ((reach_closed g roots).2 r hr) hp

/-- The Boolean the oracle answers with: `reachable = false` means that NO path of any
    length leads from a root to `t`. -/
theorem unreachable_iff_no_path (g : Graph) (roots : List Id) (t : Id) :
    reachable g roots t = false ↔ ∀ r ∈ roots, ∀ p : List Id, ¬ IsPath g r p t := by
  simp only [reachable, ← Bool.not_eq_true, List.contains_iff_mem, reach_sound_complete,
    not_exists, not_and]

/-- A node that no edge enters and that is not a root is unreachable: the graph-level fact
    behind "removing the only registration makes the object unreachable". -/
theorem no_incoming_unreachable (g : Graph) (roots : List Id) (t : Id) (hr : t ∉ roots)
    (hin : ∀ e ∈ g, e.dst ≠ t) : t ∉ reach g roots := by
  intro h
  obtain ⟨r, hrm, p, hp⟩ := (reach_sound_complete g roots t).1 h
  rcases isPath_last g r p t hp with h1 | ⟨e, he, hd⟩
  · exact hr (h1 ▸ hrm)
  · exact hin e he hd

/-- Removing edges never makes anything new reachable. -/
theorem reach_mono (g g' : Graph) (hsub : ∀ e ∈ g, e ∈ g') (roots : List Id) (t : Id)
    (h : t ∈ reach g roots) : t ∈ reach g' roots := by
  obtain ⟨r, hr, p, hp⟩ := (reach_sound_complete g roots t).1 h
  exact (reach_sound_complete g' roots t).2 ⟨r, hr, p, isPath_mono g g' hsub r p t hp⟩

/-- if the set reachable in `g'` is closed under the edges of `g`, everything reachable in `g`
    is reachable in `g'` -/
theorem reach_subset_of_closed (g g' : Graph) (roots : List Id)
    (hc : Closed g (reach g' roots)) (t : Id) (h : t ∈ reach g roots) : t ∈ reach g' roots := by
  obtain ⟨r, hr, p, hp⟩ := (reach_sound_complete g roots t).1 h
  exact closed_path g _ hc r p t ((reach_closed g' roots).2 r hr) hp

theorem global_reachable (st : St) (k : Name) (x : Id) (h : (k, x) ∈ st.globals) :
    x ∈ reach (graphOf st) [root] :=
  (reach_closed _ _).1 ⟨root, .ident k, x⟩ (ident_edge_mem h)
    ((reach_closed _ _).2 root List.mem_cons_self)

/-- one attribute step (member or `__module__`) from a reachable object ends in a reachable object -/
theorem attrStep_reachable (st : St) (x : Id) (a : Name) (y : Id)
    (hx : x ∈ reach (graphOf st) [root]) (hy : attrStep st x a = some y) :
    y ∈ reach (graphOf st) [root] := by
  obtain ⟨e, he, hs, hd⟩ := attrStep_edge st x a y hy
  exact hd ▸ (reach_closed _ _).1 e he (hs ▸ hx)

/-! ## 2. denied names -/

/-- `t` is registered in `st` under the top-level name `n` and nowhere else: every edge of
    the script-visible graph that enters `t` is the identifier or import edge of `n`
    (no alias under another name, no container holding it, no back-reference). -/
def SoleTop (st : St) (n : Name) (t : Id) : Prop :=
  ∀ e ∈ graphOf st, e.dst = t → e.src = root ∧ (e.lbl = .ident n ∨ e.lbl = .imp n)

/-- `t` is registered in `st` as attribute `a` of module `tm` and nowhere else. -/
def SoleMember (st : St) (tm : Id) (a : Name) (t : Id) : Prop :=
  ∀ e ∈ graphOf st, e.dst = t → e.src = tm ∧ e.lbl = .attr a

theorem foldl_bind_none (f : Id → Name → Option Id) (attrs : List Name) :
    attrs.foldl (fun cur a => cur.bind fun x => f x a) none = none := by
  induction attrs with
  | nil => rfl
  | cons a r ih => exact ih

/-- a name that is not bound resolves neither as an identifier nor as an import, whatever
    attribute chain follows -/
theorem access_unbound (st : St) (imp : Bool) (n : Name) (attrs : List Name)
    (h : tget st.globals n = none) : access st imp n attrs = none := by
  unfold access
  simp only [h]
  exact foldl_bind_none _ attrs

/-- **A denied top-level name.** After `WithoutGlobal(n)` for an undotted `n`, the
    identifier `n` does not resolve and `import n` fails, whatever attribute chain follows:
    for every state, name and chain. -/
theorem deny_top_access_fails (st : St) (n : Name) (imp : Bool) (attrs : List Name) :
    access (denyParts st [n]) imp n attrs = none :=
  access_unbound _ imp n attrs (tget_terase_self st.globals n)

/-- **Unreachability of a denied top-level object.** For every state `st`, name `n` and object
    `t` that is registered only under `n` (`SoleTop`): after `WithoutGlobal(n)` no access
    path of any length leads from the script's global scope to `t` — identifiers, imports,
    attribute chains, getattr and `__module__` back-references included, since all of them
    are edges of `graphOf`. -/
theorem deny_top_unreachable (st : St) (n : Name) (t : Id) (ht : t ≠ root)
    (hs : SoleTop st n t) : t ∉ reach (graphOf (denyParts st [n])) [root] := by
  apply no_incoming_unreachable
  · simpa using ht
  · intro e he hd
    -- an edge into `t` that survived was an edge before, so it is labelled `n`; no edge of the
    -- new graph is: the globals lost `n`, member and back edges carry other labels
    have he' : e ∈ graphOf { st with globals := terase st.globals n } := he
    obtain ⟨_, hl⟩ := hs e (graphOf_eraseGlobal_subset st n e he') hd
    rcases edge_cases _ e he' with
      ⟨k, x, hk, rfl | rfl⟩ | ⟨i, tb, k, x, _, _, rfl⟩ | ⟨b, m, _, rfl⟩
    · exact (mem_terase hk).2 (hl.elim Lbl.ident.inj nofun)
    · exact (mem_terase hk).2 (hl.elim nofun Lbl.imp.inj)
    · exact hl.elim nofun nofun
    · exact hl.elim nofun nofun

/-- the core of a member removal/replacement: if `f` keeps only entries that were there
    under another key or do not point at `t`, no edge enters `t` any more -/
theorem modsEdit_no_edge_into (st : St) (tm : Id) (a : Name) (t : Id) (f : Table → Table)
    (hf : ∀ tb k x, (k, x) ∈ f tb → ((k, x) ∈ tb ∧ k ≠ a) ∨ x ≠ t)
    (hs : SoleMember st tm a t) :
    ∀ e ∈ graphOf { st with mods := modsUpdate st.mods tm f }, e.dst ≠ t := by
  intro e he hd
  rcases edge_cases_modsEdit st tm f e he with
    ⟨k, x, hk, rfl | rfl⟩ | ⟨i, tb, k, x, htb, hk, rfl⟩ | ⟨b, m, hb, rfl⟩
  · cases (hs _ (ident_edge_mem hk) hd).2
  · cases (hs _ (ident_edge_mem hk) hd).2
  · split at hk
    · rcases hf tb k x hk with ⟨h1, h2⟩ | h
      · exact h2 (Lbl.attr.inj (hs _ (member_edge_mem htb h1) hd).2)
      · exact h hd
    · next hi => exact hi (hs _ (member_edge_mem htb hk) hd).1
  · cases (hs _ (back_edge_mem hb) hd).2

/-- `Module.Override(a, v)` on module `tm`, deleting or replacing: the object that was
    registered only as `tm.a` is unreachable afterwards, by every path — unless it is the
    replacement itself. -/
theorem overrideMod_unreachable (st : St) (tm : Id) (a : Name) (v : Option Id) (t : Id)
    (tbl : Table) (ha : a ≠ dunderName) (htab : st.table tm = some tbl)
    (hget : (tget tbl a).isSome = true) (ht : t ≠ root) (hv : v ≠ some t)
    (hs : SoleMember st tm a t) : t ∉ reach (graphOf (overrideMod st tm a v)) [root] := by
  rw [overrideMod_eq st tm a v tbl ha htab hget]
  apply no_incoming_unreachable
  · simpa using ht
  · apply modsEdit_no_edge_into st tm a t _ _ hs
    intro tb k x hk
    cases v with
    | none => exact Or.inl (mem_terase hk)
    | some y =>
      rcases mem_treplace hk with h1 | h1
      · exact Or.inr fun hx => hv (congrArg some (h1.2.symm.trans hx))
      · exact Or.inl h1

/-- the table of the module after an `Override` that is not refused -/
theorem overrideMod_table_self (st : St) (tm : Id) (a : Name) (v : Option Id) (tbl : Table)
    (ha : a ≠ dunderName) (htab : st.table tm = some tbl) (hget : (tget tbl a).isSome = true) :
    (overrideMod st tm a v).table tm = some (editTable a v tbl) := by
  rw [overrideMod_eq st tm a v tbl ha htab hget]
  show mtable (modsUpdate st.mods tm (editTable a v)) tm = _
  rw [mtable_modsUpdate, show mtable st.mods tm = some tbl from htab]
  simp

/-- **A denied module member.** After `Override(a, nil)` the attribute step `a`
    on that module fails (`x.a`, `getattr(x, "a")`, `from x import a` alike). -/
theorem overrideMod_none_attr_fails (st : St) (tm : Id) (a : Name) (tbl : Table)
    (ha : a ≠ dunderName) (htab : st.table tm = some tbl) (hget : (tget tbl a).isSome = true) :
    attrStep (overrideMod st tm a none) tm a = none := by
  simp [attrStep, overrideMod_table_self st tm a none tbl ha htab hget, ha, editTable,
    tget_terase_self]

/-- The hypotheses shared by the member theorems: in `st` the dotted name `mname.mp….last`
    names attribute `last` of module `tm` (reached from global `mname` by descending through
    the modules `mp`), it currently holds `t`, and `t` is registered nowhere else. -/
def MemberSite (st : St) (mname : Name) (attr : List Name) (tm : Id) (last : Name)
    (t : Id) : Prop :=
  ∃ (m : Id) (mp : List Name) (tbl : Table),
    tget st.globals mname = some m ∧ st.isModule m = true ∧
    splitLast attr = some (mp, last) ∧ resolveSpec st m mp = some tm ∧
    st.table tm = some tbl ∧ tget tbl last = some t ∧
    last ≠ dunderName ∧ t ≠ root ∧ SoleMember st tm last t

/-- **Unreachability of a denied module member (what the property demands).** With module
    paths resolved by descending (`denySpec`): for every state and every dotted name that
    names an object registered only there, no path of any length reaches it afterwards. -/
theorem denySpec_member_unreachable (st : St) (mname : Name) (attr : List Name) (tm : Id)
    (last : Name) (t : Id) (h : MemberSite st mname attr tm last t) :
    t ∉ reach (graphOf (denySpec st (mname :: attr))) [root] := by
  obtain ⟨m, mp, tbl, hg, hmod, hsplit, hres, htab, hget, hname, hroot, hsole⟩ := h
  unfold denySpec
  rw [denyWith_cons _ _ _ _ (splitLast_ne_nil hsplit),
    editMember_eq resolveSpec st mname attr none m tm mp last hg hmod hsplit hres]
  exact overrideMod_unreachable st tm last none t tbl hname htab (by simp [hget]) hroot nofun hsole

/-- The full statement for the code as it is (`denyParts` uses `resolveImpl`, the loop of
    `resolveModule` in risor_config.go): for EVERY state and EVERY dotted name — any number of
    intermediate modules — that names an object registered only there, no path of any length
    reaches the object after the denial. -/
def C11_full_deny : Prop :=
  ∀ (st : St) (mname : Name) (attr : List Name) (tm : Id) (last : Name) (t : Id),
    MemberSite st mname attr tm last t →
    t ∉ reach (graphOf (denyParts st (mname :: attr))) [root]

theorem resolveImpl_eq : resolveImpl = resolveSpec := by
  funext st m mp
  exact resolveImpl_eq_spec st m mp

/-- The code as it is applies a denylist entry exactly as the property demands: for every
    state and every name (dotted or not, of any depth, resolvable or not) `denyParts` and
    `denySpec` give the same state. -/
theorem denyParts_eq_spec (st : St) (parts : List Name) : denyParts st parts = denySpec st parts := by
  unfold denyParts denySpec
  rw [resolveImpl_eq]

/-- **Denied module member, names of any depth.** For the code as it is, every state and every
    dotted name `mname.mp….last` — with zero, one, two or any number of intermediate modules
    `mp` — that names an object registered only there: after `WithoutGlobal` of that name no
    path of any length reaches the object.  (Until the repair of `resolveModule` this carried
    the guard `deepName = false`.) -/
theorem C11_deny_any_depth (st : St) (mname : Name) (attr : List Name) (tm : Id) (last : Name)
    (t : Id) (h : MemberSite st mname attr tm last t) :
    t ∉ reach (graphOf (denyParts st (mname :: attr))) [root] := by
  rw [denyParts_eq_spec]
  exact denySpec_member_unreachable st mname attr tm last t h

theorem C11_full_deny_holds : C11_full_deny := C11_deny_any_depth

/-! ### the repaired defect (C11-nested-module-path), kept as checked statements -/

/-- HISTORICAL: the full deny statement for the code as it WAS (`preFixDenyParts` uses
    `preFixResolve`: every path component looked up in the root module). -/
def C11_preFix_full_deny : Prop :=
  ∀ (st : St) (mname : Name) (attr : List Name) (tm : Id) (last : Name) (t : Id),
    MemberSite st mname attr tm last t →
    t ∉ reach (graphOf (preFixDenyParts st (mname :: attr))) [root]

/-- host module `a{ b{ c{ f } } }`: a = 1, b = 2, c = 3, f = 4 -/
def nestedWitness : St :=
  { globals := [([97], 1)],
    mods := [(1, [([98], 2)]), (2, [([99], 3)]), (3, [([102], 4)])],
    back := [(4, 3)] }

theorem nestedWitness_site : MemberSite nestedWitness [97] [[98], [99], [102]] 3 [102] 4 :=
  ⟨1, [[98], [99]], [([102], 4)], by decide +kernel, by decide +kernel, by decide +kernel, by decide +kernel, by decide +kernel,
    by decide +kernel, by decide +kernel, by decide +kernel, by unfold SoleMember; decide +kernel⟩

/-- **BEFORE the repair (finding C11-nested-module-path).** With host module `a{b{c{f}}}`,
    `WithoutGlobal("a.b.c.f")` left `f` reachable: `resolveModule(a, [b, c])` looked `c` up in
    `a`, failed, and the denial was dropped. -/
theorem C11_fixed_nested_deny_was_ignored : ¬ C11_preFix_full_deny := by
  intro h
  exact h nestedWitness [97] [[98], [99], [102]] 3 [102] 4 nestedWitness_site (by decide +kernel)

/-- … and the SAME witness under the code as it is: `f` is reachable before the denial and by
    no path afterwards. -/
theorem C11_fixed_nested_deny_now_applies :
    reachable (graphOf nestedWitness) [root] 4 = true ∧
    reachable (graphOf (preFixDenyParts nestedWitness [[97], [98], [99], [102]])) [root] 4 = true ∧
    reachable (graphOf (denyParts nestedWitness [[97], [98], [99], [102]])) [root] 4 = false := by
  decide +kernel

/-- HISTORICAL: on a name with at most one intermediate module the pre-fix resolver found the
    module the descending resolution finds, so an entry of either kind edited the same attribute -/
theorem preFix_shallow (st : St) (mname : Name) (attr : List Name) (tm : Id)
    (last : Name) (t : Id) (hguard : deepName (mname :: attr) = false)
    (h : MemberSite st mname attr tm last t) :
    preFixDenyParts st (mname :: attr) = denySpec st (mname :: attr) ∧
      ∀ v, preFixOverrideParts st (mname :: attr) v = overrideSpec st (mname :: attr) v := by
  obtain ⟨m, mp, tbl, hg, hmod, hsplit, hres, -⟩ := h
  have hshort : mp.length ≤ 1 := by
    have hlen := splitLast_length hsplit
    simp only [deepName, List.length_cons, decide_eq_false_iff_not, Nat.not_le] at hguard
    omega
  have hne := splitLast_ne_nil hsplit
  have he : ∀ v, editMember preFixResolve st mname attr v = editMember resolveSpec st mname attr v :=
    fun v => by
      rw [editMember_eq resolveSpec st mname attr v m tm mp last hg hmod hsplit hres,
        editMember_eq preFixResolve st mname attr v m tm mp last hg hmod hsplit
          ((preFixResolve_short st m mp hshort).trans hres)]
  constructor
  · unfold preFixDenyParts denySpec
    rw [denyWith_cons _ _ _ _ hne, denyWith_cons _ _ _ _ hne, he]
  · intro v
    unfold preFixOverrideParts overrideSpec
    rw [overrideWith_cons _ _ _ _ _ hne, overrideWith_cons _ _ _ _ _ hne, he]

/-- HISTORICAL: what did hold before the repair — the statement under the guard
    `deepName = false` (at most one intermediate module: `m.a` and `m.sub.a`). -/
theorem C11_fixed_preFix_shallow_deny (st : St) (mname : Name) (attr : List Name) (tm : Id) (last : Name)
    (t : Id) (hguard : deepName (mname :: attr) = false)
    (h : MemberSite st mname attr tm last t) :
    t ∉ reach (graphOf (preFixDenyParts st (mname :: attr))) [root] := by
  rw [(preFix_shallow st mname attr tm last t hguard h).1]
  exact denySpec_member_unreachable st mname attr tm last t h

/-- **Removals never create paths**: every object reachable after any `WithoutGlobal` entry
    (any name, dotted or not, resolvable or not, deep or not) was reachable before it. -/
theorem deny_reach_subset (st : St) (parts : List Name) (t : Id)
    (h : t ∈ reach (graphOf (denyParts st parts)) [root]) : t ∈ reach (graphOf st) [root] := by
  refine reach_mono _ _ ?_ [root] t h
  match parts with
  | [] => exact fun e he => he
  | [n] => exact graphOf_eraseGlobal_subset st n
  | mname :: a :: r =>
    show ∀ e ∈ graphOf (editMember resolveImpl st mname (a :: r) none), e ∈ graphOf st
    rcases editMember_cases resolveImpl st mname (a :: r) none with
      h0 | ⟨_, _, last, tm, _, _, _, _, _, _, _, _, h1⟩
    · rw [h0]; exact fun e he => he
    · rw [h1]
      exact graphOf_modsEdit_subset st tm _ (fun tb kv hkv => (mem_terase hkv).1)

/-! ## 3. overrides -/

/-- **An overridden top-level name.** After `WithGlobalOverride(n, v)` for an
    undotted `n`, every identifier edge and every import edge named `n` ends in the
    replacement `v`: whatever path a script takes, if its step is "the global `n`" it lands
    on `v`.  For every state. -/
theorem override_top_visible (st : St) (n : Name) (v : Id) :
    ∀ e ∈ graphOf (overrideParts st [n] v), e.src = root →
      (e.lbl = .ident n ∨ e.lbl = .imp n) → e.dst = v := by
  intro e he _ hl
  have he' : e ∈ graphOf { st with globals := tput st.globals n v } := he
  rcases edge_cases _ e he' with
    ⟨k, x, hk, rfl | rfl⟩ | ⟨i, tb, k, x, _, _, rfl⟩ | ⟨b, m, _, rfl⟩
  · exact mem_tput_key hk (hl.elim Lbl.ident.inj nofun)
  · exact mem_tput_key hk (hl.elim nofun Lbl.imp.inj)
  · exact hl.elim nofun nofun
  · exact hl.elim nofun nofun

/-- `Module.Override(a, v)`: every edge labelled `a` that leaves module `tm` ends in `v`. -/
theorem overrideMod_some_visible (st : St) (tm : Id) (a : Name) (v : Id) (tbl : Table)
    (ha : a ≠ dunderName) (htab : st.table tm = some tbl) (hget : (tget tbl a).isSome = true) :
    ∀ e ∈ graphOf (overrideMod st tm a (some v)), e.src = tm → e.lbl = .attr a → e.dst = v := by
  rw [overrideMod_eq st tm a (some v) tbl ha htab hget]
  intro e he hsrc hl
  rcases edge_cases_modsEdit st tm _ e he with
    ⟨k, x, _, rfl | rfl⟩ | ⟨i, tb, k, x, _, hk, rfl⟩ | ⟨b, m, _, rfl⟩
  · cases hl
  · cases hl
  · obtain rfl : i = tm := hsrc
    obtain rfl : k = a := Lbl.attr.inj hl
    rw [if_pos rfl] at hk
    rcases mem_treplace hk with h1 | h1
    · exact h1.2
    · exact absurd rfl h1.2
  · cases hl

/-- **An overridden module member, what the property demands.** With
    descending resolution: after `WithGlobalOverride("mname.….last", v)` every edge labelled
    `last` out of the named module ends in `v`, and the object that was registered there is
    unreachable by every path (if it was registered only there and is not `v` itself). -/
theorem overrideSpec_member (st : St) (mname : Name) (attr : List Name) (tm : Id) (last : Name)
    (t v : Id) (h : MemberSite st mname attr tm last t) :
    (∀ e ∈ graphOf (overrideSpec st (mname :: attr) v), e.src = tm → e.lbl = .attr last → e.dst = v) ∧
    (t ≠ v → t ∉ reach (graphOf (overrideSpec st (mname :: attr) v)) [root]) := by
  obtain ⟨m, mp, tbl, hg, hmod, hsplit, hres, htab, hget, hname, hroot, hsole⟩ := h
  have hsome : (tget tbl last).isSome = true := by simp [hget]
  unfold overrideSpec
  rw [overrideWith_cons _ _ _ _ _ (splitLast_ne_nil hsplit),
    editMember_eq resolveSpec st mname attr (some v) m tm mp last hg hmod hsplit hres]
  exact ⟨overrideMod_some_visible st tm last v tbl hname htab hsome, fun htv =>
    overrideMod_unreachable st tm last (some v) t tbl hname htab hsome hroot
      (fun h => htv (Option.some.inj h).symm) hsole⟩

/-- The full override statement for the code as it is: for EVERY state and EVERY dotted name of
    any depth, every edge labelled `last` out of the named module ends in the replacement, and
    the object that was registered there is unreachable by every path (if it was registered
    only there and is not the replacement itself). -/
def C11_full_override : Prop :=
  ∀ (st : St) (mname : Name) (attr : List Name) (tm : Id) (last : Name) (t v : Id),
    MemberSite st mname attr tm last t →
    (∀ e ∈ graphOf (overrideParts st (mname :: attr) v), e.src = tm → e.lbl = .attr last → e.dst = v) ∧
    (t ≠ v → t ∉ reach (graphOf (overrideParts st (mname :: attr) v)) [root])

/-- The code as it is applies an overrides entry exactly as the property demands, for every
    state, name (of any depth) and value. -/
theorem overrideParts_eq_spec (st : St) (parts : List Name) (v : Id) :
    overrideParts st parts v = overrideSpec st parts v := by
  unfold overrideParts overrideSpec
  rw [resolveImpl_eq]

/-- **Overridden module member, names of any depth**: for the code as it is.  (Until the
    repair of `resolveModule` this carried the guard `deepName = false`.) -/
theorem C11_override_any_depth (st : St) (mname : Name) (attr : List Name) (tm : Id) (last : Name)
    (t v : Id) (h : MemberSite st mname attr tm last t) :
    (∀ e ∈ graphOf (overrideParts st (mname :: attr) v), e.src = tm → e.lbl = .attr last → e.dst = v) ∧
    (t ≠ v → t ∉ reach (graphOf (overrideParts st (mname :: attr) v)) [root]) := by
  rw [overrideParts_eq_spec]
  exact overrideSpec_member st mname attr tm last t v h

theorem C11_full_override_holds : C11_full_override := C11_override_any_depth

/-- The whole of `Config.init` (any denylist, any overrides, in any order given) on the code as
    it is equals what the property demands. -/
theorem initCfg_eq_spec (st : St) (denies : List (List Name)) (ovs : List (List Name × Id)) :
    initCfg st denies ovs = initSpec st denies ovs := by
  unfold initCfg initSpec denyParts denySpec overrideParts overrideSpec
  rw [resolveImpl_eq]

/-- HISTORICAL: the override statement (first half) for the code as it WAS. -/
def C11_preFix_full_override : Prop :=
  ∀ (st : St) (mname : Name) (attr : List Name) (tm : Id) (last : Name) (t v : Id),
    MemberSite st mname attr tm last t →
    ∀ e ∈ graphOf (preFixOverrideParts st (mname :: attr) v), e.src = tm → e.lbl = .attr last → e.dst = v

/-- **BEFORE the repair.** `WithGlobalOverride("a.b.c.f", v)` on host module `a{b{c{f}}}` was
    dropped: the script still observed the original `f` (4), not `v` (9). -/
theorem C11_fixed_nested_override_was_ignored : ¬ C11_preFix_full_override := by
  intro h
  have := h nestedWitness [97] [[98], [99], [102]] 3 [102] 4 9 nestedWitness_site ⟨3, .attr [102], 4⟩
    (by decide +kernel) rfl rfl
  exact absurd this (by decide +kernel)

/-- … and the same witness under the code as it is: the script observes `v` (9). -/
theorem C11_fixed_nested_override_now_applies :
    access (preFixOverrideParts nestedWitness [[97], [98], [99], [102]] 9) false [97] [[98], [99], [102]] = some 4 ∧
    access (overrideParts nestedWitness [[97], [98], [99], [102]] 9) false [97] [[98], [99], [102]] = some 9 := by
  decide +kernel

/-- HISTORICAL: the override theorem that held before the repair, under `deepName = false`. -/
theorem C11_fixed_preFix_shallow_override (st : St) (mname : Name) (attr : List Name) (tm : Id) (last : Name)
    (t v : Id) (hguard : deepName (mname :: attr) = false)
    (h : MemberSite st mname attr tm last t) :
    (∀ e ∈ graphOf (preFixOverrideParts st (mname :: attr) v), e.src = tm → e.lbl = .attr last → e.dst = v) ∧
    (t ≠ v → t ∉ reach (graphOf (preFixOverrideParts st (mname :: attr) v)) [root]) := by
  rw [(preFix_shallow st mname attr tm last t hguard h).2]
  exact overrideSpec_member st mname attr tm last t v h

/-! ## 4. independence of configurations -/

/-- Script-visible results depend only on the part of the heap the configuration can reach:
    if `st'` has the same globals as `st` and, for every object of a set `S` that contains
    `st`'s globals and is closed under attribute steps, the same back-pointer and the same
    attribute table, then EVERY access attempt (identifier or import, any attribute chain)
    gives the same result in `st'` as in `st`. -/
theorem access_congr_on (st st' : St) (S : Id → Prop)
    (hg : st'.globals = st.globals)
    (hb : ∀ x, S x → bget st'.back x = bget st.back x)
    (hglob : ∀ n x, tget st.globals n = some x → S x)
    (hclosed : ∀ x a y, S x → attrStep st x a = some y → S y)
    (hframe : ∀ x, S x → st'.table x = st.table x) :
    ∀ imp first attrs, access st' imp first attrs = access st imp first attrs := by
  intro imp first attrs
  have hstep : ∀ x a, S x → attrStep st' x a = attrStep st x a := by
    intro x a hx
    simp only [attrStep, hframe x hx, hb x hx]
  -- the cursor of the attribute chain never leaves `S`
  have hfold : ∀ (attrs : List Name) (cur : Option Id), (∀ x, cur = some x → S x) →
      attrs.foldl (fun cur a => cur.bind fun x => attrStep st' x a) cur =
      attrs.foldl (fun cur a => cur.bind fun x => attrStep st x a) cur := by
    intro attrs
    induction attrs with
    | nil => intro cur _; rfl
    | cons a r ih =>
      intro cur hcur
      cases cur with
      | none => exact ih none (fun x h => by cases h)
      | some x =>
        have hx := hcur x rfl
        simp only [List.foldl_cons, Option.bind_some, hstep x a hx]
        exact ih _ (fun y hy => hclosed x a y hx hy)
  unfold access
  simp only [hg]
  cases hget : tget st.globals first with
  | none => exact hfold attrs none (fun x h => by cases h)
  | some x =>
    have hx := hglob first x hget
    have hm : st'.isModule x = st.isModule x := by simp only [St.isModule, hframe x hx]
    simp only [hm]
    apply hfold
    intro y hy
    split at hy
    · cases hy
    · cases hy; exact hx

/-- `access_congr_on` for states with the same back-pointers everywhere. -/
theorem access_congr (st st' : St) (S : Id → Prop)
    (hg : st'.globals = st.globals) (hb : st'.back = st.back)
    (hglob : ∀ n x, tget st.globals n = some x → S x)
    (hclosed : ∀ x a y, S x → attrStep st x a = some y → S y)
    (hframe : ∀ x, S x → st'.table x = st.table x) :
    ∀ imp first attrs, access st' imp first attrs = access st imp first attrs :=
  access_congr_on st st' S hg (fun _ _ => by rw [hb]) hglob hclosed hframe

/-- the module a dotted entry edits is one the configuration itself can reach (by the global
    `mname`, then one member edge per path component) -/
theorem resolveImpl_reachable (st : St) (mname : Name) (m : Id) (mp : List Name) (tm : Id)
    (hm : tget st.globals mname = some m) (hres : resolveImpl st m mp = some tm) :
    tm ∈ reach (graphOf st) [root] := by
  rw [resolveImpl_eq_spec] at hres
  obtain ⟨p, hp⟩ := resolveSpec_path st m mp tm hres
  exact closed_path _ _ (reach_closed _ [root]).1 m p tm
    (global_reachable st mname m (tget_mem hm)) hp

/-- **Frame.** An edit made through a configuration changes the attribute table of no
    object, except possibly one module that this configuration can itself reach. -/
theorem editMember_frame (st : St) (mname : Name) (attr : List Name) (v : Option Id) (x : Id) :
    (editMember resolveImpl st mname attr v).table x = st.table x ∨
      (st.isModule x = true ∧ x ∈ reach (graphOf st) [root]) := by
  rcases editMember_cases resolveImpl st mname attr v with
    h0 | ⟨m, mp, last, tm, tbl, hm, _, _, hres, _, htab, _, h1⟩
  · rw [h0]; exact Or.inl rfl
  · rw [h1]
    by_cases hx : x = tm
    · subst hx
      exact Or.inr ⟨by simp [St.isModule, htab], resolveImpl_reachable st mname m mp x hm hres⟩
    · left
      show mtable (modsUpdate st.mods tm _) x = mtable st.mods x
      simp [mtable_modsUpdate, hx]

/-- the two kinds of edit a Config applies in `init` -/
inductive IsEdit : (St → St) → Prop
  | deny (parts : List Name) : IsEdit (fun s => denyParts s parts)
  | override (parts : List Name) (v : Id) : IsEdit (fun s => overrideParts s parts v)

/-- an entry of either kind writes the globals only, or it is the member edit of a dotted name -/
theorem IsEdit.globals_or_member {edit : St → St} (he : IsEdit edit) (st : St) :
    ((edit st).mods = st.mods ∧ (edit st).back = st.back) ∨
      ∃ mname attr v, edit st = editMember resolveImpl st mname attr v := by
  cases he with
  | deny parts =>
    match parts with
    | [] => exact Or.inl ⟨rfl, rfl⟩
    | [_] => exact Or.inl ⟨rfl, rfl⟩
    | mname :: a :: r => exact Or.inr ⟨mname, a :: r, none, rfl⟩
  | override parts v =>
    match parts with
    | [] => exact Or.inl ⟨rfl, rfl⟩
    | [_] => exact Or.inl ⟨rfl, rfl⟩
    | mname :: a :: r => exact Or.inr ⟨mname, a :: r, some v, rfl⟩

/-- `Config.init` applies one edit after the other: what every edit preserves, `init` preserves -/
theorem initCfg_preserves (P : St → Prop) (hP : ∀ edit, IsEdit edit → ∀ s, P s → P (edit s))
    (st : St) (ds : List (List Name)) (os : List (List Name × Id)) (h : P st) :
    P (initCfg st ds os) :=
  initCfg_rel (fun s _ => P s) (fun s _ p => hP _ (.deny p) s)
    (fun s _ p v => hP _ (.override p v) s) ds os st st h

theorem edit_frame (edit : St → St) (he : IsEdit edit) (st : St) (x : Id) :
    ((edit st).table x = st.table x ∨ (st.isModule x = true ∧ x ∈ reach (graphOf st) [root])) ∧
    (edit st).back = st.back := by
  rcases he.globals_or_member st with ⟨hm, hb⟩ | ⟨mname, attr, v, h⟩
  · exact ⟨Or.inl (by simp only [St.table, hm]), hb⟩
  · rw [h]
    exact ⟨editMember_frame st mname attr v x, editMember_back resolveImpl st mname attr v⟩

/-- **configs_independent.** Two configurations live on one heap (`st1`, `st2`: same module
    heap, each its own globals table).  If no MODULE is reachable from
    both (default globals are built fresh per Config), then any denylist or override entry
    applied through configuration 1 — any name, deep or not — leaves the result of EVERY
    access attempt of configuration 2 unchanged. -/
theorem configs_independent (st1 st2 : St) (edit : St → St) (he : IsEdit edit)
    (hheap : st2.mods = st1.mods)
    (hfresh : ∀ x, x ∈ reach (graphOf st1) [root] → x ∈ reach (graphOf st2) [root] →
      st1.isModule x = false) :
    ∀ imp first attrs,
      access { st2 with mods := (edit st1).mods } imp first attrs = access st2 imp first attrs := by
  apply access_congr st2 { st2 with mods := (edit st1).mods } (fun x => x ∈ reach (graphOf st2) [root]) rfl rfl
  · exact fun n x hx => global_reachable st2 n x (tget_mem hx)
  · exact attrStep_reachable st2
  · intro x hx
    show mtable (edit st1).mods x = mtable st2.mods x
    rw [hheap]
    rcases (edit_frame edit he st1 x).1 with h | ⟨hmod, hreach⟩
    · exact h
    · have := hfresh x hreach hx
      rw [hmod] at this
      cases this

/-- both configurations hold the SAME module object (1) under the global `m` -/
def sharedWitness : St := { globals := [([109], 1)], mods := [(1, [([102], 2)])], back := [(2, 1)] }

/-- **Freshness is necessary.** If two configurations share a module object, a removal made
    through one is seen by the other: before, configuration 2 evaluates `m.f` to object 2;
    after configuration 1 denies `m.f`, it fails.  (This is what a package-level cache of
    default modules would cause.) -/
theorem shared_module_interferes :
    access sharedWitness false [109] [[102]] = some 2 ∧
    access { sharedWitness with mods := (denyParts sharedWitness [[109], [102]]).mods }
      false [109] [[102]] = none := by
  decide +kernel

/-! ## 5. non-vacuity -/

/-- default-like state: global `os` (1) = module{ exit ↦ 2, getenv ↦ 3 }, global `len` ↦ 4;
    builtins point back at their module -/
def sampleState : St :=
  { globals := [([111, 115], 1), ([108, 101, 110], 4)],
    mods := [(1, [([101], 2), ([103], 3)])],
    back := [(2, 1), (3, 1), (4, 9)] }

/-- `MemberSite` is satisfiable by a shallow name (`os.e` in the sample state) and by a deep one
    (`a.b.c.f` in `nestedWitness`, `deepName = true`). -/
example : MemberSite sampleState [111, 115] [[101]] 1 [101] 2 ∧ deepName [[111, 115], [101]] = false :=
  ⟨⟨1, [], [([101], 2), ([103], 3)], by decide +kernel, by decide +kernel, by decide +kernel, by decide +kernel, by decide +kernel,
    by decide +kernel, by decide +kernel, by decide +kernel, by unfold SoleMember; decide +kernel⟩, by decide +kernel⟩
example : MemberSite nestedWitness [97] [[98], [99], [102]] 3 [102] 4 ∧
    deepName [[97], [98], [99], [102]] = true := ⟨nestedWitness_site, by decide +kernel⟩

/-- … and the theorem's conclusion is not trivial: the member IS reachable before the deny
    (directly and through its sibling's `__module__`), and is not afterwards. -/
example : reachable (graphOf sampleState) [root] 2 = true ∧
    reachable (graphOf (denyParts sampleState [[111, 115], [101]])) [root] 2 = false ∧
    access sampleState false [111, 115] [[103], dunderModule, [101]] = some 2 ∧
    access (denyParts sampleState [[111, 115], [101]]) false [111, 115] [[103], dunderModule, [101]] = none := by
  decide +kernel

/-- `SoleTop` is satisfiable: `len` in the sample state; denying the MODULE `os` is a case
    where `SoleTop` also holds although its members point back at it (they become
    unreachable together with it). -/
example : SoleTop sampleState [108, 101, 110] 4 := by unfold SoleTop; decide +kernel

/-- a back-reference defeats a removal when the referring builtin stays registered elsewhere:
    global `g` (3) is ALSO a member of module `os` (1); denying `os` leaves the module
    reachable through `g.__module__` — `SoleTop` fails, and `reach` reports it. -/
example :
    let st : St := { globals := [([111, 115], 1), ([103], 3)], mods := [(1, [([103], 3)])], back := [(3, 1)] }
    reachable (graphOf (denyParts st [[111, 115]])) [root] 1 = true := by
  decide +kernel

/-- the freshness hypothesis of `configs_independent` is satisfiable with both
    configurations non-empty: module 1 for configuration 1, module 5 for configuration 2. -/
example :
    let st1 : St := { globals := [([109], 1)], mods := [(1, [([102], 2)]), (5, [([102], 6)])], back := [] }
    let st2 : St := { st1 with globals := [([109], 5)] }
    (∀ x, x ∈ reach (graphOf st1) [root] → x ∈ reach (graphOf st2) [root] → st1.isModule x = false) ∧
    access st2 false [109] [[102]] = some 6 := by
  decide +kernel

/-! ## 6. sequences of configuration options

`applyOpts` folds ANY sequence of options (WithGlobal(s), WithoutGlobal(s), WithGlobalOverride,
WithoutDefaultGlobals — any names, dotted or not, repeated, in any order) into the fields of
`Config`; `initFrom` is `Config.init` with the iteration orders of the two Go maps as
parameters.  The theorems hold for every sequence and every iteration order. -/

theorem mem_denylist_applyOpt (c : Cfg) (o : Opt) (n : Name) :
    n ∈ (applyOpt c o).denylist ↔ n ∈ c.denylist ∨ Opt.without n = o := by
  cases o with
  | without m =>
    simp only [applyOpt, Opt.without.injEq]
    split
    · next hc => exact ⟨Or.inl, fun h => h.elim id fun e => e ▸ List.contains_iff_mem.1 hc⟩
    · simp
  | _ => simp [applyOpt]

theorem mem_denylist_foldl (opts : List Opt) (c : Cfg) (n : Name) :
    n ∈ (opts.foldl applyOpt c).denylist ↔ n ∈ c.denylist ∨ Opt.without n ∈ opts := by
  induction opts generalizing c with
  | nil => simp
  | cons o opts ih => rw [List.foldl_cons, ih, mem_denylist_applyOpt, List.mem_cons, or_assoc]

/-- The denylist after the whole sequence holds exactly the names some `WithoutGlobal(s)` of the
    sequence mentions — wherever it stands: no other option ever takes a name off it. -/
theorem mem_denylist (opts : List Opt) (n : Name) :
    n ∈ (applyOpts opts).denylist ↔ deniedIn opts n = true := by
  unfold applyOpts deniedIn
  rw [mem_denylist_foldl]
  simp [Cfg.empty]

/-- **Last override wins.** Appending `WithGlobalOverride(m, v)` to any sequence makes `v` the
    override in force for `m` and changes no other name's override. -/
theorem lastOverride_append (opts : List Opt) (n m : Name) (v : Id) :
    lastOverride (opts ++ [.override m v]) n = if m = n then some v else lastOverride opts n := by
  simp only [lastOverride, applyOpts, List.foldl_append, List.foldl_cons, List.foldl_nil, applyOpt]
  exact tget_tput _ m v n

/-- … and no option of another kind changes an override. -/
theorem lastOverride_append_other (opts : List Opt) (o : Opt) (n : Name)
    (h : ∀ m v, o ≠ .override m v) : lastOverride (opts ++ [o]) n = lastOverride opts n := by
  simp only [lastOverride, applyOpts, List.foldl_append, List.foldl_cons, List.foldl_nil]
  cases o with
  | override m v => exact absurd rfl (h m v)
  | withGlobal m v => rfl
  | without m => rfl
  | noDefaults => rfl

/-- the denylist step of `init`, for any enumeration `ds` of the denylist `s`, read at an undotted
    name -/
theorem denies_enum_globals (s ds : List Name) (hds : EnumSet s ds) (n : Name)
    (hsplit : splitDots n = [n]) (st : St) :
    tget ((ds.map splitDots).foldl denyParts st).globals n =
      if n ∈ s then none else tget st.globals n := by
  have : [n] ∈ ds.map splitDots ↔ n ∈ s := by
    rw [← hds n]
    constructor
    · intro h
      obtain ⟨m, hm, hk⟩ := List.mem_map.1 h
      exact splitDots_single _ _ hk ▸ hm
    · exact fun h => List.mem_map.2 ⟨n, h, hsplit⟩
  simp only [denies_globals, this]

/-- the overrides step of `init`, for any enumeration `os` of the overrides map `m`, read at an
    undotted name -/
theorem overrides_enum_globals (m os : Table) (hos : EnumMap m os) (n : Name)
    (hsplit : splitDots n = [n]) (st : St) :
    tget ((os.map fun kv => (splitDots kv.1, kv.2)).foldl
        (fun s pv => overrideParts s pv.1 pv.2) st).globals n =
      match tget m n with
      | some v => some v
      | none => tget st.globals n := by
  -- an entry of the enumeration that writes `n` is the entry of `n` in the map
  have hkey : ∀ pv ∈ os.map (fun kv => (splitDots kv.1, kv.2)), pv.1 = [n] →
      tget m n = some pv.2 := by
    intro pv hpv hk
    obtain ⟨kv, hkv, rfl⟩ := List.mem_map.1 hpv
    exact splitDots_single _ _ hk ▸ hos.1 kv hkv
  cases hm : tget m n with
  | some v =>
    refine overrides_globals_hit _ st n v (fun pv hpv hk => ?_)
      (Or.inr ⟨(splitDots n, v), List.mem_map.2 ⟨(n, v), hos.2 n v hm, rfl⟩, hsplit⟩)
    exact Option.some.inj ((hkey pv hpv hk).symm.trans hm)
  | none =>
    exact overrides_globals_miss _ st n fun pv hpv hk => by cases (hkey pv hpv hk).symm.trans hm

/-- **The final binding of every top-level name, for every option sequence** (closed form of
    the code as it is).  For every sequence `opts`, default table, heap, every enumeration
    `ds` of the denylist and `os` of the overrides (= every iteration order of the two Go maps)
    and every undotted name `n`:
    * if an override for `n` is in force, `n` is bound to it;
    * otherwise, if `n` was denied ANYWHERE in the sequence, `n` is unbound — a
      `WithGlobal(n, ·)` before or after the denial does not bring it back, and neither do
      the defaults;
    * otherwise `n` has its merged (host/default) binding. -/
theorem optseq_top_binding (opts : List Opt) (dflt : Table) (mods : List (Id × Table))
    (back : List (Id × Id)) (ds : List Name) (os : Table) (n : Name)
    (hn : undotted n = true)
    (hds : EnumSet (applyOpts opts).denylist ds) (hos : EnumMap (applyOpts opts).overrides os) :
    tget (initFrom (applyOpts opts) dflt mods back ds os).globals n =
      match lastOverride opts n with
      | some v => some v
      | none =>
        if deniedIn opts n then none
        else tget (mergeDefaults (applyOpts opts).noDefaults (applyOpts opts).globals dflt) n := by
  have hsplit : splitDots n = [n] := by simpa [undotted] using hn
  unfold initFrom initCfg
  rw [overrides_enum_globals _ os hos n hsplit, denies_enum_globals _ ds hds n hsplit]
  simp only [lastOverride, mem_denylist]

/-- **The code meets the Spec for option sequences**: for every sequence, iteration order and
    top-level name, the final binding is one `allowedTop` permits. -/
theorem optseq_meets_spec (opts : List Opt) (dflt : Table) (mods : List (Id × Table))
    (back : List (Id × Id)) (ds : List Name) (os : Table) (n : Name)
    (hn : undotted n = true)
    (hds : EnumSet (applyOpts opts).denylist ds) (hos : EnumMap (applyOpts opts).overrides os) :
    allowedTop opts n (tget (initFrom (applyOpts opts) dflt mods back ds os).globals n) = true := by
  rw [optseq_top_binding opts dflt mods back ds os n hn hds hos]
  unfold allowedTop
  cases lastOverride opts n with
  | some v => simp
  | none => cases deniedIn opts n <;> simp

/-- **A denied name stays denied.** If `WithoutGlobal(n)` occurs anywhere in the sequence and no
    override for `n` is in force, `n` is unbound in the end — whatever else the sequence
    contains (in particular `WithGlobal(n, v)` AFTER the denial) and whatever `n`'s default is. -/
theorem optseq_denied_stays_denied (opts : List Opt) (dflt : Table) (mods : List (Id × Table))
    (back : List (Id × Id)) (ds : List Name) (os : Table) (n : Name)
    (hn : undotted n = true)
    (hds : EnumSet (applyOpts opts).denylist ds) (hos : EnumMap (applyOpts opts).overrides os)
    (hden : deniedIn opts n = true) (hov : lastOverride opts n = none) :
    tget (initFrom (applyOpts opts) dflt mods back ds os).globals n = none := by
  rw [optseq_top_binding opts dflt mods back ds os n hn hds hos, hov]
  simp [hden]

/-- … and so no identifier or import path through `n` exists at all. -/
theorem optseq_denied_access_fails (opts : List Opt) (dflt : Table) (mods : List (Id × Table))
    (back : List (Id × Id)) (ds : List Name) (os : Table) (n : Name)
    (hn : undotted n = true)
    (hds : EnumSet (applyOpts opts).denylist ds) (hos : EnumMap (applyOpts opts).overrides os)
    (hden : deniedIn opts n = true) (hov : lastOverride opts n = none)
    (imp : Bool) (attrs : List Name) :
    access (initFrom (applyOpts opts) dflt mods back ds os) imp n attrs = none := by
  exact access_unbound _ imp n attrs
    (optseq_denied_stays_denied opts dflt mods back ds os n hn hds hos hden hov)

/-- **An override in force is the binding**, whatever the rest of the sequence does to the name
    (deny it, supply it, override it earlier). -/
theorem optseq_override_visible (opts : List Opt) (dflt : Table) (mods : List (Id × Table))
    (back : List (Id × Id)) (ds : List Name) (os : Table) (n : Name) (v : Id)
    (hn : undotted n = true)
    (hds : EnumSet (applyOpts opts).denylist ds) (hos : EnumMap (applyOpts opts).overrides os)
    (hov : lastOverride opts n = some v) :
    tget (initFrom (applyOpts opts) dflt mods back ds os).globals n = some v := by
  rw [optseq_top_binding opts dflt mods back ds os n hn hds hos, hov]

/-- the hypotheses are satisfiable and the statement bites: deny `exec` (default object 7), then
    supply the host's own object 9 under the same name — `exec` is unbound, in both iteration
    orders; the Spec rejects the default object as its binding and accepts `none` and 9. -/
example :
    let opts := [Opt.without [101], Opt.withGlobal [101] 9]
    EnumSet (applyOpts opts).denylist [[101]] ∧ EnumMap (applyOpts opts).overrides [] ∧
    tget (initFrom (applyOpts opts) [([101], 7)] [] [] [[101]] []).globals [101] = none ∧
    allowedTop opts [101] (some 7) = false ∧ allowedTop opts [101] none = true ∧
    allowedTop opts [101] (some 9) = true ∧
    allowedTop [Opt.withGlobal [101] 9, Opt.without [101]] [101] (some 9) = false := by
  refine ⟨?_, ?_, by decide +kernel, by decide +kernel, by decide +kernel, by decide +kernel, by decide +kernel⟩
  · intro x; simp [applyOpts, applyOpt, Cfg.empty]
  · refine ⟨?_, ?_⟩
    · intro kv h; cases h
    · intro k v h; simp [applyOpts, applyOpt, Cfg.empty, tget] at h

/-! ### module members under sequences of edits -/

/-- one edit never ADDS an attribute to any module: what is not a member stays not a member -/
theorem edit_keeps_absent (edit : St → St) (he : IsEdit edit) (st : St) (x : Id) (a : Name)
    (t : Table) (ht : st.table x = some t) (ha : tget t a = none) :
    ∃ t', (edit st).table x = some t' ∧ tget t' a = none := by
  rcases he.globals_or_member st with ⟨hm, _⟩ | ⟨mname, attr, v, h⟩
  · exact ⟨t, by simpa only [St.table, hm] using ht, ha⟩
  · rw [h]
    rcases editMember_cases resolveImpl st mname attr v with
      h0 | ⟨_, _, last, tm, _, _, _, _, _, _, _, _, h1⟩
    · rw [h0]; exact ⟨t, ht, ha⟩
    · rw [h1]
      -- `Override` deletes or replaces an entry that is there: a lookup that failed still fails
      have hm : mtable st.mods x = some t := ht
      refine ⟨if x = tm then editTable last v t else t, ?_, ?_⟩
      · show mtable (modsUpdate st.mods tm (editTable last v)) x = _
        rw [mtable_modsUpdate, hm]; rfl
      · split
        · cases v with
          | none => show tget (terase t last) a = none; rw [tget_terase, ha]; simp
          | some y => show tget (treplace t last y) a = none; rw [tget_treplace, ha]; simp
        · exact ha

/-- **Config.init never adds a member to a module**, for every list of denylist entries and
    overrides in every order (`Module.Override` refuses names that are not current
    attributes). -/
theorem init_never_adds_members (st : St) (ds : List (List Name)) (os : List (List Name × Id))
    (x : Id) (a : Name) (t : Table) (ht : st.table x = some t) (ha : tget t a = none) :
    ∃ t', (initCfg st ds os).table x = some t' ∧ tget t' a = none :=
  initCfg_preserves (fun s => ∃ t', s.table x = some t' ∧ tget t' a = none)
    (fun edit he s ⟨t, ht, ha⟩ => edit_keeps_absent edit he s x a t ht ha) st ds os ⟨t, ht, ha⟩

/-- **A denied member stays denied.** Once `Override(a, nil)` removed attribute `a` from module
    `tm`, NO further list of denylist entries and overrides (any names, any order — including
    `WithGlobalOverride("….a", v)` for the same name) makes `tm.a` resolve again. -/
theorem denied_member_stays_denied (st : St) (tm : Id) (a : Name) (tbl : Table)
    (ha : a ≠ dunderName) (htab : st.table tm = some tbl) (hget : (tget tbl a).isSome = true)
    (ds : List (List Name)) (os : List (List Name × Id)) :
    attrStep (initCfg (overrideMod st tm a none) ds os) tm a = none := by
  obtain ⟨t', h1, h2⟩ := init_never_adds_members _ ds os tm a _
    (overrideMod_table_self st tm a none tbl ha htab hget) (tget_terase_self tbl a)
  simp [attrStep, h1, ha, h2]

/-! ## 7. a reused virtual machine

`vmBegin` is `RunCode` up to the first instruction on a VM with ANY history; `vmAccess` is what
a script compiled against configuration `g` obtains in that run. -/

/-- **Identifiers on a reused VM see exactly the run's own configuration.** For every VM state
    (any earlier runs with any configurations: `vm` is arbitrary), every heap, every
    configuration `g` and every access path that starts with an identifier: the result in the
    run is the result the configuration alone determines.  Nothing an earlier configuration
    bound — a member it kept, an object it had under the same name — is observable. -/
theorem reuse_ident_own_config (mods : List (Id × Table)) (back : List (Id × Id)) (vm : VM)
    (g : Table) (hg : IsMap g) (first : Name) (attrs : List Name) :
    vmAccess mods back (vmBegin mods vm g) g false first attrs =
      access ⟨g, mods, back⟩ false first attrs := by
  unfold vmAccess access
  cases hf : tget g first with
  | none => rfl
  | some x =>
    -- `applyOptions` wrote the configuration's entry over whatever an earlier run left
    have : tget (vmBegin mods vm g).globals first = some x := by
      refine putAll_hit g vm.input first x (fun kv hkv hk => ?_) (Or.inr ⟨(first, x), tget_mem hf, rfl⟩)
      have := hg kv.1 kv.2 hkv
      rw [hk, hf] at this
      exact (Option.some.inj this).symm
    simp only [this, Option.isSome_some, ↓reduceIte, Bool.false_and, Bool.false_eq_true]
    rfl

/-- **Imports on a VM that has run before fail** (as the code is: `resetForNewCode` empties
    the importable modules after the options were applied) — so no module of an earlier
    configuration can be imported in a later run. -/
theorem reuse_import_later_runs (mods : List (Id × Table)) (back : List (Id × Id)) (vm : VM)
    (g : Table) (h : vm.runs ≠ 0) (first : Name) (attrs : List Name) :
    vmAccess mods back (vmBegin mods vm g) g true first attrs = none := by
  unfold vmAccess
  have : (vmBegin mods vm g).modules = [] := by
    simp [vmBegin, vmApply, h]
  simp only [this, ↓reduceIte, tget]
  exact foldl_bind_none _ attrs

/-- **Imports in the first run of a fresh VM obtain only what the configuration holds**: the
    result is a failure or exactly the configuration's own result. -/
theorem reuse_import_first_run (mods : List (Id × Table)) (back : List (Id × Id))
    (g : Table) (hg : IsMap g) (first : Name) (attrs : List Name) :
    vmAccess mods back (vmBegin mods VM.empty g) g true first attrs = none ∨
    vmAccess mods back (vmBegin mods VM.empty g) g true first attrs =
      access ⟨g, mods, back⟩ true first attrs := by
  unfold vmAccess access
  simp only [↓reduceIte]
  cases hm : tget (vmBegin mods VM.empty g).modules first with
  | none => left; exact foldl_bind_none _ attrs
  | some x =>
    right
    -- what is importable was taken from the configuration's own entries that are modules
    have hmem : (first, x) ∈ putAll [] ((putAll [] g).filter fun kv => isMod mods kv.2) :=
      tget_mem hm
    obtain ⟨h1, h2⟩ :=
      List.mem_filter.1 ((mem_putAll _ _ _ hmem).resolve_left List.not_mem_nil)
    have hgx := hg first x ((mem_putAll _ _ _ h1).resolve_left List.not_mem_nil)
    have hmod : (⟨g, mods, back⟩ : St).isModule x = true := h2
    simp only [hgx, hmod, Bool.not_true, Bool.and_false, Bool.false_eq_true, ↓reduceIte]
    rfl

/-- an evaluation whose source does not compile (unbound identifier) yields nothing, exactly
    as `vmAccess` says; so the theorems about `vmAccess (vmBegin …)` describe every evaluation -/
theorem vmEval_result (mods : List (Id × Table)) (back : List (Id × Id)) (vm : VM) (g : Table)
    (imp : Bool) (first : Name) (attrs : List Name) :
    (vmEval mods back vm g imp first attrs).2 =
      vmAccess mods back (vmBegin mods vm g) g imp first attrs := by
  unfold vmEval
  split
  · rename_i h
    simp only [Bool.and_eq_true, Bool.not_eq_eq_eq_not, Bool.not_true, Option.isNone_iff_eq_none] at h
    unfold vmAccess
    simp only [h.1, Bool.false_eq_true, ↓reduceIte, h.2, Option.isSome_none]
    exact (foldl_bind_none _ attrs).symm
  · rfl

theorem vmRuns_runs (hist : List (List (Id × Table) × Table)) (vm : VM) :
    (vmRuns vm hist).runs = vm.runs + hist.length := by
  induction hist generalizing vm with
  | nil => rfl
  | cons h hist ih =>
    show (vmRuns (vmBegin h.1 vm h.2) hist).runs = _
    rw [ih]
    simp only [vmBegin, vmApply, List.length_cons]
    omega

/-- **Every evaluation on a reused VM sees only its own configuration.** For every history of
    earlier runs on a VM created empty (any number, any configurations, any heaps), the next
    run with configuration `g` gives, for every access path: by identifier exactly what `g`
    alone determines; by import either a failure or what `g` alone determines. -/
theorem reuse_each_run_sees_own_config (hist : List (List (Id × Table) × Table))
    (mods : List (Id × Table)) (back : List (Id × Id)) (g : Table) (hg : IsMap g)
    (first : Name) (attrs : List Name) :
    vmAccess mods back (vmBegin mods (vmRuns VM.empty hist) g) g false first attrs =
      access ⟨g, mods, back⟩ false first attrs ∧
    (vmAccess mods back (vmBegin mods (vmRuns VM.empty hist) g) g true first attrs = none ∨
     vmAccess mods back (vmBegin mods (vmRuns VM.empty hist) g) g true first attrs =
      access ⟨g, mods, back⟩ true first attrs) := by
  refine ⟨reuse_ident_own_config mods back _ g hg first attrs, ?_⟩
  cases hist with
  | nil => exact reuse_import_first_run mods back g hg first attrs
  | cons h r =>
    left
    apply reuse_import_later_runs
    rw [vmRuns_runs]
    simp

/-- non-vacuity: run 1 with `os`(1) = {getenv ↦ 2}, run 2 with a fresh `os`(5) = {} (member
    removed), same name, no new name: run 2's `os.getenv` fails and `os` is module 5. -/
example :
    let mods : List (Id × Table) := [(1, [([103], 2)]), (5, [])]
    let vm1 := vmBegin mods VM.empty [([111, 115], 1)]
    vmAccess mods [] vm1 [([111, 115], 1)] false [111, 115] [[103]] = some 2 ∧
    vmAccess mods [] (vmBegin mods vm1 [([111, 115], 5)]) [([111, 115], 5)] false [111, 115] [[103]] = none ∧
    vmAccess mods [] (vmBegin mods vm1 [([111, 115], 5)]) [([111, 115], 5)] false [111, 115] [] = some 5 := by
  decide +kernel

/-! ## 8. a configuration built later on the same heap -/

/-- **Edges that start outside the reachable set add nothing**: for every graph, root set and
    set of extra edges none of which leaves a reachable node, reachability is unchanged. -/
theorem reach_extend (g extra : Graph) (roots : List Id)
    (h : ∀ e ∈ extra, e.src ∉ reach g roots) (t : Id) :
    t ∈ reach (g ++ extra) roots ↔ t ∈ reach g roots := by
  constructor
  · apply reach_subset_of_closed
    intro e he hsrc
    rcases List.mem_append.1 he with h1 | h1
    · exact (reach_closed g roots).1 e h1 hsrc
    · exact absurd hsrc (h e h1)
  · exact reach_mono g (g ++ extra) (fun e he => List.mem_append.2 (Or.inl he)) roots t

/-- **Building another configuration creates no path for this one.** `addConfig` allocates
    modules and builtins (with back-pointers) that this configuration cannot reach and writes
    nothing that exists (`Builtin.module` is never re-aimed, no existing table is touched).
    Then for EVERY object: it is reachable from this configuration's globals afterwards iff it
    was before — a denied object stays unreachable whatever is built later. -/
theorem later_config_no_new_paths (st : St) (newMods : List (Id × Table)) (newBack : List (Id × Id))
    (h1 : ∀ it ∈ newMods, it.1 ∉ reach (graphOf st) [root])
    (h2 : ∀ bm ∈ newBack, bm.1 ∉ reach (graphOf st) [root]) (t : Id) :
    t ∈ reach (graphOf (addConfig st newMods newBack)) [root] ↔ t ∈ reach (graphOf st) [root] := by
  constructor
  · apply reach_subset_of_closed
    intro e he hsrc
    rcases edge_cases _ e he with
      ⟨k, x, hk, rfl | rfl⟩ | ⟨i, tb, k, x, htb, hk, rfl⟩ | ⟨b, m, hb, rfl⟩
    · exact global_reachable st k x hk
    · exact global_reachable st k x hk
    · rcases List.mem_append.1 htb with h | h
      · exact (reach_closed _ _).1 _ (member_edge_mem (st := st) h hk) hsrc
      · exact absurd hsrc (h1 _ h)
    · rcases List.mem_append.1 hb with h | h
      · exact (reach_closed _ _).1 _ (back_edge_mem (st := st) h) hsrc
      · exact absurd hsrc (h2 _ h)
  · apply reach_subset_of_closed
    intro e he hsrc
    rcases edge_cases _ e he with
      ⟨k, x, hk, rfl | rfl⟩ | ⟨i, tb, k, x, htb, hk, rfl⟩ | ⟨b, m, hb, rfl⟩
    · exact global_reachable (addConfig st newMods newBack) k x hk
    · exact global_reachable (addConfig st newMods newBack) k x hk
    · exact (reach_closed _ _).1 _ (member_edge_mem (st := addConfig st newMods newBack)
        (List.mem_append.2 (Or.inl htb)) hk) hsrc
    · exact (reach_closed _ _).1 _ (back_edge_mem (st := addConfig st newMods newBack)
        (List.mem_append.2 (Or.inl hb))) hsrc

/-- configuration A: `os`(1) = {exit ↦ 2, getenv ↦ 3}; a later configuration B has its own
    module 5 = {exit ↦ 2, getenv ↦ 3} built from the SAME builtin objects, whose back-pointers
    now lead to module 5 -/
def sharedBuiltinWitness : St :=
  { globals := [([111, 115], 1)],
    mods := [(1, [([101], 2), ([103], 3)]), (5, [([101], 2), ([103], 3)])],
    back := [(2, 5), (3, 5)] }

/-- **Why builtins must not be shared between module instances.** If a later configuration's
    module is built from the same builtin objects and their `__module__` follows it, denying
    `os.exit` in configuration A leaves the object reachable from A:
    `os.getenv.__module__.exit`.  (The hypotheses of `later_config_no_new_paths` and
    `SoleMember` exclude exactly this.) -/
theorem shared_builtin_defeats_deny :
    reachable (graphOf (denyParts sharedBuiltinWitness [[111, 115], [101]])) [root] 2 = true ∧
    access (denyParts sharedBuiltinWitness [[111, 115], [101]]) false [111, 115] [[101]] = none ∧
    access (denyParts sharedBuiltinWitness [[111, 115], [101]]) false [111, 115]
      [[103], dunderModule, [101]] = some 2 := by
  decide +kernel

/-- non-vacuity of `later_config_no_new_paths`: A = `os`(1) = {exit ↦ 2} with `os.exit` denied;
    B brings module 5 = {exit ↦ 6} with builtin 6 ↦ 5; object 2 is unreachable before and
    after B is built. -/
example :
    let a := denyParts { globals := [([111, 115], 1)], mods := [(1, [([101], 2)])], back := [(2, 1)] } [[111, 115], [101]]
    (∀ it ∈ [((5 : Id), ([([101], 6)] : Table))], it.1 ∉ reach (graphOf a) [root]) ∧
    (∀ bm ∈ [((6 : Id), (5 : Id))], bm.1 ∉ reach (graphOf a) [root]) ∧
    reachable (graphOf (addConfig a [(5, [([101], 6)])] [(6, 5)])) [root] 2 = false := by
  decide +kernel

/-! ## 9. host-owned inputs shared between configurations

The host's Go maps have identity (`World.heap`); several option sequences may name the same map
(`HOpt.globalsMap h`).  `build false` is `NewConfig(opts...)` of the code as it is (`WithGlobals`
copies), `build true` the contrast in which `WithGlobals` adopts the host's map; `runBuilds` builds
any number of configurations one after the other in one world.  `ownGlobals` is the Spec: the
configuration's globals as a function of its own option sequence only. -/

/-- the statement "building a configuration writes no host map", for either variant of
    `WithGlobals` -/
def HostInputsNeverWritten (adopt : Bool) : Prop :=
  ∀ (w : World) (b : Build), (build adopt w b).1.heap = w.heap

/-- **host_inputs_never_written.** For the code as it is (`WithGlobals` copies the entries):
    for EVERY world (any host maps, shared by any number of option sequences), every option
    sequence — any mixture of `WithGlobals(m)` for any host maps `m`, the same map several times,
    `WithGlobal`, `WithoutGlobal(s)`, `WithGlobalOverride`, `WithoutDefaultGlobals` — every default
    table and every iteration order, folding the options and running `Config.init` leaves every
    host-supplied map exactly as it was (same keys, same values). -/
theorem host_inputs_never_written : HostInputsNeverWritten false :=
  fun w b => (build_copy w b).1

/-- **A configuration's globals are a function of its own option sequence.**  Whatever the
    world contains (modules and builtins of other configurations, any module heap), the built
    Config owns its globals map and its contents are `ownGlobals`: the fold of ITS options over
    the host maps' contents, then `Config.init` — so every theorem of section 6
    (`optseq_top_binding`, `optseq_meets_spec`, `optseq_denied_stays_denied`, …) applies to it
    with `opts := flatten w.heap b.opts`. -/
theorem build_own_sequence (w : World) (b : Build) :
    (build false w b).2 = ⟨none, ownGlobals w.heap b⟩ :=
  (build_copy w b).2

/-- what a built Config of the code as it is shows does not depend on the host maps' later
    contents -/
theorem visible_own (t : Table) (heap : List (Id × Table)) :
    (⟨none, t⟩ : Built).visible heap = t := rfl

/-- any number of configurations, one after the other: no host map is written and the k-th
    result is what the k-th request gives alone on the ORIGINAL host maps -/
theorem runBuilds_copy (bs : List Build) (w : World) :
    (runBuilds false w bs).1.heap = w.heap ∧
    (runBuilds false w bs).2 = bs.map fun b => (⟨none, ownGlobals w.heap b⟩ : Built) := by
  induction bs generalizing w with
  | nil => exact ⟨rfl, rfl⟩
  | cons b bs ih =>
    obtain ⟨h1, h2⟩ := ih (build false w b).1
    have hb := build_copy w b
    simp only [runBuilds, List.map_cons]
    rw [h1, h2, hb.1, hb.2]
    exact ⟨rfl, rfl⟩

/-- **host_inputs_never_written, sequences of configurations.** -/
theorem host_inputs_never_written_seq (w : World) (bs : List Build) :
    (runBuilds false w bs).1.heap = w.heap :=
  (runBuilds_copy bs w).1

/-- **configs_independent_shared_inputs.**  Two configurations whose option sequences may name
    the SAME host maps (and the same objects inside them), built in one world in either order:
    * neither build writes a host map;
    * each built Config is exactly what its own request gives alone — `ownGlobals` of ITS
      sequence over the host maps as the host wrote them — whether it is built first or second;
    * what the first Config shows is the same after the second was built (at the final heap).
    For all worlds, option sequences, default tables and iteration orders. -/
theorem configs_independent_shared_inputs (w : World) (b1 b2 : Build) :
    let r1 := build false w b1
    let r2 := build false r1.1 b2
    r2.1.heap = w.heap ∧
    r1.2 = ⟨none, ownGlobals w.heap b1⟩ ∧ r2.2 = ⟨none, ownGlobals w.heap b2⟩ ∧
    r2.2 = (build false w b2).2 ∧
    r1.2.visible r2.1.heap = ownGlobals w.heap b1 ∧ r2.2.visible r2.1.heap = ownGlobals w.heap b2 := by
  intro r1 r2
  have h1 := build_copy w b1
  have h2 := build_copy r1.1 b2
  have h3 := build_copy w b2
  have e1 : r1.1.heap = w.heap := h1.1
  have e2 : r2.2 = ⟨none, ownGlobals w.heap b2⟩ := by rw [← e1]; exact h2.2
  refine ⟨h2.1.trans e1, h1.2, e2, e2.trans h3.2.symm, ?_, ?_⟩
  · rw [show r1.2 = _ from h1.2]; rfl
  · rw [e2]; rfl

/-- **Any number of configurations, any order.**  For every list of requests over shared host
    maps: the list of built Configs is the list of their `ownGlobals` — position by position. -/
theorem shared_inputs_each_own_sequence (w : World) (bs : List Build) :
    (runBuilds false w bs).2 = bs.map fun b => (⟨none, ownGlobals w.heap b⟩ : Built) :=
  (runBuilds_copy bs w).2

/-- … hence building the same requests in another order (permissive before restrictive or the
    reverse, or any interleaving of whole builds) yields the same Configs, permuted. -/
theorem shared_inputs_order_irrelevant (w : World) (bs bs' : List Build) (h : bs.Perm bs') :
    (runBuilds false w bs).2.Perm (runBuilds false w bs').2 := by
  rw [shared_inputs_each_own_sequence, shared_inputs_each_own_sequence]
  exact h.map _

/-! ### contrast: `WithGlobals` adopts the host's map -/

/-- host map 7 = {x ↦ 9}; the permissive request (defaults: `os` ↦ module 1) and the restrictive
    one (`WithoutDefaultGlobals`), both `WithGlobals(m)` with the SAME map -/
def adoptWorld : World := ⟨[(7, [([120], 9)])], [], []⟩
def permissive : Build := ⟨[.globalsMap 7], [([111, 115], 1)], [(1, [])], [], [], []⟩
def restrictive : Build := ⟨[.opt .noDefaults, .globalsMap 7], [([111, 115], 5)], [(5, [])], [], [], []⟩

/-- **Counterexample (adopting variant).**  `NewConfig(WithGlobals(m))` writes the default
    globals into the HOST's map. -/
theorem adopting_writes_host_map : ¬ HostInputsNeverWritten true := by
  intro h
  exact absurd (h adoptWorld permissive) (by decide +kernel)

/-- **Counterexample (adopting variant): configurations interfere, in both orders.**
    Permissive then restrictive: the restrictive Config — `WithoutDefaultGlobals` — binds `os` to
    the module the PERMISSIVE Config's defaults created (1).  Restrictive then permissive: the
    restrictive Config, built first and correct then (`os` unbound), binds `os` once the
    permissive one has been built.  With the code as it is, `os` is unbound in both. -/
theorem adopting_configs_interfere :
    (let r := runBuilds true adoptWorld [permissive, restrictive]
     r.2.map (fun b => tget (b.visible r.1.heap) [111, 115]) = [some 1, some 1]) ∧
    (let r := runBuilds true adoptWorld [restrictive, permissive]
     tget ((build true adoptWorld restrictive).2.visible (build true adoptWorld restrictive).1.heap) [111, 115] = none ∧
     r.2.map (fun b => tget (b.visible r.1.heap) [111, 115]) = [some 1, some 1]) ∧
    (let r := runBuilds false adoptWorld [permissive, restrictive]
     r.2.map (fun b => tget (b.visible r.1.heap) [111, 115]) = [some 1, none] ∧ r.1.heap = adoptWorld.heap) := by
  decide +kernel

/-- non-vacuity: a world with two host maps, one request naming both (one of them twice) and a
    nil map, a denial and an override: the host maps are untouched and the result is the fold of
    the flattened sequence -/
example :
    let w : World := ⟨[(7, [([120], 9), ([121], 8)]), (8, [([120], 6)])], [], []⟩
    let b : Build := ⟨[.globalsMap 7, .opt (.without [121]), .globalsMap 8, .globalsMap 3, .globalsMap 7,
      .opt (.override [122] 4)], [([111, 115], 1)], [], [], [[121]], [([122], 4)]⟩
    flatten w.heap b.opts = [.withGlobal [120] 9, .withGlobal [121] 8, .without [121], .withGlobal [120] 6,
      .withGlobal [120] 9, .withGlobal [121] 8, .override [122] 4] ∧
    (build false w b).1.heap = w.heap ∧
    (build false w b).2.own = [([120], 9), ([111, 115], 1), ([122], 4)] := by
  decide +kernel

/-! ## 10. host OBJECTS shared between configurations

The value of a `WithGlobalOverride` / `WithGlobal(s)` option is an object of the host; the host may
install the same object (a replacement builtin created once) in any number of configurations that
differ in what else they deny or override.  `World.back` holds the `Builtin.module` field of every
builtin that exists — host replacements included (a builtin the host created has none: `__module__`
is nil, id 1).  `buildO false` is `NewConfig(opts...)` with `Module.Override` as it is (it stores the
replacement in the table and writes nothing else; `= build false`, `buildO_false`); `buildO true` is
the contrast in which Override re-aims the replacement's back-pointer at the edited module. -/

/-- **Config.init never writes a back-pointer.**  For every state, every list of denylist entries
    and every list of overrides (any names, any depth, any values — builtins, modules, values):
    the `Builtin.module` field of every builtin is after `Config.init` what it was before. -/
theorem init_never_writes_back (st : St) (ds : List (List Name)) (os : List (List Name × Id)) :
    (initCfg st ds os).back = st.back :=
  initCfg_preserves (fun s => s.back = st.back)
    (fun edit he s h => (edit_frame edit he s root).2.trans h) st ds os rfl

/-- building a configuration adds the back-pointers of ITS fresh default builtins and changes no
    other (all worlds, all option sequences) -/
theorem build_back (w : World) (b : Build) : (build false w b).1.back = w.back ++ b.newBack := by
  unfold build initFrom
  simp only [init_never_writes_back]

/-- the statement "building a configuration leaves the `Builtin.module` field of every builtin that
    already exists as it is", for either Override rule -/
def HostObjectsNeverWritten (adoptOv : Bool) : Prop :=
  ∀ (w : World) (b : Build) (x m : Id),
    bget w.back x = some m → bget (buildO adoptOv w b).1.back x = some m

/-- **host_objects_never_written.**  For the code as it is: for EVERY world (any builtins of the
    host and of earlier configurations), every option sequence — in particular any number of
    `WithGlobalOverride(name, r)` / `WithGlobal(name, r)` with a builtin `r` that other option
    sequences name too —, every default table and every iteration order: `__module__` of every
    existing builtin is after the build what it was before. -/
theorem host_objects_never_written : HostObjectsNeverWritten false := by
  intro w b x m h
  rw [buildO_false, build_back, bget_append, h]

/-- … and after any number of builds, one after the other -/
theorem host_objects_never_written_seq (bs : List Build) (w : World) (x m : Id)
    (h : bget w.back x = some m) : bget (runBuildsO false w bs).1.back x = some m := by
  induction bs generalizing w with
  | nil => exact h
  | cons b bs ih =>
    simp only [runBuildsO]
    exact ih _ (host_objects_never_written w b x m h)

/-- the statement "a configuration built LATER changes no access result of this configuration",
    for either Override rule.  `g` = the globals of this configuration, `w` = the world it lives in
    (after its own build), `b` = the later build.  Hypotheses: the later build's FRESH default
    builtins are not already reachable from this configuration, and the later build edits the
    attribute table of no object this configuration reaches (it edits only modules reachable from
    its own globals: `editMember_frame`; configurations share no module when the defaults are
    fresh per Config).  NOTHING is assumed about the values of the options: the two configurations
    may name the same replacement objects. -/
def LaterBuildKeepsAccesses (adoptOv : Bool) : Prop :=
  ∀ (w : World) (g : Table) (b : Build),
    (∀ bm ∈ b.newBack, bm.1 ∉ reach (graphOf ⟨g, w.mods, w.back⟩) [root]) →
    (∀ x ∈ reach (graphOf ⟨g, w.mods, w.back⟩) [root],
      mtable (buildO adoptOv w b).1.mods x = mtable w.mods x) →
    ∀ imp first attrs,
      accessIn (buildO adoptOv w b).1 g imp first attrs = accessIn w g imp first attrs

/-- **later_build_keeps_accesses.**  For the code as it is: for every world, every configuration
    in it and every later build — whatever objects its option sequence shares with this
    configuration (the same replacement builtin under the same or another name, the same host
    values) — EVERY access attempt of this configuration (identifier or import, then any chain of
    attribute and `__module__` steps, of any length) gives after the later build exactly what it
    gave before: a removed member stays unobtainable through `replacement.__module__` too. -/
theorem later_build_keeps_accesses : LaterBuildKeepsAccesses false := by
  intro w g b hfresh hframe
  unfold accessIn
  apply access_congr_on ⟨g, w.mods, w.back⟩ ⟨g, (buildO false w b).1.mods, (buildO false w b).1.back⟩
    (fun x => x ∈ reach (graphOf ⟨g, w.mods, w.back⟩) [root]) rfl
  · intro x hx
    show bget (buildO false w b).1.back x = bget w.back x
    rw [buildO_false, build_back, bget_append]
    cases hbx : bget w.back x with
    | some m => rfl
    | none =>
      show bget b.newBack x = none
      cases hn : bget b.newBack x with
      | none => rfl
      | some m => exact absurd hx (hfresh _ (bget_mem hn))
  · exact fun n x hx => global_reachable ⟨g, w.mods, w.back⟩ n x (tget_mem hx)
  · exact attrStep_reachable _
  · exact hframe

/-! ### contrast: `Module.Override` adopts the replacement -/

/-- `os`, `exit`, `getenv`, `os.exit`, `os.getenv` as bytes -/
def nOs : Name := [111, 115]
def nExit : Name := [101, 120, 105, 116]
def nGetenv : Name := [103, 101, 116, 101, 110, 118]
def nOsExit : Name := nOs ++ [46] ++ nExit
def nOsGetenv : Name := nOs ++ [46] ++ nGetenv

/-- the host's replacement builtin 9, created once, without a module (`__module__` = nil = 1) -/
def objWorld : World := ⟨[], [], [(9, 1)]⟩

/-- the restricted tenant: `WithoutGlobal("os.getenv")`, `WithGlobalOverride("os.exit", r)`; its
    fresh defaults: `os` ↦ module 2 = {exit ↦ 3, getenv ↦ 4} -/
def victim : Build :=
  ⟨[.opt (.without nOsGetenv), .opt (.override nOsExit 9)], [(nOs, 2)],
   [(2, [(nExit, 3), (nGetenv, 4)])], [(3, 2), (4, 2)], [nOsGetenv], [(nOsExit, 9)]⟩

/-- another tenant: only `WithGlobalOverride("os.exit", r)` with the SAME `r`; its fresh defaults:
    `os` ↦ module 5 = {exit ↦ 6, getenv ↦ 7} -/
def tenantB : Build :=
  ⟨[.opt (.override nOsExit 9)], [(nOs, 5)],
   [(5, [(nExit, 6), (nGetenv, 7)])], [(6, 5), (7, 5)], [], [(nOsExit, 9)]⟩

/-- **Counterexample (adopting variant).**  Building ONE configuration writes the host's object:
    the replacement's `__module__` is nil before and the configuration's `os` module afterwards. -/
theorem adopting_override_writes_host_object : ¬ HostObjectsNeverWritten true := by
  intro h
  exact absurd (h objWorld victim 9 1 (by decide +kernel)) (by decide +kernel)

/-- **Counterexample (adopting variant): a later build opens a path.**  All hypotheses of
    `LaterBuildKeepsAccesses` hold for the victim and the later tenant B (fresh defaults, B edits
    only its own module), yet `os.exit.__module__.getenv` changes under the victim's configuration. -/
theorem adopting_override_opens_path : ¬ LaterBuildKeepsAccesses true := by
  intro h
  have := h (buildO true objWorld victim).1 (buildO true objWorld victim).2.own tenantB
    (by decide +kernel) (by decide +kernel) false nOs [nExit, dunderModule, nGetenv]
  revert this
  decide +kernel

/-- **What the script of the restricted tenant obtains, both variants.**  `a` = the victim built,
    `b` = tenant B built afterwards; all accesses under the VICTIM's globals.
    Adopting variant: `os.getenv` fails (removed), `os.exit.__module__.getenv` fails right after the
    victim's own build and yields B's `getenv` (7) once B is built; 7 is reachable from the victim's
    globals.  Code as it is: `os.exit` is the replacement, `os.exit.__module__` is nil at both
    times, the chain fails at both times, 7 is unreachable, the replacement's back-pointer is nil. -/
theorem shared_replacement_witness :
    (let a := buildO true objWorld victim
     let b := buildO true a.1 tenantB
     accessIn b.1 a.2.own false nOs [nGetenv] = none ∧
     accessIn a.1 a.2.own false nOs [nExit, dunderModule, nGetenv] = none ∧
     accessIn b.1 a.2.own false nOs [nExit, dunderModule, nGetenv] = some 7 ∧
     reachable (graphOf ⟨a.2.own, b.1.mods, b.1.back⟩) [root] 7 = true) ∧
    (let a := buildO false objWorld victim
     let b := buildO false a.1 tenantB
     accessIn b.1 a.2.own false nOs [nExit] = some 9 ∧
     accessIn a.1 a.2.own false nOs [nExit, dunderModule] = some 1 ∧
     accessIn b.1 a.2.own false nOs [nExit, dunderModule] = some 1 ∧
     accessIn a.1 a.2.own false nOs [nExit, dunderModule, nGetenv] = none ∧
     accessIn b.1 a.2.own false nOs [nExit, dunderModule, nGetenv] = none ∧
     reachable (graphOf ⟨a.2.own, b.1.mods, b.1.back⟩) [root] 7 = false ∧
     bget b.1.back 9 = some 1) := by
  decide +kernel

/-- non-vacuity of `later_build_keeps_accesses`: its hypotheses hold for the victim and tenant B
    (which share the replacement 9), and the victim does obtain the replacement under `os.exit` -/
example :
    (∀ bm ∈ tenantB.newBack, bm.1 ∉ reach (graphOf ⟨(buildO false objWorld victim).2.own,
      (buildO false objWorld victim).1.mods, (buildO false objWorld victim).1.back⟩) [root]) ∧
    (∀ x ∈ reach (graphOf ⟨(buildO false objWorld victim).2.own,
      (buildO false objWorld victim).1.mods, (buildO false objWorld victim).1.back⟩) [root],
      mtable (buildO false (buildO false objWorld victim).1 tenantB).1.mods x =
        mtable (buildO false objWorld victim).1.mods x) ∧
    accessIn (buildO false objWorld victim).1 (buildO false objWorld victim).2.own false nOs [nExit] = some 9 := by
  decide +kernel

/-! ## 11. Options that do not speak about globals

A real option sequence mixes the global-related options with others (`WithConcurrency`,
`WithFilename`, `WithOS`, …: `XOpt.flag k`).  For the code as it is they are irrelevant to the
globals: the configuration is the one its global-related options alone determine, so every
theorem of section 6 holds for the mixed sequence, wherever the other options stand. -/

theorem applyXOpts_foldl_core (xs : List XOpt) (s : XCfg) :
    (xs.foldl applyXOpt s).c = (core xs).foldl applyOpt s.c := by
  induction xs generalizing s with
  | nil => rfl
  | cons x xs ih => cases x <;> exact ih _

/-- the global-related fields after a mixed sequence are those its global-related options
    leave -/
theorem applyXOpts_core (xs : List XOpt) : (applyXOpts xs).c = applyOpts (core xs) := by
  unfold applyXOpts applyOpts
  rw [applyXOpts_foldl_core]

theorem mem_core (xs : List XOpt) (o : Opt) : o ∈ core xs ↔ XOpt.opt o ∈ xs := by
  induction xs with
  | nil => simp [core]
  | cons x xs ih => cases x <;> simp [core, ih]

theorem deniedIn_core (xs : List XOpt) (n : Name) (h : XOpt.opt (.without n) ∈ xs) :
    deniedIn (core xs) n = true :=
  List.contains_iff_mem.mpr ((mem_core xs _).mpr h)

/-- **Other options are irrelevant to the globals**: for every mixed sequence the initialised
    configuration (globals, every module table, every back-pointer) is the one of its
    global-related options alone — whichever other options it contains and wherever. -/
theorem xoptseq_flags_irrelevant (xs : List XOpt) (dflt : Table) (mods : List (Id × Table))
    (back : List (Id × Id)) (ds : List Name) (os : Table) :
    initFromX (applyXOpts xs) dflt mods back ds os =
      initFrom (applyOpts (core xs)) dflt mods back ds os := by
  unfold initFromX
  rw [applyXOpts_core]

/-- **The effect of a removal does not depend on an unrelated option**: two sequences with the
    same global-related options give the same configuration. -/
theorem xoptseq_same_core (xs ys : List XOpt) (h : core xs = core ys) (dflt : Table)
    (mods : List (Id × Table)) (back : List (Id × Id)) (ds : List Name) (os : Table) :
    initFromX (applyXOpts xs) dflt mods back ds os =
      initFromX (applyXOpts ys) dflt mods back ds os := by
  rw [xoptseq_flags_irrelevant, xoptseq_flags_irrelevant, h]

/-- **The code meets the Spec for mixed option sequences.** -/
theorem xoptseq_meets_spec (xs : List XOpt) (dflt : Table) (mods : List (Id × Table))
    (back : List (Id × Id)) (ds : List Name) (os : Table) (n : Name)
    (hn : undotted n = true)
    (hds : EnumSet (applyXOpts xs).c.denylist ds) (hos : EnumMap (applyXOpts xs).c.overrides os) :
    allowedTop (core xs) n (tget (initFromX (applyXOpts xs) dflt mods back ds os).globals n) = true := by
  rw [xoptseq_flags_irrelevant]
  rw [applyXOpts_core] at hds hos
  exact optseq_meets_spec (core xs) dflt mods back ds os n hn hds hos

/-- **A denied name stays denied, whatever other options the sequence contains**: if
    `WithoutGlobal(n)` occurs anywhere in the mixed sequence and no override for `n` is in
    force, `n` is unbound in the end. -/
theorem xoptseq_denied_stays_denied (xs : List XOpt) (dflt : Table) (mods : List (Id × Table))
    (back : List (Id × Id)) (ds : List Name) (os : Table) (n : Name)
    (hn : undotted n = true)
    (hds : EnumSet (applyXOpts xs).c.denylist ds) (hos : EnumMap (applyXOpts xs).c.overrides os)
    (hden : XOpt.opt (.without n) ∈ xs) (hov : lastOverride (core xs) n = none) :
    tget (initFromX (applyXOpts xs) dflt mods back ds os).globals n = none := by
  rw [xoptseq_flags_irrelevant]
  rw [applyXOpts_core] at hds hos
  exact optseq_denied_stays_denied (core xs) dflt mods back ds os n hn hds hos
    (deniedIn_core xs n hden) hov

/-- … and no identifier or import path through `n` exists. -/
theorem xoptseq_denied_access_fails (xs : List XOpt) (dflt : Table) (mods : List (Id × Table))
    (back : List (Id × Id)) (ds : List Name) (os : Table) (n : Name)
    (hn : undotted n = true)
    (hds : EnumSet (applyXOpts xs).c.denylist ds) (hos : EnumMap (applyXOpts xs).c.overrides os)
    (hden : XOpt.opt (.without n) ∈ xs) (hov : lastOverride (core xs) n = none)
    (imp : Bool) (attrs : List Name) :
    access (initFromX (applyXOpts xs) dflt mods back ds os) imp n attrs = none :=
  access_unbound _ imp n attrs
    (xoptseq_denied_stays_denied xs dflt mods back ds os n hn hds hos hden hov)

/-- With `WithoutDefaultGlobals` and no host global, no override: the globals are empty —
    whatever other options are given. -/
theorem xoptseq_noDefaults_empty (xs : List XOpt) (dflt : Table) (mods : List (Id × Table))
    (back : List (Id × Id))
    (hcore : core xs = [.noDefaults]) :
    (initFromX (applyXOpts xs) dflt mods back [] []).globals = [] := by
  rw [xoptseq_flags_irrelevant, hcore]
  rfl

/-- CONTRAST: a last init step that, under flag 0, re-installs the default object of a missing
    name brings a removed name back (the Spec rejects the binding), and whether the removal
    works then depends on the unrelated option — with the code as it is (`initFromX`) the name
    is unbound in both sequences.  ([115] = "s", default object 7.) -/
theorem restoring_flag_defeats_denial :
    let xs := [XOpt.flag 0, XOpt.opt (.without [115])]
    let ys := [XOpt.opt (.without [115])]
    let dflt : Table := [([115], 7)]
    core xs = core ys ∧
    tget (initFromX (applyXOpts xs) dflt [] [] [[115]] []).globals [115] = none ∧
    tget (initFromXRestoring 0 [[115]] (applyXOpts xs) dflt [] [] [[115]] []).globals [115] = some 7 ∧
    allowedTop (core xs) [115] (some 7) = false ∧
    tget (initFromXRestoring 0 [[115]] (applyXOpts ys) dflt [] [] [[115]] []).globals [115] = none := by
  decide +kernel

end Risor.C11
