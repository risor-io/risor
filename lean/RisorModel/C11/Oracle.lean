import RisorModel.Util
import RisorModel.C11.Model
import RisorModel.Generated.C11
/-!
Line-protocol front end of the C11 model (requests after the leading `C11` field).

  universe                                   → hex names regenerated from /repo (attribute-name universe)
  facts                                      → regenerated control facts (init order, resolveModule shape)
  reach  <edges> <roots> <targets>           → one 0/1 per target (Model.reach on the dumped REAL graph)
  config <without> <host> <dflt> <mods> <back> <denies> <ovs> <accesses>
                                             → final Impl state, per-deny / per-override Spec verdicts, access outcomes
  shared <ids> <ids> <exempt>                → identities two configs have in common
  optcfg <dflt> <mods> <back> <opts> <rev> <accesses>
                                             → like `config`, but the Config fields are folded from the OPTION SEQUENCE by
                                               Model.applyXOpts (rev = 1: both Go maps iterated in reverse); per-deny /
                                               per-override items are prefixed with the name
  optspec <opts> <bindings>                  → Model.allowedTop for each `xname=id|n` (final binding of a top-level name)
  vmseq  <mods> <back> <tables> <evals>      → evaluations on ONE reused VM (Model.vmEval = vmBegin / vmAccess): tables joined by `/`,
                                               eval item `k~access`; per evaluation `impl:spec`

  hostseq <adopt> <heap> <mods> <back> <builds>
                                             → configurations built one after the other in ONE world whose host maps have identity
                                               (Model.runBuilds; adopt = 0: the code as it is).  heap/mods: `id:table|…`; builds
                                               joined by `/`, each `opts~dflt~rev`; option item `G;id` = WithGlobals(host map id)
                                               (an id that is not in the heap = the nil map).  Reply: per build (joined by `/`)
                                               `visible-right-after-the-build~ownGlobals (Spec)~visible-at-the-end~heap-after-the-build`,
                                               then the final heap and the final module heap

  objseq <adoptOv> <mods> <back> <builds> <evals>
                                             → configurations that share host OBJECTS (replacement builtins, host values), built one
                                               after the other in ONE world (Model.runBuildsO; adoptOv = 0: Module.Override as it is).
                                               mods/back: the host's modules and the back-pointers of the host's builtins; builds joined
                                               by `/`, each `opts~dflt~newMods~newBack~rev` (the build's FRESH default objects); evals
                                               joined by `,`, each `stage~k~access` = the access under the globals of build k in the
                                               world after build `stage` (stage ≥ k).  Reply: per build (joined by `/`)
                                               `globals~back~mods` right after the build, then per eval
                                               `at-the-stage:right-after-its-own-build:built-alone-in-the-initial-world`

Option item: `g;xname;id` (WithGlobal), `d;xname` (WithoutGlobal), `o;xname;id` (WithGlobalOverride), `n`
(WithoutDefaultGlobals), `f;k` (an option that writes only the Config field number `k`).
Lists: items joined by `,`, `-` = empty.  Names are `x` + lowercase hex of the bytes.
table item `xname=id`; mods item `id:table` joined by `|`; edge `src>dst>label`;
access item `i;xname;xattr;…` (identifier first) or `m;…` (import first).
-/
namespace Risor.C11
open Risor.Util

def items (s : String) (sep : String := ",") : List String :=
  if s = "-" || s = "" then [] else s.splitOn sep

def parseName (s : String) : Option Name :=
  match s.toList with
  | 'x' :: r => fromHexChars r
  | _ => none

def showName (s : Name) : String := "x" ++ toHex s

def parseKV (s : String) : Option (Name × Id) :=
  match s.splitOn "=" with
  | [k, v] => do
    let k ← parseName k
    let v ← v.toNat?
    pure (k, v)
  | _ => none

def parseTable (s : String) : Option Table := (items s).mapM parseKV

def parseMods (s : String) : Option (List (Id × Table)) :=
  (items s "|").mapM fun it =>
    match it.splitOn ":" with
    | [i, t] => do
      let i ← i.toNat?
      let t ← parseTable t
      pure (i, t)
    | _ => none

def parseBack (s : String) : Option (List (Id × Id)) :=
  (items s).mapM fun it =>
    match it.splitOn "=" with
    | [a, b] => do
      let a ← a.toNat?
      let b ← b.toNat?
      pure (a, b)
    | _ => none

def parseIds (s : String) : Option (List Id) := (items s).mapM (·.toNat?)

def parseEdges (s : String) : Option Graph :=
  (items s).mapM fun it =>
    match it.splitOn ">" with
    | a :: b :: l => do
      let a ← a.toNat?
      let b ← b.toNat?
      let _ := l
      pure ⟨a, .attr [], b⟩
    | _ => none

def splitName (n : Name) : List Name := splitDots n

def parseDenies (s : String) : Option (List (List Name)) :=
  (items s).mapM fun it => (parseName it).map splitName

def parseOvs (s : String) : Option (List (List Name × Id)) :=
  (items s).mapM fun it =>
    match it.splitOn "=" with
    | [k, v] => do
      let k ← parseName k
      let v ← v.toNat?
      pure (splitName k, v)
    | _ => none

def parseAccesses (s : String) : Option (List (Bool × Name × List Name)) :=
  (items s).mapM fun it =>
    match it.splitOn ";" with
    | k :: f :: r => do
      let f ← parseName f
      let r ← r.mapM parseName
      pure (k == "m", f, r)
    | _ => none

def showTable (t : Table) : String :=
  if t.isEmpty then "-" else ",".intercalate (t.map fun kv => showName kv.1 ++ "=" ++ toString kv.2)

def showMods (m : List (Id × Table)) : String :=
  if m.isEmpty then "-" else
    "|".intercalate (m.map fun it => toString it.1 ++ ":" ++ (if it.2.isEmpty then "" else showTable it.2))

def showOpt : Option Id → String
  | some x => toString x
  | none => "n"

def bit (b : Bool) : String := if b then "1" else "0"

def joinOr (xs : List String) : String := if xs.isEmpty then "-" else ",".intercalate xs

/-- the reply shared by `config` and `optcfg`: `denies`/`ovs` carry the name they came from -/
def configReply (st0 : St) (denies : List (Name × List Name)) (ovs : List (Name × List Name × Id))
    (accs : List (Bool × Name × List Name)) (named : Bool) : String :=
  let dl := denies.map (·.2)
  let ol := ovs.map fun x => (x.2.1, x.2.2)
  let impl := initCfg st0 dl ol
  let spec := initSpec st0 dl ol
  let gi := graphOf impl
  let gs := graphOf spec
  let ri := reach gi [root]
  let rs := reach gs [root]
  let pre (n : Name) := if named then showName n ++ ":" else ""
  let dOut := denies.map fun np =>
    let p := np.2
    let t := target st0 p
    let r := match t with
      | some t => bit (ri.contains t) ++ ":" ++ bit (rs.contains t)
      | none => "0:0"
    pre np.1 ++ showOpt t ++ ":" ++ r ++ ":" ++ bit (deepName p)
  let oOut := ovs.map fun npv =>
    let pv := npv.2
    let t := target st0 pv.1
    let r := match t with
      | some t => bit (ri.contains t && t != pv.2)
      | none => "0"
    -- what a script obtains under exactly this name in the final Impl / Spec state
    let seen (s : St) := match pv.1 with
      | [] => none
      | f :: a => access s false f a
    pre npv.1 ++ showOpt t ++ ":" ++ r ++ ":" ++ showOpt (seen impl) ++ ":" ++ showOpt (seen spec) ++ ":" ++ bit (deepName pv.1)
  let aOut := accs.map fun a => showOpt (access impl a.1 a.2.1 a.2.2)
  "ok\t" ++ showTable impl.globals ++ "\t" ++ showMods impl.mods ++ "\t" ++ joinOr dOut ++ "\t" ++
    joinOr oOut ++ "\t" ++ joinOr aOut ++ "\t" ++ bit (decide (impl = spec))

def parseDenyNames (s : String) : Option (List Name) := (items s).mapM parseName

def parseOvNames (s : String) : Option (List (Name × Id)) :=
  (items s).mapM fun it =>
    match it.splitOn "=" with
    | [k, v] => do
      let k ← parseName k
      let v ← v.toNat?
      pure (k, v)
    | _ => none

def handleConfig (without host dflt mods back denies ovs accs : String) : String :=
  match parseTable host, parseTable dflt, parseMods mods, parseBack back,
        parseDenyNames denies, parseOvNames ovs, parseAccesses accs with
  | some host, some dflt, some mods, some back, some denies, some ovs, some accs =>
    let st0 : St := ⟨mergeDefaults (without == "1") host dflt, mods, back⟩
    configReply st0 (denies.map fun n => (n, splitName n)) (ovs.map fun kv => (kv.1, splitName kv.1, kv.2)) accs false
  | _, _, _, _, _, _, _ => "error\tbad-config-request"

def parseOpt (s : String) : Option Opt :=
  match s.splitOn ";" with
  | ["g", n, v] => do
    let n ← parseName n
    let v ← v.toNat?
    pure (.withGlobal n v)
  | ["d", n] => (parseName n).map .without
  | ["o", n, v] => do
    let n ← parseName n
    let v ← v.toNat?
    pure (.override n v)
  | ["n"] => some .noDefaults
  | _ => none

def parseOpts (s : String) : Option (List Opt) := (items s).mapM parseOpt

/-- a mixed sequence: `f;k` is an option that writes only the Config field number `k` -/
def parseXOpt (s : String) : Option XOpt :=
  match s.splitOn ";" with
  | ["f", k] => k.toNat?.map .flag
  | _ => (parseOpt s).map .opt

def parseXOpts (s : String) : Option (List XOpt) := (items s).mapM parseXOpt

def handleOptCfg (dflt mods back opts rev accs : String) : String :=
  match parseTable dflt, parseMods mods, parseBack back, parseXOpts opts, parseAccesses accs with
  | some dflt, some mods, some back, some xs, some accs =>
    -- the fold over ALL options (Model.applyXOpts); initFromX reads the `c` part only
    let c := (applyXOpts xs).c
    let ds := if rev == "1" then c.denylist.reverse else c.denylist
    let os := if rev == "1" then c.overrides.reverse else c.overrides
    let st0 : St := ⟨mergeDefaults c.noDefaults c.globals dflt, mods, back⟩
    -- configReply folds Model.initCfg / initSpec over `ds` and `os` on the state `st0`
    configReply st0 (ds.map fun n => (n, splitDots n)) (os.map fun kv => (kv.1, splitDots kv.1, kv.2)) accs true ++
      "\t" ++ bit c.noDefaults
  | _, _, _, _, _ => "error\tbad-optcfg-request"

def parseBindings (s : String) : Option (List (Name × Option Id)) :=
  (items s).mapM fun it =>
    match it.splitOn "=" with
    | [k, v] => do
      let k ← parseName k
      if v == "n" then pure (k, none) else do
        let v ← v.toNat?
        pure (k, some v)
    | _ => none

def handleOptSpec (opts bs : String) : String :=
  match parseXOpts opts, parseBindings bs with
  | some xs, some bs =>
    -- Spec for a mixed sequence: allowedTop of its global-related options (Props.xoptseq_meets_spec)
    let opts := core xs
    "ok\t" ++ joinOr (bs.map fun nb =>
      bit (allowedTop opts nb.1 nb.2) ++ ":" ++ showOpt (lastOverride opts nb.1) ++ ":" ++
        bit (deniedIn opts nb.1) ++ ":" ++ showOpt (hostAfterDeny opts nb.1) ++ ":" ++ bit (undotted nb.1))
  | _, _ => "error\tbad-optspec-request"

def parseEvals (s : String) : Option (List (Nat × Bool × Name × List Name)) :=
  (items s).mapM fun it =>
    match it.splitOn "~" with
    | [k, a] => do
      let k ← k.toNat?
      match ← parseAccesses a with
      | [acc] => pure (k, acc)
      | _ => none
    | _ => none

def handleVmSeq (mods back tables evals : String) : String :=
  match parseMods mods, parseBack back, (tables.splitOn "/").mapM parseTable, parseEvals evals with
  | some mods, some back, some tables, some evals =>
    let step (acc : VM × List String) (ev : Nat × Bool × Name × List Name) : VM × List String :=
      let g := tables.getD ev.1 []
      let r := vmEval mods back acc.1 g ev.2.1 ev.2.2.1 ev.2.2.2
      let spec := access ⟨g, mods, back⟩ ev.2.1 ev.2.2.1 ev.2.2.2
      (r.1, acc.2 ++ [showOpt r.2 ++ ":" ++ showOpt spec])
    "ok\t" ++ joinOr (evals.foldl step (VM.empty, [])).2
  | _, _, _, _ => "error\tbad-vmseq-request"

def parseHOpt (s : String) : Option HOpt :=
  match s.splitOn ";" with
  | ["G", h] => h.toNat?.map .globalsMap
  | _ => (parseOpt s).map .opt

def parseBuild (heap : List (Id × Table)) (adopt : Bool) (s : String) : Option Build :=
  match s.splitOn "~" with
  | [opts, dflt, rev] => do
    let opts ← (items opts).mapM parseHOpt
    let dflt ← parseTable dflt
    -- the iteration orders of the denylist / overrides maps: as the options left them, or reversed
    let c := (opts.foldl (applyHOpt adopt) ⟨heap, none, Cfg.empty⟩).c
    let ds := if rev == "1" then c.denylist.reverse else c.denylist
    let os := if rev == "1" then c.overrides.reverse else c.overrides
    pure ⟨opts, dflt, [], [], ds, os⟩
  | _ => none

def handleHostSeq (adopt heap mods back builds : String) : String :=
  let ad := adopt == "1"
  match parseMods heap, parseMods mods, parseBack back with
  | some heap, some mods, some back =>
    -- a build's denylist/override orders are read off the fold over the heap AS IT IS THEN
    let step (acc : World × List (Build × Built × List (Id × Table)) × Bool) (b : String) :=
      match parseBuild acc.1.heap ad b with
      | some bd =>
        let r := build ad acc.1 bd
        (r.1, acc.2.1 ++ [(bd, r.2, r.1.heap)], acc.2.2)
      | none => (acc.1, acc.2.1, false)
    let fin := (builds.splitOn "/").foldl step (⟨heap, mods, back⟩, [], true)
    if !fin.2.2 then "error\tbad-hostseq-build" else
    let outs := fin.2.1.map fun x =>
      showTable (x.2.1.visible x.2.2) ++ "~" ++ showTable (ownGlobals heap x.1) ++ "~" ++
        showTable (x.2.1.visible fin.1.heap) ++ "~" ++ showMods x.2.2
    "ok\t" ++ "/".intercalate outs ++ "\t" ++ showMods fin.1.heap ++ "\t" ++ showMods fin.1.mods
  | _, _, _ => "error\tbad-hostseq-request"

def showBack (b : List (Id × Id)) : String :=
  joinOr (b.map fun e => toString e.1 ++ "=" ++ toString e.2)

def parseBuildO (s : String) : Option Build :=
  match s.splitOn "~" with
  | [opts, dflt, nm, nb, rev] => do
    let opts ← (items opts).mapM parseHOpt
    let dflt ← parseTable dflt
    let nm ← parseMods nm
    let nb ← parseBack nb
    let c := (opts.foldl (applyHOpt false) ⟨[], none, Cfg.empty⟩).c
    let ds := if rev == "1" then c.denylist.reverse else c.denylist
    let os := if rev == "1" then c.overrides.reverse else c.overrides
    pure ⟨opts, dflt, nm, nb, ds, os⟩
  | _ => none

def parseStagedEvals (s : String) : Option (List (Nat × Nat × Bool × Name × List Name)) :=
  (items s).mapM fun it =>
    match it.splitOn "~" with
    | [st, k, a] => do
      let st ← st.toNat?
      let k ← k.toNat?
      match ← parseAccesses a with
      | [acc] => pure (st, k, acc)
      | _ => none
    | _ => none

def handleObjSeq (adopt mods back builds evals : String) : String :=
  match parseMods mods, parseBack back, (builds.splitOn "/").mapM parseBuildO, parseStagedEvals evals with
  | some mods, some back, some bs, some evs =>
    let ad := adopt == "1"
    let w0 : World := ⟨[], mods, back⟩
    let r := (runBuildsO ad w0 bs).2
    let alones := bs.map (buildO ad w0)
    let outs := r.map fun bw =>
      showTable bw.1.own ++ "~" ++ showBack bw.2.back ++ "~" ++ showMods bw.2.mods
    let ev := evs.map fun e =>
      match r[e.2.1]?, r[e.1]?, alones[e.2.1]? with
      | some kb, some sb, some al =>
        let a := e.2.2
        showOpt (accessIn sb.2 kb.1.own a.1 a.2.1 a.2.2) ++ ":" ++
          showOpt (accessIn kb.2 kb.1.own a.1 a.2.1 a.2.2) ++ ":" ++
          showOpt (accessIn al.1 al.2.own a.1 a.2.1 a.2.2)
      | _, _, _ => "e"
    "ok\t" ++ "/".intercalate outs ++ "\t" ++ joinOr ev
  | _, _, _, _ => "error\tbad-objseq-request"

def handle : List String → String
  | ["universe"] => joinOr (Risor.Generated.C11.attrUniverse.map fun n => showName (strBytes n))
  | ["facts"] =>
    "init=" ++ ">".intercalate Risor.Generated.C11.initOrder ++
    "\tresolveInRoot=" ++ bit Risor.Generated.C11.resolveLooksUpInRoot ++
    "\tdottedKeys=" ++ toString Risor.Generated.C11.dottedMemberKeys.length
  | ["reach", edges, roots, targets] =>
    match parseEdges edges, parseIds roots, parseIds targets with
    | some g, some r, some ts =>
      let vis := reach g r
      "ok\t" ++ (if ts.isEmpty then "-" else String.join (ts.map fun t => bit (vis.contains t)))
    | _, _, _ => "error\tbad-reach-request"
  | ["config", without, host, dflt, mods, back, denies, ovs, accs] =>
    handleConfig without host dflt mods back denies ovs accs
  | ["optcfg", dflt, mods, back, opts, rev, accs] => handleOptCfg dflt mods back opts rev accs
  | ["optspec", opts, bs] => handleOptSpec opts bs
  | ["vmseq", mods, back, tables, evals] => handleVmSeq mods back tables evals
  | ["hostseq", adopt, heap, mods, back, builds] => handleHostSeq adopt heap mods back builds
  | ["objseq", adopt, mods, back, builds, evals] => handleObjSeq adopt mods back builds evals
  | ["shared", a, b, ex] =>
    match parseIds a, parseIds b, parseIds ex with
    | some a, some b, some ex => "ok\t" ++ joinOr ((sharedIds a b ex).map toString)
    | _, _, _ => "error\tbad-shared-request"
  | _ => "error\tunknown-request"

end Risor.C11
