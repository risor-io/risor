import RisorModel.C02.Model
/-!
C02 — helper lemmas.  The mode of the evaluator matters only through `captureAct`, and
`captureAct _ _ _ 0` does not depend on the mode.  The slot allocator of block tables claims
increasing slots.  The frame machine keeps an invariant under which it simulates the variable machine.
-/
namespace Risor.C02

theorem captureAct_zero (parent : Nat → Option Nat) (stack : List Nat) :
    captureAct .positional parent stack 0 = captureAct .lexical parent stack 0 := by
  cases stack with
  | nil => rfl
  | cons a t => rfl

theorem makeCells_depth1 (s : St) (frees : List (Nat × Nat))
    (h : (frees.all fun p => p.2 == 0) = true) :
    makeCells .positional s frees = makeCells .lexical s frees := by
  induction frees with
  | nil => rfl
  | cons p rest ih =>
    obtain ⟨slot, d⟩ := p
    simp only [List.all_cons, Bool.and_eq_true, beq_iff_eq] at h
    obtain ⟨hd, hr⟩ := h
    have hd' : d = 0 := hd
    subst hd'
    simp only [makeCells, captureAct_zero, ih hr]

theorem lit_depth1_of_mem {lits : List Lit} (h : depth1Only lits = true) {i : Nat} {l : Lit}
    (hl : lits[i]? = some l) : (l.frees.all fun p => p.2 == 0) = true := by
  have hm : l ∈ lits := List.mem_of_getElem? hl
  simp only [depth1Only, List.all_eq_true] at h
  exact h l hm

/-- `Resolve` over a list of names yields one reference per name -/
theorem resolveNames_length : ∀ (xs : List String) (rs rs' : RS) (refs : List Ref),
    resolveNames xs rs = .ok (refs, rs') → refs.length = xs.length := by
  intro xs
  induction xs with
  | nil =>
    intro rs rs' refs h
    simp only [resolveNames, Except.ok.injEq, Prod.mk.injEq] at h
    rw [← h.1]
    rfl
  | cons x xs ih =>
    intro rs rs' refs h
    simp only [resolveNames] at h
    split at h
    · cases h
    · rename_i r rs1 _
      split at h
      · cases h
      · rename_i rl rs2 h2
        simp only [Except.ok.injEq, Prod.mk.injEq] at h
        rw [← h.1, List.length_cons, List.length_cons, ih rs1 rs2 rl h2]

/-- at recursion budget `n` none of the evaluator's functions depends on the mode -/
structure ModeIrrelevant (lits : List Lit) (n : Nat) : Prop where
  eval : eval .positional lits n = eval .lexical lits n
  evalList : evalList .positional lits n = evalList .lexical lits n
  execBody : execBody .positional lits n = execBody .lexical lits n
  callVal : callVal .positional lits n = callVal .lexical lits n
  mapItems : mapItems .positional lits n = mapItems .lexical lits n
  sortLoop : sortLoop .positional lits n = sortLoop .lexical lits n
  tryLoop : tryLoop .positional lits n = tryLoop .lexical lits n
  threadCall : threadCall .positional lits n = threadCall .lexical lits n
  loopRun : loopRun .positional lits n = loopRun .lexical lits n

theorem mode_irrelevant_zero (lits : List Lit) : ModeIrrelevant lits 0 := by
  constructor
  · funext t; rfl
  · funext t; rfl
  · funext t; rfl
  · funext a b; rfl
  · funext a b; rfl
  · funext a b c d e; rfl
  · funext a b; rfl
  · funext a b c; rfl
  · funext a b c d e; rfl

theorem mode_irrelevant_succ (lits : List Lit) (h : depth1Only lits = true) (n : Nat)
    (ih : ModeIrrelevant lits n) : ModeIrrelevant lits (n + 1) := by
  -- every arm is unfolded with `dsimp only`, which does not need the equation lemmas of the nine
  -- mutual functions; the arm then mentions budget `n` only, where `ih` rewrites the mode away
  obtain ⟨h1, h2, h3, h4, h5, h6, h7, h8, h9⟩ := ih
  constructor
  · funext t
    cases t with
    | mkfn i =>
      funext s
      dsimp only [eval]
      cases hl : lits[i]? with
      | none => rfl
      | some l => simp only [makeCells_depth1 s l.frees (lit_depth1_of_mem h hl)]
    | int | nil | fail | mkchan | load | retif | scase => rfl
    | route k args => dsimp only [eval]; rw [h1, h2, h5, h6, h7, h8]
    | _ => dsimp only [eval]; simp only [h1, h2, h3, h4, h9]
  · funext ts
    cases ts <;> dsimp only [evalList] <;> simp only [h1, h2]
  · funext ts
    cases ts with
    | nil => rfl
    | cons t rest => cases t <;> cases rest <;> dsimp only [execBody] <;> simp only [h1, h3]
  · funext f args
    cases f <;> dsimp only [callVal] <;> simp only [h3]
  · funext f xs
    cases xs <;> dsimp only [mapItems] <;> simp only [h4, h5]
  · funext f items i j err
    dsimp only [sortLoop]; rw [h4, h6]
  · funext vs b
    cases vs with
    | nil => rfl
    | cons v rest => cases v <;> dsimp only [tryLoop] <;> simp only [h4, h7]
  · funext f args w
    dsimp only [threadCall]; rw [h4]
  · funext k rs cnt its body
    dsimp only [loopRun]; rw [h3, h9]

/-- **the evaluator does not depend on the mode when every capture is of the literal's own
    frame**, for every recursion budget -/
theorem mode_irrelevant (lits : List Lit) (h : depth1Only lits = true) : ∀ n, ModeIrrelevant lits n
  | 0 => mode_irrelevant_zero lits
  | n + 1 => mode_irrelevant_succ lits h n (mode_irrelevant lits h n)

/-! ## the slot allocator of block tables -/

/-- one operation either claims nothing and leaves `count`, or claims exactly `count` and
    moves it up by one -/
theorem FScope.applyOp_cases (s : FScope) (op : BOp) :
    ((s.applyOp op).2 = [] ∧ (s.applyOp op).1.count = s.count) ∨
    ((s.applyOp op).2 = [s.count] ∧ (s.applyOp op).1.count = s.count + 1) := by
  cases op with
  | openB => exact .inl ⟨rfl, rfl⟩
  | closeB => exact .inl ⟨rfl, rfl⟩
  | decl x =>
    unfold FScope.applyOp FScope.declare
    cases hb : s.blocks with
    | nil =>
      simp only
      cases hl : lookupTab s.bodyTab x with
      | some i => exact .inl ⟨rfl, rfl⟩
      | none => exact .inr ⟨rfl, rfl⟩
    | cons b bs =>
      simp only
      cases hl : lookupTab b x with
      | some i => exact .inl ⟨rfl, rfl⟩
      | none => exact .inr ⟨rfl, rfl⟩

/-- the claimed slots of any sequence are strictly increasing and lie in
    `[count before, count after)` -/
theorem FScope.claims_sorted : ∀ (ops : List BOp) (s : FScope),
    (s.claims ops).Pairwise (· < ·) ∧ s.count ≤ (s.runOps ops).count ∧
      ∀ i ∈ s.claims ops, s.count ≤ i ∧ i < (s.runOps ops).count := by
  intro ops
  induction ops with
  | nil =>
    intro s
    refine ⟨List.Pairwise.nil, Nat.le_refl _, ?_⟩
    intro i hi
    simp [FScope.claims] at hi
  | cons op ops ih =>
    intro s
    obtain ⟨hp, hc, hall⟩ := ih (s.applyOp op).1
    rcases FScope.applyOp_cases s op with ⟨h2, h1⟩ | ⟨h2, h1⟩
    · simp only [FScope.claims, FScope.runOps, h2, List.nil_append]
      rw [h1] at hc hall
      exact ⟨hp, hc, hall⟩
    · simp only [FScope.claims, FScope.runOps, h2, List.singleton_append]
      rw [h1] at hc hall
      refine ⟨List.Pairwise.cons ?_ hp, by omega, ?_⟩
      · intro j hj
        have := (hall j hj).1
        omega
      · intro i hi
        rcases List.mem_cons.1 hi with rfl | hi
        · exact ⟨Nat.le_refl _, by omega⟩
        · have := hall i hi
          exact ⟨by omega, this.2⟩

/-! ## the frame machine: what every reachable state satisfies -/

theorem upd_same {α : Type} (f : Nat → α) (k : Nat) (v : α) : upd f k v k = v := by simp [upd]
theorem upd_other {α : Type} (f : Nat → α) (k j : Nat) (v : α) (h : j ≠ k) : upd f k v j = f j := by simp [upd, h]

/-- an update by a value with the same `g` as the old one is not seen through `g` -/
theorem upd_proj {α β : Type} (g : α → β) (f : Nat → α) (k : Nat) (v : α) (h : g v = g (f k)) (j : Nat) :
    g (upd f k v j) = g (f j) := by
  by_cases hj : j = k
  · subst hj; rw [upd_same, h]
  · rw [upd_other _ _ _ _ hj]

structure FM.Inv (s : FM) : Prop where
  acts_lt : ∀ k, k ≤ s.fp → (s.frames k).act < s.nacts
  acts_mono : ∀ k1 k2, k1 < k2 → k2 ≤ s.fp → (s.frames k1).act < (s.frames k2).act
  cap_loc : ∀ k a, k ≤ s.fp → (s.frames k).captured = some a → (s.frames k).heapLoc = some a
  loc_owner : ∀ k a, k ≤ s.fp → (s.frames k).heapLoc = some a → a < s.next ∧ s.owner a = (s.frames k).act
  cell_owner : ∀ c, c ∈ s.cells → c.addr < s.next ∧ s.owner c.addr = c.act ∧ c.act < s.nacts
  cell_live : ∀ c k, c ∈ s.cells → k ≤ s.fp → (s.frames k).act = c.act → (s.frames k).heapLoc = some c.addr
  cell_same : ∀ c1 c2, c1 ∈ s.cells → c2 ∈ s.cells → c1.act = c2.act → c1.addr = c2.addr

theorem FM.inv_init : FM.init.Inv := by
  constructor <;> simp [FM.init]
  intro k1 k2 h; omega

/-- two live frames with the same activation are the same frame -/
theorem FM.Inv.frame_unique {s : FM} (h : s.Inv) (k1 k2 : Nat) (h1 : k1 ≤ s.fp) (h2 : k2 ≤ s.fp)
    (he : (s.frames k1).act = (s.frames k2).act) : k1 = k2 := by
  rcases Nat.lt_trichotomy k1 k2 with hlt | heq | hgt
  · have := h.acts_mono k1 k2 hlt h2; omega
  · exact heq
  · have := h.acts_mono k2 k1 hgt h1; omega

/-! Every operation is made of six moves, and each of them keeps the invariant: a fresh heap slice
is allocated (`alloc`), a frame is pushed (`push`) or popped (`inv_pop`), a frame's inline locals go
to a slice (`move`), a frame notes that it has been captured (`capture`), a cell is made
(`add_cell`).  Stores and loads touch nothing the invariant speaks of (`of_same`). -/

/-- `make`: the slice at `s.next` is handed to activation `A`; every address in use is below `s.next` -/
theorem FM.Inv.alloc {s : FM} (h : s.Inv) (A : Nat) (H : Nat → Nat → Int) :
    ({ s with heap := H, owner := upd s.owner s.next A, next := s.next + 1 } : FM).Inv where
  acts_lt := h.acts_lt
  acts_mono := h.acts_mono
  cap_loc := h.cap_loc
  loc_owner k a hk hl := by
    obtain ⟨h1, h2⟩ := h.loc_owner k a hk hl
    exact ⟨Nat.lt_succ_of_lt h1, (upd_other _ _ _ _ (Nat.ne_of_lt h1)).trans h2⟩
  cell_owner c hc := by
    obtain ⟨h1, h2, h3⟩ := h.cell_owner c hc
    exact ⟨Nat.lt_succ_of_lt h1, (upd_other _ _ _ _ (Nat.ne_of_lt h1)).trans h2, h3⟩
  cell_live := h.cell_live
  cell_same := h.cell_same

/-- `ActivateFunction` on slot `fp + 1`: a new activation whose locals are inline or on a slice it owns -/
theorem FM.Inv.push {s : FM} (h : s.Inv) (loc : Option Nat) (I : Nat → Nat → Int)
    (hloc : ∀ a, loc = some a → a < s.next ∧ s.owner a = s.nacts) :
    ({ s with frames := upd s.frames (s.fp + 1) { act := s.nacts, heapLoc := loc, captured := none },
              inl := I, fp := s.fp + 1, nacts := s.nacts + 1 } : FM).Inv := by
  -- a frame of the new state is the new one (`k = s.fp + 1`) or an old one (`k ≤ s.fp`)
  have old : ∀ k, k ≤ s.fp → upd s.frames (s.fp + 1) ⟨s.nacts, loc, none⟩ k = s.frames k :=
    fun k hk => upd_other _ _ _ _ (by omega)
  have split : ∀ k, k ≤ s.fp + 1 → k = s.fp + 1 ∨ k ≤ s.fp := fun k hk => by omega
  constructor
  · intro k hk
    dsimp only at hk ⊢
    rcases split k hk with rfl | hk
    · rw [upd_same]; exact Nat.lt_succ_self _
    · rw [old k hk]; exact Nat.lt_succ_of_lt (h.acts_lt k hk)
  · intro k1 k2 h12 hk2
    dsimp only at hk2 ⊢
    rw [old k1 (by omega)]
    rcases split k2 hk2 with rfl | hk2
    · rw [upd_same]; exact h.acts_lt k1 (by omega)
    · rw [old k2 hk2]; exact h.acts_mono k1 k2 h12 hk2
  · intro k a hk hc
    dsimp only at hk hc ⊢
    rcases split k hk with rfl | hk
    · rw [upd_same] at hc; cases hc
    · rw [old k hk] at hc ⊢; exact h.cap_loc k a hk hc
  · intro k a hk hl
    dsimp only at hk hl ⊢
    rcases split k hk with rfl | hk
    · rw [upd_same] at hl ⊢; exact hloc a hl
    · rw [old k hk] at hl ⊢; exact h.loc_owner k a hk hl
  · intro c hc
    obtain ⟨h1, h2, h3⟩ := h.cell_owner c hc
    exact ⟨h1, h2, Nat.lt_succ_of_lt h3⟩
  · intro c k hc hk hact
    dsimp only at hc hk hact ⊢
    rcases split k hk with rfl | hk
    · rw [upd_same] at hact
      exact absurd hact (Nat.ne_of_gt (h.cell_owner c hc).2.2)
    · rw [old k hk] at hact ⊢; exact h.cell_live c k hc hk hact
  · exact h.cell_same

theorem FM.inv_call (s : FM) (h : s.Inv) (wide : Bool) :
    ({ s with
      frames := upd s.frames (s.fp + 1) { act := s.nacts, heapLoc := if wide then some s.next else none, captured := none },
      inl := upd s.inl (s.fp + 1) (fun _ => 0),
      heap := if wide then upd s.heap s.next (fun _ => 0) else s.heap,
      owner := if wide then upd s.owner s.next s.nacts else s.owner,
      next := if wide then s.next + 1 else s.next,
      fp := s.fp + 1, nacts := s.nacts + 1 } : FM).Inv := by
  cases wide with
  | false => exact h.push none _ (fun a ha => by cases ha)
  | true =>
    refine (h.alloc s.nacts _).push (some s.next) _ fun a ha => ?_
    cases ha
    exact ⟨Nat.lt_succ_self _, upd_same _ _ _⟩

/-- the invariant only speaks about frames, cells, allocation and ghost ownership: an operation
    that leaves them alone (stores, loads) keeps it -/
theorem FM.Inv.of_same {s t : FM} (h : s.Inv) (h1 : t.frames = s.frames) (h2 : t.fp = s.fp) (h3 : t.nacts = s.nacts)
    (h4 : t.next = s.next) (h5 : t.owner = s.owner) (h6 : t.cells = s.cells) : t.Inv := by
  obtain ⟨inl, heap, next, owner, frames, fp, nacts, cells, out⟩ := t
  dsimp only at h1 h2 h3 h4 h5 h6
  subst h1 h2 h3 h4 h5 h6
  exact ⟨h.1, h.2, h.3, h.4, h.5, h.6, h.7⟩

/-- a frame is popped — by a return or by an error, the slot itself is left as it is -/
theorem FM.inv_pop (s : FM) (h : s.Inv) : ({ s with fp := s.fp - 1 } : FM).Inv where
  acts_lt k hk := h.acts_lt k (Nat.le_trans hk (Nat.sub_le _ _))
  acts_mono k1 k2 h12 hk := h.acts_mono k1 k2 h12 (Nat.le_trans hk (Nat.sub_le _ _))
  cap_loc k a hk := h.cap_loc k a (Nat.le_trans hk (Nat.sub_le _ _))
  loc_owner k a hk := h.loc_owner k a (Nat.le_trans hk (Nat.sub_le _ _))
  cell_owner := h.cell_owner
  cell_live c k hc hk := h.cell_live c k hc (Nat.le_trans hk (Nat.sub_le _ _))
  cell_same := h.cell_same

/-- `f.capturedLocals = f.locals` on a frame whose locals are on the heap -/
theorem FM.Inv.capture {s : FM} (h : s.Inv) (k a : Nat) (hl : (s.frames k).heapLoc = some a) :
    ({ s with frames := upd s.frames k { s.frames k with captured := some a } } : FM).Inv := by
  have hact := upd_proj FFrame.act s.frames k { s.frames k with captured := some a } rfl
  have hloc := upd_proj FFrame.heapLoc s.frames k { s.frames k with captured := some a } rfl
  constructor
  · intro j hj; dsimp only at hj ⊢; rw [hact]; exact h.acts_lt j hj
  · intro k1 k2 h12 hk2; dsimp only at hk2 ⊢; rw [hact, hact]; exact h.acts_mono k1 k2 h12 hk2
  · intro j b hj hc
    dsimp only at hj hc ⊢
    rw [hloc]
    by_cases hjk : j = k
    · subst hjk
      rw [upd_same] at hc
      cases hc; exact hl
    · rw [upd_other _ _ _ _ hjk] at hc; exact h.cap_loc j b hj hc
  · intro j b hj hlb
    dsimp only at hj hlb ⊢
    rw [hloc] at hlb; rw [hact]
    exact h.loc_owner j b hj hlb
  · exact h.cell_owner
  · intro c j hc hj hcact
    dsimp only at hc hj hcact ⊢
    rw [hact] at hcact; rw [hloc]
    exact h.cell_live c j hc hj hcact
  · exact h.cell_same

/-- `CaptureLocals` on a frame whose locals are inline: they go to a fresh slice of the frame's
    activation.  No cell of that activation exists yet, since such a cell puts the locals on the heap. -/
theorem FM.Inv.move {s : FM} (h : s.Inv) (k : Nat) (hk : k ≤ s.fp) (hl : (s.frames k).heapLoc = none) :
    ({ s with heap := upd s.heap s.next (s.inl k),
              owner := upd s.owner s.next (s.frames k).act,
              next := s.next + 1,
              frames := upd s.frames k { s.frames k with heapLoc := some s.next, captured := some s.next } } : FM).Inv := by
  have h' := h.alloc (s.frames k).act (upd s.heap s.next (s.inl k))
  have hact := upd_proj FFrame.act s.frames k { s.frames k with heapLoc := some s.next, captured := some s.next } rfl
  constructor
  · intro j hj; dsimp only at hj ⊢; rw [hact]; exact h.acts_lt j hj
  · intro k1 k2 h12 hk2; dsimp only at hk2 ⊢; rw [hact, hact]; exact h.acts_mono k1 k2 h12 hk2
  · intro j b hj hc
    dsimp only at hj hc ⊢
    by_cases hjk : j = k
    · subst hjk
      rw [upd_same] at hc ⊢
      exact hc
    · rw [upd_other _ _ _ _ hjk] at hc ⊢; exact h.cap_loc j b hj hc
  · intro j b hj hlb
    dsimp only at hj hlb ⊢
    rw [hact]
    by_cases hjk : j = k
    · subst hjk
      rw [upd_same] at hlb
      cases hlb
      exact ⟨Nat.lt_succ_self _, upd_same _ _ _⟩
    · rw [upd_other _ _ _ _ hjk] at hlb
      exact h'.loc_owner j b hj hlb
  · exact h'.cell_owner
  · intro c j hc hj hcact
    dsimp only at hc hj hcact ⊢
    rw [hact] at hcact
    have hlj := h.cell_live c j hc hj hcact
    by_cases hjk : j = k
    · subst hjk; rw [hl] at hlj; cases hlj
    · rw [upd_other _ _ _ _ hjk]; exact hlj
  · exact h.cell_same

/-- `NewCell(&locals[idx])` on a frame whose locals are the slice at `a` -/
theorem FM.Inv.add_cell {s : FM} (h : s.Inv) (k a idx A : Nat) (hk : k ≤ s.fp) (hl : (s.frames k).heapLoc = some a)
    (hA : (s.frames k).act = A) : ({ s with cells := s.cells ++ [⟨a, idx, A⟩] } : FM).Inv := by
  subst hA
  -- old or new, a cell of frame `k`'s activation points into the slice at `a`
  have key : ∀ c, c ∈ s.cells ++ [⟨a, idx, (s.frames k).act⟩] → c.act = (s.frames k).act → c.addr = a := by
    intro c hc hca
    rcases List.mem_append.1 hc with hc | hc
    · have := h.cell_live c k hc hk hca.symm
      rw [hl] at this
      exact (Option.some.inj this).symm
    · cases List.mem_singleton.1 hc; rfl
  obtain ⟨ho1, ho2⟩ := h.loc_owner k a hk hl
  refine ⟨h.acts_lt, h.acts_mono, h.cap_loc, h.loc_owner, ?_, ?_, ?_⟩
  · intro c hc
    rcases List.mem_append.1 hc with hc | hc
    · exact h.cell_owner c hc
    · cases List.mem_singleton.1 hc
      exact ⟨ho1, ho2, h.acts_lt k hk⟩
  · intro c j hc hj hact
    rcases List.mem_append.1 hc with hc' | hc'
    · exact h.cell_live c j hc' hj hact
    · have : j = k := h.frame_unique j k hj hk (by cases List.mem_singleton.1 hc'; exact hact)
      subst this
      rw [hl, key c hc hact.symm]
  · intro c1 c2 h1 h2 he
    rcases List.mem_append.1 h1 with o1 | n1
    · rcases List.mem_append.1 h2 with o2 | n2
      · exact h.cell_same c1 c2 o1 o2 he
      · have e2 : c2.act = (s.frames k).act := by cases List.mem_singleton.1 n2; rfl
        rw [key c1 h1 (he.trans e2), key c2 h2 e2]
    · have e1 : c1.act = (s.frames k).act := by cases List.mem_singleton.1 n1; rfl
      rw [key c1 h1 e1, key c2 h2 (he.symm.trans e1)]

/-- **every operation keeps the invariant** -/
theorem FM.inv_step (s s' : FM) (op : FOp) (h : s.Inv) (hs : s.step op = some s') : s'.Inv := by
  cases op with
  | call wide => cases hs; exact FM.inv_call s h wide
  | ret | abort =>
    dsimp only [FM.step] at hs
    split at hs
    · cases hs
    · cases hs; exact FM.inv_pop s h
  | makeCell idx back =>
    dsimp only [FM.step] at hs
    have hk : s.fp - back ≤ s.fp := Nat.sub_le _ _
    split at hs
    · cases hs
    · split at hs
      · rename_i _ a hc
        cases hs
        exact h.add_cell _ a idx _ hk (h.cap_loc _ a hk hc) rfl
      · rename_i a _ hl
        cases hs
        exact (h.capture _ a hl).add_cell _ a idx _ hk (by dsimp only; rw [upd_same]; exact hl)
          (by dsimp only; rw [upd_same])
      · rename_i _ hl
        cases hs
        exact (h.move _ hk hl).add_cell _ s.next idx _ hk (by dsimp only; rw [upd_same])
          (by dsimp only; rw [upd_same])
  | storeFast idx v =>
    dsimp only [FM.step] at hs
    split at hs <;> cases hs <;> exact h.of_same rfl rfl rfl rfl rfl rfl
  | loadFast idx => cases hs; exact h.of_same rfl rfl rfl rfl rfl rfl
  | storeFree c v | loadFree c =>
    dsimp only [FM.step] at hs
    split at hs
    · cases hs; exact h.of_same rfl rfl rfl rfl rfl rfl
    · cases hs

theorem FM.inv_run : ∀ (ops : List FOp) (s s' : FM), s.Inv → FM.run s ops = some s' → s'.Inv := by
  intro ops
  induction ops with
  | nil => intro s s' h hr; simp only [FM.run, Option.some.injEq] at hr; subst hr; exact h
  | cons op ops ih =>
    intro s s' h hr
    simp only [FM.run] at hr
    cases hst : s.step op with
    | none => rw [hst] at hr; cases hr
    | some s1 =>
      rw [hst] at hr
      exact ih s1 s' (FM.inv_step s s1 op h hst) hr

/-! ## the frame machine shows the variables of the variable machine (simulation) -/

/-- the frame machine `s` shows the variables of `t` -/
structure FM.Sim (s : FM) (t : VarM) : Prop where
  fp_eq : t.fp = s.fp
  nacts_eq : t.nacts = s.nacts
  out_eq : t.out = s.out
  stack_eq : ∀ k, k ≤ s.fp → t.stackf k = (s.frames k).act
  cells_eq : t.cells = s.cells.map fun c => (c.act, c.idx)
  frame_content : ∀ k i, k ≤ s.fp → s.frameVal k i = t.vars (s.frames k).act i
  cell_content : ∀ c i, c ∈ s.cells → s.heap c.addr i = t.vars c.act i

theorem FM.sim_init : FM.init.Sim VarM.init := by
  constructor <;> simp [FM.init, VarM.init, FM.frameVal]

/-- a fresh heap slice is invisible: every slice a frame or a cell points to is below `s.next` -/
theorem FM.Sim.alloc {s : FM} {t : VarM} (h : s.Inv) (hs : s.Sim t) (X : Nat → Int) (O : Nat → Nat) (N : Nat) :
    ({ s with heap := upd s.heap s.next X, owner := O, next := N } : FM).Sim t where
  fp_eq := hs.fp_eq
  nacts_eq := hs.nacts_eq
  out_eq := hs.out_eq
  stack_eq := hs.stack_eq
  cells_eq := hs.cells_eq
  frame_content k i hk := by
    rw [← hs.frame_content k i hk]
    dsimp only [FM.frameVal]
    cases hl : (s.frames k).heapLoc with
    | none => rfl
    | some a => exact congrFun (upd_other _ _ _ _ (Nat.ne_of_lt (h.loc_owner k a hk hl).1)) i
  cell_content c i hc := by
    rw [← hs.cell_content c i hc]
    exact congrFun (upd_other _ _ _ _ (Nat.ne_of_lt (h.cell_owner c hc).1)) i

/-- a call: the new frame's locals (inline, or a slice that holds zeros) are the new activation's variables -/
theorem FM.Sim.push {s : FM} {t : VarM} (h : s.Inv) (hs : s.Sim t) (loc : Option Nat)
    (hloc : ∀ a, loc = some a → ∀ i, s.heap a i = 0) :
    ({ s with frames := upd s.frames (s.fp + 1) { act := s.nacts, heapLoc := loc, captured := none },
              inl := upd s.inl (s.fp + 1) (fun _ => 0), fp := s.fp + 1, nacts := s.nacts + 1 } : FM).Sim
      { t with stackf := upd t.stackf (t.fp + 1) t.nacts, vars := upd t.vars t.nacts (fun _ => 0),
               fp := t.fp + 1, nacts := t.nacts + 1 } := by
  have split : ∀ k, k ≤ s.fp + 1 → k = s.fp + 1 ∨ k ≤ s.fp := fun k hk => by omega
  constructor
  · dsimp only; rw [hs.fp_eq]
  · dsimp only; rw [hs.nacts_eq]
  · exact hs.out_eq
  · intro k hk
    dsimp only at hk ⊢
    rw [hs.fp_eq, hs.nacts_eq]
    rcases split k hk with rfl | hk
    · rw [upd_same, upd_same]
    · rw [upd_other _ _ _ _ (by omega), upd_other _ _ _ _ (by omega)]; exact hs.stack_eq k hk
  · exact hs.cells_eq
  · intro k i hk
    dsimp only [FM.frameVal] at hk ⊢
    rw [hs.nacts_eq]
    rcases split k hk with rfl | hk
    · rw [upd_same, upd_same, upd_same]
      cases loc with
      | none => rfl
      | some a => exact hloc a rfl i
    · have hk' : k ≠ s.fp + 1 := by omega
      rw [upd_other _ _ _ _ hk', upd_other _ _ _ _ hk', upd_other _ _ _ _ (Nat.ne_of_lt (h.acts_lt k hk))]
      exact hs.frame_content k i hk
  · intro c i hc
    dsimp only at hc ⊢
    rw [hs.nacts_eq, upd_other _ _ _ _ (Nat.ne_of_lt (h.cell_owner c hc).2.2)]
    exact hs.cell_content c i hc

theorem FM.sim_call (s : FM) (t : VarM) (h : s.Inv) (hs : s.Sim t) (wide : Bool) (s' : FM) (t' : VarM)
    (h1 : s.step (.call wide) = some s') (h2 : t.step (.call wide) = some t') : s'.Sim t' := by
  cases h1
  cases h2
  cases wide with
  | false => exact FM.Sim.push h hs none (fun a ha => by cases ha)
  | true =>
    refine FM.Sim.push (h.alloc s.nacts _) (hs.alloc h (fun _ => 0) _ _) (some s.next) fun a ha i => ?_
    cases ha
    exact congrFun (upd_same _ _ _) i

theorem FM.sim_pop (s : FM) (t : VarM) (hs : s.Sim t) : ({ s with fp := s.fp - 1 } : FM).Sim { t with fp := t.fp - 1 } where
  fp_eq := congrArg (· - 1) hs.fp_eq
  nacts_eq := hs.nacts_eq
  out_eq := hs.out_eq
  stack_eq k hk := hs.stack_eq k (Nat.le_trans hk (Nat.sub_le _ _))
  cells_eq := hs.cells_eq
  frame_content k i hk := hs.frame_content k i (Nat.le_trans hk (Nat.sub_le _ _))
  cell_content := hs.cell_content

/-- a cell on frame `k`, whose locals are the slice at `a`; the frames may change in what the
    simulation does not look at (`captured`) -/
theorem FM.sim_add_cell (s : FM) (t : VarM) (hs : s.Sim t) (k a idx A : Nat) (hk : k ≤ s.fp)
    (hl : (s.frames k).heapLoc = some a) (hA : (s.frames k).act = A) (fr' : Nat → FFrame)
    (hact : ∀ j, (fr' j).act = (s.frames j).act) (hloc : ∀ j, (fr' j).heapLoc = (s.frames j).heapLoc) :
    ({ s with frames := fr', cells := s.cells ++ [⟨a, idx, A⟩] } : FM).Sim
      { t with cells := t.cells ++ [(t.stackf k, idx)] } := by
  subst hA
  constructor
  · exact hs.fp_eq
  · exact hs.nacts_eq
  · exact hs.out_eq
  · intro j hj; dsimp only at hj ⊢; rw [hact j]; exact hs.stack_eq j hj
  · dsimp only; rw [hs.cells_eq, hs.stack_eq k hk, List.map_append]; rfl
  · intro j i hj
    dsimp only [FM.frameVal] at hj ⊢
    rw [hact j, hloc j]; exact hs.frame_content j i hj
  · intro c i hc
    dsimp only at hc ⊢
    rcases List.mem_append.1 hc with hc' | hc'
    · exact hs.cell_content c i hc'
    · cases List.mem_singleton.1 hc'
      have := hs.frame_content k i hk
      dsimp only [FM.frameVal] at this
      rw [hl] at this
      exact this

/-- `CaptureLocals` on inline locals: the fresh slice holds what the inline storage held -/
theorem FM.Sim.move {s : FM} {t : VarM} (h : s.Inv) (hs : s.Sim t) (k : Nat) (hk : k ≤ s.fp)
    (hl : (s.frames k).heapLoc = none) :
    ({ s with heap := upd s.heap s.next (s.inl k),
              owner := upd s.owner s.next (s.frames k).act,
              next := s.next + 1,
              frames := upd s.frames k { s.frames k with heapLoc := some s.next, captured := some s.next } } : FM).Sim t := by
  have hs' := hs.alloc h (s.inl k) (upd s.owner s.next (s.frames k).act) (s.next + 1)
  have hact := upd_proj FFrame.act s.frames k { s.frames k with heapLoc := some s.next, captured := some s.next } rfl
  constructor
  · exact hs.fp_eq
  · exact hs.nacts_eq
  · exact hs.out_eq
  · intro j hj; dsimp only at hj ⊢; rw [hact j]; exact hs.stack_eq j hj
  · exact hs.cells_eq
  · intro j i hj
    dsimp only [FM.frameVal] at hj ⊢
    rw [hact j]
    by_cases hjk : j = k
    · subst hjk
      rw [upd_same]
      dsimp only
      rw [upd_same, ← hs.frame_content j i hj]
      dsimp only [FM.frameVal]
      rw [hl]
    · rw [upd_other _ _ _ _ hjk]
      exact hs'.frame_content j i hj
  · exact hs'.cell_content

theorem upd_upd {α : Type} (f : Nat → Nat → α) (a idx : Nat) (v : α) (b i : Nat) :
    upd f a (upd (f a) idx v) b i = if b = a ∧ i = idx then v else f b i := by
  unfold upd
  by_cases hb : b = a
  · subst hb
    by_cases hi : i = idx
    · rw [if_pos rfl, if_pos hi, if_pos ⟨rfl, hi⟩]
    · rw [if_pos rfl, if_neg hi, if_neg (fun h => hi h.2)]
  · rw [if_neg hb, if_neg (fun h => hb h.1)]

/-- a store that changes exactly variable `idx` of activation `A`, in every frame and through every cell -/
theorem FM.sim_store (s : FM) (t : VarM) (hs : s.Sim t) (A idx : Nat) (v : Int) (heap' inl' : Nat → Nat → Int)
    (hf : ∀ j i, j ≤ s.fp → ({ s with heap := heap', inl := inl' } : FM).frameVal j i =
      if (s.frames j).act = A ∧ i = idx then v else s.frameVal j i)
    (hc : ∀ c i, c ∈ s.cells → heap' c.addr i = if c.act = A ∧ i = idx then v else s.heap c.addr i) :
    ({ s with heap := heap', inl := inl' } : FM).Sim { t with vars := upd t.vars A (upd (t.vars A) idx v) } where
  fp_eq := hs.fp_eq
  nacts_eq := hs.nacts_eq
  out_eq := hs.out_eq
  stack_eq := hs.stack_eq
  cells_eq := hs.cells_eq
  frame_content j i hj := by
    rw [hf j i hj, hs.frame_content j i hj]
    exact (upd_upd t.vars A idx v _ i).symm
  cell_content c i hcm := by
    dsimp only
    rw [hc c i hcm, hs.cell_content c i hcm, upd_upd]

/-- a store into the slice at `a`, which is the locals of activation `A` and of no other -/
theorem FM.sim_heap_store (s : FM) (t : VarM) (hs : s.Sim t) (a A idx : Nat) (v : Int)
    (hf : ∀ j, j ≤ s.fp → ((s.frames j).heapLoc = some a ↔ (s.frames j).act = A))
    (hc : ∀ c, c ∈ s.cells → (c.addr = a ↔ c.act = A)) :
    ({ s with heap := upd s.heap a (upd (s.heap a) idx v) } : FM).Sim
      { t with vars := upd t.vars A (upd (t.vars A) idx v) } := by
  refine FM.sim_store s t hs A idx v _ s.inl ?_ ?_
  · intro j i hj
    dsimp only [FM.frameVal]
    cases hlj : (s.frames j).heapLoc with
    | none =>
      have hne : (s.frames j).act ≠ A := fun he => by rw [(hf j hj).2 he] at hlj; cases hlj
      exact (if_neg fun hh => hne hh.1).symm
    | some b =>
      have : b = a ↔ (s.frames j).act = A := by rw [← hf j hj, hlj, Option.some.injEq]
      dsimp only
      rw [upd_upd]
      simp only [this]
  · intro c i hcm
    rw [upd_upd]
    simp only [hc c hcm]

/-- `StoreFast idx v` on the frame machine changes exactly variable `idx` of the running activation -/
theorem FM.sim_storeFast (s : FM) (t : VarM) (h : s.Inv) (hs : s.Sim t) (idx : Nat) (v : Int) (s' : FM)
    (h1 : s.step (.storeFast idx v) = some s') :
    s'.Sim { t with vars := upd t.vars (s.frames s.fp).act (upd (t.vars (s.frames s.fp).act) idx v) } := by
  dsimp only [FM.step] at h1
  split at h1
  · -- the running frame's locals are the slice at `a`, which belongs to its activation
    rename_i a hl
    cases h1
    have ho := (h.loc_owner s.fp a (Nat.le_refl _) hl).2
    refine FM.sim_heap_store s t hs a _ idx v ?_ ?_
    · intro j hj
      constructor
      · intro hlj; rw [← (h.loc_owner j a hj hlj).2, ho]
      · intro he; rw [h.frame_unique j s.fp hj (Nat.le_refl _) he]; exact hl
    · intro c hc
      constructor
      · intro hca; rw [← (h.cell_owner c hc).2.1, hca, ho]
      · intro he
        have := h.cell_live c s.fp hc (Nat.le_refl _) he.symm
        rw [hl] at this
        exact (Option.some.inj this).symm
  · -- inline locals: no other frame runs this activation and no cell points at it
    rename_i hl
    cases h1
    refine FM.sim_store s t hs _ idx v s.heap _ ?_ ?_
    · intro j i hj
      have hjf : j = s.fp ↔ (s.frames j).act = (s.frames s.fp).act :=
        ⟨fun e => by rw [e], h.frame_unique j s.fp hj (Nat.le_refl _)⟩
      dsimp only [FM.frameVal]
      cases hlj : (s.frames j).heapLoc with
      | none =>
        dsimp only
        rw [upd_upd]
        simp only [hjf]
      | some b =>
        have hne : ¬ (s.frames j).act = (s.frames s.fp).act := fun he => by
          rw [hjf.2 he, hl] at hlj; cases hlj
        exact (if_neg fun hh => hne hh.1).symm
    · intro c i hc
      have hne : c.act ≠ (s.frames s.fp).act := fun he => by
        have := h.cell_live c s.fp hc (Nat.le_refl _) he.symm
        rw [hl] at this; cases this
      exact (if_neg fun hh => hne hh.1).symm

/-- `StoreFree` through cell `cl` changes exactly variable `cl.idx` of activation `cl.act` -/
theorem FM.sim_storeFree (s : FM) (t : VarM) (h : s.Inv) (hs : s.Sim t) (cl : FCell) (hcl : cl ∈ s.cells) (v : Int) :
    ({ s with heap := upd s.heap cl.addr (upd (s.heap cl.addr) cl.idx v) } : FM).Sim
      { t with vars := upd t.vars cl.act (upd (t.vars cl.act) cl.idx v) } := by
  have ho := (h.cell_owner cl hcl).2.1
  refine FM.sim_heap_store s t hs cl.addr cl.act cl.idx v ?_ ?_
  · intro j hj
    exact ⟨fun hlj => by rw [← (h.loc_owner j _ hj hlj).2, ho], h.cell_live cl j hcl hj⟩
  · intro c hc
    exact ⟨fun hca => by rw [← (h.cell_owner c hc).2.1, hca, ho], h.cell_same c cl hc hcl⟩

/-- one operation: both machines accept it or both refuse it, and they stay related -/
theorem FM.sim_step (s : FM) (t : VarM) (h : s.Inv) (hs : s.Sim t) (op : FOp) :
    match s.step op, t.step op with
    | some s', some t' => s'.Sim t'
    | none, none => True
    | _, _ => False := by
  have hst : t.stackf t.fp = (s.frames s.fp).act := by
    rw [hs.fp_eq]; exact hs.stack_eq s.fp (Nat.le_refl _)
  have htc : ∀ c, t.cells[c]? = (s.cells[c]?).map fun c : FCell => (c.act, c.idx) := fun c => by
    rw [hs.cells_eq, List.getElem?_map]
  cases op with
  | call wide =>
    exact FM.sim_call s t h hs wide _ _ rfl rfl
  | ret | abort =>
    dsimp only [FM.step, VarM.step]
    by_cases h0 : s.fp = 0
    · rw [if_pos h0, if_pos (hs.fp_eq.trans h0)]; trivial
    · rw [if_neg h0, if_neg (by rw [hs.fp_eq]; exact h0)]
      exact FM.sim_pop s t hs
  | makeCell idx back =>
    dsimp only [FM.step, VarM.step]
    rw [show t.fp - back = s.fp - back by rw [hs.fp_eq]]
    by_cases hb : back > s.fp
    · rw [if_pos hb, if_pos (by rw [hs.fp_eq]; exact hb)]; trivial
    · rw [if_neg hb, if_neg (by rw [hs.fp_eq]; exact hb)]
      have hk : s.fp - back ≤ s.fp := Nat.sub_le _ _
      cases hc : (s.frames (s.fp - back)).captured with
      | some a =>
        dsimp only
        exact FM.sim_add_cell s t hs _ a idx _ hk (h.cap_loc _ a hk hc) rfl s.frames (fun _ => rfl) (fun _ => rfl)
      | none =>
        cases hl : (s.frames (s.fp - back)).heapLoc with
        | some a =>
          dsimp only
          refine FM.sim_add_cell s t hs _ a idx _ hk hl rfl _ ?_ ?_
          · exact upd_proj FFrame.act _ _ _ rfl
          · exact upd_proj FFrame.heapLoc _ _ _ hl.symm
        | none =>
          dsimp only
          exact FM.sim_add_cell _ t (FM.Sim.move h hs _ hk hl) _ s.next idx (s.frames (s.fp - back)).act hk
            (by dsimp only; rw [upd_same]) (by dsimp only; rw [upd_same]) _ (fun _ => rfl) (fun _ => rfl)
  | storeFast idx v =>
    cases h1 : s.step (.storeFast idx v) with
    | none =>
      dsimp only [FM.step] at h1
      split at h1 <;> cases h1
    | some s' =>
      dsimp only [VarM.step]
      rw [hst]
      exact FM.sim_storeFast s t h hs idx v s' h1
  | loadFast idx =>
    have hv : s.readFast idx = t.vars (t.stackf t.fp) idx := by
      rw [hst]; exact hs.frame_content s.fp idx (Nat.le_refl _)
    exact ⟨hs.fp_eq, hs.nacts_eq, by dsimp only; rw [hv, hs.out_eq], hs.stack_eq, hs.cells_eq,
      hs.frame_content, hs.cell_content⟩
  | storeFree c v =>
    dsimp only [FM.step, VarM.step]
    rw [htc c]
    cases hc : s.cells[c]? with
    | none => trivial
    | some cl => exact FM.sim_storeFree s t h hs cl (List.mem_of_getElem? hc) v
  | loadFree c =>
    dsimp only [FM.step, VarM.step]
    rw [htc c]
    cases hc : s.cells[c]? with
    | none => trivial
    | some cl =>
      have hv : s.readCell cl = t.vars cl.act cl.idx := hs.cell_content cl cl.idx (List.mem_of_getElem? hc)
      exact ⟨hs.fp_eq, hs.nacts_eq, by dsimp only; rw [hv, hs.out_eq], hs.stack_eq, hs.cells_eq,
        hs.frame_content, hs.cell_content⟩

theorem FM.sim_run : ∀ (ops : List FOp) (s : FM) (t : VarM), s.Inv → s.Sim t →
    (FM.run s ops).map (·.out) = (VarM.run t ops).map (·.out) := by
  intro ops
  induction ops with
  | nil => intro s t _ hs; simp only [FM.run, VarM.run, Option.map_some, hs.out_eq]
  | cons op ops ih =>
    intro s t h hs
    have hstep := FM.sim_step s t h hs op
    simp only [FM.run, VarM.run]
    cases h1 : s.step op with
    | none =>
      cases h2 : t.step op with
      | none => rfl
      | some t' => rw [h1, h2] at hstep; exact absurd hstep (by simp)
    | some s' =>
      cases h2 : t.step op with
      | none => rw [h1, h2] at hstep; exact absurd hstep (by simp)
      | some t' =>
        rw [h1, h2] at hstep
        exact ih s' t' (FM.inv_step s s' op h h1) hstep

/-! ## recursion chains on the variable machine -/

theorem VarM.run_append : ∀ (ops1 ops2 : List FOp) (t : VarM),
    VarM.run t (ops1 ++ ops2) = (VarM.run t ops1).bind fun t' => VarM.run t' ops2 := by
  intro ops1
  induction ops1 with
  | nil => intro ops2 t; rfl
  | cons op ops ih =>
    intro ops2 t
    simp only [List.cons_append, VarM.run]
    cases t.step op with
    | none => rfl
    | some t1 => exact ih ops2 t1

/-- the descent on the variable machine -/
theorem VarM.descent : ∀ (vs : List (Int × Bool)) (t : VarM),
    ∃ t', VarM.run t (recDescent vs) = some t' ∧ t'.fp = t.fp + vs.length ∧ t'.out = t.out ∧
      t'.nacts = t.nacts + vs.length ∧
      t'.cells.length = t.cells.length + vs.length ∧
      (∀ (j : Nat) (c : Nat × Nat), t.cells[j]? = some c → t'.cells[j]? = some c) ∧
      (∀ a, a < t.nacts → t'.vars a = t.vars a) ∧
      (∀ (i : Nat) (p : Int × Bool), vs[i]? = some p → ∃ c : Nat × Nat, t'.cells[t.cells.length + i]? = some c ∧ t'.vars c.1 c.2 = p.1 ∧ c.1 < t'.nacts) := by
  intro vs
  induction vs with
  | nil =>
    intro t
    refine ⟨t, rfl, rfl, rfl, rfl, rfl, fun _ _ h => h, fun _ _ => rfl, ?_⟩
    intro i p h; simp at h
  | cons p rest ih =>
    intro t
    -- the state after one level
    let t1 : VarM :=
      { t with stackf := upd t.stackf (t.fp + 1) t.nacts,
               vars := upd (upd t.vars t.nacts (fun _ => 0)) t.nacts (upd (fun _ => 0) 0 p.1),
               fp := t.fp + 1, nacts := t.nacts + 1, cells := t.cells ++ [(t.nacts, 0)] }
    have hlev : VarM.run t (recLevel p.1 p.2 ++ recDescent rest) = VarM.run t1 (recDescent rest) := by
      simp only [recLevel, List.cons_append, List.nil_append, VarM.run, VarM.step, Option.bind_some,
        upd_same, Nat.not_lt_zero, if_false, Nat.sub_zero, t1]
    obtain ⟨t', hrun, hfp, hout, hn, hlen, hcells, hvars, hlv⟩ := ih t1
    refine ⟨t', ?_, ?_, ?_, ?_, ?_, ?_, ?_, ?_⟩
    · simp only [recDescent]; rw [hlev]; exact hrun
    · simp only [hfp, t1, List.length_cons]; omega
    · simp only [hout, t1]
    · simp only [hn, t1, List.length_cons]; omega
    · simp only [hlen, t1, List.length_append, List.length_cons, List.length_nil]; omega
    · intro j c hj
      apply hcells
      have hlt : j < t.cells.length := by
        rcases Nat.lt_or_ge j t.cells.length with h | h
        · exact h
        · simp [List.getElem?_eq_none h] at hj
      simp only [t1, List.getElem?_append_left hlt]; exact hj
    · intro a ha
      rw [hvars a (by simp only [t1]; omega)]
      simp only [t1]
      rw [upd_other _ _ _ _ (by omega), upd_other _ _ _ _ (by omega)]
    · intro i q hq
      cases i with
      | zero =>
        simp only [List.getElem?_cons_zero, Option.some.injEq] at hq
        subst hq
        refine ⟨(t.nacts, 0), ?_, ?_, ?_⟩
        · apply hcells
          simp [t1]
        · rw [hvars t.nacts (by simp only [t1]; omega)]
          simp only [t1, upd_same]
        · simp only [hn, t1]; omega
      | succ i =>
        simp only [List.getElem?_cons_succ] at hq
        obtain ⟨c, hc, hv, hlt⟩ := hlv i q hq
        refine ⟨c, ?_, hv, hlt⟩
        have : t1.cells.length + i = t.cells.length + (i + 1) := by
          simp only [t1, List.length_append, List.length_cons, List.length_nil]; omega
        rw [← this]; exact hc

/-- every level returns: only `fp` moves -/
theorem VarM.returns : ∀ (n : Nat) (t : VarM), n ≤ t.fp →
    VarM.run t (List.replicate n FOp.ret) = some { t with fp := t.fp - n } := by
  intro n
  induction n with
  | zero => intro t _; rfl
  | succ n ih =>
    intro t h
    have h0 : ¬ t.fp = 0 := by omega
    simp only [List.replicate_succ, VarM.run, VarM.step, h0, if_false, Option.bind_some]
    rw [ih _ (by show n ≤ t.fp - 1; omega)]
    congr 2
    show t.fp - 1 - n = t.fp - (n + 1)
    omega

/-- reading the cells `base, base+1, …` one after the other -/
theorem VarM.reads : ∀ (ws : List Int) (base : Nat) (t : VarM),
    (∀ (i : Nat) (w : Int), ws[i]? = some w → ∃ c : Nat × Nat, t.cells[base + i]? = some c ∧ t.vars c.1 c.2 = w) →
    ∃ t', VarM.run t ((List.range' base ws.length).map FOp.loadFree) = some t' ∧ t'.out = ws.reverse ++ t.out := by
  intro ws
  induction ws with
  | nil => intro base t _; exact ⟨t, rfl, rfl⟩
  | cons w rest ih =>
    intro base t h
    obtain ⟨c, hc, hv⟩ := h 0 w rfl
    simp only [Nat.add_zero] at hc
    let t1 : VarM := { t with out := t.vars c.1 c.2 :: t.out }
    have h1 : ∀ (i : Nat) (w' : Int), rest[i]? = some w' → ∃ c : Nat × Nat, t1.cells[base + 1 + i]? = some c ∧ t1.vars c.1 c.2 = w' := by
      intro i w' hi
      obtain ⟨c', hc', hv'⟩ := h (i + 1) w' (by simpa using hi)
      exact ⟨c', by rw [← hc']; congr 1; omega, hv'⟩
    obtain ⟨t', hrun, hout⟩ := ih (base + 1) t1 h1
    refine ⟨t', ?_, ?_⟩
    · simp only [List.length_cons, List.range'_succ, List.map_cons, VarM.run, VarM.step, hc, Option.bind_some]
      exact hrun
    · rw [hout]
      simp only [t1, hv, List.reverse_cons, List.append_assoc, List.singleton_append]

end Risor.C02
