/-!
C02 — closures capture variables lexically, at any depth and from any call path.

The parts, all executable and core-only:

* the **activation model**: a call stack of activation ids and, for every activation, its
  lexical parent (the activation that executed the function literal whose closure is being
  run).  `resolvePositional` is what `vm.eval`'s `MakeCell` does (`frames[fp - framesBack]`),
  `resolveLexical` is what the property demands (`parent^d(current)`).  An abstract machine
  over `makeClosure / call / ret / spawn` operations (`AOp`) is defined on it.

* the **frame machine** (section 1b): `FM` is `vm/frame.go`'s re-used frame slots with their
  `locals` storage, run over frame operations `FOp`; `VarM` is what that storage must
  implement, one variable per (activation, slot).

* a **closure language** (`RTm`, programs after name resolution; `Tm` before) with one
  evaluator `eval (m : Mode)` that is the model of compiler + VM for this fragment.  The
  only place where the mode is consulted is `captureAct`, i.e. the `MakeCell` instruction:
  `Mode.positional` is the code as it IS (Impl), `Mode.lexical` is what the property
  demands (Spec).  The name resolver `resolveProg` models `compiler/symbol_table.go`
  (`Resolve`: free variables recorded in the innermost function only, with their depth; the
  body of a function is a block table, so every reference creates a fresh free entry) and
  `compileFunc` (`MakeCell(symbol index, depth-1)`; parameters, then the function's own
  name, then the locals in declaration order).

* **block scopes** (section 2b): `if`/`else` bodies, `switch` cases, the loop forms (loop table +
  body table).  A block table claims its indexes from the enclosing FUNCTION table and never
  gives them back (`SymbolTable.claimIndex`: `len(t.symbols)` of the function table, then
  append), so a variable declared in a block that has been closed keeps its slot for good.
  `FScope.applyOp`/`FScope.claims` is that allocator on its own (the subject of
  `block_slots_never_reused`); the resolver below uses the same `FScope.declare`.
  A variable declared in a loop body is ONE slot for all iterations in both modes (recorded
  finding C01-loop-body-variable-shared); the harness generates loop-body captures only where
  that cannot be told from a fresh variable per iteration.

* **recursion**: the conditional return `if c { return e }` (`Tm.retif`, a statement of a function
  body) makes functions that call themselves terminate.  A call is one operation in every layer
  (`AOp.call`, `FOp.call`, `callVal` → `St.enter`): the callee may be the running function and
  the call may stand in tail position — the code as it is activates a new frame either way.
  `recChain` is a recursion as a sequence of frame operations.
-/
namespace Risor.C02

/-! ## 1. Activation model -/

/-- `MakeCell symbolIndex framesBack`: the frame `framesBack` below the top of the call
    stack (stack is top-first, so `frames[fp - d]` is `stack[d]`). -/
def resolvePositional (stack : List Nat) (d : Nat) : Option Nat := stack[d]?

/-- what the property demands: the `d`-th lexical ancestor of the current activation -/
def resolveLexical (parent : Nat → Option Nat) : Nat → Nat → Option Nat
  | cur, 0 => some cur
  | cur, d + 1 => (parent cur).bind fun p => resolveLexical parent p d

inductive Mode | positional | lexical
  deriving Repr, DecidableEq, Inhabited

/-- which activation a `MakeCell _ d` executed now would point into -/
def captureAct (m : Mode) (parent : Nat → Option Nat) (stack : List Nat) (d : Nat) : Option Nat :=
  match m with
  | .positional => resolvePositional stack d
  | .lexical => match stack with
    | [] => none
    | cur :: _ => resolveLexical parent cur d

/-- the top `d` frames form a lexical chain: each frame's lexical parent is the frame
    directly below it (`∀ j < d, parent(stack[fp-j]) = stack[fp-j-1]`) -/
def lexChain (parent : Nat → Option Nat) : List Nat → Nat → Prop
  | _, 0 => True
  | a :: b :: rest, d + 1 => parent a = some b ∧ lexChain parent (b :: rest) d
  | _, _ + 1 => False

/-- abstract closure: where it was made (its lexical parent-to-be) and the activations its
    cells point into (`none`: the VM raised "no frame at depth") -/
structure AClo where
  definer : Nat
  captured : List (Option Nat)
  deriving Repr, DecidableEq

/-- abstract machine state.  `parents[i]` is the lexical parent of activation `i` (`none`
    for the main frame of a VM).  `stacks` is the stack of VM call stacks: the head is the
    running VM's frame stack (top-first); `spawn`/Clone pushes a new VM. -/
structure AState where
  parents : List (Option Nat)
  closures : List AClo
  stacks : List (List Nat)
  deriving Repr, DecidableEq

def AState.parentOf (s : AState) (a : Nat) : Option Nat := (s.parents[a]?).bind id

def AState.init : AState := { parents := [none], closures := [], stacks := [[0]] }

/-- operations: execute a function literal with the given `framesBack` operands; call closure
    `c` on the running VM (from script code, from inside a builtin, or from Go through
    `vm.Call`: all push a frame on top of the current stack); call closure `c` in a fresh
    clone of the VM (`spawn`, `go`); return. -/
inductive AOp
  | makeClosure (ds : List Nat)
  | call (c : Nat)
  | spawn (c : Nat)
  | ret
  /-- the running function ends by an ERROR (raised in it or below it and not handled there):
      its frame is popped without a return; whoever handles the error (`try`, the host that
      made the `vm.Call`) goes on with the frames below -/
  | abort
  deriving Repr, DecidableEq

def AState.step (m : Mode) (s : AState) : AOp → Option AState
  | .makeClosure ds =>
    match s.stacks with
    | (cur :: rest) :: _ =>
      some { s with closures := s.closures ++ [⟨cur, ds.map (captureAct m s.parentOf (cur :: rest))⟩] }
    | _ => none
  | .call c =>
    match s.closures[c]?, s.stacks with
    | some clo, stk :: vms =>
      some { s with parents := s.parents ++ [some clo.definer], stacks := (s.parents.length :: stk) :: vms }
    | _, _ => none
  | .spawn c =>
    match s.closures[c]? with
    | some clo =>
      -- fresh main frame (activation n) and the callee's frame (activation n+1) on a new VM
      some { s with parents := s.parents ++ [none, some clo.definer],
                    stacks := [s.parents.length + 1, s.parents.length] :: s.stacks }
    | none => none
  | .ret =>
    match s.stacks with
    | [_, _] :: vm :: vms => some { s with stacks := vm :: vms }     -- a thread finishes: its VM goes away
    | (_ :: b :: rest) :: vms => some { s with stacks := (b :: rest) :: vms }
    | _ => none
  | .abort =>
    match s.stacks with
    | [_, _] :: vm :: vms => some { s with stacks := vm :: vms }     -- the error ends the thread
    | (_ :: b :: rest) :: vms => some { s with stacks := (b :: rest) :: vms }
    | _ => none

def AState.run (m : Mode) : AState → List AOp → Option AState
  | s, [] => some s
  | s, op :: ops => (s.step m op).bind fun s' => AState.run m s' ops

/-- guard of the known finding on operation sequences: every capture is of the literal's
    own frame (`MakeCell _ 0`, resolution depth 1) -/
def AOp.depth1 : AOp → Bool
  | .makeClosure ds => ds.all (· == 0)
  | _ => true

/-! ## 1b. Frame slots and the storage of local variables (model of vm/frame.go)

`vm.frames` is an array of frame SLOTS that are re-used: the call at depth `k` always runs in
`frames[k]`.  A slot has an inline array (`storage`, 8 entries), and its `locals` slice points
either there or to a heap slice (`extendedLocals` for more than 8 locals; the copy
`CaptureLocals` makes the first time a cell is taken).  `ActivateCode` resets the slot
(`capturedLocals = nil`, storage zeroed, `locals` re-pointed) — that reset is the ONLY thing
that separates a new activation from the previous user of the slot, and it happens at the
start of the new activation, so it does not matter how the previous one ended: by
`ReturnValue` (`FOp.ret`) or because an error propagated out of it (`FOp.abort`:
`callFunction`'s deferred `resumeFrame` just moves `fp` back).  `LoadFast`/`StoreFast` go
through `vm.activeFrame.Locals()` each time, i.e. through the slot's CURRENT `locals`.

Heap addresses are allocation numbers (`make` never returns a slice that is still reachable),
values are integers (0 = nil).  Fields marked ghost are not in the code. -/

/-- function update (`vm.frames[k] = …`, `slice[i] = …`) -/
def upd {α : Type} (f : Nat → α) (k : Nat) (v : α) : Nat → α := fun j => if j = k then v else f j

/-- one entry of `vm.frames` -/
structure FFrame where
  /-- ghost: the activation that was last started in this slot -/
  act : Nat
  /-- `f.locals` is the heap slice at this address (`extendedLocals`, or the copy made by
      `CaptureLocals`); `none`: it is the slot's inline `f.storage` -/
  heapLoc : Option Nat
  /-- `f.capturedLocals` (`none` = nil) -/
  captured : Option Nat
  deriving Repr, DecidableEq, Inhabited

/-- `object.NewCell(&locals[idx])` -/
structure FCell where
  addr : Nat
  idx : Nat
  /-- ghost: the activation whose frame was captured -/
  act : Nat
  deriving Repr, DecidableEq, Inhabited

structure FM where
  /-- `frames[k].storage[i]` -/
  inl : Nat → Nat → Int
  /-- the heap slices, by address -/
  heap : Nat → Nat → Int
  /-- the next address `make` returns -/
  next : Nat
  /-- ghost: the activation a heap slice was allocated for -/
  owner : Nat → Nat
  frames : Nat → FFrame
  fp : Nat
  /-- ghost: activations started so far -/
  nacts : Nat
  /-- every cell made so far (`MakeCell` results, in order) -/
  cells : List FCell
  /-- the values loaded so far, most recent first -/
  out : List Int

inductive FOp
  /-- `callFunction` → `ActivateFunction` on slot `fp+1` (`wide`: `LocalsCount > DefaultFrameLocals`) -/
  | call (wide : Bool)
  /-- `ReturnValue`: `resumeFrame(fp-1, …)` -/
  | ret
  /-- an error leaves the function (raised in it or below it): the frame is popped without a return -/
  | abort
  /-- `MakeCell idx back`: `frames[fp-back].CaptureLocals()`, `NewCell(&locals[idx])` -/
  | makeCell (idx back : Nat)
  | storeFast (idx : Nat) (v : Int)
  | loadFast (idx : Nat)
  | storeFree (cell : Nat) (v : Int)
  | loadFree (cell : Nat)
  deriving Repr, DecidableEq

def FM.init : FM :=
  { inl := fun _ _ => 0, heap := fun _ _ => 0, next := 0, owner := fun _ => 0,
    frames := fun _ => { act := 0, heapLoc := none, captured := none }, fp := 0, nacts := 1, cells := [], out := [] }

/-- `frames[k].locals[i]`: through the slot's current `locals` slice -/
def FM.frameVal (s : FM) (k i : Nat) : Int :=
  match (s.frames k).heapLoc with
  | some a => s.heap a i
  | none => s.inl k i

/-- `vm.activeFrame.Locals()[idx]` -/
def FM.readFast (s : FM) (idx : Nat) : Int := s.frameVal s.fp idx

/-- `cell.Value()` -/
def FM.readCell (s : FM) (c : FCell) : Int := s.heap c.addr c.idx

def FM.step (s : FM) : FOp → Option FM
  | .call wide =>
    some { s with
      frames := upd s.frames (s.fp + 1) { act := s.nacts, heapLoc := if wide then some s.next else none, captured := none },
      inl := upd s.inl (s.fp + 1) (fun _ => 0),
      heap := if wide then upd s.heap s.next (fun _ => 0) else s.heap,
      owner := if wide then upd s.owner s.next s.nacts else s.owner,
      next := if wide then s.next + 1 else s.next,
      fp := s.fp + 1, nacts := s.nacts + 1 }
  | .ret => if s.fp = 0 then none else some { s with fp := s.fp - 1 }
  | .abort => if s.fp = 0 then none else some { s with fp := s.fp - 1 }
  | .makeCell idx back =>
    if back > s.fp then none
    else
      match (s.frames (s.fp - back)).captured, (s.frames (s.fp - back)).heapLoc with
      | some a, _ => some { s with cells := s.cells ++ [⟨a, idx, (s.frames (s.fp - back)).act⟩] }
      | none, some a =>
        some { s with frames := upd s.frames (s.fp - back) { s.frames (s.fp - back) with captured := some a },
                      cells := s.cells ++ [⟨a, idx, (s.frames (s.fp - back)).act⟩] }
      | none, none =>
        some { s with heap := upd s.heap s.next (s.inl (s.fp - back)),
                      owner := upd s.owner s.next (s.frames (s.fp - back)).act,
                      next := s.next + 1,
                      frames := upd s.frames (s.fp - back) { s.frames (s.fp - back) with heapLoc := some s.next, captured := some s.next },
                      cells := s.cells ++ [⟨s.next, idx, (s.frames (s.fp - back)).act⟩] }
  | .storeFast idx v =>
    match (s.frames s.fp).heapLoc with
    | some a => some { s with heap := upd s.heap a (upd (s.heap a) idx v) }
    | none => some { s with inl := upd s.inl s.fp (upd (s.inl s.fp) idx v) }
  | .loadFast idx => some { s with out := s.readFast idx :: s.out }
  | .storeFree c v =>
    match s.cells[c]? with
    | some cl => some { s with heap := upd s.heap cl.addr (upd (s.heap cl.addr) cl.idx v) }
    | none => none
  | .loadFree c =>
    match s.cells[c]? with
    | some cl => some { s with out := s.readCell cl :: s.out }
    | none => none

def FM.run : FM → List FOp → Option FM
  | s, [] => some s
  | s, op :: ops => (s.step op).bind fun s' => FM.run s' ops


/-! ### what the storage discipline must implement: one variable per (activation, slot)

The same operations on a machine that has no frame slots, no inline storage and no heap
slices, only VARIABLES: `vars a i` is local `i` of activation `a`, created by the call that
starts `a` and never shared with another activation.  A cell is the pair (activation, slot).
This is the store the closure-language evaluator of section 2 uses (`St.acts`, `readCell`,
`writeCell`); `frames_refine_variables` (Props) proves that the frame machine above shows
exactly the same loads for every sequence of operations. -/

structure VarM where
  vars : Nat → Nat → Int
  /-- frame index ↦ activation running there -/
  stackf : Nat → Nat
  fp : Nat
  nacts : Nat
  cells : List (Nat × Nat)
  out : List Int

def VarM.init : VarM :=
  { vars := fun _ _ => 0, stackf := fun _ => 0, fp := 0, nacts := 1, cells := [], out := [] }

def VarM.step (t : VarM) : FOp → Option VarM
  | .call _ =>
    some { t with stackf := upd t.stackf (t.fp + 1) t.nacts, vars := upd t.vars t.nacts (fun _ => 0),
                  fp := t.fp + 1, nacts := t.nacts + 1 }
  | .ret => if t.fp = 0 then none else some { t with fp := t.fp - 1 }
  | .abort => if t.fp = 0 then none else some { t with fp := t.fp - 1 }
  | .makeCell idx back =>
    if back > t.fp then none else some { t with cells := t.cells ++ [(t.stackf (t.fp - back), idx)] }
  | .storeFast idx v =>
    some { t with vars := upd t.vars (t.stackf t.fp) (upd (t.vars (t.stackf t.fp)) idx v) }
  | .loadFast idx => some { t with out := t.vars (t.stackf t.fp) idx :: t.out }
  | .storeFree c v =>
    match t.cells[c]? with
    | some cl => some { t with vars := upd t.vars cl.1 (upd (t.vars cl.1) cl.2 v) }
    | none => none
  | .loadFree c =>
    match t.cells[c]? with
    | some cl => some { t with out := t.vars cl.1 cl.2 :: t.out }
    | none => none

def VarM.run : VarM → List FOp → Option VarM
  | t, [] => some t
  | t, op :: ops => (t.step op).bind fun t' => VarM.run t' ops

/-! ### recursion as a sequence of frame operations

A function that calls itself — in tail position (`return f(…)`) or not — is, for the VM as it is,
a call like any other: `op.Call` → `callObject` → `callFunction` → `activateFunction(fp+1, …)` and
a nested `eval`.  There is ONE call operation (`FOp.call`); nothing in the machine looks at who
the callee is or at what follows the call. -/

/-- one level of a recursion: the call (few / many locals), the level stores its value in
    local 0 and makes a closure over it (`MakeCell 0 0`) -/
def recLevel (v : Int) (wide : Bool) : List FOp := [.call wide, .storeFast 0 v, .makeCell 0 0]

/-- the descent: level after level, each inside the previous one -/
def recDescent : List (Int × Bool) → List FOp
  | [] => []
  | p :: rest => recLevel p.1 p.2 ++ recDescent rest

/-- a whole recursion: the descent, every level returns, then the closure of every level is
    read, in the order the closures were made -/
def recChain (vs : List (Int × Bool)) : List FOp :=
  recDescent vs ++ (List.replicate vs.length FOp.ret ++ (List.range vs.length).map FOp.loadFree)

/-! ## 2. The closure language -/

inductive Route | map | filter | each | sorted | try_ | spawn | gospawn
  deriving Repr, DecidableEq, Inhabited

/-- the loop forms:
    `for3`   `for x := 0; x < n; x++ { body }`      (loop table declares `x`; body table)
    `cond`   `for x < n { body }`                    (`x` declared before; the body increments it)
    `range1` `for x := range n { body }`
    `range2` `for i, x := range [items] { body }`
    `forin`  `for x in [items] { body }`
    `once`   `for { body; break }` -/
inductive LoopK | for3 | cond | range1 | range2 | forin | once
  deriving Repr, DecidableEq, Inhabited

/-- source terms (expressions and statements in one type) -/
inductive Tm
  | int (n : Int)
  | nil
  | fail                                       -- `error("boom")`
  | mkchan                                     -- `chan(1)` (only used by the `go` rendering)
  | var (x : String)
  | add (a b : Tm)
  | fn (name : String) (params : List String) (body : List Tm)   -- name "_" = anonymous
  | call (f : Tm) (args : List Tm)
  | list (es : List Tm)
  | idx (e : Tm) (i : Nat)
  | mapLit (es : List Tm)                      -- `{"k0": e0, "k1": e1, …}`
  | key (e : Tm) (i : Nat)                     -- `e["k<i>"]`
  | route (k : Route) (args : List Tm)
  | decl (x : String) (e : Tm)                 -- `x := e`
  | assign (x : String) (e : Tm)               -- `x = e`
  | opassign (x : String) (sub : Bool) (e : Tm) -- `x += e` / `x -= e`  (compileAssign, compound arm)
  | postfix (x : String) (dec : Bool)          -- `x++` / `x--`        (compilePostfix)
  | massign (xs : List String) (e : Tm)        -- `a, b = e`           (compileMultiVar, plain)
  | mdecl (xs : List String) (e : Tm)          -- `a, b := e`          (compileMultiVar, walrus)
  | ret (e : Tm)
  /-- `if c { return e }`: a CONDITIONAL return, a statement of a function body (not inside a block
      statement).  It is what makes terminating recursion expressible: `if n { return f(n + -1, …) }`
      is a self call in tail position, `if isz(n) { return acc }` a base case. -/
  | retif (c e : Tm)
  -- block scopes (statements; only inside functions; `ret` is not allowed inside them)
  | ifte (c : Tm) (t e : List Tm)              -- `if c { t }` / `if c { t } else { e }` (e ≠ [])
  | switch (subj : Tm) (cases : List Tm)       -- `switch subj { case k: … default: … }`, cases are `scase`s, the default last
  | scase (k : Option Int) (body : List Tm)    -- one case (`none` = default): its body is a block
  | loop (k : LoopK) (xs : List String) (n : Nat) (items : List Int) (body : List Tm)
  deriving Repr, Inhabited

inductive Ref | glob (i : Nat) | loc (i : Nat) | free (i : Nat)
  deriving Repr, DecidableEq, Inhabited

/-- resolved terms: what the compiler emits, structurally -/
inductive RTm
  | int (n : Int)
  | nil
  | fail
  | mkchan
  | load (r : Ref)
  | add (a b : RTm)
  | sub (a b : RTm)
  | mkfn (lit : Nat)                           -- MakeCell* ; LoadClosure  /  LoadConst
  | call (f : RTm) (args : List RTm)
  | list (es : List RTm)
  | idx (e : RTm) (i : Nat)
  | mapLit (es : List RTm)
  | key (e : RTm) (i : Nat)
  | route (k : Route) (args : List RTm)
  | store (r : Ref) (e : RTm)
  /-- `e ; Unpack n ; Store* r_{n-1} … Store* r_0`: the refs in the order of the names -/
  | unpack (rs : List Ref) (e : RTm)
  | ret (e : RTm)
  /-- `c ; JumpIfFalse … ; e ; ReturnValue` (the `return` sits in the block of the `if`) -/
  | retif (c e : RTm)
  | ifte (c : RTm) (t e : List RTm)
  | switch (subj : RTm) (cases : List RTm)
  | scase (k : Option Int) (body : List RTm)
  /-- `rs`: the loop's own names (`for3`, `range*`, `forin`) or the counter it tests (`cond`) -/
  | loop (k : LoopK) (rs : List Ref) (n : Nat) (items : List Int) (body : List RTm)
  deriving Repr, Inhabited

/-- one function literal after compilation -/
structure Lit where
  nparams : Nat
  named : Bool
  nlocals : Nat
  /-- the `MakeCell symbolIndex framesBack` operands emitted where the literal appears -/
  frees : List (Nat × Nat)
  body : List RTm
  deriving Repr, Inhabited

structure Prog where
  lits : List Lit
  main : List RTm
  nglobals : Nat
  /-- `LocalsCount` of the main code object: size of frame 0's (never initialised) locals -/
  mainLocals : Nat
  /-- budget of function calls of a run (the model gives up with `fuel` beyond it) -/
  maxCalls : Nat := 5000
  deriving Repr, Inhabited

/-- guard of the known finding: no capture reaches further than the frame executing the
    literal (every `MAKE_CELL`'s second operand is 0) -/
def Lit.depth1 (l : Lit) : Bool := l.frees.all fun p => p.2 == 0
def depth1Only (lits : List Lit) : Bool := lits.all Lit.depth1

/-! ### name resolution (model of symbol_table.go / compileFunc) -/

structure FScope where
  fnTab : List (String × Nat)      -- parameters and the function's own name
  bodyTab : List (String × Nat)    -- the body's block table
  count : Nat                      -- `len(symbols)` of the function table: the next index `claimIndex` hands out
  frees : List (Nat × Nat)
  /-- the block tables open inside the body, innermost first (`NewBlock` … `symbols = symbols.parent`) -/
  blocks : List (List (String × Nat)) := []
  deriving Repr, Inhabited

structure RS where
  lits : List Lit
  scopes : List FScope             -- innermost first
  globals : List String
  deriving Repr, Inhabited

def lookupTab (t : List (String × Nat)) (x : String) : Option Nat :=
  (t.find? fun p => p.1 == x).map (·.2)

/-- the innermost open block that declares `x` -/
def lookupBlocks : List (List (String × Nat)) → String → Option Nat
  | [], _ => none
  | b :: bs, x =>
    match lookupTab b x with
    | some i => some i
    | none => lookupBlocks bs x

def FScope.lookup (s : FScope) (x : String) : Option Nat :=
  match lookupBlocks s.blocks x with
  | some i => some i
  | none =>
    match lookupTab s.bodyTab x with
    | some i => some i
    | none => lookupTab s.fnTab x

/-! ### 2b. block tables and the slot allocator (model of `NewBlock`, `claimIndex`, `InsertVariable`) -/

/-- `code.symbols = code.symbols.NewBlock()` -/
def FScope.openBlock (s : FScope) : FScope := { s with blocks := [] :: s.blocks }

/-- `code.symbols = code.symbols.parent`: the table is dropped, `count` (the function table's
    `symbols`) is NOT touched — the indexes of the closed block stay claimed -/
def FScope.closeBlock (s : FScope) : FScope := { s with blocks := s.blocks.tail }

/-- `InsertVariable(x)` in the current table (innermost open block, else the body table):
    a new name claims index `count` of the function table (`claimIndex` walks up through the
    block tables to the function table: `idx := len(t.symbols)`, append).  Returns the slot and
    whether it was newly claimed. -/
def FScope.declare (s : FScope) (x : String) : Nat × Bool × FScope :=
  match s.blocks with
  | [] =>
    match lookupTab s.bodyTab x with
    | some i => (i, false, s)
    | none => (s.count, true, { s with bodyTab := (x, s.count) :: s.bodyTab, count := s.count + 1 })
  | b :: bs =>
    match lookupTab b x with
    | some i => (i, false, s)
    | none => (s.count, true, { s with blocks := ((x, s.count) :: b) :: bs, count := s.count + 1 })

/-- what the compiler does to one function's tables between the function's `{` and `}` -/
inductive BOp
  | openB                 -- a block begins (if/else body, switch case, loop table, loop body)
  | closeB                -- it ends
  | decl (x : String)     -- `x := …`, a loop variable, a named function statement
  deriving Repr, DecidableEq

def FScope.applyOp (s : FScope) : BOp → FScope × List Nat
  | .openB => (s.openBlock, [])
  | .closeB => (s.closeBlock, [])
  | .decl x =>
    match s.declare x with
    | (i, true, s') => (s', [i])
    | (_, false, s') => (s', [])

/-- the tables after a sequence of operations -/
def FScope.runOps : FScope → List BOp → FScope
  | s, [] => s
  | s, op :: ops => FScope.runOps (s.applyOp op).1 ops

/-- the slots claimed by the NEW variables of a sequence of operations, in declaration order -/
def FScope.claims : FScope → List BOp → List Nat
  | _, [] => []
  | s, op :: ops => (s.applyOp op).2 ++ FScope.claims (s.applyOp op).1 ops

/-- search the enclosing functions (1 level up = index 0 of `outer`) -/
def lookupOuter : List FScope → String → Nat → Option (Nat × Nat)
  | [], _, _ => none
  | s :: rest, x, k =>
    match s.lookup x with
    | some i => some (i, k)
    | none => lookupOuter rest x (k + 1)

def indexOfStr : List String → String → Nat → Option Nat
  | [], _, _ => none
  | y :: ys, x, i => if x == y then some i else indexOfStr ys x (i + 1)

/-- `SymbolTable.Resolve` -/
def resolveName (rs : RS) (x : String) : Except String (Ref × RS) :=
  match rs.scopes with
  | [] =>
    match indexOfStr rs.globals x 0 with
    | some i => .ok (.glob i, rs)
    | none => .error ("undefined " ++ x)
  | s :: outer =>
    match s.lookup x with
    | some i => .ok (.loc i, rs)
    | none =>
      match lookupOuter outer x 1 with
      | some (slot, depth) =>
        -- a fresh free entry on every reference (the body is a block table, whose own
        -- freeByName is never filled)
        .ok (.free s.frees.length, { rs with scopes := { s with frees := s.frees ++ [(slot, depth - 1)] } :: outer })
      | none =>
        match indexOfStr rs.globals x 0 with
        | some i => .ok (.glob i, rs)
        | none => .error ("undefined " ++ x)

/-- `InsertVariable` in the current block (or the globals) -/
def declareName (rs : RS) (x : String) : Ref × RS :=
  match rs.scopes with
  | [] =>
    match indexOfStr rs.globals x 0 with
    | some i => (.glob i, rs)
    | none => (.glob rs.globals.length, { rs with globals := rs.globals ++ [x] })
  | s :: outer =>
    match s.declare x with
    | (i, _, s') => (.loc i, { rs with scopes := s' :: outer })

/-- a block begins: only modelled inside functions -/
def RS.openB (rs : RS) : Except String RS :=
  match rs.scopes with
  | [] => .error "block at global scope"
  | s :: outer => .ok { rs with scopes := s.openBlock :: outer }

def RS.closeB (rs : RS) : RS :=
  match rs.scopes with
  | [] => rs
  | s :: outer => { rs with scopes := s.closeBlock :: outer }

def RS.inBlock (rs : RS) : Bool :=
  match rs.scopes with
  | [] => false
  | s :: _ => !s.blocks.isEmpty

/-- `Resolve` for a list of names, in list order (each reference of a free variable claims
    the next free index of the innermost function) -/
def resolveNames : List String → RS → Except String (List Ref × RS)
  | [], rs => .ok ([], rs)
  | x :: xs, rs =>
    match resolveName rs x with
    | .error e => .error e
    | .ok (r, rs) =>
      match resolveNames xs rs with
      | .error e => .error e
      | .ok (rl, rs) => .ok (r :: rl, rs)

/-- `InsertVariable` for a list of names, in list order (each new name claims the next slot) -/
def declareNames : List String → RS → List Ref × RS
  | [], rs => ([], rs)
  | x :: xs, rs =>
    let (r, rs) := declareName rs x
    let (rl, rs) := declareNames xs rs
    (r :: rl, rs)

def insertParams : List String → Nat → List (String × Nat)
  | [], _ => []
  | p :: ps, i => insertParams ps (i + 1) ++ [(p, i)]   -- later duplicates win in `find?`

mutual
def resolveTm : Nat → Tm → RS → Except String (RTm × RS)
  | 0, _, _ => .error "fuel"
  | _ + 1, .int n, rs => .ok (.int n, rs)
  | _ + 1, .nil, rs => .ok (.nil, rs)
  | _ + 1, .fail, rs => .ok (.fail, rs)
  | _ + 1, .mkchan, rs => .ok (.mkchan, rs)
  | _ + 1, .var x, rs => do
    let (r, rs) ← resolveName rs x
    pure (.load r, rs)
  | n + 1, .add a b, rs => do
    let (a, rs) ← resolveTm n a rs
    let (b, rs) ← resolveTm n b rs
    pure (.add a b, rs)
  | n + 1, .fn name params body, rs => do
    let named := name != "_"
    let fnTab := (if named then [(name, params.length)] else []) ++ insertParams params 0
    let cnt := params.length + (if named then 1 else 0)
    let rs1 : RS := { rs with scopes := { fnTab := fnTab, bodyTab := [], count := cnt, frees := [] } :: rs.scopes }
    let (body, rs2) ← resolveList n body rs1
    match rs2.scopes with
    | [] => .error "scope"
    | s :: outer =>
      let lit : Lit := { nparams := params.length, named := named, nlocals := s.count, frees := s.frees, body := body }
      let id := rs2.lits.length
      let rs3 : RS := { rs2 with lits := rs2.lits ++ [lit], scopes := outer }
      if named then
        let (r, rs4) := declareName rs3 name
        pure (.store r (.mkfn id), rs4)
      else pure (.mkfn id, rs3)
  | n + 1, .call f args, rs => do
    let (f, rs) ← resolveTm n f rs
    let (args, rs) ← resolveList n args rs
    pure (.call f args, rs)
  | n + 1, .list es, rs => do
    let (es, rs) ← resolveList n es rs
    pure (.list es, rs)
  | n + 1, .idx e i, rs => do
    let (e, rs) ← resolveTm n e rs
    pure (.idx e i, rs)
  | n + 1, .mapLit es, rs => do
    let (es, rs) ← resolveList n es rs
    pure (.mapLit es, rs)
  | n + 1, .key e i, rs => do
    let (e, rs) ← resolveTm n e rs
    pure (.key e i, rs)
  | n + 1, .route k args, rs => do
    let (args, rs) ← resolveList n args rs
    pure (.route k args, rs)
  | n + 1, .decl x e, rs => do
    let (e, rs) ← resolveTm n e rs
    let (r, rs) := declareName rs x
    pure (.store r e, rs)
  | n + 1, .assign x e, rs => do
    let (r, rs) ← resolveName rs x
    let (e, rs) ← resolveTm n e rs
    pure (.store r e, rs)
  -- compileAssign, compound operator: ONE Resolve, whose free index serves both the
  -- LoadFree before the value and the StoreFree after it
  | n + 1, .opassign x sub e, rs => do
    let (r, rs) ← resolveName rs x
    let (e, rs) ← resolveTm n e rs
    pure (.store r (if sub then .sub (.load r) e else .add (.load r) e), rs)
  -- compilePostfix: one Resolve; Load, LoadConst ±1, Add, Store
  | _ + 1, .postfix x dec, rs => do
    let (r, rs) ← resolveName rs x
    pure (.store r (.add (.load r) (.int (if dec then -1 else 1))), rs)
  -- compileMultiVar: the value first, then the names from the LAST to the first
  | n + 1, .massign xs e, rs => do
    let (e, rs) ← resolveTm n e rs
    let (refs, rs) ← resolveNames xs.reverse rs
    pure (.unpack refs.reverse e, rs)
  | n + 1, .mdecl xs e, rs => do
    let (e, rs) ← resolveTm n e rs
    let (refs, rs) := declareNames xs.reverse rs
    pure (.unpack refs.reverse e, rs)
  | n + 1, .ret e, rs => do
    if rs.inBlock then .error "return inside a block"
    let (e, rs) ← resolveTm n e rs
    pure (.ret e, rs)
  -- `if c { return e }`: compileIf, the body is a block table that declares nothing
  | n + 1, .retif c e, rs => do
    if rs.inBlock then .error "return inside a block"
    let (c, rs) ← resolveTm n c rs
    let rs ← rs.openB
    let (e, rs) ← resolveTm n e rs
    pure (.retif c e, rs.closeB)
  -- compileIf: the condition, then each body is a block (compileBlock: NewBlock … parent)
  | n + 1, .ifte c t e, rs => do
    let (c, rs) ← resolveTm n c rs
    let rs ← rs.openB
    let (t, rs) ← resolveList n t rs
    let rs := rs.closeB
    if e.isEmpty then pure (.ifte c t [], rs)
    else
      let rs ← rs.openB
      let (e, rs) ← resolveList n e rs
      pure (.ifte c t e, rs.closeB)
  -- compileSwitch: the subject, the case expressions (integer literals), then the case
  -- blocks in order, the default block last
  | n + 1, .switch subj cases, rs => do
    let (subj, rs) ← resolveTm n subj rs
    let (cs, rs) ← resolveList n cases rs
    pure (.switch subj cs, rs)
  | n + 1, .scase k body, rs => do
    let rs ← rs.openB
    let (b, rs) ← resolveList n body rs
    pure (.scase k b, rs.closeB)
  -- the loops: a block table for the loop itself (init / range variables), and the body is a
  -- block of its own
  | n + 1, .loop k xs cnt items body, rs => do
    let rs ← rs.openB
    let (refs, rs) ←
      match k with
      | .cond => resolveNames xs rs                              -- the condition `x < n`
      | _ => (pure (declareNames xs rs) : Except String (List Ref × RS))   -- `x := 0` / the range names, in order
    let rs ← rs.openB
    let (b, rs) ← resolveList n body rs
    pure (.loop k refs cnt items b, rs.closeB.closeB)
def resolveList : Nat → List Tm → RS → Except String (List RTm × RS)
  | 0, _, _ => .error "fuel"
  | _ + 1, [], rs => .ok ([], rs)
  -- the parser reads `x++` as the expression statement `x` (LoadX; PopTop: one more reference
  -- of `x`) followed by the postfix statement on the previous token
  | n + 1, .postfix x dec :: ts, rs => do
    let (r0, rs) ← resolveName rs x
    let (t, rs) ← resolveTm n (.postfix x dec) rs
    let (ts, rs) ← resolveList n ts rs
    pure (.load r0 :: t :: ts, rs)
  | n + 1, t :: ts, rs => do
    let (t, rs) ← resolveTm n t rs
    let (ts, rs) ← resolveList n ts rs
    pure (t :: ts, rs)
end

def resolveProg (main : List Tm) (mainLocals : Nat) : Except String Prog := do
  let (body, rs) ← resolveList 100000 main { lits := [], scopes := [], globals := [] }
  pure { lits := rs.lits, main := body, nglobals := rs.globals.length, mainLocals := mainLocals }

/-! ### values, state, errors -/

inductive Val
  | int (n : Int)
  | clo (lit : Nat) (cells : List (Nat × Nat)) (definer : Nat)   -- cells: (activation, slot)
  | list (vs : List Val)
  | map (vs : List Val)          -- keys "k0", "k1", … in order
  | nil
  | undef        -- Go nil: a local slot that was never written
  | opaque       -- a value the model does not look into (error value, channel)
  deriving Repr, Inhabited

inductive ErrK
  | type | args | eval | user | index
  | panic        -- a Go panic in flight: nothing in the script catches it
  | panicErr     -- the error value a thread boundary makes out of a panic ("panic: …")
  | undef        -- the run read a never-written slot (Go nil): outcome not modelled
  | fuel | bad
  deriving Repr, DecidableEq, Inhabited

structure Err where
  kind : ErrK
  fatal : Bool
  deriving Repr, DecidableEq, Inhabited

/-- errors no script construct can intercept -/
def Err.hard (e : Err) : Bool :=
  match e.kind with
  | .panic | .undef | .fuel | .bad => true
  | _ => false

structure Act where
  locals : List Val
  parent : Option Nat            -- ghost: lexical parent
  cells : List (Nat × Nat)       -- the running closure's free-variable cells
  deriving Repr, Inhabited

structure St where
  acts : List Act
  globals : List Val
  stack : List Nat               -- running VM's frames, top first
  calls : Nat := 5000           -- remaining budget of function calls
  deriving Repr, Inhabited

def St.parentOf (s : St) (a : Nat) : Option Nat := (s.acts[a]?).bind (·.parent)

abbrev M (α : Type) := St → Except Err α × St

instance : Monad M where
  pure a := fun s => (.ok a, s)
  bind x f := fun s =>
    match x s with
    | (.ok a, s') => f a s'
    | (.error e, s') => (.error e, s')

def throwE {α} (k : ErrK) (fatal : Bool := false) : M α := fun s => (.error ⟨k, fatal⟩, s)
def rethrow {α} (e : Err) : M α := fun s => (.error e, s)
def getSt : M St := fun s => (.ok s, s)
def setSt (s : St) : M Unit := fun _ => (.ok (), s)
def modSt (f : St → St) : M Unit := fun s => (.ok (), f s)
/-- run `x`; on error hand the error (and the state at the point of failure) to `h` -/
def catchE {α} (x : M α) (h : Err → M α) : M α := fun s =>
  match x s with
  | (.error e, s') => h e s'
  | r => r

def Val.truthy : Val → Bool
  | .int n => n != 0
  | .list vs => !vs.isEmpty
  | .map vs => !vs.isEmpty
  | .nil => false
  | _ => true

def readCell (s : St) (c : Nat × Nat) : Option Val := (s.acts[c.1]?).bind fun a => a.locals[c.2]?

def writeCell (s : St) (c : Nat × Nat) (v : Val) : St :=
  match s.acts[c.1]? with
  | some a => { s with acts := s.acts.set c.1 { a with locals := a.locals.set c.2 v } }
  | none => s

def curAct (s : St) : Nat := s.stack.headD 0

def loadRef (r : Ref) : M Val := fun s =>
  let v : Option Val := match r with
    | .glob i => s.globals[i]?
    | .loc i => readCell s (curAct s, i)
    | .free i => ((s.acts[curAct s]?).bind fun a => a.cells[i]?).bind (readCell s)
  match v with
  | some .undef => (.error ⟨.undef, true⟩, s)
  | some v => (.ok v, s)
  | none => (.error ⟨.bad, true⟩, s)

def storeRef (r : Ref) (v : Val) : M Unit := fun s =>
  match r with
  | .glob i => (.ok (), { s with globals := s.globals.set i v })
  | .loc i => (.ok (), writeCell s (curAct s, i) v)
  | .free i =>
    match (s.acts[curAct s]?).bind fun a => a.cells[i]? with
    | some c => (.ok (), writeCell s c v)
    | none => (.error ⟨.bad, true⟩, s)

/-- `MakeCell slot d` for every free entry of the literal: the ONLY place the mode matters -/
def makeCells (m : Mode) (s : St) : List (Nat × Nat) → Except Err (List (Nat × Nat))
  | [] => .ok []
  | (slot, d) :: rest =>
    match captureAct m s.parentOf s.stack d with
    | none => .error ⟨.eval, true⟩                      -- "no frame at depth"
    | some a =>
      match (s.acts[a]?).map (·.locals.length) with
      | none => .error ⟨.bad, true⟩
      | some len =>
        if slot < len then
          match makeCells m s rest with
          | .ok cs => .ok ((a, slot) :: cs)
          | .error e => .error e
        else .error ⟨.panic, true⟩                      -- &locals[symbolIndex] out of range

/-- Go's int64 addition wraps around -/
def wrap64 (x : Int) : Int := (x + 9223372036854775808) % 18446744073709551616 - 9223372036854775808

def addVals : Val → Val → M Val
  | .int a, .int b => pure (.int (wrap64 (a + b)))
  | .list a, .list b => pure (.list (a ++ b))
  | .opaque, _ => throwE .undef true
  | _, .opaque => throwE .undef true
  | _, _ => throwE .type

def subVals : Val → Val → M Val
  | .int a, .int b => pure (.int (wrap64 (a - b)))
  | .opaque, _ => throwE .undef true
  | _, .opaque => throwE .undef true
  | _, _ => throwE .type

/-- the `Store*` instructions after an `Unpack`, in the order given -/
def storeRefs : List (Ref × Val) → M Unit
  | [] => pure ()
  | (r, v) :: rest => do
    storeRef r v
    storeRefs rest

/-- the locals of a fresh frame: arguments, the function itself if it is named, Go nil -/
def initLocals (l : Lit) (self : Val) (args : List Val) : List Val :=
  let base := args ++ (if l.named then [self] else [])
  base ++ List.replicate (l.nlocals - base.length) Val.undef

def swapAt (xs : List Val) (i j : Nat) : List Val :=
  match xs[i]?, xs[j]? with
  | some a, some b => (xs.set i b).set j a
  | _, _ => xs

/-- errors coming back through `list.map/filter/each` (`Errorf(err.Error())`) and `sorted`
    (`TypeErrorf(err.Error())`) keep their text but lose their fatality -/
def softened (e : Err) : Err := if e.hard then e else { e with fatal := false }

/-- `switch`: the body of the first case whose literal equals the subject, else the default's -/
def pickCase : List RTm → Int → Option (List RTm) → List RTm
  | [], _, dflt => dflt.getD []
  | .scase (some k) body :: rest, v, dflt => if k == v then body else pickCase rest v dflt
  | .scase none body :: rest, v, _ => pickCase rest v (some body)
  | _ :: rest, v, dflt => pickCase rest v dflt

/-- what the iterator of a range loop yields: (key, value) pairs -/
def loopItems (k : LoopK) (n : Nat) (items : List Int) : List (Int × Int) :=
  match k with
  | .range1 => (List.range n).map fun (i : Nat) => (Int.ofNat i, Int.ofNat i)
  | .range2 | .forin => ((List.range items.length).zip items).map fun (p : Nat × Int) => (Int.ofNat p.1, p.2)
  | _ => []

mutual
def eval (m : Mode) (lits : List Lit) : Nat → RTm → M Val
  | 0, _ => throwE .fuel true
  | _ + 1, .int n => pure (.int n)
  | _ + 1, .nil => pure .nil
  | _ + 1, .fail => throwE .user
  | _ + 1, .mkchan => pure .opaque
  | _ + 1, .load r => loadRef r
  | n + 1, .add a b => do
    let x ← eval m lits n a
    let y ← eval m lits n b
    addVals x y
  | n + 1, .sub a b => do
    let x ← eval m lits n a
    let y ← eval m lits n b
    subVals x y
  | _ + 1, .mkfn i => fun s =>
    match lits[i]? with
    | none => (.error ⟨.bad, true⟩, s)
    | some l =>
      match makeCells m s l.frees with
      | .ok cs => (.ok (.clo i cs (curAct s)), s)
      | .error e => (.error e, s)
  | n + 1, .call f args => do
    let fv ← eval m lits n f
    let as ← evalList m lits n args
    callVal m lits n fv as
  | n + 1, .list es => do
    let vs ← evalList m lits n es
    pure (.list vs)
  | n + 1, .idx e i => do
    let v ← eval m lits n e
    match v with
    | .list vs => match vs[i]? with
      | some x => pure x
      | none => throwE .index
    | .opaque => throwE .undef true
    | _ => throwE .type
  | n + 1, .mapLit es => do
    let vs ← evalList m lits n es
    pure (.map vs)
  | n + 1, .key e i => do
    let v ← eval m lits n e
    match v with
    | .map vs => match vs[i]? with
      | some x => pure x
      | none => throwE .index
    | .opaque => throwE .undef true
    | _ => throwE .type
  | n + 1, .store r e => do
    let v ← eval m lits n e
    storeRef r v
    pure .nil
  -- `Unpack n`: the value must be a container of exactly n items ("type error: object is not
  -- a container" / "unpack count mismatch", a plain error); the items are pushed first to last,
  -- so the stores run from the last name to the first
  | n + 1, .unpack rs e => do
    let v ← eval m lits n e
    match v with
    | .list vs =>
      if vs.length != rs.length then throwE .user
      else do
        storeRefs (rs.zip vs).reverse
        pure .nil
    | .map _ => throwE .undef true                               -- unpacks the keys: not modelled
    | .opaque => throwE .undef true
    | _ => throwE .type
  | n + 1, .ret e => eval m lits n e
  | _ + 1, .retif _ _ => throwE .bad true                        -- a statement of a function body: see `execBody`
  -- block statements: their value (popped by the statement list) is not modelled: nil
  | n + 1, .ifte c t e => do
    let cv ← eval m lits n c
    let _ ← execBody m lits n (if cv.truthy then t else e)
    pure .nil
  | n + 1, .switch subj cases => do
    let sv ← eval m lits n subj
    match sv with
    | .int v =>
      let _ ← execBody m lits n (pickCase cases v none)
      pure .nil
    | _ => throwE .undef true                                    -- a subject that is not an int: not modelled
  | _ + 1, .scase _ _ => throwE .bad true
  | n + 1, .loop k rs cnt items body => do
    match k, rs with
    | .for3, [r] => storeRef r (.int 0)                          -- the init clause `x := 0`
    | _, _ => pure ()
    loopRun m lits n k rs cnt (loopItems k cnt items) body
  | n + 1, .route k args => do
    match k, args with
    | .map, [l, f] | .filter, [l, f] | .each, [l, f] =>
      let lv ← eval m lits n l
      match lv with
      | .list items =>
        let fv ← eval m lits n f
        match fv with
        | .clo i _ _ =>
          let np := (lits[i]?).map (·.nparams) |>.getD 0
          if k == .map && np == 2 then throwE .undef true       -- shared index object (C16 defect): not modelled
          else if k == .map && np != 1 then throwE .type
          else
            let rs ← mapItems m lits n fv items
            match k with
            | .map => pure (.list (rs.map (·.2)))
            | .filter => pure (.list ((rs.filter fun p => p.2.truthy).map (·.1)))
            | _ => pure .nil
        | .opaque => throwE .undef true
        | _ => throwE .type
      | .opaque => throwE .undef true
      | _ => throwE .type                                        -- attribute not found
    | .sorted, [l, f] =>
      let lv ← eval m lits n l
      let fv ← eval m lits n f
      match lv, fv with
      | .opaque, _ => throwE .undef true
      | _, .opaque => throwE .undef true
      | .map _, _ => throwE .undef true                          -- sorts the keys: not modelled
      | .list items, .clo _ _ _ =>
        if items.length > 12 then throwE .undef true
        else
          let (items, err) ← sortLoop m lits n fv items 1 1 none
          match err with
          | some e => rethrow (softened e)
          | none => pure (.list items)
      | _, _ => throwE .type
    | .try_, _ =>
      let vs ← evalList m lits n args
      tryLoop m lits n vs false
    | .spawn, f :: as =>
      let fv ← eval m lits n f
      let avs ← evalList m lits n as
      threadCall m lits n fv avs none
    | .gospawn, c :: f :: as =>
      let cv ← eval m lits n c
      let fv ← eval m lits n f
      let avs ← evalList m lits n as
      match cv with
      | .opaque =>
        let r ← threadCall m lits n fv avs (some cv)
        -- the statement after `go …` is `x := <-c`: the channel variable is read again
        let cv2 ← eval m lits n c
        match cv2 with
        | .opaque => pure r
        | _ => throwE .type                                      -- "object is not a channel"
      | _ => throwE .undef true                                  -- the goroutine's send fails: the receive blocks
    | _, _ => throwE .bad true
def evalList (m : Mode) (lits : List Lit) : Nat → List RTm → M (List Val)
  | 0, _ => throwE .fuel true
  | _ + 1, [] => pure []
  | n + 1, t :: ts => do
    let v ← eval m lits n t
    let vs ← evalList m lits n ts
    pure (v :: vs)
/-- statements of a function body; `ret` ends it, `retif` ends it when its condition holds -/
def execBody (m : Mode) (lits : List Lit) : Nat → List RTm → M Val
  | 0, _ => throwE .fuel true
  | _ + 1, [] => pure .nil
  | n + 1, .ret e :: _ => eval m lits n e
  | n + 1, .retif c e :: rest => do
    let cv ← eval m lits n c
    if cv.truthy then eval m lits n e else execBody m lits n rest
  | n + 1, [t] => eval m lits n t
  | n + 1, t :: ts => do
    let _ ← eval m lits n t
    execBody m lits n ts
/-- the iterations of a loop.  `for3`/`cond`: test `x < n` on the variable's CURRENT value (the
    body, or a closure it calls, may have written it), run the body block, then (`for3`) the post
    clause `x++`.  Range forms: store the next key/value into the loop's names, run the body.
    `once`: `for { body; break }`.  Every iteration re-enters the same body block: same slots. -/
def loopRun (m : Mode) (lits : List Lit) : Nat → LoopK → List Ref → Nat → List (Int × Int) → List RTm → M Val
  | 0, _, _, _, _, _ => throwE .fuel true
  | n + 1, k, rs, cnt, its, body =>
    match k, rs, its with
    | .once, _, _ => do
      let _ ← execBody m lits n body
      pure .nil
    | .for3, [r], _ => do
      let v ← loadRef r
      match v with
      | .int x =>
        if x < (cnt : Int) then do
          let _ ← execBody m lits n body
          let v2 ← loadRef r
          let nv ← addVals v2 (.int 1)
          storeRef r nv
          loopRun m lits n .for3 [r] cnt its body
        else pure .nil
      | _ => throwE .undef true
    | .cond, [r], _ => do
      let v ← loadRef r
      match v with
      | .int x =>
        if x < (cnt : Int) then do
          let _ ← execBody m lits n body
          loopRun m lits n .cond [r] cnt its body
        else pure .nil
      | _ => throwE .undef true
    | .range1, [_], [] => pure .nil
    | .range1, [r], (key, _) :: rest => do
      storeRef r (.int key)
      let _ ← execBody m lits n body
      loopRun m lits n .range1 [r] cnt rest body
    | .range2, [_, _], [] => pure .nil
    | .range2, [ri, rx], (key, val) :: rest => do
      storeRef ri (.int key)
      storeRef rx (.int val)
      let _ ← execBody m lits n body
      loopRun m lits n .range2 [ri, rx] cnt rest body
    | .forin, [_], [] => pure .nil
    | .forin, [r], (_, val) :: rest => do
      storeRef r (.int val)
      let _ ← execBody m lits n body
      loopRun m lits n .forin [r] cnt rest body
    | _, _, _ => throwE .bad true
/-- `callFunction`: push a frame on top of the running VM's stack, run, pop -/
def callVal (m : Mode) (lits : List Lit) : Nat → Val → List Val → M Val
  | 0, _, _ => throwE .fuel true
  | n + 1, .clo i cells definer, args => do
    match lits[i]? with
    | none => throwE .bad true
    | some l =>
      if args.length != l.nparams then throwE .args true
      else
        let s ← getSt
        if s.calls == 0 then throwE .fuel true
        else
        let id := s.acts.length
        setSt { s with calls := s.calls - 1, acts := s.acts ++ [{ locals := initLocals l (.clo i cells definer) args, parent := some definer, cells := cells }],
                       stack := id :: s.stack }
        let r ← catchE (execBody m lits n l.body) (fun e => do
          modSt fun s' => { s' with stack := s.stack }
          rethrow e)
        modSt fun s' => { s' with stack := s.stack }
        pure r
  | _ + 1, .opaque, _ => throwE .undef true
  | _ + 1, _, _ => throwE .type
/-- the callback loop of list.map / filter / each: (item, result) pairs -/
def mapItems (m : Mode) (lits : List Lit) : Nat → Val → List Val → M (List (Val × Val))
  | 0, _, _ => throwE .fuel true
  | _ + 1, _, [] => pure []
  | n + 1, f, x :: xs => do
    let r ← catchE (callVal m lits n f [x]) (fun e => rethrow (softened e))
    let rest ← mapItems m lits n f xs
    pure ((x, r) :: rest)
/-- sort.SliceStable on fewer than 20 elements: insertion sort, `less(j, j-1)` calls the
    comparator with (items[j], items[j-1]); after a failed call the sort goes on (treating
    it as false) and the last error is reported at the end -/
def sortLoop (m : Mode) (lits : List Lit) : Nat → Val → List Val → Nat → Nat → Option Err → M (List Val × Option Err)
  | 0, _, _, _, _, _ => throwE .fuel true
  | n + 1, f, items, i, j, err =>
    if i ≥ items.length then pure (items, err)
    else if j > 0 then do
      let r ← catchE (do let v ← callVal m lits n f [items.getD j .nil, items.getD (j - 1) .nil]; pure (Except.ok v))
                (fun e => if e.hard then rethrow e else pure (Except.error e))
      match r with
      | .ok v =>
        if v.truthy then sortLoop m lits n f (swapAt items j (j - 1)) i (j - 1) err
        else sortLoop m lits n f items (i + 1) (i + 1) err
      | .error e => sortLoop m lits n f items (i + 1) (i + 1) (some e)
    else sortLoop m lits n f items (i + 1) (i + 1) err
/-- builtin `try(a1, a2, …)` -/
def tryLoop (m : Mode) (lits : List Lit) : Nat → List Val → Bool → M Val
  | 0, _, _ => throwE .fuel true
  | _ + 1, [], _ => pure .nil
  | n + 1, v :: rest, hadErr =>
    match v with
    | .clo i _ _ =>
      let np := (lits[i]?).map (·.nparams) |>.getD 0
      let args := if np > 0 && hadErr then [Val.opaque] else []
      catchE (callVal m lits n v args) (fun e =>
        if e.hard || e.fatal then rethrow e else tryLoop m lits n rest true)
    | v => pure v
/-- `spawn(f, args…).wait()` and `go`: the function runs on a clone whose stack holds only a
    fresh main frame (plus, for the `go` rendering, the frame of the wrapper function
    `func(c, f, a…) { c <- f(a…) }`) -/
def threadCall (m : Mode) (lits : List Lit) : Nat → Val → List Val → Option Val → M Val
  | 0, _, _, _ => throwE .fuel true
  | n + 1, f, args, wrap => do
    match f, wrap with
    | .clo _ _ _, _ =>
      let s ← getSt
      let mainLocals := (s.acts[0]?).map (·.locals.length) |>.getD 0
      let mainId := s.acts.length
      let s1 : St := { s with acts := s.acts ++ [{ locals := List.replicate mainLocals .undef, parent := none, cells := [] }],
                              stack := [mainId] }
      let s2 : St := match wrap with
        | some cv => { s1 with acts := s1.acts ++ [{ locals := cv :: f :: args, parent := some (curAct s), cells := [] }],
                               stack := [mainId + 1, mainId] }
        | none => s1
      setSt s2
      let r ← catchE (callVal m lits n f args) (fun e => do
        modSt fun s' => { s' with stack := s.stack }
        match wrap, e.kind with
        | some _, .fuel => rethrow e
        | some _, _ => throwE .undef true            -- the goroutine died: the receive never completes
        | none, .panic => throwE .panicErr false     -- recovered at the thread boundary
        | none, _ => rethrow e)
      modSt fun s' => { s' with stack := s.stack }
      pure r
    | .opaque, _ => throwE .undef true
    | _, some _ => throwE .undef true
    | _, none => throwE .type
end

/-- the state in which the body of a called closure starts: a NEW activation (the next
    activation number) with its own locals, on top of the running VM's stack -/
def St.enter (s : St) (l : Lit) (self : Val) (args : List Val) (definer : Nat) (cells : List (Nat × Nat)) : St :=
  { s with calls := s.calls - 1,
           acts := s.acts ++ [{ locals := initLocals l self args, parent := some definer, cells := cells }],
           stack := s.acts.length :: s.stack }

def Prog.initSt (p : Prog) : St :=
  { acts := [{ locals := List.replicate p.mainLocals .undef, parent := none, cells := [] }],
    globals := List.replicate p.nglobals .undef, stack := [0], calls := p.maxCalls }

/-- evaluate the main code: the value of the last statement -/
def runProg (m : Mode) (fuel : Nat) (p : Prog) : Except Err Val × St :=
  execBody m p.lits fuel p.main p.initSt

def Impl := runProg Mode.positional
def Spec := runProg Mode.lexical

/-! ### rendering of outcomes (what the harness compares) -/

mutual
def showVal : Val → String
  | .int n => toString n
  | .clo _ _ _ => "fn"
  | .list vs => "[" ++ showVals vs ++ "]"
  | .map vs => "{" ++ showVals vs ++ "}"
  | .nil => "nil"
  | .undef => "GONIL"
  | .opaque => "opaque"
def showVals : List Val → String
  | [] => ""
  | [v] => showVal v
  | v :: vs => showVal v ++ "," ++ showVals vs
end

def ErrK.cls : ErrK → String
  | .type => "type" | .args => "args" | .eval => "eval" | .user => "error" | .index => "index"
  | .panic => "panic" | .panicErr => "panic" | .undef => "undef" | .fuel => "fuel" | .bad => "bad"

def showOutcome : Except Err Val × St → String
  | (.ok v, _) => "ok " ++ showVal v
  | (.error e, _) =>
    match e.kind with
    | .undef => "undef"
    | .fuel => "undef"
    | k => "err " ++ k.cls

/-! ## 3. The source text the model was written from (frozen at the pinned commit)

The extractor regenerates the same tables from /repo on every run (`Generated/C02.lean`);
`Ties.lean` compares them.  Each table backs one clause of the model:
`compileFuncEmits`/`resolveFree` → `resolveName` (a free entry `(slot, depth-1)` per reference,
recorded in the innermost function only) and `RTm.mkfn`; `armMakeCell` → `captureAct
.positional` (`stack[d]`, "no frame at depth", the slot range check) ; `armLoadFree`/
`armStoreFree` → `loadRef`/`storeRef` on `Ref.free`; `callFunctionFrame` → `initLocals` (self
slot) and `callVal` (a new frame on top of the running stack); `captureLocals` → cells are
(activation, slot) pairs that alias the frame's own locals; `claimIndex`/`newBlock`/
`compileBlockTables` → `FScope.declare`, `FScope.openBlock`, `FScope.closeBlock`;
`activateCode`/`captureLocals`/`armLoadFast`/`armStoreFast` → the frame machine `FM` (section 1b). -/
namespace Src

def compileFuncEmits : List String := [
  "c.emit(op.MakeCell, resolution.symbol.Index(), uint16(resolution.depth-1))",
  "c.emit(op.LoadClosure, c.constant(fn), freeCount)"
]

def resolveFree : List String := [
  "depth := t.FunctionDepth() - ancestor.FunctionDepth()",
  "freeIndex := len(activeFunc.free)",
  "rs := &Resolution{symbol: sym, scope: Free, depth: depth, freeIndex: freeIndex}",
  "activeFunc.freeByName[name] = rs",
  "activeFunc.free = append(activeFunc.free, rs)"
]

def armMakeCell : List String := [
  "symbolIndex := vm.fetch()",
  "framesBack := int(vm.fetch())",
  "frameIndex := vm.fp - framesBack",
  "if frameIndex < 0 { return errz.EvalErrorf(\"eval error: no frame at depth %d\", framesBack) }",
  "frame := &vm.frames[frameIndex]",
  "locals := frame.CaptureLocals()",
  "vm.push(object.NewCell(&locals[symbolIndex]))"
]

def armLoadFree : List String := [
  "idx := vm.fetch()",
  "freeVars := vm.activeFrame.fn.FreeVars()",
  "obj := freeVars[idx].Value()",
  "vm.push(obj)"
]

def armStoreFree : List String := [
  "idx := vm.fetch()",
  "obj := vm.pop()",
  "freeVars := vm.activeFrame.fn.FreeVars()",
  "freeVars[idx].Set(obj)"
]

def callFunctionFrame : List String := [
  "if code.IsNamed() { vm.tmp[paramsCount] = fn argc++ }",
  "vm.activateFunction(vm.fp+1, 0, fn, vm.tmp[:argc])"
]

def captureLocals : List String := [
  "if f.capturedLocals != nil { return f.capturedLocals }",
  "if f.extendedLocals != nil { f.capturedLocals = f.extendedLocals return f.capturedLocals }",
  "newStorage := make([]object.Object, len(f.locals))",
  "copy(newStorage, f.locals)",
  "f.capturedLocals = newStorage",
  "f.locals = newStorage",
  "return newStorage"
]

/-- `RTm.call` / `callVal`: the `Call` instruction hands EVERY callee to `callObject` — there is
    no other way out of the arm, whoever the callee is and whatever instruction follows -/
def armCall : List String := [
  "argc := int(vm.fetch())",
  "if argc > MaxArgs { return errz.EvalErrorf(\"eval error: max args limit of %d exceeded (got %d)\", MaxArgs, argc) }",
  "args := make([]object.Object, argc)",
  "for argIndex := argc - 1; argIndex >= 0; argIndex-- { args[argIndex] = vm.pop() }",
  "obj := vm.pop()",
  "if err := vm.callObject(ctx, obj, args); err != nil { return err }"
]

/-- … and `callObject` runs a function object through `callFunction` (a new frame, `FOp.call`) -/
def callObjectFunction : List String := [
  "result, err := vm.callFunction(ctx, fn, args)",
  "if err != nil { return err }",
  "vm.push(result)",
  "return nil"
]

/-- `FM.step (.call wide)`: the slot is reset when an activation STARTS in it — whatever the
    previous user of the slot did and however it ended -/
def activateCode : List String := [
  "f.code = code",
  "f.fn = nil",
  "f.returnAddr = 0",
  "f.localsCount = uint16(code.LocalsCount())",
  "f.capturedLocals = nil",
  "f.defers = nil",
  "for i := 0; i < DefaultFrameLocals; i++ { f.storage[i] = nil }",
  "if f.localsCount > DefaultFrameLocals { f.extendedLocals = make([]object.Object, f.localsCount) f.locals = f.extendedLocals } else { f.extendedLocals = nil f.locals = f.storage[:f.localsCount] }"
]

/-- `FM.readFast`: through the active frame's CURRENT `locals` -/
def armLoadFast : List String := [
  "vm.push(vm.activeFrame.Locals()[vm.fetch()])"
]

/-- `FM.step (.storeFast idx v)` -/
def armStoreFast : List String := [
  "idx := vm.fetch()",
  "obj := vm.pop()",
  "vm.activeFrame.Locals()[idx] = obj"
]

/-- `FScope.declare`: a block table passes the claim up to the function table, whose next index
    is `len(t.symbols)`; nothing removes from `symbols` -/
def claimIndex : List String := [
  "if t.isBlock { return t.parent.claimIndex(s) }",
  "idx := len(t.symbols)",
  "if idx >= math.MaxUint16 { return 0, errors.New(\"compile error: too many symbols\") }",
  "uidx := uint16(idx)",
  "t.symbols = append(t.symbols, s)",
  "s.index = uidx",
  "return uidx, nil"
]

def newBlock : List String := [
  "child := t.NewChild()",
  "child.isBlock = true",
  "return child"
]

/-- `FScope.openBlock` / `FScope.closeBlock` -/
def compileBlockTables : List String := [
  "code.symbols = code.symbols.NewBlock()",
  "code.symbols = code.symbols.parent"
]

end Src

end Risor.C02
