import RisorModel.C02.Lemmas
/-!
C02 — property theorems.  "A function value always reads and writes the variable bindings
that were lexically visible where it was defined … at any nesting depth and however the
function is eventually invoked."

The statements are about three models:

* the activation model (any call stack, any lexical-parent map; any sequence of
  makeClosure / call / spawn / ret / abort operations of any length);
* the frame machine (the re-used frame slots of `vm.frames` with their storage): cells are per
  activation however earlier activations ended, a captured variable is one cell shared with
  its live owner, and the machine implements one variable per (activation, slot);
* the closure-language evaluator whose `Mode.positional` instance is compared with the real
  compiler + VM on every generated program (Impl) and whose `Mode.lexical` instance is the
  specification (Spec).  All statements are for every program, every recursion budget
  (`fuel`), every state.  On this evaluator the file also has: every statement form that
  reads or writes a variable goes through the same cells; what Spec means; block scopes (a block
  variable keeps its slot for good); recursion (every call is a new activation).
-/
namespace Risor.C02

/-! ## Activation model -/

/-- **Depth 0 is lexical.** In every state (any stack, any parent map) the frame a
    `MakeCell _ 0` picks is the activation executing the function literal — the lexically
    right one.  (Resolution depth 1 = variables of the function that contains the literal.) -/
theorem capture_depth0_lexical (parent : Nat → Option Nat) (cur : Nat) (rest : List Nat) :
    resolvePositional (cur :: rest) 0 = resolveLexical parent cur 0 := rfl

/-- the same for `captureAct`, including the empty stack -/
theorem capture_depth0_any_stack (parent : Nat → Option Nat) (stack : List Nat) :
    captureAct .positional parent stack 0 = captureAct .lexical parent stack 0 :=
  captureAct_zero parent stack

/-- **Positional = lexical exactly on lexical chains.** For every stack, parent map and
    depth `d`: the positional and the lexical resolution agree (and are defined) at every
    `j ≤ d` if and only if the top `d` frames form a lexical chain, i.e. each of them was
    called from the activation that defined it. -/
theorem capture_chain (parent : Nat → Option Nat) (d : Nat) : ∀ (cur : Nat) (rest : List Nat),
    (∀ j, j ≤ d → ∃ a, resolvePositional (cur :: rest) j = some a ∧ resolveLexical parent cur j = some a)
      ↔ lexChain parent (cur :: rest) d := by
  induction d with
  | zero =>
    intro cur rest
    constructor
    · intro _; trivial
    · intro _ j hj
      have : j = 0 := by omega
      subst this
      exact ⟨cur, rfl, rfl⟩
  | succ d ih =>
    intro cur rest
    constructor
    · intro h
      obtain ⟨a, hp, hl⟩ := h 1 (by omega)
      cases rest with
      | nil => simp [resolvePositional] at hp
      | cons b rest' =>
        have hb : b = a := by simpa [resolvePositional] using hp
        subst hb
        cases hpar : parent cur with
        | none => simp [resolveLexical, hpar] at hl
        | some p =>
          have hpb : p = b := by simpa [resolveLexical, hpar] using hl
          subst hpb
          refine ⟨hpar, (ih p rest').1 ?_⟩
          intro j hj
          obtain ⟨a, hp', hl'⟩ := h (j + 1) (by omega)
          refine ⟨a, ?_, ?_⟩
          · simpa [resolvePositional] using hp'
          · simpa [resolveLexical, hpar] using hl'
    · intro h j hj
      cases rest with
      | nil => exact absurd h (by simp [lexChain])
      | cons b rest' =>
        obtain ⟨hpar, hch⟩ := h
        cases j with
        | zero => exact ⟨cur, rfl, rfl⟩
        | succ j =>
          obtain ⟨a, hp, hl⟩ := (ih b rest').2 hch j (by omega)
          refine ⟨a, ?_, ?_⟩
          · simpa [resolvePositional] using hp
          · simpa [resolveLexical, hpar] using hl

/-- corollary (why the repository's tests pass): when every lexical ancestor is still on
    the call stack, directly below its child, a capture of any depth is right -/
theorem capture_on_chain (parent : Nat → Option Nat) (d : Nat) (cur : Nat) (rest : List Nat)
    (h : lexChain parent (cur :: rest) d) :
    captureAct .positional parent (cur :: rest) d = captureAct .lexical parent (cur :: rest) d := by
  obtain ⟨a, hp, hl⟩ := (capture_chain parent d cur rest).2 h d (Nat.le_refl d)
  simp only [captureAct, hp, hl]

/-- corollary (the defect): if the caller is not the lexical parent, the depth-2 capture
    (`MakeCell _ 1`) is wrong or undefined -/
theorem capture_off_chain (parent : Nat → Option Nat) (cur b : Nat) (rest : List Nat)
    (h : parent cur ≠ some b) :
    ¬ ∃ a, resolvePositional (cur :: b :: rest) 1 = some a ∧ resolveLexical parent cur 1 = some a := by
  intro hex
  have : lexChain parent (cur :: b :: rest) 1 := (capture_chain parent 1 cur (b :: rest)).1 (by
    intro j hj
    cases j with
    | zero => exact ⟨cur, rfl, rfl⟩
    | succ j =>
      have : j = 0 := by omega
      subst this
      exact hex)
  exact h this.1

/-- a call made from the activation that defined the closure (definition path = call path)
    extends the lexical chain: the new frame's lexical parent is the frame below it -/
theorem call_from_definer_chain (m : Mode) (s : AState) (c : Nat) (clo : AClo) (cur : Nat)
    (rest : List Nat) (vms : List (List Nat))
    (hs : s.stacks = (cur :: rest) :: vms) (hc : s.closures[c]? = some clo) (hd : clo.definer = cur) :
    ∃ s', s.step m (.call c) = some s' ∧
      s'.stacks = (s.parents.length :: cur :: rest) :: vms ∧
      lexChain s'.parentOf (s.parents.length :: cur :: rest) 1 := by
  refine ⟨{ s with parents := s.parents ++ [some clo.definer], stacks := (s.parents.length :: cur :: rest) :: vms }, ?_, rfl, ?_⟩
  · simp only [AState.step, hc, hs]
  · refine ⟨?_, trivial⟩
    simp [AState.parentOf, hd]

/-- the full property on the activation model: every run of operations leaves the same
    closures (same captured activations) under positional and under lexical capture -/
def C02_full_activations : Prop :=
  ∀ ops : List AOp, AState.run .positional AState.init ops = AState.run .lexical AState.init ops

/-- `f(1)(2)(3)`: main makes `f`; `f(1)` runs and makes `g`, returns; `g(2)` runs — called
    from main, not from `f`'s activation — and makes the innermost closure, which captures
    `a` at depth 2 (`MakeCell _ 1`): positionally that is main's frame (activation 0),
    lexically `f`'s activation (1). -/
def witnessOps : List AOp := [.makeClosure [], .call 0, .makeClosure [], .ret, .call 1, .makeClosure [1, 0]]

theorem C02_counterexample_depth2_activations : ¬ C02_full_activations := by
  intro h
  exact absurd (h witnessOps) (by decide +kernel)

/-- **Partial property on the activation model**: for EVERY sequence of operations of any
    length, from any state, if every function literal captures only from the frame that
    executes it (`MakeCell _ 0`), positional and lexical capture produce the same run —
    whatever the order of calls, returns and spawns, i.e. however the closures are invoked. -/
theorem C02_partial_depth1_activations (ops : List AOp) :
    ∀ s : AState, (ops.all AOp.depth1) = true → AState.run .positional s ops = AState.run .lexical s ops := by
  induction ops with
  | nil => intro s _; rfl
  | cons op ops ih =>
    intro s h
    simp only [List.all_cons, Bool.and_eq_true] at h
    have hstep : s.step .positional op = s.step .lexical op := by
      cases op with
      | makeClosure ds =>
        have hds : ∀ d ∈ ds, d = 0 := by
          have := h.1
          simp only [AOp.depth1, List.all_eq_true, beq_iff_eq] at this
          exact this
        have hm : ∀ stk : List Nat, ds.map (captureAct .positional s.parentOf stk) = ds.map (captureAct .lexical s.parentOf stk) := by
          intro stk
          apply List.map_congr_left
          intro d hd
          rw [hds d hd]
          exact captureAct_zero _ _
        simp only [AState.step, hm]
      | call c => rfl
      | spawn c => rfl
      | ret => rfl
      | abort => rfl
    simp only [AState.run, hstep]
    cases s.step .lexical op with
    | none => rfl
    | some s' => exact ih s' h.2

example : (witnessOps.take 5 ++ [AOp.makeClosure [0]]).all AOp.depth1 = true := by decide +kernel

/-! ## Frame slots: cells are per activation, however earlier activations ended

The frame machine `FM` (Model, section 1b) is the storage discipline of vm/frame.go: re-used
frame slots, inline storage, heap slices, `capturedLocals`.  Its operations include the
ABNORMAL exit `FOp.abort` (an error propagates out of the function: the frame is popped without
a return).  All statements are for EVERY sequence of operations from the initial state. -/

theorem FM.run_append : ∀ (ops1 ops2 : List FOp) (s : FM),
    FM.run s (ops1 ++ ops2) = (FM.run s ops1).bind fun s' => FM.run s' ops2 := by
  intro ops1
  induction ops1 with
  | nil => intro ops2 s; rfl
  | cons op ops ih =>
    intro ops2 s
    simp only [List.cons_append, FM.run]
    cases s.step op with
    | none => rfl
    | some s1 => exact ih ops2 s1

/-- every state the frame machine reaches from the initial one satisfies the invariant,
    whatever the sequence of calls, returns, ERROR exits, captures, loads and stores -/
theorem FM.reachable_inv (ops : List FOp) (s : FM) (hr : FM.run FM.init ops = some s) : s.Inv :=
  FM.inv_run ops FM.init s FM.inv_init hr

/-- **Cells are per activation, whatever way earlier activations ended.**  In every state the
    frame machine reaches — after any sequence of calls, returns, ERROR exits (`abort`), captures,
    loads and stores, of any length — two cells that belong to different activations point into
    different heap slices, and a write through one is not seen through the other.  In particular
    a closure created by a new activation never shares a cell with a closure of an activation
    that has finished or was aborted, even though the new activation runs in the same frame
    slot (same call depth) as the dead one. -/
theorem cells_fresh_after_abort (ops : List FOp) (s : FM) (hr : FM.run FM.init ops = some s)
    (c1 c2 : FCell) (h1 : c1 ∈ s.cells) (h2 : c2 ∈ s.cells) (hne : c1.act ≠ c2.act) :
    c1.addr ≠ c2.addr ∧
    (∀ (j : Nat) (v : Int) (s' : FM), s.cells[j]? = some c1 → s.step (.storeFree j v) = some s' →
      s'.readCell c2 = s.readCell c2) := by
  have hinv := FM.reachable_inv ops s hr
  have hadr : c1.addr ≠ c2.addr := by
    intro he
    have e1 := (hinv.cell_owner c1 h1).2.1
    have e2 := (hinv.cell_owner c2 h2).2.1
    rw [he] at e1
    exact hne (e1.symm.trans e2)
  refine ⟨hadr, ?_⟩
  intro j v s' hj hs
  simp only [FM.step, hj, Option.some.injEq] at hs
  subst hs
  simp only [FM.readCell]
  rw [upd_other _ _ _ _ (fun h => hadr h.symm)]

/-- **One cell per variable.**  Two cells for the same variable (same activation, same slot) —
    made for different closures, at different times, from different frames-back distances —
    are the same storage: they read the same value, and a write through one is read through
    the other. -/
theorem capture_one_cell_per_variable (ops : List FOp) (s : FM) (hr : FM.run FM.init ops = some s)
    (c1 c2 : FCell) (h1 : c1 ∈ s.cells) (h2 : c2 ∈ s.cells) (ha : c1.act = c2.act) (hi : c1.idx = c2.idx) :
    s.readCell c1 = s.readCell c2 ∧
    (∀ (j : Nat) (v : Int) (s' : FM), s.cells[j]? = some c1 → s.step (.storeFree j v) = some s' →
      s'.readCell c2 = v) := by
  have hinv := FM.reachable_inv ops s hr
  have hadr := hinv.cell_same c1 c2 h1 h2 ha
  refine ⟨by simp only [FM.readCell, hadr, hi], ?_⟩
  intro j v s' hj hs
  simp only [FM.step, hj, Option.some.injEq] at hs
  subst hs
  simp only [FM.readCell, ← hadr, ← hi, upd_same]

/-- as long as the activation a cell belongs to is on the call stack (running or suspended, in
    whichever frame slot), that frame's `locals` IS the heap slice the cell points into -/
theorem live_owner_locals_are_the_cell_slice (ops : List FOp) (s : FM) (hr : FM.run FM.init ops = some s)
    (c : FCell) (hc : c ∈ s.cells) (k : Nat) (hk : k ≤ s.fp) (hlive : (s.frames k).act = c.act) :
    (s.frames k).heapLoc = some c.addr :=
  (FM.reachable_inv ops s hr).cell_live c k hc hk hlive

/-- **A captured variable is ONE cell shared by the defining activation and every closure over
    it, for the whole remaining life of that activation.**  In every reachable state, for every
    cell `c` whose activation is the running one (reached again after any number of nested
    calls, returns and aborted callees, and wherever the capture was executed — in the owner's
    own code or in a callee, `MakeCell _ back` with `back ≥ 1`): the owner's `LoadFast` reads
    what the cell holds; a `StoreFast` by the owner is what the closure's `LoadFree` reads next;
    a `StoreFree` by the closure is what the owner's `LoadFast` reads next. -/
theorem capture_shares_with_live_owner (ops : List FOp) (s : FM) (hr : FM.run FM.init ops = some s)
    (c : FCell) (j : Nat) (hc : s.cells[j]? = some c) (hlive : (s.frames s.fp).act = c.act) (v : Int) :
    s.readFast c.idx = s.readCell c ∧
    (∃ s', s.step (.storeFast c.idx v) = some s' ∧ s'.readCell c = v) ∧
    (∃ s', s.step (.storeFree j v) = some s' ∧ s'.readFast c.idx = v) := by
  have hmem : c ∈ s.cells := List.mem_of_getElem? hc
  have hloc := live_owner_locals_are_the_cell_slice ops s hr c hmem s.fp (Nat.le_refl _) hlive
  refine ⟨?_, ?_, ?_⟩
  · simp only [FM.readFast, FM.frameVal, hloc, FM.readCell]
  · refine ⟨_, by simp only [FM.step, hloc]; rfl, ?_⟩
    simp only [FM.readCell, upd_same]
  · refine ⟨_, by simp only [FM.step, hc]; rfl, ?_⟩
    simp only [FM.readFast, FM.frameVal, hloc, upd_same]

/-- a write by the owner to ANOTHER of its variables, or by anybody through a cell of another
    variable or another activation, leaves the captured variable alone -/
theorem capture_untouched_by_other_writes (ops : List FOp) (s : FM) (hr : FM.run FM.init ops = some s)
    (c : FCell) (hc : c ∈ s.cells) (v : Int) :
    (∀ (i : Nat) (s' : FM), i ≠ c.idx → s.step (.storeFast i v) = some s' → s'.readCell c = s.readCell c) ∧
    (∀ (i : Nat) (s' : FM), (s.frames s.fp).act ≠ c.act → s.step (.storeFast i v) = some s' → s'.readCell c = s.readCell c) := by
  have hinv := FM.reachable_inv ops s hr
  refine ⟨?_, ?_⟩
  · intro i s' hi hs
    simp only [FM.step] at hs
    split at hs
    · rename_i a ha
      simp only [Option.some.injEq] at hs; subst hs
      simp only [FM.readCell]
      by_cases hca : c.addr = a
      · subst hca; rw [upd_same, upd_other _ _ _ _ (fun h => hi h.symm)]
      · rw [upd_other _ _ _ _ hca]
    · simp only [Option.some.injEq] at hs; subst hs; rfl
  · intro i s' hact hs
    simp only [FM.step] at hs
    split at hs
    · rename_i a ha
      simp only [Option.some.injEq] at hs; subst hs
      simp only [FM.readCell]
      have hca : c.addr ≠ a := by
        intro he
        have e1 := (hinv.cell_owner c hc).2.1
        have e2 := (hinv.loc_owner s.fp a (Nat.le_refl _) ha).2
        rw [he] at e1
        exact hact (e2.symm.trans e1)
      rw [upd_other _ _ _ _ hca]
    · simp only [Option.some.injEq] at hs; subst hs; rfl


/-- **The frame machine implements one variable per (activation, slot).**  For every sequence
    of operations (calls with few or many locals, returns, error exits, captures at any
    frames-back distance, loads and stores by the running function and through cells): the
    frame machine and the variable machine accept the same sequences and show the same loaded
    values.  This is what entitles the closure-language evaluator to use `(activation, slot)`
    pairs as cells (`St.acts`, `readCell`, `writeCell`). -/
theorem frames_refine_variables (ops : List FOp) :
    (FM.run FM.init ops).map (·.out) = (VarM.run VarM.init ops).map (·.out) :=
  FM.sim_run ops FM.init VarM.init FM.inv_init FM.sim_init

/-- the two demo programs of the scenario, as operation sequences.
    (1) `mk(-1)` creates a closure over its local 0 and is aborted; `mk(5)` runs in the same
    frame slot, captures ITS local 0 and reads it through the cell: 5, not the dead -1.
    (2) `f` (≤ 8 locals) stores 1, a callee captures `f`'s local 0 (`MakeCell 0 1`) and returns;
    `f` stores 2; the closure reads 2; the closure stores 20; `f` reads 20. -/
def abortDemo : List FOp :=
  [.call false, .storeFast 0 (-1), .makeCell 0 0, .abort,
   .call false, .storeFast 0 5, .makeCell 0 0, .loadFree 1, .loadFree 0]
def ownerDemo : List FOp :=
  [.call false, .storeFast 0 1, .call false, .makeCell 0 1, .ret, .storeFast 0 2, .loadFree 0,
   .storeFree 0 20, .loadFast 0]

example : (FM.run FM.init abortDemo).map (·.out) = some [-1, 5] := by decide +kernel
example : (FM.run FM.init ownerDemo).map (·.out) = some [20, 2] := by decide +kernel
example : ((FM.run FM.init abortDemo).map fun s => s.cells.map fun c => (c.addr, c.act)) = some [(0, 1), (1, 2)] := by decide +kernel

/-- what the theorems exclude (1): a machine that does NOT reset `capturedLocals` when a slot is
    activated (it relies on the return instruction to clear it, which an error exit skips):
    the cell of the new activation aliases the dead one's slice and reads -1 -/
def FM.stepNoReset (s : FM) : FOp → Option FM
  | .call wide =>
    (s.step (.call wide)).map fun s' =>
      { s' with frames := upd s'.frames s'.fp { s'.frames s'.fp with captured := (s.frames (s.fp + 1)).captured } }
  | .ret =>
    (s.step .ret).map fun s' => { s' with frames := upd s'.frames s.fp { s.frames s.fp with captured := none } }
  | op => s.step op

def FM.runWith (step : FM → FOp → Option FM) : FM → List FOp → Option FM
  | s, [] => some s
  | s, op :: ops => (step s op).bind fun s' => FM.runWith step s' ops

example : (FM.runWith FM.stepNoReset FM.init abortDemo).map (·.out) = some [-1, -1] := by decide +kernel

/-- what the theorems exclude (2): an evaluator that keeps the `locals` slice it saw when the
    function started (`cached`) for its `StoreFast`/`LoadFast` while a callee's `MakeCell` moves
    the frame's locals to the heap: owner and closure each have a private copy (2 and 20 are
    lost: the closure reads the 1 it copied, the owner reads its own 2) -/
def ownerDemoStale : Option (List Int) :=
  -- the owner's accesses after the callee returned go to the inline storage of frame 1
  (FM.run FM.init [.call false, .storeFast 0 1, .call false, .makeCell 0 1, .ret]).bind fun s =>
    let s1 : FM := { s with inl := upd s.inl 1 (upd (s.inl 1) 0 2) }            -- `v = 2` through the stale slice
    (s1.step (.loadFree 0)).bind fun s2 => (s2.step (.storeFree 0 20)).map fun s3 =>
      s3.inl 1 0 :: s3.out                                                       -- the owner's read, stale again

example : ownerDemoStale = some [2, 1] := by decide +kernel

/-! ## The closure language: Impl (positional) against Spec (lexical) -/

/-- the full property: for every program the code's capture discipline computes what lexical
    scoping demands (result and final bindings) -/
def C02_full : Prop := ∀ (p : Prog) (fuel : Nat), Impl fuel p = Spec fuel p

/-- `func f(a) { return func(b) { return func(c) { return a + b + c } } }; f(1)(2)(3)`
    as the compiler resolves it: the innermost literal captures `a` with
    `MakeCell 0 1` (depth 2) and `b` with `MakeCell 0 0`. -/
def witnessProg : Prog :=
  { lits := [
      { nparams := 1, named := false, nlocals := 1, frees := [(0, 1), (0, 0)],
        body := [.ret (.add (.add (.load (.free 0)) (.load (.free 1))) (.load (.loc 0)))] },
      { nparams := 1, named := false, nlocals := 1, frees := [], body := [.ret (.mkfn 0)] },
      { nparams := 1, named := true, nlocals := 2, frees := [], body := [.ret (.mkfn 1)] }],
    main := [.store (.glob 0) (.mkfn 2),
             .call (.call (.call (.load (.glob 0)) [.int 1]) [.int 2]) [.int 3]],
    nglobals := 1, mainLocals := 3 }

/-- what a run shows to the outside: the integer result, or the kind of failure -/
def observe : Except Err Val × St → Option Int ⊕ ErrK
  | (.ok (.int n), _) => .inl (some n)
  | (.ok _, _) => .inl none
  | (.error e, _) => .inr e.kind

/-- lexical scoping gives 6 … -/
theorem witness_spec : observe (Spec 20 witnessProg) = .inl (some 6) := by decide +kernel

/-- … the code's positional capture makes the cell for `a` point into main's frame, whose
    slot 0 was never written (Go nil): the real VM dies with a recovered nil-pointer panic -/
theorem witness_impl : observe (Impl 20 witnessProg) = .inr .undef := by decide +kernel

theorem C02_counterexample_depth2 : ¬ C02_full := by
  intro h
  have := congrArg observe (h witnessProg 20)
  rw [witness_spec, witness_impl] at this
  exact absurd this (by decide +kernel)

/-- **Partial property (guard `depth1Only`: every `MAKE_CELL`'s second operand is 0).**
    For every program whose function literals capture only variables of the function that
    directly contains them, for every recursion budget: the model of the code and the
    lexical specification compute the same result and the same final state — whatever the
    nesting depth of the literals and whatever the route by which the closures are called
    (returned and called later, through another function, from list.map/filter/each, sorted,
    try, a spawned thread, or as a later top-level call standing for `vm.Call` from Go). -/
theorem C02_partial_depth1 (p : Prog) (h : depth1Only p.lits = true) (fuel : Nat) :
    Impl fuel p = Spec fuel p := by
  simp only [Impl, Spec, runProg, (mode_irrelevant p.lits h fuel).execBody]

/-- the same for any fragment of a run: every evaluator entry point, any state -/
theorem C02_partial_depth1_eval (lits : List Lit) (h : depth1Only lits = true) (fuel : Nat) (t : RTm) (s : St) :
    eval .positional lits fuel t s = eval .lexical lits fuel t s := by
  rw [(mode_irrelevant lits h fuel).eval]

theorem C02_partial_depth1_call (lits : List Lit) (h : depth1Only lits = true) (fuel : Nat)
    (f : Val) (args : List Val) (s : St) :
    callVal .positional lits fuel f args s = callVal .lexical lits fuel f args s := by
  rw [(mode_irrelevant lits h fuel).callVal]

/-- non-vacuity: a program with three nested literals, each capturing from its direct
    parent only, satisfies the guard and evaluates (to 6) -/
def depth1Prog : Prog :=
  { lits := [
      -- func(c) { return b2 + c }         b2 is a local of the middle function
      { nparams := 1, named := false, nlocals := 1, frees := [(1, 0)],
        body := [.ret (.add (.load (.free 0)) (.load (.loc 0)))] },
      -- func(b) { b2 := a + b; return <inner> }
      { nparams := 1, named := false, nlocals := 2, frees := [(0, 0)],
        body := [.store (.loc 1) (.add (.load (.free 0)) (.load (.loc 0))), .ret (.mkfn 0)] },
      { nparams := 1, named := true, nlocals := 2, frees := [], body := [.ret (.mkfn 1)] }],
    main := [.store (.glob 0) (.mkfn 2),
             .call (.call (.call (.load (.glob 0)) [.int 1]) [.int 2]) [.int 3]],
    nglobals := 1, mainLocals := 3 }

example : depth1Only depth1Prog.lits = true := by decide +kernel
example : observe (Impl 20 depth1Prog) = .inl (some 6) := by decide +kernel
example : depth1Only witnessProg.lits = false := by decide +kernel

/-! ## Every statement form that reads or writes a variable goes through the same cells

The compiler has three `LoadFree` sites (identifier, compound assignment, postfix) and four
`StoreFree` sites (`=`, compound assignment, postfix, tuple assignment).  In the model every one
of them is a `Ref.free i` produced by the one resolver `resolveName`, and `loadRef`/`storeRef`
on `Ref.free i` use cell `i` of the running closure — the cell `makeCells` built for the `i`-th
free entry.  The harness compares this with the real compiler + VM for each form. -/

/-- **`StoreFree i` writes cell `i`**: whatever statement form emitted it, a store to the
    `i`-th free variable of the running closure writes the binding its `i`-th cell names (for
    every state, index and value) -/
theorem store_free_hits_indexed_cell (s : St) (a : Act) (i : Nat) (c : Nat × Nat) (v : Val)
    (ha : s.acts[curAct s]? = some a) (hc : a.cells[i]? = some c) :
    storeRef (.free i) v s = (.ok (), writeCell s c v) := by
  simp only [storeRef, ha, Option.bind_some, hc]

/-- **`LoadFree i` reads cell `i`** (a defined value; a never-written Go-nil slot is outside the model) -/
theorem load_free_reads_indexed_cell (s : St) (a : Act) (i : Nat) (c : Nat × Nat) (v : Val)
    (ha : s.acts[curAct s]? = some a) (hc : a.cells[i]? = some c) (hv : readCell s c = some v)
    (hdef : v ≠ .undef) :
    loadRef (.free i) s = (.ok v, s) := by
  simp only [loadRef, ha, Option.bind_some, hc, hv]

/-- **`Unpack` stores run one after the other**, in the order `storeRefs` is given (the
    evaluator passes the targets from the last name to the first); the first failing store ends it -/
theorem unpack_stores_last_to_first (r : Ref) (v : Val) (rest : List (Ref × Val)) (s : St) :
    storeRefs ((r, v) :: rest) s =
      match storeRef r v s with
      | (.ok _, s') => storeRefs rest s'
      | (.error e, s') => (.error e, s') := by
  simp only [storeRefs, bind]
  cases storeRef r v s with
  | mk a s' => cases a <;> rfl

/-- **`x += e` / `x -= e` resolve `x` once**: for every name, value term and resolver state
    the load before the value and the store after it use the SAME reference (same free index,
    hence the same cell) -/
theorem compound_assign_one_reference (n : Nat) (x : String) (sub : Bool) (e : Tm) (rs rs' : RS) (t : RTm)
    (h : resolveTm (n + 1) (.opassign x sub e) rs = .ok (t, rs')) :
    ∃ r e', t = .store r (if sub then .sub (.load r) e' else .add (.load r) e') := by
  simp only [resolveTm, bind, Except.bind] at h
  split at h
  · cases h
  · rename_i p hp
    obtain ⟨r, rs1⟩ := p
    simp only at h
    split at h
    · cases h
    · rename_i q hq
      obtain ⟨e', rs2⟩ := q
      simp only [pure, Except.pure, Except.ok.injEq, Prod.mk.injEq] at h
      exact ⟨r, e', h.1.symm⟩

/-- **`a, b, … = e` resolves every name**: the tuple assignment becomes one `unpack` with
    exactly one reference per name on the left (each produced by `resolveName`, so a captured
    target is a `Ref.free` with its own free index — not its slot in the defining function) -/
theorem tuple_assign_one_reference_per_name (n : Nat) (xs : List String) (e : Tm) (rs rs' : RS) (t : RTm)
    (h : resolveTm (n + 1) (.massign xs e) rs = .ok (t, rs')) :
    ∃ refs e', t = .unpack refs e' ∧ refs.length = xs.length := by
  simp only [resolveTm, bind, Except.bind] at h
  split at h
  · cases h
  · rename_i p hp
    obtain ⟨e', rs1⟩ := p
    simp only at h
    split at h
    · cases h
    · rename_i q hq
      obtain ⟨refs, rs2⟩ := q
      simp only [pure, Except.pure, Except.ok.injEq, Prod.mk.injEq] at h
      refine ⟨refs.reverse, e', h.1.symm, ?_⟩
      rw [List.length_reverse, resolveNames_length _ _ _ _ hq, List.length_reverse]

def unpackTargets : RTm → List Ref
  | .unpack rs _ => rs
  | _ => []

/-- non-vacuity and the index distinction: inside `func() { lo, hi = [hi, lo] }` nested in a
    function with locals `seed lo hi` (slots 0 1 2) the targets are free entries 3 and 2 of the
    literal (after the two reads), not slots 1 and 2 -/
example :
    (resolveTm 10 (.fn "_" [] [.massign ["lo", "hi"] (.list [.var "hi", .var "lo"])])
      { lits := [], globals := [],
        scopes := [{ fnTab := [("seed", 0)], bodyTab := [("hi", 2), ("lo", 1)], count := 3, frees := [] }] }).toOption.map
      (fun p => (p.2.lits.map (fun l => l.body.map unpackTargets), p.2.lits.map (·.frees)))
    = some ([[[.free 3, .free 2]]], [[(2, 0), (1, 0), (2, 0), (1, 0)]]) := by decide +kernel

/-! ## What Spec means, cells, the self slot -/

/-- **Spec is lexical**: in `Mode.lexical` every cell made for a literal points into the
    `d`-th lexical ancestor of the activation executing the literal, at the slot the
    compiler named — for every state and every list of free entries. -/
theorem spec_cells_are_lexical (s : St) (cur : Nat) (rest : List Nat) (hs : s.stack = cur :: rest) :
    ∀ (frees : List (Nat × Nat)) (cs : List (Nat × Nat)), makeCells .lexical s frees = .ok cs →
      cs.length = frees.length ∧
      ∀ (k : Nat) (c f : Nat × Nat), cs[k]? = some c → frees[k]? = some f →
        c.2 = f.1 ∧ resolveLexical s.parentOf cur f.2 = some c.1 := by
  intro frees
  induction frees with
  | nil =>
    intro cs h
    simp only [makeCells] at h
    cases h
    exact ⟨rfl, by intro k c f hc; simp at hc⟩
  | cons p rest' ih =>
    obtain ⟨slot, d⟩ := p
    intro cs h
    simp only [makeCells, captureAct, hs] at h
    split at h
    · cases h
    · rename_i a ha
      split at h
      · cases h
      · split at h
        · split at h
          · rename_i cs' hcs'
            cases h
            obtain ⟨hlen, hall⟩ := ih cs' hcs'
            refine ⟨by simp [hlen], ?_⟩
            intro k c f hc hf
            cases k with
            | zero =>
              simp only [List.getElem?_cons_zero, Option.some.injEq] at hc hf
              subst hc hf
              exact ⟨rfl, ha⟩
            | succ k =>
              simp only [List.getElem?_cons_succ] at hc hf
              exact hall k c f hc hf
          · cases h
        · cases h

/-- **Impl is positional**: in `Mode.positional` the same cell points into the frame `d`
    below the top of the call stack, whoever that is -/
theorem impl_cells_are_positional (s : St) :
    ∀ (frees : List (Nat × Nat)) (cs : List (Nat × Nat)), makeCells .positional s frees = .ok cs →
      ∀ (k : Nat) (c f : Nat × Nat), cs[k]? = some c → frees[k]? = some f →
        c.2 = f.1 ∧ s.stack[f.2]? = some c.1 := by
  intro frees
  induction frees with
  | nil =>
    intro cs h
    simp only [makeCells] at h
    cases h
    intro k c f hc; simp at hc
  | cons p rest' ih =>
    obtain ⟨slot, d⟩ := p
    intro cs h
    simp only [makeCells, captureAct, resolvePositional] at h
    split at h
    · cases h
    · rename_i a ha
      split at h
      · cases h
      · split at h
        · split at h
          · rename_i cs' hcs'
            cases h
            have hall := ih cs' hcs'
            intro k c f hc hf
            cases k with
            | zero =>
              simp only [List.getElem?_cons_zero, Option.some.injEq] at hc hf
              subst hc hf
              exact ⟨rfl, ha⟩
            | succ k =>
              simp only [List.getElem?_cons_succ] at hc hf
              exact hall k c f hc hf
          · cases h
        · cases h

/-- **A binding is shared**: a write through a cell is seen by every later read through any
    cell that names the same (activation, slot) … -/
theorem cell_write_read (s : St) (c : Nat × Nat) (v : Val) (a : Act)
    (ha : s.acts[c.1]? = some a) (hslot : c.2 < a.locals.length) :
    readCell (writeCell s c v) c = some v := by
  have hlt : c.1 < s.acts.length := by
    rcases Nat.lt_or_ge c.1 s.acts.length with h | h
    · exact h
    · simp [List.getElem?_eq_none h] at ha
  simp only [readCell, writeCell, ha]
  simp [hlt, hslot]

/-- … and **distinct bindings do not interfere**: it leaves every other cell's content as it was -/
theorem cell_write_other (s : St) (c c' : Nat × Nat) (v : Val) (hne : c ≠ c') :
    readCell (writeCell s c v) c' = readCell s c' := by
  unfold writeCell
  cases ha : s.acts[c.1]? with
  | none => rfl
  | some a =>
    simp only [readCell]
    by_cases h1 : c.1 = c'.1
    · have h2 : c.2 ≠ c'.2 := by
        intro h2
        exact hne (Prod.ext h1 h2)
      rw [← h1]
      have hlt : c.1 < s.acts.length := by
        rcases Nat.lt_or_ge c.1 s.acts.length with h | h
        · exact h
        · simp [List.getElem?_eq_none h] at ha
      have hget : s.acts[c.1] = a := by
        have := ha
        rw [List.getElem?_eq_getElem hlt] at this
        exact Option.some.inj this
      simp [hlt, h2, hget]
    · simp [h1]

/-- **Self slot**: a named function finds the closure being called — itself — in the local
    slot right after its parameters (so recursion and captures of the function's own name
    see the running closure with its cells, not a bare constant) -/
theorem self_slot (l : Lit) (self : Val) (args : List Val) (hn : l.named = true)
    (hargs : args.length = l.nparams) : (initLocals l self args)[l.nparams]? = some self := by
  simp [initLocals, hn, ← hargs]

/-- and the parameters sit in the slots before it -/
theorem param_slots (l : Lit) (self : Val) (args : List Val) (i : Nat) (hi : i < args.length) :
    (initLocals l self args)[i]? = args[i]? := by
  simp [initLocals, List.getElem?_append_left, hi]

example : (initLocals { nparams := 1, named := true, nlocals := 3, frees := [], body := [] } .nil [.int 7]).length = 3 := by decide +kernel


/-! ## Block scopes: a block variable keeps its slot for good

`if`/`else` bodies, `switch` cases and the loop forms compile their body in a block table
(`NewBlock`), which claims its indexes from the enclosing FUNCTION table
(`claimIndex`: `idx := len(t.symbols)`, append) and is then dropped
(`code.symbols = code.symbols.parent`) without giving anything back.  `FScope.applyOp` is that
allocator; `declareName`, `RS.openB`, `RS.closeB` — what the resolver of the closure language
does — are its three operations (`resolver_uses_allocator`).  The harness compares the slots
(`STORE_FAST` operands, `MAKE_CELL` operands, `LocalsCount`) of the real bytecode with it. -/

/-- **Slots are never reused.**  For EVERY sequence of block-open / block-close / declaration
    operations on a function's tables, from any state of the tables: two distinct new variables
    (positions `i ≠ j` in declaration order) — whatever blocks they are declared in, still open
    or long closed, nested or siblings — never get the same local slot. -/
theorem block_slots_never_reused (s : FScope) (ops : List BOp) (i j a b : Nat)
    (hi : (s.claims ops)[i]? = some a) (hj : (s.claims ops)[j]? = some b) (hne : i ≠ j) : a ≠ b := by
  have hp := (FScope.claims_sorted ops s).1
  rw [List.pairwise_iff_getElem] at hp
  obtain ⟨hil, hia⟩ := List.getElem?_eq_some_iff.1 hi
  obtain ⟨hjl, hjb⟩ := List.getElem?_eq_some_iff.1 hj
  rcases Nat.lt_or_gt_of_ne hne with h | h
  · have := hp i j hil hjl h
    omega
  · have := hp j i hjl hil h
    omega

/-- the same as a list property: the claimed slots are pairwise different -/
theorem block_slots_nodup (s : FScope) (ops : List BOp) : (s.claims ops).Nodup :=
  ((FScope.claims_sorted ops s).1).imp (fun h => Nat.ne_of_lt h)

/-- … they are also different from every slot handed out BEFORE the sequence (parameters, the
    function's own name, earlier locals: all below `count`), and they fit in the frame the VM
    allocates (`LocalsCount` = the function table's final `count`) -/
theorem block_slots_fresh_and_in_frame (s : FScope) (ops : List BOp) (a : Nat) (ha : a ∈ s.claims ops) :
    s.count ≤ a ∧ a < (s.runOps ops).count :=
  (FScope.claims_sorted ops s).2.2 a ha

/-- closing a block gives nothing back: the next index is the same as before the close -/
theorem close_keeps_count (s : FScope) : s.closeBlock.count = s.count := rfl

/-- a new variable is what its name resolves to from then on in its block (it shadows the
    outer variables of the same name), at the slot it claimed -/
theorem declared_name_resolves (s : FScope) (x : String) (i : Nat) (s' : FScope)
    (h : s.declare x = (i, true, s')) : s'.lookup x = some i := by
  unfold FScope.declare at h
  cases hb : s.blocks with
  | nil =>
    simp only [hb] at h
    cases hl : lookupTab s.bodyTab x with
    | some k => simp [hl] at h
    | none =>
      simp only [hl, Prod.mk.injEq] at h
      obtain ⟨hi, _, hs⟩ := h
      subst hs hi
      simp [FScope.lookup, lookupBlocks, lookupTab, List.find?]
  | cons b bs =>
    simp only [hb] at h
    cases hl : lookupTab b x with
    | some k => simp [hl] at h
    | none =>
      simp only [hl, Prod.mk.injEq] at h
      obtain ⟨hi, _, hs⟩ := h
      subst hs hi
      simp [FScope.lookup, lookupBlocks, lookupTab, List.find?]

/-- **the resolver's steps are the allocator's operations**: inside a function `x := …`
    (`declareName`), a block's begin and end act on the innermost function's tables exactly as
    `BOp.decl`, `BOp.openB`, `BOp.closeB` -/
theorem resolver_uses_allocator (rs : RS) (s : FScope) (outer : List FScope) (x : String)
    (h : rs.scopes = s :: outer) :
    (declareName rs x).2.scopes = (s.applyOp (.decl x)).1 :: outer ∧
    (declareName rs x).1 = .loc (s.declare x).1 ∧
    rs.openB = .ok { rs with scopes := (s.applyOp .openB).1 :: outer } ∧
    rs.closeB.scopes = (s.applyOp .closeB).1 :: outer := by
  refine ⟨?_, ?_, ?_, ?_⟩
  · simp only [declareName, h, FScope.applyOp]
    rcases hd : s.declare x with ⟨i, b, s'⟩
    cases b <;> rfl
  · simp only [declareName, h]
  · simp only [RS.openB, h, FScope.applyOp]
  · simp only [RS.closeB, h, FScope.applyOp]

/-- **A closure over a block variable reads and writes exactly that variable, whatever is
    declared later.**  Let `a` be the slot of any variable of a function and `b` the slot of any
    OTHER variable the same function declares — before or after, in the same block, a sibling
    block, an enclosing or a nested one, after any number of blocks were closed in between.  In
    every state and every activation `act` of that function: a write to the other variable
    (cell `(act, b)`: the function's own `StoreFast b`, or `StoreFree` through any closure's
    cell) leaves what a closure holding the cell `(act, a)` reads unchanged; and what is
    written through `(act, a)` is what is read back through it. -/
theorem block_capture_lexical (s : FScope) (ops : List BOp) (i j a b : Nat)
    (hi : (s.claims ops)[i]? = some a) (hj : (s.claims ops)[j]? = some b) (hne : i ≠ j)
    (st : St) (act : Nat) (v : Val) :
    readCell (writeCell st (act, b) v) (act, a) = readCell st (act, a) ∧
    (∀ fr : Act, st.acts[act]? = some fr → a < fr.locals.length →
      readCell (writeCell st (act, a) v) (act, a) = some v) := by
  have hab : a ≠ b := block_slots_never_reused s ops i j a b hi hj hne
  refine ⟨cell_write_other st (act, b) (act, a) v ?_, ?_⟩
  · intro h
    exact hab (Prod.mk.inj h).2.symm
  · intro fr hfr hlen
    exact cell_write_read st (act, a) v fr hfr hlen

/-- the same through the two store instructions: the running function's `StoreFast b`
    (`Ref.loc b`) and a closure's `StoreFree k` whose `k`-th cell names the other variable -/
theorem block_capture_lexical_stores (s : FScope) (ops : List BOp) (i j a b : Nat)
    (hi : (s.claims ops)[i]? = some a) (hj : (s.claims ops)[j]? = some b) (hne : i ≠ j)
    (st : St) (v : Val) :
    readCell (storeRef (.loc b) v st).2 (curAct st, a) = readCell st (curAct st, a) ∧
    (∀ (fr : Act) (k act : Nat), st.acts[curAct st]? = some fr → fr.cells[k]? = some (act, b) →
      readCell (storeRef (.free k) v st).2 (act, a) = readCell st (act, a)) := by
  refine ⟨?_, ?_⟩
  · exact (block_capture_lexical s ops i j a b hi hj hne st (curAct st) v).1
  · intro fr k act hfr hk
    rw [store_free_hits_indexed_cell st fr k (act, b) v hfr hk]
    exact (block_capture_lexical s ops i j a b hi hj hne st act v).1

/-- non-vacuity, the shape of the programs the harness generates: `func a() { get := nil;
    if … { secret := 42; get = func() { return secret } }; if … { other := 7 };
    for i := 0; … { sq := … }; last := …; … }` — five variables, five slots -/
example :
    ({ fnTab := [], bodyTab := [], count := 0, frees := [] } : FScope).claims
      [.decl "get", .openB, .decl "secret", .closeB, .openB, .decl "other", .closeB,
       .openB, .decl "i", .openB, .decl "sq", .closeB, .closeB, .decl "last"] = [0, 1, 2, 3, 4, 5] := by decide +kernel

/-- what the theorem excludes: an allocator that hands out "the number of variables of the
    blocks that are still open" (so that the slots of closed blocks are recycled) gives
    `secret` and `other` the same slot -/
def recyclingClaims : List (List String) → List BOp → List Nat
  | _, [] => []
  | open_, .openB :: ops => recyclingClaims ([] :: open_) ops
  | open_, .closeB :: ops => recyclingClaims open_.tail ops
  | [], .decl _ :: ops => recyclingClaims [] ops
  | b :: bs, .decl x :: ops => ((b :: bs).map List.length).sum :: recyclingClaims ((x :: b) :: bs) ops

example : recyclingClaims [[]] [.decl "get", .openB, .decl "secret", .closeB, .openB, .decl "other", .closeB] = [0, 1, 1] := by decide +kernel

/-- the demo program end to end in the closure language: resolved by `resolveProg`, run in
    both modes: the closure made in the first `if` body still returns 42 after the second
    block declared `other` and the function declared `last` -/
def blockDemo : List Tm := [
  .fn "a" [] [
    .decl "get" .nil,
    .ifte (.int 1) [.decl "secret" (.int 42), .assign "get" (.fn "_" [] [.ret (.var "secret")])] [],
    .ifte (.int 1) [.decl "other" (.int 7)] [.decl "alt" (.int 8)],
    .loop .for3 ["i"] 2 [] [.decl "sq" (.add (.var "i") (.var "i"))],
    .decl "last" (.int 9),
    .ret (.call (.var "get") [])],
  .call (.var "a") []]

/-- `blockDemo` as `resolveProg` resolves it (`a` is named: slot 0 is the function itself) -/
def blockDemoProg : Prog :=
  { lits := [
      { nparams := 0, named := false, nlocals := 0, frees := [(2, 0)], body := [.ret (.load (.free 0))] },
      { nparams := 0, named := true, nlocals := 8, frees := [],
        body := [.store (.loc 1) .nil,
                 .ifte (.int 1) [.store (.loc 2) (.int 42), .store (.loc 1) (.mkfn 0)] [],
                 .ifte (.int 1) [.store (.loc 3) (.int 7)] [.store (.loc 4) (.int 8)],
                 .loop .for3 [.loc 5] 2 [] [.store (.loc 6) (.add (.load (.loc 5)) (.load (.loc 5)))],
                 .store (.loc 7) (.int 9),
                 .ret (.call (.load (.loc 1)) [])] }],
    main := [.store (.glob 0) (.mkfn 1), .call (.load (.glob 0)) []],
    nglobals := 1, mainLocals := 1 }

example : ((resolveList 12 blockDemo { lits := [], scopes := [], globals := [] }).toOption.map
    fun p => (p.2.lits.map (·.frees), p.2.lits.map (·.nlocals))) = some ([[(2, 0)], []], [0, 8]) := by decide +kernel
example : observe (Impl 30 blockDemoProg) = .inl (some 42) := by decide +kernel
example : observe (Spec 30 blockDemoProg) = .inl (some 42) := by decide +kernel
example : depth1Only blockDemoProg.lits = true := by decide +kernel


/-! ## Recursion: every call is a new activation, every level keeps its own bindings

"However the function is eventually invoked" includes: by ITSELF.  A function that calls itself
(in tail position — `return f(…)`, the result handed on as it is — or in the middle of an
expression, directly or through another name bound to the same function object, from the
script or under a `vm.Call` from Go) and creates a closure over one of its parameters or locals
at every level must give every level's closure the bindings of THAT level.  In the code as it
is the `Call` instruction has one way out (`callObject` → `callFunction` → a new frame
activation; ties `armCall_tie`, `callObjectFunction_tie`), so a self call is a call like any
other.  The closure language has the conditional return `if c { return e }` (`Tm.retif`), so
terminating recursion is expressible and `C02_partial_depth1` covers it. -/

/-- **A call runs in a new activation — whoever calls whom, whatever follows the call.**  For
    every state, closure and argument list (of the right length, within the call budget) the
    body runs in `St.enter`: activation number `s.acts.length` — one that did not exist before —
    with locals initialised from THIS call's arguments; afterwards the caller's stack is
    restored.  Nothing in it looks at whether the callee is the function that is running or at
    the position of the call (a self call in tail position is this case). -/
theorem call_runs_in_new_activation (m : Mode) (lits : List Lit) (n i : Nat) (cells : List (Nat × Nat))
    (definer : Nat) (args : List Val) (l : Lit) (s : St)
    (hl : lits[i]? = some l) (ha : args.length = l.nparams) (hc : s.calls ≠ 0) :
    callVal m lits (n + 1) (.clo i cells definer) args s =
      match execBody m lits n l.body (s.enter l (.clo i cells definer) args definer cells) with
      | (r, s') => (r, { s' with stack := s.stack }) := by
  have h1 : (args.length != l.nparams) = false := by simp [ha]
  have h2 : (s.calls == 0) = false := by simp [hc]
  simp only [callVal, hl, bind, getSt, setSt, modSt, catchE, rethrow, pure, St.enter, h1, h2,
    Bool.false_eq_true, if_false]
  generalize execBody m lits n l.body _ = r
  obtain ⟨r, s'⟩ := r
  cases r <;> rfl


/-- **`return e` / `if c { return e }` in a function body.**  The conditional return ends the
    function with the value of `e` when `c` is truthy and goes on with the following statements
    otherwise (for every mode, budget, state) -/
theorem conditional_return (m : Mode) (lits : List Lit) (n : Nat) (c e : RTm) (rest : List RTm) (s : St) :
    execBody m lits (n + 1) (.retif c e :: rest) s =
      match eval m lits n c s with
      | (.ok cv, s') => if cv.truthy then eval m lits n e s' else execBody m lits n rest s'
      | (.error err, s') => (.error err, s') := by
  simp only [execBody, bind]
  cases eval m lits n c s with
  | mk r s' =>
    cases r with
    | error err => rfl
    | ok cv => cases h : cv.truthy <;> simp [h]

/-- a function literal that captures only variables of the function executing it gets cells
    of THAT activation (the one on top of the stack), in both modes -/
theorem depth1_cells_in_running_activation (m : Mode) (s : St) (cur : Nat) (rest : List Nat)
    (hs : s.stack = cur :: rest) :
    ∀ (frees : List (Nat × Nat)) (cs : List (Nat × Nat)), (frees.all fun p => p.2 == 0) = true →
      makeCells m s frees = .ok cs → ∀ c, c ∈ cs → c.1 = cur := by
  intro frees
  induction frees with
  | nil =>
    intro cs _ h c hc
    simp only [makeCells] at h
    cases h
    simp at hc
  | cons p rest' ih =>
    obtain ⟨slot, d⟩ := p
    intro cs hd h c hc
    simp only [List.all_cons, Bool.and_eq_true, beq_iff_eq] at hd
    obtain ⟨hd0, hdr⟩ := hd
    have hd0' : d = 0 := hd0
    subst hd0'
    have hcap : captureAct m s.parentOf s.stack 0 = some cur := by
      rw [hs]; cases m <;> rfl
    simp only [makeCells, hcap] at h
    split at h
    · cases h
    · split at h
      · split at h
        · rename_i cs' hcs'
          cases h
          rcases List.mem_cons.1 hc with h0 | h1
          · subst h0; rfl
          · exact ih cs' hdr hcs' c h1
        · cases h
      · cases h


/-- **Every level of a recursion has its own bindings.**  Let a call be made in state `s` (its
    activation gets the number `s.acts.length`, `call_runs_in_new_activation`) and let the callee,
    at any later moment `s2` at which it is the running function, execute a function literal over
    its own parameters/locals.  Every cell `c` of the new closure is different from every cell
    `cOld` of an activation that existed when the call was made — in particular from the cells
    of the closures the SAME function made one level up — and writes through either are not seen
    through the other (for every state `st` they are applied to and every value). -/
theorem recursive_levels_have_own_bindings (m : Mode) (s s2 : St) (rest : List Nat)
    (hs2 : s2.stack = s.acts.length :: rest)
    (frees : List (Nat × Nat)) (hd : (frees.all fun p => p.2 == 0) = true)
    (cs : List (Nat × Nat)) (hcs : makeCells m s2 frees = .ok cs)
    (c cOld : Nat × Nat) (hc : c ∈ cs) (hold : cOld.1 < s.acts.length) :
    c ≠ cOld ∧
    ∀ (st : St) (v : Val),
      readCell (writeCell st c v) cOld = readCell st cOld ∧
      readCell (writeCell st cOld v) c = readCell st c := by
  have h1 := depth1_cells_in_running_activation m s2 _ rest hs2 frees cs hd hcs c hc
  have hne : c ≠ cOld := by
    intro h; rw [h] at h1; omega
  exact ⟨hne, fun st v => ⟨cell_write_other st c cOld v hne, cell_write_other st cOld c v (fun h => hne h.symm)⟩⟩


/-- **On the frame machine: a call — a self call included, there is one call operation —
    starts an activation no existing cell belongs to**, in the next frame slot, with
    `capturedLocals` reset.  With `cells_fresh_after_abort` (cells of different activations never
    share storage) every closure the callee makes is separate from every closure made before. -/
theorem call_starts_new_activation (ops : List FOp) (s : FM) (hr : FM.run FM.init ops = some s)
    (wide : Bool) :
    ∃ s1, s.step (.call wide) = some s1 ∧ s1.fp = s.fp + 1 ∧
      (s1.frames s1.fp).act = s.nacts ∧ (s1.frames s1.fp).captured = none ∧
      s1.cells = s.cells ∧ ∀ c, c ∈ s1.cells → c.act ≠ (s1.frames s1.fp).act := by
  have hinv := FM.reachable_inv ops s hr
  refine ⟨_, rfl, rfl, ?_, ?_, rfl, ?_⟩
  · simp only [upd_same]
  · simp only [upd_same]
  · intro c hc
    have := (hinv.cell_owner c hc).2.2
    simp only [upd_same]
    omega

/-- **Every level of a recursion keeps its own binding.**  For EVERY recursion depth and every
    choice of values and frame sizes: `n` nested calls (a function calling itself, or any other
    chain), each level storing its value `vᵢ` in its local 0 and making a closure over it; all
    levels return; then the closures are read in the order they were made.  The frame machine
    (frame slots re-used level by level on the way back, inline storage copied to the heap on
    capture, `capturedLocals`) shows `v₀, v₁, …` — each closure reads the value of the level
    that made it, not the last level's. -/
theorem recursion_levels_keep_their_values (vs : List (Int × Bool)) :
    (FM.run FM.init (recChain vs)).map (·.out) = some (vs.map (·.1)).reverse := by
  rw [frames_refine_variables]
  obtain ⟨t1, hrun1, hfp, hout, hn, hlen, _, _, hlv⟩ := VarM.descent vs VarM.init
  have hrun2 := VarM.returns vs.length t1 (by omega)
  let t2 : VarM := { t1 with fp := t1.fp - vs.length }
  have hreads := VarM.reads (vs.map (·.1)) 0 t2 (by
    intro i w hi
    simp only [List.getElem?_map, Option.map_eq_some_iff] at hi
    obtain ⟨p, hp, hw⟩ := hi
    obtain ⟨c, hc, hv, _⟩ := hlv i p hp
    refine ⟨c, ?_, by rw [← hw]; exact hv⟩
    simpa [VarM.init, t2] using hc)
  obtain ⟨t3, hrun3, hout3⟩ := hreads
  simp only [recChain, VarM.run_append, hrun1, Option.bind_some, hrun2]
  rw [List.range_eq_range']
  simp only [List.length_map] at hrun3
  show Option.map (·.out) (VarM.run t2 _) = _
  rw [hrun3]
  simp only [Option.map_some, hout3, t2, hout, VarM.init, List.append_nil]


/-- non-vacuity: three levels, the closures read 1, 2, 3 (most recent load first) … -/
example : (FM.run FM.init (recChain [(1, false), (2, true), (3, false)])).map (·.out) = some [3, 2, 1] := by decide +kernel

/-- … what the theorems exclude: a machine that runs a call made from inside a function (as a
    "frame re-using" treatment of the self call in tail position would) IN THE FRAME THAT IS
    ALREADY THERE — a new activation in the same slot with `locals`/`capturedLocals` kept: the
    three closures share one variable and all read the last level's 3 -/
def FM.stepRestart (s : FM) : FOp → Option FM
  | .call wide =>
    if s.fp = 0 then s.step (.call wide)
    else some { s with frames := upd s.frames s.fp { s.frames s.fp with act := s.nacts }, nacts := s.nacts + 1 }
  | op => s.step op

example : (FM.runWith FM.stepRestart FM.init
    (recDescent [(1, false), (2, false), (3, false)] ++ [.ret, .loadFree 0, .loadFree 1, .loadFree 2])).map (·.out)
    = some [3, 3, 3] := by decide +kernel

/-- the scenario end to end in the closure language:
    `func rec(n, acc) { x := n + 10; g := func(q) { x += q; return x + n };
                        if n { return rec(n + -1, acc + [g]) }; return acc + [g] }
     r := rec(2, []); r[0](1) + r[0](1) + r[1](1)`
    as `resolveProg` resolves it (`rec` is named: slot 2 is the function itself).  Level `n = 2`
    has `x = 12`: its closure returns 15, then 16; level `n = 1` has `x = 11`: 13.  (With one
    shared set of bindings — the last level's `n = 0`, `x = 10` — the sum would be 36.) -/
def recDemoProg : Prog :=
  { lits := [
      { nparams := 1, named := false, nlocals := 1, frees := [(3, 0), (3, 0), (0, 0)],
        body := [.store (.free 0) (.add (.load (.free 0)) (.load (.loc 0))),
                 .ret (.add (.load (.free 1)) (.load (.free 2)))] },
      { nparams := 2, named := true, nlocals := 5, frees := [],
        body := [.store (.loc 3) (.add (.load (.loc 0)) (.int 10)),
                 .store (.loc 4) (.mkfn 0),
                 .retif (.load (.loc 0))
                   (.call (.load (.loc 2)) [.add (.load (.loc 0)) (.int (-1)), .add (.load (.loc 1)) (.list [.load (.loc 4)])]),
                 .ret (.add (.load (.loc 1)) (.list [.load (.loc 4)]))] }],
    main := [.store (.glob 0) (.mkfn 1),
             .store (.glob 1) (.call (.load (.glob 0)) [.int 2, .list []]),
             .add (.add (.call (.idx (.load (.glob 1)) 0) [.int 1]) (.call (.idx (.load (.glob 1)) 0) [.int 1]))
                  (.call (.idx (.load (.glob 1)) 1) [.int 1])],
    nglobals := 2, mainLocals := 0 }

example : depth1Only recDemoProg.lits = true := by decide +kernel
example : observe (Impl 60 recDemoProg) = .inl (some 44) := by decide +kernel
example : observe (Spec 60 recDemoProg) = .inl (some 44) := by decide +kernel

end Risor.C02
