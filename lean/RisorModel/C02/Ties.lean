import RisorModel.C02.Model
import RisorModel.Generated.C02
/-!
C02 — ties: the statements of /repo's current source that the closure model is written from
are the ones frozen in `Risor.C02.Src` (regenerated by extract/c02.go on every run).  A change
to how a free variable's depth is computed or emitted, to the frame `MakeCell` picks, to
`LoadFree`/`StoreFree`, to the self slot, to `CaptureLocals` or to how block tables claim their
indexes (`claimIndex`, `NewBlock`, `compileBlock`) breaks exactly one lemma here;
the harness then searches for a program on which the changed code violates the property.
-/
namespace Risor.C02

theorem compileFuncEmits_tie : Generated.C02.compileFuncEmits = Src.compileFuncEmits := rfl
theorem resolveFree_tie : Generated.C02.resolveFree = Src.resolveFree := rfl
theorem armMakeCell_tie : Generated.C02.armMakeCell = Src.armMakeCell := rfl
theorem armLoadFree_tie : Generated.C02.armLoadFree = Src.armLoadFree := rfl
theorem armStoreFree_tie : Generated.C02.armStoreFree = Src.armStoreFree := rfl
theorem callFunctionFrame_tie : Generated.C02.callFunctionFrame = Src.callFunctionFrame := rfl
theorem captureLocals_tie : Generated.C02.captureLocals = Src.captureLocals := rfl
/-- the frame machine: a slot is reset (capturedLocals, storage, locals) when an activation starts in it … -/
theorem activateCode_tie : Generated.C02.activateCode = Src.activateCode := rfl
/-- … and the running function reads and writes its locals through the frame's current `locals` slice -/
theorem armLoadFast_tie : Generated.C02.armLoadFast = Src.armLoadFast := rfl
theorem armStoreFast_tie : Generated.C02.armStoreFast = Src.armStoreFast := rfl
/-- the `Call` instruction has ONE way out: every callee — the running function itself included, whatever
    instruction follows — is handed to `callObject` … -/
theorem armCall_tie : Generated.C02.armCall = Src.armCall := rfl
/-- … which runs a function object through `callFunction`: a new frame activation per call -/
theorem callObjectFunction_tie : Generated.C02.callObjectFunction = Src.callObjectFunction := rfl
/-- block tables claim their indexes from the function table and nothing is handed back -/
theorem claimIndex_tie : Generated.C02.claimIndex = Src.claimIndex := rfl
theorem newBlock_tie : Generated.C02.newBlock = Src.newBlock := rfl
theorem compileBlockTables_tie : Generated.C02.compileBlockTables = Src.compileBlockTables := rfl

end Risor.C02
