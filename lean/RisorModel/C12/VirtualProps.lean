import RisorModel.C12.Virtual
/-!
C12, second part — theorems about the model of `os.VirtualOS` (`Virtual.lean`).

The model has no input that describes the real process, so "the answers do not depend on the real
process" holds of it by construction; what is proved here is *what the answers do depend on*: for
**every** configuration, **every** sequence of script operations of **any** length and **every**
path/key/value string, an answer is determined by the host's configuration and by the script's own
last `chdir` / `setenv` / `unsetenv` — nothing else is remembered, nothing is normalised or made
absolute behind the script's back.  The harness compares the real code with `vrun` on every
generated session, in two different states of the real process.
-/
namespace Risor.C12.V
open Risor.C13 (Path cleanStr join2 isAbs findMount)

/-! ## The state machine keeps exactly the script's last change -/

theorem stAfter_append (s : St) (a b : List VOp) : stAfter s (a ++ b) = stAfter (stAfter s a) b := by
  induction a generalizing s with
  | nil => rfl
  | cons o os ih => exact ih (next s o)

/-- the working directory held after any sequence of operations is the argument of its last `chdir`
    (the initial one if there is none) -/
theorem state_cwd (s : St) (ops : List VOp) : (stAfter s ops).cwd = cwdOf s.cwd ops := by
  induction ops generalizing s with
  | nil => rfl
  | cons o os ih =>
    cases o <;> exact ih _

theorem find_filter_ne (e : List (Path × Path)) (k k' : Path) (h : ¬ k' = k) :
    (e.filter (fun x => x.1 != k')).find? (fun x => x.1 == k) = e.find? (fun x => x.1 == k) := by
  induction e with
  | nil => rfl
  | cons x xs ih =>
    by_cases hx : x.1 = k
    · have hne : (x.1 != k') = true := by
        simp only [bne_iff_ne, ne_eq]; intro h'; exact h (h'.symm.trans hx)
      have heq : (x.1 == k) = true := by simpa using hx
      simp only [List.filter_cons, hne, if_true, List.find?_cons, heq]
    · have hneq : (x.1 == k) = false := by simpa using hx
      by_cases hx' : (x.1 != k') = true
      · simp only [List.filter_cons, hx', if_true, List.find?_cons, hneq]; exact ih
      · have hx'' : (x.1 != k') = false := by simpa using hx'
        simp only [List.filter_cons, hx'', List.find?_cons, hneq]; exact ih

theorem envGet_envSet (e : List (Path × Path)) (k k' v : Path) :
    envGet (envSet e k' v) k = if k' = k then v else envGet e k := by
  unfold envGet envSet
  by_cases h : k' = k
  · simp [h]
  · have hb : (k' == k) = false := by simpa using h
    simp only [List.find?_cons, hb, h, if_false]
    rw [find_filter_ne e k k' h]

theorem envGet_envDel (e : List (Path × Path)) (k k' : Path) :
    envGet (envDel e k') k = if k' = k then [] else envGet e k := by
  unfold envGet envDel
  by_cases h : k' = k
  · subst h
    have : List.find? (fun x => x.1 == k') (List.filter (fun x => x.1 != k') e) = none := by
      rw [List.find?_eq_none]
      intro x hx
      have := (List.mem_filter.mp hx).2
      simpa using this
    simp [this]
  · simp only [h, if_false]
    rw [find_filter_ne e k k' h]

/-- the value of every environment variable after any sequence of operations is what the script's
    last `setenv`/`unsetenv` of that variable left (the initial value if there is none) -/
theorem state_var (s : St) (k : Path) (ops : List VOp) :
    envGet (stAfter s ops).env k = varOf (envGet s.env k) k ops := by
  induction ops generalizing s with
  | nil => rfl
  | cons o os ih =>
    cases o with
    | setenv k' v =>
      show envGet (stAfter (next s (.setenv k' v)) os).env k = _
      rw [ih]
      show varOf (envGet (envSet s.env k' v) k) k os = varOf (envGet s.env k) k (.setenv k' v :: os)
      rw [envGet_envSet]
      show _ = (if k' = k then varOf v k os else varOf (envGet s.env k) k os)
      by_cases h : k' = k <;> simp [h]
    | unsetenv k' =>
      show envGet (stAfter (next s (.unsetenv k')) os).env k = _
      rw [ih]
      show varOf (envGet (envDel s.env k') k) k os = varOf (envGet s.env k) k (.unsetenv k' :: os)
      rw [envGet_envDel]
      show _ = (if k' = k then varOf [] k os else varOf (envGet s.env k) k os)
      by_cases h : k' = k <;> simp [h]
    | _ => exact ih _

theorem runFrom_append (c : Cfg) (s : St) (a b : List VOp) :
    runFrom c s (a ++ b) = runFrom c s a ++ runFrom c (stAfter s a) b := by
  induction a generalizing s with
  | nil => rfl
  | cons o os ih =>
    show out c s o :: runFrom c (next s o) (os ++ b) = _
    rw [ih]; rfl

/-- the answer to the last operation of a session is the answer in the state its predecessors left -/
theorem last_answer (c : Cfg) (pre : List VOp) (o : VOp) :
    (vrun c (pre ++ [o])).getLast? = some (out c (stAfter c.init pre) o) := by
  unfold vrun
  rw [runFrom_append]
  simp [runFrom]

/-! ## What a script observes -/

/-- After any operations, `os.getwd()` returns the argument of the script's last
    `os.chdir`/`cd` exactly as it was given (relative arguments stay relative: nothing is resolved
    against any other directory), and the configured directory if the script never changed it.
    For all configurations, all sessions, all strings. -/
theorem V_getwd (c : Cfg) (pre : List VOp) :
    (vrun c (pre ++ [.getwd])).getLast? = some (.str (cwdOf c.cwd pre)) := by
  rw [last_answer]
  show some (Out.str (stAfter c.init pre).cwd) = _
  rw [state_cwd]; rfl

theorem cwdOf_append_chdir (w : Path) (pre : List VOp) (d : Path) :
    cwdOf w (pre ++ [.chdir d]) = d := by
  induction pre generalizing w with
  | nil => rfl
  | cons o os ih => cases o <;> exact ih _

/-- `cd(d); os.getwd()` yields `d`, whatever came before. -/
theorem V_chdir_verbatim (c : Cfg) (pre : List VOp) (d : Path) :
    (vrun c (pre ++ [.chdir d, .getwd])).getLast? = some (.str d) := by
  have h := V_getwd c (pre ++ [.chdir d])
  rw [List.append_assoc] at h
  rw [show [VOp.chdir d] ++ [VOp.getwd] = [.chdir d, .getwd] from rfl] at h
  rw [h, cwdOf_append_chdir]

/-- `filepath.abs(p)` is `Clean p` for an absolute `p` and otherwise `Join(w, p)` where
    `w` is the argument of the script's last `chdir` (or the configured directory). -/
theorem V_abs (c : Cfg) (pre : List VOp) (p : Path) :
    (vrun c (pre ++ [.abs p])).getLast? =
      some (.str (if isAbs p then cleanStr p else join2 (cwdOf c.cwd pre) p)) := by
  rw [last_answer]
  show some (Out.str (absPath (stAfter c.init pre).cwd p)) = _
  rw [state_cwd]; rfl

/-- Every path argument of every file operation is resolved by `findMount` against the
    mount table the host configured and the argument of the script's last `chdir` (or the
    configured directory) — and against nothing else. -/
theorem V_file (c : Cfg) (pre : List VOp) (ps : List Path) :
    (vrun c (pre ++ [.file ps])).getLast? =
      some (.paths (ps.map (findMount c.mounts (cwdOf c.cwd pre)))) := by
  rw [last_answer]
  show some (Out.paths (ps.map (findMount c.mounts (stAfter c.init pre).cwd))) = _
  rw [state_cwd]; rfl

/-- `os.getenv(k)` returns what the script's last `setenv k`/`unsetenv k` left, and
    the value the host configured (empty if none) before the first. -/
theorem V_getenv (c : Cfg) (pre : List VOp) (k : Path) :
    (vrun c (pre ++ [.getenv k])).getLast? = some (.str (varOf (envGet c.env k) k pre)) := by
  rw [last_answer]
  show some (Out.str (envGet (stAfter c.init pre).env k)) = _
  rw [state_var]; rfl

/-- The process-level getters answer with the configured values in every state. -/
theorem V_configured (c : Cfg) (pre : List VOp) :
    (vrun c (pre ++ [.tempDir])).getLast? = some (.str c.tmp) ∧
    (vrun c (pre ++ [.hostname])).getLast? = some (.str c.hostname) ∧
    (vrun c (pre ++ [.getpid])).getLast? = some (.int c.pid) ∧
    (vrun c (pre ++ [.getuid])).getLast? = some (.int c.uid) ∧
    (vrun c (pre ++ [.args])).getLast? = some (.strs c.args) := by
  refine ⟨?_, ?_, ?_, ?_, ?_⟩ <;> rw [last_answer] <;> rfl

/-! ## Non-vacuity: concrete sessions -/

def root : Path := [47]
def work : Path := [119, 111, 114, 107]
def notes : Path := [110, 111, 116, 101, 115, 46, 116, 120, 116]

def demoCfg : Cfg :=
  { cwd := root, env := [], tmp := [], home := [], cache := [], conf := [], hostname := [],
    pid := 0, uid := 0, args := [], mounts := [root] }

/-- `cd("work"); os.getwd(); filepath.abs("notes.txt")` under a `VirtualOS` with cwd "/" answers
    "work" and "work/notes.txt": the relative directory is kept as given -/
example : vrun demoCfg [.chdir work, .getwd, .abs notes] =
    [.nil, .str work, .str (work ++ 47 :: notes)] := by decide

/-- before the `cd`, a relative file name is served by the root mount as `notes.txt` … -/
example : vrun demoCfg [.file [notes]] = [.paths [some (root, notes)]] := by decide

/-- … and after `cd("work")` no mount serves it (the stored directory is relative, so the joined
    path is): the operation fails inside the `VirtualOS`, it does not go anywhere else -/
example : vrun demoCfg [.chdir work, .file [notes]] = [.nil, .paths [none]] := by decide

/-! ## Process level: exit, standard streams, users -/

/-- the `Exit` calls recorded after any sequence of operations are those before it followed by the
    codes of the sequence's own `os.exit` calls, in order -/
theorem state_exits (s : St) (ops : List VOp) :
    (stAfter s ops).exits = s.exits ++ exitCodes ops := by
  induction ops generalizing s with
  | nil => simp [stAfter, exitCodes]
  | cons o os ih =>
    cases o with
    | exit a =>
      show (stAfter (next s (.exit a)) os).exits = _
      rw [ih]
      show (s.exits ++ a.call.toList) ++ exitCodes os = s.exits ++ (a.call.toList ++ exitCodes os)
      rw [List.append_assoc]
    | _ => exact ih _

theorem state_out (s : St) (ops : List VOp) : (stAfter s ops).out = s.out ++ outText ops := by
  induction ops generalizing s with
  | nil => simp [stAfter, outText]
  | cons o os ih =>
    cases o with
    | stdoutWrite t =>
      show (stAfter (next s (.stdoutWrite t)) os).out = _
      rw [ih]
      show (s.out ++ t) ++ outText os = s.out ++ (t ++ outText os)
      rw [List.append_assoc]
    | print t =>
      show (stAfter (next s (.print t)) os).out = _
      rw [ih]
      show (s.out ++ t) ++ outText os = s.out ++ (t ++ outText os)
      rw [List.append_assoc]
    | _ => exact ih _

theorem state_err (s : St) (ops : List VOp) : (stAfter s ops).err = s.err ++ errText ops := by
  induction ops generalizing s with
  | nil => simp [stAfter, errText]
  | cons o os ih =>
    cases o with
    | stderrWrite t =>
      show (stAfter (next s (.stderrWrite t)) os).err = _
      rw [ih]
      show (s.err ++ t) ++ errText os = s.err ++ (t ++ errText os)
      rw [List.append_assoc]
    | _ => exact ih _

/-- No function of os/virtual.go (the methods of `VirtualOS`, its options,
    `NewVirtualOS`) or of the files it hands out (nil_file.go, buffer_file.go, in_memory_file.go) uses
    an OS-touching member of Go's os, io/ioutil, syscall, os/exec, os/user, os/signal, log,
    path/filepath (Abs, Glob, Walk, …) or fmt (Print…, Scan…) packages, nor risor's `SimpleOS`,
    outside the allowlist (the constant `os.PathSeparator`).  (Complete finite table, hence evaluated.) -/
theorem virtual_no_real_sink : reviewedVSinks.all sinkClean = true := by decide

/-- a table in which every entry is clean lets no method reach the real process -/
theorem reachesReal_of_clean (t : VSinks) (h : t.all sinkClean = true) (fn : String) :
    reachesReal t fn = false := by
  unfold reachesReal
  rw [List.any_eq_false]
  intro e he
  have := List.all_eq_true.mp h e he
  simp [this]

/-- Under a `VirtualOS` — with **or without** an exit handler, with any
    combination of the other options — no script, whatever it does and however often and with
    whatever argument it calls `os.exit`, terminates the real process: the list of real terminations
    is empty.  For every sink table in which `VirtualOS.Exit` is clean, every configuration, every
    sequence of operations of any length. -/
theorem V_exit_never_real_of (t : VSinks) (h : t.all sinkClean = true) (c : Cfg) (ops : List VOp) :
    (hostView t c ops).realExit = [] := by
  unfold hostView
  simp [reachesReal_of_clean t h]

/-- … in particular for the code as reviewed (tied to the source by `virtual_sinks_tie`) -/
theorem V_exit_never_real (c : Cfg) (ops : List VOp) :
    (hostView reviewedVSinks c ops).realExit = [] :=
  V_exit_never_real_of reviewedVSinks virtual_no_real_sink c ops

/-- The host's exit handler receives exactly the codes of the `os.exit` calls
    the script executes, in order (`0` for `os.exit()`, `1` for `os.exit(err)`, nothing for calls
    with wrong arguments); without a handler nobody receives anything: the exit is absorbed. -/
theorem V_exit_handler (t : VSinks) (c : Cfg) (ops : List VOp) :
    (hostView t c ops).handled = if c.exitHandler then exitCodes (live ops) else [] := by
  unfold hostView
  simp only [state_exits]
  show (if c.exitHandler then [] ++ exitCodes (live ops) else []) = _
  simp

/-- Without a handler the host sees no exit at all and the real process none
    either — the default configuration of `NewVirtualOS`. -/
theorem V_exit_absorbed (c : Cfg) (hc : c.exitHandler = false) (ops : List VOp) :
    (hostView reviewedVSinks c ops).handled = [] ∧ (hostView reviewedVSinks c ops).realExit = [] := by
  refine ⟨?_, V_exit_never_real c ops⟩
  rw [V_exit_handler, hc]; rfl

/-- Where a script ends: after operations that do not end it, `os.exit(a)`
    ends it exactly if `a` is a non-zero code, an error value or too many arguments; after
    `os.exit()`, `os.exit(0)` and a call with a wrong argument type the script simply goes on. -/
theorem V_exit_continuation (pre post : List VOp) (a : ExitArg)
    (hpre : pre.all (fun o => !o.aborts) = true) :
    live (pre ++ .exit a :: post) = pre ++ .exit a :: (if a.aborts then [] else live post) := by
  induction pre with
  | nil =>
    show (if (VOp.exit a).aborts then [VOp.exit a] else VOp.exit a :: live post) = _
    show (if a.aborts then [VOp.exit a] else VOp.exit a :: live post) = _
    cases a.aborts <;> rfl
  | cons o os ih =>
    simp only [List.all_cons, Bool.and_eq_true, Bool.not_eq_true'] at hpre
    show (if o.aborts then [o] else o :: live (os ++ .exit a :: post)) = _
    rw [hpre.1, ih hpre.2]; rfl

/-- The host's stdout and stderr files hold exactly what the script wrote to them, in
    order, if the host configured them, and nothing exists otherwise. -/
theorem V_stdio (t : VSinks) (c : Cfg) (ops : List VOp) :
    (hostView t c ops).stdout = (if c.stdout then outText (live ops) else []) ∧
    (hostView t c ops).stderr = (if c.stderr then errText (live ops) else []) := by
  unfold hostView
  simp only [state_out, state_err]
  constructor
  · show (if c.stdout then [] ++ outText (live ops) else []) = _
    simp
  · show (if c.stderr then [] ++ errText (live ops) else []) = _
    simp

/-- User and group lookups answer from what the host configured: they fail in every
    state when nothing is configured, and for every non-empty name or id in any case. -/
theorem V_users (c : Cfg) (s : St) (x : Path) :
    (c.user = false → out c s .currentUser = .err ∧ out c s (.lookupUser x) = .err) ∧
    (c.group = false → out c s (.lookupGroup x) = .err) ∧
    (x ≠ [] → out c s (.lookupUser x) = .err ∧ out c s (.lookupGroup x) = .err) := by
  refine ⟨fun h => ?_, fun h => ?_, fun h => ?_⟩
  · simp [out, h]
  · simp [out, h]
  · have : x.isEmpty = false := by cases x <;> simp_all
    simp [out, this]

/-- a `VirtualOS` with no option but the root mount: no exit handler -/
example : demoCfg.exitHandler = false := rfl

/-- `os.getpid(); os.exit(3); os.getwd()` under a handler-less `VirtualOS`: the script ends at the
    exit with a fatal error, the host's handler list and the real process see nothing -/
example : vscript demoCfg [.getpid, .exit (.code 3), .getwd] = [.int 0, .abort] ∧
    hostView reviewedVSinks demoCfg [.getpid, .exit (.code 3), .getwd] =
      { handled := [], stdout := [], stderr := [], realExit := [] } := by decide +kernel

/-- `os.exit(); os.exit(0); os.exit("s"); print("x"); os.exit(err); os.exit(7)` with a handler and a
    stdout file: the script goes on after the first three calls, the handler gets `[0, 0, 1]`, stdout
    holds "x\n", the call after the fatal one never happens -/
example : hostView reviewedVSinks { demoCfg with exitHandler := true, stdout := true }
      [.exit .none, .exit (.code 0), .exit .badType, .print [120, 10], .exit .err, .exit (.code 7)] =
    { handled := [0, 0, 1], stdout := [120, 10], stderr := [], realExit := [] } := by decide +kernel

/-- the hypothesis of `V_exit_never_real_of` is what carries the claim: in a table in which the body
    of `VirtualOS.Exit` uses `os.Exit`, the same model terminates the real process -/
example : (hostView [("VirtualOS.Exit", ["os.Exit"])] demoCfg [.exit (.code 3)]).realExit = [3] := by decide +kernel

end Risor.C12.V
