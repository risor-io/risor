import RisorModel.C12.Lemmas
/-!
C12 — property theorems.  "A host-supplied OS mediates all file, environment, process and stdio
access … equally in spawned goroutines, cloned VMs and imported modules."

Everything below is about the model of `Model.lean` instantiated with the reviewed facts
(`codeFacts`) and the reviewed sink inventory (`reviewedInventory`); `Ties.lean` proves that both
equal what the extractor read from the source on this run, and the correspondence harness compares
the model with the real code on every generated history.  All statements are for **all** programs
(any nesting depth of call / callback / defer / spawn / clone-call / import), **all** VMs and
**all** host histories of any length; nothing is bounded.
-/
namespace Risor.C12

/-! ## The sink inventory -/

/-- No function of modules/os, modules/filepath, modules/fmt, builtins or
    object/file*.go uses an OS-touching member of Go's os, io/ioutil, syscall, os/exec, os/user,
    os/signal, log, path/filepath (Abs, Glob, Walk, …) or fmt (Print…, Scan…) packages, nor
    `NewSimpleOS`, outside the reviewed allowlist (the `os.Err*` error values), and every method it
    calls on an OS-interface value is called on `GetOS(ctx)` / `os.GetDefaultOS(ctx)` of its own
    context parameter.  (Complete finite table, hence `decide`.) -/
theorem no_unmediated_sink : reviewedInventory.all entryClean = true := by decide +kernel

/-- every OS-interface method the model lists for an operation (`Op.calls`) is one the extractor
    found in the operation's Go function: the call lists are not invented -/
theorem calls_within_inventory : allOps.all (opWithinInventory reviewedInventory) = true := by decide +kernel

/-- consequently no operation of any program produces a direct-sink observation -/
theorem no_direct_observation (o : Op) : directObs reviewedInventory o = [] :=
  directObs_nil reviewedInventory no_unmediated_sink o

/-! ## Path arguments are taken literally -/

/-- `shellOps` lists exactly the operations `Op.plain` maps to another operation -/
theorem shellOps_complete (o : Op) : o ∈ shellOps ∨ o.plain = o := by
  cases o <;> first
    | exact .inr rfl
    | exact .inl (mem_of_ctorIdx shellOps_eq _ (by decide) (by decide))

/-- An argument made of shell metacharacters — a wildcard `*` `?` `[..]`, a
    `$NAME` / `${NAME}` reference, a leading `~` — is not special to any path-taking function
    (`cd`, `ls`, `cat`, `cp` source and destination, `open`, `os.chdir`, `os.read_dir`,
    `os.read_file`, `os.open`, `os.stat`): the function is the same Go function and makes exactly the
    calls on the OS, with the same symbolic arguments, as with an ordinary path — no listing, no
    environment lookup, no home-directory lookup in between. -/
theorem shell_as_plain :
    shellOps.all (fun o => o.calls == o.plain.calls && o.goFn == o.plain.goFn) = true := by decide +kernel

/-- the call list of a metacharacter operation mentions the script's arguments only symbolically:
    every argument of every call is `$0`, `$1` or the default file mode -/
theorem shell_args_symbolic :
    shellOps.all (fun o => o.calls.all fun c => c.args.all fun x => x == "$0" || x == "$1" || x == "420") = true := by
  decide +kernel

theorem instArg_cases (p q x : String) (h : (x == "$0" || x == "$1" || x == "420") = true) :
    instArg p q x = p ∨ instArg p q x = q ∨ instArg p q x = "420" := by
  unfold instArg
  by_cases h0 : x = "$0"
  · simp [h0]
  · by_cases h1 : x = "$1"
    · simp [h1]
    · have h2 : x = "420" := by simpa [h0, h1] using h
      simp [h2]

/-- For every metacharacter operation and **all** strings `p`, `q` the
    script passes as its arguments: every argument of every call the host's OS receives is `p`, `q`
    or the default file mode — never a string produced from a directory listing, an environment or
    a home directory (of the real process or of anything else). -/
theorem shell_args_verbatim (o : Op) (ho : o ∈ shellOps) (p q : String) :
    ∀ c ∈ o.calls.map (Call.inst p q), Call.verbatim p q c := by
  intro c hc x hx
  have hs := shell_args_symbolic
  rw [List.all_eq_true] at hs
  have h1 := hs o ho
  rw [List.all_eq_true] at h1
  obtain ⟨c0, hc0, rfl⟩ := List.mem_map.mp hc
  have h2 := h1 c0 hc0
  rw [List.all_eq_true] at h2
  simp only [Call.inst, List.mem_map] at hx
  obtain ⟨x0, hx0, rfl⟩ := hx
  exact instArg_cases p q x0 (h2 x0 hx0)

/-- … and the path the script passed does reach the OS: the first call
    of every metacharacter operation carries the operation's first argument `p` itself. -/
theorem shell_first_arg_passed :
    shellOps.all (fun o => match o.calls with
      | c :: _ => c.args.head? == some "$0"
      | [] => false) = true := by decide +kernel

/-- a metacharacter operation, like every operation, produces no direct-sink observation and calls
    only methods the extractor found in its Go function -/
theorem shell_within_inventory : shellOps.all (opWithinInventory reviewedInventory) = true :=
  List.all_eq_true.2 fun o _ => forall_op calls_within_inventory o

/-! ## Resolution and propagation -/

/-- `getOS` precedence: the OS in the context, else the one given with `WithOS`, else the real one -/
theorem getOS_precedence (vm : VM) (ctx : Ctx) :
    getOS codeFacts vm ctx = match ctx.os with
      | some o => o
      | none => match vm.os with
        | some o => o
        | none => .real := getOS_code vm ctx

/-- a clone has the OS its original was given with `WithOS` -/
theorem clone_copies_os (vm : VM) : (clone codeFacts vm).os = vm.os := clone_os vm

/-- once `initContext` has run, re-initialising in any other VM (what spawn and clone-call do)
    leaves the OS in the context unchanged -/
theorem initContext_idempotent (vm vm' : VM) (ctx : Ctx) :
    initContext codeFacts vm' (initContext codeFacts vm ctx) = initContext codeFacts vm ctx := by
  have h := initContext_os vm ctx
  have h2 := initContext_of_ctx vm' (initContext codeFacts vm ctx) _ h
  cases hc : initContext codeFacts vm' (initContext codeFacts vm ctx) with
  | mk o =>
    cases hd : initContext codeFacts vm ctx with
    | mk o' => simp_all

/-- Let a run be started on VM `vm` by `Run`/`RunCode`/`Call` with host context
    OS `c`, and let `r = getOS vm c` be the OS that resolves to.  For every program `p`, whatever
    it nests (closures, callbacks, deferred calls, `spawn`/`go`, clone-calls, imported modules, to
    any depth), every observation is a call on `r`, or a file call on the OS that opened the file
    in `gf`, or a call on the OS the `os` module object remembered for a stream attribute that `p`
    reads.  Induction over the thread-creation tree (`exec_closed`). -/
theorem os_propagates (p : Prog) (vm : VM) (c : Option OSId) (cache : Cache) :
    ∀ ob ∈ (exec reviewedInventory codeFacts vm (entryCtx codeFacts vm c) cache p).1,
      ObsIn (fun o call => o = getOS codeFacts vm { os := c } ∨
        (vm.gf = some o ∧ call.m.isFile = true) ∨ (∃ s ∈ p.streams, cache.get s = some o)) ob := by
  have hctx := entryCtx_os vm c
  exact exec_closed reviewedInventory no_unmediated_sink _ (getOS codeFacts vm { os := c })
    (fun _ => Or.inl rfl) p vm _ cache hctx
    (fun g hg c hc => Or.inr (Or.inl ⟨hg, hc⟩))
    (fun s hs h hget _ => Or.inr (Or.inr ⟨s, hs, hget⟩))

/-- on a fresh `os` module object and with no shared file, *every* observation of every program is
    a call on the resolved OS — in spawned goroutines, clone-calls and imported modules alike -/
theorem os_propagates_fresh (p : Prog) (vm : VM) (c : Option OSId) (hgf : vm.gf = none) :
    ∀ ob ∈ (exec reviewedInventory codeFacts vm (entryCtx codeFacts vm c) Cache.empty p).1,
      ObsIn (fun o _ => o = getOS codeFacts vm { os := c }) ob := by
  have hctx := entryCtx_os vm c
  exact exec_closed reviewedInventory no_unmediated_sink _ (getOS codeFacts vm { os := c })
    (fun _ => rfl) p vm _ Cache.empty hctx
    (fun g hg => by rw [hgf] at hg; cases hg)
    (fun s _ h hget => by cases s <;> simp [Cache.get, Cache.empty] at hget)

/-! ## The full statement, its counterexamples, the guard -/

/-- absent, or one of the host's implementation objects (the host never hands out "the real OS") -/
def hostOpt : Option OSId → Bool
  | none => true
  | some o => o.isHost

/-- every OS the event mentions is one of the host's implementation objects -/
def Ev.wf : Ev → Bool
  | .new o => hostOpt o
  | .run c => hostOpt c
  | .call c => hostOpt c
  | .runWith o c => o.isHost && hostOpt c
  | .evalWith o c => hostOpt o && hostOpt c
  | .apiCall o c => hostOpt o && hostOpt c
  | .callback c => hostOpt c
  | .clone => true
  | .root => true

/-- **The property in full**: in every host history, every run for which the host supplied an OS
    (with `WithOS`, inherited by clones, or in the context) is served by an implementation the host
    supplied *for that run* and never reaches the real operating system — Spec verdict `true` for
    every executing event. -/
def C12_full : Prop :=
  ∀ (sc : Script) (evs : List Ev), evs.all Ev.wf = true →
    (specVerdicts reviewedInventory codeFacts sc evs).all id = true

/-- the witness: a VM whose first run had no OS supplied and evaluated `os.stdout`; the same VM is
    then run again with `WithOS(B)` -/
def cexScript : Script := { pre := false, body := .op .os_stdout_write }
def cexReal : List Ev := [.new none, .run none, .runWith (.host 1) none]
def cexOther : List Ev := [.new none, .run (some (.host 0)), .call (some (.host 1))]

/-- in the second run of `cexReal` the write lands on the **real** stdout although `B` was supplied -/
theorem C12_counterexample_trace :
    runHist reviewedInventory codeFacts cexScript initState cexReal =
      [[.via .real ⟨.stdout, []⟩, .via .real ⟨.fWrite, ["x"]⟩], [.via .real ⟨.fWrite, ["x"]⟩]] := by
  rw [runHist_clean _ no_unmediated_sink]
  decide +kernel

/-- **The unchanged code violates the full statement** (`os.stdin/stdout/stderr` are dynamic
    attributes of the `os` module object whose first resolution is remembered: a later run, for
    which the host supplies an OS, writes to the stream of the earlier run's OS — here the real
    process's stdout).  Replayed on the Go code: findings/known/C12-std-stream-attr-cached.replay. -/
theorem C12_counterexample_std_stream : ¬ C12_full := by
  intro h
  have := h cexScript cexReal (by decide +kernel)
  rw [specVerdicts_clean _ no_unmediated_sink] at this
  revert this
  decide +kernel

/-- second witness: both runs are supplied (A, then B in the context); the second run's write is
    served by A, an implementation not supplied for that run -/
theorem C12_counterexample_other_os :
    specVerdicts reviewedInventory codeFacts cexScript cexOther = [true, false] := by
  rw [specVerdicts_clean _ no_unmediated_sink]
  decide +kernel

/-- both witnesses satisfy the guard of the known finding at the failing event -/
theorem C12_counterexample_guard :
    staleStd [.host 1] { sin := none, sout := some .real, serr := none } cexScript.body = true ∧
    staleStd [.host 1] { sin := none, sout := some (.host 0), serr := none } cexScript.body = true := by
  decide

/-- the defect is exactly the memoisation: with dynamic attributes resolved on every access the
    two witnesses are served by the OS supplied for each run -/
theorem C12_witnesses_fixed :
    specVerdicts reviewedInventory fixedFacts cexScript cexReal = [true, true] ∧
    specVerdicts reviewedInventory fixedFacts cexScript cexOther = [true, true] := by
  simp only [specVerdicts_clean _ no_unmediated_sink]
  decide +kernel

/-! ## What holds for every run: the partial theorem under the guard -/

/-- the implementations the host supplied for a run on `vm` with context OS `c` -/
def accOf (vm : VM) (c : Option OSId) : List OSId :=
  suppliedFor { supplied := vm.os, gfOK := true } c

theorem getOS_mem_acc (vm : VM) (c : Option OSId) (hc : hostOpt c = true) (hv : hostOpt vm.os = true)
    (hne : accOf vm c ≠ []) :
    (getOS codeFacts vm { os := c }).isHost = true ∧ getOS codeFacts vm { os := c } ∈ accOf vm c := by
  rw [getOS_code]
  cases c with
  | some o =>
    simp only [hostOpt] at hc
    simp [accOf, suppliedFor, hc]
  | none =>
    cases hvo : vm.os with
    | some o =>
      rw [hvo] at hv
      simp only [hostOpt] at hv
      simp [accOf, suppliedFor, hvo, hv]
    | none => simp [accOf, suppliedFor, hvo] at hne

/-- For every VM, every host context and every program (any nesting): if the
    host supplied an OS for the run (with `WithOS`, possibly inherited through `Clone`, or in the
    context), the file in `gf` (if any) was opened by a supplied implementation, and the guard
    `staleStd` is false (no stream attribute the program reads is remembered from a run under an
    OS that is not supplied now), then every observation of the run — top level, spawned
    goroutines, clone-calls, imported modules — is a call on an implementation the host supplied
    for this run; nothing reaches the real operating system. -/
theorem C12_partial_run (p : Prog) (vm : VM) (c : Option OSId) (cache : Cache) (gfFile : Bool)
    (hc : hostOpt c = true) (hv : hostOpt vm.os = true) (hne : accOf vm c ≠ [])
    (hgf : ∀ g, vm.gf = some g → g.isHost = true ∧ (g ∈ accOf vm c ∨ gfFile = true))
    (hguard : staleStd (accOf vm c) cache p = false)
    (hcache : ∀ s ∈ p.streams, ∀ h, cache.get s = some h → h.isHost = true) :
    (exec reviewedInventory codeFacts vm (entryCtx codeFacts vm c) cache p).1.all
      (Obs.mediatedBy (accOf vm c) gfFile) = true := by
  have hr := getOS_mem_acc vm c hc hv hne
  have hctx := entryCtx_os vm c
  have key := exec_closed reviewedInventory no_unmediated_sink
    (fun o call => o.isHost = true ∧ (o ∈ accOf vm c ∨ (gfFile = true ∧ call.m.isFile = true)))
    (getOS codeFacts vm { os := c }) (fun _ => ⟨hr.1, Or.inl hr.2⟩) p vm _ cache hctx
    (fun g hg call hcall => ⟨(hgf g hg).1, (hgf g hg).2.elim Or.inl (fun h => Or.inr ⟨h, hcall⟩)⟩)
    (fun s hs h hget _ => by
      refine ⟨hcache s hs h hget, Or.inl ?_⟩
      simp only [staleStd, List.any_eq_false] at hguard
      have := hguard s hs
      simp only [hget] at this
      simpa using this)
  rw [List.all_eq_true]
  intro ob hob
  have := key ob hob
  cases ob with
  | direct s => exact absurd this (by simp [ObsIn])
  | via o call =>
    simp only [ObsIn] at this
    simp only [Obs.mediatedBy, Bool.and_eq_true, Bool.or_eq_true, List.contains_eq_mem,
      decide_eq_true_eq]
    exact ⟨this.1, this.2.elim Or.inl (fun h => Or.inr ⟨h.1, h.2⟩)⟩

/-! ## A machine reused through risor's top-level API, and callbacks fired by the host later -/

/-- `risor.Eval` / `EvalCode` / `Call` on an existing machine (`risor.WithVM`)
    without `risor.WithOS` leave the machine exactly as it was: the OS it was built with (or was
    given by an earlier evaluation) stays in force.  With `risor.WithOS(o)` the machine's OS
    becomes `o` and nothing else changes. -/
theorem eval_keeps_os (vm : VM) :
    applyCfg codeFacts vm none = vm ∧
    ∀ o, (applyCfg codeFacts vm (some o)).os = some o ∧ (applyCfg codeFacts vm (some o)).gf = vm.gf := by
  refine ⟨rfl, fun o => ⟨rfl, rfl⟩⟩

/-- For every machine, however it came by its OS, every program (any nesting)
    and every host context: an evaluation through `risor.Eval` / `EvalCode` / `Call` with
    `risor.WithVM(vm)` that names **no** OS is served exactly as a plain run of that machine would
    be — under the hypotheses of `C12_partial_run` every observation, in every execution context,
    is a call on an implementation the host supplied (the machine's own OS or the one in the
    context); an OS given to the machine earlier is not lost by re-entering it. -/
theorem C12_partial_eval (p : Prog) (vm : VM) (c : Option OSId) (cache : Cache) (gfFile : Bool)
    (hc : hostOpt c = true) (hv : hostOpt vm.os = true) (hne : accOf vm c ≠ [])
    (hgf : ∀ g, vm.gf = some g → g.isHost = true ∧ (g ∈ accOf vm c ∨ gfFile = true))
    (hguard : staleStd (accOf vm c) cache p = false)
    (hcache : ∀ s ∈ p.streams, ∀ h, cache.get s = some h → h.isHost = true) :
    (exec reviewedInventory codeFacts (applyCfg codeFacts vm none)
        (entryCtx codeFacts (applyCfg codeFacts vm none) c) cache p).1.all
      (Obs.mediatedBy (accOf vm c) gfFile) = true := by
  rw [(eval_keeps_os vm).1]
  exact C12_partial_run p vm c cache gfFile hc hv hne hgf hguard hcache

/-- the context of a callback that Go code fires through the clone-call function of `vm` with a
    context of its own carries the OS that context holds, else the machine's, else the real one —
    never "nothing": `clone.initContext` resolves it anew for every such call -/
theorem foreignCtx_os (vm : VM) (c : Option OSId) :
    (foreignCtx codeFacts vm c).os = some (getOS codeFacts vm { os := c }) := by
  rw [foreignCtx_code]
  exact entryCtx_os vm c

/-- A script function that the host's Go code calls through the
    clone-call function (`object.GetCloneCallFunc`) of machine `vm` — at any later time, from any
    goroutine, with **any context of its own** (one that does not derive from an evaluation context
    and carries the OS `c` or none: an http request's context, a scheduler's, `Background()`): if the
    host supplied an OS (the machine's `WithOS`, which the clone inherits, or in that context) then
    under the hypotheses of `C12_partial_run` every observation of the callback and of everything it
    calls, spawns, clone-calls or imports is a call on a supplied implementation. -/
theorem C12_partial_callback (p : Prog) (vm : VM) (c : Option OSId) (cache : Cache) (gfFile : Bool)
    (hc : hostOpt c = true) (hv : hostOpt vm.os = true) (hne : accOf vm c ≠ [])
    (hgf : ∀ g, vm.gf = some g → g.isHost = true ∧ (g ∈ accOf vm c ∨ gfFile = true))
    (hguard : staleStd (accOf vm c) cache p = false)
    (hcache : ∀ s ∈ p.streams, ∀ h, cache.get s = some h → h.isHost = true) :
    (exec reviewedInventory codeFacts (clone codeFacts vm) (foreignCtx codeFacts vm c) cache p).1.all
      (Obs.mediatedBy (accOf vm c) gfFile) = true := by
  rw [foreignCtx_code, clone_code]
  exact C12_partial_run p vm c cache gfFile hc hv hne hgf hguard hcache

/-! ## Histories: nothing ever reaches the real OS when every run is supplied -/

/-- pool, shared file and module cache hold nothing but host implementation objects -/
def StateOK (s : HState) : Prop :=
  (∀ v ∈ s.pool, hostOpt v.os = true ∧ hostOpt v.gf = true) ∧
  (∀ st h, s.cache.get st = some h → h.isHost = true)

/-- the host supplied an OS for the executing event reached in state `s` -/
def suppliedEv (s : HState) : Ev → Bool
  | .run c => c.isSome || s.vm.os.isSome
  | .call c => c.isSome || s.vm.os.isSome
  | .evalWith o c => o.isSome || c.isSome || s.vm.os.isSome
  | .apiCall o c => o.isSome || c.isSome || s.vm.os.isSome
  | .callback c => c.isSome || s.vm.os.isSome
  | _ => true

/-- every executing event of the history is supplied (evaluated along the history, since whether
    the current VM has an OS depends on how it was created, cloned and re-optioned before) -/
def allSupplied (sc : Script) : HState → List Ev → Bool
  | _, [] => true
  | s, e :: es => suppliedEv s e && allSupplied sc (step reviewedInventory codeFacts sc s e).1 es

theorem vm_ok (s : HState) (h : StateOK s) : hostOpt s.vm.os = true ∧ hostOpt s.vm.gf = true := by
  unfold HState.vm
  rw [List.getD_eq_getElem?_getD]
  cases hg : s.pool[s.cur]? with
  | none => simp [hostOpt]
  | some v => exact h.1 v (List.mem_of_getElem? hg)

theorem resolved_host (vm : VM) (c : Option OSId) (hc : hostOpt c = true) (hv : hostOpt vm.os = true)
    (hs : (c.isSome || vm.os.isSome) = true) : (getOS codeFacts vm { os := c }).isHost = true := by
  rw [getOS_code]
  cases c with
  | some o => simpa [hostOpt] using hc
  | none =>
    cases hvo : vm.os with
    | some o => rw [hvo] at hv; simpa [hostOpt] using hv
    | none => simp [hvo] at hs

theorem exec_host (p : Prog) (vm : VM) (c : Option OSId) (cache : Cache)
    (hr : (getOS codeFacts vm { os := c }).isHost = true) (hgf : hostOpt vm.gf = true)
    (hcache : ∀ st h, cache.get st = some h → h.isHost = true) :
    (∀ ob ∈ (exec reviewedInventory codeFacts vm (entryCtx codeFacts vm c) cache p).1,
        ObsIn (fun o _ => o.isHost = true) ob) ∧
    (∀ st h, (exec reviewedInventory codeFacts vm (entryCtx codeFacts vm c) cache p).2.get st = some h →
        h.isHost = true) := by
  have hctx := entryCtx_os vm c
  refine ⟨exec_closed reviewedInventory no_unmediated_sink _ _ (fun _ => hr) p vm _ cache hctx
    (fun g hg _ _ => by rw [hg] at hgf; simpa [hostOpt] using hgf)
    (fun s _ h hget _ => hcache s h hget), ?_⟩
  intro st h hget
  cases exec_cache_mono reviewedInventory _ p vm _ cache hctx st h hget with
  | inl h1 => exact hcache st h h1
  | inr h1 => rw [h1]; exact hr

theorem setVM_ok (s : HState) (v : VM) (cache : Cache) (h : StateOK s)
    (hv : hostOpt v.os = true ∧ hostOpt v.gf = true)
    (hc : ∀ st h, cache.get st = some h → h.isHost = true) :
    StateOK { s.setVM v with cache := cache } := by
  refine ⟨?_, hc⟩
  intro w hw
  simp only [HState.setVM] at hw
  cases List.mem_or_eq_of_mem_set hw with
  | inl h1 => exact h.1 w h1
  | inr h1 => rw [h1]; exact hv

theorem runTop_host (sc : Script) (vm : VM) (c : Option OSId) (cache : Cache)
    (hr : (getOS codeFacts vm { os := c }).isHost = true)
    (hv : hostOpt vm.os = true ∧ hostOpt vm.gf = true)
    (hcache : ∀ st h, cache.get st = some h → h.isHost = true) :
    (∀ ob ∈ (runTop reviewedInventory codeFacts sc vm c cache).2.1, ObsIn (fun o _ => o.isHost = true) ob) ∧
    (hostOpt (runTop reviewedInventory codeFacts sc vm c cache).1.os = true ∧
      hostOpt (runTop reviewedInventory codeFacts sc vm c cache).1.gf = true) ∧
    (∀ st h, (runTop reviewedInventory codeFacts sc vm c cache).2.2.get st = some h → h.isHost = true) := by
  have hb : builtinOS codeFacts (entryCtx codeFacts vm c) = getOS codeFacts vm { os := c } := by
    simp [builtinOS, entryCtx, codeFacts, initContext]
  unfold runTop
  by_cases hp : sc.pre = true
  · simp only [hp, if_true]
    have hvm' : getOS codeFacts { vm with gf := some (builtinOS codeFacts (entryCtx codeFacts vm c)) } { os := c }
        = getOS codeFacts vm { os := c } := by simp [getOS_code]
    have hctx' : entryCtx codeFacts { vm with gf := some (builtinOS codeFacts (entryCtx codeFacts vm c)) } c
        = entryCtx codeFacts vm c := by simp [entryCtx, initContext, codeFacts, getOS, getOSFrom]
    have he := exec_host sc.body { vm with gf := some (builtinOS codeFacts (entryCtx codeFacts vm c)) } c cache
      (by rw [hvm']; exact hr) (by simp [hostOpt, hb, hr]) hcache
    rw [hctx'] at he
    refine ⟨?_, ⟨hv.1, by simp [hostOpt, hb, hr]⟩, he.2⟩
    intro ob hob
    have hob' : ob = Obs.via (builtinOS codeFacts (entryCtx codeFacts vm c)) openGF ∨
        ob ∈ (exec reviewedInventory codeFacts
          { vm with gf := some (builtinOS codeFacts (entryCtx codeFacts vm c)) }
          (entryCtx codeFacts vm c) cache sc.body).1 := by
      simpa [effectfulDirect_nil reviewedInventory no_unmediated_sink] using hob
    cases hob' with
    | inl h1 => rw [h1, hb]; exact hr
    | inr h1 => exact he.1 ob h1
  · have hp' : sc.pre = false := by simpa using hp
    simp only [hp', Bool.false_eq_true, if_false]
    have he := exec_host sc.body vm c cache hr hv.2 hcache
    exact ⟨he.1, hv, he.2⟩

/-- a top-level run through the API (`applyCfg` first) on a clean machine for which something is
    supplied: only calls on host objects, and machine and module cache stay clean -/
theorem runTop_cfg_host (sc : Script) (vm : VM) (o c : Option OSId) (cache : Cache)
    (hv : hostOpt vm.os = true ∧ hostOpt vm.gf = true) (ho : hostOpt o = true) (hc : hostOpt c = true)
    (hs : (o.isSome || c.isSome || vm.os.isSome) = true)
    (hcache : ∀ st h, cache.get st = some h → h.isHost = true) :
    (getOS codeFacts (applyCfg codeFacts vm o) { os := c }).isHost = true ∧
    (∀ ob ∈ (runTop reviewedInventory codeFacts sc (applyCfg codeFacts vm o) c cache).2.1,
        ObsIn (fun o _ => o.isHost = true) ob) ∧
    (hostOpt (runTop reviewedInventory codeFacts sc (applyCfg codeFacts vm o) c cache).1.os = true ∧
      hostOpt (runTop reviewedInventory codeFacts sc (applyCfg codeFacts vm o) c cache).1.gf = true) ∧
    (∀ st h, (runTop reviewedInventory codeFacts sc (applyCfg codeFacts vm o) c cache).2.2.get st = some h →
        h.isHost = true) := by
  cases o with
  | none =>
    have hr := resolved_host vm c hc hv.1 (by simpa using hs)
    exact ⟨hr, runTop_host sc vm c cache hr hv hcache⟩
  | some x =>
    have hx : x.isHost = true := by simpa [hostOpt] using ho
    have hv0 : hostOpt ({ vm with os := some x } : VM).os = true ∧
        hostOpt ({ vm with os := some x } : VM).gf = true := ⟨by simpa [hostOpt] using hx, hv.2⟩
    have hr := resolved_host { vm with os := some x } c hc hv0.1 (by simp)
    exact ⟨hr, runTop_host sc { vm with os := some x } c cache hr hv0 hcache⟩

/-- one event keeps the state clean and, if it executes, produces only calls on host objects -/
theorem step_host (sc : Script) (s : HState) (e : Ev) (hs : StateOK s) (hwf : e.wf = true)
    (hsup : suppliedEv s e = true) :
    StateOK (step reviewedInventory codeFacts sc s e).1 ∧
    ∀ ob ∈ (step reviewedInventory codeFacts sc s e).2.getD [], ObsIn (fun o _ => o.isHost = true) ob := by
  have hvm := vm_ok s hs
  cases e with
  | new o =>
    refine ⟨⟨?_, hs.2⟩, fun ob hob => by simp [step] at hob⟩
    intro v hv
    simp only [step, List.mem_singleton] at hv
    rw [hv]
    exact ⟨by simpa [Ev.wf] using hwf, by simp [hostOpt]⟩
  | run c =>
    have hr := resolved_host s.vm c (by simpa [Ev.wf] using hwf) hvm.1 (by simpa [suppliedEv] using hsup)
    have h := runTop_host sc s.vm c s.cache hr hvm hs.2
    exact ⟨setVM_ok s _ _ hs h.2.1 h.2.2, h.1⟩
  | call c =>
    have hr := resolved_host s.vm c (by simpa [Ev.wf] using hwf) hvm.1 (by simpa [suppliedEv] using hsup)
    have h := exec_host sc.body s.vm c s.cache hr hvm.2 hs.2
    exact ⟨⟨hs.1, h.2⟩, h.1⟩
  | clone =>
    refine ⟨⟨?_, hs.2⟩, fun ob hob => by simp [step] at hob⟩
    intro v hv
    simp only [step, List.mem_append, List.mem_singleton] at hv
    cases hv with
    | inl h1 => exact hs.1 v h1
    | inr h1 => rw [h1, clone_os, clone_gf]; exact hvm
  | root => exact ⟨⟨hs.1, hs.2⟩, fun ob hob => by simp [step] at hob⟩
  | runWith o c =>
    have hwf' : o.isHost = true ∧ hostOpt c = true := by simpa [Ev.wf] using hwf
    have hv0 : hostOpt ({ s.vm with os := some o } : VM).os = true ∧
        hostOpt ({ s.vm with os := some o } : VM).gf = true := ⟨by simpa [hostOpt] using hwf'.1, hvm.2⟩
    have hr := resolved_host { s.vm with os := some o } c hwf'.2 hv0.1 (by simp)
    have h := runTop_host sc { s.vm with os := some o } c s.cache hr hv0 hs.2
    exact ⟨setVM_ok s _ _ hs h.2.1 h.2.2, h.1⟩
  | evalWith o c =>
    have hwf' : hostOpt o = true ∧ hostOpt c = true := by simpa [Ev.wf] using hwf
    have h := runTop_cfg_host sc s.vm o c s.cache hvm hwf'.1 hwf'.2 (by simpa [suppliedEv] using hsup) hs.2
    exact ⟨setVM_ok s _ _ hs h.2.2.1 h.2.2.2, h.2.1⟩
  | apiCall o c =>
    have hwf' : hostOpt o = true ∧ hostOpt c = true := by simpa [Ev.wf] using hwf
    have h := runTop_cfg_host sc s.vm o c s.cache hvm hwf'.1 hwf'.2 (by simpa [suppliedEv] using hsup) hs.2
    -- the machine after the top-level code has the same OS; `entry()` then runs on it
    have hr2 : (getOS codeFacts (runTop reviewedInventory codeFacts sc (applyCfg codeFacts s.vm o) c s.cache).1
        { os := c }).isHost = true := by
      have := h.1
      rw [getOS_code] at this ⊢
      rw [runTop_os]
      exact this
    have h2 := exec_host sc.body (runTop reviewedInventory codeFacts sc (applyCfg codeFacts s.vm o) c s.cache).1
      c (runTop reviewedInventory codeFacts sc (applyCfg codeFacts s.vm o) c s.cache).2.2 hr2 h.2.2.1.2 h.2.2.2
    refine ⟨setVM_ok s _ _ hs h.2.2.1 h2.2, fun ob hob => ?_⟩
    exact (List.mem_append.1 hob).elim (h.2.1 ob) (h2.1 ob)
  | callback c =>
    have hr := resolved_host s.vm c (by simpa [Ev.wf] using hwf) hvm.1 (by simpa [suppliedEv] using hsup)
    have h := exec_host sc.body s.vm c s.cache hr hvm.2 hs.2
    simp only [step, foreignCtx_code, clone_code]
    exact ⟨⟨hs.1, h.2⟩, h.1⟩

/-- For every script and every host history of any length (create,
    run, call, clone, switch, re-option, in any order) in which every run is supplied with an OS —
    by the `WithOS` option of the VM it runs on (directly or inherited through any chain of
    `Clone`s) or in its context — **no observation of any run is on the real operating system**:
    every one is a call on an implementation object of the host, in every execution context.
    The history may re-enter a machine through `risor.Eval` / `EvalCode` / `Call` + `WithVM` with or
    without `WithOS` (`evalWith`, `apiCall`) and may fire callbacks through a kept clone-call
    function with foreign contexts (`callback`).
    (What can still go wrong, and does — `C12_counterexample_other_os` — is that a stream
    attribute is served by the implementation supplied for an *earlier* run.) -/
theorem C12_partial_never_real (sc : Script) (evs : List Ev) :
    ∀ (s : HState), StateOK s → evs.all Ev.wf = true → allSupplied sc s evs = true →
      ∀ t ∈ runHist reviewedInventory codeFacts sc s evs, ∀ ob ∈ t, ObsIn (fun o _ => o.isHost = true) ob := by
  induction evs with
  | nil => intro s _ _ _ t ht; simp [runHist] at ht
  | cons e es ih =>
    intro s hs hwf hsup t ht
    simp only [List.all_cons, Bool.and_eq_true] at hwf
    simp only [allSupplied, Bool.and_eq_true] at hsup
    have hstep := step_host sc s e hs hwf.1 hsup.1
    have hrest := ih (step reviewedInventory codeFacts sc s e).1 hstep.1 hwf.2 hsup.2
    unfold runHist at ht
    cases hr : step reviewedInventory codeFacts sc s e with
    | mk s' r =>
      rw [hr] at ht hstep hrest
      cases r with
      | none => exact hrest t ht
      | some t0 =>
        simp only [List.mem_cons] at ht
        cases ht with
        | inl h1 => rw [h1]; exact hstep.2
        | inr h1 => exact hrest t h1

/-- the initial state is clean -/
theorem initState_ok : StateOK initState := by
  refine ⟨fun v hv => by simp [initState] at hv, ?_⟩
  intro st h hget
  cases st <;> simp [initState, Cache.get, Cache.empty] at hget

/-! ## Non-vacuity -/

-- a supplied history through every context kind, with all four routes
example : allSupplied { pre := false, body := .spawn (.imp (.cloneCall (.call (.op .os_getenv)))) } initState
    [.new (some (.host 0)), .run none, .clone, .call none, .runWith (.host 1) (some (.host 2))] = true := by decide +kernel
example : runHist reviewedInventory codeFacts { pre := false, body := .spawn (.imp (.op .os_getenv)) } initState
    [.new (some (.host 0)), .run none, .clone, .call none] =
    [[.via (.host 0) ⟨.getenv, ["$0"]⟩], [.via (.host 0) ⟨.getenv, ["$0"]⟩]] := by
  rw [runHist_clean _ no_unmediated_sink]
  decide +kernel
-- the guard is satisfiable with a non-empty cache and a program that reads the stream
example : staleStd [.host 0] { sin := none, sout := some (.host 0), serr := none } (.spawn (.op .os_stdout_write)) = false := by
  decide +kernel
example : accOf { os := some (.host 0), gf := none } none ≠ [] := by decide +kernel
-- without the clone copying the OS the property would fail in a cloned VM (the extractor reads this fact)
example : runHist reviewedInventory { codeFacts with cloneCopiesOS := false } { pre := false, body := .op .os_getenv }
    initState [.new (some (.host 0)), .run none, .clone, .call none] =
    [[.via (.host 0) ⟨.getenv, ["$0"]⟩], [.via .real ⟨.getenv, ["$0"]⟩]] := by
  rw [runHist_clean _ no_unmediated_sink]
  decide +kernel


-- a machine built with an OS, re-entered through the API without naming one, then called back by the
-- host with a bare context of its own: every run is supplied, every run is served by that OS
example : allSupplied { pre := false, body := .spawn (.op .os_getenv) } initState
    [.new (some (.host 0)), .run none, .evalWith none none, .apiCall none none, .callback none] = true := by decide +kernel
example : runHist reviewedInventory codeFacts { pre := false, body := .spawn (.op .os_getenv) } initState
    [.new (some (.host 0)), .run none, .evalWith none none, .callback none, .callback (some (.host 1))] =
    [[.via (.host 0) ⟨.getenv, ["$0"]⟩], [.via (.host 0) ⟨.getenv, ["$0"]⟩], [.via (.host 0) ⟨.getenv, ["$0"]⟩],
     [.via (.host 1) ⟨.getenv, ["$0"]⟩]] := by
  rw [runHist_clean _ no_unmediated_sink]
  decide +kernel
-- were `Config.VMOpts` to pass `vm.WithOS(cfg.os)` unconditionally, re-entering the machine without
-- `risor.WithOS` would wipe its OS and the run would reach the real one (the extractor reads this fact)
example : runHist reviewedInventory { codeFacts with cfgOSOnlyIfSet := false } { pre := false, body := .op .os_getenv }
    initState [.new (some (.host 0)), .run none, .evalWith none none] =
    [[.via (.host 0) ⟨.getenv, ["$0"]⟩], [.via .real ⟨.getenv, ["$0"]⟩]] := by
  rw [runHist_clean _ no_unmediated_sink]
  decide +kernel
-- were `cloneCallSync` not to re-initialise the context, a callback fired with a foreign context would
-- find no OS at all, although spawn/clone-call *inside* a run would still see it
example : runHist reviewedInventory { codeFacts with cloneCallInits := false, spawnInits := false }
    { pre := false, body := .cloneCall (.spawn (.op .os_getenv)) }
    initState [.new (some (.host 0)), .run none, .callback none] =
    [[.via (.host 0) ⟨.getenv, ["$0"]⟩], [.via .real ⟨.getenv, ["$0"]⟩]] := by
  rw [runHist_clean _ no_unmediated_sink]
  decide +kernel

end Risor.C12
