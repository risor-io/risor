import RisorModel.C12.Model
import RisorModel.C12.Virtual
import RisorModel.Generated.C12
/-!
C12 ties: what the extractor read from `/repo` on this run equals the reviewed tables and facts
the theorems in `Props.lean` are stated over.
-/
namespace Risor.C12

/-- `getOS` precedence, `initContext`, the entry points, `Clone`, `cloneCallAsync`, `cloneCallSync`,
    `importModule`, `GetDefaultOS`, `DynamicAttr.ResolveAttr`, and the way risor's top-level API
    configures an existing machine (`Config.VMOpts` passes `vm.WithOS` only for an OS that was
    given; `Eval`/`EvalCode`/`Call` → `RunCodeOnVM`/`RunCode` → `applyOptions`; `vm.WithOS` assigns
    `vm.os`) are written as reviewed -/
theorem facts_tie : Risor.Generated.C12.facts = codeFacts := rfl

/-- E9: the functions of modules/{os,filepath,fmt}, builtins, object/file*.go that touch an OS, their
    direct uses of OS-touching Go packages and the OS-interface methods they call are as reviewed -/
theorem inventory_tie : Risor.Generated.C12.inventory = reviewedInventory := rfl

/-- every script-visible function or attribute of the os, filepath and fmt modules (`Module()` and
    `Builtins()` tables) is implemented by a Go function that the operation table exercises -/
theorem exports_covered :
    (Risor.Generated.C12.exports.all fun e => allOps.any fun o => o.goFn == e.2) = true := by
  decide +kernel

/-- the functions of os/virtual.go and of the files a `VirtualOS` hands out (nil_file.go, buffer_file.go,
    in_memory_file.go) use exactly the reviewed members of OS-touching Go packages: the constant
    `os.PathSeparator` in two methods and nothing else — in particular `VirtualOS.Exit` uses none -/
theorem virtual_sinks_tie : Risor.Generated.C12.virtualSinks = V.reviewedVSinks := rfl

end Risor.C12
