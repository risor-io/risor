import RisorModel.C12.Model
/-!
C12 helper lemmas: resolution facts for the reviewed code, the operation tables as enumerations
of the constructors of `Op`, the independence of a run from a clean inventory, and the propagation
invariant `exec_closed` (by induction over programs: every nesting of call / spawn / clone-call /
import).
-/
namespace Risor.C12

/-- every observation is a call `c` on an OS `o` with `S o c` (in particular none is a direct sink) -/
def ObsIn (S : OSId → Call → Prop) : Obs → Prop
  | .via o c => S o c
  | .direct _ => False

theorem getOS_code (vm : VM) (ctx : Ctx) :
    getOS codeFacts vm ctx = match ctx.os with
      | some o => o
      | none => match vm.os with
        | some o => o
        | none => .real := by
  simp only [getOS, codeFacts, getOSFrom]
  cases ctx.os <;> cases vm.os <;> rfl

theorem getOS_of_ctx (vm : VM) (ctx : Ctx) (r : OSId) (h : ctx.os = some r) :
    getOS codeFacts vm ctx = r := by
  rw [getOS_code, h]

theorem initContext_os (vm : VM) (ctx : Ctx) :
    (initContext codeFacts vm ctx).os = some (getOS codeFacts vm ctx) := by
  simp [initContext, codeFacts]

theorem initContext_of_ctx (vm : VM) (ctx : Ctx) (r : OSId) (h : ctx.os = some r) :
    (initContext codeFacts vm ctx).os = some r := by
  rw [initContext_os, getOS_of_ctx vm ctx r h]

theorem builtinOS_of_ctx (ctx : Ctx) (r : OSId) (h : ctx.os = some r) :
    builtinOS codeFacts ctx = r := by
  simp [builtinOS, codeFacts, h]

theorem clone_os (vm : VM) : (clone codeFacts vm).os = vm.os := by
  simp [clone, codeFacts]

theorem clone_gf (F : Facts) (vm : VM) : (clone F vm).gf = vm.gf := rfl

/-- as far as the OS is concerned a clone is its original -/
theorem clone_code (vm : VM) : clone codeFacts vm = vm := by
  cases vm; simp [clone, codeFacts]

/-- the configuration of an API evaluation, applied to an existing machine by the code as it is:
    a named OS replaces the machine's, no named OS leaves it alone -/
theorem applyCfg_code (vm : VM) (o : Option OSId) :
    applyCfg codeFacts vm o = match o with
      | some x => { vm with os := some x }
      | none => vm := by
  cases o <;> rfl

/-- a callback fired through the clone-call function with a foreign context runs under the same
    context as a `Call` of the VM with that context would: `clone.initContext` resolves the OS anew -/
theorem foreignCtx_code (vm : VM) (c : Option OSId) :
    foreignCtx codeFacts vm c = entryCtx codeFacts vm c := by
  unfold foreignCtx entryCtx
  rw [clone_code]
  rfl

/-- an entry point (`Run`, `RunCode`, `Call`) installs the resolved OS in the context -/
theorem entryCtx_os (vm : VM) (c : Option OSId) :
    (entryCtx codeFacts vm c).os = some (getOS codeFacts vm { os := c }) := by
  simp [entryCtx, codeFacts, initContext]

theorem runTop_os (inv : List FnEntry) (F : Facts) (sc : Script) (vm : VM) (c : Option OSId) (cache : Cache) :
    (runTop inv F sc vm c cache).1.os = vm.os := by
  unfold runTop
  split <;> rfl

/-- a clean inventory produces no direct-sink observation for any function -/
theorem effectfulDirect_nil (inv : List FnEntry) (hinv : inv.all entryClean = true) (fn : String) :
    effectfulDirect inv fn = [] := by
  unfold effectfulDirect
  cases h : lookupFn inv fn with
  | none => rfl
  | some e =>
    have hmem : e ∈ inv := List.mem_of_find?_eq_some h
    have hc : entryClean e = true := (List.all_eq_true.1 hinv) e hmem
    simp only [entryClean, Bool.and_eq_true, List.all_eq_true] at hc
    simp only [List.filter_eq_nil_iff]
    intro s hs
    have := hc.2 s hs
    simpa using this

theorem directObs_nil (inv : List FnEntry) (hinv : inv.all entryClean = true) (o : Op) :
    directObs inv o = [] := by
  simp [directObs, effectfulDirect_nil inv hinv]

/-! ## A clean inventory contributes nothing: every run is as with the empty inventory

Evaluating a run against an empty inventory involves none of the inventory's strings. -/

theorem opObs_clean (inv : List FnEntry) (hinv : inv.all entryClean = true) (F : Facts) (vm : VM)
    (ctx : Ctx) (cache : Cache) (o : Op) : opObs inv F vm ctx cache o = opObs [] F vm ctx cache o := by
  simp only [opObs, directObs_nil inv hinv, directObs_nil [] rfl]

theorem exec_clean (inv : List FnEntry) (hinv : inv.all entryClean = true) (F : Facts) (p : Prog) :
    ∀ vm ctx cache, exec inv F vm ctx cache p = exec [] F vm ctx cache p := by
  induction p with
  | skip => intros; rfl
  | op o => exact fun vm ctx cache => opObs_clean inv hinv F vm ctx cache o
  | seq a b iha ihb => intros; simp only [exec, iha, ihb]
  | call p ih | spawn p ih | cloneCall p ih | imp p ih => intros; simp only [exec, ih]

theorem runTop_clean (inv : List FnEntry) (hinv : inv.all entryClean = true) (F : Facts) (sc : Script)
    (vm : VM) (c : Option OSId) (cache : Cache) :
    runTop inv F sc vm c cache = runTop [] F sc vm c cache := by
  simp only [runTop, exec_clean inv hinv, effectfulDirect_nil inv hinv, effectfulDirect_nil [] rfl]

theorem step_clean (inv : List FnEntry) (hinv : inv.all entryClean = true) (F : Facts) (sc : Script)
    (s : HState) (e : Ev) : step inv F sc s e = step [] F sc s e := by
  cases e <;> simp only [step, runTop_clean inv hinv, exec_clean inv hinv]

theorem runHist_clean (inv : List FnEntry) (hinv : inv.all entryClean = true) (F : Facts) (sc : Script)
    (evs : List Ev) : ∀ s, runHist inv F sc s evs = runHist [] F sc s evs := by
  induction evs with
  | nil => intro; rfl
  | cons e es ih => intro s; simp only [runHist, step_clean inv hinv, ih]

theorem specVerdicts_clean (inv : List FnEntry) (hinv : inv.all entryClean = true) (F : Facts)
    (sc : Script) (evs : List Ev) : specVerdicts inv F sc evs = specVerdicts [] F sc evs := by
  simp only [specVerdicts, runHist_clean inv hinv]

/-! ## The operation tables -/

/-- a list that enumerates the constructors number `a`, …, `a + n - 1` of `Op` in their order of
    declaration holds every operation whose constructor number lies in that range -/
theorem mem_of_ctorIdx {l : List Op} {a n : Nat} (hl : l = (List.range' a n).map Op.ofNat) (o : Op)
    (h₁ : a ≤ o.ctorIdx) (h₂ : o.ctorIdx < a + n) : o ∈ l := by
  rw [hl, ← Op.ofNat_ctorIdx o]
  exact List.mem_map_of_mem (List.mem_range'_1.2 ⟨h₁, h₂⟩)

theorem allOps_eq : allOps = (List.range' 0 208).map Op.ofNat := by decide +kernel

/-- the metacharacter operations are the last 88 constructors -/
theorem shellOps_eq : shellOps = (List.range' 120 88).map Op.ofNat := by decide +kernel

/-- `allOps` is the complete list of operations -/
theorem allOps_complete (o : Op) : o ∈ allOps :=
  mem_of_ctorIdx allOps_eq o (Nat.zero_le _) (by cases o <;> decide)

/-- a Boolean sweep over `allOps` speaks of every operation -/
theorem forall_op {p : Op → Bool} (h : allOps.all p = true) (o : Op) : p o = true :=
  List.all_eq_true.1 h o (allOps_complete o)

theorem cache_get_set (c : Cache) (s s' : Stream) (r h : OSId) (hget : (c.set s r).get s' = some h) :
    c.get s' = some h ∨ h = r := by
  cases s <;> cases s' <;> simp only [Cache.set, Cache.get, Option.some.injEq] at hget ⊢ <;>
    first
      | exact Or.inl hget
      | exact Or.inr hget.symm

/-- one operation never changes what the module object remembers except by adding the context's OS -/
theorem opObs_cache_mono (inv : List FnEntry) (r : OSId) (o : Op) (vm : VM) (ctx : Ctx) (cache : Cache)
    (hctx : ctx.os = some r) (s : Stream) (h : OSId)
    (hget : (opObs inv codeFacts vm ctx cache o).2.get s = some h) : cache.get s = some h ∨ h = r := by
  have hb : builtinOS codeFacts ctx = r := builtinOS_of_ctx ctx r hctx
  unfold opObs at hget
  cases hs : o.stdAttr with
  | some st =>
    have hcf : codeFacts.dynAttrCaches = true := rfl
    simp only [hs, hcf, if_true] at hget
    cases hg : cache.get st with
    | some held => simp only [hg] at hget; exact Or.inl hget
    | none => simp only [hg, hb] at hget; exact cache_get_set cache st s r h hget
  | none =>
    simp only [hs] at hget
    by_cases hu : o.usesGF = true
    · simp only [hu, if_true] at hget
      cases hg : vm.gf with
      | some g => simp only [hg] at hget; exact Or.inl hget
      | none => simp only [hg] at hget; exact Or.inl hget
    · have hu' : o.usesGF = false := by simpa using hu
      simp only [hu', Bool.false_eq_true, if_false] at hget
      exact Or.inl hget

theorem exec_cache_mono (inv : List FnEntry) (r : OSId) (p : Prog) :
    ∀ (vm : VM) (ctx : Ctx) (cache : Cache), ctx.os = some r → ∀ (s : Stream) (h : OSId),
      (exec inv codeFacts vm ctx cache p).2.get s = some h → cache.get s = some h ∨ h = r := by
  induction p with
  | skip => intro vm ctx cache _ s h hget; exact Or.inl hget
  | op o => intro vm ctx cache hctx s h hget; exact opObs_cache_mono inv r o vm ctx cache hctx s h hget
  | seq a b iha ihb =>
    intro vm ctx cache hctx s h hget
    have hb := ihb vm ctx (exec inv codeFacts vm ctx cache a).2 hctx s h hget
    cases hb with
    | inl h1 => exact iha vm ctx cache hctx s h h1
    | inr h1 => exact Or.inr h1
  | call p ih => intro vm ctx cache hctx s h hget; exact ih vm ctx cache hctx s h hget
  | spawn p ih =>
    intro vm ctx cache hctx s h hget
    exact ih (clone codeFacts vm) (initContext codeFacts (clone codeFacts vm) ctx) cache
      (initContext_of_ctx _ ctx r hctx) s h (by simpa [exec, codeFacts] using hget)
  | cloneCall p ih =>
    intro vm ctx cache hctx s h hget
    exact ih (clone codeFacts vm) (initContext codeFacts (clone codeFacts vm) ctx) cache
      (initContext_of_ctx _ ctx r hctx) s h (by simpa [exec, codeFacts] using hget)
  | imp p ih =>
    intro vm ctx cache hctx s h hget
    exact ih vm ctx cache hctx s h (by simpa [exec, codeFacts] using hget)

/-- one operation under a context that carries the OS `r`: its observations are calls on `r`, file
    calls on the OS that opened `gf`, or calls on the OS the module object remembers for a stream
    attribute the operation reads; no direct sink -/
theorem opObs_closed (inv : List FnEntry) (hinv : inv.all entryClean = true) (S : OSId → Call → Prop)
    (r : OSId) (hr : ∀ c, S r c) (o : Op) (vm : VM) (ctx : Ctx) (cache : Cache)
    (hctx : ctx.os = some r) (hgf : ∀ g, vm.gf = some g → ∀ c, c.m.isFile = true → S g c)
    (hc : ∀ s ∈ o.stdAttr.toList, ∀ h, cache.get s = some h → ∀ c, S h c) :
    ∀ ob ∈ (opObs inv codeFacts vm ctx cache o).1, ObsIn S ob := by
  have hb : builtinOS codeFacts ctx = r := builtinOS_of_ctx ctx r hctx
  have hd : directObs inv o = [] := directObs_nil inv hinv o
  unfold opObs
  cases hs : o.stdAttr with
  | some s =>
    have hcf : codeFacts.dynAttrCaches = true := rfl
    simp only [hcf, if_true]
    cases hg : cache.get s with
    | some held =>
      simp only [hd, List.append_nil]
      intro ob hob
      simp only [List.mem_map] at hob
      obtain ⟨c, _, rfl⟩ := hob
      exact hc s (by simp [hs]) held hg c
    | none =>
      simp only [hd, List.append_nil, hb]
      intro ob hob
      simp only [List.mem_map] at hob
      obtain ⟨c, _, rfl⟩ := hob
      exact hr c
  | none =>
    simp only
    by_cases hu : o.usesGF = true
    · simp only [hu, if_true]
      cases hg : vm.gf with
      | some g =>
        simp only [hd, List.append_nil]
        intro ob hob
        simp only [List.mem_map, List.mem_filter] at hob
        obtain ⟨c, hcm, rfl⟩ := hob
        exact hgf g hg c hcm.2
      | none =>
        simp only [hd]
        intro ob hob
        simp at hob
    · have hu' : o.usesGF = false := by simpa using hu
      simp only [hu', hd, List.append_nil, hb]
      intro ob hob
      simp only [Bool.false_eq_true, if_false, List.mem_map] at hob
      obtain ⟨c, _, rfl⟩ := hob
      exact hr c

/-- **Propagation invariant.**  For every program — any nesting, to any depth, of function calls,
    callbacks, deferred calls, spawned goroutines, clone-calls and imported modules — executed in
    any VM under a context whose `risor:os` value is `r`: every observation is a call on `r`, a
    file call on the OS that opened the file in `gf`, or a call on the OS the module object
    remembered for a stream attribute the program reads; no direct sink is reached. -/
theorem exec_closed (inv : List FnEntry) (hinv : inv.all entryClean = true) (S : OSId → Call → Prop)
    (r : OSId) (hr : ∀ c, S r c) (p : Prog) :
    ∀ (vm : VM) (ctx : Ctx) (cache : Cache),
      ctx.os = some r → (∀ g, vm.gf = some g → ∀ c, c.m.isFile = true → S g c) →
      (∀ s ∈ p.streams, ∀ h, cache.get s = some h → ∀ c, S h c) →
      ∀ ob ∈ (exec inv codeFacts vm ctx cache p).1, ObsIn S ob := by
  induction p with
  | skip => intro vm ctx cache _ _ _ ob hob; simp [exec] at hob
  | op o => intro vm ctx cache hctx hgf hc; exact opObs_closed inv hinv S r hr o vm ctx cache hctx hgf hc
  | seq a b iha ihb =>
    intro vm ctx cache hctx hgf hc ob hob
    simp only [exec, List.mem_append] at hob
    cases hob with
    | inl h =>
      exact iha vm ctx cache hctx hgf (fun s hs => hc s (by simp [Prog.streams, hs])) ob h
    | inr h =>
      refine ihb vm ctx (exec inv codeFacts vm ctx cache a).2 hctx hgf ?_ ob h
      intro s hs held hget c
      cases exec_cache_mono inv r a vm ctx cache hctx s held hget with
      | inl h1 => exact hc s (by simp [Prog.streams, hs]) held h1 c
      | inr h1 => rw [h1]; exact hr c
  | call p ih => intro vm ctx cache hctx hgf hc; exact ih vm ctx cache hctx hgf hc
  | spawn p ih =>
    intro vm ctx cache hctx hgf hc
    have h := ih (clone codeFacts vm) (initContext codeFacts (clone codeFacts vm) ctx) cache
      (initContext_of_ctx _ ctx r hctx) (by rw [clone_gf]; exact hgf) hc
    simpa [exec, codeFacts] using h
  | cloneCall p ih =>
    intro vm ctx cache hctx hgf hc
    have h := ih (clone codeFacts vm) (initContext codeFacts (clone codeFacts vm) ctx) cache
      (initContext_of_ctx _ ctx r hctx) (by rw [clone_gf]; exact hgf) hc
    simpa [exec, codeFacts] using h
  | imp p ih =>
    intro vm ctx cache hctx hgf hc
    have h := ih vm ctx cache hctx hgf hc
    simpa [exec, codeFacts] using h

end Risor.C12
