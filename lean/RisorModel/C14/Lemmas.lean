import RisorModel.C14.Model
import RisorModel.C13.Props
/-!
Helper lemmas for C14.

Part B first: a generic "every step of the import machinery respects the relation R"
theorem (`execStmts_rel`, `importModule_rel`), followed by its four instances (run-once; one code
object per globals array; the importer; sessions of several VMs), which `Props.lean` uses.
Part A, about path texts and the recogniser of module names, stands at the end.
-/
namespace Risor.C14
open Risor.C13 (Path split joinSep cleanStr join2 isAbs)

/-! ## Part B: relational induction over the state machine -/

/-- what a relation between the state before and after must satisfy at statement level.
    `Own st g`: "the executing VM may store into globals array `g`" — the array of the frame that
    executes the statements and the arrays the VM has loaded (what a module function stores into,
    `St.fnArray`); relations that do not care take `fun _ _ => True` (`anyArray`). -/
structure RelOK (Own : St → Nat → Prop) (R : St → St → Prop) : Prop where
  refl : ∀ st, R st st
  trans : ∀ {a b c}, R a b → R b c → R a c
  store : ∀ st g k v, Own st g → R st (st.store g k v)
  spawn : ∀ st st1 : St, R { st with spawns := st.spawns + 1, importing := [] } st1 →
    R st { st1 with cache := st.cache, loaded := st.loaded, importing := st.importing }
  own_mono : ∀ {st st' : St} (g : Nat), R st st' → Own st g → Own st' g
  own_fn : ∀ (st : St) (o g : Nat), st.fnArray o = some g → Own st g

def anyArray : St → Nat → Prop := fun _ _ => True

variable {R : St → St → Prop} {Own : St → Nat → Prop}

theorem bindItems_rel (hR : RelOK Own R) (all : List (Path × Path)) (g : Nat) :
    ∀ (items : List (Path × Path)) (ps : List Val) (st : St), Own st g →
      R st (bindItems all g items ps st).1 := by
  intro items
  induction items with
  | nil => intro ps st _; simp only [bindItems]; exact hR.refl st
  | cons it rest ih =>
    intro ps st hg
    cases ps with
    | nil => simp only [bindItems]; exact hR.refl st
    | cons v ps =>
      obtain ⟨nm, al⟩ := it
      simp only [bindItems]
      have h1 := hR.store st g (aliasOf all nm) v hg
      exact hR.trans h1 (ih ps _ (hR.own_mono g h1 hg))

theorem fromOne_rel (hR : RelOK Own R) (imp : ImpFn) (himp : ∀ d st n, R st (imp d st n).2)
    (env : Env) (depth : Nat) (parent nm : Path) (st : St) :
    R st (fromOne imp env depth parent nm st).2 := by
  simp only [fromOne]
  have h1 := himp depth st (parent ++ 47 :: nm)
  split
  · exact h1
  · exact h1
  · have h2 := himp depth (imp depth st (parent ++ 47 :: nm)).2 parent
    split
    · split
      · exact hR.trans h1 h2
      · exact hR.trans h1 h2
    · exact hR.trans h1 h2

theorem fromLoop_rel (hR : RelOK Own R) (imp : ImpFn) (himp : ∀ d st n, R st (imp d st n).2)
    (env : Env) (depth : Nat) (parent : Path) :
    ∀ (names : List Path) (st : St) (ps : List Val),
      R st (fromLoop imp env depth parent names st ps).2 := by
  intro names
  induction names with
  | nil => intro st ps; simp only [fromLoop]; exact hR.refl st
  | cons nm rest ih =>
    intro st ps
    simp only [fromLoop]
    have h1 := fromOne_rel hR imp himp env depth parent nm st
    split
    · exact hR.trans h1 (ih _ _)
    · exact h1

theorem execStmt_rel (hR : RelOK Own R) (imp : ImpFn) (himp : ∀ d st n, R st (imp d st n).2)
    (env : Env) (g depth : Nat) (st : St) (s : Stmt) (hg : Own st g) :
    R st (execStmt imp env g depth st s).2 := by
  cases s with
  | imp name alias =>
    simp only [execStmt]
    split
    · exact hR.trans (himp depth st name) (hR.store _ g alias _ (hR.own_mono g (himp depth st name) hg))
    · exact himp depth st name
  | fromImp parent items =>
    simp only [execStmt]
    have hl := fromLoop_rel hR imp himp env depth parent (items.map (·.1)).reverse st []
    split
    · exact hR.trans hl (bindItems_rel hR items g items _ _ (hR.own_mono g hl hg))
    · exact hl
  | set var val => simp only [execStmt]; exact hR.store st g var _ hg
  | setVia alias var val =>
    simp only [execStmt]
    split
    · split
      · rename_i hf; exact hR.store st _ var _ (hR.own_fn st _ _ hf)
      · exact hR.refl st
    · exact hR.refl st
  | addVia alias var k =>
    simp only [execStmt]
    split
    · split
      · rename_i hf
        split
        · exact hR.store st _ var _ (hR.own_fn st _ _ hf)
        · exact hR.refl st
      · exact hR.refl st
    · exact hR.refl st
  | newList var => simp only [execStmt]; exact hR.store st g var _ hg
  | pushVia alias var v =>
    simp only [execStmt]
    split
    · split
      · rename_i hf
        split
        · exact hR.store st _ var _ (hR.own_fn st _ _ hf)
        · exact hR.refl st
      · exact hR.refl st
    · exact hR.refl st
  | tryImp name =>
    simp only [execStmt]
    split
    · exact hR.refl st
    · split <;> exact himp (depth + 1) st name
  | spawnImp name =>
    simp only [execStmt]
    have h := hR.spawn st _ (himp 1 { st with spawns := st.spawns + 1, importing := [] } name)
    split <;> exact h
  | fail => simp only [execStmt]; exact hR.refl st

theorem execStmts_rel (hR : RelOK Own R) (imp : ImpFn) (himp : ∀ d st n, R st (imp d st n).2)
    (env : Env) (g depth : Nat) :
    ∀ (ss : List Stmt) (st : St), Own st g → R st (execStmts imp env g depth ss st).2 := by
  intro ss
  induction ss with
  | nil => intro st _; simp only [execStmts]; exact hR.refl st
  | cons s rest ih =>
    intro st hg
    simp only [execStmts]
    have h := execStmt_rel hR imp himp env g depth st s hg
    split
    · exact hR.trans h (ih _ (hR.own_mono g h hg))
    · exact h

/-- what a relation must satisfy at the steps of `vm.importModule` (for the importer
    configured in `env`) -/
structure ImpOK (env : Env) (Own : St → Nat → Prop) (R : St → St → Prop) : Prop where
  rel : RelOK Own R
  /-- a module body may store into the array its code is loaded with (the fields `St.enter`
      changes — logs, `objs`, `importing` — do not matter) -/
  own_body : ∀ (st : St) name c g, (c, g) ∈ st.loaded → Own (st.enter name g) g
  nofuel : ∀ (st : St) name, R st (({ st with nofuel := true } : St).fail name)
  refuse : ∀ (st : St) name, R st (st.refuse name)
  opens : ∀ (st : St) name, R st (st.noteOpens env name)
  compiled : ∀ (st : St) name, R st (st.noteCompiled env name)
  load : ∀ (st : St) c, R st (st.loadCode c)
  overflow : ∀ (st : St) name, R st (st.fail name)
  /-- the body: entered from `st3` (where `name` is neither cached nor being imported, the
      importer returned the code object `c` for it and that code is loaded with the globals
      array `gid`), evaluated, left, then cached -/
  bodyOk : ∀ (st3 st5 : St) name gid, st3.cache.lookup name = none → name ∉ st3.importing →
    (∃ c, (name, c) ∈ st3.compiled ∧ (c, gid) ∈ st3.loaded) →
    (∃ c, st3.loaded.lookup c = some gid) →
    R (st3.enter name gid) st5 →
    R st3 (st5.leave.cacheAdd name st3.objs.length)
  bodyFail : ∀ (st3 st5 : St) name gid, st3.cache.lookup name = none → name ∉ st3.importing →
    (∃ c, (name, c) ∈ st3.compiled ∧ (c, gid) ∈ st3.loaded) →
    (∃ c, st3.loaded.lookup c = some gid) →
    R (st3.enter name gid) st5 →
    R st3 (st5.leave.fail name)

theorem noteOpens_cache (st : St) (env : Env) (n : Path) : (st.noteOpens env n).cache = st.cache := by
  unfold St.noteOpens; split <;> rfl
theorem noteCompiled_cache (st : St) (env : Env) (n : Path) : (st.noteCompiled env n).cache = st.cache := by
  unfold St.noteCompiled; split
  · rfl
  · split <;> rfl
theorem loadCode_cache (st : St) (c : Nat) : (st.loadCode c).cache = st.cache := by
  unfold St.loadCode; split <;> rfl
theorem loadCode_compiled (st : St) (c : Nat) : (st.loadCode c).compiled = st.compiled := by
  unfold St.loadCode; split <;> rfl
theorem noteOpens_importing (st : St) (env : Env) (n : Path) : (st.noteOpens env n).importing = st.importing := by
  unfold St.noteOpens; split <;> rfl
theorem noteCompiled_importing (st : St) (env : Env) (n : Path) :
    (st.noteCompiled env n).importing = st.importing := by
  unfold St.noteCompiled; split
  · rfl
  · split <;> rfl
theorem loadCode_importing (st : St) (c : Nat) : (st.loadCode c).importing = st.importing := by
  unfold St.loadCode; split <;> rfl

theorem lookup_mem {κ α : Type} [BEq κ] [LawfulBEq κ] (l : List (κ × α)) (k : κ) (v : α)
    (h : l.lookup k = some v) : (k, v) ∈ l := by
  obtain ⟨l₁, l₂, rfl, -⟩ := List.lookup_eq_some_iff.1 h
  simp

theorem loadCode_lookup (st : St) (c : Nat) : (st.loadCode c).loaded.lookup c = some (st.gidOf c) := by
  unfold St.loadCode St.gidOf
  split
  · rename_i g hg
    simp only [hg, Option.getD_some]
  · rename_i hg
    simp [hg, List.lookup]

theorem loadCode_mem (st : St) (c : Nat) : (c, st.gidOf c) ∈ (st.loadCode c).loaded := by
  unfold St.loadCode St.gidOf
  split
  · rename_i g hg
    simp only [hg, Option.getD_some]
    exact lookup_mem _ _ _ hg
  · rename_i hg
    simp [hg]

/-- after `importer.Import(name)` compiled (or found) the module, the code object it returns
    is the one its by-name cache holds -/
theorem noteCompiled_mem (st : St) (env : Env) (n : Path) :
    (n, (st.noteCompiled env n).codeOf n) ∈ (st.noteCompiled env n).compiled := by
  unfold St.noteCompiled
  split
  · rename_i c hc
    simp only [St.codeOf, hc, Option.getD_some]
    exact lookup_mem _ _ _ hc
  · split <;> simp [St.codeOf, List.lookup]

theorem importModule_rel {R : St → St → Prop} {Own : St → Nat → Prop} (env : Env) (hR : ImpOK env Own R) :
    ∀ (fuel : Nat) (depth : Nat) (st : St) (name : Path),
      R st (importModule env fuel depth st name).2 := by
  intro fuel
  induction fuel with
  | zero => intro depth st name; simp only [importModule]; exact hR.nofuel st name
  | succ fuel ih =>
    intro depth st name
    have hrel := hR.rel
    simp only [importModule]
    split
    · exact hrel.refl st
    · rename_i hmiss
      split
      · exact hR.refuse st name
      · rename_i hnotin
        have hni : name ∉ st.importing := by simpa using hnotin
        split
        · exact hR.opens st name
        · rename_i body hbody
          -- `st2`, the state when the importer has returned: the guards would still read what they read in `st`
          have h12 := hrel.trans (hR.opens st name) (hR.compiled (st.noteOpens env name) name)
          have hc2 := (noteCompiled_cache (st.noteOpens env name) env name).trans (noteOpens_cache st env name)
          have hi2 := (noteCompiled_importing (st.noteOpens env name) env name).trans (noteOpens_importing st env name)
          have hm2 := noteCompiled_mem (st.noteOpens env name) env name
          generalize (st.noteOpens env name).noteCompiled env name = st2 at *
          have h13 := hrel.trans h12 (hR.load st2 (st2.codeOf name))
          split
          · exact hrel.trans h13 (hR.overflow _ name)
          · have hc : (st2.loadCode (st2.codeOf name)).cache.lookup name = none := by
              rw [loadCode_cache, hc2]; exact hmiss
            have hi : name ∉ (st2.loadCode (st2.codeOf name)).importing := by
              rw [loadCode_importing, hi2]; exact hni
            have hm : ∃ c, (name, c) ∈ (st2.loadCode (st2.codeOf name)).compiled ∧
                (c, st2.gidOf (st2.codeOf name)) ∈ (st2.loadCode (st2.codeOf name)).loaded :=
              ⟨_, by rw [loadCode_compiled]; exact hm2, loadCode_mem _ _⟩
            have hb := execStmts_rel hR.rel (importModule env fuel) ih env
              (st2.gidOf (st2.codeOf name)) (depth + 1) body _ (hR.own_body _ name _ _ (loadCode_mem _ _))
            split
            · exact hrel.trans h13 (hR.bodyOk _ _ name _ hc hi hm ⟨_, loadCode_lookup _ _⟩ hb)
            · exact hrel.trans h13 (hR.bodyFail _ _ name _ hc hi hm ⟨_, loadCode_lookup _ _⟩ hb)

/-- a whole evaluation: the script's statements with the real import function -/
theorem run_rel {R : St → St → Prop} {Own : St → Nat → Prop} (env : Env) (hR : ImpOK env Own R) (fuel : Nat)
    (main : List Stmt) (h0 : Own St.init 0) : R St.init (run env fuel main).2 := by
  unfold run
  exact execStmts_rel hR.rel _ (fun d s n => importModule_rel env hR fuel d s n) env 0 0 main St.init h0

end Risor.C14

namespace Risor.C14
open Risor.C13 (Path)

/-! ### Instance 1: run-once.  Every executed body is cached or is being imported. -/

def J (st : St) : Prop :=
  (∀ n ∈ st.ticks, n ∈ st.cache.map (·.1) ∨ n ∈ st.importing) ∧ st.ticks.Nodup

/-- `vm.importing` is a stack (every step leaves it as it found it), the guard is monotone, and
    under the guard the invariant `J` is kept -/
def R2 (st st' : St) : Prop :=
  st'.importing = st.importing ∧ (Clean st' → Clean st) ∧ (Clean st' → J st → J st')

theorem lookup_none_not_mem' {α : Type} (l : List (Path × α)) (k : Path) (h : l.lookup k = none) :
    ∀ v, (k, v) ∉ l := fun v hv => by
  simpa using List.lookup_eq_none_iff.1 h (k, v) hv

theorem lookup_none_not_mem {α : Type} (l : List (Path × α)) (k : Path) (h : l.lookup k = none) :
    k ∉ l.map (·.1) := fun hk => by
  obtain ⟨p, hp, rfl⟩ := List.mem_map.1 hk
  exact lookup_none_not_mem' l _ h p.2 hp

theorem not_clean_fail (st : St) (n : Path) : ¬ Clean (st.fail n) := by
  intro h
  have := h.1
  simp [St.fail] at this

theorem R2_relOK : RelOK anyArray R2 where
  own_mono := fun _ _ _ => trivial
  own_fn := fun _ _ _ _ => trivial
  refl := fun _ => ⟨rfl, fun h => h, fun _ h => h⟩
  trans := fun h1 h2 => ⟨h2.1.trans h1.1, fun hc => h1.2.1 (h2.2.1 hc),
    fun hc hj => h2.2.2 hc (h1.2.2 (h2.2.1 hc) hj)⟩
  store := fun _ _ _ _ _ => ⟨rfl, fun h => h, fun _ h => h⟩
  spawn := by
    intro st st1 h
    have hfalse : Clean { st1 with cache := st.cache, loaded := st.loaded, importing := st.importing } → False := by
      intro hc
      have := (h.2.1 hc).2
      simp at this
    exact ⟨rfl, fun hc => (hfalse hc).elim, fun hc => (hfalse hc).elim⟩

theorem R2_impOK (env : Env) : ImpOK env anyArray R2 where
  rel := R2_relOK
  own_body := fun _ _ _ _ _ => trivial
  nofuel := fun st n => ⟨rfl, fun h => (not_clean_fail _ n h).elim, fun h => (not_clean_fail _ n h).elim⟩
  refuse := fun _ _ => ⟨rfl, fun h => h, fun _ h => h⟩
  opens := by
    intro st n
    unfold St.noteOpens
    split
    · exact ⟨rfl, fun h => h, fun _ h => h⟩
    · exact ⟨rfl, fun h => h, fun _ h => h⟩
  compiled := by
    intro st n
    unfold St.noteCompiled
    split
    · exact ⟨rfl, fun h => h, fun _ h => h⟩
    · split
      · exact ⟨rfl, fun h => h, fun _ h => h⟩
      · exact ⟨rfl, fun h => h, fun _ h => h⟩
  load := by
    intro st n
    unfold St.loadCode
    split
    · exact ⟨rfl, fun h => h, fun _ h => h⟩
    · exact ⟨rfl, fun h => h, fun _ h => h⟩
  overflow := fun st n => ⟨rfl, fun h => (not_clean_fail _ n h).elim, fun h => (not_clean_fail _ n h).elim⟩
  bodyFail := by
    intro st3 st5 n gid _ _ _ _ hb
    refine ⟨?_, fun h => (not_clean_fail _ n h).elim, fun h => (not_clean_fail _ n h).elim⟩
    show st5.importing.tail = st3.importing
    rw [hb.1]; rfl
  bodyOk := by
    intro st3 st5 name gid hmiss hni _ _ hb
    have himp5 : st5.importing = name :: st3.importing := hb.1
    have hc4 : Clean (st5.leave.cacheAdd name st3.objs.length) → Clean (st3.enter name gid) := fun hc => hb.2.1 hc
    have hc3 : Clean (st3.enter name gid) → Clean st3 := fun hc => hc
    refine ⟨?_, fun hc => hc3 (hc4 hc), ?_⟩
    · show st5.importing.tail = st3.importing
      rw [himp5]; rfl
    intro hc hj
    have hcE := hc4 hc
    have hnc : name ∉ st3.cache.map (·.1) := lookup_none_not_mem _ _ hmiss
    have hnt : name ∉ st3.ticks := by
      intro hin
      rcases hj.1 name hin with h | h
      · exact hnc h
      · exact hni h
    have hjE : J (st3.enter name gid) := by
      refine ⟨?_, ?_⟩
      · intro n hin
        simp only [St.enter, List.mem_append, List.mem_singleton] at hin
        rcases hin with hin | rfl
        · rcases hj.1 n hin with h | h
          · exact Or.inl h
          · exact Or.inr (List.mem_cons_of_mem _ h)
        · exact Or.inr (by simp [St.enter])
      · simp only [St.enter]
        rw [List.nodup_append]
        refine ⟨hj.2, by simp, ?_⟩
        intro a ha b hb'
        simp only [List.mem_singleton] at hb'
        subst hb'
        intro e; subst e; exact hnt ha
    have hj5 := hb.2.2 hc hjE
    refine ⟨?_, hj5.2⟩
    intro n hin
    have hin5 : n ∈ st5.ticks := hin
    rcases hj5.1 n hin5 with h | h
    · left; simp only [St.cacheAdd, St.leave, List.map_cons, List.mem_cons]; exact Or.inr h
    · rw [himp5] at h
      simp only [List.mem_cons] at h
      rcases h with rfl | h
      · left; simp [St.cacheAdd]
      · right
        show n ∈ st5.importing.tail
        rw [himp5]; exact h

/-! ### Instance 2: every globals array belongs to one code object; objects = body runs. -/

/-- globals-array ownership (the VM's side, whatever the importer does): arrays created by
    `loadCode` are never the script's (index 0) and exist, no array serves two code objects,
    every loaded code is recorded, and the array of every module object is the array of the
    code object the importer returned for the module's name -/
def K (st : St) : Prop :=
  (∀ p ∈ st.owner, 0 < p.2 ∧ p.2 < st.heap.length) ∧
  (∀ p ∈ st.owner, ∀ q ∈ st.owner, p.2 = q.2 → p.1 = q.1) ∧
  (∀ p ∈ st.loaded, p ∈ st.owner) ∧
  (∀ o ∈ st.objs, ∃ c, (o.1, c) ∈ st.compiled ∧ (c, o.2) ∈ st.owner) ∧
  0 < st.heap.length

/-- one module object per body execution, in the same order -/
def OT (st : St) : Prop := st.objs.map (·.1) = st.ticks

def R3 (st st' : St) : Prop :=
  (∀ p ∈ st.owner, p ∈ st'.owner) ∧ (K st → K st') ∧ (OT st → OT st')

theorem length_modifyAt {α : Type} (f : α → α) (n : Nat) (l : List α) :
    (modifyAt f n l).length = l.length := by
  induction l generalizing n with
  | nil => cases n <;> rfl
  | cons x xs ih => cases n <;> simp [modifyAt, ih]

theorem K_store (st : St) (g : Nat) (k : Path) (v : Val) (h : K st) : K (st.store g k v) := by
  obtain ⟨h1, h2, h3, h4, h5⟩ := h
  refine ⟨?_, h2, h3, h4, ?_⟩
  · intro p hp
    have := h1 p hp
    simpa [St.store, length_modifyAt] using this
  · simpa [St.store, length_modifyAt] using h5

theorem K_noteCompiled (st : St) (env : Env) (n : Path) (h : K st) : K (st.noteCompiled env n) := by
  obtain ⟨h1, h2, h3, h4, h5⟩ := h
  unfold St.noteCompiled
  split
  · exact ⟨h1, h2, h3, h4, h5⟩
  · have h4' : ∀ p, ∀ o ∈ st.objs, ∃ c, (o.1, c) ∈ p :: st.compiled ∧ (c, o.2) ∈ st.owner :=
      fun _ o ho => (h4 o ho).imp fun _ hc => ⟨List.mem_cons_of_mem _ hc.1, hc.2⟩
    split <;> exact ⟨h1, h2, h3, h4' _, h5⟩

theorem K_loadCode (st : St) (c : Nat) (h : K st) : K (st.loadCode c) := by
  unfold St.loadCode
  split
  · exact h
  · obtain ⟨h1, h2, h3, h4, h5⟩ := h
    refine ⟨?_, ?_, ?_, ?_, ?_⟩
    · intro p hp
      simp only [List.mem_cons, List.length_append, List.length_cons, List.length_nil] at hp ⊢
      rcases hp with rfl | hp
      · simp only; omega
      · have := h1 p hp; omega
    · intro p hp q hq hpq
      simp only [List.mem_cons] at hp hq
      rcases hp with rfl | hp <;> rcases hq with rfl | hq
      · rfl
      · have := (h1 q hq).2; simp only at hpq; omega
      · have := (h1 p hp).2; simp only at hpq; omega
      · exact h2 p hp q hq hpq
    · intro p hp
      simp only [List.mem_cons] at hp ⊢
      rcases hp with rfl | hp
      · exact Or.inl rfl
      · exact Or.inr (h3 p hp)
    · intro o ho
      obtain ⟨c', hc1, hc2⟩ := h4 o ho
      exact ⟨c', hc1, List.mem_cons_of_mem _ hc2⟩
    · simp only [List.length_append]; omega

theorem K_enter (st : St) (n : Path) (g : Nat)
    (hm : ∃ c, (n, c) ∈ st.compiled ∧ (c, g) ∈ st.loaded) (h : K st) :
    K (st.enter n g) := by
  obtain ⟨h1, h2, h3, h4, h5⟩ := h
  refine ⟨h1, h2, h3, ?_, h5⟩
  intro o ho
  simp only [St.enter, List.mem_append, List.mem_singleton] at ho
  rcases ho with ho | rfl
  · exact h4 o ho
  · obtain ⟨c, hc1, hc2⟩ := hm
    exact ⟨c, hc1, h3 _ hc2⟩

/-- entering a body keeps both invariants (leaving it, caching the module and logging a failure
    touch nothing they speak of) -/
theorem R3_body (st3 : St) {st5 : St} (name : Path) (gid : Nat)
    (hm : ∃ c, (name, c) ∈ st3.compiled ∧ (c, gid) ∈ st3.loaded) (hb : R3 (st3.enter name gid) st5) :
    R3 st3 st5 := by
  refine ⟨fun p hp => hb.1 p hp, fun hk => hb.2.1 (K_enter st3 name gid hm hk), fun ho => hb.2.2 ?_⟩
  simp only [OT, St.enter, List.map_append, List.map_cons, List.map_nil]
  rw [ho]

theorem R3_relOK : RelOK anyArray R3 where
  own_mono := fun _ _ _ => trivial
  own_fn := fun _ _ _ _ => trivial
  refl := fun _ => ⟨fun _ h => h, fun h => h, fun h => h⟩
  trans := fun h1 h2 => ⟨fun p hp => h2.1 p (h1.1 p hp), fun h => h2.2.1 (h1.2.1 h), fun h => h2.2.2 (h1.2.2 h)⟩
  store := fun st g k v _ => ⟨fun _ h => h, K_store st g k v, fun h => h⟩
  spawn := by
    intro st st1 h
    refine ⟨fun p hp => h.1 p hp, ?_, fun ho => h.2.2 ho⟩
    intro hk
    obtain ⟨k1, k2, k3, k4, k5⟩ := h.2.1 hk
    exact ⟨k1, k2, fun p hp => h.1 p (hk.2.2.1 p hp), k4, k5⟩

theorem R3_impOK (env : Env) : ImpOK env anyArray R3 where
  rel := R3_relOK
  own_body := fun _ _ _ _ _ => trivial
  nofuel := fun _ _ => ⟨fun _ h => h, fun h => h, fun h => h⟩
  refuse := fun _ _ => ⟨fun _ h => h, fun h => h, fun h => h⟩
  opens := by
    intro st n
    unfold St.noteOpens
    split <;> exact ⟨fun _ h => h, fun h => h, fun h => h⟩
  compiled := by
    intro st n
    refine ⟨?_, K_noteCompiled st env n, ?_⟩
    · unfold St.noteCompiled
      split
      · exact fun _ h => h
      · split <;> exact fun _ h => h
    · unfold St.noteCompiled
      split
      · exact fun h => h
      · split <;> exact fun h => h
  load := by
    intro st c
    refine ⟨?_, K_loadCode st c, ?_⟩
    · intro p hp
      unfold St.loadCode
      split
      · exact hp
      · exact List.mem_cons_of_mem _ hp
    · unfold St.loadCode
      split <;> exact fun h => h
  overflow := fun _ _ => ⟨fun _ h => h, fun h => h, fun h => h⟩
  bodyOk := fun st3 _ name gid _ _ hm _ hb => R3_body st3 name gid hm hb
  bodyFail := fun st3 _ name gid _ _ hm _ hb => R3_body st3 name gid hm hb

/-! ### Instance 3: the importer.  With separate compilation of every module path
    (`LocalImporter`), distinct paths never get the same code object. -/

/-- the importer's invariant: the by-name cache is injective on code identities and every
    identity in it was handed out by `parseAndCompile` (is below the allocation counter) -/
def ImporterInv (st : St) : Prop :=
  CodeInj st ∧ ∀ p ∈ st.compiled, p.2 < st.ncode

/-- one `Import` call of an importer that compiles every path separately keeps the invariant -/
theorem ImporterInv_noteCompiled (st : St) (env : Env) (hl : LocalImporter env) (n : Path)
    (h : ImporterInv st) : ImporterInv (st.noteCompiled env n) := by
  unfold St.noteCompiled
  split
  · exact h
  · rename_i hmiss
    rw [hl st.compiled n]
    obtain ⟨hi, hb⟩ := h
    refine ⟨?_, ?_⟩
    · intro p hp q hq hpq
      simp only [List.mem_cons] at hp hq
      rcases hp with rfl | hp <;> rcases hq with rfl | hq
      · rfl
      · have := hb q hq; simp only at hpq; omega
      · have := hb p hp; simp only at hpq; omega
      · exact hi p hp q hq hpq
    · intro p hp
      simp only [List.mem_cons] at hp
      rcases hp with rfl | hp
      · simp
      · have := hb p hp; simp only; omega

theorem ImporterInv_noteOpens (st : St) (env : Env) (n : Path) (h : ImporterInv st) :
    ImporterInv (st.noteOpens env n) := by
  unfold St.noteOpens; split <;> exact h

def R4 (st st' : St) : Prop := ImporterInv st → ImporterInv st'

theorem R4_relOK : RelOK anyArray R4 where
  own_mono := fun _ _ _ => trivial
  own_fn := fun _ _ _ _ => trivial
  refl := fun _ h => h
  trans := fun h1 h2 h => h2 (h1 h)
  store := fun _ _ _ _ _ h => h
  spawn := fun _ _ h hi => h hi

theorem R4_impOK (env : Env) (hl : LocalImporter env) : ImpOK env anyArray R4 where
  rel := R4_relOK
  own_body := fun _ _ _ _ _ => trivial
  nofuel := fun _ _ h => h
  refuse := fun _ _ h => h
  opens := fun st n h => ImporterInv_noteOpens st env n h
  compiled := fun st n h => ImporterInv_noteCompiled st env hl n h
  load := by
    intro st c h
    unfold St.loadCode
    split <;> exact h
  overflow := fun _ _ h => h
  bodyOk := fun _ _ _ _ _ _ _ _ hb h => hb h
  bodyFail := fun _ _ _ _ _ _ _ _ hb h => hb h

end Risor.C14

namespace Risor.C14
open Risor.C13 (Path)

theorem getElem?_modifyAt_ne {α : Type} (f : α → α) (n m : Nat) (l : List α) (h : m ≠ n) :
    (modifyAt f n l)[m]? = l[m]? := by
  induction l generalizing n m with
  | nil => cases n <;> rfl
  | cons x xs ih =>
    cases n with
    | zero =>
      cases m with
      | zero => exact absurd rfl h
      | succ m => simp [modifyAt]
    | succ n =>
      cases m with
      | zero => simp [modifyAt]
      | succ m => simp only [modifyAt, List.getElem?_cons_succ]; exact ih n m (by omega)

/-! ### Instance 4: sessions — what one VM's step does to the shared state -/

/-- the arrays a VM may store into: its script's array `m` and the arrays it has loaded -/
def OwnM (m : Nat) (st : St) (g : Nat) : Prop := g = m ∨ ∃ c, (c, g) ∈ st.loaded

/-- the invariant of one VM (registers loaded into `st`) over the shared state: every array any VM
    created exists; the VM's loaded arrays are recorded with their code; for every module the VM
    has imported, the array the module object is bound to is the array the VM has loaded for the
    module's code (attribute view = function view) -/
def W (st : St) : Prop :=
  (∀ p ∈ st.owner, p.2 < st.heap.length) ∧
  (∀ p ∈ st.loaded, p ∈ st.owner) ∧
  (∀ c g, st.loaded.lookup c = some g → st.codeOfGid g = some c) ∧
  (∀ p ∈ st.cache, ∃ nm g c, st.objs[p.2]? = some (nm, g) ∧ st.loaded.lookup c = some g)

structure R5 (m : Nat) (st st' : St) : Prop where
  objs : ∃ ext, st'.objs = st.objs ++ ext
  heap : st.heap.length ≤ st'.heap.length
  keep : ∀ c g, st.loaded.lookup c = some g → st'.loaded.lookup c = some g
  keepm : ∀ p ∈ st.loaded, p ∈ st'.loaded
  fresh : ∀ p ∈ st'.loaded, p ∈ st.loaded ∨ st.heap.length ≤ p.2
  newc : ∀ p ∈ st'.cache, p ∈ st.cache ∨ st.objs.length ≤ p.2
  own : ∀ p ∈ st.owner, p ∈ st'.owner
  stable : ∀ g, g < st.heap.length → st'.codeOfGid g = st.codeOfGid g
  w : W st → W st'
  frame : ∀ g, g < st.heap.length → ¬ OwnM m st g → st'.globals g = st.globals g

theorem W_congr {a b : St} (h1 : b.owner = a.owner) (h2 : b.heap.length = a.heap.length)
    (h3 : b.loaded = a.loaded) (h4 : b.cache = a.cache) (h5 : b.objs = a.objs) (h : W a) : W b := by
  unfold W St.codeOfGid at *
  rw [h1, h2, h3, h4, h5]
  exact h

/-- a step that changes neither objects, arrays, registers nor the ownership log -/
theorem R5_same (m : Nat) {a b : St} (h1 : b.owner = a.owner) (h2 : b.heap = a.heap)
    (h3 : b.loaded = a.loaded) (h4 : b.cache = a.cache) (h5 : b.objs = a.objs) : R5 m a b where
  objs := ⟨[], by simp [h5]⟩
  heap := by rw [h2]; exact Nat.le_refl _
  keep := by intro c g h; rw [h3]; exact h
  keepm := by intro p h; rw [h3]; exact h
  fresh := by intro p h; rw [h3] at h; exact Or.inl h
  newc := by intro p h; rw [h4] at h; exact Or.inl h
  own := by intro p h; rw [h1]; exact h
  stable := by intro g _; unfold St.codeOfGid; rw [h1]
  w := W_congr h1 (by rw [h2]) h3 h4 h5
  frame := by intro g _ _; unfold St.globals; rw [h2]

theorem R5_refl (m : Nat) (st : St) : R5 m st st := R5_same m rfl rfl rfl rfl rfl

theorem R5_trans (m : Nat) {a b c : St} (h1 : R5 m a b) (h2 : R5 m b c) : R5 m a c where
  objs := by
    obtain ⟨e1, he1⟩ := h1.objs
    obtain ⟨e2, he2⟩ := h2.objs
    exact ⟨e1 ++ e2, by rw [he2, he1, List.append_assoc]⟩
  heap := Nat.le_trans h1.heap h2.heap
  keep := fun c g h => h2.keep c g (h1.keep c g h)
  keepm := fun p h => h2.keepm p (h1.keepm p h)
  fresh := by
    intro p hp
    rcases h2.fresh p hp with h | h
    · exact h1.fresh p h
    · exact Or.inr (Nat.le_trans h1.heap h)
  newc := by
    intro p hp
    rcases h2.newc p hp with h | h
    · exact h1.newc p h
    · right
      obtain ⟨e1, he1⟩ := h1.objs
      have : a.objs.length ≤ b.objs.length := by rw [he1]; simp
      omega
  own := fun p h => h2.own p (h1.own p h)
  stable := by
    intro g hg
    rw [h2.stable g (Nat.lt_of_lt_of_le hg h1.heap), h1.stable g hg]
  w := fun h => h2.w (h1.w h)
  frame := by
    intro g hg hno
    have hb : ¬ OwnM m b g := by
      intro ho
      rcases ho with ho | ⟨c', hc'⟩
      · exact hno (Or.inl ho)
      · rcases h1.fresh _ hc' with h | h
        · exact hno (Or.inr ⟨c', h⟩)
        · simp only at h; omega
    rw [h2.frame g (Nat.lt_of_lt_of_le hg h1.heap) hb, h1.frame g hg hno]

theorem W_store (st : St) (g : Nat) (k : Path) (v : Val) (h : W st) : W (st.store g k v) :=
  W_congr (a := st) (b := st.store g k v) rfl (by simp [St.store, length_modifyAt]) rfl rfl rfl h

theorem R5_store (m : Nat) (st : St) (g : Nat) (k : Path) (v : Val) (hg : OwnM m st g) :
    R5 m st (st.store g k v) where
  objs := ⟨[], by simp [St.store]⟩
  heap := by simp [St.store, length_modifyAt]
  keep := fun _ _ h => h
  keepm := fun _ h => h
  fresh := fun _ h => Or.inl h
  newc := fun _ h => Or.inl h
  own := fun _ h => h
  stable := fun _ _ => rfl
  w := W_store st g k v
  frame := by
    intro g' _ hno
    have hne : g' ≠ g := by intro e; subst e; exact hno hg
    simp only [St.store, St.globals]
    rw [getElem?_modifyAt_ne _ _ _ _ hne]

theorem lookup_mem_nat {α : Type} (l : List (Nat × α)) (k : Nat) (v : α)
    (h : l.lookup k = some v) : (k, v) ∈ l := lookup_mem l k v h

theorem fnArray_loaded (st : St) (o g : Nat) (h : st.fnArray o = some g) : ∃ c, (c, g) ∈ st.loaded := by
  unfold St.fnArray at h
  split at h
  · split at h
    · rename_i c _
      exact ⟨c, lookup_mem _ _ _ h⟩
    · cases h
  · cases h

theorem getElem?_lt_of_some {α : Type} {l : List α} {i : Nat} {a : α} (h : l[i]? = some a) : i < l.length :=
  (List.getElem?_eq_some_iff.1 h).1

/-- another VM's invariant survives a step of the executing VM -/
theorem W_other (m : Nat) (st0 st' : St) (hR : R5 m st0 st') (hw0 : W st0) (u : VM)
    (hu : W (st0.withVM u)) : W (st'.withVM u) := by
  obtain ⟨b', _, _, _⟩ := hR.w hw0
  obtain ⟨b, l, v, ca⟩ := hu
  refine ⟨b', ?_, ?_, ?_⟩
  · intro p hp; exact hR.own p (l p hp)
  · intro c g hl
    have hg : g < st0.heap.length := b _ (l _ (lookup_mem _ _ _ hl))
    show st'.codeOfGid g = some c
    rw [hR.stable g hg]
    exact v c g hl
  · intro p hp
    obtain ⟨nm, g, c, ho, hl⟩ := ca p hp
    obtain ⟨ext, he⟩ := hR.objs
    have ho' : st0.objs[p.2]? = some (nm, g) := ho
    refine ⟨nm, g, c, ?_, hl⟩
    show st'.objs[p.2]? = some (nm, g)
    rw [he, List.getElem?_append_left (getElem?_lt_of_some ho')]
    exact ho'

theorem R5_spawn (m : Nat) (st st1 : St)
    (h : R5 m { st with spawns := st.spawns + 1, importing := [] } st1) :
    R5 m st { st1 with cache := st.cache, loaded := st.loaded, importing := st.importing } where
  objs := h.objs
  heap := h.heap
  keep := fun _ _ hl => hl
  keepm := fun _ hl => hl
  fresh := fun _ hl => Or.inl hl
  newc := fun _ hl => Or.inl hl
  own := h.own
  stable := h.stable
  -- the spawning VM's registers are put back: it is "another VM" for the steps of the thread
  w := fun hw => W_other m _ st1 h hw ⟨st.cache, st.loaded, 0, .ok⟩ hw
  frame := h.frame

theorem R5_relOK (m : Nat) : RelOK (OwnM m) (R5 m) where
  refl := R5_refl m
  trans := fun h1 h2 => R5_trans m h1 h2
  store := fun st g k v hg => R5_store m st g k v hg
  spawn := R5_spawn m
  own_mono := by
    intro st st' g h ho
    rcases ho with ho | ⟨c, hc⟩
    · exact Or.inl ho
    · exact Or.inr ⟨c, h.keepm _ hc⟩
  own_fn := fun st o g h => Or.inr (fnArray_loaded st o g h)

theorem lookup_cons_ne {α : Type} (l : List (Nat × α)) (k k' : Nat) (v : α) (h : k ≠ k') :
    ((k', v) :: l).lookup k = l.lookup k := by
  have : (k == k') = false := by simpa using h
  simp [List.lookup, this]

theorem codeOfGid_cons_ne (st : St) (c g g' : Nat) (h : g' ≠ g) :
    ({ st with owner := (c, g) :: st.owner } : St).codeOfGid g' = st.codeOfGid g' := by
  unfold St.codeOfGid
  have : ((c, g).2 == g') = false := by simp; exact fun e => h e.symm
  simp [List.find?, this]

theorem W_loadCode (st : St) (c : Nat) (h : W st) : W (st.loadCode c) := by
  unfold St.loadCode
  split
  · exact h
  · rename_i hmiss
    obtain ⟨b, l, v, ca⟩ := h
    refine ⟨?_, ?_, ?_, ?_⟩
    · intro p hp
      simp only [List.mem_cons, List.length_append, List.length_cons, List.length_nil] at hp ⊢
      rcases hp with rfl | hp
      · simp
      · have := b p hp; omega
    · intro p hp
      simp only [List.mem_cons] at hp ⊢
      rcases hp with rfl | hp
      · exact Or.inl rfl
      · exact Or.inr (l p hp)
    · intro c' g hl
      by_cases hc : c' = c
      · subst hc
        simp only [List.lookup, beq_self_eq_true] at hl
        cases hl
        simp [St.codeOfGid, List.find?]
      · rw [lookup_cons_ne _ _ _ _ hc] at hl
        have hg : g < st.heap.length := b _ (l _ (lookup_mem _ _ _ hl))
        have := codeOfGid_cons_ne st c st.heap.length g (by omega)
        simp only [St.codeOfGid] at this ⊢
        rw [this]
        exact v c' g hl
    · intro p hp
      obtain ⟨nm, g, c', ho, hl⟩ := ca p hp
      refine ⟨nm, g, c', ho, ?_⟩
      have hc : c' ≠ c := by intro e; subst e; rw [hmiss] at hl; cases hl
      show ((c, st.heap.length) :: st.loaded).lookup c' = some g
      rw [lookup_cons_ne _ _ _ _ hc]; exact hl

theorem R5_loadCode (m : Nat) (st : St) (c : Nat) : R5 m st (st.loadCode c) := by
  by_cases hl : st.loaded.lookup c = none
  · have e : st.loadCode c = ({ st with loaded := (c, st.heap.length) :: st.loaded, owner := (c, st.heap.length) :: st.owner, heap := st.heap ++ [[]] } : St) := by
      unfold St.loadCode; rw [hl]
    refine ⟨?_, ?_, ?_, ?_, ?_, ?_, ?_, ?_, W_loadCode st c, ?_⟩
    · exact ⟨[], by rw [e]; simp⟩
    · rw [e]; simp
    · intro c' g h
      rw [e]
      have hc : c' ≠ c := by intro e'; subst e'; rw [hl] at h; cases h
      show ((c, st.heap.length) :: st.loaded).lookup c' = some g
      rw [lookup_cons_ne _ _ _ _ hc]; exact h
    · intro p hp; rw [e]; exact List.mem_cons_of_mem _ hp
    · intro p hp
      rw [e] at hp
      simp only [List.mem_cons] at hp
      rcases hp with rfl | hp
      · exact Or.inr (Nat.le_refl _)
      · exact Or.inl hp
    · intro p hp; rw [e] at hp; exact Or.inl hp
    · intro p hp; rw [e]; exact List.mem_cons_of_mem _ hp
    · intro g hg
      rw [e]
      have := codeOfGid_cons_ne st c st.heap.length g (by omega)
      simp only [St.codeOfGid] at this ⊢
      exact this
    · intro g hg _
      rw [e]
      simp only [St.globals]
      rw [List.getElem?_append_left hg]
  · have e : st.loadCode c = st := by
      unfold St.loadCode
      cases h : st.loaded.lookup c with
      | none => exact absurd h hl
      | some g => rfl
    rw [e]; exact R5_refl m st

theorem W_enter (st : St) (name : Path) (gid : Nat) (h : W st) : W (st.enter name gid) := by
  obtain ⟨b, l, v, ca⟩ := h
  refine ⟨b, l, v, ?_⟩
  intro p hp
  obtain ⟨nm, g, c, ho, hl⟩ := ca p hp
  refine ⟨nm, g, c, ?_, hl⟩
  show (st.objs ++ [(name, gid)])[p.2]? = some (nm, g)
  rw [List.getElem?_append_left (getElem?_lt_of_some ho)]; exact ho

/-- after the body: the deferred restore, then `vm.modules[name] = module` / the failure log -/
theorem R5_body (m : Nat) (st3 st5 : St) (name : Path) (gid : Nat) (cacheIt : Bool)
    (hlk : ∃ c, st3.loaded.lookup c = some gid) (hb : R5 m (st3.enter name gid) st5) :
    R5 m st3 (if cacheIt then st5.leave.cacheAdd name st3.objs.length else st5.leave.fail name) := by
  obtain ⟨ext, he⟩ := hb.objs
  have he' : st5.objs = st3.objs ++ ((name, gid) :: ext) := by
    rw [he]; show (st3.objs ++ [(name, gid)]) ++ ext = _; simp
  have hidx : st5.objs[st3.objs.length]? = some (name, gid) := by rw [he']; simp
  have hw5 : W st3 → W st5 := fun hw => hb.w (W_enter st3 name gid hw)
  cases cacheIt with
  | false =>
    simp only [Bool.false_eq_true, ↓reduceIte]
    refine ⟨⟨_, he'⟩, hb.heap, hb.keep, hb.keepm, hb.fresh, ?_, hb.own, hb.stable, ?_, hb.frame⟩
    · intro p hp
      rcases hb.newc p hp with h | h
      · exact Or.inl h
      · right
        have : (st3.enter name gid).objs.length = st3.objs.length + 1 := by simp [St.enter]
        omega
    · intro hw
      exact W_congr (a := st5) (b := st5.leave.fail name) rfl rfl rfl rfl rfl (hw5 hw)
  | true =>
    simp only [↓reduceIte]
    refine ⟨⟨_, he'⟩, hb.heap, hb.keep, hb.keepm, hb.fresh, ?_, hb.own, hb.stable, ?_, hb.frame⟩
    · intro p hp
      simp only [St.cacheAdd, St.leave, List.mem_cons] at hp
      rcases hp with rfl | hp
      · exact Or.inr (Nat.le_refl _)
      · rcases hb.newc p hp with h | h
        · exact Or.inl h
        · right
          have : (st3.enter name gid).objs.length = st3.objs.length + 1 := by simp [St.enter]
          omega
    · intro hw
      obtain ⟨b, l, v, ca⟩ := hw5 hw
      refine ⟨b, l, v, ?_⟩
      intro p hp
      simp only [St.cacheAdd, St.leave, List.mem_cons] at hp
      rcases hp with rfl | hp
      · obtain ⟨c, hc⟩ := hlk
        exact ⟨name, gid, c, hidx, hb.keep c gid hc⟩
      · exact ca p hp

theorem R5_impOK (env : Env) (m : Nat) : ImpOK env (OwnM m) (R5 m) where
  rel := R5_relOK m
  own_body := fun _ _ c _ h => Or.inr ⟨c, h⟩
  nofuel := fun _ _ => R5_same m rfl rfl rfl rfl rfl
  refuse := fun _ _ => R5_same m rfl rfl rfl rfl rfl
  opens := by
    intro st n
    unfold St.noteOpens
    split <;> exact R5_same m rfl rfl rfl rfl rfl
  compiled := by
    intro st n
    unfold St.noteCompiled
    split
    · exact R5_refl m st
    · split <;> exact R5_same m rfl rfl rfl rfl rfl
  load := R5_loadCode m
  overflow := fun _ _ => R5_same m rfl rfl rfl rfl rfl
  bodyOk := fun st3 st5 name gid _ _ _ hlk hb => R5_body m st3 st5 name gid true hlk hb
  bodyFail := fun st3 st5 name gid _ _ _ hlk hb => R5_body m st3 st5 name gid false hlk hb

/-! ### sessions: the invariant over all VMs -/

structure SInv (n : Nat) (s : Sess) : Prop where
  len : s.vms.length = n
  heap : n ≤ s.sh.heap.length
  main : ∀ (i : Nat) (v : VM), s.vms[i]? = some v → v.main = i
  w : ∀ v ∈ s.vms, W (s.sh.withVM v)
  low : ∀ v ∈ s.vms, ∀ p ∈ v.loaded, n ≤ p.2
  disj : ∀ (i j : Nat) (vi vj : VM), i ≠ j → s.vms[i]? = some vi → s.vms[j]? = some vj →
    (∀ p ∈ vi.loaded, ∀ q ∈ vj.loaded, p.2 ≠ q.2) ∧ (∀ p ∈ vi.cache, ∀ q ∈ vj.cache, p.2 ≠ q.2)

theorem SInv_init (n : Nat) : SInv n (Sess.init n) where
  len := by simp [Sess.init]
  heap := by simp [Sess.init]
  main := by
    intro i v h
    simp only [Sess.init, List.getElem?_map] at h
    cases hr : (List.range n)[i]? with
    | none => simp [hr] at h
    | some e =>
      simp only [hr, Option.map_some, Option.some.injEq] at h
      have := List.getElem?_eq_some_iff.1 hr
      obtain ⟨_, he⟩ := this
      simp at he
      subst h; exact he.symm
  w := by
    intro v hv
    simp only [Sess.init, List.mem_map] at hv
    obtain ⟨e, _, rfl⟩ := hv
    refine ⟨?_, ?_, ?_, ?_⟩ <;> simp [Sess.init, St.withVM, St.init]
  low := by
    intro v hv
    simp only [Sess.init, List.mem_map] at hv
    obtain ⟨e, _, rfl⟩ := hv
    simp
  disj := by
    intro i j vi vj _ hi hj
    have hi' := List.mem_of_getElem? hi
    have hj' := List.mem_of_getElem? hj
    simp only [Sess.init, List.mem_map] at hi' hj'
    obtain ⟨_, _, rfl⟩ := hi'
    obtain ⟨_, _, rfl⟩ := hj'
    simp

/-- one step of a session keeps the invariant, for any import function that respects `R5` -/
theorem SInv_step (imp : ImpFn) (himp : ∀ m d st nm, R5 m st (imp d st nm).2) (env : Env) (n : Nat)
    (s : Sess) (e : Nat) (stmt : Stmt) (h : SInv n s) : SInv n (sessStep imp env s e stmt) := by
  unfold sessStep
  split
  · exact h
  · rename_i v hv
    split
    · have hvm : v ∈ s.vms := List.mem_of_getElem? hv
      have hR : R5 v.main (s.sh.withVM v) (execStmt imp env v.main 0 (s.sh.withVM v) stmt).2 :=
        execStmt_rel (R5_relOK v.main) imp (himp v.main) env v.main 0 _ stmt (Or.inl rfl)
      generalize (execStmt imp env v.main 0 (s.sh.withVM v) stmt) = r at hR
      have hw0 : W (s.sh.withVM v) := h.w v hvm
      have hw' : W r.2 := hR.w hw0
      have hlt : e < s.vms.length := getElem?_lt_of_some hv
      refine ⟨?_, ?_, ?_, ?_, ?_, ?_⟩
      · simp [h.len]
      · exact Nat.le_trans h.heap hR.heap
      · intro i u hu
        by_cases hie : e = i
        · subst hie
          rw [List.getElem?_set_self hlt] at hu
          cases hu
          exact h.main e v hv
        · rw [List.getElem?_set_ne hie] at hu
          exact h.main i u hu
      · intro u hu
        rcases List.mem_or_eq_of_mem_set hu with hu | rfl
        · exact W_other v.main _ _ hR hw0 u (h.w u hu)
        · exact W_congr (a := r.2) rfl rfl rfl rfl rfl hw'
      · intro u hu p hp
        rcases List.mem_or_eq_of_mem_set hu with hu | rfl
        · exact h.low u hu p hp
        · rcases hR.fresh p hp with hp | hp
          · exact h.low v hvm p hp
          · exact Nat.le_trans h.heap hp
      · -- the executing VM against another one
        have one : ∀ j vj, e ≠ j → s.vms[j]? = some vj →
            (∀ p ∈ r.2.loaded, ∀ q ∈ vj.loaded, p.2 ≠ q.2) ∧ (∀ p ∈ r.2.cache, ∀ q ∈ vj.cache, p.2 ≠ q.2) := by
          intro j vj hej hj
          have hd := h.disj e j v vj hej hv hj
          obtain ⟨bj, lj, _, cj⟩ := h.w vj (List.mem_of_getElem? hj)
          refine ⟨?_, ?_⟩
          · intro p hp q hq
            rcases hR.fresh p hp with hp | hp
            · exact hd.1 p hp q hq
            · have : q.2 < s.sh.heap.length := bj q (lj q hq)
              have hp' : s.sh.heap.length ≤ p.2 := hp
              omega
          · intro p hp q hq
            rcases hR.newc p hp with hp | hp
            · exact hd.2 p hp q hq
            · obtain ⟨_, _, _, ho, _⟩ := cj q hq
              have : q.2 < s.sh.objs.length := getElem?_lt_of_some ho
              have hp' : s.sh.objs.length ≤ p.2 := hp
              omega
        intro i j vi vj hij hi hj
        by_cases hie : e = i
        · subst hie
          rw [List.getElem?_set_self hlt] at hi
          cases hi
          rw [List.getElem?_set_ne hij] at hj
          exact one j vj hij hj
        · rw [List.getElem?_set_ne hie] at hi
          by_cases hje : e = j
          · subst hje
            rw [List.getElem?_set_self hlt] at hj
            cases hj
            have := one i vi hie hi
            exact ⟨fun p hp q hq => (this.1 q hq p hp).symm, fun p hp q hq => (this.2 q hq p hp).symm⟩
          · rw [List.getElem?_set_ne hje] at hj
            exact h.disj i j vi vj hij hi hj
    · exact h

theorem SInv_run (imp : ImpFn) (himp : ∀ m d st nm, R5 m st (imp d st nm).2) (env : Env) (n : Nat)
    (sched : List (Nat × Stmt)) : SInv n (sessRun imp env n sched) := by
  unfold sessRun
  have key : ∀ (sched : List (Nat × Stmt)) (s : Sess), SInv n s →
      SInv n (sched.foldl (fun s p => sessStep imp env s p.1 p.2) s) := by
    intro sched
    induction sched with
    | nil => intro s h; exact h
    | cons p rest ih => intro s h; exact ih _ (SInv_step imp himp env n s p.1 p.2 h)
  exact key sched _ (SInv_init n)

end Risor.C14

namespace Risor.C14
open Risor.C13

/-! ## Part A: path texts -/

theorem okFrom_append (a rest : Path) :
    ∀ s, okFrom s a = true → okFrom s (a ++ rest) = okFrom false rest := by
  induction a with
  | nil => intro s h; cases s <;> simp_all [okFrom]
  | cons c cs ih =>
    intro s h
    cases s with
    | true =>
      simp only [okFrom, Bool.and_eq_true] at h
      simp only [List.cons_append, okFrom, h.1.1, h.1.2, Bool.true_and]
      exact ih false h.2
    | false =>
      simp only [okFrom] at h
      simp only [List.cons_append, okFrom]
      split
      · rename_i hc; rw [if_pos hc] at h; exact ih true h
      · rename_i hc; rw [if_neg hc] at h; exact ih false h

theorem okFrom_false_sepfree (q : Path) (h : 47 ∉ q) : okFrom false q = true := by
  induction q with
  | nil => rfl
  | cons c cs ih =>
    simp only [List.mem_cons, not_or] at h
    have hc : c ≠ 47 := fun e => h.1 e.symm
    simp only [okFrom, hc, ↓reduceIte]
    exact ih h.2

theorem okFrom_true_false (p : Path) (h : okFrom true p = true) : okFrom false p = true := by
  cases p with
  | nil => simp [okFrom] at h
  | cons c cs =>
    simp only [okFrom, Bool.and_eq_true, bne_iff_ne, ne_eq] at h
    simp only [okFrom, h.1.1, ↓reduceIte]
    exact h.2

/-- a component that starts a file or directory name: non-empty, not starting with '.' -/
def PlainStart (c : Path) : Prop := c ≠ [] ∧ c.head? ≠ some 46

theorem plainStart_plain (c : Path) (h : PlainStart c) : plain c = true := by
  obtain ⟨h1, h2⟩ := h
  cases c with
  | nil => exact absurd rfl h1
  | cons x xs =>
    have hx : x ≠ 46 := by simpa using h2
    rw [plain_iff]
    refine ⟨by simp, ?_, ?_⟩
    · intro e; simp only [List.cons.injEq] at e; exact hx e.1
    · intro e; simp only [dotdot, List.cons.injEq] at e; exact hx e.1

theorem okFrom_split (p : Path) :
    (okFrom true p = true → ∀ c ∈ split p, PlainStart c) ∧
    (okFrom false p = true → ∀ c ∈ (split p).tail, PlainStart c) := by
  induction p with
  | nil => simp [okFrom, split]
  | cons x xs ih =>
    by_cases hx : x = 47
    · subst hx
      refine ⟨by simp [okFrom], ?_⟩
      intro h
      simp only [okFrom, ↓reduceIte] at h
      simpa [split] using ih.1 h
    · cases hs : split xs with
      | nil => exact absurd hs (split_ne_nil xs)
      | cons hd tl =>
        have hsp : split (x :: xs) = (x :: hd) :: tl := by
          rw [split]; simp only [hx, ↓reduceIte, hs]
        rw [hsp]
        rw [hs] at ih
        refine ⟨?_, ?_⟩
        · intro h
          simp only [okFrom, Bool.and_eq_true, bne_iff_ne, ne_eq] at h
          intro c hc
          simp only [List.mem_cons] at hc
          rcases hc with rfl | hc
          · exact ⟨by simp, by simpa using h.1.2⟩
          · exact ih.2 h.2 c (by simpa using hc)
        · intro h
          simp only [okFrom, hx, ↓reduceIte] at h
          simpa using ih.2 h

theorem nameOK_good (p : Path) (h : nameOK p = true) : Good (split p) := by
  intro c hc
  exact ⟨plainStart_plain c ((okFrom_split p).1 h c hc), split_sepfree p c hc⟩

theorem joinSep_split (p : Path) : joinSep (split p) = p := by
  induction p with
  | nil => simp [split, joinSep]
  | cons x xs ih =>
    cases hs : split xs with
    | nil => exact absurd hs (split_ne_nil xs)
    | cons hd tl =>
      rw [hs] at ih
      by_cases hx : x = 47
      · subst hx
        simp only [split, ↓reduceIte, hs, joinSep, List.nil_append, ih]
      · have hsp : split (x :: xs) = (x :: hd) :: tl := by
          rw [split]; simp only [hx, ↓reduceIte, hs]
        rw [hsp]
        cases tl with
        | nil => simp only [joinSep] at ih ⊢; rw [ih]
        | cons d r => simp only [joinSep] at ih ⊢; rw [← ih]; simp

theorem isAbs_append (root rest : Path) (h : root ≠ []) : isAbs (root ++ rest) = isAbs root := by
  cases root with
  | nil => exact absurd rfl h
  | cons x xs =>
    by_cases hx : x = 47
    · subst hx; simp [isAbs]
    · rw [List.cons_append, isAbs_cons_ne x _ hx, isAbs_cons_ne x _ hx]

theorem cleanStr_nonempty (root : Path) (h : root ≠ []) :
    cleanStr root = render (isAbs root) (cleanComps (isAbs root) (split root)) := by
  cases root with
  | nil => exact absurd rfl h
  | cons x xs => simp [cleanStr]

/-- `Clean(root + "/" + p)` when every component of `p` is a plain name: nothing of `p` can
    cancel or leave a component of the root, for ANY root string. -/
theorem cleanStr_root_join (root p : Path) (hr : root ≠ []) (hg : Good (split p)) :
    cleanStr (root ++ 47 :: p) =
      render (isAbs root) (cleanComps (isAbs root) (split root) ++ split p) := by
  have hne : root ++ 47 :: p ≠ [] := by simp
  rw [cleanStr_nonempty _ hne, isAbs_append root _ hr, split_append_sep]
  simp only [cleanComps, List.foldl_append]
  rw [foldl_push_plain _ _ _ (fun c hc => (hg c hc).1)]
  simp

theorem nameOK_ne_nil (p : Path) (h : nameOK p = true) : p ≠ [] := by
  intro e; subst e; simp [nameOK, okFrom] at h

theorem nameOK_append_ext (name ext : Path) (h : nameOK name = true) (he : 47 ∉ ext) :
    nameOK (name ++ ext) = true := by
  unfold nameOK at *
  rw [okFrom_append name ext true h]
  exact okFrom_false_sepfree ext he

theorem nameOK_join (a b : Path) (ha : nameOK a = true) (hb : nameOK b = true) :
    nameOK (a ++ 47 :: b) = true := by
  unfold nameOK at *
  rw [okFrom_append a _ true ha]
  simpa [okFrom] using hb

theorem nameOK_not_abs (p : Path) (h : nameOK p = true) : isAbs p = false := by
  cases p with
  | nil => rfl
  | cons x xs =>
    simp only [nameOK, okFrom, Bool.and_eq_true, bne_iff_ne, ne_eq] at h
    exact isAbs_cons_ne x xs h.1.1

/-- `filepath.Clean` leaves a well-formed module name unchanged -/
theorem cleanStr_nameOK (p : Path) (h : nameOK p = true) : cleanStr p = p := by
  have hne := nameOK_ne_nil p h
  have hg := nameOK_good p h
  rw [cleanStr_nonempty p hne, nameOK_not_abs p h]
  simp only [cleanComps]
  rw [foldl_push_plain _ _ _ (fun c hc => (hg c hc).1)]
  simp only [List.append_nil, List.reverse_reverse, render, Bool.false_eq_true, ↓reduceIte]
  cases hs : split p with
  | nil => exact absurd hs (split_ne_nil p)
  | cons hd tl => simp only [List.isEmpty_cons, Bool.false_eq_true, ↓reduceIte]; rw [← hs, joinSep_split]

theorem join2_nameOK (a b : Path) (ha : nameOK a = true) (hb : nameOK b = true) :
    join2 a b = a ++ 47 :: b := by
  have h1 := nameOK_ne_nil a ha
  have h2 := nameOK_ne_nil b hb
  have e1 : a.isEmpty = false := by cases a <;> simp_all
  have e2 : b.isEmpty = false := by cases b <;> simp_all
  simp only [join2, e1, e2, Bool.and_self, Bool.false_eq_true, ↓reduceIte]
  exact cleanStr_nameOK _ (nameOK_join a b ha hb)

/-! ### the recogniser -/

theorem isIdStart_ne (c : Nat) (h : isIdStart c = true) : c ≠ 47 ∧ c ≠ 46 ∧ c ≠ 34 := by
  simp only [isIdStart, isLetter, Bool.or_eq_true, Bool.and_eq_true, decide_eq_true_eq, beq_iff_eq] at h
  omega

theorem isIdChar_ne (c : Nat) (h : isIdChar c = true) : c ≠ 47 ∧ c ≠ 46 := by
  simp only [isIdChar, isIdStart, isLetter, isDigit, Bool.or_eq_true, Bool.and_eq_true,
    decide_eq_true_eq, beq_iff_eq] at h
  omega

theorem regex_okFrom (t : Path) :
    ((∀ c ∈ split t, isIdent c = true) → okFrom true t = true) ∧
    ((∀ b ∈ (split t).headD [], isIdChar b = true) → (∀ c ∈ (split t).tail, isIdent c = true) →
      okFrom false t = true) := by
  induction t with
  | nil => simp [split, isIdent, okFrom]
  | cons x xs ih =>
    by_cases hx : x = 47
    · subst hx
      refine ⟨?_, ?_⟩
      · intro h
        have := h [] (by simp [split])
        simp [isIdent] at this
      · intro _ h2
        simp only [okFrom, ↓reduceIte]
        exact ih.1 (by simpa [split] using h2)
    · cases hs : split xs with
      | nil => exact absurd hs (split_ne_nil xs)
      | cons hd tl =>
        have hsp : split (x :: xs) = (x :: hd) :: tl := by
          rw [split]; simp only [hx, ↓reduceIte, hs]
        rw [hsp]
        rw [hs] at ih
        refine ⟨?_, ?_⟩
        · intro h
          have h0 := h (x :: hd) (by simp)
          simp only [isIdent, Bool.and_eq_true, List.all_eq_true] at h0
          have hn := isIdStart_ne x h0.1
          simp only [okFrom, Bool.and_eq_true, bne_iff_ne, ne_eq]
          refine ⟨⟨hn.1, hn.2.1⟩, ?_⟩
          exact ih.2 (by simpa using h0.2) (fun c hc => h c (by simp at hc ⊢; exact Or.inr hc))
        · intro h1 h2
          simp only [okFrom, hx, ↓reduceIte]
          refine ih.2 ?_ (by simpa using h2)
          intro b hb
          exact h1 b (by simp at hb ⊢; exact Or.inr hb)

theorem regex_nameOK (t : Path) (h : matchesPathRegex t = true) : nameOK t = true := by
  simp only [matchesPathRegex, List.all_eq_true] at h
  exact (regex_okFrom t).1 h

theorem dropQ_spec (p : Path) : ∃ l, (∀ b ∈ l, b = 34) ∧ p = l ++ dropQ p := by
  induction p with
  | nil => exact ⟨[], by simp, by simp [dropQ]⟩
  | cons c cs ih =>
    by_cases hc : c = 34
    · obtain ⟨l, hl, he⟩ := ih
      refine ⟨34 :: l, ?_, ?_⟩
      · intro b hb; simp only [List.mem_cons] at hb; rcases hb with rfl | hb; rfl; exact hl b hb
      · subst hc; simp only [dropQ, ↓reduceIte, List.cons_append]; rw [← he]
    · exact ⟨[], by simp, by simp [dropQ, hc]⟩

theorem trimQuotes_spec (p : Path) :
    ∃ l r, (∀ b ∈ l, b = 34) ∧ (∀ b ∈ r, b = 34) ∧ p = l ++ trimQuotes p ++ r := by
  obtain ⟨l, hl, he⟩ := dropQ_spec p
  obtain ⟨l2, hl2, he2⟩ := dropQ_spec (dropQ p).reverse
  refine ⟨l, l2.reverse, hl, ?_, ?_⟩
  · intro b hb; exact hl2 b (by simpa using hb)
  · have : dropQ p = (dropQ (dropQ p).reverse).reverse ++ l2.reverse := by
      have := congrArg List.reverse he2
      simpa using this
    unfold trimQuotes
    rw [List.append_assoc, ← this, ← he]

theorem okFrom_false_quotes (l s : Path) (hl : ∀ b ∈ l, b = 34) :
    okFrom false (l ++ s) = okFrom false s := by
  induction l with
  | nil => rfl
  | cons c cs ih =>
    have hc : c = 34 := hl c (by simp)
    subst hc
    simp only [List.cons_append, okFrom]
    exact ih (fun b hb => hl b (by simp [hb]))

/-- **every text `validateImportPath` accepts is a well-formed module name** (the quote
    characters it trims before matching stay in the name, but they are ordinary bytes) -/
theorem validImportPath_nameOK (p : Path) (h : validImportPath p = true) : nameOK p = true := by
  have ht := regex_nameOK _ h
  obtain ⟨l, r, hl, hr, he⟩ := trimQuotes_spec p
  have hr47 : 47 ∉ r := fun hm => by have := hr 47 hm; omega
  have h1 : okFrom true (trimQuotes p ++ r) = true := by
    rw [okFrom_append _ r true ht]; exact okFrom_false_sepfree r hr47
  rw [he, List.append_assoc]
  unfold nameOK
  cases l with
  | nil => simpa using h1
  | cons c cs =>
    have hc : c = 34 := hl c (by simp)
    subst hc
    simp only [List.cons_append, okFrom]
    rw [okFrom_false_quotes cs _ (fun b hb => hl b (by simp [hb]))]
    simpa using okFrom_true_false _ h1

theorem isLexIdentByte_ne (b : Nat) (h : isLexIdentByte b = true) : b ≠ 47 ∧ b ≠ 46 := by
  simp only [isLexIdentByte, isIdChar, isIdStart, isLetter, isDigit, Bool.or_eq_true, Bool.and_eq_true,
    decide_eq_true_eq, beq_iff_eq] at h
  omega

/-- every identifier the lexer can produce is a well-formed (single-component) module name -/
theorem isLexIdent_nameOK (p : Path) (h : isLexIdent p = true) : nameOK p = true := by
  simp only [isLexIdent, Bool.and_eq_true, Bool.not_eq_true', List.all_eq_true] at h
  cases p with
  | nil => simp at h
  | cons c cs =>
    have hc := isLexIdentByte_ne c (h.2 c (by simp))
    simp only [nameOK, okFrom, Bool.and_eq_true, bne_iff_ne, ne_eq]
    refine ⟨⟨hc.1, hc.2⟩, okFrom_false_sepfree cs ?_⟩
    intro hm
    exact (isLexIdentByte_ne 47 (h.2 47 (by simp [hm]))).1 rfl

theorem joinSep_nameOK (ps : List Path) (hne : ps ≠ []) (h : ∀ p ∈ ps, nameOK p = true) :
    nameOK (joinSep ps) = true := by
  induction ps with
  | nil => exact absurd rfl hne
  | cons p rest ih =>
    cases rest with
    | nil => simpa [joinSep] using h p (by simp)
    | cons q rest =>
      simp only [joinSep]
      exact nameOK_join p _ (h p (by simp)) (ih (by simp) (fun x hx => h x (by simp [hx])))

end Risor.C14
