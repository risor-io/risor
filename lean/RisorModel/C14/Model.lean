import RisorModel.C13.Model
/-!
C14 — executable model of risor's import machinery.

Part A (texts): the import-path recogniser of `parser.validateImportPath` (quote trimming
+ the regular expression `^ident(/ident)*$`), the lexer's identifier class (over-
approximated at byte level), the module names each import spelling asks the importer for
(`compiler.compileImport/compileFromImport`, `vm` `op.FromImport`) and the file name the
importer opens (`importer.readFileWithExtensions`: `filepath.Join(dir, name+ext)`).
Paths are byte lists as in C13; `filepath.Join/Clean` are C13's `join2/cleanStr`.

Part B (state machine): `vm.importModule` with the per-VM `modules` cache, the list
`vm.importing` of the modules whose body is being evaluated and the `loadedCode`
map (keyed by the IDENTITY of the compiled code object, as `map[*compiler.Code]*code` is), the
importer (by-name code cache; every `parseAndCompile` yields a new code object; `Env.reuse`
is the hook through which an importer could hand out an existing code object instead),
module frames with the globals array of their code object, `op.Import`,
`op.FromImport` (per listed name: try `parent/name` as a module, else attribute of the parent;
exactly one value pushed per name), `try`, spawned clones (`vm.Clone` snapshots the maps and
starts with nothing being imported).
Part C (sessions): several evaluations, each with its own VM, that share ONE importer and whose
lifetimes overlap in any way (`session`: a schedule of (evaluation, statement)); a module has two
views — the array its module object is bound to (`St.attrArray`, what `alias.x` reads) and the array
the executing VM has loaded for its code (`St.fnArray`, what the module's functions read and write).
`importModuleMC` (NOT the unchanged code) is the machine for an importer that caches module objects.
The model is the code AS IT IS: a failed body is not cached (a later import runs it again), a
clone imports into its own snapshot; an import of a module whose body is still running is
refused with an import error (cyclic import), and a module body leaves NOTHING on the
importer's operand stack.  The last two are repairs (`fix:` commits in /repo); the machine as
it was before them is kept in `PreFix.lean`.

Core Lean only.
-/
namespace Risor.C14
open Risor.C13 (Path split joinSep cleanStr join2 isAbs)

/-! ## Part A: import path texts -/

def isLetter (b : Nat) : Bool := (65 ≤ b && b ≤ 90) || (97 ≤ b && b ≤ 122)
def isDigit (b : Nat) : Bool := 48 ≤ b && b ≤ 57
/-- `[a-zA-Z_]` -/
def isIdStart (b : Nat) : Bool := isLetter b || b == 95
/-- `[a-zA-Z0-9_]` -/
def isIdChar (b : Nat) : Bool := isIdStart b || isDigit b

/-- `[a-zA-Z_][a-zA-Z0-9_]*` -/
def isIdent : Path → Bool
  | [] => false
  | c :: cs => isIdStart c && cs.all isIdChar

/-- the regular expression `^([a-zA-Z_][a-zA-Z0-9_]*)(\/[a-zA-Z_][a-zA-Z0-9_]*)*$`:
    every '/'-separated component is an ASCII identifier -/
def matchesPathRegex (p : Path) : Bool := (split p).all isIdent

/-- drop leading '"' (34) -/
def dropQ : Path → Path
  | [] => []
  | c :: cs => if c = 34 then dropQ cs else c :: cs

/-- `strings.Trim(path, "\"")` -/
def trimQuotes (p : Path) : Path := (dropQ (dropQ p).reverse).reverse

/-- `parser.validateImportPath(path) == nil` -/
def validImportPath (p : Path) : Bool := matchesPathRegex (trimQuotes p)

/-- byte-level over-approximation of the lexer's identifier class
    (`unicode.IsLetter || unicode.IsDigit || '_'`): an ASCII letter, digit or '_', or a
    byte of the UTF-8 encoding of a non-ASCII rune (all of which are ≥ 128). -/
def isLexIdentByte (b : Nat) : Bool := decide (b ≥ 128) || isIdChar b
def isLexIdent (p : Path) : Bool := !p.isEmpty && p.all isLexIdentByte

/-- the forms of an import statement, at token level (string tokens carry their VALUE) -/
inductive Spelling where
  | ident (x : Path)                              -- import x [as a]
  | quoted (s : Path)                             -- import "s" [as a]
  | fromDotted (parents : List Path) (item : Path)  -- from p1.p2 import item [as a] (one per listed item)
  | fromQuoted (s : Path) (item : Path)           -- from "s" import item
  deriving Repr

/-- does the parser accept the statement (given that the lexer produced these tokens) -/
def accepted : Spelling → Bool
  | .ident x => isLexIdent x && validImportPath x
  | .quoted s => validImportPath s
  | .fromDotted ps item => !ps.isEmpty && ps.all isLexIdent && isLexIdent item
  | .fromQuoted s item => validImportPath s && isLexIdent item

/-- `filepath.Join(from...)` for non-empty elements -/
def joinParents (ps : List Path) : Path := cleanStr (joinSep ps)

/-- the module names the VM may hand to the importer for a statement of this form -/
def requestedNames : Spelling → List Path
  | .ident x => [x]
  | .quoted s => [s]
  | .fromDotted ps item => [join2 (joinParents ps) item, joinParents ps]
  | .fromQuoted s item => [join2 (joinParents [s]) item, joinParents [s]]

/-- `filepath.Join(dir, name+ext)` of `importer.readFileWithExtensions` -/
def fileName (root name ext : Path) : Path := join2 root (name ++ ext)

/-- a path text whose '/'-separated components are all non-empty and do not start with '.'
    (the Boolean argument: we are at the start of a component) -/
def okFrom : Bool → Path → Bool
  | true, [] => false
  | false, [] => true
  | true, c :: cs => c != 47 && c != 46 && okFrom false cs
  | false, c :: cs => if c = 47 then okFrom true cs else okFrom false cs

def nameOK (p : Path) : Bool := okFrom true p

/-! ## Part B: the module cache state machine -/

inductive Val where
  | int (i : Int)
  | mod (o : Nat)     -- module object id (index into `St.objs`)
  | nil
  | list (l : List Int)   -- a list of integers held by a module global (only that global refers to it)
  deriving DecidableEq, Repr

inductive Stmt where
  | imp (name alias : Path)                          -- import name [as alias]
  | fromImp (parent : Path) (items : List (Path × Path))  -- from parent import n1 as a1, ...
  | set (var : Path) (val : Int)                     -- top-level  var := val / var = val
  | setVia (alias var : Path) (val : Int)            -- alias.set_var(val): the module's own function stores into ITS global
                                                     -- (the three *Via statements act on the FUNCTION view, `St.fnArray`)
  | addVia (alias var : Path) (k : Int)              -- alias.add_var(k): the module's own function does var = var + k on ITS global (a counter)
  | newList (var : Path)                             -- top-level  var := []
  | pushVia (alias var : Path) (v : Int)             -- alias.push_var(v): the module's own function appends to ITS global list
  | tryImp (name : Path)                             -- try(func() { import name })
  | spawnImp (name : Path)                           -- spawn(func() { import name }).wait()
  | fail                                             -- error("boom")
  deriving Repr, DecidableEq

/-- static configuration: import root, extension list, the module files (keyed by the
    file path relative to the root, i.e. name ++ ext), `vm.MaxFrameDepth`, and the importer's
    choice of code object when it has to compile a module that is not in its by-name cache:
    `reuse cache name = none` — the result of a fresh `parseAndCompile` (a NEW `*compiler.Code`;
    what `LocalImporter`/`FSImporter` do, the default), `some c` — hand out the existing code
    object `c` (e.g. a cache keyed by something other than the module path). -/
structure Env where
  root : Path
  exts : List Path
  files : List (Path × List Stmt)
  limit : Nat
  reuse : List (Path × Nat) → Path → Option Nat := fun _ _ => none

/-- the importers of the unchanged code: every module path is compiled separately -/
def LocalImporter (env : Env) : Prop := ∀ cache name, env.reuse cache name = none

structure St where
  cache : List (Path × Nat) := []      -- vm.modules: name → module object
  loaded : List (Nat × Nat) := []      -- vm.loadedCode (root codes): code identity → globals array
  importing : List Path := []          -- vm.importing: modules whose body is being evaluated (head = innermost)
  heap : List (List (Path × Val)) := [[]]  -- globals arrays; 0 is the main script's
  objs : List (Path × Nat) := []       -- every module object ever created: (name, globals array)
  compiled : List (Path × Nat) := []   -- importer.codeCache: module name → identity of its compiled code object
  ncode : Nat := 0                     -- code objects created so far by parseAndCompile (the next fresh identity)
  owner : List (Nat × Nat) := []       -- ghost: every (code identity, globals array) pair any VM of this evaluation
                                       -- (the script's or a clone's) ever created in loadCode
  opens : List Path := []              -- every file the importer tried to open, in order
  ticks : List Path := []              -- module body executions, in order
  failed : List Path := []             -- imports whose body did not complete
  cycles : List Path := []             -- imports refused because the module's own body was still running
  spawns : Nat := 0                    -- imports performed in spawned clones
  reruns : List (Path × Nat) := []     -- body executions beyond a module's first, with the cause:
                                       -- 2 an earlier run failed, 3 another VM (clone) ran it
                                       -- (cause 1, a re-entrant import, existed before the repair: see PreFix.lean)
  nofuel : Bool := false
  deriving Repr

inductive Out where
  | ok | err | panic
  deriving DecidableEq, Repr

/-- result of `vm.importModule`: outcome and module object.  The importer's operand stack is as
    it was before the call (the deferred frame restore drops whatever the body left). -/
structure IRes where
  out : Out
  oid : Nat
  deriving Repr

def setKey (k : Path) (v : Val) : List (Path × Val) → List (Path × Val)
  | [] => [(k, v)]
  | (k', v') :: t => if k' = k then (k, v) :: t else (k', v') :: setKey k v t

def modifyAt {α : Type} (f : α → α) : Nat → List α → List α
  | _, [] => []
  | 0, x :: xs => f x :: xs
  | n + 1, x :: xs => x :: modifyAt f n xs

def St.store (st : St) (g : Nat) (k : Path) (v : Val) : St :=
  { st with heap := modifyAt (setKey k v) g st.heap }

def St.globals (st : St) (g : Nat) : List (Path × Val) := (st.heap[g]?).getD []

/-- code identity of the module object whose globals array is `g` -/
def St.codeOfGid (st : St) (g : Nat) : Option Nat := (st.owner.find? (fun p => p.2 == g)).map (·.1)

/-- the globals array a module object is BOUND to (`Module.UseGlobals`): what `module.GetAttr`
    reads — the attribute view `alias.x` -/
def St.attrArray (st : St) (o : Nat) : Option Nat := (st.objs[o]?).map (·.2)

/-- the globals array the FUNCTIONS of module object `o` run on in the current VM — the function
    view `alias.set_x(v)`, `alias.get_x()`: a call activates `vm.loadCode(fn.Code())`, i.e. the array
    THIS VM has loaded for the module's root code, whatever array the module object is bound to.
    `module_views_agree`: with the unchanged importers (a new module object per `Import` call) the two
    views are the same array, in every VM of every session. -/
def St.fnArray (st : St) (o : Nat) : Option Nat :=
  match st.objs[o]? with
  | some (_, g) =>
    match st.codeOfGid g with
    | some c => st.loaded.lookup c
    | none => none
  | none => none

/-- the files the importer tries for `name`, up to and including the first that exists -/
def attempts (env : Env) (name : Path) : List Path → List Path
  | [] => []
  | e :: es =>
    fileName env.root name e ::
      (if (env.files.lookup (name ++ e)).isSome then [] else attempts env name es)

def bodyOf (env : Env) (name : Path) : List Path → Option (List Stmt)
  | [] => none
  | e :: es =>
    match env.files.lookup (name ++ e) with
    | some b => some b
    | none => bodyOf env name es

/-- Go's `aliases[name] = alias` map: the last alias listed for a name wins -/
def aliasOf (items : List (Path × Path)) (nm : Path) : Path :=
  (items.reverse.lookup nm).getD nm

/-- names a module body declares at top level (its global symbols that the generator uses) -/
def declares : List Stmt → Path → Bool
  | [], _ => false
  | .imp _ a :: t, k => a == k || declares t k
  | .fromImp _ items :: t, k => items.any (fun it => aliasOf items it.1 == k) || declares t k
  | .set v _ :: t, k => v == k || declares t k
  | .newList v :: t, k => v == k || declares t k
  | _ :: t, k => declares t k

abbrev ImpFn := Nat → St → Path → IRes × St

/-- value of `module.GetAttr(name)` for a module whose body has completed -/
def attrOf (env : Env) (st : St) (parent : Path) (oid : Nat) (nm : Path) : Option Val :=
  match bodyOf env parent env.exts with
  | none => none
  | some body =>
    if declares body nm then
      match st.objs[oid]? with
      | some (_, g) => some (((st.globals g).lookup nm).getD .nil)
      | none => none
    else none

/-- what `op.FromImport` pushes for ONE listed name: the module `parent/name` if importing it
    succeeds, else (whatever the error was) the attribute `name` of the module `parent` -/
def fromOne (imp : ImpFn) (env : Env) (depth : Nat) (parent nm : Path) (st : St) : (Out × Val) × St :=
  let r1 := imp depth st (parent ++ 47 :: nm)
  match r1.1.out with
  | .ok => ((.ok, .mod r1.1.oid), r1.2)
  | .panic => ((.panic, .nil), r1.2)
  | .err =>
    let r2 := imp depth r1.2 parent
    match r2.1.out with
    | .ok =>
      match attrOf env r2.2 parent r2.1.oid nm with
      | some v => ((.ok, v), r2.2)
      | none => ((.err, .nil), r2.2)
    | o => ((o, .nil), r2.2)

/-- the loop of `op.FromImport`: names in processing order (reverse of the source order),
    `ps` is the operand stack built so far (head = top): exactly one value per name. -/
def fromLoop (imp : ImpFn) (env : Env) (depth : Nat) (parent : Path) :
    List Path → St → List Val → (Out × List Val) × St
  | [], st, ps => ((.ok, ps), st)
  | nm :: rest, st, ps =>
    let r := fromOne imp env depth parent nm st
    match r.1.1 with
    | .ok => fromLoop imp env depth parent rest r.2 (r.1.2 :: ps)
    | o => ((o, ps), r.2)

/-- the `StoreGlobal`s after `op.FromImport`: one pop per listed item, in source order;
    returns the state and what is left of the values pushed by the instruction -/
def bindItems (all : List (Path × Path)) (g : Nat) :
    List (Path × Path) → List Val → St → St × List Val
  | [], ps, st => (st, ps)
  | _ :: _, [], st => (st, [])
  | (nm, _) :: rest, v :: ps, st => bindItems all g rest ps (st.store g (aliasOf all nm) v)

/-- one top-level statement executed in the frame whose globals array is `g`, at frame
    index `depth` -/
def execStmt (imp : ImpFn) (env : Env) (g depth : Nat) (st : St) : Stmt → Out × St
  | .imp name alias =>
    let r := imp depth st name
    match r.1.out with
    | .ok => (.ok, r.2.store g alias (.mod r.1.oid))
    | o => (o, r.2)
  | .fromImp parent items =>
    let r := fromLoop imp env depth parent (items.map (·.1)).reverse st []
    match r.1.1 with
    | .ok => (.ok, (bindItems items g items r.1.2 r.2).1)
    | o => (o, r.2)
  | .set var val => (.ok, st.store g var (.int val))
  | .setVia alias var val =>
    match (st.globals g).lookup alias with
    | some (.mod o) =>
      match st.fnArray o with
      | some g' => (.ok, st.store g' var (.int val))
      | none => (.err, st)
    | _ => (.err, st)
  | .addVia alias var k =>
    match (st.globals g).lookup alias with
    | some (.mod o) =>
      match st.fnArray o with
      | some g' =>
        match (st.globals g').lookup var with
        | some (.int i) => (.ok, st.store g' var (.int (i + k)))
        | _ => (.err, st)
      | none => (.err, st)
    | _ => (.err, st)
  | .newList var => (.ok, st.store g var (.list []))
  | .pushVia alias var v =>
    match (st.globals g).lookup alias with
    | some (.mod o) =>
      match st.fnArray o with
      | some g' =>
        match (st.globals g').lookup var with
        | some (.list l) => (.ok, st.store g' var (.list (l ++ [v])))
        | _ => (.err, st)
      | none => (.err, st)
    | _ => (.err, st)
  | .tryImp name =>
    if depth + 1 ≥ env.limit then (.panic, st)   -- the function's own frame
    else
      let r := imp (depth + 1) st name
      match r.1.out with
      | .panic => (.panic, r.2)
      | _ => (.ok, r.2)
  | .spawnImp name =>
    -- vm.Clone: snapshots of vm.modules and vm.loadedCode, an empty frame stack, nothing being imported
    let r := imp 1 { st with spawns := st.spawns + 1, importing := [] } name
    let st2 := { r.2 with cache := st.cache, loaded := st.loaded, importing := st.importing }
    match r.1.out with
    | .ok => (.ok, st2)
    | o => (o, st2)
  | .fail => (.err, st)

def execStmts (imp : ImpFn) (env : Env) (g depth : Nat) : List Stmt → St → Out × St
  | [], st => (.ok, st)
  | s :: rest, st =>
    let r := execStmt imp env g depth st s
    match r.1 with
    | .ok => execStmts imp env g depth rest r.2
    | o => (o, r.2)

/-- `importer.Import` on a code-cache miss reads the file (tries the extensions in order) -/
def St.noteOpens (st : St) (env : Env) (name : Path) : St :=
  if (st.compiled.lookup name).isSome then st else { st with opens := st.opens ++ attempts env name env.exts }

/-- `importer.Import` for a module whose file exists: the by-name cache, else a code object
    (fresh from `parseAndCompile` unless `env.reuse` says otherwise) that is then cached by name -/
def St.noteCompiled (st : St) (env : Env) (name : Path) : St :=
  match st.compiled.lookup name with
  | some _ => st
  | none =>
    match env.reuse st.compiled name with
    | some c => { st with compiled := (name, c) :: st.compiled }
    | none => { st with compiled := (name, st.ncode) :: st.compiled, ncode := st.ncode + 1 }

/-- identity of the code object the importer returns for `name` (`module.Code()`) -/
def St.codeOf (st : St) (name : Path) : Nat := (st.compiled.lookup name).getD 0

/-- the globals array `vm.loadCode` gives a module's root code (existing or about to be created) -/
def St.gidOf (st : St) (c : Nat) : Nat := (st.loaded.lookup c).getD st.heap.length

/-- `vm.loadCode(cc)`: the globals array of a root code is created once per VM AND CODE OBJECT
    (`vm.loadedCode` is keyed by the pointer) -/
def St.loadCode (st : St) (c : Nat) : St :=
  match st.loaded.lookup c with
  | some _ => st
  | none => { st with loaded := (c, st.heap.length) :: st.loaded, owner := (c, st.heap.length) :: st.owner,
                      heap := st.heap ++ [[]] }

def St.fail (st : St) (name : Path) : St := { st with failed := st.failed ++ [name] }

/-- the import is refused: `import error: cyclic import of module "name"` -/
def St.refuse (st : St) (name : Path) : St := { st with cycles := st.cycles ++ [name] }

/-- a module body starts: `object.NewModule`, frame activation, `vm.importing = append(vm.importing, name)`,
    first statement `tick(name)` -/
def St.enter (st : St) (name : Path) (gid : Nat) : St :=
  { st with
    ticks := st.ticks ++ [name], objs := st.objs ++ [(name, gid)],
    importing := name :: st.importing,
    reruns := if st.ticks.contains name then
        st.reruns ++ [(name, if st.failed.contains name then 2 else 3)]
      else st.reruns }

/-- the deferred frame restore: `vm.importing = vm.importing[:len(vm.importing)-1]` -/
def St.leave (st : St) : St := { st with importing := st.importing.tail }

/-- `vm.modules[name] = module` -/
def St.cacheAdd (st : St) (name : Path) (oid : Nat) : St := { st with cache := (name, oid) :: st.cache }

/-- `vm.importModule(name)` at frame index `depth` -/
def importModule (env : Env) : Nat → ImpFn
  | 0, _, st, name => (⟨.panic, 0⟩, ({ st with nofuel := true } : St).fail name)
  | fuel + 1, depth, st, name =>
    match st.cache.lookup name with
    | some oid => (⟨.ok, oid⟩, st)
    | none =>
      -- a module whose body is still running is not cached yet: importing it again is an error
      if st.importing.contains name then (⟨.err, 0⟩, st.refuse name)
      else
        -- importer.Import: code cache, else read the file
        let st1 := st.noteOpens env name
        match bodyOf env name env.exts with
        | none => (⟨.err, 0⟩, st1)
        | some body =>
          let st2 := st1.noteCompiled env name
          let cid := st2.codeOf name
          let gid := st2.gidOf cid
          let st3 := st2.loadCode cid
          if depth + 1 ≥ env.limit then
            (⟨.panic, 0⟩, st3.fail name)      -- frames[fp+1]: index out of range
          else
            let oid := st3.objs.length
            let r := execStmts (importModule env fuel) env gid (depth + 1) body (st3.enter name gid)
            match r.1 with
            | .ok => (⟨.ok, oid⟩, r.2.leave.cacheAdd name oid)
            | o => (⟨o, 0⟩, r.2.leave.fail name)

def St.init : St := {}

/-- one evaluation of a main script -/
def run (env : Env) (fuel : Nat) (main : List Stmt) : Out × St :=
  execStmts (importModule env fuel) env 0 0 main St.init

/-! ## Spec: what the property demands, as decidable predicates on the outcome -/

/-- every module body ran at most once -/
def runsOnce (st : St) : Bool := decide st.ticks.Nodup

/-- at most one module object per module name -/
def oneObjectPerName (st : St) : Bool := decide (st.objs.map (·.1)).Nodup

/-- module objects of different modules have different globals arrays, none the script's -/
def globalsDisjoint (st : St) : Bool :=
  st.objs.all fun a => a.2 != 0 && st.objs.all fun b => a.1 == b.1 || a.2 != b.2

/-- distinct module paths have distinct code objects (what the unchanged importers guarantee:
    `importer_distinct_paths_distinct_code`; the hypothesis of `module_globals_disjoint`) -/
def CodeInj (st : St) : Prop := ∀ p ∈ st.compiled, ∀ q ∈ st.compiled, p.2 = q.2 → p.1 = q.1

instance (st : St) : Decidable (CodeInj st) := by unfold CodeInj; infer_instance

/-- the same as a Bool (what the oracle prints) -/
def codeInj (st : St) : Bool :=
  st.compiled.all fun p => st.compiled.all fun q => p.2 != q.2 || p.1 == q.1

/-- the importer alone: an arbitrary sequence of `Import(name)` calls on one importer -/
def importSeq (env : Env) (names : List Path) (st : St) : St :=
  names.foldl (fun st n =>
    match bodyOf env n env.exts with
    | none => st.noteOpens env n
    | some _ => (st.noteOpens env n).noteCompiled env n) st

/-- NOT the unchanged code — an importer with a compile cache keyed by the source TEXT: a module
    whose text equals that of a module compiled before gets that module's code object (used by
    `distinct_code_needed` and by the oracle's `runshared` diagnosis) -/
def shareByText (files : List (Path × List Stmt)) (exts : List Path) : List (Path × Nat) → Path → Option Nat :=
  fun cache name =>
    let src := fun (n : Path) => exts.findSome? fun e => files.lookup (n ++ e)
    cache.findSome? fun p => if src p.1 = src name then some p.2 else none

/-! ## the FILE behind a module name

The VM's module cache (`vm.modules`) and the importer's code cache are keyed by the module
NAME, but the property is about module FILES: whatever the spellings, a file's top-level code
runs once and there is one module object for it.  `fileOf` is the file (key of `env.files`:
its path below the root) that `importer.Import(name)` reads — the first `name ++ ext` that
exists. -/

def fileOf (env : Env) (name : Path) : List Path → Option Path
  | [] => none
  | e :: es => if (env.files.lookup (name ++ e)).isSome then some (name ++ e) else fileOf env name es

/-- the file a statement of the given spelling reaches when evaluated on its own: the first
    requested name that is a module (from-imports: `parent/item`, else `parent`) -/
def reachedFile (env : Env) (sp : Spelling) : Option Path :=
  if accepted sp then (requestedNames sp).findSome? (fun n => fileOf env n env.exts) else none

/-- Spec by file: no file's top-level code ran more than once … -/
def runsOncePerFile (env : Env) (st : St) : Bool :=
  decide ((st.ticks.filterMap fun n => fileOf env n env.exts).Nodup)

/-- … and there is at most one module object per file -/
def oneObjectPerFile (env : Env) (st : St) : Bool :=
  decide ((st.objs.filterMap fun o => fileOf env o.1 env.exts).Nodup)

/-- the extension starts with '.' -/
def dottedExt (e : Path) : Bool := e.head? == some 46

/-- every opened file is `root/<name><ext>` for a well-formed name -/
def underRoot (root : Path) (p : Path) : Bool :=
  root.isEmpty || Risor.C13.hasPrefix p (cleanStr root ++ [47]) || cleanStr root == [47]

/-- the guard naming today's two run-once defects: no import failed (a failed body is not
    cached: the next import of the module runs it again), nothing was imported inside a spawned
    clone.  (Before the cyclic-import repair the guard had a third conjunct, `st.reent.isEmpty`:
    `PreFix.cleanRun`.) -/
def cleanRun (st : St) : Bool := st.failed.isEmpty && st.spawns == 0

/-- the same as a proposition -/
def Clean (st : St) : Prop := st.failed = [] ∧ st.spawns = 0

/-! ## Part C: several evaluations that share ONE importer

`NewLocalImporter` / `NewFSImporter` are documented as safe to share between VMs and evaluations.
A SESSION is any number of evaluations — each with its own script, its own VM (`vm.modules`,
`vm.loadedCode`, its script's globals array) — that use one importer and whose lifetimes overlap in
any way: the schedule says which evaluation executes its next top-level statement (a host builtin
that runs a plugin script, request handlers taking turns, a long-lived VM next to short ones).
What is shared is the importer's state (`St.compiled`, `St.ncode`, `St.opens`) and the address
spaces of module objects (`St.objs`) and globals arrays (`St.heap`, `St.owner`); the VM registers
(`St.cache`, `St.loaded`) are swapped in and out (`St.withVM`), exactly as `execStmt` does for a
spawned clone.  Between two top-level statements nothing is being imported (`importing_balanced`). -/

/-- the registers of one evaluation's VM between two of its top-level statements -/
structure VM where
  cache : List (Path × Nat) := []     -- vm.modules
  loaded : List (Nat × Nat) := []     -- vm.loadedCode
  main : Nat := 0                     -- the globals array of its script
  out : Out := .ok                    -- outcome so far: a script that raised has ended
  deriving Repr

structure Sess where
  sh : St              -- importer state, module objects, globals arrays, logs (VM registers: stale)
  vms : List VM
  deriving Repr

def St.withVM (st : St) (v : VM) : St := { st with cache := v.cache, loaded := v.loaded, importing := [] }

/-- `n` evaluations about to start: evaluation `e`'s script owns globals array `e` -/
def Sess.init (n : Nat) : Sess :=
  { sh := { St.init with heap := List.replicate n [] }, vms := (List.range n).map fun e => { main := e } }

/-- evaluation `e` executes its next top-level statement (nothing happens when it has ended) -/
def sessStep (imp : ImpFn) (env : Env) (s : Sess) (e : Nat) (stmt : Stmt) : Sess :=
  match s.vms[e]? with
  | none => s
  | some v =>
    if v.out = .ok then
      let r := execStmt imp env v.main 0 (s.sh.withVM v) stmt
      { sh := r.2, vms := s.vms.set e { v with cache := r.2.cache, loaded := r.2.loaded, out := r.1 } }
    else s

def sessRun (imp : ImpFn) (env : Env) (n : Nat) (sched : List (Nat × Stmt)) : Sess :=
  sched.foldl (fun s p => sessStep imp env s p.1 p.2) (Sess.init n)

/-- a session on the unchanged code: the schedule is ANY list of (evaluation, statement) -/
def session (env : Env) (fuel n : Nat) (sched : List (Nat × Stmt)) : Sess :=
  sessRun (importModule env fuel) env n sched

/-- the state as evaluation `v` sees it -/
def Sess.view (s : Sess) (v : VM) : St := s.sh.withVM v

/-- Spec: in every VM, for every module it has imported, attribute view = function view -/
def sessViewsAgree (s : Sess) : Bool :=
  s.vms.all fun v => v.cache.all fun p => (s.view v).fnArray p.2 == s.sh.attrArray p.2 && (s.sh.attrArray p.2).isSome

/-- the globals arrays of a VM's modules -/
def VM.arrays (v : VM) : List Nat := v.loaded.map (·.2)

/-- Spec: evaluations share nothing — no module object and no globals array belongs to two of them,
    and no module's array is a script's -/
def sessDisjoint (s : Sess) : Bool :=
  (List.range s.vms.length).all fun i => (List.range s.vms.length).all fun j =>
    match s.vms[i]?, s.vms[j]? with
    | some vi, some vj =>
      i == j ||
        (vi.cache.all fun p => vj.cache.all fun q => p.2 != q.2) &&
        (vi.arrays.all fun g => !vj.arrays.contains g && g != vj.main && g != vi.main)
    | _, _ => true

/-! ### NOT the unchanged code: an importer that caches the MODULE OBJECT per name

`importModuleMC` is `importModule` for an importer whose `Import` hands out ONE `*object.Module`
per module name (a cache of modules instead of a cache of code): the first `Import(name)` creates
the object, every later one — from whichever VM — returns it, and the importing VM's
`module.UseGlobals(code.Globals)` after a completed body REBINDS that object to the importing VM's
array.  Used by `fresh_module_objects_needed` and by the oracle's `sessmc` diagnosis only. -/

/-- a body starts for a module object that exists already: everything `St.enter` does except the
    creation of an object -/
def St.enterShared (st : St) (name : Path) : St := { st.enter name 0 with objs := st.objs }

/-- `module.UseGlobals`: the (shared) module object `oid` now reads array `gid` -/
def St.rebind (st : St) (oid : Nat) (name : Path) (gid : Nat) : St := { st with objs := st.objs.set oid (name, gid) }

def importModuleMC (env : Env) : Nat → ImpFn
  | 0, _, st, name => (⟨.panic, 0⟩, ({ st with nofuel := true } : St).fail name)
  | fuel + 1, depth, st, name =>
    match st.cache.lookup name with
    | some oid => (⟨.ok, oid⟩, st)
    | none =>
      if st.importing.contains name then (⟨.err, 0⟩, st.refuse name)
      else
        let st1 := st.noteOpens env name
        match bodyOf env name env.exts with
        | none => (⟨.err, 0⟩, st1)
        | some body =>
          let st2 := st1.noteCompiled env name
          let cid := st2.codeOf name
          let gid := st2.gidOf cid
          let st3 := st2.loadCode cid
          if depth + 1 ≥ env.limit then (⟨.panic, 0⟩, st3.fail name)
          else
            match st3.objs.findIdx? (fun o => o.1 == name) with
            | none =>      -- the importer creates (and caches) the module object
              let oid := st3.objs.length
              let r := execStmts (importModuleMC env fuel) env gid (depth + 1) body (st3.enter name gid)
              match r.1 with
              | .ok => (⟨.ok, oid⟩, r.2.leave.cacheAdd name oid)
              | o => (⟨o, 0⟩, r.2.leave.fail name)
            | some oid =>  -- the importer's cached module object, bound to whatever array it was bound to last
              let r := execStmts (importModuleMC env fuel) env gid (depth + 1) body (st3.enterShared name)
              match r.1 with
              | .ok => (⟨.ok, oid⟩, (r.2.leave.cacheAdd name oid).rebind oid name gid)
              | o => (⟨o, 0⟩, r.2.leave.fail name)

def sessionMC (env : Env) (fuel n : Nat) (sched : List (Nat × Stmt)) : Sess :=
  sessRun (importModuleMC env fuel) env n sched

end Risor.C14
