import RisorModel.C14.Model
import RisorModel.Generated.C14
/-!
C14 ties: the facts regenerated from the sources on this run (extract/c14.go) equal the
hand-written expectations the model in `Model.lean` was transcribed from, and satisfy the
side conditions of the theorems in `Props.lean`.
-/
namespace Risor.C14
open Risor.Generated.C14

/-- the regular expressions the recogniser `matchesPathRegex` / `isIdent` transcribe -/
def expectedRegexes : List String :=
  ["^([a-zA-Z_][a-zA-Z0-9_]*)(\\/[a-zA-Z_][a-zA-Z0-9_]*)*$", "^[a-zA-Z_][a-zA-Z0-9_]*$"]

/-- E11: `validateImportPath` still uses exactly these regular expressions -/
theorem import_regex_matches : importPathRegexes = expectedRegexes := rfl

/-- the only rewriting before the match is `strings.Trim(path, "\"")` (`trimQuotes`) -/
theorem path_rewrites_tie : pathRewrites = ["strings.Trim \""] := rfl

/-- both import statements still validate their path (one call each) -/
theorem validate_calls_tie : validateCalls = 2 := rfl

/-- the extensions the importers try contain no '/' (hypothesis `47 ∉ ext` of
    `valid_import_confined`), for the importer's default and for `WithLocalImporter` -/
theorem extensions_sepfree : ∀ e ∈ defaultExtensions ++ configExtensions, 47 ∉ e := by decide

/-- every extension the importers try starts with '.' (hypothesis `dottedExt` of
    `accepted_names_resolve_injectively`, `same_file_same_module`, `import_runs_once_per_file`:
    together with `accepted_names_dotfree` it makes `name ++ ext` split in one way only) -/
theorem extensions_dotted : ∀ e ∈ defaultExtensions ++ configExtensions, dottedExt e = true := by decide

/-- and they are the lists the correspondence harness runs the model with -/
theorem extensions_tie :
    defaultExtensions = [[46, 114, 105, 115, 111, 114], [46, 114, 115, 114]] ∧
    configExtensions = defaultExtensions := ⟨rfl, rfl⟩

/-- the file name expressions `fileName` (LocalImporter) and `name ++ ext` (FSImporter) transcribe -/
theorem file_expr_tie :
    localFileExpr = "filepath.Join(dir, name + ext)" ∧ fsFileExpr = "name + ext" := ⟨rfl, rfl⟩

/-- `vm.MaxFrameDepth`, the `Env.limit` the harness runs the model with -/
theorem frame_limit_tie : maxFrameDepth = 1024 := rfl

/-- `vm.importModule` looks the module up and stores it under the requested name, and hands
    that same name to the importer -/
theorem module_cache_key_tie :
    moduleCacheLookupKeys = ["name"] ∧ moduleCacheStoreKeys = ["name"] ∧ importerArgs = ["name"] := ⟨rfl, rfl, rfl⟩

/-- the steps of the repaired `vm.importModule` in source order, as `C14.importModule` has them:
    cache lookup, then the cyclic-import guard BEFORE the importer is called (a refused import
    opens no file), the module pushed on `vm.importing` before its code is evaluated, after it the
    module object the importer returned is bound to the globals of the code THIS VM loaded
    (`St.enter` records the binding `(name, gid)`; `St.rebind` in `importModuleMC`), then the store
    into `vm.modules` -/
theorem import_module_steps_tie :
    importModuleSteps = ["lookup", "cyclic-guard", "importer.Import", "push", "eval",
      "bind module.UseGlobals(code.Globals)", "store"] := rfl

/-- the guard: a module found in `vm.importing` is refused with an import error (`St.refuse`,
    outcome `.err`) -/
theorem cyclic_import_guard_tie :
    cyclicImportGuard = ["range vm.importing", "if importing == name",
      "return nil, fmt.Errorf(\"import error: cyclic import of module %q\", name)"] := rfl

/-- `vm.importing` is written in two places only, both in `importModule`: the push (`St.enter`)
    and the pop of the deferred restore (`St.leave`); `vm.Clone` builds its struct literal
    without the field (a clone starts with nothing being imported: `execStmt` `.spawnImp`) -/
theorem importing_writes_tie :
    importingWrites = ["vm.importing = append(vm.importing, name)",
      "vm.importing = vm.importing[:len(vm.importing)-1]"] := rfl

/-- the deferred frame restore of `importModule`: pop `vm.importing`, resume the importer's
    frame, then drop everything above the importer's stack pointer — on success and on failure
    (why `IRes` carries no residue and `fromLoop` pushes exactly one value per name) -/
theorem import_restore_tie :
    importDeferredRestore = ["vm.importing = vm.importing[:len(vm.importing)-1]",
      "vm.resumeFrame(baseFP, baseIP, baseSP)", "for vm.sp > baseSP { vm.pop() }"] := rfl

/-- `op.FromImport` asks for `parent/name`, then for `parent` (`requestedNames`, `fromLoop`) -/
theorem from_import_names_tie :
    fromImportNames = ["filepath.Join(filepath.Join(from...), name)", "filepath.Join(from...)"] := rfl

/-- `compileImport` loads the validated path text itself as the module name -/
theorem compile_import_name_tie : compileImportName = "node.Path().Value()" := rfl

/-- the code object an importer hands out is the one its BY-NAME cache holds or the result of a
    fresh `parseAndCompile` of that module's file — nothing else (the model's `LocalImporter`:
    `Env.reuse = none`, hypothesis of `importer_distinct_paths_distinct_code`) -/
theorem importer_code_sources_tie :
    localImporterCodeSources = ["i.codeCache[name]", "parseAndCompile(ctx, source, fullPath, i.globalNames)"] ∧
    fsImporterCodeSources = localImporterCodeSources := ⟨rfl, rfl⟩

/-- **the module object an importer hands out is a NEW one on every successful `Import` call**
    (`object.NewModule(name, code)` on the cache-hit path and on the compile path, of both
    importers; `NewModule` returns a fresh composite literal) and the importers cache nothing but
    compiled code: the model's `St.enter` appends a new object per body run — the hypothesis the
    session theorems (`module_objects_never_rebound`, `module_views_agree`,
    `evaluations_share_nothing`, `other_evaluations_untouched`) rest on;
    `fresh_module_objects_needed` is what happens otherwise -/
theorem importer_module_sources_tie :
    localImporterModuleSources = ["object.NewModule(name, code)", "object.NewModule(name, code)"] ∧
    fsImporterModuleSources = localImporterModuleSources ∧
    newModuleReturns = ["&Module{...}"] ∧
    localImporterCaches = ["codeCache map[string]*compiler.Code"] ∧ fsImporterCaches = localImporterCaches := ⟨rfl, rfl, rfl, rfl, rfl⟩

/-- `Module.UseGlobals` makes the module object read the slice it is given (the attribute view,
    `St.attrArray`), and a function call runs on the code the CALLING VM has loaded for the
    function's code (`vm.loadCode(fn.Code())`: the function view, `St.fnArray`) -/
theorem module_views_tie :
    useGlobalsStmts = ["if len(globals) != len(m.globals) { panic }", "m.globals = globals"] ∧
    activateFunctionLoads = ["vm.loadCode(fn.Code())"] := ⟨rfl, rfl⟩

end Risor.C14
