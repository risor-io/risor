import RisorModel.C19.Model
/-!
C19 — helper lemmas: digit tables (by exhaustive `decide` over the finite alphabets), the
quantum-by-quantum inversion lemmas of the codecs, rejection lemmas, and the mutual
inductions over script values used by the json theorems, the bit-level facts about float64
behind the json integers, and sessions (results that stay alive while later calls run).  The
property statements themselves are in `Props.lean`.
-/
namespace Risor.C19


theorem hexVal_hexDig : ∀ n, n < 16 → hexVal (hexDig n) = some n := by decide

theorem hexDec_hexEnc : ∀ (b : Bytes), (∀ x ∈ b, x < 256) → hexDec (hexEnc b) = some b
  | [], _ => rfl
  | a :: r, h => by
    have ih := hexDec_hexEnc r (fun x hx => h x (by simp [hx]))
    have ha : a < 256 := h a (by simp)
    simp only [hexEnc, hexDec, hexVal_hexDig (a / 16) (by omega), hexVal_hexDig (a % 16) (by omega), ih]
    congr 2
    omega

theorem b64Val_b64Char (url : Bool) : ∀ n, n < 64 → b64Val url (b64Char url n) = some n := by
  cases url <;> decide

theorem b64Val_pad (url : Bool) : b64Val url 61 = none := by cases url <;> decide

/-- a full group of four digits is read back as its three bytes; a final group of two or three
    digits (padded or not) as the one or two bytes it was made of -/
theorem b64Groups_enc (url pad : Bool) :
    ∀ (b : Bytes), (∀ x ∈ b, x < 256) → b64Groups url pad (b64Enc url pad b) = some b
  | [], _ => by simp [b64Enc, b64Groups]
  | [a], h => by
    have ha : a < 256 := h a (by simp)
    have hx := b64Val_b64Char url (a / 4) (by omega)
    have hy := b64Val_b64Char url (a % 4 * 16) (by omega)
    cases pad <;> simp [b64Enc, b64Groups, padding, List.replicate, b64Val_pad, hx, hy] <;> omega
  | [a, b], h => by
    have ha : a < 256 := h a (by simp)
    have hb : b < 256 := h b (by simp)
    have hx := b64Val_b64Char url (a / 4) (by omega)
    have hy := b64Val_b64Char url (a % 4 * 16 + b / 16) (by omega)
    have hz := b64Val_b64Char url (b % 16 * 4) (by omega)
    cases pad <;> simp [b64Enc, b64Groups, padding, List.replicate, b64Val_pad, hx, hy, hz] <;> omega
  | a :: b :: c :: r, h => by
    have ih := b64Groups_enc url pad r (fun x hx => h x (by simp [hx]))
    have ha : a < 256 := h a (by simp)
    have hb : b < 256 := h b (by simp)
    have hc : c < 256 := h c (by simp)
    simp [b64Enc, b64Groups, ih, b64Val_b64Char url (a / 4) (by omega), b64Val_b64Char url (a % 4 * 16 + b / 16) (by omega),
        b64Val_b64Char url (b % 16 * 4 + c / 64) (by omega), b64Val_b64Char url (c % 64) (by omega)]
    omega

/-- CR and LF are the only bytes `stripNL` removes, and no encoder writes them -/
theorem stripNL_eq_self {s : Bytes} (h : s.all notNewline = true) : stripNL s = s :=
  List.filter_eq_self.2 (List.all_eq_true.1 h)

theorem notNewline_replicate_pad (n : Nat) : (List.replicate n 61).all notNewline = true :=
  List.all_eq_true.2 fun c hc => by rw [List.eq_of_mem_replicate hc]; rfl

theorem notNewline_b64Char (url : Bool) (n : Nat) : notNewline (b64Char url n) = true := by
  simp only [notNewline, b64Char, c62, c63, bne_iff_ne, Bool.and_eq_true]
  cases url <;> (repeat' split) <;> omega

theorem notNewline_padding (pad : Bool) (n : Nat) : (padding pad n).all notNewline = true := by
  cases pad
  · rfl
  · exact notNewline_replicate_pad n

theorem stripNL_b64Enc (url pad : Bool) : ∀ b : Bytes, stripNL (b64Enc url pad b) = b64Enc url pad b := by
  have h : ∀ b : Bytes, (b64Enc url pad b).all notNewline = true := by
    intro b
    fun_induction b64Enc url pad b <;>
      simp only [List.all_cons, List.all_nil, notNewline_b64Char, notNewline_padding, Bool.and_self, *]
  exact fun b => stripNL_eq_self (h b)

/-- a byte that is neither in the alphabet nor the padding character makes the quantum loop fail -/
theorem b64Groups_alien (url pad : Bool) (s : Bytes)
    (h : ∃ c ∈ s, b64Val url c = none ∧ c ≠ 61) : b64Groups url pad s = none := by
  fun_induction b64Groups url pad s <;> simp_all
  obtain ⟨a, ha, hn, h61⟩ := h
  rename_i ih
  exact h61 (ih a ha hn)

theorem b64Groups_length (url : Bool) (s : Bytes) (h : s.length % 4 ≠ 0) :
    b64Groups url true s = none := by
  fun_induction b64Groups url true s <;> simp_all <;> omega


theorem hexDec_alien (s : Bytes) (h : ∃ c ∈ s, hexVal c = none) : hexDec s = none := by
  fun_induction hexDec s <;> simp_all
  obtain ⟨a, ha, hn⟩ := h
  rename_i ih
  exact ih a ha hn

theorem hexDec_odd (s : Bytes) (h : s.length % 2 = 1) : hexDec s = none := by
  fun_induction hexDec s <;> simp_all <;> omega


theorem hexVal_upHex : ∀ n, n < 16 → hexVal (upHex n) = some n := by decide
theorem hexVal_percent : hexVal 37 = none := by decide

theorem unreserved_ne (c : Nat) (h : unreserved c = true) : c ≠ 37 ∧ c ≠ 43 := by
  simp [unreserved] at h
  omega

theorem qUnesc_cons_ne (c : Nat) (r : Bytes) (h : c ≠ 37) :
    qUnesc (c :: r) = (qUnesc r).map fun u => (if c = 43 then 32 else c) :: u := by
  rw [qUnesc.eq_def]
  simp only [h, if_false]
  cases qUnesc r <;> rfl

theorem qUnesc_pct_ok (a b x y : Nat) (t : Bytes) (ha : hexVal a = some x) (hb : hexVal b = some y) :
    qUnesc (37 :: a :: b :: t) = (qUnesc t).map fun u => (x * 16 + y) :: u := by
  rw [qUnesc.eq_def]
  simp only [if_true, ha, hb]
  cases qUnesc t <;> rfl

theorem qUnesc_pct_bad (a b : Nat) (t : Bytes) (h : hexVal a = none ∨ hexVal b = none ∨ qUnesc t = none) :
    qUnesc (37 :: a :: b :: t) = none := by
  rw [qUnesc.eq_def]
  simp only [if_true]
  rcases h with h | h | h
  · simp [h]
  · cases hexVal a <;> simp [h]
  · cases hexVal a <;> cases hexVal b <;> simp [h]

theorem qUnesc_pct_nil : qUnesc [37] = none := by rw [qUnesc.eq_def]; rfl
theorem qUnesc_pct_one (a : Nat) : qUnesc [37, a] = none := by rw [qUnesc.eq_def]; rfl

theorem qUnesc_qEsc : ∀ (b : Bytes), (∀ x ∈ b, x < 256) → qUnesc (qEsc b) = some b
  | [], _ => rfl
  | c :: r, h => by
    have ih := qUnesc_qEsc r (fun x hx => h x (by simp [hx]))
    have hc : c < 256 := h c (by simp)
    simp only [qEsc]
    split
    · rename_i hu
      have := unreserved_ne c hu
      rw [qUnesc_cons_ne _ _ this.1, ih]
      simp [this.2]
    · split
      · rename_i h32
        subst h32
        rw [qUnesc_cons_ne _ _ (by decide), ih]
        rfl
      · rw [qUnesc_pct_ok _ _ _ _ _ (hexVal_upHex (c / 16) (by omega)) (hexVal_upHex (c % 16) (by omega)), ih]
        simp only [Option.map_some, Option.some.injEq, List.cons.injEq, and_true]
        omega

/-- an incomplete or non-hexadecimal percent escape anywhere makes `QueryUnescape` fail -/
theorem qUnesc_rejects (suf : Bytes)
    (h : match suf with
      | a :: b :: _ => hexVal a = none ∨ hexVal b = none
      | _ => True) :
    ∀ (pre : Bytes), qUnesc (pre ++ 37 :: suf) = none
  | [] => by
    match suf, h with
    | [], _ => exact qUnesc_pct_nil
    | [a], _ => exact qUnesc_pct_one a
    | a :: b :: t, h =>
      rcases h with h | h
      · exact qUnesc_pct_bad _ _ _ (Or.inl h)
      · exact qUnesc_pct_bad _ _ _ (Or.inr (Or.inl h))
  | [c] => by
    by_cases hc : c = 37
    · subst hc
      match suf with
      | [] => exact qUnesc_pct_one 37
      | x :: t => exact qUnesc_pct_bad _ _ _ (Or.inl hexVal_percent)
    · have ih := qUnesc_rejects suf h []
      simp only [List.nil_append] at ih
      simp [qUnesc_cons_ne _ _ hc, ih]
  | [c, a] => by
    by_cases hc : c = 37
    · subst hc
      exact qUnesc_pct_bad _ _ _ (Or.inr (Or.inl hexVal_percent))
    · have ih := qUnesc_rejects suf h [a]
      simp only [List.cons_append, List.nil_append] at ih
      simp [qUnesc_cons_ne _ _ hc, ih]
  | c :: a :: b :: t => by
    by_cases hc : c = 37
    · subst hc
      have ih := qUnesc_rejects suf h t
      exact qUnesc_pct_bad _ _ _ (Or.inr (Or.inr ih))
    · have ih := qUnesc_rejects suf h (a :: b :: t)
      simp only [List.cons_append] at ih
      simp [qUnesc_cons_ne _ _ hc, ih]



theorem b32Val_b32Char : ∀ n, n < 32 → b32Val (b32Char n) = some n := by decide
theorem b32Char_ne_pad : ∀ n, n < 32 → b32Char n ≠ 61 := by decide

theorem b32Loop_char (n j : Nat) (q : List Nat) (src : Bytes) (hn : n < 32) (hj : j < 7) :
    b32Loop (b32Char n :: src) j q = b32Loop src (j + 1) (q ++ [n]) := by
  rw [b32Loop]
  simp only [b32Char_ne_pad n hn, false_and, if_false, b32Val_b32Char n hn]
  have : j ≠ 7 := by omega
  simp [this]

theorem b32Loop_char7 (n : Nat) (q : List Nat) (src : Bytes) (hn : n < 32) :
    b32Loop (b32Char n :: src) 7 q = (b32Loop src 0 []).map fun t => b32Pack 8 (q ++ [n]) ++ t := by
  rw [b32Loop]
  simp only [b32Char_ne_pad n hn, false_and, if_false, b32Val_b32Char n hn, if_true]
  cases b32Loop src 0 [] <;> rfl

/-- the decoder reads alphabet characters into the current quantum -/
theorem b32Loop_chars (src : Bytes) : ∀ (vs : List Nat) (j : Nat) (q : List Nat),
    (∀ v ∈ vs, v < 32) → j + vs.length ≤ 7 →
    b32Loop (vs.map b32Char ++ src) j q = b32Loop src (j + vs.length) (q ++ vs)
  | [], j, q, _, _ => by simp
  | v :: vs, j, q, hv, hj => by
    simp only [List.length_cons] at hj
    rw [List.map_cons, List.cons_append, b32Loop_char _ _ _ _ (hv v (List.mem_cons_self ..)) (by omega),
      b32Loop_chars src vs _ _ (fun x hx => hv x (List.mem_cons_of_mem _ hx)) (by omega)]
    simp only [List.length_cons, List.append_assoc, List.singleton_append]
    congr 1
    omega

/-- the eight 5-bit characters that encode five bytes -/
def b32Quantum (a b c d e : Nat) : List Nat :=
  [a / 8, a % 8 * 4 + b / 64, b / 2 % 32, b % 2 * 16 + c / 16, c % 16 * 2 + d / 128, d / 4 % 32,
    d % 4 * 8 + e / 32, e % 32]
theorem b32Quantum_lt {a b c d e : Nat} (ha : a < 256) (hb : b < 256) (hc : c < 256) (hd : d < 256)
    (he : e < 256) : ∀ v ∈ b32Quantum a b c d e, v < 32 := by
  simp only [b32Quantum, List.forall_mem_cons, List.not_mem_nil, false_imp_iff, implies_true, and_true]
  omega

/-- the decoder's bytes, on the characters written by their 5-bit and carried parts -/
theorem b32Bytes_digits {b2 c1 d2 e1 : Nat} (a1 a0 b1 b0 c0 d1 d0 e0 : Nat)
    (hb : b2 < 4) (hc : c1 < 16) (hd : d2 < 2) (he : e1 < 8) :
    b32Bytes [a1, a0 * 4 + b2, b1, b0 * 16 + c1, c0 * 2 + d2, d1, d0 * 8 + e1, e0]
      = [a1 * 8 + a0, b2 * 64 + b1 * 2 + b0, c1 * 16 + c0, d2 * 128 + d1 * 4 + d0, e1 * 32 + e0] := by
  simp only [b32Bytes, List.getD_cons_zero, List.getD_cons_succ, List.cons.injEq, and_true]
  refine ⟨?_, ?_, ?_, ?_, ?_⟩ <;> omega

theorem b32Bytes_quantum {a b c d e : Nat} (hb : b < 256) (hc : c < 256) (hd : d < 256)
    (he : e < 256) : b32Bytes (b32Quantum a b c d e) = [a, b, c, d, e] := by
  refine (b32Bytes_digits _ _ _ _ _ _ _ _ (by omega) (by omega) (by omega) (by omega)).trans ?_
  simp only [List.cons.injEq, and_true]
  omega

/-- a complete quantum of five bytes is read back, and decoding goes on -/
theorem b32Loop_quantum {a b c d e : Nat} (ha : a < 256) (hb : b < 256) (hc : c < 256) (hd : d < 256)
    (he : e < 256) (rest : Bytes) :
    b32Loop ((b32Quantum a b c d e).map b32Char ++ rest) 0 []
      = (b32Loop rest 0 []).map fun t => a :: b :: c :: d :: e :: t := by
  have hq := b32Quantum_lt ha hb hc hd he
  refine (b32Loop_chars (b32Char (e % 32) :: rest) ((b32Quantum a b c d e).take 7) 0 []
    (fun v hv => hq v (List.mem_of_mem_take hv)) (Nat.le_refl 7)).trans ?_
  refine (b32Loop_char7 (e % 32) _ rest (hq _ (by simp [b32Quantum]))).trans ?_
  rw [show b32Pack 8 ([] ++ (b32Quantum a b c d e).take 7 ++ [e % 32]) = [a, b, c, d, e] from
    b32Bytes_quantum hb hc hd he]
  rfl

/-- padding is accepted after 2, 4, 5 or 7 characters of a quantum, and ends the input -/
theorem b32Loop_pads (j : Nat) (q : List Nat) (hj : j = 2 ∨ j = 4 ∨ j = 5 ∨ j = 7) :
    b32Loop (pads (8 - j)) j q = some (b32Pack j q) := by
  rcases hj with rfl | rfl | rfl | rfl <;> simp [pads, List.replicate, b32Loop]

/-- the bytes a short quantum yields do not depend on the characters that are missing -/
theorem b32Pack_take (q0 q1 q2 q3 q4 q5 q6 q7 j : Nat) (hj : j = 2 ∨ j = 4 ∨ j = 5 ∨ j = 7) :
    b32Pack j ([q0, q1, q2, q3, q4, q5, q6, q7].take j)
      = (b32Bytes [q0, q1, q2, q3, q4, q5, q6, q7]).take (b32Count j) := by
  rcases hj with rfl | rfl | rfl | rfl <;> simp [b32Pack, b32Count, b32Bytes]

theorem b32Loop_tail {a b c d e : Nat} (ha : a < 256) (hb : b < 256) (hc : c < 256) (hd : d < 256)
    (he : e < 256) (j : Nat) (hj : j = 2 ∨ j = 4 ∨ j = 5 ∨ j = 7) :
    b32Loop (((b32Quantum a b c d e).take j).map b32Char ++ pads (8 - j)) 0 []
      = some ([a, b, c, d, e].take (b32Count j)) := by
  have hlen : ((b32Quantum a b c d e).take j).length = j := by
    rcases hj with rfl | rfl | rfl | rfl <;> rfl
  rw [b32Loop_chars _ _ 0 [] (fun v hv => b32Quantum_lt ha hb hc hd he v (List.mem_of_mem_take hv))
    (by omega), hlen, Nat.zero_add, List.nil_append, b32Loop_pads _ _ hj, ← b32Bytes_quantum hb hc hd he]
  exact congrArg some (b32Pack_take _ _ _ _ _ _ _ _ j hj)

theorem b32Loop_enc : ∀ (b : Bytes), (∀ x ∈ b, x < 256) → b32Loop (b32Enc b) 0 [] = some b
  | [], _ => rfl
  | [a], h => b32Loop_tail (b := 0) (c := 0) (d := 0) (e := 0) (h a (by simp)) (by omega) (by omega) (by omega) (by omega) 2 (by simp)
  | [a, b], h => b32Loop_tail (c := 0) (d := 0) (e := 0) (h a (by simp)) (h b (by simp)) (by omega) (by omega) (by omega) 4 (by simp)
  | [a, b, c], h => b32Loop_tail  (d := 0) (e := 0) (h a (by simp)) (h b (by simp)) (h c (by simp)) (by omega) (by omega) 5 (by simp)
  | [a, b, c, d], h => b32Loop_tail (e := 0) (h a (by simp)) (h b (by simp)) (h c (by simp)) (h d (by simp)) (by omega) 7 (by simp)
  | a :: b :: c :: d :: e :: r, h => by
    rw [b32Enc]
    refine (b32Loop_quantum (h a (by simp)) (h b (by simp)) (h c (by simp)) (h d (by simp)) (h e (by simp)) _).trans ?_
    rw [b32Loop_enc r (fun x hx => h x (by simp [hx]))]
    rfl

theorem notNewline_b32Char (n : Nat) : notNewline (b32Char n) = true := by
  simp only [notNewline, b32Char, bne_iff_ne, Bool.and_eq_true]
  split <;> omega

theorem stripNL_b32Enc : ∀ b : Bytes, stripNL (b32Enc b) = b32Enc b := by
  have h : ∀ b : Bytes, (b32Enc b).all notNewline = true := by
    intro b
    fun_induction b32Enc b <;>
      simp only [List.all_cons, List.all_nil, notNewline_b32Char, pads, notNewline_replicate_pad,
        Bool.and_self, *]
  exact fun b => stripNL_eq_self (h b)

/-- a byte outside the alphabet that comes before any padding character makes the decoder fail -/
theorem b32Loop_alien (c : Nat) (hc : b32Val c = none) (h61 : c ≠ 61) (suf : Bytes) :
    ∀ (pre : Bytes) (j : Nat) (q : List Nat), 61 ∉ pre → b32Loop (pre ++ c :: suf) j q = none
  | [], j, q, _ => by
    rw [List.nil_append, b32Loop]
    simp [h61, hc]
  | x :: pre, j, q, hp => by
    have hx : x ≠ 61 := fun e => hp (by simp [e])
    have hp' : 61 ∉ pre := fun e => hp (by simp [e])
    rw [List.cons_append, b32Loop]
    simp only [hx, false_and, if_false]
    cases hv : b32Val x with
    | none => rfl
    | some v =>
      simp only
      split
      · rw [b32Loop_alien c hc h61 suf pre 0 [] hp']
      · exact b32Loop_alien c hc h61 suf pre (j + 1) (q ++ [v]) hp'


theorem b32Loop_length : ∀ (s : Bytes) (j : Nat) (q : List Nat), 61 ∉ s → j < 8 → (j + s.length) % 8 ≠ 0 →
    b32Loop s j q = none
  | [], j, q, _, hj, hl => by
    have : j ≠ 0 := by simp at hl; omega
    simp [b32Loop, this]
  | x :: s, j, q, hp, hj, hl => by
    have hx : x ≠ 61 := fun e => hp (by simp [e])
    have hp' : 61 ∉ s := fun e => hp (by simp [e])
    rw [b32Loop]
    simp only [hx, false_and, if_false]
    cases hv : b32Val x with
    | none => rfl
    | some v =>
      simp only
      split
      · rename_i h7
        subst h7
        rw [b32Loop_length s 0 [] hp' (by omega) (by simp only [List.length_cons] at hl; omega)]
      · exact b32Loop_length s (j + 1) (q ++ [v]) hp' (by omega) (by simp only [List.length_cons] at hl; omega)


def KVs.keys : KVs → List Bytes
  | .nil => []
  | .cons k _ r => k :: KVs.keys r

theorem hasKey_keys (k : Bytes) : ∀ (a b : KVs), KVs.keys a = KVs.keys b → KVs.hasKey k a = KVs.hasKey k b
  | .nil, .nil, _ => rfl
  | .nil, .cons _ _ _, h => by simp [KVs.keys] at h
  | .cons _ _ _, .nil, h => by simp [KVs.keys] at h
  | .cons k1 _ r1, .cons k2 _ r2, h => by
    simp only [KVs.keys, List.cons.injEq] at h
    simp [KVs.hasKey, h.1, hasKey_keys k r1 r2 h.2]

theorem dedupLast_distinct : ∀ (a : KVs), KVs.distinct a = true → KVs.dedupLast a = a
  | .nil, _ => rfl
  | .cons k v r, h => by
    simp only [KVs.distinct, Bool.and_eq_true, Bool.not_eq_true'] at h
    simp [KVs.dedupLast, h.1, dedupLast_distinct r h.2]

theorem distinct_keys : ∀ (a b : KVs), KVs.keys a = KVs.keys b → KVs.distinct a = KVs.distinct b
  | .nil, .nil, _ => rfl
  | .nil, .cons _ _ _, h => by simp [KVs.keys] at h
  | .cons _ _ _, .nil, h => by simp [KVs.keys] at h
  | .cons k1 _ r1, .cons k2 _ r2, h => by
    simp only [KVs.keys, List.cons.injEq] at h
    simp [KVs.distinct, h.1, hasKey_keys k2 r1 r2 h.2, distinct_keys r1 r2 h.2]

theorem keys_decDock : ∀ (a : KVs), KVs.keys (decDock a) = KVs.keys a
  | .nil => rfl
  | .cons k v r => by simp [decDock, KVs.keys, keys_decDock r]

theorem sanitize_valid (s : Bytes) (h : validUtf8 s = true) : sanitize s = s := by
  simpa [validUtf8] using h

mutual
theorem encI_safe : ∀ (v : Val), jsonSafe v = true → ∃ w, encI v = some w ∧ jEq v (decDoc w) = true
  | .nil, _ => ⟨.nil, rfl, rfl⟩
  | .bool b, _ => ⟨.bool b, rfl, by simp [decDoc, jEq]⟩
  | .int i, h => ⟨.int i, rfl, by simpa [decDoc, jEq, jsonSafe, intExact] using h⟩
  | .float f, h => ⟨.float f, by simp [jsonSafe] at h; simp [encI, h], by simp [decDoc, jEq]⟩
  | .byte n, h => ⟨.int n, rfl, by simpa [decDoc, jEq, jsonSafe, intExact] using h⟩
  | .str s, h => ⟨.str (sanitize s), rfl, by
      simp only [jsonSafe] at h
      simp [decDoc, jEq, sanitize_valid s h]⟩
  | .bytes _, h => by simp [jsonSafe] at h
  | .list xs, h => by
    obtain ⟨ys, hy, he⟩ := encIs_safe xs (by simpa [jsonSafe] using h)
    exact ⟨.list ys, by simp [encI, hy], by simp [decDoc, jEq, he]⟩
  | .map kvs, h => by
    simp only [jsonSafe, Bool.and_eq_true] at h
    obtain ⟨ys, hy, he, hk⟩ := encIk_safe kvs h.1
    refine ⟨.map ys, by simp [encI, hy], ?_⟩
    have hd : KVs.distinct (decDock ys) = true := by
      rw [distinct_keys (decDock ys) kvs (by rw [keys_decDock, hk])]; exact h.2
    simp [decDoc, jEq, dedupLast_distinct _ hd, he]
theorem encIs_safe : ∀ (xs : Vals), jsonSafes xs = true → ∃ ys, encIs xs = some ys ∧ jEqs xs (decDocs ys) = true
  | .nil, _ => ⟨.nil, rfl, rfl⟩
  | .cons v r, h => by
    simp only [jsonSafes, Bool.and_eq_true] at h
    obtain ⟨w, hw, he⟩ := encI_safe v h.1
    obtain ⟨ys, hy, hes⟩ := encIs_safe r h.2
    exact ⟨.cons w ys, by simp [encIs, hw, hy], by simp [decDocs, jEqs, he, hes]⟩
theorem encIk_safe : ∀ (kvs : KVs), jsonSafek kvs = true →
    ∃ ys, encIk kvs = some ys ∧ jEqk kvs (decDock ys) = true ∧ KVs.keys ys = KVs.keys kvs
  | .nil, _ => ⟨.nil, rfl, rfl, rfl⟩
  | .cons k v r, h => by
    simp only [jsonSafek, Bool.and_eq_true] at h
    obtain ⟨w, hw, he⟩ := encI_safe v h.1.2
    obtain ⟨ys, hy, hes, hk⟩ := encIk_safe r h.2
    exact ⟨.cons (sanitize k) w ys, by simp [encIk, hw, hy],
      by simp [decDock, jEqk, he, hes, sanitize_valid k h.1.1],
      by simp [KVs.keys, hk, sanitize_valid k h.1.1]⟩
end

mutual
theorem encI_eq_encM : ∀ (v : Val), noBytes v = true → encI v = encM v
  | .nil, _ | .bool _, _ | .int _, _ | .float _, _ | .byte _, _ | .str _, _ => by simp [encI, encM]
  | .bytes _, h => by simp [noBytes] at h
  | .list xs, h => by simp [encI, encM, encIs_eq_encMs xs (by simpa [noBytes] using h)]
  | .map kvs, h => by simp [encI, encM, encIk_eq_encMk kvs (by simpa [noBytes] using h)]
theorem encIs_eq_encMs : ∀ (xs : Vals), noBytess xs = true → encIs xs = encMs xs
  | .nil, _ => rfl
  | .cons v r, h => by
    simp only [noBytess, Bool.and_eq_true] at h
    simp [encIs, encMs, encI_eq_encM v h.1, encIs_eq_encMs r h.2]
theorem encIk_eq_encMk : ∀ (kvs : KVs), noBytesk kvs = true → encIk kvs = encMk kvs
  | .nil, _ => rfl
  | .cons k v r, h => by
    simp only [noBytesk, Bool.and_eq_true] at h
    simp [encIk, encMk, encI_eq_encM v h.1, encIk_eq_encMk r h.2]
end


mutual
theorem jsonSafe_noBytes : ∀ (v : Val), jsonSafe v = true → noBytes v = true
  | .nil, _ | .bool _, _ | .int _, _ | .float _, _ | .byte _, _ | .str _, _ => by simp [noBytes]
  | .bytes _, h => by simp [jsonSafe] at h
  | .list xs, h => by simpa [noBytes] using jsonSafes_noBytess xs (by simpa [jsonSafe] using h)
  | .map kvs, h => by
    simp only [jsonSafe, Bool.and_eq_true] at h
    simpa [noBytes] using jsonSafek_noBytesk kvs h.1
theorem jsonSafes_noBytess : ∀ (xs : Vals), jsonSafes xs = true → noBytess xs = true
  | .nil, _ => rfl
  | .cons v r, h => by
    simp only [jsonSafes, Bool.and_eq_true] at h
    simp [noBytess, jsonSafe_noBytes v h.1, jsonSafes_noBytess r h.2]
theorem jsonSafek_noBytesk : ∀ (kvs : KVs), jsonSafek kvs = true → noBytesk kvs = true
  | .nil, _ => rfl
  | .cons _ v r, h => by
    simp only [jsonSafek, Bool.and_eq_true] at h
    simp [noBytesk, jsonSafe_noBytes v h.1.2, jsonSafek_noBytesk r h.2]
end

theorem bitLen_bounds (m : Nat) (hm : m ≠ 0) : 2 ^ (bitLen m - 1) ≤ m ∧ m < 2 ^ bitLen m ∧ 1 ≤ bitLen m := by
  simp only [bitLen, hm, if_false, Nat.add_sub_cancel]
  exact ⟨Nat.log2_self_le hm, Nat.lt_log2_self, by omega⟩

/-- reading back a normal number: sign 0, biased exponent `E`, fraction `M` -/
theorem f64IntVal_normal (E M : Nat) (hE0 : E ≠ 0) (hE : E < 2047) (hM : M < 2 ^ 52) :
    f64IntVal (M + E * 2 ^ 52) =
      if 1075 ≤ E then some (Int.ofNat ((2 ^ 52 + M) * 2 ^ (E - 1075)))
      else if (2 ^ 52 + M) % 2 ^ (1075 - E) = 0 then some (Int.ofNat ((2 ^ 52 + M) / 2 ^ (1075 - E)))
      else none := by
  have e1 : (M + E * 2 ^ 52) / 2 ^ 63 = 0 := Nat.div_eq_of_lt (by omega)
  have e2 : (M + E * 2 ^ 52) / 2 ^ 52 % 2048 = E := by
    rw [Nat.add_mul_div_right _ _ (by decide), Nat.div_eq_of_lt hM, Nat.zero_add, Nat.mod_eq_of_lt (by omega)]
  have e3 : (M + E * 2 ^ 52) % 2 ^ 52 = M := by
    rw [Nat.add_mul_mod_self_right, Nat.mod_eq_of_lt hM]
  have hE' : E ≠ 2047 := by omega
  simp only [f64IntVal, e1, e2, e3, hE0, hE', if_false, Nat.zero_mod, Nat.zero_ne_one]

theorem f64IntVal_f64OfNat (m : Nat) (h : m < 2 ^ 53) : f64IntVal (f64OfNat m) = some (Int.ofNat m) := by
  by_cases hm : m = 0
  · subst hm; rfl
  obtain ⟨hlo, hhi, hl1⟩ := bitLen_bounds m hm
  generalize hL : bitLen m = l at *
  have hl : l ≤ 53 := by
    apply Nat.le_of_not_lt
    intro hc
    have : 2 ^ 53 ≤ 2 ^ (l - 1) := Nat.pow_le_pow_right (by omega) (by omega)
    omega
  -- the significand `m * 2^(53-l)` has exactly 53 bits
  have hP : 0 < 2 ^ (53 - l) := Nat.pow_pos (by omega)
  have h52 : 2 ^ 52 ≤ m * 2 ^ (53 - l) := by
    calc 2 ^ 52 = 2 ^ (l - 1) * 2 ^ (53 - l) := by rw [← Nat.pow_add]; congr 1; omega
      _ ≤ m * 2 ^ (53 - l) := Nat.mul_le_mul_right _ hlo
  have h53 : m * 2 ^ (53 - l) < 2 ^ 53 := by
    calc m * 2 ^ (53 - l) < 2 ^ l * 2 ^ (53 - l) := Nat.mul_lt_mul_of_pos_right hhi hP
      _ = 2 ^ 53 := by rw [← Nat.pow_add]; congr 1; omega
  simp only [f64OfNat, hm, if_false, hL, hl, if_true]
  rw [Nat.add_comm, f64IntVal_normal _ _ (by omega) (by omega) (by omega),
    Nat.add_sub_cancel' h52]
  by_cases h53' : l = 53
  · subst h53'
    simp
  · have e7 : ¬ (1075 ≤ l - 1 + 1023) := by omega
    have e8 : 1075 - (l - 1 + 1023) = 53 - l := by omega
    simp only [e7, if_false, e8, Nat.mul_mod_left, if_true, Nat.mul_div_cancel _ hP]

/-! ## sessions (results that stay alive while later calls run) -/

theorem runSpec_append (st : Store) (a b : List Call) :
    runSpec st (a ++ b) = runSpec (runSpec st a) b := by
  induction a generalizing st with
  | nil => rfl
  | cons c r ih => simp [runSpec, ih]

theorem runSpec_extends (st : Store) (cs : List Call) : ∃ ext, runSpec st cs = st ++ ext := by
  induction cs generalizing st with
  | nil => exact ⟨[], by simp [runSpec]⟩
  | cons c r ih =>
    obtain ⟨ext, h⟩ := ih (st ++ [c.eval st])
    exact ⟨c.eval st :: ext, by simp [runSpec, h]⟩

theorem Mem.read_eq (m : Mem) (i : Nat) : m.read i = m.observe.getD i none := by
  unfold Mem.read Mem.observe
  by_cases h : i < m.slots.length
  · simp [List.getD, h]
  · simp [List.getD, h]

theorem observe_grow (h : Heap) (b : Bytes) (slots : List (Option Nat))
    (wf : ∀ k, some k ∈ slots → k < h.length) :
    slots.map (fun r => r.bind ((h ++ [b])[·]?)) = slots.map (fun r => r.bind (h[·]?)) := by
  apply List.map_congr_left
  intro r hr
  cases r with
  | none => rfl
  | some k =>
    have := wf k hr
    simp [List.getElem?_append_left this]

theorem step_fresh (m : Mem) (wf : m.WF) (c : Call) :
    (m.step fresh c).WF ∧ (m.step fresh c).observe = m.observe ++ [c.eval m.observe] := by
  have grow : ∀ b, ({ heap := m.heap ++ [b], slots := m.slots ++ [some m.heap.length] } : Mem).WF ∧
      ({ heap := m.heap ++ [b], slots := m.slots ++ [some m.heap.length] } : Mem).observe = m.observe ++ [some b] := by
    intro b
    constructor
    · intro k hk
      simp only [List.mem_append, List.mem_singleton, Option.some.injEq] at hk
      rcases hk with hk | hk
      · have := wf k hk; simp; omega
      · simp [hk]
    · simp only [Mem.observe, List.map_append, observe_grow m.heap b m.slots wf]
      simp
  cases c with
  | lit b => exact grow b
  | app f src =>
    simp only [Mem.step, Call.eval, ← Mem.read_eq]
    cases hres : (m.read src).bind f with
    | none =>
      constructor
      · intro k hk
        simp only [List.mem_append, List.mem_singleton] at hk
        rcases hk with hk | hk
        · exact wf k hk
        · cases hk
      · simp [Mem.observe]
    | some b =>
      have : writeCell m.heap (fresh m.heap) b = (m.heap ++ [b], m.heap.length) := by
        simp [writeCell, fresh]
      simp only [this]
      exact grow b

theorem runImpl_fresh (m : Mem) (wf : m.WF) (cs : List Call) :
    (runImpl fresh m cs).observe = runSpec m.observe cs := by
  induction cs generalizing m with
  | nil => rfl
  | cons c r ih =>
    obtain ⟨wf', ho⟩ := step_fresh m wf c
    simp only [runImpl, runSpec, ih _ wf', ho]

end Risor.C19
