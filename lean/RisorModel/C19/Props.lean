import RisorModel.C19.Lemmas
/-!
C19 — property theorems.  "Standard-library wrappers agree with Go, and encoders invert
their decoders."

Everything is stated for ALL byte strings / value trees / argument lists (no bound on
length or depth).  Byte strings are lists of naturals below 256 (`IsBytes`).
The Impl model (`Model.lean`) is the code as it is, defects included; where the unchanged
code violates the property the full statement is kept as a `def … : Prop`, refuted by a
concrete witness, and the strongest true part is proved under a decidable guard (the json
statements of section 3).

Repaired in /repo and followed here (the pre-fix behaviour is a named historical definition
with a checked statement, section 4):
* `repeat` tests its count before it calls `strings.Repeat` — `C19_no_panic` proves the full
  statement `C19_full_no_panic`; `C19_fixed_repeat_panicked` refutes it for the pre-fix inventory;
* the rune argument of `bytes.contains_rune` / `index_rune` is one UTF-8 character
  (`C19_fixed_rune_arg_was_bytewise`), `math.abs` clears the sign bit
  (`C19_fixed_abs_kept_negzero`, `C19_fixed_abs_differs_iff`), `math.pow10` hands an int to
  `math.Pow10` unchanged (`C19_fixed_pow10_exponent_wrapped`).

Section 7 is about the hand-written wrappers of modules/regexp: Impl = Spec for every wrapper of
the regenerated inventory, every Go behaviour and every argument list; the glue statement of
section 4 applies to them; and the model of replacement templates shows why a second path to a
result (a literal fast path in `replace_all`) is not the Go function.
-/
namespace Risor.C19

/-- every element is a byte -/
def IsBytes (b : Bytes) : Prop := ∀ x ∈ b, x < 256

/-! ## 1. The lossless byte codecs invert: decode (encode b) = b -/

/-- hex: for every byte string `b`, `decode(encode(b,"hex"),"hex")` gives back `b`. -/
theorem hex_roundtrip (b : Bytes) (hb : IsBytes b) : hexDec (hexEnc b) = some b :=
  hexDec_hexEnc b hb

/-- base64, all four encodings used by risor (std/url alphabet, padded/raw; the `base64`
    codec is std+padded): for every byte string `b`, decoding the encoding gives back `b`. -/
theorem base64_roundtrip (url pad : Bool) (b : Bytes) (hb : IsBytes b) :
    b64Dec url pad (b64Enc url pad b) = some b := by
  unfold b64Dec
  rw [stripNL_b64Enc url pad b]
  exact b64Groups_enc url pad b hb

/-- base32 (std, padded): for every byte string `b`, decoding the encoding gives back `b`. -/
theorem base32_roundtrip (b : Bytes) (hb : IsBytes b) : b32Dec (b32Enc b) = some b := by
  unfold b32Dec
  rw [stripNL_b32Enc b]
  exact b32Loop_enc b hb

/-- urlquery (`url.QueryEscape` / `QueryUnescape`): for every byte string `b` (arbitrary
    Unicode, invalid UTF-8, `%`, `+`, spaces), unescaping the escaped text gives back `b`. -/
theorem urlquery_roundtrip (b : Bytes) (hb : IsBytes b) : qUnesc (qEsc b) = some b :=
  qUnesc_qEsc b hb

/-- The registry view: for every codec of the byte-projection registry and every byte
    string, `decode(encode(b, c), c)` is `b`. -/
theorem codec_roundtrip (c : Codec) (b : Bytes) (hb : IsBytes b) : c.dec (c.enc b) = some b := by
  cases c
  · exact hex_roundtrip b hb
  · exact base64_roundtrip false true b hb
  · exact base32_roundtrip b hb
  · exact urlquery_roundtrip b hb

/-- gzip: `compress/gzip` is trusted, not modelled.  Its inverse law is a *hypothesis*; given
    it, risor's codec (which feeds `AsBytes(x)` to the writer and returns what the reader
    yields) inverts for every byte string. -/
structure GzipLib where
  compress : Bytes → Bytes
  decompress : Bytes → Option Bytes

def gzipEnc (g : GzipLib) (b : Bytes) : Bytes := g.compress b
def gzipDec (g : GzipLib) (s : Bytes) : Option Bytes := g.decompress s

theorem gzip_roundtrip (g : GzipLib) (law : ∀ b, g.decompress (g.compress b) = some b) (b : Bytes) :
    gzipDec g (gzipEnc g b) = some b := law b

/-! ## 2. Malformed input is rejected -/

/-- hex: any input containing a byte that is not a hex digit, or of odd length, is an error. -/
theorem hex_rejects_malformed (s : Bytes) (h : (∃ c ∈ s, hexVal c = none) ∨ s.length % 2 = 1) :
    hexDec s = none := by
  rcases h with h | h
  · exact hexDec_alien s h
  · exact hexDec_odd s h

/-- base64 (every variant): any input containing a byte that is neither in the alphabet, nor
    `=`, nor CR/LF is an error, wherever the byte stands. -/
theorem base64_rejects_alien (url pad : Bool) (s : Bytes)
    (h : ∃ c ∈ s, b64Val url c = none ∧ c ≠ 61 ∧ c ≠ 10 ∧ c ≠ 13) : b64Dec url pad s = none := by
  obtain ⟨c, hc, hv, h61, h10, h13⟩ := h
  apply b64Groups_alien
  refine ⟨c, ?_, hv, h61⟩
  simp [stripNL, List.mem_filter, hc, notNewline, h10, h13]

/-- base64, padded encodings: if the number of bytes other than CR/LF is not a multiple of 4
    the input is an error (truncated text, missing padding). -/
theorem base64_rejects_length (url : Bool) (s : Bytes) (h : (stripNL s).length % 4 ≠ 0) :
    b64Dec url true s = none :=
  b64Groups_length url (stripNL s) h

/-- base32: a byte outside the alphabet (and not `=`, CR, LF) that stands before the first
    padding character makes the input an error.  (Behind the padding Go's decoder does not
    look at up to 7 bytes; the Impl model reproduces that, see `base32_trailing_ignored`.) -/
theorem base32_rejects_alien (pre suf : Bytes) (c : Nat) (hpre : 61 ∉ pre)
    (hc : b32Val c = none) (h61 : c ≠ 61) (h10 : c ≠ 10) (h13 : c ≠ 13) :
    b32Dec (pre ++ c :: suf) = none := by
  unfold b32Dec
  have hk : notNewline c = true := by simp [notNewline, h10, h13]
  have : stripNL (pre ++ c :: suf) = stripNL pre ++ c :: stripNL suf := by
    simp [stripNL, List.filter_append, List.filter, hk]
  rw [this]
  exact b32Loop_alien c hc h61 _ _ 0 [] (fun hm => hpre (List.mem_filter.1 hm).1)

/-- base32: an input without padding whose number of bytes other than CR/LF is not a
    multiple of 8 is an error. -/
theorem base32_rejects_length (s : Bytes) (hp : 61 ∉ s) (h : (stripNL s).length % 8 ≠ 0) :
    b32Dec s = none :=
  b32Loop_length (stripNL s) 0 [] (fun hm => hp (List.mem_filter.1 hm).1) (by omega) (by simpa using h)

/-- Observation about the Go library that risor inherits (not a risor defect): after the
    padding of the last quantum `encoding/base32` does not examine the remaining bytes. -/
theorem base32_trailing_ignored : b32Dec [77, 69, 61, 61, 61, 61, 61, 61, 102] = some [97] := by decide +kernel

/-- urlquery: a `%` that is not followed by two hex digits makes the input an error, wherever
    it stands. -/
theorem urlquery_rejects_malformed (pre suf : Bytes)
    (h : match suf with
      | a :: b :: _ => hexVal a = none ∨ hexVal b = none
      | _ => True) :
    qUnesc (pre ++ 37 :: suf) = none :=
  qUnesc_rejects suf h pre

/-! ## 3. json: the codec and json.marshal / json.unmarshal -/

/-- FULL STATEMENT (json round trip): for every value, `decode(encode(v,"json"),"json")`
    succeeds and gives back a value equal to `v` (`jEq`: same shape and bytes, numbers equal
    as numbers).  FALSE on the unchanged code — see the four counterexamples. -/
def C19_full_json_roundtrip : Prop :=
  ∀ v : Val, ∃ w, codecRoundtrip v = some w ∧ jEq v w = true

/-- FULL STATEMENT (agreement): `json.marshal(v)` and `encode(v,"json")` produce the same
    document (or both fail) for every value.  FALSE on the unchanged code. -/
def C19_full_json_agree : Prop := ∀ v : Val, encCodec v = encM v

theorem f64_2p53p1 : f64OfInt 9007199254740993 = 4845873199050653696 := by decide +kernel
theorem sanitize_ff : sanitize [255] = [239, 191, 189] := by decide +kernel

/-- nil: `encode(nil,"json")` is an error. -/
theorem C19_counterexample_json_nil : ¬ C19_full_json_roundtrip := by
  intro h
  obtain ⟨w, hw, _⟩ := h .nil
  simp [codecRoundtrip, encCodec] at hw

/-- byte_slice: `decode(encode(byte_slice("hi"),"json"),"json")` is the string "aGk=". -/
theorem C19_counterexample_json_bytes :
    codecRoundtrip (.bytes [104, 105]) = some (.str [97, 71, 107, 61]) ∧
    jEq (.bytes [104, 105]) (.str [97, 71, 107, 61]) = false := by
  constructor
  · simp only [codecRoundtrip, encCodec, encI, Option.map_some, decDoc]
    have : b64Text [104, 105] = [97, 71, 107, 61] := by decide +kernel
    rw [this]
  · decide +kernel

/-- int above 2^53: `decode(encode(9007199254740993,"json"),"json")` is the float
    9007199254740992.0, which does not denote the same number. -/
theorem C19_counterexample_json_int :
    codecRoundtrip (.int 9007199254740993) = some (.float 4845873199050653696) ∧
    jEq (.int 9007199254740993) (.float 4845873199050653696) = false := by
  constructor
  · simp only [codecRoundtrip, encCodec, encI, Option.map_some, decDoc]
    rw [f64_2p53p1]
  · decide +kernel

/-- invalid UTF-8: `decode(encode("\xff","json"),"json")` is "�". -/
theorem C19_counterexample_json_utf8 :
    codecRoundtrip (.str [255]) = some (.str [239, 191, 189]) ∧
    jEq (.str [255]) (.str [239, 191, 189]) = false := by
  constructor
  · simp only [codecRoundtrip, encCodec, encI, Option.map_some, decDoc]
    rw [sanitize_ff]
  · decide +kernel

/-- the two encoders disagree on nil (error vs `null`) … -/
theorem C19_counterexample_json_agree_nil : ¬ C19_full_json_agree := by
  intro h
  have := h .nil
  simp [encCodec, encM] at this

/-- … and on byte slices (base64 text vs the bytes as a string). -/
theorem C19_counterexample_json_agree_bytes :
    encCodec (.bytes [104, 105]) = some (.str [97, 71, 107, 61]) ∧
    encM (.bytes [104, 105]) = some (.str [104, 105]) := by
  constructor
  · simp only [encCodec, encI]
    have : b64Text [104, 105] = [97, 71, 107, 61] := by decide +kernel
    rw [this]
  · simp only [encM]
    have : sanitize [104, 105] = [104, 105] := by decide +kernel
    rw [this]

/-- The decidable guard of the round-trip theorem: not the nil object at top level, and
    `jsonSafe` — no byte_slice anywhere, every int survives float64 (`intExact`), every float
    is finite, every string and key is valid UTF-8, keys are distinct. -/
def jsonGuard (v : Val) : Bool := !isNil v && jsonSafe v

/-- PARTIAL (json round trip): for every value tree of any depth and width inside the guard,
    `decode(encode(v,"json"),"json")` succeeds and the result equals `v` (ints come back as
    the float that denotes exactly the same integer). -/
theorem C19_partial_json_roundtrip (v : Val) (h : jsonGuard v = true) :
    ∃ w, codecRoundtrip v = some w ∧ jEq v w = true := by
  simp only [jsonGuard, Bool.and_eq_true, Bool.not_eq_true'] at h
  obtain ⟨w, hw, he⟩ := encI_safe v h.2
  refine ⟨decDoc w, ?_, he⟩
  cases v <;> simp_all [codecRoundtrip, encCodec, isNil]

/-- The same for the json module: `json.unmarshal(json.marshal(v))` equals `v` for every value
    inside `jsonSafe` (nil included: the module handles it). -/
theorem C19_partial_json_module_roundtrip (v : Val) (h : jsonSafe v = true) :
    ∃ w, marshalRoundtrip v = some w ∧ jEq v w = true := by
  obtain ⟨w, hw, he⟩ := encI_safe v h
  have hb : noBytes v = true := jsonSafe_noBytes v h
  exact ⟨decDoc w, by simp [marshalRoundtrip, ← encI_eq_encM v hb, hw], he⟩

/-- PARTIAL (agreement): for every value that is not nil at top level and contains no
    byte_slice, `encode(v,"json")` and `json.marshal(v)` produce the same document (so also
    fail together, e.g. on a non-finite float). -/
theorem C19_partial_json_agree (v : Val) (hn : isNil v = false) (hb : noBytes v = true) :
    encCodec v = encM v := by
  rw [← encI_eq_encM v hb]
  cases v <;> simp_all [encCodec, isNil]

/-- every int `0 ≤ i < 2^53` survives float64 exactly, i.e. is inside the guard (`f64OfNat`
    is round-to-nearest-even and `f64IntVal` reads the bits back) -/
theorem intExact_nonneg (m : Nat) (h : m < 2 ^ 53) : intExact (Int.ofNat m) = true := by
  have hlt : ¬ ((m : Int) < 0) := by omega
  simp [intExact, f64OfInt, hlt, f64IntVal_f64OfNat m h]

/-- the boundary rows on both sides (negative ints: checked here on the boundary; 2^53 itself
    and −2^63 are exact, 2^53+1 and MaxInt64 are not) -/
example : intExact 9007199254740992 = true ∧ intExact (-9007199254740992) = true ∧
    intExact 9007199254740993 = false ∧ intExact 9223372036854775807 = false ∧
    intExact (-9223372036854775808) = true := by decide +kernel

/-- non-vacuity: a nested value with a map, a list, a negative int, a float, nil inside a
    list and non-ASCII text is inside the guard -/
example : jsonGuard (.map (.cons [97] (.list (.cons (.int (-5)) (.cons .nil (.cons (.float 4609434218613702656) .nil))))
    (.cons [195, 169] (.str [230, 151, 165]) .nil))) = true := by decide +kernel

/-! ## 4. Wrapper glue: `result = inject (goFunction (project args))`, errors are values -/

/-- a Go value has the type a converter produces -/
def fits : Conv → GoVal → Bool
  | .str, .str _ => true
  | .int, .int _ => true
  | .bool, .bool _ => true
  | .strList, .strs _ => true
  | .bytes, .bytes _ => true
  | .float, .float _ => true
  | _, _ => false

def fitsAll : List Conv → List GoVal → Bool
  | [], [] => true
  | c :: cs, g :: gs => fits c g && fitsAll cs gs
  | _, _ => false

/-- the object types each converter accepts (object/typeconv.go) -/
def accepts : Conv → Val → Bool
  | .str, .str _ => true
  | .str, .bytes _ => true
  | .int, .int _ => true
  | .int, .byte _ => true
  | .bool, .bool _ => true
  | .bytes, .bytes _ => true
  | .bytes, .str _ => true
  | .strList, .list xs => (Vals.toStrs xs).isSome
  | .float, .float _ => true
  | .float, .int _ => true
  | .float, .byte _ => true
  | _, _ => false

/-- `project` is defined exactly on the accepted object types: every other argument yields
    a type error value, never a panic. -/
theorem project_defined_iff (c : Conv) (v : Val) : (project c v).isSome = accepts c v := by
  cases c <;> cases v <;> simp [project, accepts]

theorem toStrs_ofStrs : ∀ l : List Bytes, Vals.toStrs (Vals.ofStrs l) = some l
  | [] => rfl
  | s :: r => by simp [Vals.ofStrs, Vals.toStrs, toStrs_ofStrs r]

/-- `project (inject x) = x` on every Go value of the converter's type: what the wrapper hands
    to the Go function is exactly the script value's content, and what it hands back is exactly
    the Go result. -/
theorem project_inject (c : Conv) (g : GoVal) (h : fits c g = true) : project c (inject g) = some g := by
  cases c <;> cases g <;> simp_all [fits, project, inject, toStrs_ofStrs]

theorem projectAll_inject : ∀ (cs : List Conv) (gs : List GoVal), fitsAll cs gs = true →
    projectAll cs (gs.map inject) = some gs
  | [], [], _ => rfl
  | [], _ :: _, h => by simp [fitsAll] at h
  | _ :: _, [], h => by simp [fitsAll] at h
  | c :: cs, g :: gs, h => by
    simp only [fitsAll, Bool.and_eq_true] at h
    simp [projectAll, project_inject c g h.1, projectAll_inject cs gs h.2]

theorem fitsAll_length : ∀ (cs : List Conv) (gs : List GoVal), fitsAll cs gs = true → gs.length = cs.length
  | [], [], _ => rfl
  | [], _ :: _, h => by simp [fitsAll] at h
  | _ :: _, [], h => by simp [fitsAll] at h
  | _ :: cs, _ :: gs, h => by
    simp only [fitsAll, Bool.and_eq_true] at h
    simp [fitsAll_length cs gs h.2]

/-- GLUE FAITHFUL: for every wrapper signature, every Go function `f` and every tuple of Go
    values of the signature's types, calling the wrapper on the injected tuple returns exactly
    what the exported function returns on that tuple: an error value if one of its own tests
    fires, and otherwise the injection of what `f` returns on the tuple (passed on in the
    recorded order). -/
theorem glue_faithful (sig : Sig) (f : GoFun) (gs : List GoVal) (h : fitsAll sig.args gs = true) :
    wrap sig f (gs.map inject) = if refuses sig gs then .err else outOf (f (passed sig gs)) := by
  unfold wrap callInner
  simp [fitsAll_length _ _ h, projectAll_inject _ _ h]

/-- the same for a wrapper whose exported function makes no test of its own (every wrapper of
    the inventory but `repeat`): the result is the injection of the Go result. -/
theorem glue_faithful_plain (sig : Sig) (hp : sig.pre = []) (f : GoFun) (gs : List GoVal)
    (h : fitsAll sig.args gs = true) : wrap sig f (gs.map inject) = outOf (f (passed sig gs)) := by
  rw [glue_faithful sig f gs h]; simp [refuses, hp]

/-- ERRORS ARE VALUES: whatever the arguments (any number, any types), a wrapper around a Go
    function that does not panic returns a value or an error value — never a panic. -/
theorem wrap_no_panic (sig : Sig) (f : GoFun) (hf : ∀ gs, f gs ≠ none) (args : List Val) :
    ∀ o, wrap sig f args = o → o ≠ .panic := by
  intro o ho
  unfold wrap at ho
  split at ho
  · subst ho; simp
  · split at ho
    · subst ho; simp
    · rename_i gs _
      unfold callInner at ho
      split at ho
      · subst ho; simp
      · cases hfg : f (passed sig gs) with
        | none => exact absurd hfg (hf _)
        | some r => rw [hfg] at ho; subst ho; simp [outOf]

/-- a Go library: one function per name; it panics exactly on `goPanics` (for the inventory:
    `strings.Repeat` with a negative count or an overflowing length) -/
def LibSpec (lib : String → GoFun) : Prop := ∀ go gs, lib go gs = none ↔ goPanics go gs = true

/-- FULL STATEMENT (errors, not panics): no wrapper of an inventory ever panics, for any
    library that behaves like Go's and any arguments. -/
def NoPanic (sigs : List Sig) : Prop :=
  ∀ lib, LibSpec lib → ∀ sig ∈ sigs, ∀ args, wrap sig (lib sig.go) args ≠ .panic

/-- the full statement for the strings module as it is -/
def C19_full_no_panic : Prop := NoPanic stringsSigs

def demoLib : String → GoFun := fun go gs => if goPanics go gs then none else some (.bool false)

theorem demoLib_spec : LibSpec demoLib := by
  intro go gs; unfold demoLib; split <;> simp_all

/-- what `projectAll` returns has the converters' types -/
theorem projectAll_fits : ∀ (cs : List Conv) (args : List Val) (gs : List GoVal),
    projectAll cs args = some gs → fitsAll cs gs = true
  | [], [], gs, h => by simp [projectAll] at h; subst h; rfl
  | [], _ :: _, _, h => by simp [projectAll] at h
  | _ :: _, [], _, h => by simp [projectAll] at h
  | c :: cs, v :: vs, gs, h => by
    simp only [projectAll] at h
    cases hp : project c v with
    | none => simp [hp] at h
    | some g =>
      cases hq : projectAll cs vs with
      | none => simp [hp, hq] at h
      | some gs' =>
        simp [hp, hq] at h
        subst h
        have hfit : fits c g = true := by
          cases c <;> cases v <;> simp [project] at hp <;> try (subst hp; rfl)
          rename_i xs
          cases hx : Vals.toStrs xs with
          | none => simp [hx] at hp
          | some l => simp [hx] at hp; subst hp; rfl
        simp [fitsAll, hfit, projectAll_fits cs vs gs' hq]

/-- the tests of an exported function COVER the panic domain of the Go function it calls: on
    every tuple of the signature's types on which the Go function would panic, a test fires
    (so the Go function is not called there) -/
def Covered (sig : Sig) : Prop :=
  ∀ gs, fitsAll sig.args gs = true → goPanics sig.go (passed sig gs) = true → refuses sig gs = true

/-- ERRORS, NOT PANICS, from coverage: a wrapper whose tests cover the panic domain of its Go
    function never panics — for every library behaving like Go's and every argument list (any
    number of arguments, any types). -/
theorem no_panic_of_covered (lib : String → GoFun) (hl : LibSpec lib) (sig : Sig) (hc : Covered sig)
    (args : List Val) : wrap sig (lib sig.go) args ≠ .panic := by
  unfold wrap
  split
  · simp
  · split
    · simp
    · rename_i gs hp
      unfold callInner
      split
      · simp
      · rename_i hr
        cases hfg : lib sig.go (passed sig gs) with
        | none =>
          have := hc gs (projectAll_fits _ _ _ hp) ((hl _ _).1 hfg)
          exact absurd this hr
        | some r => simp [outOf]

/-- `count > math.MaxInt/len(s)` (integer division, `len(s) > 0`) says exactly that the product
    `len(s)·count` exceeds `math.MaxInt` -/
theorem div_lt_iff_overflow (l n : Int) (hl : 0 < l) : maxInt64 / l < n ↔ maxInt64 < l * n := by
  rw [Int.ediv_lt_iff_lt_mul hl, Int.mul_comm]

/-- the two tests of the repaired `repeat` fire EXACTLY on the panic domain of `strings.Repeat`
    — on every string and every count: nothing Go computes is refused, nothing Go panics on
    is passed on -/
theorem repeat_tests_exact (s : Bytes) (n : Int) :
    refuses ⟨"repeat", "strings.Repeat", [.str, .int], [0, 1], .str, [.neg 1, .lenMulOverflows 0 1]⟩
        [.str s, .int n]
      = goPanics "strings.Repeat" [.str s, .int n] := by
  simp only [refuses, List.any_cons, List.any_nil, Bool.or_false, Check.fires, List.getD_cons_zero,
    List.getD_cons_succ, goPanics]
  by_cases hn : n < 0
  · simp [hn]
  · cases hs : s.length with
    | zero => simp [hn]; unfold maxInt64; omega
    | succ k =>
      have := div_lt_iff_overflow ((k : Int) + 1) n (by omega)
      simp [hn, this]

/-- every wrapper of the strings module is covered: `repeat` by its two tests, the others
    because their Go functions do not panic -/
theorem stringsSigs_covered : ∀ sig ∈ stringsSigs, Covered sig := by
  intro sig hs gs hf hg
  -- only `strings.Repeat` has a panic domain, and only `repeat` calls it
  have hgo : sig.go = "strings.Repeat" := by
    unfold goPanics at hg
    split at hg
    · assumption
    · cases hg
  have honly : stringsSigs.filter (·.go == "strings.Repeat")
      = [⟨"repeat", "strings.Repeat", [.str, .int], [0, 1], .str, [.neg 1, .lenMulOverflows 0 1]⟩] := by
    decide +kernel
  have hsig : sig ∈ stringsSigs.filter (·.go == "strings.Repeat") :=
    List.mem_filter.2 ⟨hs, beq_iff_eq.2 hgo⟩
  rw [honly, List.mem_singleton] at hsig
  subst hsig
  match gs, hf with
  | [.str s, .int n], _ =>
    rw [repeat_tests_exact]
    simpa [passed] using hg

/-- **ERRORS, NOT PANICS (the full statement, proved since the repair of `repeat`).**  No
    wrapper of the strings module as regenerated on this run ever panics: for every library
    that behaves like Go's (panicking exactly on `goPanics`), every wrapper of the inventory
    and every argument list — any number of arguments, of any types, any string, any count —
    the wrapper returns a value or an error value. -/
theorem C19_no_panic : C19_full_no_panic := fun lib hl sig hs args =>
  no_panic_of_covered lib hl sig (stringsSigs_covered sig hs) args

/-- AGREEMENT WITH GO for `repeat`, on every string and every count: where `strings.Repeat`
    is defined the wrapper returns its result, where it panics the wrapper returns an error
    value. -/
theorem repeat_agrees_with_go (lib : String → GoFun) (hl : LibSpec lib) (s : Bytes) (n : Int) :
    wrap ⟨"repeat", "strings.Repeat", [.str, .int], [0, 1], .str, [.neg 1, .lenMulOverflows 0 1]⟩
        (lib "strings.Repeat") [.str s, .int n]
      = match lib "strings.Repeat" [.str s, .int n] with
        | some r => .val (inject r)
        | none => .err := by
  have hg := glue_faithful ⟨"repeat", "strings.Repeat", [.str, .int], [0, 1], .str, [.neg 1, .lenMulOverflows 0 1]⟩
    (lib "strings.Repeat") [.str s, .int n] rfl
  simp only [List.map_cons, List.map_nil, inject] at hg
  rw [hg, repeat_tests_exact]
  cases hlib : lib "strings.Repeat" [.str s, .int n] with
  | none => simp [(hl _ _).1 hlib]
  | some r =>
    have : goPanics "strings.Repeat" [.str s, .int n] ≠ true := fun h => by
      have := (hl _ _).2 h; rw [hlib] at this; cases this
    simp [this, passed, hlib, outOf]

/-! ### the repaired defect, kept as checked statements -/

/-- BEFORE the repair ("fix: strings.repeat, bytes.repeat and byte_slice.repeat return an error
    instead of panicking") the full statement was FALSE: `strings.repeat("a", -1)` handed the
    count straight to `strings.Repeat`, which panics (recorded as C19-repeat-panics). -/
theorem C19_fixed_repeat_panicked : ¬ NoPanic preFixStringsSigs := by
  intro h
  have := h demoLib demoLib_spec ⟨"repeat", "strings.Repeat", [.str, .int], [0, 1], .str, []⟩ (by decide +kernel)
    [.str [97], .int (-1)]
  exact this rfl

/-- the repair is what separates the two inventories: they differ in `repeat`'s tests and in
    nothing else -/
theorem C19_fixed_repeat_repair :
    preFixStringsSigs = stringsSigs.map (fun sig => { sig with pre := [] })
      ∧ (stringsSigs.filter (fun sig => sig.pre != [])).map (·.name) = ["repeat"] := by
  constructor <;> decide +kernel

/-- the pre-fix guard, kept for the record: the converted arguments are not in the panic
    domain of the Go function.  Under it the OLD wrapper did not panic either
    (`C19_fixed_partial_no_panic`); the repaired code needs no guard (`C19_no_panic`). -/
def safeArgs (sig : Sig) (args : List Val) : Bool :=
  match projectAll sig.args args with
  | some gs => !goPanics sig.go (passed sig gs)
  | none => true

/-- HISTORICAL PARTIAL statement: any wrapper (with or without tests of its own), any library
    behaving like Go's, any argument list outside the panic domain: no panic. -/
theorem C19_fixed_partial_no_panic (lib : String → GoFun) (hl : LibSpec lib) (sig : Sig) (args : List Val)
    (hs : safeArgs sig args = true) : wrap sig (lib sig.go) args ≠ .panic := by
  unfold wrap
  split
  · simp
  · unfold safeArgs at hs
    split
    · simp
    · rename_i gs hp
      rw [hp] at hs
      simp only [Bool.not_eq_true'] at hs
      unfold callInner
      split
      · simp
      · cases hfg : lib sig.go (passed sig gs) with
        | none =>
          have := (hl _ _).1 hfg
          rw [this] at hs
          exact absurd hs (by simp)
        | some r => simp [outOf]

/-- non-vacuity: `LibSpec` is satisfiable (`demoLib`); `strings.repeat("ab", 3)` reaches the Go
    function, `strings.repeat("a", -1)` and `strings.repeat("ab", MaxInt64)` are refused with an
    error value, `strings.repeat("", MaxInt64)` is not refused (Go returns ""); `strings.split("a,b", ",")`
    is a tuple of the signature's types -/
example : LibSpec demoLib := demoLib_spec
example : (findSig "repeat").map (fun sig => refuses sig [.str [97, 98], .int 3]) = some false := by decide +kernel
example : (findSig "repeat").map (fun sig => refuses sig [.str [97], .int (-1)]) = some true := by decide +kernel
example : (findSig "repeat").map (fun sig => refuses sig [.str [97, 98], .int 9223372036854775807]) = some true := by decide +kernel
example : (findSig "repeat").map (fun sig => refuses sig [.str [], .int 9223372036854775807]) = some false := by decide +kernel
example : fitsAll [.str, .str] [.str [97, 44, 98], .str [44]] = true := by decide +kernel

/-! ### three more repaired defects (hand-written wrappers), kept as checked statements -/

/-- the rune argument as repaired: a single byte is accepted exactly when it is ASCII -/
theorem runeArg_single_byte (a : Nat) : runeArgOK [a] = decide (a < 128) := by
  unfold runeArgOK runeWidth
  by_cases h : a < 128
  · simp [h]
  · by_cases h2 : 194 ≤ a ∧ a ≤ 223
    · simp [h, h2]
    · by_cases h3 : 224 ≤ a ∧ a ≤ 239
      · simp [h, h2, h3]
      · by_cases h4 : 240 ≤ a ∧ a ≤ 244 <;> simp [h, h2, h3, h4]

-- every leaf of `runeWidth` is a literal width, some of them under one more test
theorem runeWidth_le (s : Bytes) : runeWidth s ≤ 4 := by
  fun_cases runeWidth s <;> (try split) <;> decide

/-- … and every accepted argument is 1 to 4 bytes long -/
theorem runeArg_length (s : Bytes) (h : runeArgOK s = true) : 1 ≤ s.length ∧ s.length ≤ 4 := by
  simp only [runeArgOK, Bool.and_eq_true, bne_iff_ne, ne_eq, beq_iff_eq] at h
  exact ⟨List.length_pos_iff.2 h.1, h.2 ▸ runeWidth_le s⟩

/-- BEFORE the repair ("fix: bytes.contains_rune and bytes.index_rune accept a multi-byte
    character"; recorded as C19-bytes-rune-multibyte) the argument was measured in bytes: "é"
    (C3 A9) and "日" were refused although `bytes.ContainsRune` is defined on them, and the lone
    byte E9 — not a character — was accepted; now it is the other way round. -/
theorem C19_fixed_rune_arg_was_bytewise :
    runeArgOKPreFix [195, 169] = false ∧ runeArgOK [195, 169] = true ∧
    runeArgOKPreFix [230, 151, 165] = false ∧ runeArgOK [230, 151, 165] = true ∧
    runeArgOKPreFix [233] = true ∧ runeArgOK [233] = false ∧
    runeArgOKPreFix [] = false ∧ runeArgOK [] = false ∧
    runeArgOK [195, 169, 195, 169] = false := by decide +kernel

/-- on arguments of one byte the two tests agree exactly on ASCII -/
theorem C19_fixed_rune_arg_agree_ascii (a : Nat) (h : a < 128) :
    runeArgOKPreFix [a] = true ∧ runeArgOK [a] = true := by
  refine ⟨rfl, ?_⟩; rw [runeArg_single_byte]; simp [h]

/-- `math.abs` as repaired: for every binary64 bit pattern the result has a clear sign bit and
    the same magnitude bits -/
theorem abs_clears_sign (b : Nat) (h : b < 2 ^ 64) :
    absBits b < 2 ^ 63 ∧ (absBits b = b ∨ absBits b + 2 ^ 63 = b) := by
  unfold absBits; omega

/-- BEFORE the repair ("fix: math.abs(-0.0) returns +0.0"; recorded as C19-math-abs-negzero)
    `math.abs(-0.0)` was -0.0 … -/
theorem C19_fixed_abs_kept_negzero : absBitsPreFix (2 ^ 63) = 2 ^ 63 ∧ absBits (2 ^ 63) = 0 := by decide +kernel

/-- … and the old and the repaired `math.abs` differ on EXACTLY -0.0 and the NaNs with the sign
    bit set (every other bit pattern, ±Inf included, was already right) -/
theorem C19_fixed_abs_differs_iff (b : Nat) (h : b < 2 ^ 64) :
    absBitsPreFix b ≠ absBits b ↔ (b = 2 ^ 63 ∨ 2 ^ 63 + 0x7FF0000000000000 < b) := by
  unfold absBitsPreFix absBits
  split <;> omega

/-- BEFORE the repair ("fix: math.pow10 passes an int argument to math.Pow10 unchanged";
    recorded as C19-math-pow10-maxint) the exponent went through float64: for the 512 ints up to
    MaxInt64 the float is 2^63 and the conversion back wrapped to MinInt64 (so the result was 0
    instead of +Inf); one below that range it only lost its low bits, which `math.Pow10` does
    not see.  Now the exponent is the argument. -/
theorem C19_fixed_pow10_exponent_wrapped :
    pow10ExpPreFix (2 ^ 63 - 1) = -(2 ^ 63) ∧ pow10ExpPreFix (2 ^ 63 - 512) = -(2 ^ 63) ∧
    pow10ExpPreFix (2 ^ 63 - 513) = 2 ^ 63 - 1024 ∧ pow10ExpPreFix 308 = 308 ∧
    pow10ExpPreFix (-(2 ^ 63)) = -(2 ^ 63) ∧ ∀ i, pow10Exp i = i := by
  refine ⟨by decide +kernel, by decide +kernel, by decide +kernel, by decide +kernel, by decide +kernel, fun _ => rfl⟩

/-! ## 5. Sessions: a result stays what it was while later calls run -/

/-- IMPL ⊑ SPEC for sessions: for every sequence of literals and library calls (any
    functions, any slots, any length), looking at ALL slots at the end of the session in the
    heap model with the unchanged code's allocation policy (`fresh`: every output in a new
    buffer) shows exactly the values of the pure Spec. -/
theorem session_impl_refines_spec (cs : List Call) :
    (runImpl fresh Mem.empty cs).observe = runSpec [] cs :=
  runImpl_fresh Mem.empty (by intro k hk; cases hk) cs

/-- RESULTS ARE STABLE: for every session `cs` and every continuation `more`, the slots
    filled by `cs` show the same values after `more` has run as they did before: no later
    call changes what an earlier call returned. -/
theorem session_results_stable (cs more : List Call) :
    ((runImpl fresh Mem.empty (cs ++ more)).observe).take ((runImpl fresh Mem.empty cs).observe).length
      = (runImpl fresh Mem.empty cs).observe := by
  simp only [session_impl_refines_spec, runSpec_append]
  obtain ⟨ext, h⟩ := runSpec_extends (runSpec [] cs) more
  rw [h]; simp

/-- ROUND TRIP ACROSS LATER CALLS: for every encoder/decoder pair with the inverse law on
    the inputs satisfying `P`, every prefix `pre`, every slot `i` holding a `P`-value `b`, and
    every sequence `mid` of further calls (other encodes with the same codec included): if
    `enc` is applied to slot `i` and, after `mid`, `dec` is applied to the slot that encode
    filled, the decode returns `b`. -/
theorem session_roundtrip (enc : Bytes → Bytes) (dec : Bytes → Option Bytes) (P : Bytes → Prop)
    (law : ∀ b, P b → dec (enc b) = some b) (pre mid : List Call) (i : Nat) (b : Bytes)
    (hb : (runSpec [] pre).getD i none = some b) (hP : P b) :
    (runImpl fresh Mem.empty
        (pre ++ [.app (fun x => some (enc x)) i] ++ mid ++ [.app dec (runSpec [] pre).length])).observe
      = (runImpl fresh Mem.empty (pre ++ [.app (fun x => some (enc x)) i] ++ mid)).observe ++ [some b] := by
  simp only [session_impl_refines_spec, runSpec_append, runSpec, Call.eval, hb]
  obtain ⟨ext, h⟩ := runSpec_extends (runSpec [] pre ++ [some (enc b)]) mid
  simp [h, law b hP]

/-- the codec registry (hex, base64, base32, urlquery) in a session -/
theorem session_codec_roundtrip (c : Codec) (pre mid : List Call) (i : Nat) (b : Bytes)
    (hb : (runSpec [] pre).getD i none = some b) (hP : IsBytes b) :
    (runImpl fresh Mem.empty
        (pre ++ [.app (fun x => some (c.enc x)) i] ++ mid ++ [.app c.dec (runSpec [] pre).length])).observe
      = (runImpl fresh Mem.empty (pre ++ [.app (fun x => some (c.enc x)) i] ++ mid)).observe ++ [some b] :=
  session_roundtrip c.enc c.dec IsBytes (codec_roundtrip c) pre mid i b hb hP

/-- gzip in a session, under the library's inverse law -/
theorem session_gzip_roundtrip (g : GzipLib) (law : ∀ b, g.decompress (g.compress b) = some b)
    (pre mid : List Call) (i : Nat) (b : Bytes) (hb : (runSpec [] pre).getD i none = some b) :
    (runImpl fresh Mem.empty
        (pre ++ [.app (fun x => some (gzipEnc g x)) i] ++ mid ++ [.app (gzipDec g) (runSpec [] pre).length])).observe
      = (runImpl fresh Mem.empty (pre ++ [.app (fun x => some (gzipEnc g x)) i] ++ mid)).observe ++ [some b] :=
  session_roundtrip (gzipEnc g) (gzipDec g) (fun _ => True) (fun b _ => law b) pre mid i b hb trivial

/-- SENSITIVITY (why the allocation policy is part of the model): with an output buffer that
    is reused (`reuse 2`: the cell of the first encode is handed out again), after
    `a := hex(A); b := hex(B)` slot `a` shows `hex(B)` and `decode(a)` gives `B`, whereas the
    Spec keeps `hex(A)` in slot `a`, which decodes to `A`. -/
theorem session_pooled_buffer_breaks :
    let cs : List Call := [.lit [1], .lit [2], .app (fun b => some (hexEnc b)) 0, .app (fun b => some (hexEnc b)) 1]
    (runImpl (reuse 2) Mem.empty cs).observe = [some [1], some [2], some [48, 50], some [48, 50]] ∧
    ((runImpl (reuse 2) Mem.empty cs).read 2).bind hexDec = some [2] ∧
    runSpec [] cs = [some [1], some [2], some [48, 49], some [48, 50]] ∧
    ((runSpec [] cs).getD 2 none).bind hexDec = some [1] := by
  decide +kernel

/-- non-vacuity of `session_roundtrip`'s hypotheses: slot 0 of `[lit "hi"]` holds bytes -/
example : (runSpec [] [.lit [104, 105]]).getD 0 none = some [104, 105] ∧ IsBytes [104, 105] := by
  constructor
  · rfl
  · intro x hx; simp at hx; omega

/-! ## 6. Argument objects: every bytes-like kind, used any number of times

The wrapped Go functions take VALUES (`string`, `[]byte`); the wrappers are handed OBJECTS,
some of which have state (a buffer's read offset, a file's position).  "Returns exactly what
the Go function returns for every argument" therefore has a second half: taking the Go value
out of the object must not change the object, or the next use of the same object — a second
`encode`, the `decode(encode(x)) == x` comparison itself — is a call on a different value. -/

/-- no object of the heap is a stream (a file); strings, byte_slices, buffers (with any read
    offset), ints, lists … are all allowed -/
def valueObjs (h : Objs) : Prop := ∀ o ∈ h, o.isStream = false

/-- the unchanged code's converters, on every object that is not a stream, are the pure
    `project` applied to the object's contents, and hand the object back as it was -/
theorem convObj_peek (c : Conv) (o : Obj) (hs : o.isStream = false) :
    convObj .peek c o = (project c o.asVal).map fun g => (g, o) := by
  cases o with
  | val v => rfl
  | buffer b off => cases c <;> simp [convObj, project, Obj.asVal]
  | file d pos => simp [Obj.isStream] at hs

/-- ASBYTES IS READ-ONLY (and so is every other converter): for every converter, every
    argument object of every kind other than a stream — string, byte_slice, buffer with any
    contents and any read offset, any other value — if the conversion succeeds the object is
    afterwards exactly what it was before. -/
theorem asBytes_readonly (c : Conv) (o : Obj) (hs : o.isStream = false) (g : GoVal) (o' : Obj)
    (h : convObj .peek c o = some (g, o')) : o' = o := by
  rw [convObj_peek c o hs] at h
  cases hp : project c o.asVal with
  | none => simp [hp] at h
  | some g' => simp [hp] at h; exact h.2.symm

/-- what the wrapped function is handed for a buffer is exactly the buffer's unread bytes,
    whether the parameter is a `string` (`AsString`) or a `[]byte` (`AsBytes`) -/
theorem buffer_projects_unread (b : Bytes) (off : Nat) :
    convObj .peek .bytes (.buffer b off) = some (.bytes (b.drop off), .buffer b off) ∧
    convObj .peek .str (.buffer b off) = some (.str (b.drop off), .buffer b off) := ⟨rfl, rfl⟩

/-- THE MODEL FOLLOWS THE TYPE SWITCH (what ties `convObj` to object/typeconv.go through the
    regenerated tables, see `asBytesCases_tie`): for every argument object, `AsBytes` refuses
    it exactly when the switch reaches the default case, hands back the very same object when
    it reaches a case that only looks, and only a stream reaches the `io.ReadAll` fallback. -/
theorem asBytes_follows_cases (o : Obj) :
    match caseOf asBytesCases o with
    | .reject => convObj .peek .bytes o = none
    | .look => ∃ g, convObj .peek .bytes o = some (g, o)
    | .readAll => o.isStream = true := by
  cases o with
  | val v =>
    cases v with
    | str _ | bytes _ => exact ⟨_, rfl⟩
    | _ => exact rfl
  | buffer b off => exact ⟨_, rfl⟩
  | file d pos => exact rfl

/-- the same for `AsString`, which has no stream case at all -/
theorem asString_follows_cases (o : Obj) :
    match caseOf asStringCases o with
    | .reject => convObj .peek .str o = none
    | .look => ∃ g, convObj .peek .str o = some (g, o)
    | .readAll => False := by
  cases o with
  | val v =>
    cases v with
    | str _ | bytes _ => exact ⟨_, rfl⟩
    | _ => exact rfl
  | buffer b off => exact ⟨_, rfl⟩
  | file d pos => exact rfl

theorem Objs.set_get : ∀ (h : Objs) (r : Nat), h.set r (h.get r) = h
  | [], _ => rfl
  | o :: h, 0 => rfl
  | o :: h, r + 1 => by
    have := Objs.set_get h r
    simp only [Objs.get, List.getD_cons_succ, List.set_cons_succ] at this ⊢
    rw [this]

theorem valueObjs_get (h : Objs) (hv : valueObjs h) (r : Nat) : (h.get r).isStream = false := by
  unfold Objs.get
  rw [List.getD_eq_getElem?_getD]
  cases hr : h[r]? with
  | none => rfl
  | some o => exact hv o (List.mem_of_getElem? hr)

/-- all converters of a call: the pure `projectAll` on the contents; the heap is unchanged -/
theorem convRefs_peek (h : Objs) (hv : valueObjs h) : ∀ (cs : List Conv) (rs : List Nat),
    convRefs .peek cs rs h = (projectAll cs (rs.map fun r => (h.get r).asVal), h)
  | [], [] => rfl
  | [], _ :: _ => rfl
  | _ :: _, [] => rfl
  | c :: cs, r :: rs => by
    simp only [convRefs, List.map_cons, projectAll]
    rw [convObj_peek c _ (valueObjs_get h hv r)]
    cases hp : project c (h.get r).asVal with
    | none => simp
    | some g =>
      simp only [Option.map_some, Objs.set_get, convRefs_peek h hv cs rs]
      cases projectAll cs (rs.map fun r => (h.get r).asVal) <;> rfl

/-- WRAPPERS ON OBJECTS = WRAPPERS ON CONTENTS, ARGUMENTS UNTOUCHED: for every wrapper
    signature, every Go function, every heap of argument objects without streams and every
    tuple of references into it (the same object may occur several times): the wrapper
    returns exactly what the value-level wrapper `wrap` returns on the objects' contents — so
    `glue_faithful`, `wrap_no_panic`, `C19_no_panic` hold for buffers as they do for
    strings and byte_slices — and every object is afterwards what it was before. -/
theorem wrapObjs_peek (sig : Sig) (f : GoFun) (refs : List Nat) (h : Objs) (hv : valueObjs h) :
    wrapObjs .peek sig f refs h = (wrap sig f (refs.map fun r => (h.get r).asVal), h) := by
  unfold wrapObjs wrap
  simp only [List.length_map]
  split
  · rfl
  · rw [convRefs_peek h hv]
    cases projectAll sig.args (refs.map fun r => (h.get r).asVal) <;> rfl

/-- the heap half of `wrapObjs_peek` on its own: a wrapper call changes none of its arguments -/
theorem wrapObjs_readonly (sig : Sig) (f : GoFun) (refs : List Nat) (h : Objs) (hv : valueObjs h) :
    (wrapObjs .peek sig f refs h).2 = h := by rw [wrapObjs_peek sig f refs h hv]

/-- WRAPPER IDEMPOTENT ON ITS ARGUMENTS: calling any wrapper a second time on the same
    argument objects (in the state the first call left them in) gives the same outcome and
    the same objects as the first call — for every signature, Go function, heap without
    streams and reference tuple. -/
theorem wrapper_idempotent_on_args (sig : Sig) (f : GoFun) (refs : List Nat) (h : Objs) (hv : valueObjs h) :
    wrapObjs .peek sig f refs (wrapObjs .peek sig f refs h).2 = wrapObjs .peek sig f refs h := by
  rw [wrapObjs_readonly sig f refs h hv]

/-- IMPL ⊑ SPEC FOR USE SEQUENCES: for every sequence of wrapper calls of any length over the
    same heap of argument objects (any wrappers, any functions, any reference tuples, objects
    reused at will), every call returns what it returns on the contents the objects had at the
    START of the sequence, and at the end every object is what it was at the start. -/
theorem uses_impl_refines_spec (h : Objs) (hv : valueObjs h) : ∀ us : List Use,
    runUses .peek h us = specUses h us
  | [] => rfl
  | u :: us => by
    simp only [runUses, wrapObjs_peek u.sig u.f u.refs h hv, uses_impl_refines_spec h hv us, specUses,
      List.map_cons]

/-- the k-th use of an object sees what the first use saw: in any sequence, two uses with the
    same wrapper, function and references have equal outcomes, wherever they stand -/
theorem uses_repeat_equal (h : Objs) (hv : valueObjs h) (us : List Use) (i j : Nat) (u : Use)
    (hi : us[i]? = some u) (hj : us[j]? = some u) :
    (runUses .peek h us).1[i]? = (runUses .peek h us).1[j]? := by
  simp [uses_impl_refines_spec h hv us, specUses, hi, hj]

/-- GLUE FAITHFUL ON OBJECTS: if the contents of the referenced objects are the injections of
    the Go values `gs` (a buffer whose unread bytes are `b` stands for the Go `[]byte`/`string`
    `b`), the wrapper returns what the exported function returns on `gs`: an error value if one
    of its tests fires, the injection of `f gs` otherwise. -/
theorem glue_faithful_objs (sig : Sig) (f : GoFun) (gs : List GoVal) (refs : List Nat) (h : Objs)
    (hv : valueObjs h) (hc : (refs.map fun r => (h.get r).asVal) = gs.map inject)
    (hf : fitsAll sig.args gs = true) :
    (wrapObjs .peek sig f refs h).1 = if refuses sig gs then .err else outOf (f (passed sig gs)) := by
  rw [wrapObjs_peek sig f refs h hv, hc]
  exact glue_faithful sig f gs hf

/-- ROUND TRIP AGAINST THE LIVE ARGUMENT: for every codec of the registry and every argument
    object that is not a stream, if `AsBytes` hands the encoder the bytes `b`, then
    `decode(encode(x))` is `b` AND reading the argument again after the call gives the same `b`
    from the same object: the comparison `decode(encode(x)) == x` is a comparison with the
    value that was encoded. -/
theorem codec_roundtrip_on_object (c : Codec) (o : Obj) (hs : o.isStream = false) (b : Bytes) (o' : Obj)
    (h : convObj .peek .bytes o = some (.bytes b, o')) (hb : IsBytes b) :
    c.dec (c.enc b) = some b ∧ convObj .peek .bytes o' = some (.bytes b, o') := by
  have := asBytes_readonly .bytes o hs _ _ h
  subst this
  exact ⟨codec_roundtrip c b hb, h⟩

/-- STREAMS (not a defect; stated so that the model's treatment of `object.File` is explicit):
    `AsBytes` on a file returns what is left of the stream and leaves the stream at its end —
    what `io.ReadAll` does to an `*os.File` in Go; a second read returns no bytes.  `AsString`
    refuses a file. -/
theorem stream_read_advances (m : BufRead) (d : Bytes) (pos : Nat) :
    convObj m .bytes (.file d pos) = some (.bytes (d.drop pos), .file d (max pos d.length)) ∧
    convObj m .bytes (.file d (max pos d.length)) = some (.bytes [], .file d (max pos d.length)) ∧
    convObj m .str (.file d pos) = none := by
  refine ⟨rfl, ?_, rfl⟩
  simp [convObj, unread, Nat.max_def]
  split <;> simp_all <;> omega

/-- SENSITIVITY (why the buffer case of `AsBytes` is part of the model): if a buffer is read
    through the `io.Reader` fallback (`drain`) the first use is right and every later one is
    not — `encode(buf)` twice gives the encoding of "hi" and then of "", and a two-parameter
    call on the same buffer (`x.replace_all(buf, buf)`) hands the function "hi" and "" —
    whereas the unchanged code (`peek`) hands over "hi" every time. -/
theorem drain_breaks_reuse :
    let h : Objs := [.buffer [104, 105] 0]
    (convRefs .drain [.bytes] [0] h).1 = some [.bytes [104, 105]] ∧
    (convRefs .drain [.bytes] [0] (convRefs .drain [.bytes] [0] h).2).1 = some [.bytes []] ∧
    (convRefs .drain [.bytes, .bytes] [0, 0] h).1 = some [.bytes [104, 105], .bytes []] ∧
    (convRefs .peek [.bytes] [0] (convRefs .peek [.bytes] [0] h).2).1 = some [.bytes [104, 105]] ∧
    (convRefs .peek [.bytes, .bytes] [0, 0] h).1 = some [.bytes [104, 105], .bytes [104, 105]] := by
  decide +kernel

/-- non-vacuity: a heap with a string, a byte_slice, a half-read buffer and an int is a heap
    without streams; the half-read buffer "xhi" (offset 1) shows the contents "hi" -/
example : valueObjs [.val (.str [104]), .val (.bytes [105]), .buffer [120, 104, 105] 1, .val (.int 3)] := by
  intro o ho
  simp at ho
  rcases ho with rfl | rfl | rfl | rfl <;> rfl
example : (Obj.buffer [120, 104, 105] 1).asVal = .bytes [104, 105] := rfl

/-! ## 7. The hand-written wrappers of modules/regexp: one library call, its result injected

The Go package `regexp` is the reference (the property's own wording), so it is a parameter
(`GoFunE`: value, `error` result or panic).  What the theorems establish for EVERY wrapper of
the inventory `rxSigs` — tied to modules/regexp/regexp.go and regexp_object.go by `rxSigs_tie` —
is that the wrapper adds nothing of its own: because its body is the ONE library call
(`Body.direct`), its result is `inject (f (project args))`, a Go `error` comes back as an error
value, and it panics only if Go does.  Agreement with Go therefore rests on the tie (the body is
that one call) and on the correspondence (the harness calls the same Go function directly). -/

/-- a complete argument list is left as it is by the filling-in of the optional argument -/
theorem RxSig.fill_full (w : RxSig) (args : List Val) (h : args.length = w.sig.args.length) :
    w.fill args = args := by
  unfold RxSig.fill
  split
  · rw [if_neg]; omega
  · rfl

/-- a Go function without an error result gives the same outcome through `outOfE` as through `outOf` -/
theorem outOfE_lift (f : GoFun) (gs : List GoVal) : outOfE (liftFun f gs) = outOf (f gs) := by
  unfold liftFun
  cases f gs <;> rfl

/-- a wrapper whose body is the direct call does not depend on what another body would do -/
theorem rxWrap_direct_alt (w : RxSig) (hd : w.body = .direct) (f : GoFunE) (alt alt' : List GoVal → Out)
    (args : List Val) : rxWrap w f alt args = rxWrap w f alt' args := by
  unfold rxWrap
  simp [hd]

/-- RX GLUE FAITHFUL: for every regexp wrapper whose body is the direct call, every Go function
    `f` (value, error or panic), and every tuple of Go values of the wrapper's types (for a method:
    the compiled pattern first), the wrapper called on the injected tuple returns exactly what
    `f` returns on that tuple — the injected value, an error value for a Go `error`. -/
theorem rx_glue_faithful (w : RxSig) (hd : w.body = .direct) (f : GoFunE) (alt : List GoVal → Out)
    (gs : List GoVal) (h : fitsAll w.sig.args gs = true) :
    rxWrap w f alt (gs.map inject) = outOfE (f (passed w.sig gs)) := by
  have hl : (gs.map inject).length = w.sig.args.length := by simp [fitsAll_length _ _ h]
  unfold rxWrap
  rw [RxSig.fill_full w _ hl]
  simp [hl, projectAll_inject _ _ h, hd]

/-- THE OMITTED OPTIONAL ARGUMENT: a wrapper with an optional last parameter (`find_all`,
    `split`: `n := -1`) called without it hands the Go function the default. -/
theorem rx_optional_default (w : RxSig) (hd : w.body = .direct) (d : Int) (ho : w.optInt = some d)
    (f : GoFunE) (alt : List GoVal → Out) (gs : List GoVal)
    (h : fitsAll w.sig.args (gs ++ [.int d]) = true) :
    rxWrap w f alt (gs.map inject) = outOfE (f (passed w.sig (gs ++ [.int d]))) := by
  have hl := fitsAll_length _ _ h
  have hf : w.fill (gs.map inject) = (gs ++ [GoVal.int d]).map inject := by
    unfold RxSig.fill
    rw [ho]
    simp only [List.length_map, List.length_append, List.length_cons, List.length_nil] at hl ⊢
    rw [if_pos (by omega)]
    simp [inject]
  have hl' : ((gs ++ [GoVal.int d]).map inject).length = w.sig.args.length := by simpa using hl
  unfold rxWrap
  rw [hf]
  simp only [hl', ne_eq, not_true_eq_false, if_false, projectAll_inject _ _ h, hd]

/-- REDUCTION TO THE GENERATED-WRAPPER GLUE: a direct regexp wrapper around a Go function that
    has no error result IS the glue `wrap` of section 4 on the filled-in argument list — so
    `glue_faithful`, `wrap_no_panic` and the argument-object theorems of section 6 apply to it
    as they stand. -/
theorem rx_wrap_eq_wrap (w : RxSig) (hd : w.body = .direct) (hp : w.sig.pre = []) (f : GoFun)
    (alt : List GoVal → Out) (args : List Val) :
    rxWrap w (liftFun f) alt args = wrap w.sig f (w.fill args) := by
  unfold rxWrap wrap callInner refuses
  simp only [hd, hp, List.any_nil, outOfE_lift]
  rfl

/-- hence `glue_faithful` literally: result = inject (f (project args)) -/
theorem rx_glue_faithful_via_wrap (w : RxSig) (hd : w.body = .direct) (hp : w.sig.pre = []) (f : GoFun)
    (alt : List GoVal → Out) (gs : List GoVal) (h : fitsAll w.sig.args gs = true) :
    rxWrap w (liftFun f) alt (gs.map inject) = outOf (f (passed w.sig gs)) := by
  rw [rx_wrap_eq_wrap w hd hp, RxSig.fill_full w _ (by simp [fitsAll_length _ _ h])]
  exact glue_faithful_plain w.sig hp f gs h

/-- ERRORS ARE VALUES (regexp): whatever the arguments (any number, any types, any pattern), a
    direct wrapper around a Go function that does not panic returns a value or an error value;
    in particular an invalid pattern (`regexp.Compile` / `MatchString` report an `error`) is an
    error value. -/
theorem rx_no_panic (w : RxSig) (hd : w.body = .direct) (f : GoFunE) (hf : ∀ gs, f gs ≠ .panic)
    (alt : List GoVal → Out) (args : List Val) : rxWrap w f alt args ≠ .panic := by
  unfold rxWrap
  split
  · simp
  · split
    · simp
    · rename_i gs _
      simp only [hd]
      cases hfg : f (passed w.sig gs) with
      | val r => simp [outOfE]
      | error => simp [outOfE]
      | panic => exact absurd hfg (hf _)

/-- an `error` result of the Go function (an invalid pattern) comes back as an error value -/
theorem rx_invalid_pattern_is_error (w : RxSig) (hd : w.body = .direct) (f : GoFunE)
    (alt : List GoVal → Out) (gs : List GoVal) (h : fitsAll w.sig.args gs = true)
    (he : f (passed w.sig gs) = .error) : rxWrap w f alt (gs.map inject) = .err := by
  rw [rx_glue_faithful w hd f alt gs h, he]; rfl

/-- the reviewed fact of the inventory: EVERY wrapper of modules/regexp has the direct body and
    makes no test of its own (decided over the table; `rxSigs_tie` ties the table to the source) -/
theorem rxSigs_direct : ∀ w ∈ rxSigs, w.body = .direct ∧ w.sig.pre = [] := by decide +kernel

/-- FULL STATEMENT (wrapped-function agreement, regexp): every wrapper of modules/regexp, for
    every Go library behaviour, whatever any other body would compute, and for every argument
    list, returns what the Spec demands: arity/type errors for ill-formed calls, otherwise the
    injection of the Go function's result on the projected arguments, a Go `error` as an error
    value. -/
def C19_full_rx_agree : Prop :=
  ∀ w ∈ rxSigs, ∀ (f : GoFunE) (alt : List GoVal → Out) (args : List Val),
    rxWrap w f alt args = rxSpec w f args

theorem C19_rx_agree : C19_full_rx_agree := by
  intro w hw f alt args
  have hd := (rxSigs_direct w hw).1
  have hw' : { w with body := Body.direct } = w := by
    cases w; simp only at hd; subst hd; rfl
  unfold rxSpec
  rw [hw']
  exact rxWrap_direct_alt w hd f alt _ args

/-- for every inventoried wrapper the glue theorem applies: result = inject (f (project args)) -/
theorem C19_rx_glue : ∀ w ∈ rxSigs, ∀ (f : GoFunE) (alt : List GoVal → Out) (gs : List GoVal),
    fitsAll w.sig.args gs = true → rxWrap w f alt (gs.map inject) = outOfE (f (passed w.sig gs)) :=
  fun w hw f alt gs h => rx_glue_faithful w (rxSigs_direct w hw).1 f alt gs h

/-- … and `glue_faithful` of section 4 itself, for a library function without an error result
    (every method of a compiled pattern) -/
theorem C19_rx_glue_wrap : ∀ w ∈ rxSigs, ∀ (f : GoFun) (alt : List GoVal → Out) (gs : List GoVal),
    fitsAll w.sig.args gs = true → rxWrap w (liftFun f) alt (gs.map inject) = outOf (f (passed w.sig gs)) :=
  fun w hw f alt gs h => rx_glue_faithful_via_wrap w (rxSigs_direct w hw).1 (rxSigs_direct w hw).2 f alt gs h

/-- … and no wrapper of modules/regexp panics unless the Go library does -/
theorem C19_rx_no_panic : ∀ w ∈ rxSigs, ∀ (f : GoFunE), (∀ gs, f gs ≠ .panic) →
    ∀ (alt : List GoVal → Out) (args : List Val), rxWrap w f alt args ≠ .panic :=
  fun w hw f hf alt args => rx_no_panic w (rxSigs_direct w hw).1 f hf alt args

/-! ### replacement templates: why a second path (a literal fast path) is not the Go function -/

/-- a template without `$` has no reference to cut at -/
theorem cutWhile_no_dollar : ∀ t : Bytes, 36 ∉ t → cutWhile (· != 36) t = (t, [])
  | [], _ => rfl
  | c :: t, h => by
    have hc : c ≠ 36 := fun e => h (by simp [e])
    have ht : 36 ∉ t := fun e => h (by simp [e])
    simp [cutWhile, hc, cutWhile_no_dollar t ht]

/-- a template without `$` expands to itself, whatever the match -/
theorem expand_no_dollar (groups : List (Option Bytes)) (names : List Bytes) (t : Bytes) (h : 36 ∉ t) :
    expand groups names t = t := by
  unfold expand expandF
  rw [cutWhile_no_dollar t h]

/-- `$$` is one `$`; `$0` / `${0}` is the match; a group that does not exist is empty; a `$` that
    starts no reference (at the end, before a space, `${` unclosed) stays; `$1x` is the NAME
    `1x`, not group 1 followed by `x`; `$01` is a name as well -/
theorem expand_examples :
    expand [some [97]] [[]] [36, 36] = [36] ∧
    expand [some [97]] [[]] [60, 36, 48, 62] = [60, 97, 62] ∧
    expand [some [97]] [[]] [60, 36, 123, 48, 125, 62] = [60, 97, 62] ∧
    expand [some [97]] [[]] [60, 36, 49, 62] = [60, 62] ∧
    expand [some [97]] [[]] [120, 36] = [120, 36] ∧
    expand [some [97]] [[]] [36, 32, 36, 123, 48] = [36, 32, 36, 123, 48] ∧
    expand [some [97, 98], some [97], some [98]] [[], [], []] [36, 49, 120] = [] ∧
    expand [some [97, 98], some [97], some [98]] [[], [], []] [36, 123, 49, 125, 120] = [97, 120] ∧
    expand [some [97, 98], some [97], some [98]] [[], [110], []] [36, 110, 45, 36, 50, 45, 36, 48, 49] = [97, 45, 98, 45] ∧
    expand [some [97], none, some [97]] [[], [110], [110]] [36, 110] = [97] := by decide +kernel

/-- WHERE A LITERAL FAST PATH IS RIGHT: for a non-empty literal pattern the matches are the
    occurrences of the literal, so `strings.ReplaceAll` and `ReplaceAllString` agree for every
    subject — PROVIDED the replacement contains no `$` … -/
theorem literal_fast_path_agrees_without_dollar (s lit repl : Bytes) (h : 36 ∉ repl) :
    stringsReplaceAll s lit repl = regexpReplaceAllLit s lit repl := by
  unfold stringsReplaceAll regexpReplaceAllLit
  rw [expand_no_dollar _ _ repl h]

/-- … AND WHERE IT IS NOT: the full statement fails on `"10 USD"`, pattern `USD`, template `$$`
    (Go: `"10 $"`; verbatim: `"10 $$"`). -/
def C19_full_literal_fast_path : Prop :=
  ∀ s lit repl : Bytes, lit ≠ [] → stringsReplaceAll s lit repl = regexpReplaceAllLit s lit repl

theorem C19_counterexample_literal_fast_path : ¬ C19_full_literal_fast_path := by
  intro h
  have := h [49, 48, 32, 85, 83, 68] [85, 83, 68] [36, 36] (by decide +kernel)
  revert this
  decide +kernel

/-- SENSITIVITY (why `Body.direct` is part of the inventory): give `replace_all` a body with a
    second path — `strings.ReplaceAll` for a literal pattern — and the glue statement fails, for
    the Go behaviour on literal patterns modelled above: on (`USD`, `"10 USD"`, `$$`) the wrapper
    returns `"10 $$"`, the Go function `"10 $"`. -/
theorem rx_second_path_breaks_glue :
    let w : RxSig := ⟨⟨"replace_all", "Regexp.ReplaceAllString", [.str, .str, .str], [0, 1, 2], .str, []⟩, true, none, false, false, .other⟩
    let f : GoFunE := fun gs => match gs with
      | [.str lit, .str s, .str repl] => .val (.str (regexpReplaceAllLit s lit repl))
      | _ => .panic
    let alt : List GoVal → Out := fun gs => match gs with
      | [.str lit, .str s, .str repl] => .val (.str (stringsReplaceAll s lit repl))
      | _ => .panic
    let gs : List GoVal := [.str [85, 83, 68], .str [49, 48, 32, 85, 83, 68], .str [36, 36]]
    fitsAll w.sig.args gs = true ∧
    rxWrap w f alt (gs.map inject) = .val (.str [49, 48, 32, 36, 36]) ∧
    outOfE (f (passed w.sig gs)) = .val (.str [49, 48, 32, 36]) := by
  refine ⟨by decide +kernel, ?_, ?_⟩ <;> rfl

/-- non-vacuity: the inventory is not empty, `replace_all` is in it with the direct body, the
    hypotheses of the glue theorem are satisfiable, and the optional argument has a default -/
example : (findRx "replace_all").map (·.body) = some .direct := by decide +kernel
example : (findRx "find_all").map (·.optInt) = some (some (-1)) := by decide +kernel
example : (findRx "replace_all").map (fun w => fitsAll w.sig.args [.str [97, 43], .str [98, 97, 97, 98], .str [36, 48]]) = some true := by decide +kernel
example : (findRx "split").map (fun w => rxWrap w (fun gs => .val (.strs (gs.map fun _ => []))) (fun _ => .panic) [.str [97], .str [98]])
    = some (.val (.list (.cons (.str []) (.cons (.str []) (.cons (.str []) .nil))))) := rfl

end Risor.C19
