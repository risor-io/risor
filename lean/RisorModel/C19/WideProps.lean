import RisorModel.C19.Wide
import RisorModel.C19.Props
/-!
C19, theorems about the wrappers outside modules/strings and modules/regexp (the regenerated
inventory `wideSigs`: modules/base64, bytes, filepath, math, strconv) and about decimal ints.

First the glue of one hand-written wrapper row of shape `direct`: for every Go function (value,
error or panic) and every list of Go values of the converters' types within the arity bounds, the
wrapper on the injected values returns `outOfE (f (passed (defaults filled in) ++ constants))`;
arity and type errors; no panic.  Then the same for every row of the regenerated table (tie
`wideSigs_tie`).  Last, `strconv.atoi(string(i)) = i` for every int64 and the exact input language
of `strconv.Atoi`.
-/
namespace Risor.C19

/-! ## 1. the glue of a hand-written wrapper -/

theorem WSig.fill_inject (w : WSig) (gs : List GoVal) : w.fill (gs.map inject) = (w.complete gs).map inject := by
  simp [WSig.fill, WSig.complete]

/-- WRONG NUMBER OF ARGUMENTS: outside the arity bounds every wrapper (any shape) returns an
    args error, whatever the arguments are. -/
theorem wide_arity_error (w : WSig) (f : GoFunE) (meth : String → List Val → Out) (alt : List Val → Out)
    (args : List Val) (h : args.length < w.min ∨ w.max < args.length) : wWrap w f meth alt args = .argsErr := by
  unfold wWrap; simp [h]

/-- GLUE, all wrappers of shape `direct`, all Go functions, all arguments of the right types:
    called with between `min` and `max` arguments that are the injections of Go values `gs`
    fitting the converters (omitted optional ones taken from the defaults), the wrapper returns
    exactly what the Go function gives on those values in the recorded order followed by the
    recorded constants — its value injected, its `error` as an error value, a panic only if Go
    panics. -/
theorem wide_glue_faithful (w : WSig) (hd : w.shape = .direct) (f : GoFunE) (meth : String → List Val → Out)
    (alt : List Val → Out) (gs : List GoVal) (hmin : w.min ≤ gs.length) (hmax : gs.length ≤ w.max)
    (h : fitsAll w.sig.args (w.complete gs) = true) :
    wWrap w f meth alt (gs.map inject) = outOfE (f (passed w.sig (w.complete gs) ++ w.extra)) := by
  unfold wWrap
  have ha : ¬ ((gs.map inject).length < w.min ∨ w.max < (gs.map inject).length) := by
    simp only [List.length_map]; omega
  rw [if_neg ha, hd]
  simp only [WSig.fill_inject, projectAll_inject _ _ h]

/-- the special case of a call with all `max` arguments: no default is used. -/
theorem wide_glue_faithful_full (w : WSig) (hd : w.shape = .direct) (f : GoFunE) (meth : String → List Val → Out)
    (alt : List Val → Out) (gs : List GoVal) (hmin : w.min ≤ w.max) (hlen : gs.length = w.max)
    (hdef : w.defaults.length + w.min = w.max) (h : fitsAll w.sig.args gs = true) :
    wWrap w f meth alt (gs.map inject) = outOfE (f (passed w.sig gs ++ w.extra)) := by
  have hc : w.complete gs = gs := by
    unfold WSig.complete
    have : w.defaults.length ≤ gs.length - w.min := by omega
    simp [List.drop_eq_nil_of_le this]
  have := wide_glue_faithful w hd f meth alt gs (by omega) (by omega) (by rw [hc]; exact h)
  rw [hc] at this; exact this

/-- TYPE ERRORS ARE VALUES: within the arity bounds, a `direct` wrapper whose converters do not
    all accept their arguments returns a type error, and the Go function is not called. -/
theorem wide_type_error (w : WSig) (hd : w.shape = .direct) (f : GoFunE) (meth : String → List Val → Out)
    (alt : List Val → Out) (args : List Val) (hmin : w.min ≤ args.length) (hmax : args.length ≤ w.max)
    (h : projectAll w.sig.args (w.fill args) = none) : wWrap w f meth alt args = .typeErr := by
  unfold wWrap
  have ha : ¬ (args.length < w.min ∨ w.max < args.length) := by omega
  rw [if_neg ha, hd]
  simp only [h]

/-- ERRORS, NOT PANICS: a `direct` wrapper around a Go function that does not panic never
    panics — for any number and any types of arguments. -/
theorem wide_no_panic (w : WSig) (hd : w.shape = .direct) (f : GoFunE) (hf : ∀ gs, f gs ≠ .panic)
    (meth : String → List Val → Out) (alt : List Val → Out) (args : List Val) :
    wWrap w f meth alt args ≠ .panic := by
  unfold wWrap
  split
  · simp
  · rw [hd]
    simp only
    split
    · simp
    · rename_i gs _
      cases hfg : f (passed w.sig gs ++ w.extra) with
      | val r => simp [outOfE]
      | error => simp [outOfE]
      | panic => exact absurd hfg (hf _)

/-- THE BYTES MODULE FORWARDS: a wrapper of shape `method m` called with the right number of
    arguments and a byte_slice first returns exactly what the method `m` of that byte_slice
    returns on the remaining arguments; with anything else first, a type error. -/
theorem wide_method_forwards (w : WSig) (m : String) (hs : w.shape = .method m) (f : GoFunE)
    (meth : String → List Val → Out) (alt : List Val → Out) (b : Bytes) (rest : List Val)
    (hmin : w.min ≤ rest.length + 1) (hmax : rest.length + 1 ≤ w.max) :
    wWrap w f meth alt (.bytes b :: rest) = meth m (.bytes b :: rest) := by
  unfold wWrap
  have ha : ¬ ((Val.bytes b :: rest).length < w.min ∨ w.max < (Val.bytes b :: rest).length) := by
    simp only [List.length_cons]; omega
  rw [if_neg ha, hs]

theorem wide_method_type_error (w : WSig) (m : String) (hs : w.shape = .method m) (f : GoFunE)
    (meth : String → List Val → Out) (alt : List Val → Out) (s : Bytes) (rest : List Val)
    (hmin : w.min ≤ rest.length + 1) (hmax : rest.length + 1 ≤ w.max) :
    wWrap w f meth alt (.str s :: rest) = .typeErr := by
  unfold wWrap
  have ha : ¬ ((Val.str s :: rest).length < w.min ∨ w.max < (Val.str s :: rest).length) := by
    simp only [List.length_cons]; omega
  rw [if_neg ha, hs]

/-! ## 2. the regenerated inventory -/

/-- every `direct` row of the inventory is well-formed: as many converters as the upper arity
    bound, one default per optional argument and each default of its converter's type, every
    passed position inside the converter list -/
theorem wideSigs_wf : ∀ w ∈ wideSigs, w.shape = .direct →
    w.min ≤ w.max ∧ w.defaults.length + w.min = w.max ∧ w.sig.args.length = w.max ∧
    w.sig.pass.all (· < w.sig.args.length) = true ∧ fitsAll (w.sig.args.drop w.min) w.defaults = true ∧
    w.sig.pre = [] := by decide +kernel

/-- FULL STATEMENT for the wrappers of modules/filepath, math, strconv whose body is the direct
    call: for every Go behaviour (value, error, panic), whatever a method or any other body would
    compute, and every argument list, the wrapper returns what the Spec demands. -/
def C19_full_wide_agree : Prop :=
  ∀ w ∈ wideSigs, w.shape = .direct → ∀ (f : GoFunE) (meth : String → List Val → Out) (alt : List Val → Out)
    (args : List Val), wWrap w f meth alt args = wSpec w f args

theorem C19_wide_agree : C19_full_wide_agree := by
  intro w _ hd f meth alt args
  unfold wSpec wWrap
  simp only [hd, WSig.fill]

/-- every `direct` row of the regenerated inventory satisfies the glue statement: called with
    all its arguments, the injections of Go values of the converters' types, it returns
    `outOfE (f (those values in the recorded order ++ the recorded constants))`. -/
theorem C19_wide_glue : ∀ w ∈ wideSigs, w.shape = .direct → ∀ (f : GoFunE) (meth : String → List Val → Out)
    (alt : List Val → Out) (gs : List GoVal), gs.length = w.max → fitsAll w.sig.args gs = true →
    wWrap w f meth alt (gs.map inject) = outOfE (f (passed w.sig gs ++ w.extra)) := by
  intro w hw hd f meth alt gs hlen h
  have wf := wideSigs_wf w hw hd
  exact wide_glue_faithful_full w hd f meth alt gs wf.1 hlen wf.2.1 h

/-- and with optional arguments omitted: the defaults recorded in the row are what the Go
    function receives (`strconv.parse_int(s)` is `strconv.ParseInt(s, 10, 64)`, `math.inf()` is
    `math.Inf(1)`). -/
theorem C19_wide_glue_defaults : ∀ w ∈ wideSigs, w.shape = .direct → ∀ (f : GoFunE) (meth : String → List Val → Out)
    (alt : List Val → Out) (gs : List GoVal), w.min ≤ gs.length → gs.length ≤ w.max →
    fitsAll w.sig.args (w.complete gs) = true →
    wWrap w f meth alt (gs.map inject) = outOfE (f (passed w.sig (w.complete gs) ++ w.extra)) :=
  fun w _ hd f meth alt gs h1 h2 h => wide_glue_faithful w hd f meth alt gs h1 h2 h

/-- no `direct` wrapper of the inventory panics unless the Go function does. -/
theorem C19_wide_no_panic : ∀ w ∈ wideSigs, w.shape = .direct → ∀ (f : GoFunE), (∀ gs, f gs ≠ .panic) →
    ∀ (meth : String → List Val → Out) (alt : List Val → Out) (args : List Val), wWrap w f meth alt args ≠ .panic :=
  fun w _ hd f hf meth alt args => wide_no_panic w hd f hf meth alt args

/-- SENSITIVITY: a wrapper that hands its two converted arguments to the Go function in the
    other order does not satisfy the glue statement of its row (`math.atan2(y, x)`). -/
theorem wide_swapped_arguments_break_glue :
    let w : WSig := ⟨"math", ⟨"atan2", "math.Atan2", [.float, .float], [0, 1], .float, []⟩, 2, 2, [], [], false, .direct⟩
    let w' : WSig := { w with sig := { w.sig with pass := [1, 0] } }
    let f : GoFunE := fun gs => .val (gs.headD (.bool false))
    let gs : List GoVal := [.float 1, .float 2]
    findWide "math" "atan2" = some w ∧ fitsAll w.sig.args gs = true ∧
    wWrap w' f (fun _ _ => .panic) (fun _ => .panic) (gs.map inject) = .val (.float 2) ∧
    outOfE (f (passed w.sig gs ++ w.extra)) = .val (.float 1) := by
  refine ⟨by decide +kernel, by decide +kernel, ?_, ?_⟩ <;> rfl

example : (findWide "strconv" "parse_int").map (fun w => w.complete [.str [55]]) = some [.str [55], .int 10, .int 64] := by decide +kernel
example : (findWide "strconv" "parse_float").map (fun w =>
    wWrap w (fun gs => .val (.strs (gs.map fun _ => []))) (fun _ _ => .panic) (fun _ => .panic) [.str [49]])
    = some (.val (.list (.cons (.str []) (.cons (.str []) .nil)))) := by rfl
example : (findWide "math" "max").map (fun w => fitsAll w.sig.args [.float 0, .float 1]) = some true := by decide +kernel
example : (findWide "bytes" "replace").map (·.shape) = some (.method "Replace") := by decide +kernel
example : (wideSigs.filter (·.shape == .direct)).length = 23 ∧ wideSigs.length = 55 := by decide +kernel

/-! ## 3. decimal ints: `strconv.atoi(string(i)) = i` -/

theorem natOfDigits_snoc (ds : Bytes) (d : Nat) : natOfDigits (ds ++ [d]) = natOfDigits ds * 10 + (d - 48) := by
  simp [natOfDigits, List.foldl_append]

theorem natDigits_spec : ∀ (f n : Nat), n < f →
    natOfDigits (natDigits f n) = n ∧ (natDigits f n).all isDigitB = true ∧ natDigits f n ≠ []
  | 0, n, h => by omega
  | f + 1, n, h => by
    unfold natDigits
    split
    · rename_i hn
      refine ⟨by simp [natOfDigits], ?_, by simp⟩
      simp [isDigitB]; omega
    · rename_i hn
      have ih := natDigits_spec f (n / 10) (by omega)
      refine ⟨?_, ?_, by simp⟩
      · rw [natOfDigits_snoc, ih.1]; omega
      · rw [List.all_append, ih.2.1]
        simp [isDigitB]; omega

/-- the first digit printed is never a sign character (so `splitSign` leaves the text alone) -/
theorem natDigits_head : ∀ (f n : Nat), n < f → ∃ c r, natDigits f n = c :: r ∧ 48 ≤ c
  | 0, n, h => by omega
  | f + 1, n, h => by
    unfold natDigits
    split
    · exact ⟨48 + n, [], rfl, by omega⟩
    · obtain ⟨c, r, hc, h48⟩ := natDigits_head f (n / 10) (by omega)
      exact ⟨c, r ++ [48 + n % 10], by rw [hc]; rfl, h48⟩

theorem splitSign_digits (n : Nat) : splitSign (itoaNat n) = (false, itoaNat n) := by
  obtain ⟨c, r, hc, h48⟩ := natDigits_head (n + 1) n (by omega)
  unfold itoaNat
  rw [hc]
  unfold splitSign
  split
  · rename_i heq; injection heq with h1 _; omega
  · rename_i heq; injection heq with h1 _; omega
  · rfl

/-- ROUND TRIP, every int64 (negative, zero, positive, both boundaries): parsing the decimal
    text that `string(i)` prints gives back `i`.  The 64-bit range is the explicit hypothesis
    (an `*object.Int` holds an int64; outside it `strconv.Atoi` reports `value out of range`,
    `atoi_rejects_range`). -/
theorem atoi_itoa (i : Int) (hlo : minInt64 ≤ i) (hhi : i ≤ maxInt64) : atoi (itoa i) = some i := by
  have spec := natDigits_spec (i.natAbs + 1) i.natAbs (by omega)
  unfold itoa
  split
  · rename_i hneg
    have hs : splitSign (45 :: itoaNat i.natAbs) = (true, itoaNat i.natAbs) := rfl
    have hv : atoiValue (45 :: itoaNat i.natAbs) = i := by
      unfold atoiValue; rw [hs]; simp only [if_true]
      unfold itoaNat; rw [spec.1]; omega
    unfold atoi atoiSyntax
    rw [hs, hv]
    simp [itoaNat, spec.2.1, spec.2.2, hlo, hhi]
  · rename_i hpos
    have hs := splitSign_digits i.natAbs
    have hv : atoiValue (itoaNat i.natAbs) = i := by
      unfold atoiValue; rw [hs]; simp only [Bool.false_eq_true, if_false]
      unfold itoaNat; rw [spec.1]; omega
    unfold atoi atoiSyntax
    rw [hs, hv]
    simp [itoaNat, spec.2.1, spec.2.2, hlo, hhi]

/-- the text `string(i)` prints is inside atoi's syntax: digits only after an optional `-` -/
theorem itoa_syntax (i : Int) : atoiSyntax (itoa i) = true := by
  have spec := natDigits_spec (i.natAbs + 1) i.natAbs (by omega)
  unfold itoa
  split
  · have hs : splitSign (45 :: itoaNat i.natAbs) = (true, itoaNat i.natAbs) := rfl
    unfold atoiSyntax; rw [hs]
    simp [itoaNat, spec.2.1, spec.2.2]
  · unfold atoiSyntax; rw [splitSign_digits]
    simp [itoaNat, spec.2.1, spec.2.2]

/-- EXACT INPUT LANGUAGE: `strconv.atoi` answers with a number exactly on the texts that are an
    optional sign followed by at least one ASCII digit and nothing else, and whose value fits an
    int64; the number is then that value.  Everything else is an error value. -/
theorem atoi_defined_iff (s : Bytes) (i : Int) :
    atoi s = some i ↔ (atoiSyntax s = true ∧ minInt64 ≤ atoiValue s ∧ atoiValue s ≤ maxInt64 ∧ i = atoiValue s) := by
  unfold atoi
  constructor
  · intro h
    split at h
    · rename_i hs
      split at h
      · rename_i hr; injection h with h; exact ⟨hs, hr.1, hr.2, h.symm⟩
      · cases h
    · cases h
  · intro ⟨hs, hlo, hhi, hi⟩
    rw [if_pos hs, if_pos ⟨hlo, hhi⟩, hi]

/-- the empty text and a lone sign are rejected -/
theorem atoi_rejects_empty : atoi [] = none ∧ atoi [43] = none ∧ atoi [45] = none := by decide +kernel

/-- a byte that is not an ASCII digit anywhere after the optional sign — a space, an
    underscore, a second sign, a letter, a non-ASCII byte — makes atoi reject -/
theorem atoi_rejects_nondigit (s : Bytes) (c : Nat) (hc : c ∈ (splitSign s).2) (hd : isDigitB c = false) :
    atoi s = none := by
  unfold atoi
  have : atoiSyntax s = false := by
    unfold atoiSyntax
    have : (splitSign s).2.all isDigitB = false := by
      rw [Bool.eq_false_iff]; intro h
      rw [List.all_eq_true] at h
      have := h c hc; rw [hd] at this; cases this
    simp [this]
  simp [this]

/-- a well-formed text whose value does not fit an int64 is rejected (Go: `value out of range`) -/
theorem atoi_rejects_range (s : Bytes) (h : atoiValue s < minInt64 ∨ maxInt64 < atoiValue s) : atoi s = none := by
  unfold atoi
  split
  · have : ¬ (minInt64 ≤ atoiValue s ∧ atoiValue s ≤ maxInt64) := by omega
    rw [if_neg this]
  · rfl

/-- leading zeros are accepted and do not change the value: atoi is NOT injective, so the
    other composition `string(atoi(s)) = s` does not hold (`"+7"`, `"007"`, `"-0"` all parse) -/
theorem atoi_not_injective :
    atoi [48, 48, 55] = some 7 ∧ atoi [43, 55] = some 7 ∧ atoi [45, 48] = some 0 ∧ itoa 7 = [55] ∧ itoa 0 = [48] := by decide +kernel

/-- the boundaries: the smallest and the largest int64 round-trip, one beyond either is rejected -/
theorem atoi_boundaries :
    atoi (itoa minInt64) = some minInt64 ∧ atoi (itoa maxInt64) = some maxInt64 ∧
    atoi [57, 50, 50, 51, 51, 55, 50, 48, 51, 54, 56, 53, 52, 55, 55, 53, 56, 48, 56] = none ∧
    atoi [45, 57, 50, 50, 51, 51, 55, 50, 48, 51, 54, 56, 53, 52, 55, 55, 53, 56, 48, 57] = none :=
  ⟨atoi_itoa _ (by decide +kernel) (by decide +kernel), atoi_itoa _ (by decide +kernel) (by decide +kernel),
   atoi_rejects_range _ (by decide +kernel), atoi_rejects_range _ (by decide +kernel)⟩

example : itoa (-120) = [45, 49, 50, 48] := by decide +kernel
example : atoi [45, 49, 50, 48] = some (-120) := by decide +kernel
example : minInt64 ≤ (-5 : Int) ∧ (-5 : Int) ≤ maxInt64 := by decide +kernel

end Risor.C19
