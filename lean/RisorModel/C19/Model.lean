/-
C19 — executable model of risor's codecs (builtins/codecs.go, modules/base64) and of the
argument/result glue of the generated module wrappers (modules/strings/strings_gen.go,
object/typeconv.go), core Lean only.

Byte strings are `List Nat` (every element < 256; Go strings/[]byte are bytes).

* hex, base64 (std/url alphabet, padded/raw), base32 (std, padded), urlquery: the Impl
  model is Go's library function *as it is* (CR/LF skipped by the base64/base32 decoders,
  non-canonical trailing bits accepted, base32's unchecked bytes after the padding), since
  the property defines "right" for a wrapper as "what the Go function returns".
* json: modelled at the level of the JSON *document* (text layer = encoding/json, trusted):
  `encCodec` is `obj.Interface()` + json.Marshal, `encM` is the `MarshalJSON`
  methods, `decDoc` is json.Unmarshal into `interface{}` + `object.FromGoType`.
* gzip: an abstract pair of functions (compress/gzip is trusted); see Props.
* glue: `project`/`inject` for the converters used by the wrappers, `wrap` for a wrapper
  (arity check, converters, the exported function's own tests `Sig.pre`, the Go call).
* regexp: the hand-written wrappers of modules/regexp (`RxSig`, `rxWrap`, the reviewed
  inventory `rxSigs` with the fact `Body.direct`: the body is ONE call into Go's package regexp
  and nothing else), Go's replacement-template expansion (`expand`) and ReplaceAllString on a
  literal pattern next to `strings.ReplaceAll` (`regexpReplaceAllLit`, `stringsReplaceAll`).
* sessions: several calls whose results are kept; Spec = immutable values (`runSpec`), Impl =
  references into a heap of buffers with the code's allocation policy (`runImpl fresh`).
-/
namespace Risor.C19

abbrev Bytes := List Nat

/-! ## hex (encoding/hex) -/

def hexDig (n : Nat) : Nat := if n < 10 then 48 + n else 87 + n

def hexVal (c : Nat) : Option Nat :=
  if 48 ≤ c ∧ c ≤ 57 then some (c - 48)
  else if 97 ≤ c ∧ c ≤ 102 then some (c - 87)
  else if 65 ≤ c ∧ c ≤ 70 then some (c - 55)
  else none

def hexEnc : Bytes → Bytes
  | [] => []
  | b :: r => hexDig (b / 16) :: hexDig (b % 16) :: hexEnc r

/-- `hex.Decode`: any non-hex character or an odd length is an error -/
def hexDec : Bytes → Option Bytes
  | [] => some []
  | [_] => none
  | a :: b :: r =>
    match hexVal a, hexVal b, hexDec r with
    | some x, some y, some t => some ((x * 16 + y) :: t)
    | _, _, _ => none

/-! ## base64 (encoding/base64: StdEncoding, RawStdEncoding, URLEncoding, RawURLEncoding) -/

def c62 (url : Bool) : Nat := if url then 45 else 43
def c63 (url : Bool) : Nat := if url then 95 else 47

def b64Char (url : Bool) (n : Nat) : Nat :=
  if n < 26 then 65 + n
  else if n < 52 then 71 + n
  else if n < 62 then n - 4
  else if n = 62 then c62 url
  else c63 url

def b64Val (url : Bool) (c : Nat) : Option Nat :=
  if 65 ≤ c ∧ c ≤ 90 then some (c - 65)
  else if 97 ≤ c ∧ c ≤ 122 then some (c - 71)
  else if 48 ≤ c ∧ c ≤ 57 then some (c + 4)
  else if c = c62 url then some 62
  else if c = c63 url then some 63
  else none

def padding (pad : Bool) (n : Nat) : Bytes := if pad then List.replicate n 61 else []

def b64Enc (url pad : Bool) : Bytes → Bytes
  | [] => []
  | [a] => b64Char url (a / 4) :: b64Char url (a % 4 * 16) :: padding pad 2
  | [a, b] =>
    b64Char url (a / 4) :: b64Char url (a % 4 * 16 + b / 16) :: b64Char url (b % 16 * 4) :: padding pad 1
  | a :: b :: c :: r =>
    b64Char url (a / 4) :: b64Char url (a % 4 * 16 + b / 16) :: b64Char url (b % 16 * 4 + c / 64)
      :: b64Char url (c % 64) :: b64Enc url pad r

/-- the quantum loop of `Encoding.Decode` on input from which CR and LF have been removed
    (non-strict: the unused low bits of the last character are not checked) -/
def b64Groups (url pad : Bool) : Bytes → Option Bytes
  | [] => some []
  | [_] => none
  | [a, b] =>
    if pad then none else
    match b64Val url a, b64Val url b with
    | some x, some y => some [x * 4 + y / 16]
    | _, _ => none
  | [a, b, c] =>
    if pad then none else
    match b64Val url a, b64Val url b, b64Val url c with
    | some x, some y, some z => some [x * 4 + y / 16, y % 16 * 16 + z / 4]
    | _, _, _ => none
  | a :: b :: c :: d :: r =>
    match b64Val url a, b64Val url b with
    | some x, some y =>
      match b64Val url c with
      | some z =>
        match b64Val url d with
        | some w =>
          match b64Groups url pad r with
          | some t => some ((x * 4 + y / 16) :: (y % 16 * 16 + z / 4) :: (z % 4 * 64 + w) :: t)
          | none => none
        | none =>
          if pad ∧ d = 61 ∧ r = [] then some [x * 4 + y / 16, y % 16 * 16 + z / 4] else none
      | none =>
        if pad ∧ c = 61 ∧ d = 61 ∧ r = [] then some [x * 4 + y / 16] else none
    | _, _ => none

def notNewline (c : Nat) : Bool := c != 10 && c != 13

def stripNL (s : Bytes) : Bytes := s.filter notNewline

/-- `Encoding.Decode`: CR and LF are ignored wherever they occur -/
def b64Dec (url pad : Bool) (s : Bytes) : Option Bytes := b64Groups url pad (stripNL s)

/-! ## base32 (encoding/base32 StdEncoding) -/

def b32Char (n : Nat) : Nat := if n < 26 then 65 + n else 24 + n

def b32Val (c : Nat) : Option Nat :=
  if 65 ≤ c ∧ c ≤ 90 then some (c - 65)
  else if 50 ≤ c ∧ c ≤ 55 then some (c - 24)
  else none

def pads (n : Nat) : Bytes := List.replicate n 61

def b32Enc : Bytes → Bytes
  | [] => []
  | [a] => b32Char (a / 8) :: b32Char (a % 8 * 4) :: pads 6
  | [a, b] =>
    b32Char (a / 8) :: b32Char (a % 8 * 4 + b / 64) :: b32Char (b / 2 % 32) :: b32Char (b % 2 * 16) :: pads 4
  | [a, b, c] =>
    b32Char (a / 8) :: b32Char (a % 8 * 4 + b / 64) :: b32Char (b / 2 % 32) :: b32Char (b % 2 * 16 + c / 16)
      :: b32Char (c % 16 * 2) :: pads 3
  | [a, b, c, d] =>
    b32Char (a / 8) :: b32Char (a % 8 * 4 + b / 64) :: b32Char (b / 2 % 32) :: b32Char (b % 2 * 16 + c / 16)
      :: b32Char (c % 16 * 2 + d / 128) :: b32Char (d / 4 % 32) :: b32Char (d % 4 * 8) :: pads 1
  | a :: b :: c :: d :: e :: r =>
    b32Char (a / 8) :: b32Char (a % 8 * 4 + b / 64) :: b32Char (b / 2 % 32) :: b32Char (b % 2 * 16 + c / 16)
      :: b32Char (c % 16 * 2 + d / 128) :: b32Char (d / 4 % 32) :: b32Char (d % 4 * 8 + e / 32)
      :: b32Char (e % 32) :: b32Enc r

/-- the five destination bytes of a quantum of eight 5-bit values (missing ones are 0) -/
def b32Bytes (q : List Nat) : Bytes :=
  let g := fun i => q.getD i 0
  [ g 0 * 8 + g 1 / 4,
    g 1 % 4 * 64 + g 2 * 2 + g 3 / 16,
    g 3 % 16 * 16 + g 4 / 2,
    g 4 % 2 * 128 + g 5 * 4 + g 6 / 8,
    g 6 % 8 * 32 + g 7 ]

/-- number of bytes produced by a quantum in which `j` characters were present -/
def b32Count (j : Nat) : Nat :=
  if j = 8 then 5 else if j = 7 then 4 else if j = 5 then 3 else if j = 4 then 2 else if j = 2 then 1 else 0

def b32Pack (j : Nat) (q : List Nat) : Bytes := (b32Bytes q).take (b32Count j)

/-- `Encoding.decode` (padded) after `stripNewlines`: `j` characters of the current quantum
    have been read into `q`.  As in Go, once a padding character is accepted decoding stops
    and what follows the required padding (fewer than 8 bytes) is not looked at. -/
def b32Loop : Bytes → Nat → List Nat → Option Bytes
  | [], j, _ => if j = 0 then some [] else none
  | c :: src, j, q =>
    if c = 61 ∧ 2 ≤ j ∧ src.length < 8 then
      if src.length + j < 7 then none
      else if !((src.take (7 - j)).all (· == 61)) then none
      else if j = 3 ∨ j = 6 then none
      else some (b32Pack j q)
    else
      match b32Val c with
      | none => none
      | some v =>
        if j = 7 then
          match b32Loop src 0 [] with
          | some t => some (b32Pack 8 (q ++ [v]) ++ t)
          | none => none
        else b32Loop src (j + 1) (q ++ [v])

def b32Dec (s : Bytes) : Option Bytes := b32Loop (stripNL s) 0 []

/-! ## urlquery (net/url QueryEscape / QueryUnescape) -/

def unreserved (c : Nat) : Bool :=
  (65 ≤ c && c ≤ 90) || (97 ≤ c && c ≤ 122) || (48 ≤ c && c ≤ 57) ||
  c == 45 || c == 95 || c == 46 || c == 126

def upHex (n : Nat) : Nat := if n < 10 then 48 + n else 55 + n

def qEsc : Bytes → Bytes
  | [] => []
  | c :: r =>
    if unreserved c then c :: qEsc r
    else if c = 32 then 43 :: qEsc r
    else 37 :: upHex (c / 16) :: upHex (c % 16) :: qEsc r

def qUnesc : Bytes → Option Bytes
  | [] => some []
  | c :: r =>
    if c = 37 then
      match r with
      | a :: b :: t =>
        match hexVal a, hexVal b, qUnesc t with
        | some x, some y, some u => some ((x * 16 + y) :: u)
        | _, _, _ => none
      | _ => none
    else
      match qUnesc r with
      | some u => some ((if c = 43 then 32 else c) :: u)
      | none => none

/-! ## codec registry (builtins/codecs.go) on the byte projection -/

inductive Codec where
  | hex | base64 | base32 | urlquery
  deriving Repr, DecidableEq

def Codec.enc : Codec → Bytes → Bytes
  | .hex => hexEnc
  | .base64 => b64Enc false true
  | .base32 => b32Enc
  | .urlquery => qEsc

def Codec.dec : Codec → Bytes → Option Bytes
  | .hex => hexDec
  | .base64 => b64Dec false true
  | .base32 => b32Dec
  | .urlquery => qUnesc

/-- what the property's "malformed input" means for the Spec: a byte that can never occur in
    an encoding (not in the alphabet, not padding, not an ignored CR/LF) -/
def Codec.alien : Codec → Nat → Bool
  | .hex => fun c => (hexVal c).isNone
  | .base64 => fun c => (b64Val false c).isNone && c != 61 && c != 10 && c != 13
  | .base32 => fun c => (b32Val c).isNone && c != 61 && c != 10 && c != 13
  | .urlquery => fun _ => false

/-! ## float64 ⇄ integer (what `json.Unmarshal` into `interface{}` does to a JSON integer) -/

def bitLen (n : Nat) : Nat := if n = 0 then 0 else Nat.log2 n + 1

/-- IEEE-754 binary64 bits of the natural number `m` rounded to nearest, ties to even -/
def f64OfNat (m : Nat) : Nat :=
  if m = 0 then 0 else
  let l := bitLen m
  if l ≤ 53 then
    (l - 1 + 1023) * 2 ^ 52 + (m * 2 ^ (53 - l) - 2 ^ 52)
  else
    let s := l - 53
    let q := m / 2 ^ s
    let r := m % 2 ^ s
    let half := 2 ^ (s - 1)
    let q' := if r > half ∨ (r = half ∧ q % 2 = 1) then q + 1 else q
    if q' = 2 ^ 53 then (l + 1023) * 2 ^ 52
    else (l - 1 + 1023) * 2 ^ 52 + (q' - 2 ^ 52)

def f64OfInt (i : Int) : Nat :=
  if i < 0 then 2 ^ 63 + f64OfNat i.natAbs else f64OfNat i.natAbs

/-- the integer a binary64 bit pattern denotes, if it denotes one (−0 denotes 0) -/
def f64IntVal (bits : Nat) : Option Int :=
  let neg := bits / 2 ^ 63 % 2 = 1
  let e := bits / 2 ^ 52 % 2048
  let m := bits % 2 ^ 52
  let sgn : Int → Int := fun x => if neg then -x else x
  if e = 0 then (if m = 0 then some 0 else none)
  else if e = 2047 then none
  else
    let mm := 2 ^ 52 + m
    if 1075 ≤ e then some (sgn (Int.ofNat (mm * 2 ^ (e - 1075))))
    else
      let d := 2 ^ (1075 - e)
      if mm % d = 0 then some (sgn (Int.ofNat (mm / d))) else none

/-- the integer survives the trip through float64 -/
def intExact (i : Int) : Bool := f64IntVal (f64OfInt i) == some i

def f64Finite (bits : Nat) : Bool := bits / 2 ^ 52 % 2048 != 2047

/-! ## UTF-8 as `encoding/json` sees it (utf8.DecodeRune: an invalid byte has width 1) -/

def cont (c : Nat) : Bool := 128 ≤ c && c ≤ 191

/-- width of the well-formed UTF-8 sequence at the head of `s`, 0 if there is none -/
def runeWidth : Bytes → Nat
  | [] => 0
  | a :: r =>
    if a < 128 then 1
    else if 194 ≤ a ∧ a ≤ 223 then
      match r with
      | b :: _ => if cont b then 2 else 0
      | _ => 0
    else if 224 ≤ a ∧ a ≤ 239 then
      match r with
      | b :: c :: _ =>
        let lo := if a = 224 then 160 else 128
        let hi := if a = 237 then 159 else 191
        if lo ≤ b ∧ b ≤ hi ∧ cont c then 3 else 0
      | _ => 0
    else if 240 ≤ a ∧ a ≤ 244 then
      match r with
      | b :: c :: d :: _ =>
        let lo := if a = 240 then 144 else 128
        let hi := if a = 244 then 143 else 191
        if lo ≤ b ∧ b ≤ hi ∧ cont c ∧ cont d then 4 else 0
      | _ => 0
    else 0

/-- what json.Marshal writes for a Go string and json.Unmarshal reads back: every byte that
    does not start a well-formed sequence becomes U+FFFD (EF BF BD).  `fuel` ≥ length. -/
def sanitizeF : Nat → Bytes → Bytes
  | 0, _ => []
  | _, [] => []
  | fuel + 1, a :: r =>
    let w := runeWidth (a :: r)
    if w = 0 then 239 :: 191 :: 189 :: sanitizeF fuel r
    else (a :: r).take w ++ sanitizeF fuel ((a :: r).drop w)

def sanitize (s : Bytes) : Bytes := sanitizeF s.length s

def validUtf8 (s : Bytes) : Bool := sanitize s == s

/-! ## three argument conventions outside the strings module, as repaired, and what they were

These wrappers are hand-written Go (object/byte_slice.go, modules/math/math.go); their agreement
with the Go library is established by correspondence.  The part of each that a defect was
recorded against is modelled here — the behaviour of the code as it is now, and, clearly named
`…PreFix`, what it was before the repair (statements in Props: `C19_fixed_*`). -/

/-- `bytes.contains_rune` / `bytes.index_rune` and the `byte_slice` methods: the argument must be
    exactly ONE well-formed UTF-8 sequence (`r, size := utf8.DecodeRuneInString(s)`; refused when
    `size == 0 || size != len(s) || (r == utf8.RuneError && size == 1)`) -/
def runeArgOK (s : Bytes) : Bool := s != [] && runeWidth s == s.length

/-- HISTORICAL (before "fix: bytes.contains_rune and bytes.index_rune accept a multi-byte
    character"): the test was `len(s) != 1` in BYTES, the rune `rune(s[0])` -/
def runeArgOKPreFix (s : Bytes) : Bool := s.length == 1

/-- `math.abs` of a float, on its IEEE-754 bits (< 2^64): `math.Abs` clears the sign bit -/
def absBits (b : Nat) : Nat := b % 2 ^ 63

/-- HISTORICAL (before "fix: math.abs(-0.0) returns +0.0"): `if v < 0 { v *= -1 }` — the
    comparison is false for -0.0 and for every NaN, which therefore kept their sign bit -/
def absBitsPreFix (b : Nat) : Nat :=
  if 2 ^ 63 < b ∧ b ≤ 2 ^ 63 + 0x7FF0000000000000 then b - 2 ^ 63 else b

/-- `math.pow10` of an int: the exponent handed to `math.Pow10` is the int itself -/
def pow10Exp (i : Int) : Int := i

/-- HISTORICAL (before "fix: math.pow10 passes an int argument to math.Pow10 unchanged"):
    `int(float64(i))` — rounded to binary64 and converted back; on amd64 a float that is not below
    2^63 converts to MinInt64 -/
def pow10ExpPreFix (i : Int) : Int :=
  match f64IntVal (f64OfInt i) with
  | some j => if j ≤ 2 ^ 63 - 1 then j else -(2 ^ 63)
  | none => -(2 ^ 63)

/-! ## script values and the JSON document model -/

mutual
  inductive Val where
    | nil
    | bool (b : Bool)
    | int (i : Int)
    | float (bits : Nat)
    | byte (n : Nat)
    | str (s : Bytes)
    | bytes (s : Bytes)
    | list (xs : Vals)
    | map (kvs : KVs)      -- in ascending order of the raw key (how encoding/json writes a Go map)
  inductive Vals where
    | nil
    | cons (v : Val) (r : Vals)
  inductive KVs where
    | nil
    | cons (k : Bytes) (v : Val) (r : KVs)
end

def KVs.hasKey (k : Bytes) : KVs → Bool
  | .nil => false
  | .cons k' _ r => k' == k || KVs.hasKey k r

/-- json.Unmarshal into a Go map: the last occurrence of a key wins -/
def KVs.dedupLast : KVs → KVs
  | .nil => .nil
  | .cons k v r => if KVs.hasKey k r then KVs.dedupLast r else .cons k v (KVs.dedupLast r)

/-- base64 text (what json.Marshal writes for a Go []byte) -/
def b64Text (s : Bytes) : Bytes := b64Enc false true s

mutual
  /-- `obj.Interface()` followed by `json.Marshal`, as a JSON document (numbers keep their
      token: an int stays an int).  `none`: the encoder returns an error. -/
  def encI : Val → Option Val
    | .nil => some .nil
    | .bool b => some (.bool b)
    | .int i => some (.int i)
    | .float f => if f64Finite f then some (.float f) else none
    | .byte n => some (.int n)
    | .str s => some (.str (sanitize s))
    | .bytes s => some (.str (b64Text s))        -- Interface() is []byte: base64 text
    | .list xs => match encIs xs with
      | some ys => some (.list ys)
      | none => none
    | .map kvs => match encIk kvs with
      | some ys => some (.map ys)
      | none => none
  def encIs : Vals → Option Vals
    | .nil => some .nil
    | .cons v r => match encI v, encIs r with
      | some a, some b => some (.cons a b)
      | _, _ => none
  def encIk : KVs → Option KVs
    | .nil => some .nil
    | .cons k v r => match encI v, encIk r with
      | some a, some b => some (.cons (sanitize k) a b)
      | _, _ => none
end

/-- `encodeJSON` (builtins/codecs.go): `Interface() == nil` (only the nil object) is refused -/
def encCodec : Val → Option Val
  | .nil => none
  | v => encI v

mutual
  /-- json.Marshal of the object itself: the `MarshalJSON` methods -/
  def encM : Val → Option Val
    | .nil => some .nil
    | .bool b => some (.bool b)
    | .int i => some (.int i)
    | .float f => if f64Finite f then some (.float f) else none
    | .byte n => some (.int n)
    | .str s => some (.str (sanitize s))
    | .bytes s => some (.str (sanitize s))       -- ByteSlice.MarshalJSON: json.Marshal(string(b))
    | .list xs => match encMs xs with
      | some ys => some (.list ys)
      | none => none
    | .map kvs => match encMk kvs with
      | some ys => some (.map ys)
      | none => none
  def encMs : Vals → Option Vals
    | .nil => some .nil
    | .cons v r => match encM v, encMs r with
      | some a, some b => some (.cons a b)
      | _, _ => none
  def encMk : KVs → Option KVs
    | .nil => some .nil
    | .cons k v r => match encM v, encMk r with
      | some a, some b => some (.cons (sanitize k) a b)
      | _, _ => none
end

mutual
  /-- json.Unmarshal into `interface{}` + `object.FromGoType`: every number is a float64 -/
  def decDoc : Val → Val
    | .int i => .float (f64OfInt i)
    | .byte n => .float (f64OfInt n)
    | .list xs => .list (decDocs xs)
    | .map kvs => .map (KVs.dedupLast (decDock kvs))
    | v => v
  def decDocs : Vals → Vals
    | .nil => .nil
    | .cons v r => .cons (decDoc v) (decDocs r)
  def decDock : KVs → KVs
    | .nil => .nil
    | .cons k v r => .cons k (decDoc v) (decDock r)
end

/-- `decode(encode(v, "json"), "json")` -/
def codecRoundtrip (v : Val) : Option Val := (encCodec v).map decDoc
/-- `json.unmarshal(json.marshal(v))` -/
def marshalRoundtrip (v : Val) : Option Val := (encM v).map decDoc

mutual
  /-- Spec equality between an original value and what came back: same shape, same bytes,
      numbers equal as *numbers* (an int may come back as the float that denotes exactly
      that integer; it may not come back as a neighbouring one) -/
  def jEq : Val → Val → Bool
    | .nil, .nil => true
    | .bool a, .bool b => a == b
    | .int i, .float f => f64IntVal f == some i
    | .int i, .int j => i == j
    | .byte n, .float f => f64IntVal f == some (Int.ofNat n)
    | .float a, .float b => a == b
    | .str a, .str b => a == b
    | .bytes a, .bytes b => a == b
    | .bytes a, .str b => a == b        -- script equality byte_slice == string compares the bytes
    | .list a, .list b => jEqs a b
    | .map a, .map b => jEqk a b
    | _, _ => false
  def jEqs : Vals → Vals → Bool
    | .nil, .nil => true
    | .cons a r, .cons b s => jEq a b && jEqs r s
    | _, _ => false
  def jEqk : KVs → KVs → Bool
    | .nil, .nil => true
    | .cons k a r, .cons l b s => k == l && jEq a b && jEqk r s
    | _, _ => false
end

/-- Spec verdict for the json codec on `v` (used by the harness through the oracle) -/
def codecOk (v : Val) : Bool :=
  match codecRoundtrip v with
  | some w => jEq v w
  | none => false

mutual
  /-- no byte_slice anywhere -/
  def noBytes : Val → Bool
    | .bytes _ => false
    | .list xs => noBytess xs
    | .map kvs => noBytesk kvs
    | _ => true
  def noBytess : Vals → Bool
    | .nil => true
    | .cons v r => noBytes v && noBytess r
  def noBytesk : KVs → Bool
    | .nil => true
    | .cons _ v r => noBytes v && noBytesk r
end

def KVs.distinct : KVs → Bool
  | .nil => true
  | .cons k _ r => !KVs.hasKey k r && KVs.distinct r

mutual
  /-- every int survives float64, every float is finite, every string and key is valid
      UTF-8, keys are distinct -/
  def jsonSafe : Val → Bool
    | .int i => intExact i
    | .byte n => intExact (Int.ofNat n)
    | .float f => f64Finite f
    | .str s => validUtf8 s
    | .bytes _ => false
    | .list xs => jsonSafes xs
    | .map kvs => jsonSafek kvs && KVs.distinct kvs
    | _ => true
  def jsonSafes : Vals → Bool
    | .nil => true
    | .cons v r => jsonSafe v && jsonSafes r
  def jsonSafek : KVs → Bool
    | .nil => true
    | .cons k v r => validUtf8 k && jsonSafe v && jsonSafek r
end

def isNil : Val → Bool
  | .nil => true
  | _ => false

/-! ## wrapper glue (object/typeconv.go + modules/strings/strings_gen.go) -/

inductive Conv where
  | str       -- object.AsString
  | int       -- object.AsInt (+ the int range check of the generated code)
  | strList   -- object.AsStringSlice
  | bool      -- object.AsBool
  | bytes     -- object.AsBytes
  | float     -- object.AsFloat (an int or a byte is converted: float64(i))
  deriving Repr, DecidableEq

inductive Inj where
  | bool      -- object.NewBool
  | int       -- object.NewInt(int64(result))
  | str       -- object.NewString
  | strList   -- object.NewStringList
  | float     -- object.NewFloat
  | bytes     -- object.NewByteSlice
  deriving Repr, DecidableEq

/-- a Go-side argument or result -/
inductive GoVal where
  | str (s : Bytes)
  | int (i : Int)
  | bool (b : Bool)
  | strs (l : List Bytes)
  | bytes (s : Bytes)
  | float (bits : Nat)     -- a float64, by its IEEE-754 bits
  deriving Repr, DecidableEq

/-- a test the exported function makes on its (converted) parameters BEFORE it calls the Go
    function; when one fires the function returns an error value and the Go function is not
    called.  `neg i`: `pᵢ < 0`;  `lenMulOverflows i j`: `len(pᵢ) > 0 && pⱼ > math.MaxInt/len(pᵢ)`
    (the product `len(pᵢ)·pⱼ` does not fit an `int`). -/
inductive Check where
  | neg (i : Nat)
  | lenMulOverflows (i j : Nat)
  deriving Repr, DecidableEq

/-- one generated wrapper: exported name, Go function it calls (with the order in which the
    parameters are passed on), converters of the arguments, constructor of the result, and the
    tests the exported function makes before the call (`pre`, in source order) -/
structure Sig where
  name : String
  go : String
  args : List Conv
  pass : List Nat
  res : Inj
  pre : List Check
  deriving Repr, DecidableEq

def Vals.toStrs : Vals → Option (List Bytes)
  | .nil => some []
  | .cons (.str s) r => (Vals.toStrs r).map (s :: ·)
  | .cons (.bytes s) r => (Vals.toStrs r).map (s :: ·)
  | .cons _ _ => none

def Vals.ofStrs : List Bytes → Vals
  | [] => .nil
  | s :: r => .cons (.str s) (Vals.ofStrs r)

def minInt64 : Int := -(2 ^ 63)
def maxInt64 : Int := 2 ^ 63 - 1

/-- the `As…` converters: defined exactly on the accepted object types -/
def project : Conv → Val → Option GoVal
  | .str, .str s => some (.str s)
  | .str, .bytes s => some (.str s)
  | .int, .int i => some (.int i)
  | .int, .byte n => some (.int n)
  | .bool, .bool b => some (.bool b)
  | .bytes, .bytes s => some (.bytes s)
  | .bytes, .str s => some (.bytes s)
  | .strList, .list xs => (Vals.toStrs xs).map .strs
  | .float, .float b => some (.float b)
  | .float, .int i => some (.float (f64OfInt i))
  | .float, .byte n => some (.float (f64OfInt n))
  | _, _ => none

def projectAll : List Conv → List Val → Option (List GoVal)
  | [], [] => some []
  | c :: cs, v :: vs =>
    match project c v, projectAll cs vs with
    | some g, some gs => some (g :: gs)
    | _, _ => none
  | _, _ => none

/-- the `New…` constructors -/
def inject : GoVal → Val
  | .str s => .str s
  | .int i => .int i
  | .bool b => .bool b
  | .strs l => .list (Vals.ofStrs l)
  | .bytes s => .bytes s
  | .float b => .float b

inductive Out where
  | val (v : Val)
  | argsErr
  | typeErr
  | err
  | panic

/-- a Go library function: `none` models a Go panic -/
abbrev GoFun := List GoVal → Option GoVal

/-- what the wrapper returns for the outcome of the Go call (`none` = the call panicked) -/
def outOf : Option GoVal → Out
  | none => .panic
  | some r => .val (inject r)

/-- the values handed to the Go function, in the order the exported function passes them on -/
def passed (sig : Sig) (gs : List GoVal) : List GoVal := sig.pass.map fun i => gs.getD i (.bool false)

/-- does the test fire on the converted parameters `gs` (as written in the Go source:
    integer division, `math.MaxInt` = 2^63-1) -/
def Check.fires : Check → List GoVal → Bool
  | .neg i, gs =>
    match gs.getD i (.bool false) with
    | .int n => decide (n < 0)
    | _ => false
  | .lenMulOverflows i j, gs =>
    match gs.getD i (.bool false), gs.getD j (.bool false) with
    | .str s, .int n => decide (0 < s.length) && decide (maxInt64 / (s.length : Int) < n)
    | _, _ => false

/-- the exported function returns an error value without calling the Go function -/
def refuses (sig : Sig) (gs : List GoVal) : Bool := sig.pre.any (·.fires gs)

/-- the exported function behind a generated wrapper, on converted parameters: its tests, then
    the Go function (`result, resultErr := inner(…); if resultErr != nil { return NewError }`) -/
def callInner (sig : Sig) (f : GoFun) (gs : List GoVal) : Out :=
  if refuses sig gs then .err else outOf (f (passed sig gs))

/-- a generated wrapper around `f` -/
def wrap (sig : Sig) (f : GoFun) (args : List Val) : Out :=
  if args.length ≠ sig.args.length then .argsErr
  else match projectAll sig.args args with
    | none => .typeErr
    | some gs => callInner sig f gs

/-- the wrappers of modules/strings (hand-written twin of the regenerated inventory) -/
def stringsSigs : List Sig := [
  ⟨"contains", "strings.Contains", [.str, .str], [0, 1], .bool, []⟩,
  ⟨"has_prefix", "strings.HasPrefix", [.str, .str], [0, 1], .bool, []⟩,
  ⟨"has_suffix", "strings.HasSuffix", [.str, .str], [0, 1], .bool, []⟩,
  ⟨"count", "strings.Count", [.str, .str], [0, 1], .int, []⟩,
  ⟨"compare", "strings.Compare", [.str, .str], [0, 1], .int, []⟩,
  ⟨"repeat", "strings.Repeat", [.str, .int], [0, 1], .str, [.neg 1, .lenMulOverflows 0 1]⟩,
  ⟨"join", "strings.Join", [.strList, .str], [0, 1], .str, []⟩,
  ⟨"split", "strings.Split", [.str, .str], [0, 1], .strList, []⟩,
  ⟨"fields", "strings.Fields", [.str], [0], .strList, []⟩,
  ⟨"index", "strings.Index", [.str, .str], [0, 1], .int, []⟩,
  ⟨"last_index", "strings.LastIndex", [.str, .str], [0, 1], .int, []⟩,
  ⟨"replace_all", "strings.ReplaceAll", [.str, .str, .str], [0, 1, 2], .str, []⟩,
  ⟨"to_lower", "strings.ToLower", [.str], [0], .str, []⟩,
  ⟨"to_upper", "strings.ToUpper", [.str], [0], .str, []⟩,
  ⟨"trim", "strings.Trim", [.str, .str], [0, 1], .str, []⟩,
  ⟨"trim_prefix", "strings.TrimPrefix", [.str, .str], [0, 1], .str, []⟩,
  ⟨"trim_suffix", "strings.TrimSuffix", [.str, .str], [0, 1], .str, []⟩,
  ⟨"trim_space", "strings.TrimSpace", [.str], [0], .str, []⟩ ]

def findSig (name : String) : Option Sig := stringsSigs.find? (·.name == name)

/-- HISTORICAL (before "fix: strings.repeat, bytes.repeat and byte_slice.repeat return an error
    …"): the inventory as it was — `repeat` made no test of its own and handed any count to
    `strings.Repeat`.  Kept so that the repaired defect stays a checked statement
    (`C19_fixed_repeat_panicked` in Props). -/
def preFixStringsSigs : List Sig := stringsSigs.map fun sig => { sig with pre := [] }

/-- the arguments on which Go's `strings.Repeat` panics (negative count, or a result length
    that overflows `int`); no other function of the inventory panics.  (A Go panic is no longer
    reachable through the wrapper: `repeat` tests exactly this domain first — `Sig.pre`.) -/
def goPanics (go : String) (gs : List GoVal) : Bool :=
  match go, gs with
  | "strings.Repeat", [.str s, .int n] => n < 0 || (maxInt64 < (s.length : Int) * n)
  | _, _ => false

/-! ## the hand-written wrappers of modules/regexp (regexp.go, regexp_object.go)

`regexp.compile`, `regexp.match` and the methods of a compiled pattern (`match`, `find`,
`find_all`, `find_submatch`, `replace_all`, `split`) are written by hand, not generated: an
arity test, `object.As…` converters on `args[i]` in order, ONE call into Go's package `regexp`
— a package function on the pattern string, or a method of the compiled pattern `r.value` —
and a constructor around its result.  The Go library is the reference by the property's own
wording, so it is a parameter here (`GoFunE`); what is modelled is the glue, and the fact that
matters for "returns exactly what the Go function returns": whether the body is that one call
and nothing else (`Body.direct`).

A compiled pattern is identified by its source text (`regexp.Compile` is a function of it):
the receiver of a method is the first converted value `.str source`, and `regexp.compile`
returns `.str source` standing for the regexp object. -/

/-- what a call into the Go library gives back: a value, an `error` result, or a panic -/
inductive GoOut where
  | val (g : GoVal)
  | error
  | panic
  deriving Repr, DecidableEq

/-- a Go library function that may report an error (`(T, error)`) -/
abbrev GoFunE := List GoVal → GoOut

/-- what a wrapper returns for the outcome of its Go call: the injected value, an error VALUE
    for an `error` result (`object.NewError(rErr)`), and a panic only if Go panicked -/
def outOfE : GoOut → Out
  | .val r => .val (inject r)
  | .error => .err
  | .panic => .panic

/-- a total Go function seen as one that never reports an error -/
def liftFun (f : GoFun) : GoFunE := fun gs =>
  match f gs with
  | some r => .val r
  | none => .panic

/-- how the body of a hand-written wrapper gets from its converted arguments to its result.
    `direct`: exactly ONE call of the library function/method, on the converted arguments in the
    recorded order, and its result goes into the constructor (element by element for a list) —
    no other call, no branch on the data, no second way to a result.
    `other`: anything else (a fast path, a second library call, a branch on the pattern or on
    an argument, a result that does not come from the call). -/
inductive Body where
  | direct
  | other
  deriving Repr, DecidableEq

/-- one hand-written wrapper of modules/regexp.  `sig`: registered name, Go function
    (`regexp.X` a package function, `Regexp.X` a method of the compiled pattern), converters in
    argument order — for a method the receiver comes first, as `.str` —, the order in which the
    converted values are passed on, result constructor, no tests of its own.  `recv`: method of a
    compiled pattern.  `optInt`: the last parameter may be omitted and is then this number
    (`n := -1`).  `retErr`: the Go function returns `(T, error)` and the error is handed back as
    `object.NewError`.  `compiled`: the result constructor is `NewRegexp` (a regexp object).
    `body`: see `Body`. -/
structure RxSig where
  sig : Sig
  recv : Bool
  optInt : Option Int
  retErr : Bool
  compiled : Bool
  body : Body
  deriving Repr, DecidableEq

/-- the argument list with an omitted optional last argument filled in -/
def RxSig.fill (w : RxSig) (args : List Val) : List Val :=
  match w.optInt with
  | some d => if args.length + 1 = w.sig.args.length then args ++ [.int d] else args
  | none => args

/-- Impl: a hand-written regexp wrapper around the Go function `f`, on its arguments (for a
    method: the receiver first).  `alt` stands for whatever a body that is NOT the direct call
    computes from the converted arguments. -/
def rxWrap (w : RxSig) (f : GoFunE) (alt : List GoVal → Out) (args : List Val) : Out :=
  if (w.fill args).length ≠ w.sig.args.length then .argsErr
  else match projectAll w.sig.args (w.fill args) with
    | none => .typeErr
    | some gs =>
      match w.body with
      | .direct => outOfE (f (passed w.sig gs))
      | .other => alt gs

/-- Spec ("returns exactly what the Go function returns, errors as script errors"): arity and
    type errors for ill-formed calls, otherwise the injection of what the Go function gives on
    the projected arguments -/
def rxSpec (w : RxSig) (f : GoFunE) (args : List Val) : Out :=
  rxWrap { w with body := .direct } f (fun _ => .panic) args

/-- the wrappers of modules/regexp (hand-written twin of the regenerated inventory) -/
def rxSigs : List RxSig := [
  ⟨⟨"regexp.compile", "regexp.Compile", [.str], [0], .str, []⟩, false, none, true, true, .direct⟩,
  ⟨⟨"regexp.match", "regexp.MatchString", [.str, .str], [0, 1], .bool, []⟩, false, none, true, false, .direct⟩,
  ⟨⟨"match", "Regexp.MatchString", [.str, .str], [0, 1], .bool, []⟩, true, none, false, false, .direct⟩,
  ⟨⟨"find", "Regexp.FindString", [.str, .str], [0, 1], .str, []⟩, true, none, false, false, .direct⟩,
  ⟨⟨"find_all", "Regexp.FindAllString", [.str, .str, .int], [0, 1, 2], .strList, []⟩, true, some (-1), false, false, .direct⟩,
  ⟨⟨"find_submatch", "Regexp.FindStringSubmatch", [.str, .str], [0, 1], .strList, []⟩, true, none, false, false, .direct⟩,
  ⟨⟨"replace_all", "Regexp.ReplaceAllString", [.str, .str, .str], [0, 1, 2], .str, []⟩, true, none, false, false, .direct⟩,
  ⟨⟨"split", "Regexp.Split", [.str, .str, .int], [0, 1, 2], .strList, []⟩, true, some (-1), false, false, .direct⟩ ]

def findRx (name : String) : Option RxSig := rxSigs.find? (·.sig.name == name)

/-! ### replacement templates (`Regexp.ReplaceAllString` / `Regexp.Expand`)

The second argument of `replace_all` is not text but a TEMPLATE: Go expands `$$` to `$`,
`$name` / `${name}` to the text of the group with that number or name (nothing if the group
does not exist or did not take part in the match), and leaves a `$` that starts no valid
reference as it is.  `expand` is Go's `(*Regexp).expand` with `extract`, for templates whose
bytes are ASCII (a name is a run of ASCII letters, digits and `_`; the harness asks only for
such templates — Go's `unicode.IsLetter` on other runes is outside this model).  Modelled by
hand and compared with the real `Regexp.ExpandString` / `ReplaceAllString` on every run. -/

def isDigitB (c : Nat) : Bool := 48 ≤ c && c ≤ 57

def isWordB (c : Nat) : Bool := isDigitB c || (65 ≤ c && c ≤ 90) || (97 ≤ c && c ≤ 122) || c == 95

/-- the longest prefix whose bytes satisfy `p`, and the rest -/
def cutWhile (p : Nat → Bool) : Bytes → Bytes × Bytes
  | [] => ([], [])
  | c :: t => if p c then ((cutWhile p t).1.cons c, (cutWhile p t).2) else ([], c :: t)

/-- Go's `extract`: the reference that starts right after a `$` — its name and the rest of the
    template — or `none` if there is none (`$` then stays text) -/
def extractRef (t : Bytes) : Option (Bytes × Bytes) :=
  match t with
  | [] => none
  | 123 :: t' =>
    match cutWhile isWordB t' with
    | ([], _) => none
    | (name, 125 :: rest) => some (name, rest)
    | _ => none
  | _ =>
    match cutWhile isWordB t with
    | ([], _) => none
    | (name, rest) => some (name, rest)

def natOfDigits (ds : Bytes) : Nat := ds.foldl (fun n c => n * 10 + (c - 48)) 0

/-- the group NUMBER a name denotes: all digits, no leading zero (except "0" itself), at most
    nine digits (Go gives up at 10^8 before reading a further digit); otherwise it is a NAME -/
def refNum (name : Bytes) : Option Nat :=
  if name.all isDigitB && !(name.head? == some 48 && 1 < name.length) && name.length ≤ 9
  then some (natOfDigits name) else none

/-- the first group called `name` that took part in the match -/
def namedGroup (name : Bytes) : List Bytes → List (Option Bytes) → Bytes
  | n :: ns, g :: gs =>
    match g with
    | some txt => if n == name then txt else namedGroup name ns gs
    | none => namedGroup name ns gs
  | _, _ => []

/-- the text a reference expands to: `groups` are the submatches of one match (0 = the whole
    match, `none` = took no part), `names` the names of the groups (`Regexp.SubexpNames`) -/
def refText (groups : List (Option Bytes)) (names : List Bytes) (name : Bytes) : Bytes :=
  match refNum name with
  | some k => (groups.getD k none).getD []
  | none => namedGroup name names groups

def expandF (look : Bytes → Bytes) : Nat → Bytes → Bytes
  | 0, t => t
  | fuel + 1, t =>
    match cutWhile (· != 36) t with
    | (before, []) => before
    | (before, _ :: 36 :: t2) => before ++ 36 :: expandF look fuel t2
    | (before, _ :: t1) =>
      match extractRef t1 with
      | none => before ++ 36 :: expandF look fuel t1
      | some (name, rest) => before ++ look name ++ expandF look fuel rest

/-- Go's template expansion for one match -/
def expand (groups : List (Option Bytes)) (names : List Bytes) (t : Bytes) : Bytes :=
  expandF (refText groups names) (t.length + 1) t

/-- does `lit` start here -/
def startsWith : Bytes → Bytes → Bool
  | [], _ => true
  | _ :: _, [] => false
  | a :: l, b :: s => a == b && startsWith l s

/-- every non-overlapping occurrence of the non-empty byte string `lit` in `s`, left to right,
    replaced by `sub` (`skip`: bytes of an occurrence still to be passed over):
    `strings.ReplaceAll(s, lit, sub)` -/
def replaceLit (lit sub : Bytes) : Nat → Bytes → Bytes
  | _, [] => []
  | skip + 1, _ :: s => replaceLit lit sub skip s
  | 0, c :: s =>
    if lit != [] && startsWith lit (c :: s) then sub ++ replaceLit lit sub (lit.length - 1) s
    else c :: replaceLit lit sub 0 s

/-- `strings.ReplaceAll(s, lit, repl)` for a non-empty `lit`: `repl` goes in VERBATIM -/
def stringsReplaceAll (s lit repl : Bytes) : Bytes := replaceLit lit repl 0 s

/-- `regexp.MustCompile(QuoteMeta(lit)).ReplaceAllString(s, repl)` for a non-empty literal
    pattern (no operator, no flag, no group): the matches are the occurrences of `lit`, there is
    one group (the whole match) and `repl` is EXPANDED for each -/
def regexpReplaceAllLit (s lit repl : Bytes) : Bytes := replaceLit lit (expand [some lit] [[]] repl) 0 s

/-! ## sessions: several calls whose results stay alive while later calls run

A script (or a host using the object API) keeps the value a call returned and goes on
calling: `a := encode(A, c); b := encode(B, c); decode(a, c)`.  The property speaks about
*values*, so the Spec is the pure one: slot `i` holds what call `i` returned, for ever.
The Impl model has the state the Go code has: values are *references* to byte buffers in a
heap, a call reads its argument's buffer, and an allocation policy says into which cell the
output is written.  The unchanged code allocates a new buffer for every output
(`var buf bytes.Buffer`, `make([]byte, n)`, a new Go string): policy `fresh`. -/

/-- one step of a session: a value supplied from outside, or a library call (an encoder
    `fun b => some (enc b)`, or a decoder) on the byte projection of the value in slot `src`;
    `none` = the call returns an error value -/
inductive Call where
  | lit (b : Bytes)
  | app (f : Bytes → Option Bytes) (src : Nat)

/-- Spec state: slot `i` = what step `i` returned (`none`: an error) -/
abbrev Store := List (Option Bytes)

def Call.eval (st : Store) : Call → Option Bytes
  | .lit b => some b
  | .app f src => (st.getD src none).bind f

/-- Spec: results are immutable values; a step only appends its own result -/
def runSpec (st : Store) : List Call → Store
  | [] => st
  | c :: r => runSpec (st ++ [c.eval st]) r

abbrev Heap := List Bytes

/-- Impl state: a heap of buffers, and per slot the buffer the returned object points to -/
structure Mem where
  heap : Heap
  slots : List (Option Nat)

/-- allocation policy of a call's output buffer: the cell written (an index beyond the heap
    means "a new cell") -/
abbrev Alloc := Heap → Nat

/-- the unchanged code: every output goes to a new buffer -/
def fresh : Alloc := fun h => h.length

/-- a pooled / cached output buffer: cell `k` is reused once it exists -/
def reuse (k : Nat) : Alloc := fun _ => k

def writeCell (h : Heap) (k : Nat) (b : Bytes) : Heap × Nat :=
  if k < h.length then (h.set k b, k) else (h ++ [b], h.length)

/-- what the object in a slot shows when it is looked at *now* -/
def Mem.read (m : Mem) (slot : Nat) : Option Bytes := (m.slots.getD slot none).bind (m.heap[·]?)

def Mem.step (al : Alloc) (m : Mem) : Call → Mem
  | .lit b => { heap := m.heap ++ [b], slots := m.slots ++ [some m.heap.length] }
  | .app f src =>
    match (m.read src).bind f with
    | none => { m with slots := m.slots ++ [none] }
    | some b =>
      let w := writeCell m.heap (al m.heap) b
      { heap := w.1, slots := m.slots ++ [some w.2] }

def runImpl (al : Alloc) (m : Mem) : List Call → Mem
  | [] => m
  | c :: r => runImpl al (m.step al c) r

/-- every slot as it looks at the end of the session -/
def Mem.observe (m : Mem) : Store := m.slots.map fun r => r.bind (m.heap[·]?)

def Mem.empty : Mem := ⟨[], []⟩

/-- every reference points into the heap -/
def Mem.WF (m : Mem) : Prop := ∀ k, some k ∈ m.slots → k < m.heap.length

/-! ## argument OBJECTS: every bytes-like kind, with the state the object has

`project` above speaks about immutable values.  The converters of object/typeconv.go are
handed *objects*, and three more kinds are accepted where bytes (or a string) are expected:

* `object.Buffer` (a `*bytes.Buffer`: the bytes written so far and a READ OFFSET; its
  contents are the unread part `buf[off:]`).  `AsString` returns `value.String()`, `AsBytes`
  has a dedicated case returning `value.Bytes()`: both only LOOK at the unread part.
* every other `io.Reader` (`object.File`): `AsBytes` falls back to `io.ReadAll(obj)`, which
  reads the stream to its end — the stream is advanced, as Go's `io.ReadAll(f)` advances an
  `*os.File`.  `AsString` refuses a file.

`Val` stays the universe of json value trees (a buffer has no faithful json model:
`Buffer.MarshalJSON` prints with fmt's `%q`); the stateful kinds live in `Obj`, which embeds
`Val`.  A wrapper call is modelled on a heap of objects so that the SAME object can be used
by several calls and by several parameters of one call. -/

inductive Obj where
  | val (v : Val)                       -- an immutable value object (string, byte_slice, int, list …)
  | buffer (buf : Bytes) (off : Nat)    -- object.Buffer: written bytes, read offset
  | file (data : Bytes) (pos : Nat)     -- object.File (an io.Reader that is not a Buffer): contents, read position

/-- what a buffer / stream still has to offer -/
def unread (b : Bytes) (off : Nat) : Bytes := b.drop off

/-- a stream: reading it is consuming it (by nature, in Go as well) -/
def Obj.isStream : Obj → Bool
  | .file _ _ => true
  | _ => false

/-- the contents an object shows to a script (`string(x)`, `x.bytes()`): for a value the value
    itself, for a buffer / file the unread part -/
def Obj.asVal : Obj → Val
  | .val v => v
  | .buffer b off => .bytes (unread b off)
  | .file d pos => .bytes (unread d pos)

/-- How `AsBytes` gets at the bytes of a Buffer.  `peek` is the unchanged code (the dedicated
    `case *Buffer: obj.value.Bytes()`); `drain` is the `io.Reader` fallback applied to a buffer
    (`io.ReadAll(obj)`: the same bytes, but the buffer is empty afterwards) — the model of the
    defect class, used only by the sensitivity theorem. -/
inductive BufRead where
  | peek | drain
  deriving Repr, DecidableEq

/-- one converter on one argument object: the Go value handed to the wrapped function and the
    object's state after the conversion; `none` = type error value -/
def convObj (m : BufRead) : Conv → Obj → Option (GoVal × Obj)
  | c, .val v => (project c v).map fun g => (g, .val v)
  | .str, .buffer b off => some (.str (unread b off), .buffer b off)          -- AsString: value.String()
  | .bytes, .buffer b off =>
    match m with
    | .peek => some (.bytes (unread b off), .buffer b off)                     -- AsBytes: value.Bytes()
    | .drain => some (.bytes (unread b off), .buffer b (max off b.length))     -- io.ReadAll(buffer)
  | .bytes, .file d pos => some (.bytes (unread d pos), .file d (max pos d.length))   -- io.ReadAll(file)
  | _, _ => none

/-- how a case of a converter's type switch gets at the bytes of its argument -/
inductive Access where
  | look      -- returns a field / `Bytes()` / `String()` of the object: nothing is read
  | readAll   -- reads the object as a stream (`io.ReadAll(obj)`)
  | reject    -- the default case: a type error value
  deriving Repr, DecidableEq

/-- does an object match the type listed in a case of the Go type switch (`*Buffer` and
    `*File` both implement `io.Reader`; everything matches `default`) -/
def Obj.matchesTy : Obj → String → Bool
  | _, "default" => true
  | .val (.str _), "*String" => true
  | .val (.bytes _), "*ByteSlice" => true
  | .buffer _ _, "*Buffer" => true
  | .buffer _ _, "io.Reader" => true
  | .file _ _, "*File" => true
  | .file _ _, "io.Reader" => true
  | _, _ => false

/-- a Go type switch takes the FIRST case whose type the value has -/
def caseOf : List (String × Access) → Obj → Access
  | [], _ => .reject
  | (ty, a) :: r, o => if o.matchesTy ty then a else caseOf r o

/-- `object.AsBytes` (hand-written twin of the regenerated table): the dedicated `*Buffer`
    case stands BEFORE the `io.Reader` fallback, so a buffer is looked at, not read -/
def asBytesCases : List (String × Access) :=
  [("*ByteSlice", .look), ("*Buffer", .look), ("*String", .look), ("io.Reader", .readAll), ("default", .reject)]

/-- `object.AsString` -/
def asStringCases : List (String × Access) :=
  [("*String", .look), ("*ByteSlice", .look), ("*Buffer", .look), ("default", .reject)]

abbrev Objs := List Obj

/-- the object an argument reference denotes (a dangling reference denotes nil) -/
def Objs.get (h : Objs) (r : Nat) : Obj := h.getD r (.val .nil)

/-- the converters of a generated wrapper run on `args[i]` in order; the first one that fails
    ends the call with its type error — the converters before it have run -/
def convRefs (m : BufRead) : List Conv → List Nat → Objs → Option (List GoVal) × Objs
  | [], [], h => (some [], h)
  | c :: cs, r :: rs, h =>
    match convObj m c (h.get r) with
    | none => (none, h)
    | some (g, o') =>
      match convRefs m cs rs (h.set r o') with
      | (some gs, h') => (some (g :: gs), h')
      | (none, h') => (none, h')
  | _, _, h => (none, h)

/-- a generated wrapper around `f`, called on references into a heap of argument objects:
    its outcome and the heap afterwards -/
def wrapObjs (m : BufRead) (sig : Sig) (f : GoFun) (refs : List Nat) (h : Objs) : Out × Objs :=
  if refs.length ≠ sig.args.length then (.argsErr, h)
  else match convRefs m sig.args refs h with
    | (none, h') => (.typeErr, h')
    | (some gs, h') => (callInner sig f gs, h')

/-- one use of argument objects: a wrapper, the Go function behind it, the objects it is given -/
structure Use where
  sig : Sig
  f : GoFun
  refs : List Nat

/-- a sequence of uses over the same objects: the outcome of every use, and the objects at the end -/
def runUses (m : BufRead) (h : Objs) : List Use → List Out × Objs
  | [] => ([], h)
  | u :: us =>
    let r := wrapObjs m u.sig u.f u.refs h
    let t := runUses m r.2 us
    (r.1 :: t.1, t.2)

/-- Spec: arguments are VALUES — every use, wherever it stands in the sequence, returns what the
    wrapper returns on the contents the objects had at the start, and the objects are untouched -/
def specUses (h : Objs) (us : List Use) : List Out × Objs :=
  (us.map fun u => wrap u.sig u.f (u.refs.map fun r => (h.get r).asVal), h)

end Risor.C19
