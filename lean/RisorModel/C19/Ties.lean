import RisorModel.C19.Model
import RisorModel.Generated.C19
import RisorModel.C19.Wide
import RisorModel.Generated.C19Wide
/-!
C19 ties: the wrapper inventory regenerated from `modules/strings/strings.go` and
`strings_gen.go` on this run (exported name, Go function called and the order in which the
parameters are passed on, argument converters, result constructor, the tests the exported
function makes on its parameters before the call) equals the hand-written
table `stringsSigs` that the theorems in `Props.lean` are stated over; and the type switches
of `object.AsBytes` / `object.AsString` regenerated from `object/typeconv.go` send every
argument object to the same kind of case (look / read as a stream / refuse) as the tables
`asBytesCases` / `asStringCases` of the model; and the inventory of the hand-written wrappers
of `modules/regexp` (regexp.go, regexp_object.go) regenerated on this run — per wrapper: name, Go
function, converters, order of the passed values, result constructor, optional argument and its
default, error result handed back as an error value, and the fact `Body.direct`: the body is
ONE call into package regexp on the converted arguments, its result put into the constructor,
and nothing else — equals the reviewed table `rxSigs`.
-/
namespace Risor.C19

theorem stringsSigs_tie : Risor.Generated.C19.stringsSigs = stringsSigs := rfl

/-- every wrapper of modules/regexp as it is in the source on this run is the wrapper of the
    reviewed table — in particular each body is the direct call (`Body.direct`): a second
    path to a result (a fast path, another library call, a branch on the pattern or on an
    argument) makes the regenerated entry `Body.other` and this tie fail. -/
theorem rxSigs_tie : Risor.Generated.C19.rxSigs = rxSigs := rfl

/-- the inventory of the hand-written wrappers of modules/base64, bytes, filepath, math and
    strconv as regenerated from the source on this run (go/ast + go/types; per wrapper: module,
    name, Go function by package path, converters in argument order, order of the passed values,
    result constructor, arity bounds, defaults of optional arguments, trailing constants of the
    call, error result as an error value, shape of the body) equals the reviewed table `wideSigs`
    that `C19_wide_agree` / `C19_wide_glue` / `C19_wide_no_panic` are stated over.  A wrapper that
    forwards to another Go function, swaps two arguments, drops or changes a converter, changes
    an arity bound, a default or a constant, or grows a second path to a result (its shape
    becomes `.other`) breaks this tie even if no test calls it. -/
theorem wideSigs_tie : Risor.Generated.C19Wide.wideSigs = wideSigs := rfl

/-- `object.AsBytes` as regenerated from object/typeconv.go on this run treats EVERY argument
    object — every value, every buffer, every file — the way the table `asBytesCases` does that
    the argument-object theorems of `Props.lean` are stated over: looked at, read as a stream,
    or refused.  (Stated on the case each object reaches, so the order of cases that cannot
    both match is free; a `*Buffer` reaching the `io.Reader` fallback is not.) -/
theorem asBytesCases_tie : ∀ o : Obj, caseOf Risor.Generated.C19.asBytesCases o = caseOf asBytesCases o := by
  intro o
  cases o with
  | val v => cases v <;> rfl
  | buffer b off => rfl
  | file d pos => rfl

/-- the same for `object.AsString` -/
theorem asStringCases_tie : ∀ o : Obj, caseOf Risor.Generated.C19.asStringCases o = caseOf asStringCases o := by
  intro o
  cases o with
  | val v => cases v <;> rfl
  | buffer b off => rfl
  | file d pos => rfl

end Risor.C19
