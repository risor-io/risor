import RisorModel.C01.StrLemmas
/-!
C01 — COMPILER CORRECTNESS for fragment F7 = STRINGS AND MAPS AS DATA (`inStr`, Str.lean), proved
for ALL programs of the fragment, ALL fuel, ALL operand stacks and ALL states (globals + heap).

The fragment: everything of F1 + F2 + F3 (FragProps.lean: scalar expressions with their errors —
string literals, `+` concatenation and the comparisons == != < <= > >= of two strings included —,
`&&` / `||`, unary operators, ternary, if / else-if / else, `:=`, assignments, `++`, statement
lists, the three `for` forms, break / continue in statement position, switch; range loops over an
int), top-level programs with global variables, PLUS
  * map literals `{k1: e1, …, kn: en}` with string-literal keys, any number of entries
    (`k1; e1; …; kn; en; BuildMap n`): the entries are evaluated in SOURCE ORDER, the value is a
    reference to a NEW object at the next free address;
  * index reads `m[k]` (`m; k; BinarySubscr`): a missing key is a raised error (class "index"),
    a key that is not a string the class "type", as is indexing a scalar;
  * item assignment `m[k] = e` (`e; m; k; StoreSubscr`) and `m[k] op= e` on the heap object;
  * values are REFERENCES: `b := a` copies the reference, a write through one is read through
    the other; map equality `==` / `!=` is deep (`Map.Equals`), a map is truthy when not empty;
  * membership `k in m` / `k not in m` (`k; m; Swap 1; ContainsOp 0` (+ `UnaryNot`)).
Not in the fragment: functions / calls (`len`), lists, sets, strings as containers, arithmetic /
ordered comparison of two maps, range over a map or a string (class "unsupported" on both sides).

The store / heap relation of the simulation is the IDENTITY, as in F6 (SeqProps.lean).

The code as it is: `vm.go`'s BuildMap pops the pairs from the top of the stack, so the LAST entry
is assigned first; of two entries with the same key the EARLIER one wins.  The models follow the
code (`buildMapObj`); the source-level rule (the later duplicate wins, as `Sem.mkMapItems`) is
`map_literal_later_wins_full`, refuted by `map_literal_later_wins_counterexample` and proved under
the guard `distinctKeys` as `map_literal_source_order`.  (Which entry order the REAL compiler emits
is C05's finding C05-map-literal-order: `compileMap` ranges over a Go map; `compStr` is the source
order, which the harness obtains from the real compiler by recompiling.)

What ties the three definitions to the Go code is checked by correspondence on every run
(harness/c01str.go): `compStr` = real bytecode = `Compile.lean`; `evalStr` = `Sem.lean` = real
result (deep value and final globals); `runStr ∘ compStr` = `VM.lean` = real result.
-/
namespace Risor.C01.Str
open Risor.C01
open Risor.C01.Frag (isNilL leaves isBlock isElse isL isInit isPost opOK postName isDefault countDefault
  dfltBody assignK nodup preLen)

/-- **Simulation, at full strength** (the generalisation of `frag_simulation` over the heap).  For
    every well-formed node `n`, every enclosing code in which the code of `n` sits at offset `pc` —
    compiled for an enclosing loop whose `break` target lies `kb` and whose `continue` target lies
    `kc` slots after the end of `n`, that loop being a range loop iff `rng` —, every operand stack
    `stk`, every state `σ` (globals and heap) and every fuel: if the reference semantics gives `r`
    with final state `σ'` then the machine, from `(pc, stk, σ)`,
    * `r = val v`  — runs to `(pc + size n, v :: stk, σ')` (and `n` is not a unit statement);
    * `r = unit`   — runs to `(pc + size n, stk, σ')` (and `n` is a unit statement);
    * `r = brk`    — runs to the loop's break target with the stack `stk` it started with, or,
      when the loop is a range loop, with `stk` WITHOUT ITS TOP (the iterator, which the `break`
      pops): for every `out` with `BrkStk rng stk out`;
    * `r = cont`   — runs to the loop's continue target with `stk` (iterator included);
    * `r = err c`  — reaches a configuration with state `σ'` whose next step raises class `c`;
    * `r = oof`    — nothing is claimed.
    The final state of the machine IS the final state of the semantics (same heap). -/
theorem str_simulation (code : Code) (f : Nat) (n : N) (hwf : wf n = true) (kb kc : Nat) (rng : Bool)
    (pc : Nat) (stk : List SVal) (σ : St) (r : Out) (σ' : St)
    (hat : CodeAt code pc (comp kb kc rng n)) (he : ev f n σ = (r, σ')) :
    (match r with
     | .val v => isUnitNode n = false ∧ Steps code ⟨pc, stk, σ⟩ ⟨pc + size rng n, v :: stk, σ'⟩
     | .unit => isUnitNode n = true ∧ Steps code ⟨pc, stk, σ⟩ ⟨pc + size rng n, stk, σ'⟩
     | .brk => escapes n = true ∧
        ∀ out, BrkStk rng stk out → Steps code ⟨pc, stk, σ⟩ ⟨pc + size rng n + kb, out, σ'⟩
     | .cont => escapes n = true ∧ Steps code ⟨pc, stk, σ⟩ ⟨pc + size rng n + kc, stk, σ'⟩
     | .err c => ∃ c1, Steps code ⟨pc, stk, σ⟩ c1 ∧ c1.σ = σ' ∧ step code c1 = .error (.err c)
     | .oof => True) := by
  have P := ev_sim code f n hwf kb kc rng pc stk σ r σ' hat he
  cases r with
  | val v => exact ⟨P.1, P.2⟩
  | unit => exact ⟨P.1, P.2⟩
  | brk => exact ⟨P.1, P.2⟩
  | cont => exact ⟨P.1, P.2⟩
  | err c => exact P.2
  | oof => trivial

theorem str_code_length (n : N) (kb kc : Nat) (rng : Bool) : (comp kb kc rng n).length = size rng n :=
  comp_length n kb kc rng

/-- **Compiler correctness for the fragment** (the property C01 on `inStr`): for every program `p`
    of the fragment and every fuel, if the reference semantics ends (anything but out-of-fuel)
    then it ends with a value or an error — never with a stray break/continue — and there is a
    fuel for which the machine, run on the compiled code from the empty stack and the empty
    state, halts with the SAME value (the same scalar / the same map address), resp. the SAME
    error class, and the SAME final state: the same globals and the same heap. -/
theorem str_compile_correct (p : N) (hp : inStr p = true) (fuel : Nat) (r : Out) (σ' : St)
    (he : evalStr fuel p = (r, σ')) (hr : r ≠ .oof) :
    (∃ v, r = .val v ∧ ∃ fuel', runStr fuel' (compStr p) = (.done v, σ')) ∨
    (∃ c, r = .err c ∧ ∃ fuel', runStr fuel' (compStr p) = (.err c, σ')) := by
  have hwf : wf p = true ∧ isUnitNode p = false ∧ escapes p = false := by
    cases p with
    | prog s =>
      change (_ && _) = true at hp
      have hw := (Bool.and_eq_true_iff.1 hp).1
      refine ⟨hw, rfl, ?_⟩
      change (_ && _) = true at hw
      simp only [Bool.and_eq_true, Bool.not_eq_true'] at hw
      exact hw.1.2
    | _ => cases hp
  have P := ev_sim (compStr p) fuel p hwf.1 0 0 false 0 [] St.empty r σ' (CodeAt.self _) he
  cases r with
  | oof => exact absurd rfl hr
  | unit => exact (P.not_unit hwf.2.1).elim
  | brk => exact (P.not_brk hwf.2.2).elim
  | cont => exact (P.not_cont hwf.2.2).elim
  | val v =>
    obtain ⟨n, hn⟩ := run_of_steps P.val_steps
    refine .inl ⟨v, rfl, n + 1, ?_⟩
    show run (compStr p) (n + 1) ⟨0, [], St.empty⟩ = _
    have hs : step (compStr p) ⟨0 + size false p, [v], σ'⟩ = .error (.done v) :=
      if_pos (by rw [compStr, comp_length]; exact Nat.le_add_left _ _)
    rw [hn 1, run, hs]
  | err c =>
    obtain ⟨c1, hs, hσ, hst⟩ := P.2
    obtain ⟨n, hn⟩ := run_of_steps hs
    refine .inr ⟨c, rfl, n + 1, ?_⟩
    show run (compStr p) (n + 1) ⟨0, [], St.empty⟩ = _
    rw [hn 1, run, hst, hσ]

theorem str_compile_correct_toRun (p : N) (hp : inStr p = true) (fuel : Nat) (r : Out) (σ' : St)
    (he : evalStr fuel p = (r, σ')) (hr : r ≠ .oof) :
    ∃ fuel', runStr fuel' (compStr p) = (r.toRun, σ') := by
  rcases str_compile_correct p hp fuel r σ' he hr with ⟨v, rfl, k, hk⟩ | ⟨c, rfl, k, hk⟩
  · exact ⟨k, hk⟩
  · exact ⟨k, hk⟩

/-- the outcome found by `str_compile_correct` is THE outcome of the machine: every larger fuel
    gives the same halted result -/
theorem str_run_stable (code : Code) (k j : Nat) (res : RunRes) (σ : St)
    (h : runStr k code = (res, σ)) (hr : res ≠ .running) : runStr (k + j) code = (res, σ) := by
  induction j with
  | zero => exact h
  | succ j ih => exact run_mono (k + j) _ res σ ih hr

/-- **An expression pushes exactly one value**: any node that is not a unit statement (an
    expression — a map literal, an index read, a membership test included —, an expression statement, a block, a
    statement list), compiled anywhere, started on any operand stack `stk` in any state: when the
    reference semantics gives the value `v`, the machine ends exactly at the end of the node's
    code with `v` pushed on an otherwise untouched `stk` and the semantics' final state. -/
theorem str_expr_pushes_one (code : Code) (f : Nat) (n : N) (hwf : wf n = true) (kb kc : Nat) (rng : Bool)
    (pc : Nat) (stk : List SVal) (σ σ' : St) (v : SVal)
    (hat : CodeAt code pc (comp kb kc rng n)) (he : ev f n σ = (.val v, σ')) :
    Steps code ⟨pc, stk, σ⟩ ⟨pc + (comp kb kc rng n).length, v :: stk, σ'⟩ := by
  rw [comp_length]
  exact (ev_sim code f n hwf kb kc rng pc stk σ _ σ' hat he).val_steps

/-- what `compileStmts` emits for a statement that is not the last of its list -/
def stmtCode (kb kc : Nat) (rng : Bool) (h : N) : Code :=
  pre h ++ comp (kb + (if leaves h then 1 else 0)) (kc + (if leaves h then 1 else 0)) rng h
    ++ (if leaves h then one .popTop else [])

/-- **Statements are stack-neutral** (C04's property, for the fragment).  Every statement of the
    fragment (`:=`, assignments, item assignments, `++`, expression statements, `break`,
    `continue`, the three `for` forms and the RANGE LOOPS — with arbitrarily nested bodies),
    compiled anywhere as `compileStmts` compiles a statement, started on any operand stack `stk`:
    however it ends — completing (with `unit` or with a value), or leaving through a `continue` —
    the operand stack is exactly `stk` again; a `break` leaves `stk`, minus the iterator on its
    top when the enclosing loop is a range loop.  In particular a range loop statement leaves
    the stack as it found it (its iterator slot is gone) on normal exit and on its own breaks. -/
theorem str_stmt_neutral (code : Code) (f : Nat) (h : N) (hwf : wf h = true) (hs : isS h = true)
    (kb kc : Nat) (rng : Bool) (pc : Nat) (stk : List SVal) (σ σ' : St) (r : Out)
    (hat : CodeAt code pc (stmtCode kb kc rng h)) (he : ev f h σ = (r, σ')) :
    (match r with
     | .val _ => Steps code ⟨pc, stk, σ⟩ ⟨pc + (stmtCode kb kc rng h).length, stk, σ'⟩
     | .unit => Steps code ⟨pc, stk, σ⟩ ⟨pc + (stmtCode kb kc rng h).length, stk, σ'⟩
     | .brk => ∀ out, BrkStk rng stk out →
        Steps code ⟨pc, stk, σ⟩ ⟨pc + (stmtCode kb kc rng h).length + kb, out, σ'⟩
     | .cont => Steps code ⟨pc, stk, σ⟩ ⟨pc + (stmtCode kb kc rng h).length + kc, stk, σ'⟩
     | _ => True) := by
  unfold stmtCode at hat ⊢
  simp only [CodeAt.append, List.length_append, pre_length, comp_length, ← Nat.add_assoc] at hat ⊢
  obtain ⟨⟨hatp, hath⟩, htail⟩ := hat
  have hpre := pre_steps h pc stk σ hatp
  simp only [isS, Bool.or_eq_true] at hs
  cases hl : leaves h with
  | false =>
    simp only [hl, Bool.false_eq_true, ↓reduceIte, Nat.add_zero, List.length_nil] at hath ⊢
    have P := ev_sim code f h hwf kb kc rng _ stk σ r σ' hath he
    cases r with
    | val v => exact (P.not_val (hs.resolve_right (by simp [hl]))).elim
    | unit => exact hpre.trans P.unit_steps
    | brk => exact fun out ho => hpre.trans (P.2 out ho)
    | cont => exact hpre.trans P.2
    | _ => trivial
  | true =>
    simp only [hl, ↓reduceIte, one_length] at hath htail ⊢
    have P := ev_sim code f h hwf (kb + 1) (kc + 1) rng _ stk σ r σ' hath he
    cases r with
    | val v => exact (hpre.trans P.val_steps).pop htail
    | unit => exact absurd (unit_not_leaves P.1) (by simp [hl])
    | brk => exact fun out ho => (hpre.trans (P.2 out ho)).cast (by omega)
    | cont => exact (hpre.trans P.2).cast (by omega)
    | _ => trivial

/-- **The iterator slot of a range loop.**  The body block `b` of a range loop runs with the
    iterator `it` on top of the loop's stack `stk`, compiled with the loop's targets (`break` 3
    slots, `continue` 1 slot after the body: the exit / the backward jump).  Whatever the body
    does: a completed round ends with `v :: it :: stk` (the `PopTop` after the body then leaves
    `it :: stk`), a `continue` arrives at the backward jump with `it :: stk` (iterator kept), a
    `break` arrives at the loop's exit with `stk` (iterator popped: the stack the loop found). -/
theorem range_body_discipline (code : Code) (f : Nat) (b : N) (hwf : wf b = true) (hb : isBlock b = true)
    (pc : Nat) (it : SVal) (stk : List SVal) (σ σ' : St) (r : Out)
    (hat : CodeAt code pc (comp 3 1 true b)) (he : ev f b σ = (r, σ')) :
    (match r with
     | .val v => Steps code ⟨pc, it :: stk, σ⟩ ⟨pc + size true b, v :: it :: stk, σ'⟩
     | .cont => Steps code ⟨pc, it :: stk, σ⟩ ⟨pc + size true b + 1, it :: stk, σ'⟩
     | .brk => Steps code ⟨pc, it :: stk, σ⟩ ⟨pc + size true b + 3, stk, σ'⟩
     | .unit => False
     | _ => True) := by
  have P := ev_sim code f b hwf 3 1 true pc (it :: stk) σ r σ' hat he
  cases r with
  | val v => exact P.2
  | cont => exact P.2
  | brk => exact P.2 stk ⟨it, rfl⟩
  | unit => exact P.not_unit (isBlock_not_unit hb)
  | err c => trivial
  | oof => trivial

/-! ### identity: aliasing -/

/-- **A write through one reference is read through every other reference to the same map**
    (`map_alias_write_visible`).  Two references to a map are the same value `ref a` wherever they
    are kept (two variables after `b := a`, a value inside another map, an operand-stack slot).  In
    any state in which the object `a` is allocated: after the item assignment `r[k] = nv` through
    one of them, reading `r'[k]` through any other one gives `nv`, `k in r'` is true, and every
    OTHER key reads as before.  (`StoreSubscr` / `BinarySubscr` / `ContainsOp` of the machine are
    `setItemS` / `getItemS` / `containsS` on the same state: `map_alias_write_visible_vm`.) -/
theorem map_alias_write_visible (σ σ' : St) (a : Nat) (r r' : SVal) (k : String) (nv : SVal)
    (hr : r = .ref a) (hr' : r' = .ref a) (ha : a < σ.h.length)
    (h : setItemS σ r (.str k) nv = .ok σ') :
    getItemS σ' r' (.str k) = .ok nv ∧ containsS σ' r' (.str k) = .ok (.bool true) ∧
      ∀ k', k' ≠ k → getItemS σ' r' (.str k') = getItemS σ r' (.str k') := by
  subst hr hr'
  simp only [setItemS] at h
  cases h
  refine ⟨?_, ?_, ?_⟩
  · simp [getItemS, items_write_same _ _ _ ha, mapGet_mapSet]
  · simp [containsS, items_write_same _ _ _ ha, mapGet_mapSet]
  · intro k' hk
    simp [getItemS, items_write_same _ _ _ ha, mapGet_mapSet, hk]

/-- the same for two VARIABLES naming one map (`b := a; b[k] = nv; a[k]`): the write does not touch
    the globals, so `y` still holds the reference and reads the new value -/
theorem map_alias_write_visible_vars (σ σ' : St) (x y : String) (a : Nat) (k : String) (nv : SVal)
    (hx : σ.get x = .ref a) (hy : σ.get y = .ref a) (ha : a < σ.h.length)
    (h : setItemS σ (σ.get x) (.str k) nv = .ok σ') :
    σ'.get y = .ref a ∧ getItemS σ' (σ'.get y) (.str k) = .ok nv := by
  rw [hx] at h
  have hg : σ'.get y = .ref a := by
    simp only [setItemS] at h
    cases h
    simpa [St.get, St.write] using hy
  refine ⟨hg, ?_⟩
  rw [hg]
  exact (map_alias_write_visible σ σ' a (.ref a) (.ref a) k nv rfl rfl ha h).1

/-- the machine's side: `StoreSubscr` through one reference, then `BinarySubscr` through another
    reference to the same object with the same key, pushes the stored value -/
theorem map_alias_write_visible_vm (σ : St) (a : Nat) (k : String) (nv : SVal) (pc : Nat) (s : List SVal) (c1 : Cfg)
    (ha : a < σ.h.length)
    (h : execIns .storeSubscr ⟨pc, .str k :: .ref a :: nv :: s, σ⟩ = .ok c1) (pc' : Nat) (s' : List SVal) :
    execIns .binarySubscr ⟨pc', .str k :: .ref a :: s', c1.σ⟩ = .ok ⟨pc' + 1, nv :: s', c1.σ⟩ := by
  cases h
  have hg := (map_alias_write_visible σ _ a (.ref a) (.ref a) k nv rfl rfl ha rfl).1
  unfold execIns
  dsimp only
  rw [hg]

/-- a write to one object is not visible in any other object -/
theorem map_write_other_untouched (σ σ' : St) (a b : Nat) (i nv : SVal) (hab : b ≠ a)
    (h : setItemS σ (.ref a) i nv = .ok σ') : σ'.items b = σ.items b := by
  cases i <;> simp only [setItemS] at h <;> cases h
  exact items_write_other σ a b _ hab

/-! ### map literals: source order -/

/-- the entry list of a literal `{k1: e1, …}` as the parser's node: key, value, key, value, … -/
def entriesN : List (String × N) → N
  | [] => .nilL
  | (k, e) :: r => .cons (.str k) (.cons e (entriesN r))

/-- the SOURCE-LEVEL rule for the entries: the value expressions are evaluated LEFT TO RIGHT, each
    in the state its predecessor left; the first one that does not give a value ends the literal -/
def evEntries (rec : N → St → Out × St) : List (String × N) → St → Except Out (List (String × SVal)) × St
  | [], σ => (.ok [], σ)
  | (k, e) :: r, σ =>
    match rec e σ with
    | (.val v, σ1) =>
      (match evEntries rec r σ1 with
      | (.ok ps, σ2) => (.ok ((k, v) :: ps), σ2)
      | other => other)
    | (o, σ1) => (.error o, σ1)

/-- key, value, key, value, … -/
def flat : List (String × SVal) → List SVal
  | [] => []
  | (k, v) :: r => .str k :: v :: flat r

/-- the source-level rule for duplicates: the LATER entry wins -/
def lastLookup : List (String × SVal) → String → Option SVal
  | [], _ => none
  | (k0, v0) :: r, k =>
    match lastLookup r k with
    | some v => some v
    | none => if k == k0 then some v0 else none

/-- the guard: the keys of the literal are pairwise different -/
def distinctKeys (l : List (String × N)) : Bool := nodup (l.map (·.1))

theorem pairsOf_flat (ps : List (String × SVal)) : pairsOf (flat ps) = some ps := by
  induction ps with
  | nil => rfl
  | cons e r ih => obtain ⟨k, v⟩ := e; simp [flat, pairsOf, ih]

/-- the model's item evaluation of a literal's entry list IS the left-to-right rule `evEntries`
    (for every `rec` that evaluates a string literal to itself, as `ev (f + 1)` does) -/
theorem evItems_entries (rec : N → St → Out × St) (hk : ∀ k σ, rec (.str k) σ = (.val (.str k), σ)) :
    ∀ (l : List (String × N)) (σ : St),
      evItems rec (entriesN l) σ =
        (match evEntries rec l σ with
         | (.ok ps, σ') => (.ok (flat ps), σ')
         | (.error o, σ') => (.error o, σ')) := by
  intro l
  induction l with
  | nil => intro σ; rfl
  | cons e r ih =>
    intro σ
    obtain ⟨k, x⟩ := e
    simp only [entriesN, evItems, hk, evEntries]
    rcases hx : rec x σ with ⟨o, σ1⟩
    cases o with
    | val v =>
      simp only
      rw [ih σ1]
      rcases hr : evEntries rec r σ1 with ⟨rr, σ2⟩
      cases rr <;> rfl
    | unit => rfl
    | brk => rfl
    | cont => rfl
    | err c => rfl
    | oof => rfl

theorem evEntries_keys (rec : N → St → Out × St) :
    ∀ (l : List (String × N)) (σ σ' : St) (ps : List (String × SVal)),
      evEntries rec l σ = (.ok ps, σ') → ps.map (·.1) = l.map (·.1) := by
  intro l
  induction l with
  | nil => intro σ σ' ps h; simp only [evEntries] at h; cases h; rfl
  | cons e r ih =>
    intro σ σ' ps h
    obtain ⟨k, x⟩ := e
    simp only [evEntries] at h
    rcases hx : rec x σ with ⟨o, σ1⟩
    rw [hx] at h
    cases o with
    | val v =>
      simp only at h
      rcases hr : evEntries rec r σ1 with ⟨rr, σ2⟩
      rw [hr] at h
      cases rr with
      | ok qs => simp only at h; cases h; simp [ih _ _ qs hr]
      | error o => simp only at h; cases h
    | unit => cases h
    | brk => cases h
    | cont => cases h
    | err c => cases h
    | oof => cases h

theorem lastLookup_none (ps : List (String × SVal)) (k : String) (h : (ps.map (·.1)).contains k = false) :
    lastLookup ps k = none := by
  induction ps with
  | nil => rfl
  | cons e r ih =>
    obtain ⟨k0, v0⟩ := e
    simp only [List.map_cons, List.contains_cons, Bool.or_eq_false_iff] at h
    simp [lastLookup, ih h.2, h.1]

/-- with pairwise different keys the first and the last entry of a key are the same entry -/
theorem lastLookup_eq_lookup (ps : List (String × SVal)) (k : String) (h : nodup (ps.map (·.1)) = true) :
    lastLookup ps k = ps.lookup k := by
  induction ps with
  | nil => rfl
  | cons e r ih =>
    obtain ⟨k0, v0⟩ := e
    simp only [List.map_cons, nodup, Bool.and_eq_true, Bool.not_eq_true'] at h
    rw [List.lookup_cons]
    by_cases hk : k = k0
    · subst hk
      simp [lastLookup, lastLookup_none r k h.1]
    · have hb : (k == k0) = false := by simpa using hk
      simp [lastLookup, hb, ih h.2]
      cases List.lookup k r <;> rfl

/-- **The value of a map literal** (the code as it is).  For every fuel, entry list and state: the
    literal's value expressions are evaluated LEFT TO RIGHT in source order (`evEntries`: each in
    the state its predecessor left, the first failure is the literal's outcome); when all give
    values the result is a reference to a NEW object at the next free address of the state they
    left, the globals and the other objects are untouched, and the object maps every key to the
    value of the FIRST entry with that key (`List.lookup`), as `vm.go`'s BuildMap makes it. -/
theorem map_literal_first_wins (f : Nat) (l : List (String × N)) (σ : St) :
    ev (f + 2) (.map (entriesN l)) σ =
      (match evEntries (ev (f + 1)) l σ with
       | (.ok ps, σ1) => (.val (.ref σ1.h.length), { σ1 with h := σ1.h ++ [buildMapObj ps] })
       | (.error o, σ1) => (o, σ1)) ∧
    ∀ ps σ1, evEntries (ev (f + 1)) l σ = (.ok ps, σ1) →
      ∀ k, mapGet (({ σ1 with h := σ1.h ++ [buildMapObj ps] } : St).items σ1.h.length) k = ps.lookup k := by
  constructor
  · show evNode (f + 1) (ev (f + 1)) (.map (entriesN l)) σ = _
    simp only [evNode]
    rw [evItems_entries (ev (f + 1)) (by intro k σ; rfl) l σ]
    rcases hr : evEntries (ev (f + 1)) l σ with ⟨rr, σ1⟩
    cases rr with
    | ok ps => simp only [pairsOf_flat]; rfl
    | error o => rfl
  · intro ps σ1 _ k
    simp [St.items, List.getD, mapGet_buildMapObj]

/-- the full source-level statement: entries left to right, and of two entries with one key the
    LATER one wins (`Sem.mkMapItems`) -/
def map_literal_later_wins_full : Prop :=
  ∀ (f : Nat) (l : List (String × N)) (σ : St) (ps : List (String × SVal)) (σ1 : St),
    evEntries (ev (f + 1)) l σ = (.ok ps, σ1) →
    ∃ σ', ev (f + 2) (.map (entriesN l)) σ = (.val (.ref σ1.h.length), σ') ∧ σ'.g = σ1.g ∧
      (∀ b, b < σ1.h.length → σ'.items b = σ1.items b) ∧
      ∀ k, mapGet (σ'.items σ1.h.length) k = lastLookup ps k

/-- **`map_literal_source_order`** (the partial statement, guard `distinctKeys`): for every fuel,
    state and entry list with pairwise different keys, the value expressions are evaluated left to
    right in source order, the literal's value is a reference to a new object, nothing else
    changes, and the object maps every key to the value of its entry (first = last). -/
theorem map_literal_source_order (f : Nat) (l : List (String × N)) (hd : distinctKeys l = true) (σ : St)
    (ps : List (String × SVal)) (σ1 : St) (h : evEntries (ev (f + 1)) l σ = (.ok ps, σ1)) :
    ∃ σ', ev (f + 2) (.map (entriesN l)) σ = (.val (.ref σ1.h.length), σ') ∧ σ'.g = σ1.g ∧
      (∀ b, b < σ1.h.length → σ'.items b = σ1.items b) ∧
      ∀ k, mapGet (σ'.items σ1.h.length) k = lastLookup ps k := by
  obtain ⟨h1, h2⟩ := map_literal_first_wins f l σ
  rw [h] at h1
  refine ⟨_, h1, rfl, ?_, ?_⟩
  · intro b hb
    simp [St.items, List.getD, List.getElem?_append_left hb]
  · intro k
    rw [h2 ps σ1 h k, lastLookup_eq_lookup]
    rw [evEntries_keys _ l σ σ1 ps h]
    exact hd

/-- `{"a": 1, "a": 2}`: the code keeps 1 (the pair on top of the stack is assigned first), the
    source-level rule says 2 -/
theorem map_literal_later_wins_counterexample : ¬ map_literal_later_wins_full := by
  intro h
  obtain ⟨σ', he, _, _, hk⟩ := h 0 [("a", .int 1), ("a", .int 2)] St.empty [("a", .int 1), ("a", .int 2)] St.empty (by rfl)
  have e : ev 2 (.map (entriesN [("a", .int 1), ("a", .int 2)])) St.empty
      = (.val (.ref 0), ⟨[], [[("a", .int 1)]]⟩) := by decide +kernel
  rw [e] at he
  cases he
  have := hk "a"
  revert this
  decide +kernel

/-- the compiled side: the code of the entries is key constant, value code, in SOURCE ORDER -/
theorem map_literal_code_order (rng : Bool) (k : String) (e : N) (r : List (String × N)) :
    compItems rng (entriesN ((k, e) :: r)) = two (.constStr k) ++ (comp 0 0 rng e ++ compItems rng (entriesN r)) := by
  rfl

/-! ### non-vacuity: both sides evaluated -/

def L : List N → N := N.ofList

/-- `a := {"x": 1}; b := a; b["y"] = 2; a["y"] + a["x"]` -/
def exAlias : N :=
  .prog (L [.var "a" (.map (entriesN [("x", .int 1)])), .var "b" (.id "a"),
    .setitem .set (.id "b") (.str "y") (.int 2), .expr (.infix .add (.index (.id "a") (.str "y")) (.index (.id "a") (.str "x")))])

/-- strings: `s := "ab" + "c"; if s < "abd" { s + "!" } else { "no" }` -/
def exStr : N :=
  .prog (L [.var "s" (.infix .add (.str "ab") (.str "c")),
    .expr (.if_ (.infix .lt (.id "s") (.str "abd")) (.block (L [.expr (.infix .add (.id "s") (.str "!"))]))
      (.block (L [.expr (.str "no")])))])

/-- a missing key is a raised error -/
def exMissing : N := .prog (L [.var "m" (.map (entriesN [("x", .int 1), ("y", .int 2)])), .expr (.index (.id "m") (.str "z"))])

/-- membership and a counting loop writing keys: `m := {}; for i := 0; i < 3; i++ { m["k"] = i }; "k" in m && !("z" in m)` -/
def exLoop : N :=
  .prog (L [.var "m" (.map (entriesN [])),
    .for3 (.var "i" (.int 0)) (.infix .lt (.id "i") (.int 3)) (.postfix "i" true)
      (.block (L [.setitem .set (.id "m") (.str "k") (.id "i")])),
    .expr (.infix .and (.in_ (.str "k") (.id "m")) (.notin (.str "z") (.id "m")))])

/-- a duplicated key: the earlier entry wins (the code as it is) -/
def exDup : N := .prog (L [.expr (.index (.map (entriesN [("a", .int 1), ("a", .int 2)])) (.str "a"))])

/-- a key that is not a string literal: outside the fragment -/
def exBadKey : N := .prog (L [.expr (.map (.cons (.int 1) (.cons (.int 2) .nilL)))])

example : inStr exAlias = true := by decide +kernel
example : (evalStr 30 exAlias).1 = .val (.int 3) := by decide +kernel
example : (runStr 300 (compStr exAlias)) = (.done (.int 3), (evalStr 30 exAlias).2) := by decide +kernel
example : ((evalStr 30 exAlias).2.get "a", (evalStr 30 exAlias).2.get "b", (evalStr 30 exAlias).2.h)
    = (.ref 0, .ref 0, [[("x", .int 1), ("y", .int 2)]]) := by decide +kernel
example : inStr exStr = true := by decide +kernel
example : (evalStr 30 exStr).1 = .val (.str "abc!") := by decide +kernel
example : (runStr 300 (compStr exStr)) = (.done (.str "abc!"), (evalStr 30 exStr).2) := by decide +kernel
example : inStr exMissing = true := by decide +kernel
example : (evalStr 30 exMissing).1 = .err "index" := by decide +kernel
example : (runStr 300 (compStr exMissing)) = (.err "index", (evalStr 30 exMissing).2) := by decide +kernel
example : inStr exLoop = true := by decide +kernel
example : (evalStr 30 exLoop).1 = .val (.bool true) := by decide +kernel
example : (runStr 900 (compStr exLoop)) = (.done (.bool true), (evalStr 30 exLoop).2) := by decide +kernel
example : (evalStr 30 exLoop).2.h = [[("k", .int 2)]] := by decide +kernel
example : inStr exDup = true := by decide +kernel
example : (evalStr 30 exDup).1 = .val (.int 1) := by decide +kernel
example : (runStr 300 (compStr exDup)).1 = .done (.int 1) := by decide +kernel
example : inStr exBadKey = false := by decide +kernel
example : distinctKeys [("x", .int 1), ("y", .int 2)] = true := by decide +kernel
example : evEntries (ev 1) [("x", .int 1), ("y", .int 2)] St.empty = (.ok [("x", .int 1), ("y", .int 2)], St.empty) := by rfl
example : ∃ σ', setItemS ⟨[], [[("x", .int 1)]]⟩ (.ref 0) (.str "y") (.int 2) = .ok σ' := ⟨_, rfl⟩

end Risor.C01.Str
