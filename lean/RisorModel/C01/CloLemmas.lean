import RisorModel.C01.Clo
/-!
C01 closure fragment — the lemmas behind `CloProps.lean`: multi-step execution of the machine with call
frames and cells of `Clo.lean`, `CodeAt`, one simulation lemma per construct, the generic loop lemma, and the
lemmas for calls, `return`, function literals and function bodies.

`World` = what stays fixed while one activation runs a node: the program, the running code
object and the stack of suspended callers.  `Steps W a b` = the MACHINE goes from activation
state `a` to activation state `b` in the same world; in between it may have entered and left
any number of callee activations.  Core Lean only.
-/
namespace Risor.C01.Clo
open Risor.C01
open Risor.C01.Frag (isNilL opOK postName isDefault countDefault dfltBody assignK)

/-! ### the machine, multi-step -/

structure World where
  P : Prog
  fn : Option FnId
  fs : List Frame

/-- the code object the activation runs -/
def World.code (W : World) : Code := W.P.codeOf W.fn

/-- the machine state in which the activation is in state `c` -/
def World.at (W : World) (c : Cfg) : M := { cfg := c, fn := W.fn, frames := W.fs }

inductive MSteps (P : Prog) : M → M → Prop where
  | refl (m : M) : MSteps P m m
  | cons {a b c : M} : mstep P a = .ok b → MSteps P b c → MSteps P a c

theorem MSteps.trans {P : Prog} {a b c : M} (h1 : MSteps P a b) (h2 : MSteps P b c) : MSteps P a c := by
  induction h1 with
  | refl => exact h2
  | cons hs _ ih => exact .cons hs (ih h2)

theorem MSteps.one {P : Prog} {a b : M} (h : mstep P a = .ok b) : MSteps P a b := .cons h (.refl _)

def Steps (W : World) (a b : Cfg) : Prop := MSteps W.P (W.at a) (W.at b)

/-- an instruction of the activation itself is a step of the machine -/
theorem mstep_of_step {W : World} {a b : Cfg} (h : step W.code a = .ok b) : mstep W.P (W.at a) = .ok (W.at b) := by
  unfold mstep
  simp only [World.at]
  have hc : W.P.codeOf W.fn = W.code := rfl
  rw [hc]
  unfold step at h
  split at h
  · cases h
  · split
    · rename_i n hn; rw [hn] at h; simp [execIns] at h
    · rename_i hn; rw [hn] at h; simp [execIns] at h
    · rename_i h1 h2
      have : step W.code a = .ok b := by
        unfold step; rw [if_neg (by assumption)]; exact h
      rw [this]

/-- an error raised by an instruction of the activation itself is an error of the machine -/
theorem mstep_of_step_err {W : World} {a : Cfg} {c : String} (h : step W.code a = .error (.err c)) :
    mstep W.P (W.at a) = .error (.err c) := by
  unfold mstep
  simp only [World.at]
  have hc : W.P.codeOf W.fn = W.code := rfl
  rw [hc]
  have h0 := h
  unfold step at h
  split at h
  · cases h
  · split
    · rename_i n hn; rw [hn] at h; simp [execIns] at h
    · rename_i hn; rw [hn] at h; simp [execIns] at h
    · rw [h0]

theorem Steps.refl {W : World} (c : Cfg) : Steps W c c := MSteps.refl _

theorem Steps.trans {W : World} {a b c : Cfg} (h1 : Steps W a b) (h2 : Steps W b c) : Steps W a c :=
  MSteps.trans h1 h2

theorem Steps.one {W : World} {a b : Cfg} (h : step W.code a = .ok b) : Steps W a b :=
  MSteps.one (mstep_of_step h)

theorem Steps.snoc {W : World} {a b c : Cfg} (h1 : Steps W a b) (h : step W.code b = .ok c) : Steps W a c :=
  h1.trans (.one h)

theorem Steps.cast {W : World} {a : Cfg} {p q : Nat} {s : List V} {σ : Env}
    (h : Steps W a ⟨p, s, σ⟩) (e : p = q) : Steps W a ⟨q, s, σ⟩ := e ▸ h

theorem Steps.castL {W : World} {b : Cfg} {p q : Nat} {s : List V} {σ : Env}
    (h : Steps W ⟨p, s, σ⟩ b) (e : p = q) : Steps W ⟨q, s, σ⟩ b := e ▸ h

/-- where an abrupt completion ends, for globals `G`: an error `cls c` — a machine state with
    globals `G` whose next step raises the class `c`; a `return v` — the caller of the activation
    resumed after its `Call` with `v` pushed on the operand stack it had below the call, ITS locals,
    the remaining suspended frames untouched, and globals `G` (with no caller: the machine halts
    with `v`) -/
def Final (W : World) (x : Exc) (G : Sh) (m1 : M) : Prop :=
  match x with
  | .cls c => m1.cfg.σ.sh = G ∧ mstep W.P m1 = .error (.err c)
  | .ret v =>
    match W.fs with
    | fr :: fs' => m1 = { cfg := ⟨fr.pc, v :: fr.stk, ⟨fr.act, G⟩⟩, fn := fr.fn, frames := fs' }
    | [] => m1.cfg.σ.sh = G ∧ mstep W.P m1 = .error (.done v)

/-- the run from `c0` completes abruptly with `x` and final globals `σ'.sh` -/
def Fails (W : World) (c0 : Cfg) (x : Exc) (σ' : Env) : Prop :=
  ∃ m1, MSteps W.P (W.at c0) m1 ∧ Final W x σ'.sh m1

theorem Fails.pre {W : World} {a b : Cfg} {x : Exc} {σ' : Env}
    (h : Steps W a b) (f : Fails W b x σ') : Fails W a x σ' := by
  obtain ⟨m1, h1, h2⟩ := f
  exact ⟨m1, MSteps.trans h h1, h2⟩

/-- an instruction of the activation raises an error -/
theorem Fails.of_step {W : World} {c0 c1 : Cfg} {c : String}
    (hpre : Steps W c0 c1) (h : step W.code c1 = .error (.err c)) : Fails W c0 (.cls c) c1.σ :=
  ⟨W.at c1, hpre, rfl, mstep_of_step_err h⟩

variable {ls : Sc}

/-- outcome `r` with final store `σ'` is realised from `c0`: a value lands at `pcE` on top of
    `stk`, unit lands at `pcE` with `stk` itself, `break` / `continue` land on the enclosing
    loop's targets (`kb` / `kc` slots after `pcE`) with `stk` itself, an error is raised by the
    VM with the same class; nothing is claimed for out-of-fuel -/
def Lands (W : World) (c0 : Cfg) (pcE kb kc : Nat) (stk : List V) (r : Out) (σ' : Env) : Prop :=
  match r with
  | .val v => Steps W c0 ⟨pcE, v :: stk, σ'⟩
  | .unit => Steps W c0 ⟨pcE, stk, σ'⟩
  | .brk => Steps W c0 ⟨pcE + kb, stk, σ'⟩
  | .cont => Steps W c0 ⟨pcE + kc, stk, σ'⟩
  | .err c => Fails W c0 c σ'
  | .oof => True

theorem Lands.pre {W : World} {a b : Cfg} {pcE kb kc : Nat} {stk : List V} {r : Out} {σ' : Env}
    (h : Steps W a b) (l : Lands W b pcE kb kc stk r σ') : Lands W a pcE kb kc stk r σ' := by
  cases r with
  | val v => exact h.trans l
  | unit => exact h.trans l
  | brk => exact h.trans l
  | cont => exact h.trans l
  | err c => exact Fails.pre h l
  | oof => trivial

theorem Lands.cast {W : World} {a : Cfg} {p q kb kc : Nat} {stk : List V} {r : Out} {σ' : Env}
    (l : Lands W a p kb kc stk r σ') (e : p = q) : Lands W a q kb kc stk r σ' := e ▸ l

/-- which nodes end with a value, which with `unit`, and which can be left by a break/continue -/
def Shape (n : N) (r : Out) : Prop :=
  match r with
  | .val _ => isUnitNode n = false
  | .unit => isUnitNode n = true
  | .brk => escapes n = true
  | .cont => escapes n = true
  | _ => True

theorem Shape.mono {m n : N} {r : Out} (h : Shape m r) (hu : isUnitNode n = isUnitNode m)
    (hx : escapes m = true → escapes n = true) : Shape n r := by
  cases r with
  | val v => exact hu.trans h
  | unit => exact hu.trans h
  | brk => exact hx h
  | cont => exact hx h
  | _ => trivial

/-- the simulation statement for one node at one place -/
def Post (W : World) (ls : Sc) (kb kc : Nat) (n : N) (pc : Nat) (stk : List V) (σ : Env) (r : Out) (σ' : Env) : Prop :=
  Shape n r ∧ Lands W ⟨pc, stk, σ⟩ (pc + size ls n) kb kc stk r σ'

/-! ### `CodeAt code pc frag`: the fragment sits at slot offset `pc` of the enclosing code -/

def CodeAt (code : Code) (pc : Nat) (frag : Code) : Prop :=
  ∀ i, i < frag.length → code[pc + i]? = frag[i]?

theorem CodeAt.append_left {code : Code} {pc : Nat} {a b : Code} (h : CodeAt code pc (a ++ b)) : CodeAt code pc a := by
  intro i hi
  have := h i (by simp; omega)
  rw [this, List.getElem?_append_left hi]

theorem CodeAt.append_right {code : Code} {pc : Nat} {a b : Code} (h : CodeAt code pc (a ++ b)) :
    CodeAt code (pc + a.length) b := by
  intro i hi
  have := h (a.length + i) (by simp; omega)
  rw [← Nat.add_assoc] at this
  rw [this, List.getElem?_append_right (by omega)]
  simp

theorem CodeAt.head {code : Code} {pc : Nat} {x : Option FIns} {rest : Code} (h : CodeAt code pc (x :: rest)) :
    code[pc]? = some x := by
  have := h 0 (by simp)
  simpa using this

theorem CodeAt.cast {code : Code} {p q : Nat} {frag : Code} (h : CodeAt code p frag) (e : p = q) :
    CodeAt code q frag := e ▸ h

theorem CodeAt.self (code : Code) : CodeAt code 0 code := by
  intro i _
  simp

theorem at_eq {code : Code} {p q : Nat} {x : Option FIns} (h : code[p]? = some x) (e : p = q) :
    code[q]? = some x := e ▸ h

@[simp] theorem one_length (i : FIns) : (one i).length = 1 := rfl
@[simp] theorem two_length (i : FIns) : (two i).length = 2 := rfl

theorem CodeAt.one {code : Code} {pc : Nat} {i : FIns} (h : CodeAt code pc (one i)) : code[pc]? = some (some i) :=
  CodeAt.head h
theorem CodeAt.two {code : Code} {pc : Nat} {i : FIns} (h : CodeAt code pc (two i)) : code[pc]? = some (some i) :=
  CodeAt.head h

theorem step_of {code : Code} {pc : Nat} {i : FIns} (h : code[pc]? = some (some i)) (stk : List V) (σ : Env) :
    step code ⟨pc, stk, σ⟩ = execIns i ⟨pc, stk, σ⟩ := by
  have hlt : pc < code.length := by
    rcases Nat.lt_or_ge pc code.length with h1 | h1
    · exact h1
    · rw [List.getElem?_eq_none h1] at h; cases h
  have : ¬ (pc ≥ code.length) := by omega
  simp only [step, this, if_false, h]

/-! ### shallow class facts -/

theorem isE_not_unit {n : N} (h : isE n = true) : isUnitNode n = false := by
  cases n <;> simp_all [isE, isUnitNode]
theorem isBlock_not_unit {n : N} (h : isBlock n = true) : isUnitNode n = false := by
  cases n <;> simp_all [isBlock, isUnitNode]
theorem isElse_not_unit {n : N} (h : isElse n = true) : isUnitNode n = false := by
  cases n <;> simp_all [isElse, isUnitNode]
theorem isL_not_unit {n : N} (h : isL n = true) : isUnitNode n = false := by
  cases n <;> simp_all [isL, isUnitNode]
theorem isInit_unit {n : N} (h : isInit n = true) : isUnitNode n = true := by
  cases n <;> simp_all [isInit, isUnitNode]
theorem isNone_not_unit {n : N} (h : isNone n = true) : isUnitNode n = false := by
  cases n <;> simp_all [isNone, isUnitNode]
theorem isReturn_eq {n : N} (h : isReturn n = true) : ∃ e, n = .return_ e := by
  cases n <;> simp_all [isReturn]

/-! ### operators: the VM's numeric dispatch agrees with the source-level operator -/

/-- `opIns` numbers the arithmetic operators as `vBinaryF` dispatches them.  The two definitions split on
    the operand types by different matches, hence the sweep over the types. -/
theorem vBinaryF_binopF {op : BinOp} {k : Nat} (hk : opIns op = .binary k) (hok : opOK op = true)
    (hand : op ≠ .and) (hor : op ≠ .or) (a b : V) : vBinaryF k a b = binopF op a b := by
  cases op <;> cases hk <;>
    first | exact absurd rfl hand | exact absurd rfl hor | (cases a <;> cases b <;> rfl) | cases hok

theorem vCompareF_binopF {op : BinOp} {k : Nat} (hk : opIns op = .compare k) (a b : V) :
    vCompareF k a b = binopF op a b := by
  cases op <;> cases hk <;> first | rfl | (cases a <;> cases b <;> rfl)

theorem opIns_cases (op : BinOp) : (∃ k, opIns op = .binary k) ∨ (∃ k, opIns op = .compare k) := by
  cases op <;> first | exact .inl ⟨_, rfl⟩ | exact .inr ⟨_, rfl⟩

theorem execIns_opIns (op : BinOp) (hok : opOK op = true) (hand : op ≠ .and) (hor : op ≠ .or)
    (a b : V) (s : List V) (pc : Nat) (σ : Env) :
    execIns (opIns op) ⟨pc, b :: a :: s, σ⟩ =
      (match binopF op a b with
       | .ok v => .ok ⟨pc + 2, v :: s, σ⟩
       | .error e => .error (.err e)) := by
  rcases opIns_cases op with ⟨k, hk⟩ | ⟨k, hk⟩
  · rw [hk, ← vBinaryF_binopF hk hok hand hor]; rfl
  · rw [hk, ← vCompareF_binopF hk]; rfl

theorem vBinaryF_add (a b : V) : vBinaryF 1 a b = binopF .add a b :=
  vBinaryF_binopF (op := .add) rfl rfl (by decide) (by decide) a b

theorem vBinaryF_assign (op : AssignOp) (h : op ≠ .set) (cur v : V) :
    vBinaryF (assignK op) cur v = applyF op cur v := by
  cases op with
  | set => exact absurd rfl h
  | add => exact vBinaryF_add cur v
  | sub => exact vBinaryF_binopF (op := .sub) rfl rfl (by decide) (by decide) cur v
  | mul => exact vBinaryF_binopF (op := .mul) rfl rfl (by decide) (by decide) cur v
  | div => exact vBinaryF_binopF (op := .div) rfl rfl (by decide) (by decide) cur v

/-! ### sequencing helper of the reference semantics -/

theorem seqV_elim {x : Out × Env} {k : V → Env → Out × Env} {r : Out} {σ' : Env}
    (h : seqV x k = (r, σ')) :
    (∃ v σ1, x = (.val v, σ1) ∧ k v σ1 = (r, σ')) ∨ ((∀ v, r ≠ .val v) ∧ x = (r, σ')) := by
  obtain ⟨r1, σ1⟩ := x
  cases r1 with
  | val v => exact .inl ⟨v, σ1, rfl, h⟩
  | unit => simp only [seqV] at h; cases h; exact .inr ⟨(by intro v hv; cases hv), rfl⟩
  | brk => simp only [seqV] at h; cases h; exact .inr ⟨(by intro v hv; cases hv), rfl⟩
  | cont => simp only [seqV] at h; cases h; exact .inr ⟨(by intro v hv; cases hv), rfl⟩
  | err c => simp only [seqV] at h; cases h; exact .inr ⟨(by intro v hv; cases hv), rfl⟩
  | oof => simp only [seqV] at h; cases h; exact .inr ⟨(by intro v hv; cases hv), rfl⟩

/-- the induction hypothesis: sub-nodes evaluated through `rec` are simulated wherever their
    code sits -/
def IH (W : World) (ls : Sc) (rec : N → Env → Out × Env) : Prop :=
  ∀ n, wf n = true → ∀ kb kc pc stk σ r σ', CodeAt W.code pc (comp ls kb kc n) → rec n σ = (r, σ') →
    Post W ls kb kc n pc stk σ r σ'

/-- a sub-evaluation (of an operand: no break/continue escapes it) that did not produce a value
    (error, out of fuel) is the result of the whole node -/
theorem Post.propagate {W : World} {sub n : N} {pc1 pc0 kb1 kc1 kb kc : Nat} {stk1 stk0 : List V}
    {σ1 σ0 σ' : Env} {r : Out}
    (hpre : Steps W ⟨pc0, stk0, σ0⟩ ⟨pc1, stk1, σ1⟩)
    (h : Post W ls kb1 kc1 sub pc1 stk1 σ1 r σ') (hnv : ∀ v, r ≠ .val v) (hu : isUnitNode sub = false)
    (hx : escapes sub = false) :
    Post W ls kb kc n pc0 stk0 σ0 r σ' := by
  cases r with
  | val v => exact absurd rfl (hnv v)
  | unit => cases hu.symm.trans h.1
  | brk => cases hx.symm.trans h.1
  | cont => cases hx.symm.trans h.1
  | err c => exact ⟨trivial, Fails.pre hpre h.2⟩
  | oof => exact ⟨trivial, trivial⟩

theorem Post.val_steps {W : World} {n : N} {pc kb kc : Nat} {stk : List V} {σ σ' : Env} {v : V}
    (h : Post W ls kb kc n pc stk σ (.val v) σ') : Steps W ⟨pc, stk, σ⟩ ⟨pc + size ls n, v :: stk, σ'⟩ := h.2

theorem Post.unit_steps {W : World} {n : N} {pc kb kc : Nat} {stk : List V} {σ σ' : Env}
    (h : Post W ls kb kc n pc stk σ .unit σ') : Steps W ⟨pc, stk, σ⟩ ⟨pc + size ls n, stk, σ'⟩ := h.2

/-! ### the length of a node's code does not depend on where the loop targets are -/

theorem pre_length (h : N) : (pre ls h).length = preLen h := by
  unfold pre preLen
  cases postName h <;> rfl

@[simp] theorem three_length (i : FIns) : (three i).length = 3 := rfl

theorem cells_code_length (us : List String) : (us.flatMap (fun x => three (.makeCell x))).length = 3 * us.length := by
  induction us with
  | nil => rfl
  | cons x r ih => simp only [List.flatMap_cons, List.length_append, three_length, ih, List.length_cons]; omega

theorem mkCode_length (lit : N) : (mkCode ls lit).length = mkLen ls lit := by
  unfold mkCode mkLen
  split
  · rfl
  · simp only [List.length_append, cells_code_length, three_length]

/-- neither a list cell, a case nor a default clause: only `comp` has code for such a node -/
def plainNode : N → Bool
  | .cons .. | .case_ .. | .default_ .. => false
  | _ => true

/-- on a plain node the eight list-shaped components of `comp_lengths` are what the catch-all equations of
    their functions say: empty code of length 0 (`compDflt`: the one `Nil`); the length of the node's own
    code `own` is all there is to show -/
theorem comp_lengths_of_plain {n : N} (hp : plainNode n = true) (own : ∀ kb kc, (comp ls kb kc n).length = size ls n) :
    (∀ kb kc, (comp ls kb kc n).length = size ls n) ∧ (∀ k, (compVals ls k n).length = valsLen ls n) ∧
    (∀ k, (compCmpCase ls k n).length = caseCmpLen ls n) ∧ (∀ b, (compCmp ls b n).length = cmpLen ls n) ∧
    (∀ a, (compBody ls a n).length = caseBodyLen ls n) ∧ (∀ d, (compBodies ls d n).length = bodiesLen ls n) ∧
    ((compDfltBody ls n).length = dfltBodyLen ls n) ∧ ((compDflt ls n).length = defLen ls n) ∧
    ((compArgs ls n).length = argsLen ls n) := by
  have hc : ∀ h t, n = .cons h t → False := fun h t e => by subst e; cases hp
  have hk : ∀ v b, n = .case_ v b → False := fun v b e => by subst e; cases hp
  have hd : ∀ b, n = .default_ b → False := fun b e => by subst e; cases hp
  refine ⟨own, ?_⟩
  simp only [compVals.eq_2 _ _ _ hc, valsLen.eq_2 _ _ hc, compCmpCase.eq_2 _ _ _ hk, caseCmpLen.eq_2 _ _ hk,
    compCmp.eq_2 _ _ _ hc, cmpLen.eq_2 _ _ hc, compBody.eq_2 _ _ _ hk, caseBodyLen.eq_2 _ _ hk,
    compBodies.eq_2 _ _ _ hc, bodiesLen.eq_2 _ _ hc, compDfltBody.eq_2 _ _ hd, dfltBodyLen.eq_2 _ _ hd,
    compDflt.eq_2 _ _ hc, defLen.eq_2 _ _ hc, compArgs.eq_2 _ _ hc, argsLen.eq_2 _ _ hc,
    List.length_nil, one_length, implies_true, and_self]

/-- lengths of every piece of generated code (the mutual functions of `comp`), by structural
    induction on the node -/
theorem comp_lengths (n : N) :
    (∀ kb kc, (comp ls kb kc n).length = size ls n) ∧ (∀ k, (compVals ls k n).length = valsLen ls n) ∧
    (∀ k, (compCmpCase ls k n).length = caseCmpLen ls n) ∧ (∀ b, (compCmp ls b n).length = cmpLen ls n) ∧
    (∀ a, (compBody ls a n).length = caseBodyLen ls n) ∧ (∀ d, (compBodies ls d n).length = bodiesLen ls n) ∧
    ((compDfltBody ls n).length = dfltBodyLen ls n) ∧ ((compDflt ls n).length = defLen ls n) ∧
    ((compArgs ls n).length = argsLen ls n) := by
  induction n
  case cons h t ihh iht =>
    obtain ⟨h1, _, h3, _, h5, _, h7, _, _⟩ := ihh
    obtain ⟨t1, t2, _, t4, _, t6, _, t8, t9⟩ := iht
    refine ⟨fun kb kc => ?_, fun k => ?_, fun _ => rfl, fun b => ?_, fun _ => rfl, fun d => ?_, rfl, ?_, ?_⟩
    · change (pre ls h ++ ite _ _ _).length = preLen h + size ls h + ite _ _ _
      rw [List.length_append, pre_length]
      split <;> split <;> simp only [List.length_append, h1, t1, one_length, List.length_nil] <;> omega
    · change List.length (_ ++ _) = _ + _
      simp only [List.length_append, two_length, h1, t2]; omega
    · change List.length (_ ++ _) = _ + _
      rw [List.length_append, h3, t4]
    · change List.length (_ ++ _) = _ + _
      rw [List.length_append, h5, t6]
    · change List.length (ite _ _ _) = ite _ _ _
      split
      · exact h7
      · exact t8
    · change List.length (_ ++ _) = _ + _
      rw [List.length_append, h1, t9]
  case case_ vals body ihv ihb =>
    refine ⟨fun _ _ => rfl, fun _ => rfl, fun k => ihv.2.1 k, fun _ => rfl, fun a => ?_, fun _ => rfl, rfl, rfl, rfl⟩
    change List.length (_ ++ _) = _ + _
    rw [List.length_append, ihb.1]; rfl
  case default_ body ihb =>
    exact ⟨fun _ _ => rfl, fun _ => rfl, fun _ => rfl, fun _ => rfl, fun _ => rfl, fun _ => rfl, ihb.1 0 0, rfl, rfl⟩
  -- every other node is plain: what remains is the length of its own code
  all_goals refine comp_lengths_of_plain rfl fun kb kc => ?_
  case «infix» op l r ihl ihr =>
    change List.length (ite _ _ (ite _ _ _)) = ite _ _ _
    by_cases h1 : op = .and
    · rw [if_pos h1, if_pos (.inl h1)]
      simp only [List.length_append, two_length, one_length, ihl.1, ihr.1]; omega
    · by_cases h2 : op = .or
      · rw [if_neg h1, if_pos h2, if_pos (.inr h2)]
        simp only [List.length_append, two_length, one_length, ihl.1, ihr.1]; omega
      · rw [if_neg h1, if_neg h2, if_neg (fun h => h.elim h1 h2)]
        simp only [List.length_append, two_length, ihl.1, ihr.1]
  case assign x op e ih =>
    change List.length (ite _ _ _) = ite _ _ _
    split
    · simp only [List.length_append, two_length, ih.1]
    · simp only [List.length_append, two_length, ih.1]; omega
  case for3 i c p b ihi ihc ihp ihb =>
    change List.length (_ ++ _) = _ + _
    simp only [List.length_append, ihi.1, ihc.1, ihp.1, ihb.1, two_length, one_length,
      apply_ite List.length, List.length_nil]
    omega
  case switch subj cases ihs ihc =>
    change List.length (_ ++ _) = _ + _
    simp only [List.length_append, two_length, one_length, ihs.1, ihc.2.2.2.1, ihc.2.2.2.2.2.1,
      ihc.2.2.2.2.2.2.2]
  case tern c a b ihc iha ihb =>
    change List.length (_ ++ _) = _ + _
    simp only [List.length_append, two_length, ihc.1, iha.1, ihb.1]; omega
  case if_ c a b ihc iha ihb =>
    change List.length (_ ++ _) = _ + _
    simp only [List.length_append, two_length, ihc.1, iha.1, ihb.1]; omega
  case forcond c b ihc ihb =>
    change List.length (_ ++ _) = _ + _
    simp only [List.length_append, two_length, one_length, ihc.1, ihb.1]; omega
  case forever b ihb =>
    change List.length (_ ++ _) = _ + _
    simp only [List.length_append, two_length, one_length, ihb.1]
  case neg e ih => change List.length (_ ++ _) = _ + _; rw [List.length_append, ih.1]; rfl
  case not e ih => change List.length (_ ++ _) = _ + _; rw [List.length_append, ih.1]; rfl
  case var x e ih => simp [comp, size, ih.1]
  case call f args ihf iha =>
    change List.length (_ ++ _) = _ + _
    simp only [List.length_append, two_length, ihf.1, iha.2.2.2.2.2.2.2.2]
  case return_ e ih => change List.length (_ ++ _) = _ + _; rw [List.length_append, ih.1]; rfl
  case block s ih => exact ih.1 kb kc
  case prog s ih => exact ih.1 kb kc
  case expr s ih => simp only [comp, size]; split <;> simp [ih.1, mkCode_length]
  case func name ps b _ _ => simp [comp, size, mkCode_length]
  all_goals simp [comp, size]

theorem comp_length (n : N) (kb kc : Nat) : (comp ls kb kc n).length = size ls n := (comp_lengths n).1 kb kc
theorem compVals_length (n : N) (k : Nat) : (compVals ls k n).length = valsLen ls n := (comp_lengths n).2.1 k
theorem compCmp_length (n : N) (b : Nat) : (compCmp ls b n).length = cmpLen ls n := (comp_lengths n).2.2.2.1 b
theorem compBody_length (n : N) (a : Nat) : (compBody ls a n).length = caseBodyLen ls n := (comp_lengths n).2.2.2.2.1 a
theorem compBodies_length (n : N) (d : Nat) : (compBodies ls d n).length = bodiesLen ls n := (comp_lengths n).2.2.2.2.2.1 d
theorem compDflt_length (n : N) : (compDflt ls n).length = defLen ls n := (comp_lengths n).2.2.2.2.2.2.2.1
theorem compArgs_length (n : N) : (compArgs ls n).length = argsLen ls n := (comp_lengths n).2.2.2.2.2.2.2.2

/-! ### variable access: the opcode the resolution picks reads / writes the variable -/

theorem exec_loadV (ls : Sc) (x : String) (pc : Nat) (stk : List V) (σ : Env) :
    execIns (loadV ls x) ⟨pc, stk, σ⟩ = .ok ⟨pc + 2, σ.get ls x :: stk, σ⟩ := by
  unfold loadV Env.get
  split
  · rfl
  · split <;> rfl

theorem exec_storeV (ls : Sc) (x : String) (pc : Nat) (v : V) (stk : List V) (σ : Env) :
    execIns (storeV ls x) ⟨pc, v :: stk, σ⟩ = .ok ⟨pc + 2, stk, σ.set ls x v⟩ := by
  unfold storeV Env.set
  split
  · rfl
  · split <;> rfl

/-! ### one simulation lemma per construct (sub-nodes through the induction hypothesis) -/

variable {W : World} {rec : N → Env → Out × Env} {app : V → List V → Sh → Out × Sh} {fuel : Nat} {kb kc : Nat}

theorem Post.fail {n : N} {pc0 pc1 : Nat} {stk0 stk1 : List V} {σ0 σ1 : Env} {c : String}
    (hpre : Steps W ⟨pc0, stk0, σ0⟩ ⟨pc1, stk1, σ1⟩) (h : step W.code ⟨pc1, stk1, σ1⟩ = .error (.err c)) :
    Post W ls kb kc n pc0 stk0 σ0 (.err (.cls c)) σ1 := ⟨trivial, Fails.of_step hpre h⟩

theorem Post.congr {n m : N} {pc : Nat} {stk : List V} {σ σ' : Env} {r : Out}
    (hc : size ls n = size ls m) (hu : isUnitNode n = isUnitNode m) (hx : escapes n = escapes m)
    (h : Post W ls kb kc m pc stk σ r σ') :
    Post W ls kb kc n pc stk σ r σ' := by
  unfold Post Shape at *
  rw [hc, hu, hx]; exact h

/-- run the instruction found at the position reached -/
theorem Steps.ins {a : Cfg} {pc : Nat} {stk : List V} {σ : Env} {i : FIns} {c' : Cfg}
    (h : Steps W a ⟨pc, stk, σ⟩) (hi : W.code[pc]? = some (some i)) (hx : execIns i ⟨pc, stk, σ⟩ = .ok c') :
    Steps W a c' :=
  h.snoc (by rw [step_of hi]; exact hx)

/-- the jumps and `Nop` leave stack and store alone -/
theorem Steps.jf {p d q : Nat} (hi : W.code[p]? = some (some (.jf d))) (e : p + d = q) (stk : List V) (σ : Env) :
    Steps W ⟨p, stk, σ⟩ ⟨q, stk, σ⟩ := e ▸ (Steps.refl _).ins hi rfl
theorem Steps.jb {p d q : Nat} (hi : W.code[p]? = some (some (.jb d))) (e : p - d = q) (stk : List V) (σ : Env) :
    Steps W ⟨p, stk, σ⟩ ⟨q, stk, σ⟩ := e ▸ (Steps.refl _).ins hi rfl
theorem Steps.nop {p q : Nat} (hi : W.code[p]? = some (some .nop)) (e : p + 1 = q) (stk : List V) (σ : Env) :
    Steps W ⟨p, stk, σ⟩ ⟨q, stk, σ⟩ := e ▸ (Steps.refl _).ins hi rfl

theorem Post.val {n : N} {pc q : Nat} {stk : List V} {σ σ' : Env} {v : V} (hu : isUnitNode n = false)
    (h : Steps W ⟨pc, stk, σ⟩ ⟨q, v :: stk, σ'⟩) (e : q = pc + size ls n) : Post W ls kb kc n pc stk σ (.val v) σ' :=
  ⟨hu, h.cast e⟩

theorem Post.unit {n : N} {pc q : Nat} {stk : List V} {σ σ' : Env} (hu : isUnitNode n = true)
    (h : Steps W ⟨pc, stk, σ⟩ ⟨q, stk, σ'⟩) (e : q = pc + size ls n) : Post W ls kb kc n pc stk σ .unit σ' :=
  ⟨hu, h.cast e⟩

/-- an operand inside `seqV`: when it yields no value the node ends as the operand did; otherwise the
    run goes on (`next`) from the operand's value on top of the stack -/
theorem IH.seq (ih : IH W ls rec) {sub n : N} (hw : wf sub = true) (hu : isUnitNode sub = false)
    (hx : escapes sub = false) {pc0 pc1 : Nat} {stk0 stk1 : List V} {σ0 σ1 σ' : Env} {r : Out}
    {k : V → Env → Out × Env} (hpre : Steps W ⟨pc0, stk0, σ0⟩ ⟨pc1, stk1, σ1⟩)
    (hat : CodeAt W.code pc1 (comp ls 0 0 sub)) (he : seqV (rec sub σ1) k = (r, σ'))
    (next : ∀ v σ2, Steps W ⟨pc0, stk0, σ0⟩ ⟨pc1 + size ls sub, v :: stk1, σ2⟩ → k v σ2 = (r, σ') →
      Post W ls kb kc n pc0 stk0 σ0 r σ') :
    Post W ls kb kc n pc0 stk0 σ0 r σ' := by
  rcases seqV_elim he with ⟨v, σ2, h1, he⟩ | ⟨hnv, h1⟩
  · exact next v σ2 (hpre.trans (ih sub hw 0 0 pc1 stk1 σ1 _ _ hat h1).val_steps) he
  · exact Post.propagate hpre (ih sub hw 0 0 pc1 stk1 σ1 _ _ hat h1) hnv hu hx

/-- a sub-node in tail position (same stack, the loop targets shifted by what follows it) ended with `r`:
    a `break`, `continue` or error is the node's outcome (`hpass`) and is realised as the sub-node realised
    it; what happens after a value / after `unit` is given by `hval` / `hunit` -/
theorem Post.tail {sub n : N} {pc0 pc1 kb1 kc1 : Nat} {stk : List V} {σ0 σ1 σm σ' : Env} {r res : Out}
    (hpre : Steps W ⟨pc0, stk, σ0⟩ ⟨pc1, stk, σ1⟩) (h : Post W ls kb1 kc1 sub pc1 stk σ1 r σm)
    (hx : escapes sub = true → escapes n = true)
    (hb : pc1 + size ls sub + kb1 = pc0 + size ls n + kb) (hc : pc1 + size ls sub + kc1 = pc0 + size ls n + kc)
    (hpass : (∀ v, r ≠ .val v) → r ≠ .unit → (r, σm) = (res, σ'))
    (hval : ∀ v, r = .val v → Post W ls kb kc n pc0 stk σ0 res σ')
    (hunit : r = .unit → Post W ls kb kc n pc0 stk σ0 res σ') :
    Post W ls kb kc n pc0 stk σ0 res σ' := by
  cases r with
  | val v => exact hval v rfl
  | unit => exact hunit rfl
  | brk => cases hpass (by nofun) (by nofun); exact ⟨hx h.1, (hpre.trans h.2).cast hb⟩
  | cont => cases hpass (by nofun) (by nofun); exact ⟨hx h.1, (hpre.trans h.2).cast hc⟩
  | err c => cases hpass (by nofun) (by nofun); exact ⟨trivial, Fails.pre hpre h.2⟩
  | oof => cases hpass (by nofun) (by nofun); exact ⟨trivial, trivial⟩

/-! ### operands: a value on top of the stack, or an error, nothing else -/

/-- the run of an operand from `c0` above `stk`: its value lands at `q` on top of `stk`, or its error is raised -/
def ValTo (W : World) (c0 : Cfg) (q : Nat) (stk : List V) (r : Out) (σ' : Env) : Prop :=
  match r with
  | .val v => Steps W c0 ⟨q, v :: stk, σ'⟩
  | .err c => Fails W c0 c σ'
  | .oof => True
  | _ => False

/-- a run of operands that stopped at one without a value -/
def ErrTo (W : World) (c0 : Cfg) (o : Out) (σ' : Env) : Prop :=
  match o with
  | .err c => Fails W c0 c σ'
  | .oof => True
  | _ => False

theorem ValTo.pre {c0 c1 : Cfg} {q : Nat} {stk : List V} {r : Out} {σ' : Env}
    (l : ValTo W c1 q stk r σ') (h : Steps W c0 c1) : ValTo W c0 q stk r σ' := by
  cases r with
  | val v => exact h.trans l
  | err c => exact Fails.pre h l
  | _ => exact l

theorem ErrTo.pre {c0 c1 : Cfg} {o : Out} {σ' : Env} (l : ErrTo W c1 o σ') (h : Steps W c0 c1) : ErrTo W c0 o σ' := by
  cases o with
  | err c => exact Fails.pre h l
  | _ => exact l

theorem ValTo.err {c0 : Cfg} {q : Nat} {stk : List V} {o : Out} {σ' : Env}
    (l : ValTo W c0 q stk o σ') (hnv : ∀ v, o ≠ .val v) : ErrTo W c0 o σ' := by
  cases o with
  | val v => exact absurd rfl (hnv v)
  | _ => exact l

theorem ErrTo.valTo {c0 : Cfg} {q : Nat} {stk : List V} {o : Out} {σ' : Env} (l : ErrTo W c0 o σ') :
    ValTo W c0 q stk o σ' := by
  cases o with
  | val v => exact l.elim
  | _ => exact l

/-- instructions after the operand that carry its value along -/
theorem ValTo.andThen {c0 : Cfg} {q q' : Nat} {stk stk' : List V} {r : Out} {σ' : Env}
    (l : ValTo W c0 q stk r σ') (f : ∀ v, Steps W ⟨q, v :: stk, σ'⟩ ⟨q', v :: stk', σ'⟩) :
    ValTo W c0 q' stk' r σ' := by
  cases r with
  | val v => exact Steps.trans l (f v)
  | _ => exact l

/-- a node whose outcome is that of an operand run to its end -/
theorem Post.of_valTo {n : N} {pc q : Nat} {stk : List V} {σ σ' : Env} {r : Out} (hu : isUnitNode n = false)
    (l : ValTo W ⟨pc, stk, σ⟩ q stk r σ') (e : q = pc + size ls n) : Post W ls kb kc n pc stk σ r σ' := by
  subst e
  cases r with
  | val v => exact ⟨hu, l⟩
  | err c => exact ⟨trivial, l⟩
  | oof => exact ⟨trivial, trivial⟩
  | _ => exact l.elim

/-- a sub-node that is an operand (never `unit`, no break/continue out of it), run wherever it sits -/
theorem IH.operand (ih : IH W ls rec) {sub : N} (hw : wf sub = true) (hu : isUnitNode sub = false)
    (hx : escapes sub = false) {pc : Nat} {stk : List V} {σ σ' : Env} {r : Out}
    (hat : CodeAt W.code pc (comp ls 0 0 sub)) (h : rec sub σ = (r, σ')) :
    ValTo W ⟨pc, stk, σ⟩ (pc + size ls sub) stk r σ' := by
  have P := ih sub hw 0 0 pc stk σ _ _ hat h
  cases r with
  | val v => exact P.2
  | unit => cases hu.symm.trans P.1
  | brk => cases hx.symm.trans P.1
  | cont => cases hx.symm.trans P.1
  | err c => exact P.2
  | oof => trivial

/-- `&&` and `||` share their shape.  The left value is copied and the copy is tested by the jump `j`: when its
    truth value is `t` (`false` for `&&`, `true` for `||`) the right operand is skipped and the left value is the
    result; otherwise the right operand runs above the left value and `Binary k` keeps the right one. -/
theorem sim_short (ih : IH W ls rec) (n l r : N) (t : Bool) (j : FIns) (k : Nat)
    (hcomp : comp ls kb kc n
      = comp ls 0 0 l ++ two (.copy 0) ++ two j ++ comp ls 0 0 r ++ two (.binary k) ++ one .nop)
    (hsize : size ls n = size ls l + size ls r + 7) (hun : isUnitNode n = false)
    (hj : ∀ (a : V) (pc : Nat) (stk : List V) (σ : Env),
      execIns j ⟨pc, a :: stk, σ⟩ = .ok ⟨if a.truthy = t then pc + (size ls r + 5) else pc + 2, stk, σ⟩)
    (hk : ∀ a b : V, a.truthy ≠ t → vBinaryF k a b = .ok b)
    (hwl : wf l = true) (hwr : wf r = true) (hel : isE l = true) (her : isE r = true)
    (hxl : escapes l = false) (hxr : escapes r = false)
    (pc : Nat) (stk : List V) (σ : Env) (res : Out) (σ' : Env) (hat : CodeAt W.code pc (comp ls kb kc n))
    {K : V → Env → Out × Env} (he : seqV (rec l σ) K = (res, σ'))
    (hK : ∀ a σ1, K a σ1 = if a.truthy = t then (.val a, σ1) else seqV (rec r σ1) fun b σ2 => (.val b, σ2)) :
    Post W ls kb kc n pc stk σ res σ' := by
  rw [hcomp] at hat
  have hatl := hat.append_left.append_left.append_left.append_left.append_left
  have hcopy := CodeAt.two hat.append_left.append_left.append_left.append_left.append_right
  have hjmp := CodeAt.two hat.append_left.append_left.append_left.append_right
  have hatr := hat.append_left.append_left.append_right
  have hbin := CodeAt.two hat.append_left.append_right
  have hnop := CodeAt.one hat.append_right
  simp only [List.length_append, two_length, comp_length] at hcopy hjmp hatr hbin hnop
  refine ih.seq hwl (isE_not_unit hel) hxl (.refl _) hatl he fun a σ1 Pl he => ?_
  rw [hK] at he
  have P2 := (Pl.ins hcopy (c' := ⟨pc + size ls l + 2, a :: a :: stk, σ1⟩) rfl).ins (at_eq hjmp (by omega)) (hj a ..)
  by_cases ht : a.truthy = t
  · rw [if_pos ht] at he P2; cases he
    exact Post.val hun P2 (by omega)
  · rw [if_neg ht] at he P2
    refine ih.seq hwr (isE_not_unit her) hxr P2 (hatr.cast (by omega)) he fun b σ2 Pr he => ?_
    cases he
    have P3 := Pr.ins (at_eq hbin (by omega)) (c' := ⟨pc + size ls l + 2 + 2 + size ls r + 2, b :: stk, σ'⟩)
      (by simp only [execIns, hk a b ht])
    exact Post.val hun (P3.ins (at_eq hnop (by omega)) rfl) (by dsimp only; omega)

theorem sim_and (ih : IH W ls rec) (l r : N)
    (hwf : wf (.infix .and l r) = true) (pc : Nat) (stk : List V) (σ : Env) (res : Out) (σ' : Env)
    (hat : CodeAt W.code pc (comp ls kb kc (.infix .and l r))) (he : evNode ls fuel rec app (.infix .and l r) σ = (res, σ')) :
    Post W ls kb kc (.infix .and l r) pc stk σ res σ' := by
  simp only [wf, Bool.and_eq_true, Bool.not_eq_true'] at hwf
  obtain ⟨⟨⟨⟨⟨⟨_, hel⟩, her⟩, hxl⟩, hxr⟩, hwl⟩, hwr⟩ := hwf
  simp only [evNode, ↓reduceIte] at he
  exact sim_short ih _ l r false (.pjf (size ls r + 5)) 6 (by simp only [comp, ↓reduceIte]) (by simp [size]) rfl
    (fun a _ _ _ => by cases h : a.truthy <;> simp [execIns, h]) (fun a b h => by simp [vBinaryF, h])
    hwl hwr hel her hxl hxr pc stk σ res σ' hat he (fun a _ => by cases a.truthy <;> rfl)

theorem sim_or (ih : IH W ls rec) (l r : N)
    (hwf : wf (.infix .or l r) = true) (pc : Nat) (stk : List V) (σ : Env) (res : Out) (σ' : Env)
    (hat : CodeAt W.code pc (comp ls kb kc (.infix .or l r))) (he : evNode ls fuel rec app (.infix .or l r) σ = (res, σ')) :
    Post W ls kb kc (.infix .or l r) pc stk σ res σ' := by
  simp only [wf, Bool.and_eq_true, Bool.not_eq_true'] at hwf
  obtain ⟨⟨⟨⟨⟨⟨_, hel⟩, her⟩, hxl⟩, hxr⟩, hwl⟩, hwr⟩ := hwf
  simp only [evNode, reduceCtorEq, ↓reduceIte] at he
  exact sim_short ih _ l r true (.pjt (size ls r + 5)) 7 (by simp only [comp, reduceCtorEq, ↓reduceIte]) (by simp [size]) rfl
    (fun a _ _ _ => by cases h : a.truthy <;> simp [execIns, h]) (fun a b h => by simp [vBinaryF, h])
    hwl hwr hel her hxl hxr pc stk σ res σ' hat he (fun a _ => rfl)

theorem sim_infix (ih : IH W ls rec) (op : BinOp) (l r : N) (hop : op ≠ .and) (hor : op ≠ .or)
    (hwf : wf (.infix op l r) = true) (pc : Nat) (stk : List V) (σ : Env) (res : Out) (σ' : Env)
    (hat : CodeAt W.code pc (comp ls kb kc (.infix op l r))) (he : evNode ls fuel rec app (.infix op l r) σ = (res, σ')) :
    Post W ls kb kc (.infix op l r) pc stk σ res σ' := by
  simp only [wf, Bool.and_eq_true, Bool.not_eq_true'] at hwf
  obtain ⟨⟨⟨⟨⟨⟨hok, hel⟩, her⟩, hxl⟩, hxr⟩, hwl⟩, hwr⟩ := hwf
  simp only [comp, if_neg hop, if_neg hor] at hat
  simp only [evNode, if_neg hop, if_neg hor] at he
  have hlen : size ls (.infix op l r) = size ls l + size ls r + 2 := by
    simp [size, hop, hor]
  have hatr := hat.append_left.append_right
  have hins := CodeAt.two hat.append_right
  simp only [List.length_append, comp_length] at hins hatr
  refine ih.seq hwl (isE_not_unit hel) hxl (.refl _) hat.append_left.append_left he fun a σ1 Pl he => ?_
  refine ih.seq hwr (isE_not_unit her) hxr Pl hatr he fun b σ2 Pr he => ?_
  have hstep := step_of (at_eq hins (q := pc + size ls l + size ls r) (by omega)) (b :: a :: stk) σ2
  rw [execIns_opIns op hok hop hor] at hstep
  cases hb : binopF op a b with
  | ok v =>
    simp only [hb, liftE] at he hstep; cases he
    exact Post.val rfl (Pr.snoc hstep) (by rw [hlen]; omega)
  | error c =>
    simp only [hb, liftE] at he hstep; cases he
    exact Post.fail Pr hstep

theorem sim_neg (ih : IH W ls rec) (e : N)
    (hwf : wf (.neg e) = true) (pc : Nat) (stk : List V) (σ : Env) (res : Out) (σ' : Env)
    (hat : CodeAt W.code pc (comp ls kb kc (.neg e))) (he : evNode ls fuel rec app (.neg e) σ = (res, σ')) :
    Post W ls kb kc (.neg e) pc stk σ res σ' := by
  simp only [wf, Bool.and_eq_true, Bool.not_eq_true'] at hwf
  obtain ⟨⟨hee, hxe⟩, hwe⟩ := hwf
  dsimp only [comp] at hat
  dsimp only [evNode] at he
  have hins := CodeAt.one hat.append_right
  simp only [comp_length] at hins
  refine ih.seq hwe (isE_not_unit hee) hxe (.refl _) hat.append_left he fun v σ1 P1 he => ?_
  cases v <;> cases he
  case int i => exact Post.val rfl (P1.ins hins rfl) (by simp only [size]; omega)
  all_goals exact Post.fail P1 (by rw [step_of hins]; rfl)

theorem sim_not (ih : IH W ls rec) (e : N)
    (hwf : wf (.not e) = true) (pc : Nat) (stk : List V) (σ : Env) (res : Out) (σ' : Env)
    (hat : CodeAt W.code pc (comp ls kb kc (.not e))) (he : evNode ls fuel rec app (.not e) σ = (res, σ')) :
    Post W ls kb kc (.not e) pc stk σ res σ' := by
  simp only [wf, Bool.and_eq_true, Bool.not_eq_true'] at hwf
  obtain ⟨⟨hee, hxe⟩, hwe⟩ := hwf
  dsimp only [comp] at hat
  dsimp only [evNode] at he
  have hins := CodeAt.one hat.append_right
  simp only [comp_length] at hins
  refine ih.seq hwe (isE_not_unit hee) hxe (.refl _) hat.append_left he fun v σ1 P1 he => ?_
  cases he
  exact Post.val rfl (P1.ins hins rfl) (by simp only [size]; omega)

/-- ternary and if/else share their shape: the condition is an operand, the two branches
    inherit the loop targets (shifted by what follows them) -/
theorem sim_cond (ih : IH W ls rec) (n c a b : N)
    (hcomp : comp ls kb kc n = comp ls 0 0 c ++ two (.pjf (size ls a + 4)) ++ comp ls (kb + (size ls b + 2)) (kc + (size ls b + 2)) a
      ++ two (.jf (size ls b + 2)) ++ comp ls kb kc b)
    (hsize : size ls n = size ls c + size ls a + size ls b + 4)
    (hun : isUnitNode n = false) (hesc : escapes n = (escapes c || escapes a || escapes b))
    (hwc : wf c = true) (hwa : wf a = true) (hwb : wf b = true)
    (huc : isUnitNode c = false) (hua : isUnitNode a = false) (hub : isUnitNode b = false)
    (hxc : escapes c = false)
    (pc : Nat) (stk : List V) (σ : Env) (res : Out) (σ' : Env)
    (hat : CodeAt W.code pc (comp ls kb kc n))
    (he : (seqV (rec c σ) fun v σ1 => if v.truthy = true then rec a σ1 else rec b σ1) = (res, σ')) :
    Post W ls kb kc n pc stk σ res σ' := by
  rw [hcomp] at hat
  have hatc := hat.append_left.append_left.append_left.append_left
  have hpjf := CodeAt.two hat.append_left.append_left.append_left.append_right
  have hata := hat.append_left.append_left.append_right
  have hjf := CodeAt.two hat.append_left.append_right
  have hatb := hat.append_right
  simp only [List.length_append, two_length, comp_length] at hpjf hata hjf hatb
  refine ih.seq hwc huc hxc (.refl _) hatc he fun v σ1 Pc he => ?_
  by_cases ht : v.truthy = true
  · simp only [ht, ↓reduceIte] at he
    have pre := Pc.ins hpjf (c' := ⟨pc + size ls c + 2, stk, σ1⟩) (by simp [execIns, ht])
    have Pa := ih a hwa _ _ _ stk σ1 _ _ hata he
    refine Post.tail pre Pa (fun h => by simp [hesc, h]) (by omega) (by omega) (fun _ _ => rfl) (fun w e => ?_) (fun e => ?_)
    · subst e
      exact Post.val hun ((pre.trans Pa.val_steps).ins (at_eq hjf (by omega)) rfl) (by dsimp only; omega)
    · subst e; cases hua.symm.trans Pa.1
  · have ht' : v.truthy = false := by simpa using ht
    simp only [ht', Bool.false_eq_true, ↓reduceIte] at he
    have pre := Pc.ins hpjf (c' := ⟨pc + size ls c + (size ls a + 4), stk, σ1⟩) (by simp [execIns, ht'])
    have Pb := ih b hwb kb kc _ stk σ1 _ _ (hatb.cast (q := pc + size ls c + (size ls a + 4)) (by omega)) he
    refine Post.tail pre Pb (fun h => by simp [hesc, h]) (by omega) (by omega) (fun _ _ => rfl) (fun w e => ?_) (fun e => ?_)
    · subst e; exact Post.val hun (pre.trans Pb.val_steps) (by omega)
    · subst e; cases hub.symm.trans Pb.1

/-- a leaf: one instruction pushes the value, the store is untouched -/
theorem sim_leaf (n : N) (i : FIns) (v : V) (w : Nat) (pc : Nat) (stk : List V) (σ : Env) (r : Out) (σ' : Env)
    (hun : isUnitNode n = false)
    (hins : W.code[pc]? = some (some i)) (hlen : size ls n = w)
    (hex : execIns i ⟨pc, stk, σ⟩ = .ok ⟨pc + w, v :: stk, σ⟩)
    (he : (Out.val v, σ) = (r, σ')) : Post W ls kb kc n pc stk σ r σ' := by
  cases he
  exact Post.val hun ((Steps.refl _).ins hins hex) (by rw [hlen])

theorem pre_steps (h : N) (pc : Nat) (stk : List V) (σ : Env) (hat : CodeAt W.code pc (pre ls h)) :
    Steps W ⟨pc, stk, σ⟩ ⟨pc + preLen h, stk, σ⟩ := by
  cases hp : postName h with
  | none => simp only [preLen, hp]; exact .refl _
  | some x =>
    simp only [pre, hp] at hat
    simp only [preLen, hp]
    have h1 := CodeAt.two hat.append_left
    have h2 := CodeAt.one hat.append_right
    simp only [two_length] at h2
    exact ((Steps.refl _).ins h1 (exec_loadV ..)).ins h2 (c' := ⟨pc + 2 + 1, stk, σ⟩) rfl

theorem unit_not_leaves {n : N} (h : isUnitNode n = true) : leaves n = false := by
  cases n <;> simp_all [isUnitNode, leaves]

theorem sim_cons (ih : IH W ls rec) (h t : N)
    (hwf : wf (.cons h t) = true) (pc : Nat) (stk : List V) (σ : Env) (res : Out) (σ' : Env)
    (hat : CodeAt W.code pc (comp ls kb kc (.cons h t))) (he : evNode ls fuel rec app (.cons h t) σ = (res, σ')) :
    Post W ls kb kc (.cons h t) pc stk σ res σ' := by
  simp only [wf, Bool.and_eq_true] at hwf
  obtain ⟨⟨⟨hsh, hlt⟩, hwh⟩, hwt⟩ := hwf
  simp only [isS, Bool.or_eq_true] at hsh
  dsimp only [comp] at hat
  dsimp only [evNode] at he
  have hpre := pre_steps h pc stk σ hat.append_left
  have hrest := hat.append_right
  simp only [pre_length] at hrest
  have hesc : escapes h = true → escapes (.cons h t) = true := fun e => by simp [escapes, e]
  -- the head statement
  rcases hh : rec h σ with ⟨r1, σ1⟩
  rw [hh] at he
  -- a value forces an expression statement, unit a non-expression
  have hval : ∀ {kb' kc' pc' v}, Post W ls kb' kc' h pc' stk σ (.val v) σ1 → leaves h = true := by
    intro kb' kc' pc' v P
    rcases hsh with hu | hl
    · cases hu.symm.trans P.1
    · exact hl
  have hunit : ∀ {kb' kc' pc'}, Post W ls kb' kc' h pc' stk σ .unit σ1 → leaves h = false :=
    fun P => unit_not_leaves P.1
  by_cases hnil : isNilL t = true
  · -- the last statement: its value is the list's, `unit` becomes nil
    simp only [hnil, ↓reduceIte] at he hrest
    have hpass : (∀ v, r1 ≠ .val v) → r1 ≠ .unit → (r1, σ1) = (res, σ') := fun hv hu => by
      cases r1 <;> first | exact absurd rfl (hv _) | exact absurd rfl hu | exact he
    cases hl : leaves h with
    | true =>
      simp only [hl, ↓reduceIte, List.append_nil, Nat.add_zero] at hrest
      have hsz : size ls (.cons h t) = preLen h + size ls h := by simp [size, hnil, hl]
      have Ph := ih h hwh _ _ _ stk σ _ _ hrest hh
      refine Post.tail hpre Ph hesc (by omega) (by omega) hpass (fun v e => ?_) (fun e => ?_)
      · subst e; cases he
        exact Post.val rfl (hpre.trans Ph.val_steps) (by omega)
      · subst e; cases (hunit Ph).symm.trans hl
    | false =>
      simp only [hl, Bool.false_eq_true, ↓reduceIte] at hrest
      have hsz : size ls (.cons h t) = preLen h + size ls h + 1 := by simp [size, hnil, hl]
      have Ph := ih h hwh _ _ _ stk σ _ _ hrest.append_left hh
      have hins := CodeAt.one hrest.append_right
      simp only [comp_length] at hins
      refine Post.tail hpre Ph hesc (by omega) (by omega) hpass (fun v e => ?_) (fun e => ?_)
      · subst e; cases (hval Ph).symm.trans hl
      · subst e; cases he
        exact Post.val rfl ((hpre.trans Ph.unit_steps).ins hins rfl) (by dsimp only; omega)
  · have hnil' : isNilL t = false := by simpa using hnil
    simp only [hnil', Bool.false_eq_true, ↓reduceIte] at he hrest
    have hpass : (∀ v, r1 ≠ .val v) → r1 ≠ .unit → (r1, σ1) = (res, σ') := fun hv hu => by
      cases r1 <;> first | exact absurd rfl (hv _) | exact absurd rfl hu | exact he
    -- the rest of the list runs from the state after the head
    have rest : ∀ pcT, Steps W ⟨pc, stk, σ⟩ ⟨pcT, stk, σ1⟩ → CodeAt W.code pcT (comp ls kb kc t) →
        pcT + size ls t = pc + size ls (.cons h t) → rec t σ1 = (res, σ') →
        Post W ls kb kc (.cons h t) pc stk σ res σ' := by
      intro pcT hs hatT hend heT
      have Pt := ih t hwt kb kc pcT stk σ1 _ _ hatT heT
      exact ⟨Pt.1.mono (isL_not_unit hlt).symm (fun e => by simp [escapes, e]), (Lands.pre hs Pt.2).cast hend⟩
    cases hl : leaves h with
    | true =>
      simp only [hl, ↓reduceIte] at hrest
      have hsz : size ls (.cons h t) = preLen h + size ls h + 1 + size ls t := by simp [size, hnil', hl]; omega
      have Ph := ih h hwh _ _ _ stk σ _ _ hrest.append_left hh
      have hpop := CodeAt.one hrest.append_right.append_left
      have hatT := hrest.append_right.append_right
      simp only [comp_length, one_length] at hpop hatT
      refine Post.tail hpre Ph hesc (by omega) (by omega) hpass (fun v e => ?_) (fun e => ?_)
      · subst e
        exact rest _ ((hpre.trans Ph.val_steps).ins hpop rfl) hatT (by dsimp only; omega) he
      · subst e; cases (hunit Ph).symm.trans hl
    | false =>
      simp only [hl, Bool.false_eq_true, ↓reduceIte, List.nil_append, Nat.zero_add] at hrest
      have hsz : size ls (.cons h t) = preLen h + size ls h + size ls t := by simp [size, hnil', hl]
      have Ph := ih h hwh _ _ _ stk σ _ _ hrest.append_left hh
      have hatT := hrest.append_right
      simp only [comp_length] at hatT
      refine Post.tail hpre Ph hesc (by omega) (by omega) hpass (fun v e => ?_) (fun e => ?_)
      · subst e; cases (hval Ph).symm.trans hl
      · subst e
        exact rest _ (hpre.trans Ph.unit_steps) hatT (by omega) he

theorem sim_ctl (isBrk : Bool) (pc : Nat) (stk : List V) (σ : Env) (res : Out) (σ' : Env)
    (hat : CodeAt W.code pc (comp ls kb kc (if isBrk then .break_ else .continue_)))
    (he : ((if isBrk then Out.brk else Out.cont), σ) = (res, σ')) :
    Post W ls kb kc (if isBrk then .break_ else .continue_) pc stk σ res σ' := by
  cases isBrk with
  | true =>
    simp only [↓reduceIte] at hat he ⊢
    cases he
    exact ⟨rfl, Steps.jf (CodeAt.two hat) (by simp only [size]; omega) stk σ⟩
  | false =>
    simp only [Bool.false_eq_true, ↓reduceIte] at hat he ⊢
    cases he
    exact ⟨rfl, Steps.jf (CodeAt.two hat) (by simp only [size]; omega) stk σ⟩

theorem sim_var (ih : IH W ls rec) (x : String) (e : N)
    (hwf : wf (.var x e) = true) (pc : Nat) (stk : List V) (σ : Env) (res : Out) (σ' : Env)
    (hat : CodeAt W.code pc (comp ls kb kc (.var x e))) (he : evNode ls fuel rec app (.var x e) σ = (res, σ')) :
    Post W ls kb kc (.var x e) pc stk σ res σ' := by
  simp only [wf, Bool.and_eq_true, Bool.not_eq_true'] at hwf
  obtain ⟨⟨hee, hxe⟩, hwe⟩ := hwf
  dsimp only [comp] at hat
  dsimp only [evNode] at he
  have hins := CodeAt.two hat.append_right
  simp only [comp_length] at hins
  refine ih.seq hwe (isE_not_unit hee) hxe (.refl _) hat.append_left he fun v σ1 P1 he => ?_
  cases he
  exact Post.unit rfl (P1.ins hins (exec_storeV ..)) (by simp only [size]; omega)

theorem sim_assign (ih : IH W ls rec) (x : String) (op : AssignOp) (e : N)
    (hwf : wf (.assign x op e) = true) (pc : Nat) (stk : List V) (σ : Env) (res : Out) (σ' : Env)
    (hat : CodeAt W.code pc (comp ls kb kc (.assign x op e))) (he : evNode ls fuel rec app (.assign x op e) σ = (res, σ')) :
    Post W ls kb kc (.assign x op e) pc stk σ res σ' := by
  simp only [wf, Bool.and_eq_true, Bool.not_eq_true'] at hwf
  obtain ⟨⟨hee, hxe⟩, hwe⟩ := hwf
  dsimp only [evNode] at he
  by_cases hop : op = .set
  · subst hop
    simp only [comp, ↓reduceIte] at hat
    have hins := CodeAt.two hat.append_right
    simp only [comp_length] at hins
    refine ih.seq hwe (isE_not_unit hee) hxe (.refl _) hat.append_left he fun v σ1 P1 he => ?_
    simp only [applyF] at he; cases he
    exact Post.unit rfl (P1.ins hins (exec_storeV ..)) (by simp only [size, ↓reduceIte]; omega)
  · simp only [comp, if_neg hop] at hat
    have hlen : size ls (.assign x op e) = size ls e + 6 := by simp [size, hop]
    have hload := CodeAt.two hat.append_left.append_left.append_left
    have hate := hat.append_left.append_left.append_right
    have hbin := CodeAt.two hat.append_left.append_right
    have hsto := CodeAt.two hat.append_right
    simp only [List.length_append, two_length, comp_length] at hate hbin hsto
    -- the current value is loaded before the right-hand side runs
    have s0 := (Steps.refl (W := W) ⟨pc, stk, σ⟩).ins hload (exec_loadV ..)
    refine ih.seq hwe (isE_not_unit hee) hxe s0 hate he fun v σ1 P1 he => ?_
    have hbin := at_eq hbin (q := pc + 2 + size ls e) (by omega)
    cases ha : applyF op (σ.get ls x) v with
    | ok w =>
      simp only [ha] at he; cases he
      have P2 := P1.ins hbin (c' := ⟨pc + 2 + size ls e + 2, w :: stk, σ1⟩)
        (by simp [execIns, vBinaryF_assign op hop, ha])
      exact Post.unit rfl (P2.ins (at_eq hsto (by omega)) (exec_storeV ..)) (by rw [hlen]; omega)
    | error c =>
      simp only [ha] at he; cases he
      exact Post.fail P1 (by rw [step_of hbin]; simp [execIns, vBinaryF_assign op hop, ha])

theorem sim_postfix (x : String) (inc : Bool)
    (pc : Nat) (stk : List V) (σ : Env) (res : Out) (σ' : Env)
    (hat : CodeAt W.code pc (comp ls kb kc (.postfix x inc))) (he : evNode ls fuel rec app (.postfix x inc) σ = (res, σ')) :
    Post W ls kb kc (.postfix x inc) pc stk σ res σ' := by
  dsimp only [comp] at hat
  dsimp only [evNode] at he
  have hload := CodeAt.two hat.append_left.append_left.append_left
  have hcon := CodeAt.two hat.append_left.append_left.append_right
  have hbin := CodeAt.two hat.append_left.append_right
  have hsto := CodeAt.two hat.append_right
  simp only [List.length_append, two_length] at hcon hbin hsto
  have pre := ((Steps.refl (W := W) ⟨pc, stk, σ⟩).ins hload (exec_loadV ..)).ins hcon
    (c' := ⟨pc + 2 + 2, .int (if inc then 1 else -1) :: σ.get ls x :: stk, σ⟩) rfl
  cases ha : binopF .add (σ.get ls x) (.int (if inc then 1 else -1)) with
  | ok w =>
    simp only [ha] at he; cases he
    have s2 := pre.ins hbin (c' := ⟨pc + 2 + 2 + 2, w :: stk, σ⟩) (by simp [execIns, vBinaryF_add, ha])
    exact Post.unit rfl (s2.ins hsto (exec_storeV ..)) (by simp only [size])
  | error c =>
    simp only [ha] at he; cases he
    exact Post.fail pre (by rw [step_of hbin]; simp [execIns, vBinaryF_add, ha])

/-! ### loops -/

/-- the post-statement phase, and the result of a whole loop: value and unit both land at
    `tgt` with the loop's stack; no break/continue gets out -/
def PhaseTo (W : World) (c0 : Cfg) (tgt : Nat) (stk : List V) (r : Out) (σ' : Env) : Prop :=
  match r with
  | .val _ => Steps W c0 ⟨tgt, stk, σ'⟩
  | .unit => Steps W c0 ⟨tgt, stk, σ'⟩
  | .brk => False
  | .cont => False
  | .err c => Fails W c0 c σ'
  | .oof => True

theorem PhaseTo.pre {a b : Cfg} {tgt : Nat} {stk : List V} {r : Out} {σ' : Env}
    (l : PhaseTo W b tgt stk r σ') (h : Steps W a b) : PhaseTo W a tgt stk r σ' := by
  cases r with
  | val v => exact h.trans l
  | unit => exact h.trans l
  | err c => exact Fails.pre h l
  | _ => exact l

/-- the body phase: the block's value is popped and control is at the post statement; a
    `continue` lands there too, a `break` at the loop's exit -/
def BodyTo (W : World) (c0 : Cfg) (pcP pcX : Nat) (stk : List V) (r : Out) (σ' : Env) : Prop :=
  match r with
  | .val _ => Steps W c0 ⟨pcP, stk, σ'⟩
  | .cont => Steps W c0 ⟨pcP, stk, σ'⟩
  | .brk => Steps W c0 ⟨pcX, stk, σ'⟩
  | .unit => False
  | .err c => Fails W c0 c σ'
  | .oof => True

/-- the condition phase: a truthy value lands at the body, a falsy one at the exit -/
def CondTo (W : World) (c0 : Cfg) (pcB pcX : Nat) (stk : List V) (r : Out) (σ' : Env) : Prop :=
  match r with
  | .val v => Steps W c0 ⟨if v.truthy = true then pcB else pcX, stk, σ'⟩
  | .unit => False
  | .brk => False
  | .cont => False
  | .err c => Fails W c0 c σ'
  | .oof => True

/-- the generic loop: condition at `pc0` (exit to `pcX`), body at `pcB`, post statement at
    `pcP` ending with the backward jump to `pc0`; by induction on the iteration bound -/
theorem loop_sim {cond body post : Env → Out × Env} {pc0 pcB pcP pcX : Nat} {stk : List V}
    (HC : ∀ σ r σ1, cond σ = (r, σ1) → CondTo W ⟨pc0, stk, σ⟩ pcB pcX stk r σ1)
    (HB : ∀ σ r σ1, body σ = (r, σ1) → BodyTo W ⟨pcB, stk, σ⟩ pcP pcX stk r σ1)
    (HP : ∀ σ r σ1, post σ = (r, σ1) → PhaseTo W ⟨pcP, stk, σ⟩ pc0 stk r σ1) :
    ∀ k σ r σ', loopF cond body post k σ = (r, σ') →
      (∀ v, r ≠ .val v) ∧ PhaseTo W ⟨pc0, stk, σ⟩ pcX stk r σ' := by
  intro k
  induction k with
  | zero =>
    intro σ r σ' h
    simp only [loopF] at h; cases h
    exact ⟨(by intro v hv; cases hv), trivial⟩
  | succ k ihk =>
    intro σ r σ' h
    simp only [loopF] at h
    -- the post statement and the next round, from the state after the body
    have after : ∀ σ2, Steps W ⟨pc0, stk, σ⟩ ⟨pcP, stk, σ2⟩ →
        (match post σ2 with
          | (.unit, σ3) => loopF cond body post k σ3
          | (.val _, σ3) => loopF cond body post k σ3
          | other => other) = (r, σ') →
        (∀ v, r ≠ .val v) ∧ PhaseTo W ⟨pc0, stk, σ⟩ pcX stk r σ' := by
      intro σ2 pre0 h
      rcases hp : post σ2 with ⟨rp, σ3⟩
      have P := HP σ2 _ _ hp
      rw [hp] at h
      have next : Steps W ⟨pcP, stk, σ2⟩ ⟨pc0, stk, σ3⟩ → loopF cond body post k σ3 = (r, σ') →
          (∀ v, r ≠ .val v) ∧ PhaseTo W ⟨pc0, stk, σ⟩ pcX stk r σ' := by
        intro P h
        have R := ihk σ3 r σ' h
        exact ⟨R.1, R.2.pre (pre0.trans P)⟩
      cases rp with
      | val u => exact next P h
      | unit => exact next P h
      | brk => exact P.elim
      | cont => exact P.elim
      | err c =>
        simp only at h; cases h
        exact ⟨(by intro v hv; cases hv), Fails.pre pre0 P⟩
      | oof =>
        simp only at h; cases h
        exact ⟨(by intro v hv; cases hv), trivial⟩
    rcases seqV_elim h with ⟨v, σ1, hc, h⟩ | ⟨hnv, hx⟩
    · have C := HC σ _ _ hc
      simp only [CondTo] at C
      by_cases ht : v.truthy = true
      · simp only [ht, ↓reduceIte] at h C
        rcases hb : body σ1 with ⟨rb, σ2⟩
        have B := HB σ1 _ _ hb
        rw [hb] at h
        cases rb with
        | val w => exact after σ2 (C.trans B) h
        | cont => exact after σ2 (C.trans B) h
        | brk =>
          simp only at h; cases h
          exact ⟨(by intro v hv; cases hv), C.trans B⟩
        | unit => exact B.elim
        | err c =>
          simp only at h; cases h
          exact ⟨(by intro v hv; cases hv), Fails.pre C B⟩
        | oof =>
          simp only at h; cases h
          exact ⟨(by intro v hv; cases hv), trivial⟩
      · have ht' : v.truthy = false := by simpa using ht
        simp only [ht', Bool.false_eq_true, ↓reduceIte] at h C
        cases h
        exact ⟨(by intro v hv; cases hv), C⟩
    · have C := HC σ _ _ hx
      refine ⟨hnv, ?_⟩
      cases r with
      | val u => exact absurd rfl (hnv u)
      | unit => exact C.elim
      | brk => exact C.elim
      | cont => exact C.elim
      | err c => exact C
      | oof => trivial

/-- from the loop's phases to the statement's `Post` -/
theorem Post.of_loop {n : N} {pc q : Nat} {stk : List V} {σ σ' : Env} {r : Out}
    (hun : isUnitNode n = true)
    (h : (∀ v, r ≠ .val v) ∧ PhaseTo W ⟨pc, stk, σ⟩ q stk r σ') (e : q = pc + size ls n) :
    Post W ls kb kc n pc stk σ r σ' := by
  subst e
  cases r with
  | val v => exact absurd rfl (h.1 v)
  | unit => exact ⟨hun, h.2⟩
  | brk => exact h.2.elim
  | cont => exact h.2.elim
  | err c => exact ⟨trivial, h.2⟩
  | oof => exact ⟨trivial, trivial⟩

/-- the body phase of every loop: the block's value is popped; `continue` lands right after
    that `PopTop`, `break` `kbB` slots after the block, from where `hbrk` leads to the exit -/
theorem body_phase (ih : IH W ls rec) (b : N) (hwb : wf b = true) (hbb : isBlock b = true)
    (kbB pcB pcX : Nat) (stk : List V) (hatb : CodeAt W.code pcB (comp ls kbB 1 b))
    (hpop : W.code[pcB + size ls b]? = some (some .popTop))
    (hbrk : ∀ σ, Steps W ⟨pcB + size ls b + kbB, stk, σ⟩ ⟨pcX, stk, σ⟩) :
    ∀ σ r σ1, rec b σ = (r, σ1) → BodyTo W ⟨pcB, stk, σ⟩ (pcB + size ls b + 1) pcX stk r σ1 := by
  intro σ r σ1 h
  have P := ih b hwb kbB 1 pcB stk σ _ _ hatb h
  cases r with
  | val v => exact P.val_steps.ins hpop rfl
  | unit => cases (isBlock_not_unit hbb).symm.trans P.1
  | brk => exact Steps.trans P.2 (hbrk σ1)
  | cont => exact P.2
  | err c => exact P.2
  | oof => trivial

/-- the condition phase of `for c { }` and `for i; c; p { }`: the operand, then the conditional jump -/
theorem cond_phase (ih : IH W ls rec) (c : N) (hwc : wf c = true) (hec : isE c = true) (hxc : escapes c = false)
    (pc0 d : Nat) (stk : List V) (hatc : CodeAt W.code pc0 (comp ls 0 0 c))
    (hpjf : W.code[pc0 + size ls c]? = some (some (.pjf d))) :
    ∀ σ r σ1, rec c σ = (r, σ1) →
      CondTo W ⟨pc0, stk, σ⟩ (pc0 + size ls c + 2) (pc0 + size ls c + d) stk r σ1 := by
  intro σ r σ1 h
  have P := ih.operand (stk := stk) hwc (isE_not_unit hec) hxc hatc h
  cases r with
  | val v => exact Steps.ins P hpjf rfl
  | _ => exact P

theorem sim_forcond (ih : IH W ls rec) (c b : N)
    (hwf : wf (.forcond c b) = true) (pc : Nat) (stk : List V) (σ : Env) (res : Out) (σ' : Env)
    (hat : CodeAt W.code pc (comp ls kb kc (.forcond c b))) (he : evNode ls fuel rec app (.forcond c b) σ = (res, σ')) :
    Post W ls kb kc (.forcond c b) pc stk σ res σ' := by
  simp only [wf, Bool.and_eq_true, Bool.not_eq_true'] at hwf
  obtain ⟨⟨⟨⟨hec, hbb⟩, hxc⟩, hwc⟩, hwb⟩ := hwf
  dsimp only [comp] at hat
  dsimp only [evNode] at he
  have hlen : size ls (.forcond c b) = size ls c + size ls b + 6 := by simp [size]
  have hatc := hat.append_left.append_left.append_left.append_left.append_left
  have hpjf := CodeAt.two hat.append_left.append_left.append_left.append_left.append_right
  have hatb := hat.append_left.append_left.append_left.append_right
  have hpop := CodeAt.one hat.append_left.append_left.append_right
  have hjb := CodeAt.two hat.append_left.append_right
  have hnop := CodeAt.one hat.append_right
  simp only [List.length_append, two_length, one_length, comp_length] at hpjf hatb hpop hjb hnop
  have HC := cond_phase ih c hwc hec hxc pc (size ls b + 6) stk hatc hpjf
  have HB := body_phase ih b hwb hbb 3 (pc + size ls c + 2) (pc + size ls c + (size ls b + 6)) stk
    (hatb.cast (by omega)) (at_eq hpop (by omega))
    (Steps.nop (at_eq hnop (by omega)) (by omega) stk)
  have HP : ∀ σ r σ1, (fun σ => ((Out.unit, σ) : Out × Env)) σ = (r, σ1) →
      PhaseTo W ⟨pc + size ls c + 2 + size ls b + 1, stk, σ⟩ pc stk r σ1 := by
    intro σ r σ1 h
    cases h
    exact Steps.jb (at_eq hjb (by omega)) (by omega) stk σ
  exact Post.of_loop rfl (loop_sim HC HB HP fuel σ res σ' he) (by rw [hlen]; omega)

theorem sim_forever (ih : IH W ls rec) (b : N)
    (hwf : wf (.forever b) = true) (pc : Nat) (stk : List V) (σ : Env) (res : Out) (σ' : Env)
    (hat : CodeAt W.code pc (comp ls kb kc (.forever b))) (he : evNode ls fuel rec app (.forever b) σ = (res, σ')) :
    Post W ls kb kc (.forever b) pc stk σ res σ' := by
  simp only [wf, Bool.and_eq_true] at hwf
  obtain ⟨hbb, hwb⟩ := hwf
  dsimp only [comp] at hat
  dsimp only [evNode] at he
  have hlen : size ls (.forever b) = size ls b + 4 := by simp [size]
  have hatb := hat.append_left.append_left.append_left
  have hpop := CodeAt.one hat.append_left.append_left.append_right
  have hjb := CodeAt.two hat.append_left.append_right
  have hnop := CodeAt.one hat.append_right
  simp only [List.length_append, one_length, two_length, comp_length] at hpop hjb hnop
  have HC : ∀ σ r σ1, (fun σ => ((Out.val (.bool true), σ) : Out × Env)) σ = (r, σ1) →
      CondTo W ⟨pc, stk, σ⟩ pc (pc + size ls b + 4) stk r σ1 := by
    intro σ r σ1 h
    cases h
    exact .refl _
  have HB := body_phase ih b hwb hbb 3 pc (pc + size ls b + 4) stk hatb hpop
    (Steps.nop (at_eq hnop (by omega)) (by omega) stk)
  have HP : ∀ σ r σ1, (fun σ => ((Out.unit, σ) : Out × Env)) σ = (r, σ1) →
      PhaseTo W ⟨pc + size ls b + 1, stk, σ⟩ pc stk r σ1 := by
    intro σ r σ1 h
    cases h
    exact Steps.jb (at_eq hjb (by omega)) (by omega) stk σ
  exact Post.of_loop rfl (loop_sim HC HB HP fuel σ res σ' he) (by rw [hlen]; omega)

theorem isPost_cases {n : N} (h : isPost n = true) : isUnitNode n = true ∨ leaves n = true := by
  cases n <;> simp_all [isPost, isUnitNode, leaves]

theorem sim_for3 (ih : IH W ls rec) (i c p b : N)
    (hwf : wf (.for3 i c p b) = true) (pc : Nat) (stk : List V) (σ : Env) (res : Out) (σ' : Env)
    (hat : CodeAt W.code pc (comp ls kb kc (.for3 i c p b))) (he : evNode ls fuel rec app (.for3 i c p b) σ = (res, σ')) :
    Post W ls kb kc (.for3 i c p b) pc stk σ res σ' := by
  simp only [wf, Bool.and_eq_true, Bool.not_eq_true'] at hwf
  obtain ⟨⟨⟨⟨⟨⟨⟨⟨⟨⟨hii, hec⟩, hpp⟩, hbb⟩, hxi⟩, hxc⟩, hxp⟩, hwi⟩, hwc⟩, hwp⟩, hwb⟩ := hwf
  dsimp only [comp] at hat
  dsimp only [evNode] at he
  -- `w`: the slots of the post statement with the `PopTop` of its value
  obtain ⟨w, hw⟩ : ∃ w, w = size ls p + (if leaves p = true then 1 else 0) := ⟨_, rfl⟩
  rw [← hw] at hat
  have hlen : size ls (.for3 i c p b) = size ls i + size ls c + size ls b + w + 5 := by simp [size, hw]
  have hati := hat.append_left.append_left.append_left.append_left.append_left.append_left.append_left
  have hatc := hat.append_left.append_left.append_left.append_left.append_left.append_left.append_right
  have hpjf := CodeAt.two hat.append_left.append_left.append_left.append_left.append_left.append_right
  have hatb := hat.append_left.append_left.append_left.append_left.append_right
  have hpop := CodeAt.one hat.append_left.append_left.append_left.append_right
  have hatp := hat.append_left.append_left.append_right
  have hpp2 := hat.append_left.append_right
  have hjb := CodeAt.two hat.append_right
  simp only [List.length_append, two_length, one_length, comp_length] at hatc hpjf hatb hpop hatp hpp2 hjb
  -- `pcP`: the post statement; the loop proper starts after the init statement
  obtain ⟨pcP, hP⟩ : ∃ pcP, pcP = pc + size ls i + size ls c + 2 + size ls b + 1 := ⟨_, rfl⟩
  have HC := cond_phase ih c hwc hec hxc (pc + size ls i) (size ls b + w + 5) stk hatc (at_eq hpjf (by omega))
  have HB := body_phase ih b hwb hbb (w + 3) (pc + size ls i + size ls c + 2)
    (pc + size ls i + size ls c + (size ls b + w + 5)) stk (hatb.cast (by omega)) (at_eq hpop (by omega))
    (fun σ => (Steps.refl _).cast (by omega))
  have HP : ∀ σ r σ1, rec p σ = (r, σ1) → PhaseTo W ⟨pcP, stk, σ⟩ (pc + size ls i) stk r σ1 := by
    intro σ r σ1 h
    have P := ih p hwp 0 0 pcP stk σ _ _ (hatp.cast (by omega)) h
    cases r with
    | val v =>
      -- a value is left by an expression statement only: it is popped
      have hl : leaves p = true := (isPost_cases hpp).resolve_left (by rw [P.1]; nofun)
      rw [if_pos hl] at hpp2 hjb hw
      have s1 := P.val_steps.ins (at_eq (CodeAt.one hpp2) (by omega)) (c' := ⟨pcP + size ls p + 1, stk, σ1⟩) rfl
      exact s1.trans (Steps.jb (at_eq hjb (by simp only [one_length]; omega)) (by omega) stk σ1)
    | unit =>
      rw [if_neg (by rw [unit_not_leaves P.1]; nofun)] at hjb hw
      exact P.unit_steps.trans (Steps.jb (at_eq hjb (by simp only [List.length_nil]; omega)) (by omega) stk σ1)
    | brk => cases hxp.symm.trans P.1
    | cont => cases hxp.symm.trans P.1
    | err e => exact P.2
    | oof => trivial
  -- the init statement
  rcases hi : rec i σ with ⟨r1, σ1⟩
  have Pi := ih i hwi 0 0 pc stk σ _ _ hati hi
  rw [hi] at he
  cases r1 with
  | val v => cases (isInit_unit hii).symm.trans Pi.1
  | brk => cases hxi.symm.trans Pi.1
  | cont => cases hxi.symm.trans Pi.1
  | err e => cases he; exact ⟨trivial, Pi.2⟩
  | oof => cases he; exact ⟨trivial, trivial⟩
  | unit =>
    subst hP
    have R := loop_sim HC HB HP fuel σ1 res σ' he
    exact Post.of_loop rfl ⟨R.1, R.2.pre Pi.unit_steps⟩ (by rw [hlen]; omega)

/-! ### switch -/

/-- the comparisons of one case: on a match control is `k` slots after them (at the case's
    body), otherwise right after them; the subject stays on the stack -/
theorem vals_sim (ih : IH W ls rec) (sv : V) (stk : List V) :
    ∀ (vs : N), wfVals vs = true → ∀ (k P : Nat) (σ : Env) (res : Except Out Bool) (σ' : Env),
      CodeAt W.code P (compVals ls k vs) → matchValsF rec sv vs σ = (res, σ') →
      (match res with
       | .ok true => Steps W ⟨P, sv :: stk, σ⟩ ⟨P + valsLen ls vs + k, sv :: stk, σ'⟩
       | .ok false => Steps W ⟨P, sv :: stk, σ⟩ ⟨P + valsLen ls vs, sv :: stk, σ'⟩
       | .error o => ErrTo W ⟨P, sv :: stk, σ⟩ o σ') := by
  intro vs
  induction vs with
  | nilL =>
    intro _ k P σ res σ' _ he
    simp only [matchValsF] at he; cases he
    simp only [valsLen]; exact .refl _
  | cons v vs _ ihvs =>
    intro hw k P σ res σ' hat he
    simp only [wfVals, Bool.and_eq_true, Bool.not_eq_true'] at hw
    obtain ⟨⟨⟨hev, hxv⟩, hwv⟩, hwvs⟩ := hw
    simp only [compVals] at hat
    simp only [matchValsF] at he
    have hcopy := CodeAt.two hat.append_left.append_left.append_left.append_left
    have hatv := hat.append_left.append_left.append_left.append_right
    have hcmp := CodeAt.two hat.append_left.append_left.append_right
    have hpjt := CodeAt.two hat.append_left.append_right
    have hatvs := hat.append_right
    simp only [List.length_append, two_length, comp_length] at hatv hcmp hpjt hatvs
    have hlen : valsLen ls (.cons v vs) = size ls v + 6 + valsLen ls vs := by simp [valsLen]
    -- the subject is copied, the value runs above the copy
    have s1 := (Steps.refl (W := W) ⟨P, sv :: stk, σ⟩).ins hcopy (c' := ⟨P + 2, sv :: sv :: stk, σ⟩) rfl
    rcases hv : rec v σ with ⟨o, σ1⟩
    rw [hv] at he
    have Pv := (ih.operand hwv (isE_not_unit hev) hxv hatv hv).pre s1
    cases o with
    | val x =>
      simp only at he
      have s2 := Steps.ins Pv (at_eq hcmp (by omega))
        (c' := ⟨P + 2 + size ls v + 2, .bool (sv == x) :: sv :: stk, σ1⟩) (by simp [execIns, vCompareF])
      have s3 := s2.ins (at_eq hpjt (by omega)) (c' := ⟨if (sv == x) = true
        then P + 2 + size ls v + 2 + (valsLen ls vs + k + 2) else P + 2 + size ls v + 2 + 2, sv :: stk, σ1⟩) rfl
      by_cases heq : (sv == x) = true
      · rw [if_pos heq] at he s3; cases he
        exact s3.cast (by rw [hlen]; omega)
      · rw [if_neg heq] at he s3
        have R := ihvs hwvs k (P + 2 + size ls v + 2 + 2) σ1 res σ' (hatvs.cast (by omega)) he
        cases res with
        | ok b => cases b <;> exact (s3.trans R).cast (by rw [hlen]; omega)
        | error o => exact R.pre s3
    | _ => simp only at he; cases he; exact Pv.err nofun
  | _ => intro hw; simp [wfVals] at hw

theorem dflt_facts : ∀ (cs : N), wfCases cs = true →
    (match dfltBody cs with
     | some b => compDflt ls cs = comp ls 0 0 b ∧ defLen ls cs = size ls b ∧ wf b = true ∧ isBlock b = true ∧ escapes b = false
     | none => compDflt ls cs = one .nil_ ∧ defLen ls cs = 1) := by
  intro cs
  induction cs with
  | nilL => intro _; simp [dfltBody, compDflt, defLen]
  | cons h t _ iht =>
    intro hw
    simp only [wfCases, Bool.and_eq_true] at hw
    obtain ⟨hwh, hwt⟩ := hw
    cases h with
    | case_ vals body =>
      have := iht hwt
      simp only [dfltBody, compDflt, defLen, isDefault, Bool.false_eq_true, ↓reduceIte]
      exact this
    | default_ b =>
      simp only [wfCase, Bool.and_eq_true, Bool.not_eq_true'] at hwh
      simp [dfltBody, compDflt, defLen, isDefault, compDfltBody, dfltBodyLen, hwh.1.1, hwh.1.2, hwh.2]
    | _ => simp [wfCase] at hwh
  | _ => intro hw; simp [wfCases] at hw

/-- the two sections of a switch, for a suffix `cs` of the case list whose comparisons sit at
    `P` and whose bodies sit `before` slots into the body section `Bs`: whatever
    `evCasesF` selects (a case body, the default, nil), its value lands on the `Swap` at `Wp`, above the subject -/
theorem cases_sim (ih : IH W ls rec) (sv : V) (stk : List V) (dflt : Option N) (E Bs D Wp d : Nat)
    (hBs : Bs = E + 2) (hW : Wp = D + d)
    (hjd : ∀ σ, Steps W ⟨E, sv :: stk, σ⟩ ⟨D, sv :: stk, σ⟩)
    (hdef : ∀ σ res σ', runDflt rec dflt σ = (res, σ') → ValTo W ⟨D, sv :: stk, σ⟩ Wp (sv :: stk) res σ') :
    ∀ (cs : N), wfCases cs = true → ∀ (before P : Nat) (σ : Env) (res : Out) (σ' : Env),
      CodeAt W.code P (compCmp ls before cs) → P + cmpLen ls cs = E →
      CodeAt W.code (Bs + before) (compBodies ls d cs) → Bs + before + bodiesLen ls cs = D →
      evCasesF rec sv dflt cs σ = (res, σ') →
      ValTo W ⟨P, sv :: stk, σ⟩ Wp (sv :: stk) res σ' := by
  intro cs
  induction cs with
  | nilL =>
    intro _ before P σ res σ' _ hP _ _ he
    simp only [cmpLen, Nat.add_zero] at hP
    subst hP
    simp only [evCasesF] at he
    exact (hdef σ res σ' he).pre (hjd σ)
  | cons h t _ iht =>
    intro hw before P σ res σ' hatc hP hatb hB he
    simp only [wfCases, Bool.and_eq_true] at hw
    obtain ⟨hwh, hwt⟩ := hw
    cases h with
    | case_ vals body =>
      simp only [wfCase, Bool.and_eq_true, Bool.not_eq_true'] at hwh
      obtain ⟨⟨⟨hwv, hbb⟩, hxb⟩, hwb⟩ := hwh
      simp only [compCmp, compCmpCase, caseBodyLen] at hatc
      simp only [compBodies, compBody] at hatb
      simp only [cmpLen, caseCmpLen] at hP
      simp only [bodiesLen, caseBodyLen] at hB
      simp only [evCasesF] at he
      have hatv := hatc.append_left
      have hatc' := hatc.append_right
      have hatbody := hatb.append_left.append_left
      have hjf := CodeAt.two hatb.append_left.append_right
      have hatb' := hatb.append_right
      simp only [List.length_append, two_length, comp_length, compVals_length] at hatc' hjf hatb'
      rcases hm : matchValsF rec sv vals σ with ⟨m, σ1⟩
      rw [hm] at he
      have V := vals_sim ih sv stk vals hwv (cmpLen ls t + 2 + before) P σ m σ1 hatv hm
      cases m with
      | ok b =>
        cases b with
        | true =>
          -- the case's body, then the jump over the remaining bodies and the default
          simp only at he V
          have B := ih.operand (stk := sv :: stk) hwb (isBlock_not_unit hbb) hxb hatbody he
          refine (B.andThen fun v => ?_).pre (V.cast (by omega))
          exact Steps.jf hjf (by omega) _ σ'
        | false =>
          simp only at he V
          exact (iht hwt (before + (size ls body + 2)) (P + valsLen ls vals) σ1 res σ' hatc' (by omega)
            (hatb'.cast (by omega)) (by omega) he).pre V
      | error o =>
        simp only at he V; cases he
        exact V.valTo
    | default_ b =>
      simp only [compCmp, compCmpCase, caseBodyLen, List.nil_append, Nat.add_zero] at hatc
      simp only [compBodies, compBody, List.nil_append] at hatb
      simp only [cmpLen, caseCmpLen, Nat.zero_add] at hP
      simp only [bodiesLen, caseBodyLen, Nat.zero_add] at hB
      simp only [evCasesF] at he
      exact iht hwt before P σ res σ' hatc hP hatb hB he
    | _ => simp [wfCase] at hwh
  | _ => intro hw; simp [wfCases] at hw

theorem sim_switch (ih : IH W ls rec) (subj cases : N)
    (hwf : wf (.switch subj cases) = true) (pc : Nat) (stk : List V) (σ : Env) (res : Out) (σ' : Env)
    (hat : CodeAt W.code pc (comp ls kb kc (.switch subj cases))) (he : evNode ls fuel rec app (.switch subj cases) σ = (res, σ')) :
    Post W ls kb kc (.switch subj cases) pc stk σ res σ' := by
  simp only [wf, Bool.and_eq_true, Bool.not_eq_true'] at hwf
  obtain ⟨⟨⟨⟨hes, hxs⟩, hws⟩, hwc⟩, _⟩ := hwf
  dsimp only [comp] at hat
  dsimp only [evNode] at he
  have hlen : size ls (.switch subj cases) = size ls subj + cmpLen ls cases + 2 + bodiesLen ls cases + defLen ls cases + 3 := by
    simp [size]
  have hats := hat.append_left.append_left.append_left.append_left.append_left.append_left
  have hatc := hat.append_left.append_left.append_left.append_left.append_left.append_right
  have hjd := CodeAt.two hat.append_left.append_left.append_left.append_left.append_right
  have hatb := hat.append_left.append_left.append_left.append_right
  have hatd := hat.append_left.append_left.append_right
  have hswap := CodeAt.two hat.append_left.append_right
  have hpop := CodeAt.one hat.append_right
  simp only [List.length_append, two_length, comp_length, compCmp_length, compBodies_length, compDflt_length]
    at hatc hjd hatb hatd hswap hpop
  refine ih.seq hws (isE_not_unit hes) hxs (.refl _) hats he fun sv σ1 Ps he => ?_
  -- `E`: the jump after the comparisons; `D`: the default section; `Wp`: the `Swap`
  obtain ⟨E, hE⟩ : ∃ E, E = pc + size ls subj + cmpLen ls cases := ⟨_, rfl⟩
  obtain ⟨D, hD⟩ : ∃ D, D = E + 2 + bodiesLen ls cases := ⟨_, rfl⟩
  obtain ⟨Wp, hWp⟩ : ∃ Wp, Wp = D + defLen ls cases := ⟨_, rfl⟩
  have hjd' : ∀ σ, Steps W ⟨E, sv :: stk, σ⟩ ⟨D, sv :: stk, σ⟩ := Steps.jf (at_eq hjd (by omega)) (by omega) _
  have hdef : ∀ σ res σ', runDflt rec (dfltBody cases) σ = (res, σ') →
      ValTo W ⟨D, sv :: stk, σ⟩ Wp (sv :: stk) res σ' := by
    intro σ res σ' h
    have F := dflt_facts (ls := ls) cases hwc
    cases hd : dfltBody cases with
    | some b =>
      rw [hd] at F h
      obtain ⟨hc, hl, hwb, hbb, hxb⟩ := F
      rw [hc] at hatd
      rw [hWp, hl]
      exact ih.operand hwb (isBlock_not_unit hbb) hxb (hatd.cast (by omega)) h
    | none =>
      rw [hd] at F h
      obtain ⟨hc, hl⟩ := F
      rw [hc] at hatd
      cases h
      exact (Steps.refl _).ins (at_eq (CodeAt.one hatd) (by omega)) (c' := ⟨Wp, .nil :: sv :: stk, σ⟩)
        (by rw [hWp, hl]; rfl)
  have R := cases_sim ih sv stk (dfltBody cases) E (E + 2) D Wp (defLen ls cases) rfl hWp hjd' hdef
    cases hwc 0 (pc + size ls subj) σ1 res σ' hatc hE.symm (hatb.cast (by omega)) (by omega) he
  -- the value is swapped with the subject, the subject popped
  refine Post.of_valTo rfl ((R.andThen (q' := Wp + 3) (stk' := stk) fun v => ?_).pre Ps) (by rw [hlen]; omega)
  exact ((Steps.refl _).ins (at_eq hswap (by omega)) (c' := ⟨Wp + 2, sv :: v :: stk, σ'⟩) rfl).ins
    (at_eq hpop (by omega)) (c' := ⟨Wp + 3, v :: stk, σ'⟩) rfl

/-! ### calls, `return`, function bodies -/

theorem mstep_call {W : World} {pc n : Nat} (h : W.code[pc]? = some (some (.call n))) (stk : List V) (σ : Env) :
    mstep W.P (W.at ⟨pc, stk, σ⟩) = doCall W.P n (W.at ⟨pc, stk, σ⟩) := by
  unfold mstep
  simp only [World.at]
  have hc : W.P.codeOf W.fn = W.code := rfl
  rw [hc, h]

theorem mstep_ret {W : World} {pc : Nat} (h : W.code[pc]? = some (some .ret)) (stk : List V) (σ : Env) :
    mstep W.P (W.at ⟨pc, stk, σ⟩) = doRet (W.at ⟨pc, stk, σ⟩) := by
  unfold mstep
  simp only [World.at]
  have hc : W.P.codeOf W.fn = W.code := rfl
  rw [hc, h]

/-- `ReturnValue` with `v` on top: the activation is left with `v` -/
theorem ret_fails {W : World} {pc : Nat} {v : V} {stk : List V} {σ : Env} (h : W.code[pc]? = some (some .ret)) :
    Fails W ⟨pc, v :: stk, σ⟩ (.ret v) σ := by
  have hm := mstep_ret h (v :: stk) σ
  cases hfs : W.fs with
  | nil =>
    refine ⟨W.at ⟨pc, v :: stk, σ⟩, .refl _, ?_⟩
    simp only [Final, hfs]
    refine ⟨rfl, ?_⟩
    rw [hm]
    simp [doRet, World.at, hfs]
  | cons fr fs' =>
    refine ⟨{ cfg := ⟨fr.pc, v :: fr.stk, ⟨fr.act, σ.sh⟩⟩, fn := fr.fn, frames := fs' }, MSteps.one ?_, ?_⟩
    · rw [hm]
      simp [doRet, World.at, hfs]
    · simp only [Final, hfs]

/-- the arguments of a call: their values are pushed left to right -/
theorem args_sim (ih : IH W ls rec) :
    ∀ (as : N), wfVals as = true → ∀ (P : Nat) (stk : List V) (σ : Env) (res : Except Out (List V)) (σ' : Env),
      CodeAt W.code P (compArgs ls as) → evArgsF rec as σ = (res, σ') →
      (match res with
       | .ok vs => vs.length = argCount as ∧ Steps W ⟨P, stk, σ⟩ ⟨P + argsLen ls as, vs.reverse ++ stk, σ'⟩
       | .error o => ErrTo W ⟨P, stk, σ⟩ o σ') := by
  intro as
  induction as with
  | nilL =>
    intro _ P stk σ res σ' _ he
    simp only [evArgsF] at he; cases he
    simp only [argsLen, argCount]
    exact ⟨rfl, .refl _⟩
  | cons a as _ ihas =>
    intro hw P stk σ res σ' hat he
    simp only [wfVals, Bool.and_eq_true, Bool.not_eq_true'] at hw
    obtain ⟨⟨⟨hea, hxa⟩, hwa⟩, hwas⟩ := hw
    simp only [compArgs] at hat
    simp only [evArgsF] at he
    have hatas := hat.append_right
    simp only [comp_length] at hatas
    rcases ha : rec a σ with ⟨o, σ1⟩
    rw [ha] at he
    have Pa := ih.operand (stk := stk) hwa (isE_not_unit hea) hxa hat.append_left ha
    cases o with
    | val v =>
      simp only at he
      rcases hr : evArgsF rec as σ1 with ⟨res2, σ2⟩
      rw [hr] at he
      have R := ihas hwas (P + size ls a) (v :: stk) σ1 res2 σ2 hatas hr
      cases res2 with
      | ok vs =>
        simp only at he R; cases he
        obtain ⟨hn, Rs⟩ := R
        refine ⟨by simp [argCount, hn], ?_⟩
        rw [List.reverse_cons, List.append_assoc]
        exact (Steps.trans Pa Rs).cast (by simp only [argsLen]; omega)
      | error o2 =>
        simp only at he R; cases he
        exact R.pre Pa
    | _ => simp only at he; cases he; exact Pa.err nofun
  | _ => intro hw; simp [wfVals] at hw

/-- **what a call does, seen from the caller** (`call_returns_one`): from the `Call n` instruction
    with the callee and its `n` arguments on top of `stk`, a call that yields `v` runs to the
    instruction after the `Call` with `v` pushed on `stk`, the caller's locals as they were and
    the globals the callee left; a call that fails raises the same error class -/
def CallOK (W : World) (app : V → List V → Sh → Out × Sh) : Prop :=
  ∀ (fv : V) (vs : List V) (G : Sh) (r : Out) (G' : Sh), app fv vs G = (r, G') →
    ∀ (pc : Nat) (stk : List V) (loc : Act), W.code[pc]? = some (some (.call vs.length)) →
      (match r with
       | .val v => Steps W ⟨pc, vs.reverse ++ fv :: stk, ⟨loc, G⟩⟩ ⟨pc + 2, v :: stk, ⟨loc, G'⟩⟩
       | .err x => (∀ v, x ≠ .ret v) ∧ Fails W ⟨pc, vs.reverse ++ fv :: stk, ⟨loc, G⟩⟩ x ⟨loc, G'⟩
       | .oof => True
       | _ => False)

theorem sim_call (ih : IH W ls rec) (happ : CallOK W app) (fe args : N)
    (hwf : wf (.call fe args) = true) (pc : Nat) (stk : List V) (σ : Env) (res : Out) (σ' : Env)
    (hat : CodeAt W.code pc (comp ls kb kc (.call fe args))) (he : evNode ls fuel rec app (.call fe args) σ = (res, σ')) :
    Post W ls kb kc (.call fe args) pc stk σ res σ' := by
  simp only [wf, Bool.and_eq_true, Bool.not_eq_true'] at hwf
  obtain ⟨⟨⟨hef, hxf⟩, hwfe⟩, hwa⟩ := hwf
  dsimp only [comp] at hat
  dsimp only [evNode] at he
  have hlen : size ls (.call fe args) = size ls fe + argsLen ls args + 2 := by simp [size]
  have hatf := hat.append_left.append_left
  have hata := hat.append_left.append_right
  have hcall := CodeAt.two hat.append_right
  simp only [List.length_append, comp_length, compArgs_length] at hata hcall
  refine ih.seq hwfe (isE_not_unit hef) hxf (.refl _) hatf he fun fv σ1 Pf he => ?_
  rcases ha : evArgsF rec args σ1 with ⟨ra, σ2⟩
  rw [ha] at he
  have A := args_sim ih args hwa (pc + size ls fe) (fv :: stk) σ1 ra σ2 hata ha
  cases ra with
  | ok vs =>
    simp only at he A
    obtain ⟨hn, As⟩ := A
    rcases hap : app fv vs σ2.sh with ⟨r, G'⟩
    rw [hap] at he
    cases he
    have C := happ fv vs σ2.sh r G' hap (pc + size ls fe + argsLen ls args) stk σ2.act
      (by rw [hn]; exact at_eq hcall (by omega))
    refine Post.of_valTo rfl (ValTo.pre (q := pc + size ls fe + argsLen ls args + 2) ?_ (Pf.trans As))
      (by rw [hlen]; omega)
    cases r with
    | val v => exact C
    | err x => exact C.2
    | oof => trivial
    | _ => exact C.elim
  | error o =>
    simp only at he A; cases he
    exact Post.of_valTo rfl (A.valTo.pre Pf) rfl

theorem sim_return (ih : IH W ls rec) (e : N)
    (hwf : wf (.return_ e) = true) (pc : Nat) (stk : List V) (σ : Env) (res : Out) (σ' : Env)
    (hat : CodeAt W.code pc (comp ls kb kc (.return_ e))) (he : evNode ls fuel rec app (.return_ e) σ = (res, σ')) :
    Post W ls kb kc (.return_ e) pc stk σ res σ' := by
  simp only [wf, Bool.and_eq_true, Bool.not_eq_true', Bool.or_eq_true] at hwf
  obtain ⟨⟨hee, hxe⟩, hwe⟩ := hwf
  dsimp only [comp] at hat
  dsimp only [evNode] at he
  have hins := CodeAt.one hat.append_right
  simp only [comp_length] at hins
  have hue : isUnitNode e = false := by
    rcases hee with h | h
    · exact isE_not_unit h
    · exact isNone_not_unit h
  rcases h1 : rec e σ with ⟨r1, σ1⟩
  rw [h1] at he
  have P1 := ih.operand (stk := stk) hwe hue hxe hat.append_left h1
  cases r1 with
  | val v => cases he; exact ⟨trivial, Fails.pre P1 (ret_fails hins)⟩
  | err x => cases he; exact ⟨trivial, P1⟩
  | oof => cases he; exact ⟨trivial, trivial⟩
  | _ => exact P1.elim

/-! ### function literals: `MakeCell` per capture, `LoadClosure` -/

/-- `MakeCell x 0` for every capture pushes the cells of the RUNNING activation, the first deepest -/
theorem cells_steps (us : List String) : ∀ (pc : Nat) (stk : List V) (σ : Env),
    CodeAt W.code pc (us.flatMap (fun x => three (.makeCell x))) →
    Steps W ⟨pc, stk, σ⟩ ⟨pc + 3 * us.length, (us.map (fun x => V.cell σ.act.id x)).reverse ++ stk, σ⟩ := by
  induction us with
  | nil => intro pc stk σ _; exact (Steps.refl _).cast (by simp)
  | cons x r ih =>
    intro pc stk σ hat
    simp only [List.flatMap_cons] at hat
    have s1 := (Steps.refl (W := W) ⟨pc, stk, σ⟩).ins (CodeAt.head hat.append_left)
      (c' := ⟨pc + 3, .cell σ.act.id x :: stk, σ⟩) rfl
    have h2 := ih (pc + 3) (.cell σ.act.id x :: stk) σ (by simpa using hat.append_right)
    have e : (List.map (fun x => V.cell σ.act.id x) (x :: r)).reverse ++ stk
        = (List.map (fun x => V.cell σ.act.id x) r).reverse ++ V.cell σ.act.id x :: stk := by simp
    rw [e]
    exact (s1.trans h2).cast (by simp only [List.length_cons]; omega)

theorem popCells_all (l : List Cell) : ∀ (stk : List V) (acc : List Cell),
    popCells l.length (l.map (fun c => V.cell c.1 c.2) ++ stk) acc = some (l.reverse ++ acc, stk) := by
  induction l with
  | nil => intro stk acc; rfl
  | cons c r ih =>
    intro stk acc
    obtain ⟨a, x⟩ := c
    simp only [List.length_cons, List.map_cons, List.cons_append, popCells, ih, List.reverse_cons, List.append_assoc,
      List.cons_append, List.nil_append]

theorem popCells_made (a : Nat) (us : List String) (stk : List V) :
    popCells us.length ((us.map (fun x => V.cell a x)).reverse ++ stk) [] = some (us.map (fun x => (a, x)), stk) := by
  have := popCells_all ((us.map (fun x => ((a, x) : Cell))).reverse) stk []
  simpa [List.map_reverse, Function.comp_def] using this

/-- the code that pushes a function literal's value (`mkCode`) is `mkClo` -/
theorem mk_steps (lit : N) (pc : Nat) (stk : List V) (σ : Env) (hat : CodeAt W.code pc (mkCode ls lit)) :
    Steps W ⟨pc, stk, σ⟩ ⟨pc + mkLen ls lit, (mkClo ls lit σ).1 :: stk, (mkClo ls lit σ).2⟩ := by
  unfold mkCode at hat
  unfold mkLen mkClo
  by_cases hc : (capt ls.ls lit).isEmpty = true
  · simp only [hc, ↓reduceIte] at hat ⊢
    exact (Steps.refl _).ins (CodeAt.two hat) rfl
  · simp only [hc, Bool.false_eq_true, ↓reduceIte] at hat ⊢
    have h1 := cells_steps (capt ls.ls lit) pc stk σ hat.append_left
    have hins : W.code[pc + 3 * (capt ls.ls lit).length]? = some (some (.loadClosure (lit, ls.ls) (capt ls.ls lit).length)) := by
      have := CodeAt.head hat.append_right
      rwa [cells_code_length] at this
    exact (h1.ins hins (c' := ⟨pc + 3 * (capt ls.ls lit).length + 3,
        .clo σ.sh.next (lit, ls.ls) ((capt ls.ls lit).map fun x => (σ.act.id, x)) :: stk,
        { σ with sh := { σ.sh with next := σ.sh.next + 1 } }⟩) (by simp only [execIns, popCells_made])).cast (by omega)

/-- `func f(…) { … }` as a statement: the function, a copy, the store under the name, and the
    `PopTop` of the copy -/
theorem sim_fundecl (e : N) (hf : isNamed e = true) (pc : Nat) (stk : List V) (σ : Env) (res : Out) (σ' : Env)
    (hat : CodeAt W.code pc (comp ls kb kc (.expr e))) (he : evNode ls fuel rec app (.expr e) σ = (res, σ')) :
    Post W ls kb kc (.expr e) pc stk σ res σ' := by
  simp only [comp, hf, ↓reduceIte] at hat
  simp only [evNode, hf, ↓reduceIte] at he
  cases he
  have h1 := mk_steps e pc stk σ hat.append_left.append_left.append_left
  have h2 := CodeAt.two hat.append_left.append_left.append_right
  have h3 := CodeAt.two hat.append_left.append_right
  have h4 := CodeAt.one hat.append_right
  simp only [List.length_append, two_length, mkCode_length] at h2 h3 h4
  generalize (mkClo ls e σ).1 = v at *
  generalize (mkClo ls e σ).2 = σ1 at *
  have s2 := h1.ins h2 (c' := ⟨pc + mkLen ls e + 2, v :: v :: stk, σ1⟩) rfl
  have s3 := s2.ins (at_eq h3 (by omega)) (exec_storeV ..)
  have s4 := s3.ins (at_eq h4 (by omega)) (c' := ⟨pc + mkLen ls e + 2 + 2 + 1, stk, σ1.set ls (funcName e) v⟩) rfl
  exact Post.unit (by simp [isUnitNode, hf]) s4 (by simp [size, hf]; omega)

/-- a function literal as an expression -/
theorem sim_func (name : String) (ps b : N) (pc : Nat) (stk : List V) (σ : Env) (res : Out) (σ' : Env)
    (hat : CodeAt W.code pc (comp ls kb kc (.func name ps b)))
    (he : evNode ls fuel rec app (.func name ps b) σ = (res, σ')) :
    Post W ls kb kc (.func name ps b) pc stk σ res σ' := by
  dsimp only [comp] at hat
  dsimp only [evNode] at he
  cases he
  exact Post.val rfl (mk_steps (.func name ps b) pc stk σ hat) (by simp only [size])

/-- how the body of a function ends: a value (of the last expression statement, or nil) and a
    `return v` both leave the activation with the value; an error is raised; nothing else -/
def BodyEnds (W : World) (c0 : Cfg) (r : Out) (σ' : Env) : Prop :=
  match r with
  | .val v => Fails W c0 (.ret v) σ'
  | .err x => Fails W c0 x σ'
  | .oof => True
  | _ => False

theorem BodyEnds.pre {c0 c1 : Cfg} {r : Out} {σ' : Env} (l : BodyEnds W c1 r σ') (h : Steps W c0 c1) :
    BodyEnds W c0 r σ' := by
  cases r with
  | val v => exact Fails.pre h l
  | err x => exact Fails.pre h l
  | _ => exact l

/-- a statement of a function body (no break/continue leaves it) that is not a top-level `return`: the run
    stands after it, with its value on the stack exactly when it is an expression statement -/
theorem stmt_steps (ih : IH W ls rec) (h : N) (hwh : wf h = true) (hsh : isS h = true) (hxh : escapes h = false)
    {pc : Nat} {stk : List V} {σ σ1 : Env} {r1 : Out}
    (hat : CodeAt W.code pc (pre ls h ++ comp ls 0 0 h)) (hh : rec h σ = (r1, σ1)) :
    (match r1 with
     | .val v => leaves h = true ∧ Steps W ⟨pc, stk, σ⟩ ⟨pc + (preLen h + size ls h), v :: stk, σ1⟩
     | .unit => leaves h = false ∧ Steps W ⟨pc, stk, σ⟩ ⟨pc + (preLen h + size ls h), stk, σ1⟩
     | .err x => Fails W ⟨pc, stk, σ⟩ x σ1
     | .oof => True
     | _ => False) := by
  simp only [isS, Bool.or_eq_true] at hsh
  have hpre := pre_steps h pc stk σ hat.append_left
  have hath := hat.append_right
  simp only [pre_length] at hath
  have Ph := ih h hwh 0 0 _ stk σ _ _ hath hh
  cases r1 with
  | val v => exact ⟨hsh.resolve_left (by rw [Ph.1]; nofun), (hpre.trans Ph.val_steps).cast (by omega)⟩
  | unit => exact ⟨unit_not_leaves Ph.1, (hpre.trans Ph.unit_steps).cast (by omega)⟩
  | brk => cases hxh.symm.trans Ph.1
  | cont => cases hxh.symm.trans Ph.1
  | err x => exact Fails.pre hpre Ph.2
  | oof => trivial

/-- a function body as `compileFunctionBlock` compiles it, run by `evBody` -/
theorem body_sim (ih : IH W ls rec)
    (hret : ∀ e σ r σ', rec (.return_ e) σ = (r, σ') → r ≠ .unit ∧ ∀ v, r ≠ .val v) :
    ∀ (stmts : N), isL stmts = true → escapes stmts = false → wf stmts = true →
    ∀ (pc : Nat) (stk : List V) (σ : Env) (r : Out) (σ' : Env),
      CodeAt W.code pc (compFnStmts ls stmts) → evBody rec stmts σ = (r, σ') →
      BodyEnds W ⟨pc, stk, σ⟩ r σ' := by
  intro stmts
  induction stmts with
  | nilL =>
    intro _ _ _ pc stk σ r σ' hat he
    simp only [evBody] at he; cases he
    simp only [compFnStmts] at hat
    have h2 := CodeAt.one hat.append_right
    simp only [one_length] at h2
    exact Fails.pre ((Steps.refl _).ins (CodeAt.one hat.append_left) (c' := ⟨pc + 1, .nil :: stk, σ⟩) rfl) (ret_fails h2)
  | cons h t _ iht =>
    intro _ hesc hwf pc stk σ r σ' hat he
    simp only [wf, Bool.and_eq_true] at hwf
    obtain ⟨⟨⟨hsh, hlt⟩, hwh⟩, hwt⟩ := hwf
    simp only [escapes, Bool.or_eq_false_iff] at hesc
    obtain ⟨hxh, hxt⟩ := hesc
    simp only [evBody] at he
    rcases hh : rec h σ with ⟨r1, σ1⟩
    rw [hh] at he
    by_cases hr : isReturn h = true
    · -- the first top-level `return`: what follows is not compiled
      simp only [compFnStmts, hr, ↓reduceIte] at hat
      have Ph := ih h hwh 0 0 pc stk σ _ _ hat hh
      obtain ⟨e, rfl⟩ := isReturn_eq hr
      have hn := hret e σ r1 σ1 hh
      cases r1 with
      | val v => exact absurd rfl (hn.2 v)
      | unit => exact absurd rfl hn.1
      | brk => cases hxh.symm.trans Ph.1
      | cont => cases hxh.symm.trans Ph.1
      | err x => cases he; exact Ph.2
      | oof => cases he; trivial
    · have hr' : isReturn h = false := by simpa using hr
      by_cases hnil : isNilL t = true
      · -- the last statement: its value, or nil, is returned
        simp only [compFnStmts, hr', hnil, Bool.false_eq_true, ↓reduceIte] at hat
        simp only [hnil, ↓reduceIte] at he
        have S := stmt_steps (stk := stk) ih h hwh hsh hxh hat.append_left hh
        have htail := hat.append_right
        simp only [List.length_append, pre_length, comp_length] at htail
        cases r1 with
        | val v =>
          cases he
          rw [if_pos S.1] at htail
          exact Fails.pre S.2 (ret_fails (CodeAt.one htail))
        | unit =>
          cases he
          rw [if_neg (by rw [S.1]; nofun)] at htail
          have h2 := CodeAt.one htail.append_right
          simp only [one_length] at h2
          exact Fails.pre (S.2.ins (CodeAt.one htail.append_left)
            (c' := ⟨pc + (preLen h + size ls h) + 1, .nil :: stk, σ'⟩) rfl) (ret_fails h2)
        | err x => cases he; exact S
        | oof => cases he; trivial
        | _ => exact S.elim
      · have hnil' : isNilL t = false := by simpa using hnil
        simp only [compFnStmts, hr', hnil', Bool.false_eq_true, ↓reduceIte] at hat
        simp only [hnil', Bool.false_eq_true, ↓reduceIte] at he
        have S := stmt_steps (stk := stk) ih h hwh hsh hxh hat.append_left.append_left hh
        have hpop := hat.append_left.append_right
        have hatt := hat.append_right
        simp only [List.length_append, pre_length, comp_length] at hpop hatt
        -- the rest of the body runs from the state after the statement
        have rest : ∀ q, Steps W ⟨pc, stk, σ⟩ ⟨q, stk, σ1⟩ → CodeAt W.code q (compFnStmts ls t) →
            evBody rec t σ1 = (r, σ') → BodyEnds W ⟨pc, stk, σ⟩ r σ' :=
          fun q pre hq he => (iht hlt hxt hwt q stk σ1 r σ' hq he).pre pre
        cases r1 with
        | val v =>
          simp only [S.1, ↓reduceIte, one_length] at hpop hatt
          exact rest _ (S.2.ins (CodeAt.one hpop) (c' := ⟨pc + (preLen h + size ls h) + 1, stk, σ1⟩) rfl) hatt he
        | unit =>
          simp only [S.1, Bool.false_eq_true, ↓reduceIte, List.length_nil, Nat.add_zero] at hatt
          exact rest _ S.2 hatt he
        | err x => cases he; exact S
        | oof => cases he; trivial
        | _ => exact S.elim
  | _ => intro h; simp [isL] at h

theorem take_args (vs : List V) (fv : V) (stk : List V) :
    ((vs.reverse ++ fv :: stk).take vs.length).reverse = vs := by
  have : (vs.reverse ++ fv :: stk).take vs.length = vs.reverse := by
    rw [List.take_append_of_le_length (by simp)]
    rw [List.take_of_length_le (by simp)]
  rw [this, List.reverse_reverse]

theorem drop_args (vs : List V) (fv : V) (stk : List V) :
    (vs.reverse ++ fv :: stk).drop vs.length = fv :: stk := by
  rw [List.drop_append_of_le_length (by simp)]
  rw [List.drop_of_length_le (by simp)]
  rfl

/-- application is what the `Call` instruction does: if the bodies of the program's functions are
    simulated wherever they run (`ihb`), a call returns exactly one value to its caller -/
theorem app_sim (Φ : List FDecl) (evb : Sc → N → Env → Out × Env) (P : Prog)
    (hP : ∀ g, P.find g = (findFun Φ g).map compDecl)
    (hΦ : ∀ g d, findFun Φ g = some d → wfBody d.body = true)
    (ihb : ∀ (W' : World) (ls' : Sc), W'.P = P → IH W' ls' (evb ls'))
    (hret : ∀ ls' e σ r σ', evb ls' (.return_ e) σ = (r, σ') → r ≠ .unit ∧ ∀ v, r ≠ .val v)
    (W : World) (hW : W.P = P) : CallOK W (applyFn Φ evb) := by
  intro fv vs G r G' hap pc stk loc hcall
  have hm := mstep_call hcall (vs.reverse ++ fv :: stk) ⟨loc, G⟩
  -- a call that fails before the callee is entered
  have early : ∀ c, doCall W.P vs.length (W.at ⟨pc, vs.reverse ++ fv :: stk, ⟨loc, G⟩⟩) = .error (.err c) →
      Fails W ⟨pc, vs.reverse ++ fv :: stk, ⟨loc, G⟩⟩ (.cls c) ⟨loc, G⟩ := by
    intro c hd
    exact ⟨W.at _, .refl _, rfl, by rw [hm]; exact hd⟩
  unfold applyFn at hap
  cases hcal : fv.callee with
  | none =>
    rw [hcal] at hap
    simp only at hap; cases hap
    refine ⟨(by intro v hv; cases hv), early "type" ?_⟩
    simp only [doCall, World.at, drop_args, hcal]
  | some gc =>
    obtain ⟨g, cs⟩ := gc
    rw [hcal] at hap
    simp only at hap
    cases hfind : findFun Φ g with
    | none =>
      rw [hfind] at hap
      simp only at hap; cases hap
      refine ⟨(by intro v hv; cases hv), early "eval" ?_⟩
      simp only [doCall, World.at, drop_args, hcal, hW, hP, hfind, Option.map_none]
    | some d =>
      rw [hfind] at hap
      simp only at hap
      have hPg : W.P.find g = some (compDecl d) := by rw [hW, hP, hfind]; rfl
      cases hent : enterLoc fv d.name d.named d.params vs with
      | none =>
        rw [hent] at hap
        simp only at hap; cases hap
        refine ⟨(by intro v hv; cases hv), early "args" ?_⟩
        simp only [doCall, World.at, drop_args, take_args, hcal, hPg, compDecl, hent]
      | some L =>
        rw [hent] at hap
        simp only at hap
        -- the callee's world: the caller suspended on top of the caller's own suspended frames
        let W' : World := { P := W.P, fn := some g, fs := ⟨W.fn, pc + 2, stk, loc⟩ :: W.fs }
        have hcode : W'.code = compFnStmts d.sc d.body := by
          show W.P.codeOf (some g) = _
          simp [Prog.codeOf, hPg, compDecl]
        have hstep : mstep W.P (W.at ⟨pc, vs.reverse ++ fv :: stk, ⟨loc, G⟩⟩) = .ok (W'.at ⟨0, [], G.enter cs L⟩) := by
          rw [hm]
          simp only [doCall, World.at, drop_args, take_args, hcal, hPg, compDecl, hent, W']
        have enter : MSteps W.P (W.at ⟨pc, vs.reverse ++ fv :: stk, ⟨loc, G⟩⟩) (W'.at ⟨0, [], G.enter cs L⟩) :=
          MSteps.one hstep
        have ih' : IH W' d.sc (evb d.sc) := ihb W' d.sc hW
        have hb := hΦ g d hfind
        unfold wfBody at hb
        simp only [Bool.and_eq_true, Bool.not_eq_true'] at hb
        rcases hbody : evBody (evb d.sc) d.body (G.enter cs L) with ⟨rb, σb⟩
        rw [hbody] at hap
        have B := body_sim ih' (hret d.sc) d.body hb.1.1 hb.1.2 hb.2 0 [] (G.enter cs L) rb σb
          (by rw [hcode]; exact CodeAt.self _) hbody
        -- a body that ends with `v` (falling off its end, or `return v`)
        have returns : ∀ v, Fails W' ⟨0, [], G.enter cs L⟩ (.ret v) σb →
            Steps W ⟨pc, vs.reverse ++ fv :: stk, ⟨loc, G⟩⟩ ⟨pc + 2, v :: stk, ⟨loc, σb.sh⟩⟩ := by
          intro v F
          obtain ⟨m1, hs, hfin⟩ := F
          have hfin' : m1 = { cfg := ⟨pc + 2, v :: stk, ⟨loc, σb.sh⟩⟩, fn := W.fn, frames := W.fs } := hfin
          subst hfin'
          exact MSteps.trans enter hs
        cases rb with
        | val v =>
          simp only at hap; cases hap
          exact returns v B
        | err x =>
          cases x with
          | cls c =>
            simp only at hap; cases hap
            obtain ⟨m1, hs, hg, he⟩ := B
            exact ⟨(by intro v hv; cases hv), m1, MSteps.trans enter hs, hg, he⟩
          | ret v =>
            simp only at hap; cases hap
            exact returns v B
        | oof => simp only at hap; cases hap; trivial
        | unit => exact B.elim
        | brk => exact B.elim
        | cont => exact B.elim

/-! ### every node form -/

/-- every node form of the fragment: if the sub-nodes are simulated and calls return one value, so
    is the node -/
theorem evNode_sim (ih : IH W ls rec) (happ : CallOK W app) (fuel : Nat) : IH W ls (evNode ls fuel rec app) := by
  intro n hwf kb kc pc stk σ r σ' hat he
  cases n with
  | nilLit => exact sim_leaf _ .nil_ .nil 1 pc stk σ r σ' rfl (CodeAt.one hat) rfl rfl (by simpa [evNode] using he)
  | none_ => exact sim_leaf _ .nil_ .nil 1 pc stk σ r σ' rfl (CodeAt.one hat) rfl rfl (by simpa [evNode] using he)
  | nilL => exact sim_leaf _ .nil_ .nil 1 pc stk σ r σ' rfl (CodeAt.one hat) rfl rfl (by simpa [evNode] using he)
  | int i => exact sim_leaf _ (.constInt i) (.int i) 2 pc stk σ r σ' rfl (CodeAt.two hat) rfl rfl (by simpa [evNode] using he)
  | str s => exact sim_leaf _ (.constStr s) (.str s) 2 pc stk σ r σ' rfl (CodeAt.two hat) rfl rfl (by simpa [evNode] using he)
  | id x =>
    exact sim_leaf _ (loadV ls x) (σ.get ls x) 2 pc stk σ r σ' rfl (CodeAt.two hat) rfl (exec_loadV ..)
      (by simpa [evNode] using he)
  | bool b =>
    exact sim_leaf _ (if b then .true_ else .false_) (.bool b) 1 pc stk σ r σ' rfl (CodeAt.one hat) rfl
      (by cases b <;> rfl) (by simpa [evNode] using he)
  | «infix» op l r =>
    by_cases hand : op = .and
    · subst hand; exact sim_and ih l r hwf pc stk σ _ σ' hat he
    · by_cases hor : op = .or
      · subst hor; exact sim_or ih l r hwf pc stk σ _ σ' hat he
      · exact sim_infix ih op l r hand hor hwf pc stk σ _ σ' hat he
  | neg e => exact sim_neg ih e hwf pc stk σ r σ' hat he
  | not e => exact sim_not ih e hwf pc stk σ r σ' hat he
  | tern c a b =>
    simp only [wf, Bool.and_eq_true, Bool.not_eq_true'] at hwf
    obtain ⟨⟨⟨⟨⟨⟨⟨⟨hec, hea⟩, heb⟩, hxc⟩, _⟩, _⟩, hwc⟩, hwa⟩, hwb⟩ := hwf
    exact sim_cond ih _ c a b (by simp only [comp]) (by simp [size]) rfl (by simp [escapes]) hwc hwa hwb
      (isE_not_unit hec) (isE_not_unit hea) (isE_not_unit heb) hxc pc stk σ r σ' hat (by simpa only [evNode] using he)
  | if_ c t e =>
    simp only [wf, Bool.and_eq_true, Bool.not_eq_true'] at hwf
    obtain ⟨⟨⟨⟨⟨⟨hec, hbt⟩, hee⟩, hxc⟩, hwc⟩, hwt⟩, hwe⟩ := hwf
    exact sim_cond ih _ c t e (by simp only [comp]) (by simp [size]) rfl (by simp [escapes]) hwc hwt hwe
      (isE_not_unit hec) (isBlock_not_unit hbt) (isElse_not_unit hee) hxc pc stk σ r σ' hat
      (by simpa only [evNode] using he)
  | block s =>
    simp only [wf, Bool.and_eq_true] at hwf
    simp only [comp] at hat
    simp only [evNode] at he
    exact Post.congr (by simp [size]) (by rw [isL_not_unit hwf.1]; rfl) (by simp [escapes])
      (ih s hwf.2 kb kc pc stk σ r σ' hat he)
  | prog s =>
    simp only [wf, Bool.and_eq_true] at hwf
    simp only [comp] at hat
    simp only [evNode] at he
    exact Post.congr (by simp [size]) (by rw [isL_not_unit hwf.1.1]; rfl) (by simp [escapes])
      (ih s hwf.2 kb kc pc stk σ r σ' hat he)
  | expr e =>
    cases hf : isNamed e with
    | true => exact sim_fundecl e hf pc stk σ r σ' hat he
    | false =>
      simp only [wf, hf, Bool.false_eq_true, ↓reduceIte, Bool.and_eq_true] at hwf
      simp only [comp, hf, Bool.false_eq_true, ↓reduceIte] at hat
      simp only [evNode, hf, Bool.false_eq_true, ↓reduceIte] at he
      exact Post.congr (by simp [size, hf]) (by rw [isE_not_unit hwf.1]; simp [isUnitNode, hf]) (by simp [escapes])
        (ih e hwf.2 kb kc pc stk σ r σ' hat he)
  | cons h t => exact sim_cons ih h t hwf pc stk σ r σ' hat he
  | var x e => exact sim_var ih x e hwf pc stk σ r σ' hat he
  | assign x op e => exact sim_assign ih x op e hwf pc stk σ r σ' hat he
  | «postfix» x inc => exact sim_postfix x inc pc stk σ r σ' hat he
  | break_ => exact sim_ctl true pc stk σ r σ' hat (by simpa [evNode] using he)
  | continue_ => exact sim_ctl false pc stk σ r σ' hat (by simpa [evNode] using he)
  | forcond c b => exact sim_forcond ih c b hwf pc stk σ r σ' hat he
  | forever b => exact sim_forever ih b hwf pc stk σ r σ' hat he
  | for3 i c p b => exact sim_for3 ih i c p b hwf pc stk σ r σ' hat he
  | switch subj cases => exact sim_switch ih subj cases hwf pc stk σ r σ' hat he
  | call fe args => exact sim_call ih happ fe args hwf pc stk σ r σ' hat he
  | return_ e => exact sim_return ih e hwf pc stk σ r σ' hat he
  | func name ps b => exact sim_func name ps b pc stk σ r σ' hat he
  | _ => simp [wf] at hwf

/-- a `return` statement never completes normally -/
theorem ev_return_abrupt (Φ : List FDecl) (f : Nat) (ls : Sc) (e : N) (σ : Env) (r : Out) (σ' : Env)
    (h : ev Φ f ls (.return_ e) σ = (r, σ')) : r ≠ .unit ∧ ∀ v, r ≠ .val v := by
  cases f with
  | zero => simp only [ev] at h; cases h; exact ⟨(by intro h; cases h), (by intro v h; cases h)⟩
  | succ f =>
    simp only [ev, evNode] at h
    split at h <;> cases h <;> exact ⟨(by intro h; cases h), (by intro v h; cases h)⟩

/-- the program `P` is the compiled form of the functions `Φ` -/
def Compiled (Φ : List FDecl) (P : Prog) : Prop := ∀ g, P.find g = (findFun Φ g).map compDecl

/-- every function body is in the fragment -/
def BodiesOK (Φ : List FDecl) : Prop := ∀ g d, findFun Φ g = some d → wfBody d.body = true

/-- the simulation, for every fuel, every world (code object, suspended frames) and every set of
    local names: induction on fuel only (each node evaluates its sub-nodes, and each call the
    callee's body, with one unit of fuel less; loops iterate inside `loop_sim`) -/
theorem ev_sim (Φ : List FDecl) (P : Prog) (hP : Compiled Φ P) (hΦ : BodiesOK Φ) :
    ∀ f (W : World) (ls : Sc), W.P = P → IH W ls (ev Φ f ls)
  | 0 => by
    intro W ls _ n _ kb kc pc stk σ r σ' _ he
    simp only [ev] at he; cases he
    exact ⟨trivial, trivial⟩
  | f + 1 => by
    intro W ls hW n hwf kb kc pc stk σ r σ' hat he
    exact evNode_sim (ev_sim Φ P hP hΦ f W ls hW)
      (app_sim Φ (ev Φ f) P hP hΦ (fun W' ls' h' => ev_sim Φ P hP hΦ f W' ls' h')
        (fun ls' e σ r σ' h => ev_return_abrupt Φ f ls' e σ r σ' h) W hW)
      f n hwf kb kc pc stk σ r σ' hat he

/-- calls return one value, for every fuel and world -/
theorem call_sim (Φ : List FDecl) (P : Prog) (hP : Compiled Φ P) (hΦ : BodiesOK Φ) (f : Nat) (W : World) (hW : W.P = P) :
    CallOK W (applyFn Φ (ev Φ f)) :=
  app_sim Φ (ev Φ f) P hP hΦ (fun W' ls' h' => ev_sim Φ P hP hΦ f W' ls' h')
    (fun ls' e σ r σ' h => ev_return_abrupt Φ f ls' e σ r σ' h) W hW

/-- `compClo` compiles the functions of the program -/
theorem compClo_compiled (p : N) : Compiled (funsOf p) (compClo p) := by
  intro g
  unfold Prog.find compClo findFun
  simp only
  induction funsOf p with
  | nil => rfl
  | cons d Φ ih =>
    simp only [List.map_cons, List.find?_cons]
    have : (compDecl d).key = d.key := rfl
    rw [this]
    cases d.key == g with
    | true => rfl
    | false => exact ih

/-! ### from `MSteps` to the fuel-indexed `mrun` -/

theorem mrun_of_msteps {P : Prog} {a b : M} (h : MSteps P a b) :
    ∃ n, ∀ k, mrun P (n + k) a = mrun P k b := by
  induction h with
  | refl c => exact ⟨0, fun k => by rw [Nat.zero_add]⟩
  | cons hs _ ih =>
    obtain ⟨n, hn⟩ := ih
    refine ⟨n + 1, fun k => ?_⟩
    have : n + 1 + k = (n + k) + 1 := by omega
    rw [this, mrun, hs]
    exact hn k

/-- once the machine has halted, more fuel does not change the outcome -/
theorem mrun_mono {P : Prog} : ∀ (k : Nat) (m : M) (res : RunRes) (G : Sh),
    mrun P k m = (res, G) → res ≠ .running → mrun P (k + 1) m = (res, G)
  | 0, m, res, G, h, hr => by simp only [mrun] at h; cases h; exact absurd rfl hr
  | k + 1, m, res, G, h, hr => by
    rw [mrun] at h ⊢
    cases hs : mstep P m with
    | ok m' => rw [hs] at h; simp only at h ⊢; exact mrun_mono k m' res G h hr
    | error e => rw [hs] at h; cases e <;> exact h

end Risor.C01.Clo
