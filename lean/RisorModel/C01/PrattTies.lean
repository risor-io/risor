import RisorModel.C01.Pratt
import RisorModel.Generated.C01
/-!
C01 ties (E3): the tables of the Pratt model (Pratt.lean) equal the tables regenerated from
/repo's working tree on this run (extract/c01.go → Generated/C01.lean).

A changed precedence entry breaks `precedences_tie`; a reordered level block (e.g. EQUALS and
LESSGREATER swapped) breaks `levels_tie`; a changed registration breaks the corresponding
`…Regs_tie`; a changed parse level inside a modelled function (e.g. the ternary's branches no
longer parsed at LOWEST) breaks `parseLevels_tie`.  On a broken tie the harness's expression
generator (harness/c01parse.go) exhibits concrete expressions on which the real parser and the
model disagree.
-/
namespace Risor.C01.Pratt

/-- the token types of token/token.go are exactly the constructors of `Kind` with these names
    and string values (the oracle decodes real tokens through `Kind.typ`) -/
theorem tokenTypes_tie :
    Risor.Generated.C01.tokenTypes = Kind.all.map (fun k => (k.name, k.typ)) := rfl

/-- `Kind.all` lists every constructor (so that the table lookups below cover all tokens) -/
theorem kind_all_complete (k : Kind) : k ∈ Kind.all := by
  -- `Kind.all` lists the constructors by increasing index, and a kind is determined by its index
  have h : Kind.all.map Kind.ctorIdx = List.range 72 := by decide +kernel
  have hk : k.ctorIdx ∈ Kind.all.map Kind.ctorIdx := by
    rw [h, List.mem_range]
    cases k <;> decide
  obtain ⟨k', hk', he⟩ := List.mem_map.1 hk
  rw [← Kind.ofNat_ctorIdx k, ← he, Kind.ofNat_ctorIdx]
  exact hk'

/-- the numeric order of the precedence levels -/
theorem levels_tie :
    Risor.Generated.C01.levels = Level.all.map (fun l => (l.name, l.num)) := rfl

/-- the precedence table: token → level, entry by entry -/
theorem precedences_tie :
    Risor.Generated.C01.precedences = precTable.map (fun e => (e.1.name, e.2.name)) := rfl

theorem prefixRegs_tie :
    Risor.Generated.C01.prefixRegs = prefixTable.map (fun e => (e.1.name, e.2.name)) := rfl

theorem infixRegs_tie :
    Risor.Generated.C01.infixRegs = infixTable.map (fun e => (e.1.name, e.2.name)) := rfl

theorem postfixRegs_tie :
    Risor.Generated.C01.postfixRegs = postfixTable.map (fun k => (k.name, "parsePostfix")) := rfl

/-- the precedence every modelled parse function passes to `parseExpression`/`parseNode`:
    PREFIX for prefix operators and `in`/`not in`, the operator's own level for infix operators
    (left associativity), LOWEST for both ternary branches, parentheses, indices and list items -/
theorem parseLevels_tie :
    Risor.Generated.C01.parseLevels =
      [("parseExprList", "parseExpression(LOWEST) parseExpression(LOWEST)"),
       ("parseExpressionStatement", "parseNode(LOWEST)"),
       ("parseGroupedExpr", "parseExpression(LOWEST)"),
       ("parseIn", "parseExpression(PREFIX)"),
       ("parseIndex", "parseExpression(LOWEST) parseExpression(LOWEST)"),
       ("parseInfixExpr", "precedence=p.currentPrecedence() parseExpression(precedence)"),
       ("parseNodeList", "parseNode(LOWEST) parseNode(LOWEST)"),
       ("parseNotIn", "parseExpression(PREFIX)"),
       ("parsePrefixExpr", "parseExpression(PREFIX)"),
       ("parseTernary", "precedence=LOWEST parseExpression(precedence) parseExpression(precedence)")] := rfl

/-- the tables are functions: no token occurs twice (a later registration would override) -/
theorem tables_nodup :
    (precTable.map (·.1)).Nodup ∧ (prefixTable.map (·.1)).Nodup ∧ (infixTable.map (·.1)).Nodup := by
  decide +kernel

/-- the numerals the printer and the proofs use are the levels of the table -/
theorem level_numerals :
    Level.LOWEST.num = 1 ∧ Level.TERNARY.num = 6 ∧ Level.PREFIX.num = 13 ∧ Level.CALL.num = 14
      ∧ Level.INDEX.num = 15 ∧ prec .QUESTION = 6 ∧ prec .IN = 13 ∧ prec .NOT = 13
      ∧ prec .LPAREN = 14 ∧ prec .LBRACKET = 15 ∧ prec .PERIOD = 15 := by decide

end Risor.C01.Pratt
