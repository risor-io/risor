import RisorModel.C01.Ast
/-!
C01 — token-level model of risor's Pratt expression parser (parser/parser.go: `parseNode`,
`parsePrefixExpr`, `parseGroupedExpr`, `parseInfixExpr`, `parseTernary`, `parseIn`, `parseNotIn`,
`parseCall`, `parseNodeList`/`parseExprList`, `parseIndex`, `parseGetAttr`, `parseList`), the
precedence table of parser/precedence.go, the prefix/infix/postfix registrations of `parser.New`,
and a printer `render` that inserts parentheses exactly where that table, left associativity and
the "extends as far as possible" reading of the ternary's branches require.

The round-trip theorem `parse_render` is in PrattProps.lean.  Executable, core Lean only.

Conventions.  A token list stands for `curToken :: peekToken :: …`; the empty list is end of
input (the real lexer keeps returning EOF, which has no prefix function, no infix function and
no precedence).  `parseNode f t p toks` is `parseNode(p)` entered with `curToken = toks.head`,
the `tern` flag equal to `t`, and `f` a recursion-depth bound (fuel); it returns the node and
the tokens from `peekToken` on, i.e. what the real parser has not consumed yet.  `none` stands
for "the real parser records an error or builds a node outside the expression core" (assignment,
pipe, send, func/if/switch literals, templates, maps …).
-/
namespace Risor.C01.Pratt

/-- token types: the constants of token/token.go, in source order -/
inductive Kind where
  | AND | ASSIGN | ASTERISK | ASTERISK_EQUALS | BACKTICK | FSTRING | BANG | CASE | COLON | COMMA
  | CONST | DECLARE | DEFAULT | DEFER | FUNC | ELSE | EOF | EQ | FALSE | FLOAT | FOR | GT | GT_GT
  | GT_EQUALS | GO | IDENT | IF | ILLEGAL | INT | LBRACE | LBRACKET | LPAREN | LT | LT_LT
  | LT_EQUALS | MINUS | MINUS_EQUALS | MINUS_MINUS | MOD | NOT_EQ | NIL | NOT | PIPE | OR | PERIOD
  | PLUS | AMPERSAND | PLUS_EQUALS | PLUS_PLUS | POW | QUESTION | RBRACE | RBRACKET | RETURN
  | RPAREN | SEMICOLON | SEND | SLASH | SLASH_EQUALS | STRING | STRUCT | SWITCH | TRUE | NEWLINE
  | IMPORT | BREAK | CONTINUE | VAR | IN | RANGE | FROM | AS
  deriving DecidableEq, Repr, Inhabited

open Kind in
/-- every kind, in the source order of token/token.go -/
def Kind.all : List Kind :=
  [AND, ASSIGN, ASTERISK, ASTERISK_EQUALS, BACKTICK, FSTRING, BANG, CASE, COLON, COMMA,
   CONST, DECLARE, DEFAULT, DEFER, FUNC, ELSE, EOF, EQ, FALSE, FLOAT, FOR, GT, GT_GT,
   GT_EQUALS, GO, IDENT, IF, ILLEGAL, INT, LBRACE, LBRACKET, LPAREN, LT, LT_LT,
   LT_EQUALS, MINUS, MINUS_EQUALS, MINUS_MINUS, MOD, NOT_EQ, NIL, NOT, PIPE, OR, PERIOD,
   PLUS, AMPERSAND, PLUS_EQUALS, PLUS_PLUS, POW, QUESTION, RBRACE, RBRACKET, RETURN,
   RPAREN, SEMICOLON, SEND, SLASH, SLASH_EQUALS, STRING, STRUCT, SWITCH, TRUE, NEWLINE,
   IMPORT, BREAK, CONTINUE, VAR, IN, RANGE, FROM, AS]

/-- Go constant name and string value (`token.Type`) of each kind -/
def Kind.info : Kind → String × String
  | .AND => ("AND", "&&") | .ASSIGN => ("ASSIGN", "=") | .ASTERISK => ("ASTERISK", "*")
  | .ASTERISK_EQUALS => ("ASTERISK_EQUALS", "*=") | .BACKTICK => ("BACKTICK", "`")
  | .FSTRING => ("FSTRING", "'") | .BANG => ("BANG", "!") | .CASE => ("CASE", "case")
  | .COLON => ("COLON", ":") | .COMMA => ("COMMA", ",") | .CONST => ("CONST", "CONST")
  | .DECLARE => ("DECLARE", ":=") | .DEFAULT => ("DEFAULT", "DEFAULT") | .DEFER => ("DEFER", "DEFER")
  | .FUNC => ("FUNC", "FUNC") | .ELSE => ("ELSE", "ELSE") | .EOF => ("EOF", "EOF") | .EQ => ("EQ", "==")
  | .FALSE => ("FALSE", "FALSE") | .FLOAT => ("FLOAT", "FLOAT") | .FOR => ("FOR", "FOR")
  | .GT => ("GT", ">") | .GT_GT => ("GT_GT", ">>") | .GT_EQUALS => ("GT_EQUALS", ">=")
  | .GO => ("GO", "GO") | .IDENT => ("IDENT", "IDENT") | .IF => ("IF", "IF")
  | .ILLEGAL => ("ILLEGAL", "ILLEGAL") | .INT => ("INT", "INT") | .LBRACE => ("LBRACE", "{")
  | .LBRACKET => ("LBRACKET", "[") | .LPAREN => ("LPAREN", "(") | .LT => ("LT", "<")
  | .LT_LT => ("LT_LT", "<<") | .LT_EQUALS => ("LT_EQUALS", "<=") | .MINUS => ("MINUS", "-")
  | .MINUS_EQUALS => ("MINUS_EQUALS", "-=") | .MINUS_MINUS => ("MINUS_MINUS", "--")
  | .MOD => ("MOD", "%") | .NOT_EQ => ("NOT_EQ", "!=") | .NIL => ("NIL", "nil") | .NOT => ("NOT", "NOT")
  | .PIPE => ("PIPE", "|") | .OR => ("OR", "||") | .PERIOD => ("PERIOD", ".") | .PLUS => ("PLUS", "+")
  | .AMPERSAND => ("AMPERSAND", "&") | .PLUS_EQUALS => ("PLUS_EQUALS", "+=")
  | .PLUS_PLUS => ("PLUS_PLUS", "++") | .POW => ("POW", "**") | .QUESTION => ("QUESTION", "?")
  | .RBRACE => ("RBRACE", "}") | .RBRACKET => ("RBRACKET", "]") | .RETURN => ("RETURN", "RETURN")
  | .RPAREN => ("RPAREN", ")") | .SEMICOLON => ("SEMICOLON", ";") | .SEND => ("SEND", "<-")
  | .SLASH => ("SLASH", "/") | .SLASH_EQUALS => ("SLASH_EQUALS", "/=") | .STRING => ("STRING", "STRING")
  | .STRUCT => ("STRUCT", "STRUCT") | .SWITCH => ("SWITCH", "switch") | .TRUE => ("TRUE", "TRUE")
  | .NEWLINE => ("NEWLINE", "EOL") | .IMPORT => ("IMPORT", "IMPORT") | .BREAK => ("BREAK", "BREAK")
  | .CONTINUE => ("CONTINUE", "CONTINUE") | .VAR => ("VAR", "VAR") | .IN => ("IN", "IN")
  | .RANGE => ("RANGE", "RANGE") | .FROM => ("FROM", "FROM") | .AS => ("AS", "AS")

def Kind.name (k : Kind) : String := k.info.1
def Kind.typ (k : Kind) : String := k.info.2

/-- a token: its type and its literal text (positions are irrelevant to parsing) -/
structure Token where
  kind : Kind
  lit : String
  deriving DecidableEq, Repr, Inhabited

/-! ## parser/precedence.go -/

/-- the precedence levels, in the order of the `iota` block (`LOWEST` = 1 … `HIGHEST` = 16) -/
inductive Level where
  | LOWEST | PIPE | COND | ASSIGN | DECLARE | TERNARY | EQUALS | LESSGREATER | SUM | PRODUCT
  | POWER | MOD | PREFIX | CALL | INDEX | HIGHEST
  deriving DecidableEq, Repr, Inhabited

def Level.all : List Level :=
  [.LOWEST, .PIPE, .COND, .ASSIGN, .DECLARE, .TERNARY, .EQUALS, .LESSGREATER, .SUM, .PRODUCT,
   .POWER, .MOD, .PREFIX, .CALL, .INDEX, .HIGHEST]

def Level.num : Level → Nat
  | .LOWEST => 1 | .PIPE => 2 | .COND => 3 | .ASSIGN => 4 | .DECLARE => 5 | .TERNARY => 6
  | .EQUALS => 7 | .LESSGREATER => 8 | .SUM => 9 | .PRODUCT => 10 | .POWER => 11 | .MOD => 12
  | .PREFIX => 13 | .CALL => 14 | .INDEX => 15 | .HIGHEST => 16

def Level.name : Level → String
  | .LOWEST => "LOWEST" | .PIPE => "PIPE" | .COND => "COND" | .ASSIGN => "ASSIGN"
  | .DECLARE => "DECLARE" | .TERNARY => "TERNARY" | .EQUALS => "EQUALS"
  | .LESSGREATER => "LESSGREATER" | .SUM => "SUM" | .PRODUCT => "PRODUCT" | .POWER => "POWER"
  | .MOD => "MOD" | .PREFIX => "PREFIX" | .CALL => "CALL" | .INDEX => "INDEX" | .HIGHEST => "HIGHEST"

/-- `var precedences = map[token.Type]int{…}`, sorted by the Go constant name of the token -/
def precTable : List (Kind × Level) :=
  [(.AMPERSAND, .PRODUCT), (.AND, .COND), (.ASSIGN, .ASSIGN), (.ASTERISK, .PRODUCT),
   (.ASTERISK_EQUALS, .PRODUCT), (.DECLARE, .DECLARE), (.EQ, .EQUALS), (.GT, .LESSGREATER),
   (.GT_EQUALS, .LESSGREATER), (.GT_GT, .PRODUCT), (.IN, .PREFIX), (.LBRACKET, .INDEX),
   (.LPAREN, .CALL), (.LT, .LESSGREATER), (.LT_EQUALS, .LESSGREATER), (.LT_LT, .PRODUCT),
   (.MINUS, .SUM), (.MINUS_EQUALS, .SUM), (.MOD, .MOD), (.NOT, .PREFIX), (.NOT_EQ, .EQUALS),
   (.OR, .COND), (.PERIOD, .INDEX), (.PIPE, .PIPE), (.PLUS, .SUM), (.PLUS_EQUALS, .SUM),
   (.POW, .POWER), (.QUESTION, .TERNARY), (.RANGE, .PREFIX), (.SEND, .CALL), (.SLASH, .PRODUCT),
   (.SLASH_EQUALS, .PRODUCT)]

/-- `peekPrecedence` / `currentPrecedence`: the table entry, `LOWEST` for tokens without one -/
def prec (k : Kind) : Nat :=
  match precTable.lookup k with
  | some l => l.num
  | none => Level.LOWEST.num

/-! ## the registrations of `parser.New` -/

inductive PrefixFn where
  | parseString | parsePrefixExpr | parseDefer | illegalToken | parseBoolean | parseFloat | parseFor
  | parseFromImport | parseFunc | parseGo | parseIdent | parseIf | parseImport | parseInt
  | parseMapOrSet | parseList | parseGroupedExpr | parseNewline | parseNil | parseRange
  | parseSwitch | parseReceive
  deriving DecidableEq, Repr

def PrefixFn.name : PrefixFn → String
  | .parseString => "parseString" | .parsePrefixExpr => "parsePrefixExpr" | .parseDefer => "parseDefer"
  | .illegalToken => "illegalToken" | .parseBoolean => "parseBoolean" | .parseFloat => "parseFloat"
  | .parseFor => "parseFor" | .parseFromImport => "parseFromImport" | .parseFunc => "parseFunc"
  | .parseGo => "parseGo" | .parseIdent => "parseIdent" | .parseIf => "parseIf"
  | .parseImport => "parseImport" | .parseInt => "parseInt" | .parseMapOrSet => "parseMapOrSet"
  | .parseList => "parseList" | .parseGroupedExpr => "parseGroupedExpr" | .parseNewline => "parseNewline"
  | .parseNil => "parseNil" | .parseRange => "parseRange" | .parseSwitch => "parseSwitch"
  | .parseReceive => "parseReceive"

/-- `registerPrefix` calls, sorted by the Go constant name of the token -/
def prefixTable : List (Kind × PrefixFn) :=
  [(.BACKTICK, .parseString), (.BANG, .parsePrefixExpr), (.DEFER, .parseDefer), (.EOF, .illegalToken),
   (.FALSE, .parseBoolean), (.FLOAT, .parseFloat), (.FOR, .parseFor), (.FROM, .parseFromImport),
   (.FSTRING, .parseString), (.FUNC, .parseFunc), (.GO, .parseGo), (.IDENT, .parseIdent),
   (.IF, .parseIf), (.ILLEGAL, .illegalToken), (.IMPORT, .parseImport), (.INT, .parseInt),
   (.LBRACE, .parseMapOrSet), (.LBRACKET, .parseList), (.LPAREN, .parseGroupedExpr),
   (.MINUS, .parsePrefixExpr), (.NEWLINE, .parseNewline), (.NIL, .parseNil), (.PIPE, .parsePrefixExpr),
   (.RANGE, .parseRange), (.SEND, .parseReceive), (.STRING, .parseString), (.SWITCH, .parseSwitch),
   (.TRUE, .parseBoolean)]

inductive InfixFn where
  | parseInfixExpr | parseAssign | parseIn | parseIndex | parseCall | parseNotIn | parseGetAttr
  | parsePipe | parseTernary | parseSend
  deriving DecidableEq, Repr

def InfixFn.name : InfixFn → String
  | .parseInfixExpr => "parseInfixExpr" | .parseAssign => "parseAssign" | .parseIn => "parseIn"
  | .parseIndex => "parseIndex" | .parseCall => "parseCall" | .parseNotIn => "parseNotIn"
  | .parseGetAttr => "parseGetAttr" | .parsePipe => "parsePipe" | .parseTernary => "parseTernary"
  | .parseSend => "parseSend"

/-- `registerInfix` calls, sorted by the Go constant name of the token -/
def infixTable : List (Kind × InfixFn) :=
  [(.AMPERSAND, .parseInfixExpr), (.AND, .parseInfixExpr), (.ASSIGN, .parseAssign),
   (.ASTERISK, .parseInfixExpr), (.ASTERISK_EQUALS, .parseAssign), (.EQ, .parseInfixExpr),
   (.GT, .parseInfixExpr), (.GT_EQUALS, .parseInfixExpr), (.GT_GT, .parseInfixExpr), (.IN, .parseIn),
   (.LBRACKET, .parseIndex), (.LPAREN, .parseCall), (.LT, .parseInfixExpr),
   (.LT_EQUALS, .parseInfixExpr), (.LT_LT, .parseInfixExpr), (.MINUS, .parseInfixExpr),
   (.MINUS_EQUALS, .parseAssign), (.MOD, .parseInfixExpr), (.NOT, .parseNotIn),
   (.NOT_EQ, .parseInfixExpr), (.OR, .parseInfixExpr), (.PERIOD, .parseGetAttr), (.PIPE, .parsePipe),
   (.PLUS, .parseInfixExpr), (.PLUS_EQUALS, .parseAssign), (.POW, .parseInfixExpr),
   (.QUESTION, .parseTernary), (.SEND, .parseSend), (.SLASH, .parseInfixExpr),
   (.SLASH_EQUALS, .parseAssign)]

/-- `registerPostfix` calls (both map to `parsePostfix`), sorted by constant name -/
def postfixTable : List Kind := [.MINUS_MINUS, .PLUS_PLUS]

def prefixFn (k : Kind) : Option PrefixFn := prefixTable.lookup k
def infixFn (k : Kind) : Option InfixFn := infixTable.lookup k
def isPostfix (k : Kind) : Bool := postfixTable.contains k

/-! ## expression trees of the printable core -/

mutual
/-- One constructor per `ast` node the expression core uses.  `int` carries the value of a
    decimal literal; `mcall` is `ast.ObjectCall` (`o.name(args)`).  A bare attribute access
    (`ast.GetAttr`) is not part of the core: the generator never emits one, and a tree `call (attr o
    name) args` has no unparenthesised text (`o.name(args)` always is an `ObjectCall`), so its
    printing rule would depend on the next token rather than on a precedence. -/
inductive Expr where
  | int (n : Nat) | bool (b : Bool) | nil | str (s : String) | ident (x : String)
  | infix (op : BinOp) (l r : Expr)
  | neg (e : Expr) | not (e : Expr)
  | tern (c a b : Expr)
  | isIn (x c : Expr) | notIn (x c : Expr)
  | call (f : Expr) (args : Args)
  | mcall (o : Expr) (name : String) (args : Args)
  | index (e i : Expr)
  | slice (e : Expr) (lo hi : Opt)
  | list (items : Args)
/-- argument lists and list items -/
inductive Args where
  | nil | cons (hd : Expr) (tl : Args)
/-- an optional slice bound -/
inductive Opt where
  | none | some (e : Expr)
end

deriving instance Repr for Expr, Args, Opt
deriving instance DecidableEq for Expr, Args, Opt
instance : Inhabited Expr := ⟨.nil⟩

def Args.toList : Args → List Expr
  | .nil => []
  | .cons h t => h :: t.toList

def Args.ofList : List Expr → Args
  | [] => .nil
  | h :: t => .cons h (Args.ofList t)

/-- the token type of each infix operator of the table -/
def opKind : BinOp → Kind
  | .add => .PLUS | .sub => .MINUS | .mul => .ASTERISK | .div => .SLASH | .mod => .MOD | .pow => .POW
  | .lshift => .LT_LT | .rshift => .GT_GT | .bitand => .AMPERSAND
  | .lt => .LT | .le => .LT_EQUALS | .gt => .GT | .ge => .GT_EQUALS | .eq => .EQ | .ne => .NOT_EQ
  | .and => .AND | .or => .OR

/-- the operator an `ast.Infix` node built by `parseInfixExpr` carries -/
def binOpOfKind : Kind → Option BinOp
  | .PLUS => some .add | .MINUS => some .sub | .ASTERISK => some .mul | .SLASH => some .div
  | .MOD => some .mod | .POW => some .pow | .LT_LT => some .lshift | .GT_GT => some .rshift
  | .AMPERSAND => some .bitand | .LT => some .lt | .LT_EQUALS => some .le | .GT => some .gt
  | .GT_EQUALS => some .ge | .EQ => some .eq | .NOT_EQ => some .ne | .AND => some .and | .OR => some .or
  | _ => none

/-- literal text of the fixed-text tokens the printer emits (what the lexer puts in `Literal`) -/
def Kind.text : Kind → String
  | .TRUE => "true" | .FALSE => "false" | .NIL => "nil" | .IN => "in" | .NOT => "not"
  | k => k.typ

def tk (k : Kind) : Token := ⟨k, k.text⟩

/-- value of a decimal literal (`parseInt` on a literal without `0x`/leading-zero prefix) -/
def litNat (s : String) : Nat := Nat.ofDigitChars 10 s.toList 0

/-! ## the parser -/

/-- `for p.curTokenIs(token.NEWLINE) { p.nextToken() }` -/
def skipNl : List Token → List Token
  | [] => []
  | tok :: rest => if tok.kind = .NEWLINE then skipNl rest else tok :: rest

abbrev PRes := Option (Expr × List Token)

/-- `p.peekTokenIs(k)` on the remaining input (false at end of input) -/
def headIs (k : Kind) : List Token → Bool
  | [] => false
  | tok :: _ => tok.kind = k

mutual
/-- `parseNode(precedence)`: prefix function, then the infix loop -/
def parseNode : Nat → Bool → Nat → List Token → PRes
  | 0, _, _, _ => none
  | f+1, t, p, toks =>
    match prefixP f t toks with
    | none => none
    | some (l, rest) => loop f t p l rest

/-- the prefix dispatch of `parseNode` (a token with a postfix function, or without a prefix
    function, does not start an expression) -/
def prefixP : Nat → Bool → List Token → PRes
  | 0, _, _ => none
  | _, _, [] => none
  | f+1, t, tok :: rest =>
    if isPostfix tok.kind then none else
    match prefixFn tok.kind with
    | some .parseInt => some (.int (litNat tok.lit), rest)
    | some .parseBoolean => some (.bool (tok.kind = .TRUE), rest)
    | some .parseNil => some (.nil, rest)
    | some .parseIdent => some (.ident tok.lit, rest)   -- (the lexer never yields an empty IDENT)
    | some .parseString => if tok.kind = .FSTRING then none else some (.str tok.lit, rest)
    | some .parsePrefixExpr =>
      -- operand at PREFIX
      match parseNode f t Level.PREFIX.num rest with
      | some (e, rest') =>
        if tok.kind = .MINUS then some (.neg e, rest')
        else if tok.kind = .BANG then some (.not e, rest')
        else none
      | none => none
    | some .parseGroupedExpr =>
      match parseNode f t Level.LOWEST.num rest with
      | some (e, rest') => if headIs .RPAREN rest' then some (e, rest'.tail) else none
      | none => none
    | some .parseList =>
      match exprList f t .RBRACKET rest with
      | some (items, rest') => some (.list items, rest')
      | none => none
    | _ => none

/-- the loop of `parseNode`: `for precedence < p.peekPrecedence() { infix := …; if infix == nil
    { return leftExp }; p.nextToken(); leftExp = infix(leftExp) }`.  (`SEMICOLON` has no table
    entry, so the loop's extra semicolon test is subsumed.) -/
def loop : Nat → Bool → Nat → Expr → List Token → PRes
  | 0, _, _, _, _ => none
  | _+1, _, _, l, [] => some (l, [])
  | f+1, t, p, l, tok :: rest =>
    if p < prec tok.kind then
      match infixFn tok.kind with
      | none => some (l, tok :: rest)
      | some fn =>
        match infixP f t fn l tok rest with
        | some (e, rest') => loop f t p e rest'
        | none => none
    else some (l, tok :: rest)

/-- the infix functions; `tok` is the operator token (`curToken`), `rest` what follows it -/
def infixP : Nat → Bool → InfixFn → Expr → Token → List Token → PRes
  | 0, _, _, _, _, _ => none
  | f+1, t, .parseInfixExpr, l, tok, rest =>
    match binOpOfKind tok.kind with
    | none => none
    | some op =>
      -- newlines after the operator are skipped; the right operand is parsed at the operator's
      -- own level, which makes every infix operator left-associative
      match parseNode f t (prec tok.kind) (skipNl rest) with
      | some (r, rest') => some (.infix op l r, rest')
      | none => none
  | f+1, t, .parseTernary, c, _, rest =>
    if t then none else   -- "nested ternary expression detected"
    -- both branches at LOWEST, with the flag set
    match parseNode f true Level.LOWEST.num rest with
    | some (a, rest') =>
      if headIs .COLON rest' then
        match parseNode f true Level.LOWEST.num rest'.tail with
        | some (b, rest'') => some (.tern c a b, rest'')
        | none => none
      else none
    | none => none
  | f+1, t, .parseIn, l, _, rest =>
    match parseNode f t Level.PREFIX.num rest with
    | some (r, rest') => some (.isIn l r, rest')
    | none => none
  | f+1, t, .parseNotIn, l, _, rest =>
    if headIs .IN rest then
      match parseNode f t Level.PREFIX.num rest.tail with
      | some (r, rest') => some (.notIn l r, rest')
      | none => none
    else none
  | f+1, t, .parseCall, l, _, rest =>
    match exprList f t .RPAREN rest with
    | some (args, rest') => some (.call l args, rest')
    | none => none
  | f+1, t, .parseIndex, l, _, rest =>
    if headIs .COLON rest then sliceTail f t l .none rest.tail
    else
      match parseNode f t Level.LOWEST.num rest with
      | some (i, rest') =>
        if headIs .RBRACKET rest' then some (.index l i, rest'.tail)
        else if headIs .COLON rest' then sliceTail f t l (.some i) rest'.tail
        else none
      | none => none
  | f+1, t, .parseGetAttr, l, _, rest =>
    match skipNl rest with
    | nameTok :: rest' =>
      if nameTok.kind = .IDENT then
        if headIs .LPAREN rest' then
          match exprList f t .RPAREN rest'.tail with
          | some (args, r) => some (.mcall l nameTok.lit args, r)
          | none => none
        else none   -- ast.GetAttr / ast.SetAttr: outside the core
      else none
    | [] => none
  | _+1, _, _, _, _, _ => none   -- parseAssign, parsePipe, parseSend: outside the core

/-- `parseIndex` after the `:`; `toks` starts at the token after the colon -/
def sliceTail : Nat → Bool → Expr → Opt → List Token → PRes
  | 0, _, _, _, _ => none
  | f+1, t, l, lo, toks =>
    if headIs .RBRACKET toks then some (.slice l lo .none, toks.tail)
    else
      match parseNode f t Level.LOWEST.num toks with
      | some (hi, rest') =>
        if headIs .RBRACKET rest' then some (.slice l lo (.some hi), rest'.tail) else none
      | none => none

/-- `parseExprList(end)` / `parseNodeList(end)`; `toks` starts after the opening bracket -/
def exprList : Nat → Bool → Kind → List Token → Option (Args × List Token)
  | 0, _, _, _ => none
  | f+1, t, en, toks =>
    if headIs en toks then some (.nil, toks.tail)
    else
      match parseNode f t Level.LOWEST.num (skipNl toks) with
      | some (e, rest') =>
        match listTail f t en rest' with
        | some (es, rest'') => some (.cons e es, rest'')
        | none => none
      | none => none

/-- the `for p.peekTokenIs(token.COMMA)` loop of `parseExprList` and its closing bracket -/
def listTail : Nat → Bool → Kind → List Token → Option (Args × List Token)
  | 0, _, _, _ => none
  | f+1, t, en, toks =>
    if headIs .COMMA toks then
      if headIs en (skipNl toks.tail) then some (.nil, (skipNl toks.tail).tail)   -- trailing comma
      else
        match parseNode f t Level.LOWEST.num (skipNl toks.tail) with
        | some (e, rest') =>
          match listTail f t en rest' with
          | some (es, r) => some (.cons e es, r)
          | none => none
        | none => none
    else if headIs en (skipNl toks) then some (.nil, (skipNl toks).tail)
    else none
end

/-- `parseExpr fuel precedence tokens`: `parseNode` entered with the `tern` flag clear -/
def parseExpr (fuel p : Nat) (toks : List Token) : PRes := parseNode fuel false p toks

/-! ## the printer -/

/-- level of the root operator.  (`render` does not call `top` / `stop` / `bare`: it writes the
    same test out per constructor.) -/
def top : Expr → Nat
  | .infix op _ _ => prec (opKind op)
  | .neg _ | .not _ | .isIn _ _ | .notIn _ _ => Level.PREFIX.num
  | .tern _ _ _ => Level.TERNARY.num
  | _ => 100

/-- the strongest operator that may follow the unparenthesised expression without being
    swallowed by its right edge: the root level, except that a ternary's false branch is parsed
    at LOWEST and therefore swallows every operator -/
def stop : Expr → Nat
  | .tern _ _ _ => Level.LOWEST.num
  | e => top e

/-- `bare q fl e`: in a position whose parse level is `q` and whose following token has
    precedence `fl`, `e` can be printed without parentheses (the test `render` hands to `wrap`) -/
def bare (q fl : Nat) (e : Expr) : Bool := decide (q < top e) && decide (fl ≤ stop e)

def wrap (ok : Bool) (fl : Nat) (g : Nat → List Token) : List Token :=
  if ok then g fl else [tk .LPAREN] ++ g Level.LOWEST.num ++ [tk .RPAREN]

mutual
/-- `render q fl e`: the tokens of `e` as an operand in a position with parse level `q`
    (operators of level ≤ q end the operand) followed by a token of precedence `fl` -/
def render : Nat → Nat → Expr → List Token
  | _, _, .int n => [⟨.INT, toString n⟩]
  | _, _, .bool b => [tk (if b then .TRUE else .FALSE)]
  | _, _, .nil => [tk .NIL]
  | _, _, .str s => [⟨.STRING, s⟩]
  | _, _, .ident x => [⟨.IDENT, x⟩]
  | q, fl, .infix op l r =>
    wrap (decide (q < prec (opKind op)) && decide (fl ≤ prec (opKind op))) fl fun fl' =>
      render (prec (opKind op) - 1) (prec (opKind op)) l ++ [tk (opKind op)] ++ render (prec (opKind op)) fl' r
  | q, fl, .neg e =>
    wrap (decide (q < Level.PREFIX.num) && decide (fl ≤ Level.PREFIX.num)) fl fun fl' =>
      [tk .MINUS] ++ render Level.PREFIX.num fl' e
  | q, fl, .not e =>
    wrap (decide (q < Level.PREFIX.num) && decide (fl ≤ Level.PREFIX.num)) fl fun fl' =>
      [tk .BANG] ++ render Level.PREFIX.num fl' e
  | q, fl, .tern c a b =>
    wrap (decide (q < Level.TERNARY.num) && decide (fl ≤ Level.LOWEST.num)) fl fun fl' =>
      render Level.TERNARY.num Level.TERNARY.num c ++ [tk .QUESTION]
        ++ render Level.TERNARY.num Level.LOWEST.num a ++ [tk .COLON]
        ++ render Level.TERNARY.num fl' b
  | q, fl, .isIn x c =>
    wrap (decide (q < Level.PREFIX.num) && decide (fl ≤ Level.PREFIX.num)) fl fun fl' =>
      render Level.PREFIX.num Level.PREFIX.num x ++ [tk .IN] ++ render Level.PREFIX.num fl' c
  | q, fl, .notIn x c =>
    wrap (decide (q < Level.PREFIX.num) && decide (fl ≤ Level.PREFIX.num)) fl fun fl' =>
      render Level.PREFIX.num Level.PREFIX.num x ++ [tk .NOT, tk .IN] ++ render Level.PREFIX.num fl' c
  | _, _, .call f args =>
    render Level.PREFIX.num Level.CALL.num f ++ [tk .LPAREN] ++ renderArgs args ++ [tk .RPAREN]
  | _, _, .mcall o name args =>
    render Level.CALL.num Level.INDEX.num o ++ [tk .PERIOD, ⟨.IDENT, name⟩, tk .LPAREN]
      ++ renderArgs args ++ [tk .RPAREN]
  | _, _, .index e i =>
    render Level.CALL.num Level.INDEX.num e ++ [tk .LBRACKET]
      ++ render Level.LOWEST.num Level.LOWEST.num i ++ [tk .RBRACKET]
  | _, _, .slice e lo hi =>
    render Level.CALL.num Level.INDEX.num e ++ [tk .LBRACKET] ++ renderOpt lo ++ [tk .COLON]
      ++ renderOpt hi ++ [tk .RBRACKET]
  | _, _, .list items => [tk .LBRACKET] ++ renderArgs items ++ [tk .RBRACKET]
/-- items separated by commas, each printed as a whole expression -/
def renderArgs : Args → List Token
  | .nil => []
  | .cons e es => render Level.LOWEST.num Level.LOWEST.num e ++ renderTail es
def renderTail : Args → List Token
  | .nil => []
  | .cons e es => [tk .COMMA] ++ render Level.LOWEST.num Level.LOWEST.num e ++ renderTail es
def renderOpt : Opt → List Token
  | .none => []
  | .some e => render Level.LOWEST.num Level.LOWEST.num e
end

/-- the tokens of a whole expression (statement position, argument, list item, index …) -/
def renderTop (e : Expr) : List Token := render Level.LOWEST.num Level.LOWEST.num e

/-! ## the language's restriction on ternaries

`parseTernary` refuses a `?` while the `tern` flag is set, and the flag stays set through
parentheses, call arguments, indices and list items inside the branches. -/

mutual
/-- no ternary anywhere inside -/
def noTern : Expr → Bool
  | .int _ | .bool _ | .nil | .str _ | .ident _ => true
  | .infix _ l r => noTern l && noTern r
  | .neg e | .not e => noTern e
  | .tern _ _ _ => false
  | .isIn x c | .notIn x c => noTern x && noTern c
  | .call f args => noTern f && noTernArgs args
  | .mcall o _ args => noTern o && noTernArgs args
  | .index e i => noTern e && noTern i
  | .slice e lo hi => noTern e && noTernOpt lo && noTernOpt hi
  | .list items => noTernArgs items
def noTernArgs : Args → Bool
  | .nil => true
  | .cons e es => noTern e && noTernArgs es
def noTernOpt : Opt → Bool
  | .none => true
  | .some e => noTern e
end

mutual
/-- `unnested e`: the branches of every ternary inside `e` contain no ternary (its condition
    may).  This is exactly the set of trees the real parser can produce. -/
def unnested : Expr → Bool
  | .int _ | .bool _ | .nil | .str _ | .ident _ => true
  | .infix _ l r => unnested l && unnested r
  | .neg e | .not e => unnested e
  | .tern c a b => unnested c && noTern a && noTern b
  | .isIn x c | .notIn x c => unnested x && unnested c
  | .call f args => unnested f && unnestedArgs args
  | .mcall o _ args => unnested o && unnestedArgs args
  | .index e i => unnested e && unnested i
  | .slice e lo hi => unnested e && unnestedOpt lo && unnestedOpt hi
  | .list items => unnestedArgs items
def unnestedArgs : Args → Bool
  | .nil => true
  | .cons e es => unnested e && unnestedArgs es
def unnestedOpt : Opt → Bool
  | .none => true
  | .some e => unnested e
end

/-- what the tree must satisfy to be parsed with the `tern` flag equal to `t` -/
def okT (t : Bool) (e : Expr) : Bool := if t then noTern e else unnested e
def okTArgs (t : Bool) (a : Args) : Bool := if t then noTernArgs a else unnestedArgs a
def okTOpt (t : Bool) (o : Opt) : Bool := if t then noTernOpt o else unnestedOpt o

/-- the precedence with which the first token of `rest` would continue an expression:
    its table entry if it has an infix function, `LOWEST` otherwise -/
def firstOp : List Token → Nat
  | [] => Level.LOWEST.num
  | tok :: _ => if (infixFn tok.kind).isSome then prec tok.kind else Level.LOWEST.num

/-- side condition of the round trip: the continuation does not extend the expression, i.e. it
    is empty or starts with a token that has no infix function (EOF, newline, `)`, `]`, `,`, `:`,
    `;`, `}`, a literal, a keyword …) -/
def stopsExpr : List Token → Bool
  | [] => true
  | tok :: _ => (infixFn tok.kind).isNone

/-- nesting depth along operand positions -/
def Expr.depth : Expr → Nat
  | .infix _ l r => 1 + max l.depth r.depth
  | .neg e | .not e => 1 + e.depth
  | .tern c a b => 1 + max c.depth (max a.depth b.depth)
  | .isIn x c | .notIn x c => 1 + max x.depth c.depth
  | .call f _ | .mcall f _ _ => 1 + f.depth
  | .index e i => 1 + max e.depth i.depth
  | .slice e _ _ => 1 + e.depth
  | _ => 1

end Risor.C01.Pratt
