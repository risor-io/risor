import RisorModel.C01.Sem
/-
C01 — the PROVED FRAGMENT of compiler correctness (DESIGN.md C01, `compile_correct`).

Three executable definitions restricted to a named fragment of the core grammar:

  * `ev` / `evalF`   the restriction of the reference semantics `Sem.lean` to the fragment,
                     over a flat store of global variables (`Store`, an association list);
  * `comp` / `compF` a FUNCTIONAL compiler for the fragment.  It produces the slot sequence
                     `compiler.go` (and its model `Compile.lean`) produces for the main code
                     object: same opcodes, same operand widths, same RELATIVE jump operands,
                     same `Nop`/`PopTop`/`Nil` placement.  Global variables are referred to BY
                     NAME and constants are INLINE in the instruction (`constInt 3`,
                     `loadG "x"`): indices into the constant pool and the global table are
                     not position independent, so they are assigned by a separate assembly
                     pass (`FragOracle.lean: fragAssemble`, DESIGN's `compileSym`/`assemble`
                     split) which the correspondence check compares with the real bytecode;
  * `step` / `runF`  the restriction of `VM.lean`'s `step` to the opcodes `comp` emits.

Code is a list of SLOTS as in the real `[]op.Code`: an instruction with one operand occupies
two slots (`some ins`, `none`), so `pc` and every jump operand are in the real units.

The fragment (`wf`): F1 = expressions, assignments, if/else, the three `for` forms; F2 = `break`
and `continue` where no operand is pending; F3 = `switch` (see `wf` and FragProps.lean).

`FragProps.lean` proves: for every program of the fragment and every fuel, if `evalF` ends
(value or error) then `runF` on the compiled code ends with the same value / error class and
the same final store.  The links `evalF = Sem`, `compF = Compile.lean = compiler.go`,
`runF = VM.lean = vm.go` are checked by correspondence on every run (`harness/c01frag.go`).
Core Lean only.
-/
namespace Risor.C01.Frag
open Risor.C01

/-! ### values, stores, outcomes -/

inductive FVal where
  | nil
  | bool (b : Bool)
  | int (i : Int)
  | str (s : String)
  deriving Repr, DecidableEq, Inhabited

def FVal.truthy : FVal → Bool
  | .nil => false
  | .bool b => b
  | .int i => i != 0
  | .str s => s != ""

/-- global variables by name; the most recent binding wins; an unbound name reads `nil`
    (as `LoadGlobal` on a slot that was never stored does) -/
abbrev Store := List (String × FVal)

def Store.get : Store → String → FVal
  | [], _ => .nil
  | (y, v) :: r, x => if x == y then v else Store.get r x

def Store.set (σ : Store) (x : String) (v : FVal) : Store := (x, v) :: σ

inductive Out where
  | val (v : FVal)        -- an expression / expression statement / statement list produced a value
  | unit                  -- a non-expression statement completed
  | brk | cont            -- a `break` / `continue` on its way to the enclosing loop
  | err (cls : String)    -- error class ("type", "panic" = recovered Go panic, e.g. division by zero)
  | oof                   -- out of fuel
  deriving Repr, DecidableEq, Inhabited

/-! ### operators: the Spec side (shape of `Sem.binop`) and the VM side (shape of `VM.vBinary`,
    `VM.vCompare`, keyed by the numeric operand of `BinaryOp` / `CompareOp`) -/

def binopF (op : BinOp) (a b : FVal) : Except String FVal :=
  match op with
  | .eq => .ok (.bool (a == b))
  | .ne => .ok (.bool (!(a == b)))
  | .and => .ok (if a.truthy then b else a)
  | .or => .ok (if a.truthy then a else b)
  | _ =>
    match a, b with
    | .int x, .int y =>
      match op with
      | .add => .ok (.int (wrap64 (x + y)))
      | .sub => .ok (.int (wrap64 (x - y)))
      | .mul => .ok (.int (wrap64 (x * y)))
      | .div => if y == 0 then .error "panic" else .ok (.int (wrap64 (Int.tdiv x y)))
      | .mod => if y == 0 then .error "panic" else .ok (.int (wrap64 (Int.tmod x y)))
      | .lt => .ok (.bool (x < y))
      | .le => .ok (.bool (x ≤ y))
      | .gt => .ok (.bool (x > y))
      | .ge => .ok (.bool (x ≥ y))
      | _ => .error "unsupported"
    | .str x, .str y =>
      match op with
      | .add => .ok (.str (x ++ y))
      | .lt => .ok (.bool (x < y))
      | .le => .ok (.bool (x ≤ y))
      | .gt => .ok (.bool (x > y))
      | .ge => .ok (.bool (x ≥ y))
      | _ => .error "type"
    | .bool x, .bool y =>
      match op with
      | .lt => .ok (.bool (!x && y))
      | .le => .ok (.bool (!x || y))
      | .gt => .ok (.bool (x && !y))
      | .ge => .ok (.bool (x || !y))
      | _ => .error "type"
    | .nil, .nil =>
      match op with
      | .lt | .gt => .ok (.bool false)
      | .le | .ge => .ok (.bool true)
      | _ => .error "type"
    | _, _ => .error "type"

def applyF (op : AssignOp) (cur v : FVal) : Except String FVal :=
  match op with
  | .set => .ok v
  | .add => binopF .add cur v
  | .sub => binopF .sub cur v
  | .mul => binopF .mul cur v
  | .div => binopF .div cur v

def vBinaryF (k : Nat) (a b : FVal) : Except String FVal :=
  if k == 6 then .ok (if a.truthy then b else a)
  else if k == 7 then .ok (if a.truthy then a else b)
  else
    match a, b with
    | .int x, .int y =>
      if k == 1 then .ok (.int (wrap64 (x + y)))
      else if k == 2 then .ok (.int (wrap64 (x - y)))
      else if k == 3 then .ok (.int (wrap64 (x * y)))
      else if k == 4 then (if y == 0 then .error "panic" else .ok (.int (wrap64 (Int.tdiv x y))))
      else if k == 5 then (if y == 0 then .error "panic" else .ok (.int (wrap64 (Int.tmod x y))))
      else .error "unsupported"
    | .str x, .str y => if k == 1 then .ok (.str (x ++ y)) else .error "type"
    | _, _ => .error "type"

def vCompareF (k : Nat) (a b : FVal) : Except String FVal :=
  if k == 3 then .ok (.bool (a == b))
  else if k == 4 then .ok (.bool (!(a == b)))
  else
    match a, b with
    | .int x, .int y =>
      .ok (.bool (if k == 1 then x < y else if k == 2 then x ≤ y else if k == 5 then x > y else x ≥ y))
    | .str x, .str y =>
      .ok (.bool (if k == 1 then x < y else if k == 2 then x ≤ y else if k == 5 then x > y else x ≥ y))
    | .bool x, .bool y =>
      .ok (.bool (if k == 1 then !x && y else if k == 2 then !x || y else if k == 5 then x && !y else x || !y))
    | .nil, .nil => .ok (.bool (if k == 1 then false else if k == 2 then true else if k == 5 then false else true))
    | _, _ => .error "type"

/-! ### shallow syntactic classes (head constructor only) -/

def isNilL : N → Bool
  | .nilL => true
  | _ => false

/-- `leavesValue` of compiler.go on fragment statements: expression statements -/
def leaves : N → Bool
  | .expr _ => true
  | _ => false

/-- statements that push no value: they complete with `unit` (or, for `break`/`continue`, leave
    towards the loop's target) with the operand stack as they found it -/
def isUnitNode : N → Bool
  | .var _ _ | .assign _ _ _ | .postfix _ _ | .forcond _ _ | .forever _ | .for3 _ _ _ _
  | .break_ | .continue_ => true
  | _ => false

def isE : N → Bool
  | .nilLit | .int _ | .bool _ | .str _ | .id _ | .infix _ _ _ | .neg _ | .not _ | .tern _ _ _ | .if_ _ _ _
  | .switch _ _ => true
  | _ => false

def isBlock : N → Bool
  | .block _ => true
  | _ => false

/-- else branch: a block, nothing, or another `if` (`else if`) -/
def isElse : N → Bool
  | .block _ | .none_ | .if_ _ _ _ => true
  | _ => false

def isL : N → Bool
  | .cons _ _ | .nilL => true
  | _ => false

def isS (n : N) : Bool := isUnitNode n || leaves n

/-- a `break`/`continue` inside `n` can leave `n` (loops catch their own) -/
def escapes : N → Bool
  | .break_ | .continue_ => true
  | .infix _ l r => escapes l || escapes r
  | .neg e | .not e | .expr e | .block e | .prog e | .var _ e | .assign _ _ e => escapes e
  | .tern c a b | .if_ c a b => escapes c || escapes a || escapes b
  | .cons h t => escapes h || escapes t
  | _ => false

/-- `for INIT; …` : a declaration, assignment or `x++` -/
def isInit : N → Bool
  | .var _ _ | .assign _ _ _ | .postfix _ _ => true
  | _ => false

/-- `for …; …; POST` : an assignment, `x++` or an expression statement -/
def isPost : N → Bool
  | .assign _ _ _ | .postfix _ _ | .expr _ => true
  | _ => false

/-- infix operators of the fragment: everything `Sem.binop` models (`**`, `<<`, `>>`, `&` are
    `unsupported` there) -/
def opOK : BinOp → Bool
  | .pow | .lshift | .rshift | .bitand => false
  | _ => true

/-- the name of a statement-level `x++` / `x--` -/
def postName : N → Option String
  | .postfix x _ => some x
  | _ => none

/-! ### the fragment (shape) -/

def isDefault : N → Bool
  | .default_ _ => true
  | _ => false

def countDefault : N → Nat
  | .cons h t => (if isDefault h then 1 else 0) + countDefault t
  | _ => 0

mutual
/-- F1: literals, global identifiers, infix operators (errors included), `&&`, `||`, unary `-`
    and `!`, ternary, if / else-if / else expressions with block bodies, `x := e`, `x op= e`,
    `x++`/`x--`, expression statements, statement lists, `for c { }`, `for { }`,
    `for init; c; post { }`; no functions, no containers.
    F2: `break` and `continue` as statements of a loop body, of the blocks of an `if` that is
    itself in such a position (to any depth), i.e. NOT under pending operands: no
    break/continue may escape an operand of an operator, a condition, the right-hand side of
    an assignment, a loop's init/condition/post, or the program (`escapes … = false` there;
    the excluded programs are exactly those of C04's finding `ctl-under-operands`).
    F3: `switch` expressions (subject, cases with one or more values, optional default, block
    bodies) in risor's two-section lowering (all comparisons, then all bodies, default last,
    `Swap 1; PopTop` dropping the subject); no break/continue may leave a switch. -/
def wf : N → Bool
  | .nilLit | .none_ | .int _ | .bool _ | .str _ | .id _ | .nilL | .postfix _ _ | .break_ | .continue_ => true
  | .infix op l r => opOK op && isE l && isE r && !escapes l && !escapes r && wf l && wf r
  | .neg e | .not e => isE e && !escapes e && wf e
  | .tern c a b => isE c && isE a && isE b && !escapes c && !escapes a && !escapes b && wf c && wf a && wf b
  | .if_ c t e => isE c && isBlock t && isElse e && !escapes c && wf c && wf t && wf e
  | .block s => isL s && wf s
  | .prog s => isL s && !escapes s && wf s
  | .cons h t => isS h && isL t && wf h && wf t
  | .var _ e => isE e && !escapes e && wf e
  | .assign _ _ e => isE e && !escapes e && wf e
  | .expr e => isE e && wf e
  | .forcond c b => isE c && isBlock b && !escapes c && wf c && wf b
  | .forever b => isBlock b && wf b
  | .for3 i c p b =>
    isInit i && isE c && isPost p && isBlock b && !escapes i && !escapes c && !escapes p && wf i && wf c && wf p && wf b
  | .switch subj cases => isE subj && !escapes subj && wf subj && wfCases cases && decide (countDefault cases ≤ 1)
  | _ => false
/-- case values: expressions no break/continue escapes -/
def wfVals : N → Bool
  | .cons v vs => isE v && !escapes v && wf v && wfVals vs
  | .nilL => true
  | _ => false
/-- `case v1, v2: block` / `default: block`; no break/continue leaves the switch (it would have
    to pop the subject: `pendingSwitchValues`, outside this fragment) -/
def wfCase : N → Bool
  | .case_ vals body => wfVals vals && isBlock body && !escapes body && wf body
  | .default_ body => isBlock body && !escapes body && wf body
  | _ => false
def wfCases : N → Bool
  | .cons h t => wfCase h && wfCases t
  | .nilL => true
  | _ => false
end

/-! ### scoping: every variable is declared exactly once (`x := e`), before its uses, in an
    enclosing scope.  Under this condition a flat store of globals is an exact model of
    `Sem.lean`'s lexical environments and of the compiler's block symbol tables (which claim
    a fresh global index per declaration).  The THEOREM does not need it (both `ev` and the
    VM read `nil` from an unbound name); the LINKS to `Sem.lean`/`Compile.lean` do: there an
    undeclared or redeclared name is a compile error. -/

def declOf : N → List String
  | .var x _ => [x]
  | _ => []

mutual
/-- uses are in scope; `env` = the names visible here -/
def scopeOK : List String → N → Bool
  | env, .id x => env.contains x
  | env, .infix _ l r => scopeOK env l && scopeOK env r
  | env, .neg e | env, .not e | env, .expr e | env, .block e | env, .prog e | env, .var _ e => scopeOK env e
  | env, .tern c a b | env, .if_ c a b => scopeOK env c && scopeOK env a && scopeOK env b
  | env, .assign x _ e => env.contains x && scopeOK env e
  | env, .postfix x _ => env.contains x
  | env, .cons h t => scopeOK env h && scopeOK (declOf h ++ env) t
  | env, .forcond c b => scopeOK env c && scopeOK env b
  | env, .forever b => scopeOK env b
  | env, .for3 i c p b =>
    scopeOK env i && scopeOK (declOf i ++ env) c && scopeOK (declOf i ++ env) p && scopeOK (declOf i ++ env) b
  | env, .switch subj cases => scopeOK env subj && scopeCases env cases
  | _, _ => true
def scopeVals : List String → N → Bool
  | env, .cons v vs => scopeOK env v && scopeVals env vs
  | _, _ => true
def scopeCase : List String → N → Bool
  | env, .case_ vals body => scopeVals env vals && scopeOK env body
  | env, .default_ body => scopeOK env body
  | _, _ => true
def scopeCases : List String → N → Bool
  | env, .cons h t => scopeCase env h && scopeCases env t
  | _, _ => true
end

mutual
/-- every declared name, in compile order -/
def decls : N → List String
  | .infix _ l r => decls l ++ decls r
  | .neg e | .not e | .expr e | .block e | .prog e | .assign _ _ e | .forever e => decls e
  | .tern c a b | .if_ c a b => decls c ++ decls a ++ decls b
  | .var x e => decls e ++ [x]
  | .cons h t => decls h ++ decls t
  | .forcond c b => decls c ++ decls b
  | .for3 i c p b => decls i ++ decls c ++ decls b ++ decls p
  | .switch subj cases => decls subj ++ declsCmp cases ++ declsBodies cases ++ declsDflt cases
  | _ => []
def declsVals : N → List String
  | .cons v vs => decls v ++ declsVals vs
  | _ => []
def declsCmpCase : N → List String
  | .case_ vals _ => declsVals vals
  | _ => []
def declsCmp : N → List String
  | .cons h t => declsCmpCase h ++ declsCmp t
  | _ => []
def declsBody : N → List String
  | .case_ _ body => decls body
  | _ => []
def declsBodies : N → List String
  | .cons h t => declsBody h ++ declsBodies t
  | _ => []
def declsDfltBody : N → List String
  | .default_ body => decls body
  | _ => []
def declsDflt : N → List String
  | .cons h t => if isDefault h then declsDfltBody h else declsDflt t
  | _ => []
end

def nodup : List String → Bool
  | [] => true
  | x :: r => !r.contains x && nodup r

/-- the decidable `WellScoped` predicate: fresh names only, uses after declarations -/
def wellScoped (p : N) : Bool := scopeOK [] p && nodup (decls p)

/-- the fragment: a program (`prog`) of the shape `wf`, well scoped -/
def inFrag (p : N) : Bool :=
  match p with
  | .prog _ => wf p && wellScoped p
  | _ => false

/-! ### reference semantics restricted to the fragment -/

/-- continue with the value of a sub-evaluation; anything else (error, out of fuel) is the
    result (as every `| other => other` arm of `Sem.evalE`) -/
def seqV (r : Out × Store) (k : FVal → Store → Out × Store) : Out × Store :=
  match r with
  | (.val v, σ) => k v σ
  | other => other

def liftE (x : Except String FVal) (σ : Store) : Out × Store :=
  match x with
  | .ok v => (.val v, σ)
  | .error c => (.err c, σ)

/-- `Sem.loop3`: condition, body block, post statement; `k` bounds the iterations.
    `break` in the body ends the loop, `continue` goes on with the post statement. -/
def loopF (cond body post : Store → Out × Store) : Nat → Store → Out × Store
  | 0, σ => (.oof, σ)
  | k + 1, σ =>
    seqV (cond σ) fun v σ1 =>
      if v.truthy then
        match body σ1 with
        | (.brk, σ2) => (.unit, σ2)
        | (.val _, σ2) =>
          (match post σ2 with
          | (.unit, σ3) => loopF cond body post k σ3
          | (.val _, σ3) => loopF cond body post k σ3
          | other => other)
        | (.cont, σ2) =>
          (match post σ2 with
          | (.unit, σ3) => loopF cond body post k σ3
          | (.val _, σ3) => loopF cond body post k σ3
          | other => other)
        | other => other
      else (.unit, σ1)

/-- `Sem.matchVals`: the case values in order, the first one equal to the subject wins -/
def matchValsF (rec : N → Store → Out × Store) (sv : FVal) : N → Store → Except Out Bool × Store
  | .cons v vs, σ =>
    match rec v σ with
    | (.val x, σ1) => if sv == x then (.ok true, σ1) else matchValsF rec sv vs σ1
    | (o, σ1) => (.error o, σ1)
  | _, σ => (.ok false, σ)

/-- the body of the (first) default case -/
def dfltBody : N → Option N
  | .cons h t =>
    match h with
    | .default_ b => some b
    | _ => dfltBody t
  | _ => none

/-- no case matched: the default's body, or nil -/
def runDflt (rec : N → Store → Out × Store) (dflt : Option N) (σ : Store) : Out × Store :=
  match dflt with
  | some b => rec b σ
  | none => (.val .nil, σ)

/-- `Sem.evalCases`: cases in order; no match: the default's body, or nil -/
def evCasesF (rec : N → Store → Out × Store) (sv : FVal) (dflt : Option N) : N → Store → Out × Store
  | .cons h rest, σ =>
    match h with
    | .case_ vals body =>
      match matchValsF rec sv vals σ with
      | (.ok true, σ1) => rec body σ1
      | (.ok false, σ1) => evCasesF rec sv dflt rest σ1
      | (.error o, σ1) => (o, σ1)
    | _ => evCasesF rec sv dflt rest σ
  | _, σ => runDflt rec dflt σ

/-- one node, sub-nodes through `rec` (open recursion: `ev` ties the knot on fuel) -/
def evNode (fuel : Nat) (rec : N → Store → Out × Store) (n : N) (σ : Store) : Out × Store :=
  match n with
  | .nilLit => (.val .nil, σ)
  | .none_ => (.val .nil, σ)
  | .int i => (.val (.int i), σ)
  | .bool b => (.val (.bool b), σ)
  | .str s => (.val (.str s), σ)
  | .id x => (.val (σ.get x), σ)
  | .infix op l r =>
    seqV (rec l σ) fun a σ1 =>
      if op = .and then
        (if a.truthy then seqV (rec r σ1) (fun b σ2 => (.val b, σ2)) else (.val a, σ1))
      else if op = .or then
        (if a.truthy then (.val a, σ1) else seqV (rec r σ1) (fun b σ2 => (.val b, σ2)))
      else seqV (rec r σ1) fun b σ2 => liftE (binopF op a b) σ2
  | .neg e =>
    seqV (rec e σ) fun v σ1 =>
      match v with
      | .int i => (.val (.int (wrap64 (-i))), σ1)
      | _ => (.err "type", σ1)
  | .not e => seqV (rec e σ) fun v σ1 => (.val (.bool (!v.truthy)), σ1)
  | .tern c a b => seqV (rec c σ) fun v σ1 => if v.truthy then rec a σ1 else rec b σ1
  | .if_ c t e => seqV (rec c σ) fun v σ1 => if v.truthy then rec t σ1 else rec e σ1
  | .block s => rec s σ
  | .prog s => rec s σ
  | .expr e => rec e σ
  | .nilL => (.val .nil, σ)
  | .cons h t =>
    if isNilL t then
      -- last statement: its value, or nil when it is not an expression
      match rec h σ with
      | (.unit, σ1) => (.val .nil, σ1)
      | other => other
    else
      match rec h σ with
      | (.val _, σ1) => rec t σ1
      | (.unit, σ1) => rec t σ1
      | other => other
  | .var x e => seqV (rec e σ) fun v σ1 => (.unit, σ1.set x v)
  | .assign x op e =>
    -- the current value is read BEFORE the right-hand side runs (Sem.execS; the compiler
    -- emits the load first)
    seqV (rec e σ) fun v σ1 =>
      match applyF op (σ.get x) v with
      | .ok r => (.unit, σ1.set x r)
      | .error c => (.err c, σ1)
  | .postfix x inc =>
    match binopF .add (σ.get x) (.int (if inc then 1 else -1)) with
    | .ok r => (.unit, σ.set x r)
    | .error c => (.err c, σ)
  | .forcond c b => loopF (rec c) (rec b) (fun σ => (.unit, σ)) fuel σ
  | .forever b => loopF (fun σ => (.val (.bool true), σ)) (rec b) (fun σ => (.unit, σ)) fuel σ
  | .for3 i c p b =>
    match rec i σ with
    | (.unit, σ1) => loopF (rec c) (rec b) (rec p) fuel σ1
    | other => other
  | .break_ => (.brk, σ)
  | .continue_ => (.cont, σ)
  | .switch subj cases => seqV (rec subj σ) fun sv σ1 => evCasesF rec sv (dfltBody cases) cases σ1
  | _ => (.err "unsupported", σ)

def ev : Nat → N → Store → Out × Store
  | 0, _, σ => (.oof, σ)
  | f + 1, n, σ => evNode f (ev f) n σ

/-- a whole program from the empty store -/
def evalF (fuel : Nat) (p : N) : Out × Store := ev fuel p []

/-! ### target: slots, instructions, the functional compiler -/

inductive FIns where
  | nop | nil_ | true_ | false_ | popTop | unaryNeg | unaryNot
  | constInt (i : Int) | constStr (s : String)        -- LoadConst k, the constant inline
  | loadG (x : String) | storeG (x : String)          -- LoadGlobal / StoreGlobal, by name
  | binary (k : Nat) | compare (k : Nat) | copy (k : Nat) | swap (k : Nat)
  | jf (d : Nat) | jb (d : Nat) | pjf (d : Nat) | pjt (d : Nat)
  deriving Repr, DecidableEq, Inhabited

/-- `some i` = an opcode slot, `none` = an operand slot -/
abbrev Code := List (Option FIns)

/-- an instruction without operands -/
def one (i : FIns) : Code := [some i]
/-- an instruction with one operand -/
def two (i : FIns) : Code := [some i, none]

def opIns : BinOp → FIns
  | .add => .binary 1 | .sub => .binary 2 | .mul => .binary 3 | .div => .binary 4 | .mod => .binary 5
  | .and => .binary 6 | .or => .binary 7
  | .pow => .binary 9 | .lshift => .binary 10 | .rshift => .binary 11 | .bitand => .binary 12
  | .lt => .compare 1 | .le => .compare 2 | .eq => .compare 3 | .ne => .compare 4
  | .gt => .compare 5 | .ge => .compare 6

def assignK : AssignOp → Nat
  | .set => 0 | .add => 1 | .sub => 2 | .mul => 3 | .div => 4

/-- the parser reads a statement `x++` as the expression statement `x` followed by the postfix
    node (`Compile.expandStmts`): `LoadGlobal x; PopTop` precede it in a statement list -/
def pre (h : N) : Code :=
  match postName h with
  | some x => two (.loadG x) ++ one .popTop
  | none => []

def preLen (h : N) : Nat :=
  match postName h with
  | some _ => 3
  | none => 0

mutual
/-- number of slots of a node's code (independent of where it sits) -/
def size : N → Nat
  | .nilLit | .none_ | .nilL | .bool _ => 1
  | .int _ | .str _ | .id _ | .break_ | .continue_ => 2
  | .infix op l r => if op = .and ∨ op = .or then size l + size r + 7 else size l + size r + 2
  | .neg e | .not e => size e + 1
  | .tern c a b | .if_ c a b => size c + size a + size b + 4
  | .block s | .prog s | .expr s => size s
  | .cons h t =>
    preLen h + size h +
      (if isNilL t then (if leaves h then 0 else 1) else (if leaves h then 1 else 0) + size t)
  | .var _ e => size e + 2
  | .assign _ op e => if op = .set then size e + 2 else size e + 6
  | .postfix _ _ => 8
  | .forcond c b => size c + size b + 6
  | .forever b => size b + 4
  | .for3 i c p b => size i + size c + size b + (size p + (if leaves p then 1 else 0)) + 5
  | .switch subj cases => size subj + cmpLen cases + 2 + bodiesLen cases + defLen cases + 3
  | _ => 0
/-- comparison code of a case's values: `Copy 0; v; CompareOp ==; PopJumpForwardIfTrue` each -/
def valsLen : N → Nat
  | .cons v vs => size v + 6 + valsLen vs
  | _ => 0
def caseCmpLen : N → Nat
  | .case_ vals _ => valsLen vals
  | _ => 0
def cmpLen : N → Nat
  | .cons h t => caseCmpLen h + cmpLen t
  | _ => 0
/-- a case's body and the jump to the end of the switch -/
def caseBodyLen : N → Nat
  | .case_ _ body => size body + 2
  | _ => 0
def bodiesLen : N → Nat
  | .cons h t => caseBodyLen h + bodiesLen t
  | _ => 0
def dfltBodyLen : N → Nat
  | .default_ body => size body
  | _ => 0
/-- the default section: the default's body, or `Nil` -/
def defLen : N → Nat
  | .cons h t => if isDefault h then dfltBodyLen h else defLen t
  | _ => 1
end

mutual
/-- `comp kb kc n`: the code of `n` when the enclosing loop's `break` target lies `kb` slots
    and its `continue` target `kc` slots after the END of `n`'s code.  This is the closed form
    of the compiler's placeholder patching (`changeOperand(pos, target - pos)`): jumps are
    relative, so the operand of a `break` is a function of fragment lengths only.  Operands
    that no break/continue may escape in the fragment are compiled with `0 0`. -/
def comp (kb kc : Nat) : N → Code
  | .nilLit => one .nil_
  | .none_ => one .nil_
  | .int i => two (.constInt i)
  | .bool b => one (if b then .true_ else .false_)
  | .str s => two (.constStr s)
  | .id x => two (.loadG x)
  | .infix op l r =>
    if op = .and then
      comp 0 0 l ++ two (.copy 0) ++ two (.pjf (size r + 5)) ++ comp 0 0 r ++ two (.binary 6) ++ one .nop
    else if op = .or then
      comp 0 0 l ++ two (.copy 0) ++ two (.pjt (size r + 5)) ++ comp 0 0 r ++ two (.binary 7) ++ one .nop
    else comp 0 0 l ++ comp 0 0 r ++ two (opIns op)
  | .neg e => comp 0 0 e ++ one .unaryNeg
  | .not e => comp 0 0 e ++ one .unaryNot
  | .tern c a b =>
    comp 0 0 c ++ two (.pjf (size a + 4)) ++ comp (kb + (size b + 2)) (kc + (size b + 2)) a
      ++ two (.jf (size b + 2)) ++ comp kb kc b
  | .if_ c t e =>
    comp 0 0 c ++ two (.pjf (size t + 4)) ++ comp (kb + (size e + 2)) (kc + (size e + 2)) t
      ++ two (.jf (size e + 2)) ++ comp kb kc e
  | .block s => comp kb kc s
  | .prog s => comp kb kc s
  | .expr e => comp kb kc e
  | .nilL => one .nil_
  | .cons h t =>
    pre h ++
      (if isNilL t then
        comp (kb + (if leaves h then 0 else 1)) (kc + (if leaves h then 0 else 1)) h
          ++ (if leaves h then [] else one .nil_)
       else
        comp (kb + ((if leaves h then 1 else 0) + size t)) (kc + ((if leaves h then 1 else 0) + size t)) h
          ++ ((if leaves h then one .popTop else []) ++ comp kb kc t))
  | .var x e => comp 0 0 e ++ two (.storeG x)
  | .assign x op e =>
    if op = .set then comp 0 0 e ++ two (.storeG x)
    else two (.loadG x) ++ comp 0 0 e ++ two (.binary (assignK op)) ++ two (.storeG x)
  | .postfix x inc =>
    two (.loadG x) ++ two (.constInt (if inc then 1 else -1)) ++ two (.binary 1) ++ two (.storeG x)
  | .break_ => two (.jf (kb + 2))
  | .continue_ => two (.jf (kc + 2))
  | .forcond c b =>
    -- break lands on the Nop after the backward jump, continue on the backward jump itself
    comp 0 0 c ++ two (.pjf (size b + 6)) ++ comp 3 1 b ++ one .popTop
      ++ two (.jb (size c + size b + 3)) ++ one .nop
  | .forever b => comp 3 1 b ++ one .popTop ++ two (.jb (size b + 1)) ++ one .nop
  | .for3 i c p b =>
    -- break lands after the backward jump, continue on the post statement
    comp 0 0 i ++ comp 0 0 c
      ++ two (.pjf (size b + (size p + (if leaves p then 1 else 0)) + 5))
      ++ comp ((size p + (if leaves p then 1 else 0)) + 3) 1 b ++ one .popTop
      ++ comp 0 0 p ++ (if leaves p then one .popTop else [])
      ++ two (.jb (size c + size b + (size p + (if leaves p then 1 else 0)) + 3))
  | .switch subj cases =>
    -- subject; every case's comparisons; jump to the default; every case's body; default; drop the subject
    comp 0 0 subj ++ compCmp 0 cases ++ two (.jf (bodiesLen cases + 2)) ++ compBodies (defLen cases) cases
      ++ compDflt cases ++ two (.swap 1) ++ one .popTop
  | _ => []
/-- comparisons of one case; `k` = slots from the end of these comparisons to the case's body -/
def compVals (k : Nat) : N → Code
  | .cons v vs =>
    two (.copy 0) ++ comp 0 0 v ++ two (.compare 3) ++ two (.pjt (valsLen vs + k + 2)) ++ compVals k vs
  | _ => []
def compCmpCase (k : Nat) : N → Code
  | .case_ vals _ => compVals k vals
  | _ => []
/-- the comparison section; `before` = slots of the bodies of the earlier cases -/
def compCmp (before : Nat) : N → Code
  | .cons h t => compCmpCase (cmpLen t + 2 + before) h ++ compCmp (before + caseBodyLen h) t
  | _ => []
/-- one case body and its jump to the `Swap`, `a` slots after that jump -/
def compBody (a : Nat) : N → Code
  | .case_ _ body => comp 0 0 body ++ two (.jf (a + 2))
  | _ => []
/-- the body section; `d` = length of the default section -/
def compBodies (d : Nat) : N → Code
  | .cons h t => compBody (bodiesLen t + d) h ++ compBodies d t
  | _ => []
def compDfltBody : N → Code
  | .default_ body => comp 0 0 body
  | _ => []
def compDflt : N → Code
  | .cons h t => if isDefault h then compDfltBody h else compDflt t
  | _ => one .nil_
end

/-- the main code object of a program -/
def compF (p : N) : Code := comp 0 0 p

/-! ### the VM restricted to these opcodes (shape of `VM.step`) -/

structure Cfg where
  pc : Nat
  stk : List FVal         -- top first
  σ : Store
  deriving Repr

inductive Halt where
  | done (v : FVal)       -- end of the main code: the result is the top of the stack
  | err (cls : String)
  deriving Repr, DecidableEq

def execIns (i : FIns) (c : Cfg) : Except Halt Cfg :=
  match i, c.stk with
  | .nop, _ => .ok { c with pc := c.pc + 1 }
  | .nil_, s => .ok { c with pc := c.pc + 1, stk := .nil :: s }
  | .true_, s => .ok { c with pc := c.pc + 1, stk := .bool true :: s }
  | .false_, s => .ok { c with pc := c.pc + 1, stk := .bool false :: s }
  | .constInt k, s => .ok { c with pc := c.pc + 2, stk := .int k :: s }
  | .constStr k, s => .ok { c with pc := c.pc + 2, stk := .str k :: s }
  | .loadG x, s => .ok { c with pc := c.pc + 2, stk := c.σ.get x :: s }
  | .storeG x, v :: s => .ok { pc := c.pc + 2, stk := s, σ := c.σ.set x v }
  | .binary k, b :: a :: s =>
    match vBinaryF k a b with
    | .ok v => .ok { c with pc := c.pc + 2, stk := v :: s }
    | .error e => .error (.err e)
  | .compare k, b :: a :: s =>
    match vCompareF k a b with
    | .ok v => .ok { c with pc := c.pc + 2, stk := v :: s }
    | .error e => .error (.err e)
  | .unaryNeg, v :: s =>
    match v with
    | .int k => .ok { c with pc := c.pc + 1, stk := .int (wrap64 (-k)) :: s }
    | _ => .error (.err "type")
  | .unaryNot, v :: s => .ok { c with pc := c.pc + 1, stk := .bool (!v.truthy) :: s }
  | .popTop, _ :: s => .ok { c with pc := c.pc + 1, stk := s }
  | .copy k, s =>
    match s[k]? with
    | some v => .ok { c with pc := c.pc + 2, stk := v :: s }
    | none => .error (.err "panic")
  | .swap k, top :: s =>
    -- swap the top with the element `k` below it
    if k == 0 then .ok { c with pc := c.pc + 2 }
    else
      match s[k - 1]? with
      | some other => .ok { c with pc := c.pc + 2, stk := other :: s.set (k - 1) top }
      | none => .error (.err "panic")
  | .jf d, _ => .ok { c with pc := c.pc + d }
  | .jb d, _ => .ok { c with pc := c.pc - d }
  | .pjf d, v :: s => .ok { c with pc := if v.truthy then c.pc + 2 else c.pc + d, stk := s }
  | .pjt d, v :: s => .ok { c with pc := if v.truthy then c.pc + d else c.pc + 2, stk := s }
  | _, _ => .error (.err "panic")        -- stack underflow

def step (code : Code) (c : Cfg) : Except Halt Cfg :=
  if c.pc ≥ code.length then .error (.done (c.stk.headD .nil))
  else
    match code[c.pc]? with
    | some (some i) => execIns i c
    | _ => .error (.err "eval")

inductive RunRes where
  | running
  | done (v : FVal)
  | err (cls : String)
  deriving Repr, DecidableEq

def run (code : Code) : Nat → Cfg → RunRes × Store
  | 0, c => (.running, c.σ)
  | k + 1, c =>
    match step code c with
    | .ok c' => run code k c'
    | .error (.done v) => (.done v, c.σ)
    | .error (.err e) => (.err e, c.σ)

/-- run a compiled program from pc 0, empty stack, empty store -/
def runF (fuel : Nat) (code : Code) : RunRes × Store := run code fuel ⟨0, [], []⟩

/-- how a source outcome shows on the VM -/
def Out.toRun : Out → RunRes
  | .val v => .done v
  | .unit => .done .nil
  | .brk => .err "compile"
  | .cont => .err "compile"
  | .err c => .err c
  | .oof => .running

end Risor.C01.Frag
