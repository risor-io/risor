import RisorModel.C01.Edge
/-!
C01 — theorems about the multi-assignment statement `n1, …, nk = [e1, …, ek]` and about
`int ** int` (models: Edge.lean).  Universally quantified over all stores, all name lists, all
item expressions, all operand stacks; core Lean only.
-/
namespace Risor.C01.Edge

theorem exec_append (p q : List Ins) (c : Cfg) :
    exec (p ++ q) c = (match exec p c with | some c' => exec q c' | none => none) := by
  induction p generalizing c with
  | nil => rfl
  | cons i is ih =>
    show (match step i c with | some c' => exec (is ++ q) c' | none => none) = _
    cases h : step i c with
    | none => simp [exec, h]
    | some c' => simp [exec, h, ih]

/-- the stores of compileMultiVar, run on the unpacked items above ANY operand stack, perform
`assignAll` and leave the stack below as it was -/
theorem stores_run (ts : List Nat) (vs : List Int) (stk : List V) (s : Store)
    (hl : ts.length = vs.length) :
    exec (ts.reverse.map Ins.store) (vs.reverse.map V.int ++ stk, s) = some (stk, assignAll ts vs s) := by
  induction ts generalizing vs stk with
  | nil =>
    cases vs with
    | nil => rfl
    | cons v vs => simp at hl
  | cons t ts ih =>
    cases vs with
    | nil => simp at hl
    | cons v vs =>
      have hl' : ts.length = vs.length := by simpa using hl
      have e1 : (t :: ts).reverse.map Ins.store = ts.reverse.map Ins.store ++ [Ins.store t] := by simp
      have e2 : (v :: vs).reverse.map V.int ++ stk = vs.reverse.map V.int ++ (V.int v :: stk) := by simp
      rw [e1, e2, exec_append, ih vs (V.int v :: stk) hl']
      rfl

/-- **Multi-assignment is simultaneous (compiled code = Spec).**  For every list of names, every
list of item expressions, every store and every operand stack: the code compileMultiVar emits
(right-hand side, Unpack, stores in reverse order) ends in exactly the Spec's store — every item
evaluated in the OLD store — with the operand stack as it was; a count mismatch is an error on
both sides. -/
theorem multi_simultaneous (ts : List Nat) (items : List AExp) (stk : List V) (s : Store) :
    exec (compMulti ts items) (stk, s) = (specMulti ts items s).map (fun s' => (stk, s')) := by
  unfold compMulti specMulti
  show (match step (.rhs items) (stk, s) with
        | some c' => exec ([Ins.unpack ts.length] ++ ts.reverse.map Ins.store) c' | none => none) = _
  simp only [step]
  show (match step (.unpack ts.length) (V.list (items.map (eval s)) :: stk, s) with
        | some c' => exec (ts.reverse.map Ins.store) c' | none => none) = _
  simp only [step, List.length_map]
  by_cases h : items.length = ts.length
  · simp only [h, if_true, Option.map]
    exact stores_run ts (items.map (eval s)) stk s (by simp [h])
  · simp [h]

/-- a name that is not assigned keeps its value -/
theorem assignAll_other (ts : List Nat) (vs : List Int) (s : Store) (k : Nat) (hk : k ∉ ts) :
    assignAll ts vs s k = s k := by
  induction ts generalizing vs with
  | nil => cases vs <;> rfl
  | cons t ts ih =>
    cases vs with
    | nil => rfl
    | cons v vs =>
      have h1 : k ≠ t := fun h => hk (by simp [h])
      have h2 : k ∉ ts := fun h => hk (by simp [h])
      show (if k = t then v else assignAll ts vs s k) = s k
      simp [h1, ih vs h2]

/-- **Each name receives the value of ITS item, computed before any store.**  For distinct names:
the i-th name holds the i-th value afterwards (whatever the other names and values are). -/
theorem assignAll_at (ts : List Nat) (vs : List Int) (s : Store) (hd : ts.Nodup)
    (i : Nat) (t : Nat) (v : Int) (ht : ts[i]? = some t) (hv : vs[i]? = some v) :
    assignAll ts vs s t = v := by
  induction ts generalizing vs i with
  | nil => simp at ht
  | cons t0 ts ih =>
    cases vs with
    | nil => simp at hv
    | cons v0 vs =>
      have hd' := List.nodup_cons.mp hd
      cases i with
      | zero =>
        simp at ht hv
        subst ht; subst hv
        show (if t0 = t0 then v0 else _) = v0
        simp
      | succ i =>
        simp at ht hv
        have hm : t ∈ ts := List.mem_of_getElem? ht
        have hne : t ≠ t0 := fun h => hd'.1 (h ▸ hm)
        show (if t = t0 then v0 else assignAll ts vs s t) = v
        simp [hne, ih vs hd'.2 i ht hv]

/-- the swap idiom, stated on the compiled code: after `a, b = [b, a]` (a ≠ b) a holds the old b
and b holds the old a, for every store and stack -/
theorem swap_swaps (a b : Nat) (hab : a ≠ b) (stk : List V) (s : Store) :
    ∃ s', exec (compMulti [a, b] [.var b, .var a]) (stk, s) = some (stk, s') ∧ s' a = s b ∧ s' b = s a := by
  refine ⟨assignAll [a, b] [s b, s a] s, ?_, ?_, ?_⟩
  · rw [multi_simultaneous]; rfl
  · show (if a = a then s b else _) = s b
    simp
  · show (if b = a then s b else (if b = b then s a else _)) = s a
    have : b ≠ a := fun h => hab h.symm
    simp [this]

/-- an interleaved lowering (item, store, item, store, …) is NOT the language's rule: it differs
from the Spec on the swap -/
theorem interleaved_differs :
    ∃ (ts : List Nat) (items : List AExp) (s : Store) (k : Nat),
      seqAssign ts items s k ≠ assignAll ts (items.map (eval s)) s k :=
  ⟨[0, 1], [.var 1, .var 0], (fun j => if j = 0 then 10 else 20), 1, by decide⟩

/-- … and agrees with it when no item reads an assigned name, e.g. constants only -/
example : ∀ k, k < 3 → seqAssign [0, 1] [.lit 98, .lit 99] (fun _ => 0) k
    = assignAll [0, 1] [98, 99] (fun _ => 0) k := by decide

/-! ### int ** int -/

theorem ipow_one (n : Nat) : ipow 1 n = 1 := by
  induction n with
  | zero => rfl
  | succ n ih => simp [ipow, ih]

theorem ipow_neg_one (n : Nat) : ipow (-1) n = if n % 2 = 0 then 1 else -1 := by
  induction n with
  | zero => rfl
  | succ n ih =>
    simp only [ipow, ih]
    split <;> split <;> omega

theorem ipow_big (a : Int) (n : Nat) (ha : 2 ≤ a.natAbs) : 2 ≤ (ipow a (n + 1)).natAbs := by
  induction n with
  | zero => simpa [ipow] using ha
  | succ n ih =>
    have : (ipow a (n + 1 + 1)).natAbs = a.natAbs * (ipow a (n + 1)).natAbs := by
      show (a * ipow a (n + 1)).natAbs = _
      exact Int.natAbs_mul _ _
    rw [this]
    calc 2 ≤ 2 * 2 := by omega
      _ ≤ a.natAbs * (ipow a (n + 1)).natAbs := Nat.mul_le_mul ha ih

theorem truncRecip_big (x : Int) (hx : 2 ≤ x.natAbs) : truncRecip x = 0 := by
  unfold truncRecip
  rcases Int.le_total 0 x with h | h
  · exact Int.tdiv_eq_zero_of_lt (by omega) (by omega)
  · have : Int.tdiv 1 x = -(Int.tdiv 1 (-x)) := by rw [Int.tdiv_neg, Int.neg_neg]
    rw [this, Int.tdiv_eq_zero_of_lt (by omega) (by omega)]
    rfl

/-- **`int ** int` means the mathematical power truncated toward zero.**  For all a, b: wherever
the operator's implementation is defined in the model (the float detour is exact), its result is
the Spec's — in particular 1 ** b = 1 and (-1) ** b = ±1 for NEGATIVE b, and 0 for |a| ≥ 2. -/
theorem pow_impl_is_spec (a b r : Int) (h : powImpl a b = some r) : powSpec a b = some r := by
  unfold powImpl at h
  unfold powSpec
  by_cases hb : 0 ≤ b
  · rw [if_pos hb] at h ⊢
    dsimp only at h
    split at h
    · exact h
    · cases h
  · rw [if_neg hb] at h ⊢
    by_cases h0 : a = 0
    · rw [if_pos h0] at h; cases h
    · rw [if_neg h0] at h ⊢
      obtain ⟨n, hn⟩ : ∃ n, (-b).toNat = n + 1 := ⟨(-b).toNat - 1, by omega⟩
      by_cases h1 : a = 1
      · subst h1
        rw [if_pos rfl] at h
        rw [ipow_one, ← h]; rfl
      · rw [if_neg h1] at h
        by_cases h2 : a = -1
        · subst h2
          rw [if_pos rfl] at h
          rw [ipow_neg_one, ← h]
          have : ((-b).toNat % 2 = 0) ↔ (b % 2 = 0) := by omega
          by_cases hp : b % 2 = 0
          · rw [if_pos hp, if_pos (this.mpr hp)]; rfl
          · rw [if_neg hp, if_neg (fun x => hp (this.mp x))]; rfl
        · rw [if_neg h2] at h
          rw [hn, truncRecip_big _ (ipow_big a n (by omega))]
          exact h

/-- the unit bases, for every exponent of the modelled range (the law a program relies on when it
alternates a sign with `(-1) ** k`): the square of (-1) ** b is 1, and 1 ** b is 1 -/
theorem pow_unit_bases (b : Int) (hb : -200 ≤ b ∧ b ≤ 200) :
    powImpl 1 b = some 1 ∧ ∃ r, powImpl (-1) b = some r ∧ r * r = 1 := by
  constructor
  · unfold powImpl
    by_cases h : 0 ≤ b
    · simp [h, ipow_one, hb.2]
    · simp [h]
  · unfold powImpl
    by_cases h : 0 ≤ b
    · simp only [h, if_true, ipow_neg_one]
      by_cases hp : b.toNat % 2 = 0
      · exact ⟨1, by simp [hp, hb.2], rfl⟩
      · exact ⟨-1, by simp [hp, hb.2], rfl⟩
    · by_cases hp : b % 2 = 0
      · exact ⟨1, by simp [h, hp], rfl⟩
      · exact ⟨-1, by simp [h, hp], rfl⟩

example : powImpl (-1) (-3) = some (-1) := by decide +kernel
example : powImpl 1 (-5) = some 1 := by decide +kernel
example : powImpl 2 (-1) = some 0 := by decide +kernel
example : powImpl 3 4 = some 81 := by decide +kernel
example : powSpec 0 (-1) = none := by decide +kernel

end Risor.C01.Edge
