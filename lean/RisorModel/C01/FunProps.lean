import RisorModel.C01.FunLemmas
/-!
C01 — COMPILER CORRECTNESS for the FUNCTION fragment `inFun` (Fun.lean), proved for ALL programs
of the fragment, ALL fuel, ALL operand stacks and ALL stacks of suspended caller frames.

The fragment: everything of `FragProps.lean` (F1 expressions, assignments, if/else, the three `for`
forms; F2 break/continue where no operand is pending; F3 switch) both in the main code and
INSIDE FUNCTION BODIES, plus
  * named function declarations `func f(a, b=1) { … }` (`LoadConst fn; Copy 0; StoreGlobal f;
    PopTop`, the self slot of the function's own symbol table) and literals bound by
    `g := func(a) { … }` at the top level of the program;
  * parameters (with trailing int / string / bool defaults) and local variables of a function:
    `LoadFast` / `StoreFast` for the names of the function's own symbol table, `LoadGlobal` /
    `StoreGlobal` for everything else (free variables of a body are globals);
  * `return e`, bare `return` (anywhere, also under pending operands), and the implicit return of
    `normalizeFunctionBlock` (the last expression statement's value, else nil; the body is cut
    after its first top-level `return`);
  * calls `f(e1, …, en)` with any expression as callee, left-to-right arguments, calls nested in
    expressions, conditions, arguments, loop headers, switch subjects and case values, calls as
    statements; the errors of a call (`args`: wrong count; `type`: not callable);
  * recursion (through the self slot and through the global), function values as first-class
    values (assigned, passed, returned, compared by identity).
Not in the fragment: closures over the locals of an enclosing function (function literals occur
only as whole top-level statements), `nil` as a default value, `defer`, containers.

What is PROVED relates the three definitions of Fun.lean (`evalFun`, `compFun`, `runFun`); what
ties them to the Go code is checked by correspondence on every run (harness/c01fun.go).
One idealisation is shared with `FragProps.lean`: the model machine's operand stack and frame
stack are unbounded (the real VM has 1024 slots / 1024 frames and ends deeper runs with a
recovered panic).

Technique: the development of `FragLemmas.lean` over a machine with call frames.  `Steps W a b`
relates two states of ONE activation in a fixed world `W` (program, running code object,
suspended callers); between them the machine may enter and leave callee activations.  A
`return` is an abrupt completion like an error: it propagates through every construct and is
realised by `ReturnValue` resuming the caller.  Induction on fuel only (`ev_sim`): sub-nodes and
callee bodies both run with one unit of fuel less.
-/
namespace Risor.C01.Fun
open Risor.C01

/-- **Simulation, at full strength** (the generalisation of `frag_simulation` to a machine with
    a frame stack).  Let `P` be the compiled form of the functions `Φ` (`Compiled`), all of whose
    bodies are in the fragment (`BodiesOK`).  For every well-formed node `n` (expression,
    statement, block, list, program), every code object of ANY world `W` over `P` — i.e. any
    running code object `W.fn` and ANY stack `W.fs` of suspended caller frames — in which the code
    of `n` (compiled for local names `ls`, loop targets `kb` / `kc`) sits at offset `pc`, every
    operand stack `stk`, every state `σ` (locals and globals) and every fuel: if the reference
    semantics gives `r` with final state `σ'` then the MACHINE, started in the activation state
    `(pc, stk, σ)` on top of the frames `W.fs`,
    * `r = val v`  — reaches `(pc + size n, v :: stk, σ')` in the same activation on top of the
      SAME frames (whatever activations were entered in between have been left);
    * `r = unit`   — reaches `(pc + size n, stk, σ')` likewise;
    * `r = brk` / `cont` — reaches the loop's break / continue target with `stk`;
    * `r = err (cls c)` — reaches a machine state (possibly inside a callee) with globals
      `σ'.glob` whose next step raises the error class `c`;
    * `r = err (ret v)` (a `return v` leaving the running function) — resumes the innermost
      suspended frame `fr` at its return address with `v` pushed on ITS operand stack, ITS
      locals, the globals `σ'.glob`, and the remaining frames untouched; with no caller the
      machine halts with `v`;
    * `r = oof` — nothing is claimed. -/
theorem fun_simulation (Φ : List FDecl) (P : Prog) (hP : Compiled Φ P) (hΦ : BodiesOK Φ)
    (W : World) (hW : W.P = P) (ls : List String) (f : Nat) (n : N) (hwf : wf n = true) (kb kc : Nat)
    (pc : Nat) (stk : List V) (σ : Env) (r : Out) (σ' : Env)
    (hat : CodeAt W.code pc (comp ls kb kc n)) (he : ev Φ f ls n σ = (r, σ')) :
    (match r with
     | .val v => isUnitNode n = false ∧
        MSteps W.P ⟨⟨pc, stk, σ⟩, W.fn, W.fs⟩ ⟨⟨pc + size n, v :: stk, σ'⟩, W.fn, W.fs⟩
     | .unit => isUnitNode n = true ∧
        MSteps W.P ⟨⟨pc, stk, σ⟩, W.fn, W.fs⟩ ⟨⟨pc + size n, stk, σ'⟩, W.fn, W.fs⟩
     | .brk => escapes n = true ∧
        MSteps W.P ⟨⟨pc, stk, σ⟩, W.fn, W.fs⟩ ⟨⟨pc + size n + kb, stk, σ'⟩, W.fn, W.fs⟩
     | .cont => escapes n = true ∧
        MSteps W.P ⟨⟨pc, stk, σ⟩, W.fn, W.fs⟩ ⟨⟨pc + size n + kc, stk, σ'⟩, W.fn, W.fs⟩
     | .err (.cls c) => ∃ m1, MSteps W.P ⟨⟨pc, stk, σ⟩, W.fn, W.fs⟩ m1 ∧ m1.cfg.σ.glob = σ'.glob ∧
        mstep W.P m1 = .error (.err c)
     | .err (.ret v) =>
        (∀ fr fs', W.fs = fr :: fs' →
          MSteps W.P ⟨⟨pc, stk, σ⟩, W.fn, W.fs⟩ ⟨⟨fr.pc, v :: fr.stk, ⟨fr.loc, σ'.glob⟩⟩, fr.fn, fs'⟩) ∧
        (W.fs = [] → ∃ m1, MSteps W.P ⟨⟨pc, stk, σ⟩, W.fn, W.fs⟩ m1 ∧ m1.cfg.σ.glob = σ'.glob ∧
          mstep W.P m1 = .error (.done v))
     | .oof => True) := by
  have Q := ev_sim Φ P hP hΦ f W ls hW n hwf kb kc pc stk σ r σ' hat he
  cases r with
  | val v => exact ⟨Q.1, Q.2⟩
  | unit => exact ⟨Q.1, Q.2⟩
  | brk => exact ⟨Q.1, Q.2⟩
  | cont => exact ⟨Q.1, Q.2⟩
  | oof => trivial
  | err x =>
    cases x with
    | cls c => exact Q.2
    | ret v =>
      obtain ⟨m1, hs, hfin⟩ := Q.2
      refine ⟨?_, ?_⟩
      · intro fr fs' hfs
        simp only [Final, hfs] at hfin
        subst hfin
        exact hs
      · intro hfs
        simp only [Final, hfs] at hfin
        exact ⟨m1, hs, hfin.1, hfin.2⟩

theorem fun_code_length (ls : List String) (n : N) (kb kc : Nat) : (comp ls kb kc n).length = size n :=
  comp_length n kb kc

/-- **A call returns exactly one value** (`call_returns_one`; this is what C04's stack model
    assumes about `Call`).  In any world over the compiled program: when applying the function
    value `fv` to the argument values `vs` under globals `G` yields `v` and globals `G'`
    (reference semantics, any fuel), the machine standing at a `Call n` instruction with the `n`
    arguments and the callee on top of ANY operand stack `stk` runs — through the callee's whole
    activation and everything it calls — to the instruction after the `Call` with exactly `v`
    pushed on `stk`, the caller's locals `loc` as they were, the suspended frames `W.fs` as
    they were, and the globals `G'`. -/
theorem call_returns_one (Φ : List FDecl) (P : Prog) (hP : Compiled Φ P) (hΦ : BodiesOK Φ)
    (W : World) (hW : W.P = P) (f : Nat) (fv : V) (vs : List V) (G G' : Store) (v : V)
    (h : applyFn Φ (ev Φ f) fv vs G = (.val v, G'))
    (pc : Nat) (stk : List V) (loc : Store) (hcall : W.code[pc]? = some (some (.call vs.length))) :
    MSteps W.P ⟨⟨pc, vs.reverse ++ fv :: stk, ⟨loc, G⟩⟩, W.fn, W.fs⟩ ⟨⟨pc + 2, v :: stk, ⟨loc, G'⟩⟩, W.fn, W.fs⟩ :=
  call_sim Φ P hP hΦ f W hW fv vs G (.val v) G' h pc stk loc hcall

/-- a call that fails raises the same error class on the machine (wrong argument count: `args`;
    a callee that is no function: `type`; an error inside the callee, at any depth) -/
theorem call_fails_alike (Φ : List FDecl) (P : Prog) (hP : Compiled Φ P) (hΦ : BodiesOK Φ)
    (W : World) (hW : W.P = P) (f : Nat) (fv : V) (vs : List V) (G G' : Store) (c : String)
    (h : applyFn Φ (ev Φ f) fv vs G = (.err (.cls c), G'))
    (pc : Nat) (stk : List V) (loc : Store) (hcall : W.code[pc]? = some (some (.call vs.length))) :
    ∃ m1, MSteps W.P ⟨⟨pc, vs.reverse ++ fv :: stk, ⟨loc, G⟩⟩, W.fn, W.fs⟩ m1 ∧ m1.cfg.σ.glob = G' ∧
      mstep W.P m1 = .error (.err c) :=
  (call_sim Φ P hP hΦ f W hW fv vs G (.err (.cls c)) G' h pc stk loc hcall).2

/-- application never yields anything but a value, an error class or out-of-fuel: a `return`, a
    `break` or a `continue` does not cross a call -/
theorem call_outcomes (Φ : List FDecl) (evb : List String → N → Env → Out × Env) (fv : V) (vs : List V) (G G' : Store)
    (r : Out) (h : applyFn Φ evb fv vs G = (r, G')) :
    (∃ v, r = .val v) ∨ (∃ c, r = .err (.cls c)) ∨ r = .oof := by
  unfold applyFn at h
  split at h
  · split at h
    · cases h; exact .inr (.inl ⟨_, rfl⟩)
    · split at h
      · cases h; exact .inr (.inl ⟨_, rfl⟩)
      · split at h <;> cases h
        · exact .inl ⟨_, rfl⟩
        · exact .inl ⟨_, rfl⟩
        · exact .inr (.inl ⟨_, rfl⟩)
        · exact .inr (.inr rfl)
        · exact .inr (.inl ⟨_, rfl⟩)
  · cases h; exact .inr (.inl ⟨_, rfl⟩)

theorem bodiesOK_of_bodiesWF (p : N) (h : bodiesWF p = true) : BodiesOK (funsOf p) := by
  intro g d hf
  unfold bodiesWF at h
  rw [List.all_eq_true] at h
  exact h d (List.mem_of_find?_eq_some hf)

/-- **Compiler correctness, on the shape alone.**  For every program `p` of the fragment's SHAPE
    (`inFunShape`: well-formed nodes, well-formed function bodies — no scoping condition: both
    sides resolve names in the same way) and every fuel, if the reference semantics ends
    (anything but out-of-fuel) then it ends with a value or an error class — never with a stray
    break/continue/return — and there is a fuel for which the machine, run on the compiled
    program (`compFun p`: the main code and one code object per function) from the empty stack,
    empty stores and no frames, halts with the SAME value (resp. the SAME error class) and the
    SAME final globals. -/
theorem fun_compile_correct_shape (p : N) (hp : inFunShape p = true) (fuel : Nat) (r : Out) (G' : Store)
    (he : evalFun fuel p = (r, G')) (hr : r ≠ .oof) :
    (∃ v, r = .val v ∧ ∃ fuel', runFun fuel' (compFun p) = (.done v, G')) ∨
    (∃ c, r = .err (.cls c) ∧ ∃ fuel', runFun fuel' (compFun p) = (.err c, G')) := by
  have hwf : wf p = true ∧ isUnitNode p = false ∧ escapes p = false ∧ bodiesWF p = true := by
    cases p
    case prog s =>
      have hp' : (wf (.prog s) && bodiesWF (.prog s)) = true := hp
      simp only [Bool.and_eq_true] at hp'
      have hx : (isL s && !escapes s && wf s) = true := hp'.1
      simp only [Bool.and_eq_true, Bool.not_eq_true'] at hx
      exact ⟨hp'.1, rfl, hx.1.2, hp'.2⟩
    all_goals cases hp
  let W : World := { P := compFun p, fn := none, fs := [] }
  unfold evalFun at he
  rcases h0 : ev (funsOf p) fuel [] p { loc := [], glob := [] } with ⟨r0, σ0⟩
  rw [h0] at he
  have Q := ev_sim (funsOf p) (compFun p) (compFun_compiled p) (bodiesOK_of_bodiesWF p hwf.2.2.2) fuel W [] rfl
    p hwf.1 0 0 0 [] { loc := [], glob := [] } r0 σ0 (CodeAt.self _) h0
  -- the machine halts at the end of the main code with the value on top
  have done : ∀ v, Steps W ⟨0, [], ⟨[], []⟩⟩ ⟨size p, [v], σ0⟩ → ∃ k, runFun k (compFun p) = (.done v, σ0.glob) := by
    intro v hs
    obtain ⟨n, hn⟩ := mrun_of_msteps hs
    refine ⟨n + 1, ?_⟩
    show mrun (compFun p) (n + 1) M.init = _
    have : M.init = W.at ⟨0, [], ⟨[], []⟩⟩ := rfl
    rw [this, hn 1]
    simp [mrun, mstep, step, World.at, W, Prog.codeOf, compFun, comp_length]
  have halts : ∀ (m1 : M) (h : Halt) (res : RunRes), MSteps (compFun p) M.init m1 → mstep (compFun p) m1 = .error h →
      (match h with | .done v => res = .done v | .err c => res = .err c | .nonlocal => False) →
      ∃ k, runFun k (compFun p) = (res, m1.cfg.σ.glob) := by
    intro m1 h res hs hst hres
    obtain ⟨n, hn⟩ := mrun_of_msteps hs
    refine ⟨n + 1, ?_⟩
    show mrun (compFun p) (n + 1) M.init = _
    rw [hn 1]
    cases h with
    | done v => simp only at hres; subst hres; simp [mrun, hst]
    | err c => simp only at hres; subst hres; simp [mrun, hst]
    | nonlocal => exact hres.elim
  cases r0 with
  | oof => simp only at he; cases he; exact absurd rfl hr
  | unit => cases hwf.2.1.symm.trans Q.1
  | brk => cases hwf.2.2.1.symm.trans Q.1
  | cont => cases hwf.2.2.1.symm.trans Q.1
  | val v =>
    simp only at he; cases he
    have hs : Steps W ⟨0, [], ⟨[], []⟩⟩ ⟨0 + size p, [v], σ0⟩ := Q.val_steps
    rw [Nat.zero_add] at hs
    exact .inl ⟨v, rfl, done v hs⟩
  | err x =>
    cases x with
    | cls c =>
      simp only at he; cases he
      obtain ⟨m1, hs, hg, hst⟩ := Q.2
      obtain ⟨k, hk⟩ := halts m1 (.err c) (.err c) hs hst rfl
      exact .inr ⟨c, rfl, k, by rw [hk, hg]⟩
    | ret v =>
      simp only at he; cases he
      obtain ⟨m1, hs, hfin⟩ := Q.2
      have hfin' : m1.cfg.σ.glob = σ0.glob ∧ mstep (compFun p) m1 = .error (.done v) := hfin
      obtain ⟨k, hk⟩ := halts m1 (.done v) (.done v) hs hfin'.2 rfl
      exact .inl ⟨v, rfl, k, by rw [hk, hfin'.1]⟩

theorem inFun_shape (p : N) (hp : inFun p = true) : inFunShape p = true := by
  cases p
  case prog s =>
    simp only [inFun, Bool.and_eq_true] at hp
    simp only [inFunShape, Bool.and_eq_true]
    exact hp.1.1.1
  all_goals cases hp

/-- **Compiler correctness for the function fragment** (the property C01 on `inFun`): for every
    program `p` of the fragment and every fuel, if the reference semantics ends with a value or an
    error (not out-of-fuel), there is a fuel for which the machine on the compiled program halts
    with the same value / the same error class and the same final globals.  (`inFun` adds to the
    shape the scoping conditions under which `evalFun` / `compFun` ARE `Sem.lean` / `compiler.go`
    on the program: that is what the correspondence check establishes, on `inFun` programs.) -/
theorem fun_compile_correct (p : N) (hp : inFun p = true) (fuel : Nat) (r : Out) (G' : Store)
    (he : evalFun fuel p = (r, G')) (hr : r ≠ .oof) :
    (∃ v, r = .val v ∧ ∃ fuel', runFun fuel' (compFun p) = (.done v, G')) ∨
    (∃ c, r = .err (.cls c) ∧ ∃ fuel', runFun fuel' (compFun p) = (.err c, G')) :=
  fun_compile_correct_shape p (inFun_shape p hp) fuel r G' he hr

/-- how a source outcome shows on the machine -/
def Out.toRun : Out → RunRes
  | .val v => .done v
  | .unit => .done .nil
  | .brk => .err "compile"
  | .cont => .err "compile"
  | .err (.cls c) => .err c
  | .err (.ret v) => .done v
  | .oof => .running

/-- the same statement through `Out.toRun` (value ↦ done, error ↦ the same error) -/
theorem fun_compile_correct_toRun (p : N) (hp : inFun p = true) (fuel : Nat) (r : Out) (G' : Store)
    (he : evalFun fuel p = (r, G')) (hr : r ≠ .oof) :
    ∃ fuel', runFun fuel' (compFun p) = (r.toRun, G') := by
  rcases fun_compile_correct p hp fuel r G' he hr with ⟨v, rfl, k, hk⟩ | ⟨c, rfl, k, hk⟩
  · exact ⟨k, hk⟩
  · exact ⟨k, hk⟩

/-- the outcome found by `fun_compile_correct` is THE outcome of the machine: every larger fuel
    gives the same halted result (the machine is deterministic and stays halted) -/
theorem fun_run_stable (P : Prog) (k j : Nat) (res : RunRes) (G : Store)
    (h : runFun k P = (res, G)) (hr : res ≠ .running) : runFun (k + j) P = (res, G) := by
  induction j with
  | zero => exact h
  | succ j ih => exact mrun_mono (k + j) _ res G ih hr

/-- **An expression pushes exactly one value, also across calls.**  Any node that is not a
    unit statement, compiled anywhere in any code object, started on any operand stack `stk` over
    any suspended frames: when the reference semantics gives the value `v`, the machine ends
    exactly at the end of the node's code, in the same activation, with `v` pushed on an
    otherwise untouched `stk`. -/
theorem fun_expr_pushes_one (Φ : List FDecl) (P : Prog) (hP : Compiled Φ P) (hΦ : BodiesOK Φ)
    (W : World) (hW : W.P = P) (ls : List String) (f : Nat) (n : N) (hwf : wf n = true) (kb kc : Nat)
    (pc : Nat) (stk : List V) (σ σ' : Env) (v : V)
    (hat : CodeAt W.code pc (comp ls kb kc n)) (he : ev Φ f ls n σ = (.val v, σ')) :
    MSteps W.P ⟨⟨pc, stk, σ⟩, W.fn, W.fs⟩ ⟨⟨pc + (comp ls kb kc n).length, v :: stk, σ'⟩, W.fn, W.fs⟩ := by
  rw [comp_length]
  exact (ev_sim Φ P hP hΦ f W ls hW n hwf kb kc pc stk σ _ σ' hat he).val_steps

/-- what `compileStmts` emits for a statement that is not the last of its list -/
def stmtCode (ls : List String) (kb kc : Nat) (h : N) : Code :=
  pre ls h ++ comp ls (kb + (if leaves h then 1 else 0)) (kc + (if leaves h then 1 else 0)) h
    ++ (if leaves h then one .popTop else [])

/-- **Statements are stack-neutral, also when they call** (C04's property, for the fragment).
    Every statement of the fragment (`:=`, assignments, `++`, expression statements — among them
    calls as statements —, `break`, `continue`, the three loop forms with arbitrarily nested
    bodies), compiled anywhere in any code object as `compileStmts` compiles a statement, started
    on any operand stack `stk` over any suspended frames: however it ends — completing (with
    `unit` or with a value), or leaving through a `break` / `continue` towards the enclosing
    loop's target — the operand stack is exactly `stk` again and the frames are untouched.
    (A `return` leaves the activation: see `fun_simulation`.) -/
theorem fun_stmt_neutral (Φ : List FDecl) (P : Prog) (hP : Compiled Φ P) (hΦ : BodiesOK Φ)
    (W : World) (hW : W.P = P) (ls : List String) (f : Nat) (h : N) (hwf : wf h = true) (hs : isS h = true)
    (kb kc : Nat) (pc : Nat) (stk : List V) (σ σ' : Env) (r : Out)
    (hat : CodeAt W.code pc (stmtCode ls kb kc h)) (he : ev Φ f ls h σ = (r, σ')) :
    (match r with
     | .val _ => MSteps W.P ⟨⟨pc, stk, σ⟩, W.fn, W.fs⟩ ⟨⟨pc + (stmtCode ls kb kc h).length, stk, σ'⟩, W.fn, W.fs⟩
     | .unit => MSteps W.P ⟨⟨pc, stk, σ⟩, W.fn, W.fs⟩ ⟨⟨pc + (stmtCode ls kb kc h).length, stk, σ'⟩, W.fn, W.fs⟩
     | .brk => MSteps W.P ⟨⟨pc, stk, σ⟩, W.fn, W.fs⟩ ⟨⟨pc + (stmtCode ls kb kc h).length + kb, stk, σ'⟩, W.fn, W.fs⟩
     | .cont => MSteps W.P ⟨⟨pc, stk, σ⟩, W.fn, W.fs⟩ ⟨⟨pc + (stmtCode ls kb kc h).length + kc, stk, σ'⟩, W.fn, W.fs⟩
     | _ => True) := by
  unfold stmtCode at hat ⊢
  rw [List.append_assoc] at hat
  obtain ⟨hatp, hat⟩ := hat.app (pre_length h)
  obtain ⟨hath, htail⟩ := hat.app (comp_length h _ _)
  have hpre := pre_steps h pc stk σ hatp
  have Q := ev_sim Φ P hP hΦ f W ls hW h hwf _ _ _ stk σ r σ' hath he
  simp only [List.length_append, pre_length, comp_length]
  simp only [isS, Bool.or_eq_true] at hs
  cases hl : leaves h with
  | false =>
    simp only [hl, Bool.false_eq_true, ↓reduceIte, Nat.add_zero, List.length_nil] at Q ⊢
    cases r with
    | val v => cases hl.symm.trans (hs.resolve_left (fun hu => by cases (Q.1 : _ = false).symm.trans hu))
    | unit => exact (hpre.trans Q.unit_steps).cast (by omega)
    | brk => exact (Steps.trans hpre Q.2).cast (by omega)
    | cont => exact (Steps.trans hpre Q.2).cast (by omega)
    | _ => trivial
  | true =>
    -- the value of an expression statement is popped
    simp only [hl, ↓reduceIte, one_length] at Q htail ⊢
    cases r with
    | val v => exact ((hpre.trans Q.val_steps).ins (CodeAt.head htail) execIns_popTop).cast (by omega)
    | unit => cases (unit_not_leaves (Q.1 : isUnitNode h = true)).symm.trans hl
    | brk => exact (Steps.trans hpre Q.2).cast (by omega)
    | cont => exact (Steps.trans hpre Q.2).cast (by omega)
    | _ => trivial

/-! ### non-vacuity -/

/-- `func fact(n) { if n <= 1 { return 1 }; return n * fact(n - 1) }; fact(10)` -/
def exFact : N :=
  .prog (.cons (.expr (.func "fact" (.cons (.param "n" .none_) .nilL)
      (.block (.cons (.expr (.if_ (.infix .le (.id "n") (.int 1)) (.block (.cons (.return_ (.int 1)) .nilL)) .none_))
        (.cons (.return_ (.infix .mul (.id "n") (.call (.id "fact") (.cons (.infix .sub (.id "n") (.int 1)) .nilL)))) .nilL)))))
    (.cons (.expr (.call (.id "fact") (.cons (.int 10) .nilL))) .nilL))

/-- `func fib(n) { if n < 2 { n } else { fib(n - 1) + fib(n - 2) } }; fib(6)` (implicit return) -/
def exFib : N :=
  .prog (.cons (.expr (.func "fib" (.cons (.param "n" .none_) .nilL)
      (.block (.cons (.expr (.if_ (.infix .lt (.id "n") (.int 2)) (.block (.cons (.expr (.id "n")) .nilL))
        (.block (.cons (.expr (.infix .add (.call (.id "fib") (.cons (.infix .sub (.id "n") (.int 1)) .nilL))
          (.call (.id "fib") (.cons (.infix .sub (.id "n") (.int 2)) .nilL)))) .nilL)))) .nilL))))
    (.cons (.expr (.call (.id "fib") (.cons (.int 6) .nilL))) .nilL))

/-- a loop with an early return, a local, a default argument and a global counter:
    `calls := 0
     first := func(lim, step=3) { calls += 1; for i := 0; i < 100; i += step { if i * i > lim { return i } }; -1 }
     [first(50), first(50, 5), calls]` as `first(50) * 100 + first(50, 5) * 10 + calls` -/
def exLoopRet : N :=
  .prog (.cons (.var "calls" (.int 0))
    (.cons (.var "first" (.func "" (.cons (.param "lim" .none_) (.cons (.param "step" (.int 3)) .nilL))
      (.block (.cons (.assign "calls" .add (.int 1))
        (.cons (.for3 (.var "i" (.int 0)) (.infix .lt (.id "i") (.int 100)) (.assign "i" .add (.id "step"))
          (.block (.cons (.expr (.if_ (.infix .gt (.infix .mul (.id "i") (.id "i")) (.id "lim"))
            (.block (.cons (.return_ (.id "i")) .nilL)) .none_)) .nilL)))
        (.cons (.expr (.neg (.int 1))) .nilL))))))
    (.cons (.expr (.infix .add (.infix .add
        (.infix .mul (.call (.id "first") (.cons (.int 50) .nilL)) (.int 100))
        (.infix .mul (.call (.id "first") (.cons (.int 50) (.cons (.int 5) .nilL))) (.int 10)))
        (.id "calls"))) .nilL)))

/-- `func two(a, b) { a + b }; x := 1; x = two(1)` — a call with the wrong number of arguments -/
def exArity : N :=
  .prog (.cons (.expr (.func "two" (.cons (.param "a" .none_) (.cons (.param "b" .none_) .nilL))
      (.block (.cons (.expr (.infix .add (.id "a") (.id "b"))) .nilL))))
    (.cons (.var "x" (.int 1)) (.cons (.assign "x" .set (.call (.id "two") (.cons (.int 1) .nilL))) .nilL)))

/-- `x := 5; x(1)` — calling something that is no function -/
def exNotCallable : N :=
  .prog (.cons (.var "x" (.int 5)) (.cons (.expr (.call (.id "x") (.cons (.int 1) .nilL))) .nilL))

/-- a function literal inside a function body (a closure candidate) is outside the fragment -/
def exNested : N :=
  .prog (.cons (.expr (.func "outer" .nilL
      (.block (.cons (.var "g" (.func "" .nilL (.block (.cons (.expr (.int 1)) .nilL)))) (.cons (.expr (.call (.id "g") .nilL)) .nilL)))))
    .nilL)

/-- mutual recursion through pre-declared names (`ev` refers to `od` before its declaration):
    `func ev(k) { if k == 0 { return true }; return od(k - 1) }; func od(k) { if k == 0 { return false }; return ev(k - 1) }; ev(7)` -/
def exMutual : N :=
  .prog (.cons (.expr (.func "ev" (.cons (.param "k" .none_) .nilL)
      (.block (.cons (.expr (.if_ (.infix .eq (.id "k") (.int 0)) (.block (.cons (.return_ (.bool true)) .nilL)) .none_))
        (.cons (.return_ (.call (.id "od") (.cons (.infix .sub (.id "k") (.int 1)) .nilL))) .nilL)))))
    (.cons (.expr (.func "od" (.cons (.param "k" .none_) .nilL)
      (.block (.cons (.expr (.if_ (.infix .eq (.id "k") (.int 0)) (.block (.cons (.return_ (.bool false)) .nilL)) .none_))
        (.cons (.return_ (.call (.id "ev") (.cons (.infix .sub (.id "k") (.int 1)) .nilL))) .nilL)))))
    (.cons (.expr (.call (.id "ev") (.cons (.int 7) .nilL))) .nilL)))

/-- a `return` under a pending operand: `func f(a) { 1 + switch a { case 1: return 10  default: 2 } }; f(1) * 100 + f(2)` -/
def exRetUnder : N :=
  .prog (.cons (.expr (.func "f" (.cons (.param "a" .none_) .nilL)
      (.block (.cons (.expr (.infix .add (.int 1) (.switch (.id "a")
        (.cons (.case_ (.cons (.int 1) .nilL) (.block (.cons (.return_ (.int 10)) .nilL)))
        (.cons (.default_ (.block (.cons (.expr (.int 2)) .nilL))) .nilL))))) .nilL))))
    (.cons (.expr (.infix .add (.infix .mul (.call (.id "f") (.cons (.int 1) .nilL)) (.int 100)) (.call (.id "f") (.cons (.int 2) .nilL)))) .nilL))

example : inFun exFact = true := by decide +kernel
example : inFun exMutual = true := by decide +kernel
example : inFunLex exMutual = false := by decide +kernel
example : (evalFun 60 exMutual).1 = .val (.bool false) := by decide +kernel
example : (runFun 400 (compFun exMutual)).1 = .done (.bool false) := by decide +kernel
example : inFun exRetUnder = true := by decide +kernel
example : (evalFun 30 exRetUnder).1 = .val (.int 1003) := by decide +kernel
example : (runFun 200 (compFun exRetUnder)).1 = .done (.int 1003) := by decide +kernel
example : inFun exFib = true := by decide +kernel
example : inFun exLoopRet = true := by decide +kernel
example : inFun exArity = true := by decide +kernel
example : inFun exNotCallable = true := by decide +kernel
example : inFun exNested = false := by decide +kernel
-- recursion: both sides compute 10! and fib 6
example : (evalFun 40 exFact).1 = .val (.int 3628800) := by decide +kernel
example : (runFun 400 (compFun exFact)).1 = .done (.int 3628800) := by decide +kernel
example : (evalFun 60 exFib).1 = .val (.int 8) := by decide +kernel
set_option maxRecDepth 8000 in
example : (runFun 900 (compFun exFib)).1 = .done (.int 8) := by decide +kernel
-- loop + early return + default argument + global side effect: 9, 10, 2 calls
example : (evalFun 60 exLoopRet).1 = .val (.int 1002) := by decide +kernel
example : (runFun 1000 (compFun exLoopRet)).1 = .done (.int 1002) := by decide +kernel
example : (runFun 1000 (compFun exLoopRet)).2 = (evalFun 60 exLoopRet).2 := by decide +kernel
example : (evalFun 60 exLoopRet).2.get "calls" = .int 2 := by decide +kernel
-- errors: wrong arity, not callable; same class, same globals (x is still 1)
example : (evalFun 20 exArity).1 = .err (.cls "args") := by decide +kernel
example : (runFun 100 (compFun exArity)).1 = .err "args" := by decide +kernel
example : (runFun 100 (compFun exArity)).2 = (evalFun 20 exArity).2 := by decide +kernel
example : (evalFun 20 exArity).2.get "x" = .int 1 := by decide +kernel
example : (evalFun 20 exNotCallable).1 = .err (.cls "type") := by decide +kernel
example : (runFun 100 (compFun exNotCallable)).1 = .err "type" := by decide +kernel
-- the compiled function body of `fact`: LoadFast n; 1; <=; PopJumpForwardIfFalse; 1; ReturnValue; Nil; JumpForward; Nil; PopTop; …
example : ((compFun exFact).funs.map (·.code.length)) = [31] := by decide +kernel
-- the hypotheses of `fun_compile_correct` are satisfiable and its conclusion is the concrete run
example : ∃ fuel', runFun fuel' (compFun exFact) = (.done (.int 3628800), (evalFun 40 exFact).2) :=
  fun_compile_correct_toRun exFact (by decide +kernel) 40 (.val (.int 3628800)) (evalFun 40 exFact).2 (by decide +kernel) (by decide +kernel)

end Risor.C01.Fun
