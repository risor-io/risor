import RisorModel.C01.Str
/-!
C01 fragment F7 — the simulation behind `StrProps.lean`: `SeqLemmas.lean`'s development over the
state with a heap of MAP objects (`St`).  Multi-step execution (`Steps`), the position-independence
predicate `CodeAt`, what an outcome of the reference semantics means for the machine (`Post`), one
simulation lemma per construct (`sim_*`: if the sub-nodes are simulated, so is the node), the generic
loop lemmas, and the induction on fuel (`ev_sim`).  At the end: lookups after writes
(`mapGet_mapSet`), the object BuildMap makes (`mapGet_buildMapObj`: first entry of a key wins) and
item writes on the heap, used by StrProps.lean.  Core Lean only.
-/
namespace Risor.C01.Str
open Risor.C01
open Risor.C01.Frag (isNilL leaves isBlock isElse isL isInit isPost opOK postName isDefault countDefault
  dfltBody assignK nodup preLen)

/-! ### multi-step execution -/

inductive Steps (code : Code) : Cfg → Cfg → Prop where
  | refl (c : Cfg) : Steps code c c
  | cons {a b c : Cfg} : step code a = .ok b → Steps code b c → Steps code a c

theorem Steps.trans {code : Code} {a b c : Cfg} (h1 : Steps code a b) (h2 : Steps code b c) : Steps code a c := by
  induction h1 with
  | refl => exact h2
  | cons hs _ ih => exact .cons hs (ih h2)

theorem Steps.snoc {code : Code} {a b c : Cfg} (h1 : Steps code a b) (h : step code b = .ok c) : Steps code a c :=
  h1.trans (.cons h (.refl _))

theorem Steps.cast {code : Code} {a : Cfg} {p q : Nat} {s : List SVal} {σ : St}
    (h : Steps code a ⟨p, s, σ⟩) (e : p = q) : Steps code a ⟨q, s, σ⟩ := e ▸ h

theorem Steps.castL {code : Code} {b : Cfg} {p q : Nat} {s : List SVal} {σ : St}
    (h : Steps code ⟨p, s, σ⟩ b) (e : p = q) : Steps code ⟨q, s, σ⟩ b := e ▸ h

/-- the run reaches a configuration whose next step is the error `cls`, with store `σ'` -/
def Fails (code : Code) (c0 : Cfg) (cls : String) (σ' : St) : Prop :=
  ∃ c1, Steps code c0 c1 ∧ c1.σ = σ' ∧ step code c1 = .error (.err cls)

theorem Fails.pre {code : Code} {a b : Cfg} {cls : String} {σ' : St}
    (h : Steps code a b) (f : Fails code b cls σ') : Fails code a cls σ' := by
  obtain ⟨c1, h1, h2, h3⟩ := f
  exact ⟨c1, h.trans h1, h2, h3⟩

/-! ### `CodeAt code pc frag`: the fragment sits at slot offset `pc` of the enclosing code -/

def CodeAt (code : Code) (pc : Nat) (frag : Code) : Prop :=
  ∀ i, i < frag.length → code[pc + i]? = frag[i]?

/-- the pieces of a concatenation sit one after the other; used as a rewrite rule it takes the code
    of a node apart, every piece at its offset -/
theorem CodeAt.append {code : Code} {pc : Nat} {a b : Code} :
    CodeAt code pc (a ++ b) ↔ CodeAt code pc a ∧ CodeAt code (pc + a.length) b := by
  constructor
  · intro h
    constructor
    · intro i hi
      rw [h i (by simp; omega), List.getElem?_append_left hi]
    · intro i hi
      have := h (a.length + i) (by simp; omega)
      rw [← Nat.add_assoc] at this
      rw [this, List.getElem?_append_right (by omega)]
      simp
  · intro ⟨ha, hb⟩ i hi
    rcases Nat.lt_or_ge i a.length with h | h
    · rw [List.getElem?_append_left h]; exact ha i h
    · have e : pc + a.length + (i - a.length) = pc + i := by omega
      rw [List.getElem?_append_right h, ← e]
      exact hb _ (by simp at hi; omega)

theorem CodeAt.cast {code : Code} {p q : Nat} {frag : Code} (h : CodeAt code p frag) (e : p = q) :
    CodeAt code q frag := e ▸ h

theorem CodeAt.self (code : Code) : CodeAt code 0 code := by
  intro i _
  simp

@[simp] theorem one_length (i : FIns) : (one i).length = 1 := rfl
@[simp] theorem two_length (i : FIns) : (two i).length = 2 := rfl
@[simp] theorem three_length (i : FIns) : (three i).length = 3 := rfl

theorem step_of {code : Code} {pc : Nat} {i : FIns} (h : code[pc]? = some (some i)) (stk : List SVal) (σ : St) :
    step code ⟨pc, stk, σ⟩ = execIns i ⟨pc, stk, σ⟩ := by
  have hlt : ¬ (pc ≥ code.length) := fun h1 => by rw [List.getElem?_eq_none h1] at h; cases h
  simp only [step, hlt, if_false, h]

theorem CodeAt.step {code : Code} {pc : Nat} {i : FIns} {rest : Code} (h : CodeAt code pc (some i :: rest))
    (stk : List SVal) (σ : St) : step code ⟨pc, stk, σ⟩ = execIns i ⟨pc, stk, σ⟩ :=
  step_of (by simpa using h 0 (by simp)) stk σ

section
variable {code : Code} {c0 : Cfg} {pc : Nat} {stk : List SVal} {σ : St} {i : FIns} {rest : Code}

/-- fetch, execute, append: one more instruction (its first slot at `pc`; `one`, `two`, `three`
    are such fragments).  With the reached configuration given, `hex` is `rfl` for every instruction
    that cannot fail. -/
theorem Steps.ins {c' : Cfg} (h : Steps code c0 ⟨pc, stk, σ⟩) (hi : CodeAt code pc (some i :: rest))
    (hex : execIns i ⟨pc, stk, σ⟩ = .ok c') : Steps code c0 c' :=
  h.snoc ((hi.step stk σ).trans hex)

theorem Steps.fails {cls : String} (h : Steps code c0 ⟨pc, stk, σ⟩) (hi : CodeAt code pc (some i :: rest))
    (hex : execIns i ⟨pc, stk, σ⟩ = .error (.err cls)) : Fails code c0 cls σ :=
  ⟨_, h, rfl, (hi.step stk σ).trans hex⟩

variable {v : SVal} {d : Nat}

theorem Steps.pop (h : Steps code c0 ⟨pc, v :: stk, σ⟩) (hi : CodeAt code pc (one .popTop)) :
    Steps code c0 ⟨pc + 1, stk, σ⟩ := h.ins hi rfl

theorem Steps.jf (h : Steps code c0 ⟨pc, stk, σ⟩) (hi : CodeAt code pc (two (.jf d))) :
    Steps code c0 ⟨pc + d, stk, σ⟩ := h.ins hi rfl

theorem Steps.jb (h : Steps code c0 ⟨pc, stk, σ⟩) (hi : CodeAt code pc (two (.jb d))) :
    Steps code c0 ⟨pc - d, stk, σ⟩ := h.ins hi rfl

theorem Steps.pjf (h : Steps code c0 ⟨pc, v :: stk, σ⟩) (hi : CodeAt code pc (two (.pjf d))) :
    Steps code c0 ⟨if v.truthy σ = true then pc + 2 else pc + d, stk, σ⟩ := h.ins hi rfl

theorem Steps.pjt (h : Steps code c0 ⟨pc, v :: stk, σ⟩) (hi : CodeAt code pc (two (.pjt d))) :
    Steps code c0 ⟨if v.truthy σ = true then pc + d else pc + 2, stk, σ⟩ := h.ins hi rfl

theorem Steps.dup (h : Steps code c0 ⟨pc, v :: stk, σ⟩) (hi : CodeAt code pc (two (.copy 0))) :
    Steps code c0 ⟨pc + 2, v :: v :: stk, σ⟩ := h.ins hi rfl

theorem Steps.nop (h : Steps code c0 ⟨pc, stk, σ⟩) (hi : CodeAt code pc (one .nop)) :
    Steps code c0 ⟨pc + 1, stk, σ⟩ := h.ins hi rfl

end

/-! ### what an outcome of the reference semantics means for the machine -/

/-- the operand stack a `break` leaves at the loop's exit: the stack of the statement itself, or,
    when the enclosing loop is a range loop, that stack without the iterator on its top -/
def BrkStk : Bool → List SVal → List SVal → Prop
  | true, stk, out => ∃ top, stk = top :: out
  | false, stk, out => out = stk

/-- outcome `r` with final store `σ'` is realised from `c0`: a value lands at `pcE` on top of
    `stk`, unit lands at `pcE` with `stk` itself, `continue` lands on the enclosing loop's
    target (`kc` slots after `pcE`) with `stk` itself, `break` on the loop's exit (`kb` slots after
    `pcE`) with any stack `BrkStk rng stk` allows, an error is raised by the VM with the same class;
    nothing is claimed for out-of-fuel -/
def Lands (code : Code) (c0 : Cfg) (pcE kb kc : Nat) (rng : Bool) (stk : List SVal) (r : Out) (σ' : St) : Prop :=
  match r with
  | .val v => Steps code c0 ⟨pcE, v :: stk, σ'⟩
  | .unit => Steps code c0 ⟨pcE, stk, σ'⟩
  | .brk => ∀ out, BrkStk rng stk out → Steps code c0 ⟨pcE + kb, out, σ'⟩
  | .cont => Steps code c0 ⟨pcE + kc, stk, σ'⟩
  | .err c => Fails code c0 c σ'
  | .oof => True

/-- which nodes end with a value, which with `unit`, and which can be left by a break/continue -/
def Shape (n : N) (r : Out) : Prop :=
  match r with
  | .val _ => isUnitNode n = false
  | .unit => isUnitNode n = true
  | .brk => escapes n = true
  | .cont => escapes n = true
  | _ => True

/-- the simulation statement for one node at one place -/
def Post (code : Code) (kb kc : Nat) (rng : Bool) (n : N) (pc : Nat) (stk : List SVal) (σ : St) (r : Out) (σ' : St) : Prop :=
  Shape n r ∧ Lands code ⟨pc, stk, σ⟩ (pc + size rng n) kb kc rng stk r σ'

/-- a failure: an error raised by the machine too, or out of fuel -/
def ErrTo (code : Code) (c0 : Cfg) (r : Out) (σ' : St) : Prop :=
  match r with
  | .err c => Fails code c0 c σ'
  | .oof => True
  | _ => False

/-- an operand's outcome: its value is pushed at `pcE`, or it is a failure -/
def ValTo (code : Code) (c0 : Cfg) (pcE : Nat) (stk : List SVal) (r : Out) (σ' : St) : Prop :=
  match r with
  | .val v => Steps code c0 ⟨pcE, v :: stk, σ'⟩
  | .err c => Fails code c0 c σ'
  | .oof => True
  | _ => False

theorem ErrTo.pre {code : Code} {a b : Cfg} {r : Out} {σ' : St} (l : ErrTo code b r σ') (h : Steps code a b) :
    ErrTo code a r σ' := by
  cases r with
  | err c => exact Fails.pre h l
  | _ => exact l

theorem ValTo.pre {code : Code} {a b : Cfg} {pcE : Nat} {stk : List SVal} {r : Out} {σ' : St}
    (l : ValTo code b pcE stk r σ') (h : Steps code a b) : ValTo code a pcE stk r σ' := by
  cases r with
  | val v => exact h.trans l
  | err c => exact Fails.pre h l
  | _ => exact l

/-! ### shallow class facts -/

theorem isE_not_unit {n : N} (h : isE n = true) : isUnitNode n = false := by
  cases n <;> first | rfl | cases h
theorem isBlock_not_unit {n : N} (h : isBlock n = true) : isUnitNode n = false := by
  cases n <;> first | rfl | cases h
theorem isElse_not_unit {n : N} (h : isElse n = true) : isUnitNode n = false := by
  cases n <;> first | rfl | cases h
theorem isL_not_unit {n : N} (h : isL n = true) : isUnitNode n = false := by
  cases n <;> first | rfl | cases h
theorem isInit_unit {n : N} (h : isInit n = true) : isUnitNode n = true := by
  cases n <;> first | rfl | cases h
theorem unit_not_leaves {n : N} (h : isUnitNode n = true) : leaves n = false := by
  cases n <;> first | rfl | cases h
theorem isPost_cases {n : N} (h : isPost n = true) : isUnitNode n = true ∨ leaves n = true := by
  cases n with
  | assign | «postfix» => exact .inl rfl
  | expr => exact .inr rfl
  | _ => cases h

/-! ### instructions that perform a partial operation of the model -/

/-- after an instruction that performs the partial operation `x`: the run goes on from `f a` when
    `x = .ok a`, the machine raises `e` when `x = .error e` -/
def TryTo (code : Code) (c0 : Cfg) (σ : St) {α : Type} (x : Except String α) (f : α → Cfg) : Prop :=
  match x with
  | .ok a => Steps code c0 (f a)
  | .error e => Fails code c0 e σ

section
variable {code : Code} {c0 : Cfg} {pc : Nat} {s : List SVal} {σ : St} {a b : SVal}

/-- the VM's numeric dispatch (`BinaryOp k`, `CompareOp k`) agrees with the source-level operator:
    a finite table, checked entry by entry -/
theorem execIns_opIns (op : BinOp) (hok : opOK op = true) (hand : op ≠ .and) (hor : op ≠ .or)
    (a b : SVal) (s : List SVal) (pc : Nat) (σ : St) :
    execIns (opIns op) ⟨pc, b :: a :: s, σ⟩ =
      (match binopF σ op a b with
       | .ok v => .ok ⟨pc + 2, v :: s, σ⟩
       | .error e => .error (.err e)) := by
  cases op with
  | and => exact absurd rfl hand
  | or => exact absurd rfl hor
  | pow | lshift | rshift | bitand => cases hok
  | _ => cases a <;> cases b <;> rfl

theorem Steps.binop {op : BinOp} (h : Steps code c0 ⟨pc, b :: a :: s, σ⟩) (hi : CodeAt code pc (two (opIns op)))
    (hok : opOK op = true) (hand : op ≠ .and) (hor : op ≠ .or) :
    TryTo code c0 σ (binopF σ op a b) fun v => ⟨pc + 2, v :: s, σ⟩ := by
  have hex := execIns_opIns op hok hand hor a b s pc σ
  cases hg : binopF σ op a b with
  | ok v => rw [hg] at hex; exact h.ins hi hex
  | error e => rw [hg] at hex; exact h.fails hi hex

/-- a compound assignment's `BinaryOp` is the infix operator's -/
theorem Steps.assignOp {op : AssignOp} (h : Steps code c0 ⟨pc, b :: a :: s, σ⟩)
    (hi : CodeAt code pc (two (.binary (assignK op)))) (hop : op ≠ .set) :
    TryTo code c0 σ (applyF σ op a b) fun v => ⟨pc + 2, v :: s, σ⟩ := by
  cases op with
  | set => exact absurd rfl hop
  | add => exact h.binop (op := .add) hi rfl (by decide) (by decide)
  | sub => exact h.binop (op := .sub) hi rfl (by decide) (by decide)
  | mul => exact h.binop (op := .mul) hi rfl (by decide) (by decide)
  | div => exact h.binop (op := .div) hi rfl (by decide) (by decide)

theorem Steps.getItem (h : Steps code c0 ⟨pc, b :: a :: s, σ⟩) (hi : CodeAt code pc (one .binarySubscr)) :
    TryTo code c0 σ (getItemS σ a b) fun v => ⟨pc + 1, v :: s, σ⟩ := by
  cases hg : getItemS σ a b with
  | ok v => exact h.ins hi (by dsimp only [execIns]; rw [hg])
  | error e => exact h.fails hi (by dsimp only [execIns]; rw [hg])

theorem Steps.contains (h : Steps code c0 ⟨pc, b :: a :: s, σ⟩) (hi : CodeAt code pc (two .containsOp)) :
    TryTo code c0 σ (containsS σ a b) fun v => ⟨pc + 2, v :: s, σ⟩ := by
  cases hg : containsS σ a b with
  | ok v => exact h.ins hi (by dsimp only [execIns]; rw [hg])
  | error e => exact h.fails hi (by dsimp only [execIns]; rw [hg])

theorem Steps.setItem {v : SVal} (h : Steps code c0 ⟨pc, b :: a :: v :: s, σ⟩) (hi : CodeAt code pc (one .storeSubscr)) :
    TryTo code c0 σ (setItemS σ a b v) fun σ' => ⟨pc + 1, s, σ'⟩ := by
  cases hg : setItemS σ a b v with
  | ok v => exact h.ins hi (by dsimp only [execIns]; rw [hg])
  | error e => exact h.fails hi (by dsimp only [execIns]; rw [hg])

theorem Steps.getIter (h : Steps code c0 ⟨pc, a :: s, σ⟩) (hi : CodeAt code pc (one .getIter)) :
    TryTo code c0 σ (getIterS a) fun it => ⟨pc + 1, it :: s, σ⟩ := by
  cases hg : getIterS a with
  | ok v => exact h.ins hi (by dsimp only [execIns]; rw [hg])
  | error e => exact h.fails hi (by dsimp only [execIns]; rw [hg])

end

/-! ### the length of a node's code does not depend on where the loop targets are -/

theorem pre_length (h : N) : (pre h).length = preLen h := by
  unfold pre preLen
  cases postName h <;> rfl

@[simp] theorem stores_length (xs : List String) : (stores xs).length = 2 * xs.length := by
  induction xs with
  | nil => rfl
  | cons x xs ih => show (two _ ++ stores xs).length = _; rw [List.length_append, ih, List.length_cons, two_length]; omega

/-- neither a list cell, a case nor a default clause: only `comp` has code for such a node -/
def plainNode : N → Bool
  | .cons .. | .case_ .. | .default_ .. => false
  | _ => true

/-- on a plain node the eight list-shaped components of `comp_lengths` are what the catch-all equations of
    their functions say: empty code of length 0 (`compDflt`: the one `Nil`); the length of the node's own
    code `own` is all there is to show -/
theorem comp_lengths_of_plain {n : N} (hp : plainNode n = true)
    (own : ∀ rng kb kc, (comp kb kc rng n).length = size rng n) :
    (∀ rng kb kc, (comp kb kc rng n).length = size rng n) ∧ (∀ rng k, (compVals rng k n).length = valsLen rng n) ∧
    (∀ rng k, (compCmpCase rng k n).length = caseCmpLen rng n) ∧ (∀ rng b, (compCmp rng b n).length = cmpLen rng n) ∧
    (∀ rng a, (compBody rng a n).length = caseBodyLen rng n) ∧ (∀ rng d, (compBodies rng d n).length = bodiesLen rng n) ∧
    (∀ rng, (compDfltBody rng n).length = dfltBodyLen rng n) ∧ (∀ rng, (compDflt rng n).length = defLen rng n) ∧
    (∀ rng, (compItems rng n).length = itemsLen rng n) := by
  have hc : ∀ h t, n = .cons h t → False := fun h t e => by subst e; cases hp
  have hk : ∀ v b, n = .case_ v b → False := fun v b e => by subst e; cases hp
  have hd : ∀ b, n = .default_ b → False := fun b e => by subst e; cases hp
  refine ⟨own, ?_⟩
  simp only [compVals.eq_2 _ _ _ hc, valsLen.eq_2 _ _ hc, compCmpCase.eq_2 _ _ _ hk, caseCmpLen.eq_2 _ _ hk,
    compCmp.eq_2 _ _ _ hc, cmpLen.eq_2 _ _ hc, compBody.eq_2 _ _ _ hk, caseBodyLen.eq_2 _ _ hk,
    compBodies.eq_2 _ _ _ hc, bodiesLen.eq_2 _ _ hc, compDfltBody.eq_2 _ _ hd, dfltBodyLen.eq_2 _ _ hd,
    compDflt.eq_2 _ _ hc, defLen.eq_2 _ _ hc, compItems.eq_2 _ _ hc, itemsLen.eq_2 _ _ hc,
    List.length_nil, one_length, implies_true, and_self]

/-- the code of a node is a concatenation, its `size` the sum with the same recursion: unfold both
    (by computation), add up the lengths of the pieces by the induction hypotheses in the context -/
macro "len_sum" : tactic =>
  `(tactic| (show (_ ++ _ : Code).length = (_ + _ : Nat)
             simp only [List.length_append, List.length_cons, List.length_nil, one_length, two_length, three_length,
               stores_length, *] <;> omega))

/-- lengths of every piece of generated code (the mutual functions of `comp`), by structural
    induction on the node -/
theorem comp_lengths (n : N) :
    (∀ rng kb kc, (comp kb kc rng n).length = size rng n) ∧ (∀ rng k, (compVals rng k n).length = valsLen rng n) ∧
    (∀ rng k, (compCmpCase rng k n).length = caseCmpLen rng n) ∧ (∀ rng b, (compCmp rng b n).length = cmpLen rng n) ∧
    (∀ rng a, (compBody rng a n).length = caseBodyLen rng n) ∧ (∀ rng d, (compBodies rng d n).length = bodiesLen rng n) ∧
    (∀ rng, (compDfltBody rng n).length = dfltBodyLen rng n) ∧ (∀ rng, (compDflt rng n).length = defLen rng n) ∧
    (∀ rng, (compItems rng n).length = itemsLen rng n) := by
  induction n
  case cons h t ihh iht =>
    obtain ⟨h1, _, h3, _, h5, _, h7, _, _⟩ := ihh
    obtain ⟨t1, t2, _, t4, _, t6, _, t8, t9⟩ := iht
    refine ⟨?_, ?_, fun _ _ => rfl, ?_, fun _ _ => rfl, ?_, fun _ => rfl, ?_, ?_⟩
    · intro rng kb kc
      show (pre h ++ ite _ _ _ : Code).length = preLen h + size rng h + ite _ _ _
      rw [List.length_append, pre_length]
      split <;> split <;> simp only [List.length_append, h1, t1, one_length, List.length_nil] <;> omega
    · intro rng k; len_sum
    · intro rng b; len_sum
    · intro rng d; len_sum
    · intro rng
      show (ite _ _ _ : Code).length = ite _ _ _
      split
      · exact h7 rng
      · exact t8 rng
    · intro rng; len_sum
  case case_ vals body ihv ihb =>
    refine ⟨fun _ _ _ => rfl, fun _ _ => rfl, fun rng k => ihv.2.1 rng k, fun _ _ => rfl, ?_, fun _ _ => rfl, fun _ => rfl,
      fun _ => rfl, fun _ => rfl⟩
    intro rng a; len_sum
  case default_ body ihb =>
    exact ⟨fun _ _ _ => rfl, fun _ _ => rfl, fun _ _ => rfl, fun _ _ => rfl, fun _ _ => rfl, fun _ _ => rfl,
      fun rng => ihb.1 rng 0 0, fun _ => rfl, fun _ => rfl⟩
  -- every other node is plain: what remains is the length of its own code
  all_goals refine comp_lengths_of_plain rfl fun rng kb kc => ?_
  case «infix» op l r ihl ihr =>
    show (ite _ _ _ : Code).length = ite _ _ _
    by_cases h1 : op = .and
    · rw [if_pos h1, if_pos (.inl h1)]; len_sum
    · by_cases h2 : op = .or
      · rw [if_neg h1, if_pos h2, if_pos (.inr h2)]; len_sum
      · rw [if_neg h1, if_neg h2, if_neg (fun h => h.elim h1 h2)]; len_sum
  case assign x op e ih =>
    show (ite _ _ _ : Code).length = ite _ _ _
    split <;> len_sum
  case for3 i c p b ihi ihc ihp ihb =>
    show (_ ++ ite _ _ _ ++ _ : Code).length = _ + (_ + ite _ _ _) + 5
    split <;> len_sum
  case setitem op o i v iho ihi ihv =>
    show (ite _ _ _ : Code).length = ite _ _ _
    split <;> len_sum
  case break_ => cases rng <;> rfl
  case block s ih => exact ih.1 rng kb kc
  case prog s ih => exact ih.1 rng kb kc
  case expr s ih => exact ih.1 rng kb kc
  case switch subj cases ihs ihc => len_sum
  case map items ih => len_sum
  case in_ x c ihx ihc => len_sum
  case notin x c ihx ihc => len_sum
  case index e i ihe ihi => len_sum
  case forrange k v c b ihc ihb => len_sum
  case forin v c b ihc ihb => len_sum
  case tern c a b ihc iha ihb => len_sum
  case if_ c a b ihc iha ihb => len_sum
  case forcond c b ihc ihb => len_sum
  case forever b ihb => len_sum
  case neg e ih => len_sum
  case not e ih => len_sum
  case var x e ih => len_sum
  all_goals rfl

theorem comp_length (n : N) (kb kc : Nat) (rng : Bool) : (comp kb kc rng n).length = size rng n := (comp_lengths n).1 rng kb kc
theorem compVals_length (n : N) (k : Nat) (rng : Bool) : (compVals rng k n).length = valsLen rng n := (comp_lengths n).2.1 rng k
theorem compCmp_length (n : N) (b : Nat) (rng : Bool) : (compCmp rng b n).length = cmpLen rng n := (comp_lengths n).2.2.2.1 rng b
theorem compBody_length (n : N) (a : Nat) (rng : Bool) : (compBody rng a n).length = caseBodyLen rng n := (comp_lengths n).2.2.2.2.1 rng a
theorem compBodies_length (n : N) (d : Nat) (rng : Bool) : (compBodies rng d n).length = bodiesLen rng n := (comp_lengths n).2.2.2.2.2.1 rng d
theorem compDflt_length (n : N) (rng : Bool) : (compDflt rng n).length = defLen rng n := (comp_lengths n).2.2.2.2.2.2.2.1 rng
theorem compItems_length (n : N) (rng : Bool) : (compItems rng n).length = itemsLen rng n := (comp_lengths n).2.2.2.2.2.2.2.2 rng

/-! ### the induction hypothesis -/

/-- the evaluation `f` of node `n` is simulated wherever the code of `n` sits -/
def Sim (code : Code) (f : St → Out × St) (n : N) : Prop :=
  ∀ kb kc rng pc stk σ r σ', CodeAt code pc (comp kb kc rng n) → f σ = (r, σ') → Post code kb kc rng n pc stk σ r σ'

/-- the induction hypothesis: sub-nodes are evaluated through `rec` -/
def IH (code : Code) (rec : N → St → Out × St) : Prop := ∀ n, wf n = true → Sim code (rec n) n

variable {code : Code} {rec : N → St → Out × St} {fuel : Nat} {kb kc : Nat} {rng : Bool}

section
variable {n : N} {pc : Nat} {stk : List SVal} {σ σ' : St}

theorem Post.not_val {v : SVal} (h : Post code kb kc rng n pc stk σ (.val v) σ') (hu : isUnitNode n = true) : False :=
  Bool.false_ne_true ((h.1 : isUnitNode n = false).symm.trans hu)

theorem Post.not_unit (h : Post code kb kc rng n pc stk σ .unit σ') (hu : isUnitNode n = false) : False :=
  Bool.false_ne_true (hu.symm.trans h.1)

theorem Post.not_brk (h : Post code kb kc rng n pc stk σ .brk σ') (hx : escapes n = false) : False :=
  Bool.false_ne_true (hx.symm.trans h.1)

theorem Post.not_cont (h : Post code kb kc rng n pc stk σ .cont σ') (hx : escapes n = false) : False :=
  Bool.false_ne_true (hx.symm.trans h.1)

theorem Post.val {v : SVal} {q : Nat} (hun : isUnitNode n = false) (h : Steps code ⟨pc, stk, σ⟩ ⟨q, v :: stk, σ'⟩)
    (hq : q = pc + size rng n) : Post code kb kc rng n pc stk σ (.val v) σ' := ⟨hun, h.cast hq⟩

theorem Post.unit {q : Nat} (hun : isUnitNode n = true) (h : Steps code ⟨pc, stk, σ⟩ ⟨q, stk, σ'⟩)
    (hq : q = pc + size rng n) : Post code kb kc rng n pc stk σ .unit σ' := ⟨hun, h.cast hq⟩

theorem Post.val_steps {v : SVal} (h : Post code kb kc rng n pc stk σ (.val v) σ') :
    Steps code ⟨pc, stk, σ⟩ ⟨pc + size rng n, v :: stk, σ'⟩ := h.2

theorem Post.unit_steps (h : Post code kb kc rng n pc stk σ .unit σ') :
    Steps code ⟨pc, stk, σ⟩ ⟨pc + size rng n, stk, σ'⟩ := h.2

theorem Post.of_err {r : Out} (h : ErrTo code ⟨pc, stk, σ⟩ r σ') : Post code kb kc rng n pc stk σ r σ' := by
  cases r with
  | err c => exact ⟨trivial, h⟩
  | oof => exact ⟨trivial, trivial⟩
  | _ => exact False.elim h

theorem Post.fail {pc1 : Nat} {stk1 : List SVal} {σ1 : St} {i : FIns} {rest : Code} {c : String}
    (hpre : Steps code ⟨pc, stk, σ⟩ ⟨pc1, stk1, σ1⟩) (hi : CodeAt code pc1 (some i :: rest))
    (hex : execIns i ⟨pc1, stk1, σ1⟩ = .error (.err c)) : Post code kb kc rng n pc stk σ (.err c) σ1 :=
  ⟨trivial, hpre.fails hi hex⟩

/-- `block`, `prog` and expression statements are their content -/
theorem Post.congr {m : N} {r : Out} (h : Post code kb kc rng m pc stk σ r σ') (hc : size rng n = size rng m)
    (hu : isUnitNode m = false) (hx : escapes n = escapes m) (hun : isUnitNode n = false) :
    Post code kb kc rng n pc stk σ r σ' := by
  unfold Post Shape at *
  rw [hc, hx, hun]
  rw [hu] at h
  exact h

/-- a sub-statement `sub` of `n` in statement position (same stack, same enclosing loop, the loop
    targets `kb1` / `kc1` it was compiled with being those of `n`): an outcome that leaves it —
    break, continue, error, out of fuel — leaves `n` in the same way -/
theorem Post.leave {sub : N} {pc1 kb1 kc1 : Nat} {σ1 : St} {r : Out}
    (h : Post code kb1 kc1 rng sub pc1 stk σ1 r σ') (hpre : Steps code ⟨pc, stk, σ⟩ ⟨pc1, stk, σ1⟩)
    (hesc : escapes sub = true → escapes n = true)
    (hb : pc1 + size rng sub + kb1 = pc + size rng n + kb) (hc : pc1 + size rng sub + kc1 = pc + size rng n + kc) :
    match r with
    | .val _ | .unit => True
    | r => Post code kb kc rng n pc stk σ r σ' := by
  cases r with
  | val v => trivial
  | unit => trivial
  | brk => exact ⟨hesc h.1, fun out ho => (hpre.trans (h.2 out ho)).cast hb⟩
  | cont => exact ⟨hesc h.1, (hpre.trans h.2).cast hc⟩
  | err c => exact ⟨trivial, Fails.pre hpre h.2⟩
  | oof => exact ⟨trivial, trivial⟩

end

/-- an operand (no unit statement, no break/continue escapes it) pushes its value or fails -/
theorem IH.operand (ih : IH code rec) {e : N} (hw : wf e = true) (hu : isUnitNode e = false) (hx : escapes e = false)
    {pc : Nat} {stk : List SVal} {σ σ' : St} {r : Out} (hat : CodeAt code pc (comp 0 0 rng e)) (h : rec e σ = (r, σ')) :
    ValTo code ⟨pc, stk, σ⟩ (pc + size rng e) stk r σ' := by
  have P := ih e hw 0 0 rng pc stk σ r σ' hat h
  cases r with
  | val v => exact P.2
  | unit => exact (P.not_unit hu).elim
  | brk => exact (P.not_brk hx).elim
  | cont => exact (P.not_cont hx).elim
  | err c => exact P.2
  | oof => trivial

/-- an operand inside `seqV`, its code at `pc1`, after the run so far `hpre`: when it yields no value the
    node fails as the operand did; otherwise the proof goes on (`next`) from the operand's value on top of
    the stack -/
theorem IH.seq (ih : IH code rec) {sub n : N} (hw : wf sub = true) (hu : isUnitNode sub = false) (hx : escapes sub = false)
    {rng1 : Bool} {pc0 pc1 : Nat} {stk0 stk1 : List SVal} {σ0 σ1 σ' : St} {r : Out} {k : SVal → St → Out × St}
    (hpre : Steps code ⟨pc0, stk0, σ0⟩ ⟨pc1, stk1, σ1⟩) (hat : CodeAt code pc1 (comp 0 0 rng1 sub))
    (he : seqV (rec sub σ1) k = (r, σ'))
    (next : ∀ v σ2, Steps code ⟨pc0, stk0, σ0⟩ ⟨pc1 + size rng1 sub, v :: stk1, σ2⟩ → k v σ2 = (r, σ') →
      Post code kb kc rng n pc0 stk0 σ0 r σ') :
    Post code kb kc rng n pc0 stk0 σ0 r σ' := by
  rcases hr : rec sub σ1 with ⟨r1, σ2⟩
  have O := (ih.operand hw hu hx hat hr (stk := stk1)).pre hpre
  rw [hr] at he
  cases r1 with
  | val v => exact next v σ2 O he
  | _ => cases he; exact Post.of_err O

/-! ### one simulation lemma per construct (sub-nodes through the induction hypothesis)

Each proof opens the same way: `wf` of the node is a conjunction and its code a concatenation, both by
computation (`change … (_ && _)`, `change … (_ ++ _)`: unfolding these mutual definitions by cases on `N` (47 constructors) by `simp`
is slow, their unfolding lemmas take seconds to generate); `CodeAt.append` then puts every piece at its
offset, in the form `pc + … + …` in which the run reaches it.  `hsz` unfolds `size` for `omega`. -/

/-- the last instruction of an expression node performs the partial operation `x` on the operands -/
theorem Post.liftE {n : N} {pc q : Nat} {stk : List SVal} {σ σ1 σ' : St} {r : Out} {x : Except String SVal}
    (hun : isUnitNode n = false) (he : liftE x σ1 = (r, σ'))
    (T : TryTo code ⟨pc, stk, σ⟩ σ1 x fun v => ⟨q, v :: stk, σ1⟩) (hq : q = pc + size rng n) :
    Post code kb kc rng n pc stk σ r σ' := by
  cases x with
  | ok v => cases he; exact Post.val hun T hq
  | error e => cases he; exact ⟨trivial, T⟩

/-- a leaf: one instruction pushes the value, the store is untouched -/
theorem sim_leaf (n : N) (i : FIns) (v : St → SVal) (w : Nat) (hun : isUnitNode n = false) (hsz : ∀ rng, size rng n = w)
    (hcomp : ∀ kb kc rng, ∃ rest, comp kb kc rng n = some i :: rest)
    (hex : ∀ pc stk σ, execIns i ⟨pc, stk, σ⟩ = .ok ⟨pc + w, v σ :: stk, σ⟩) : Sim code (fun σ => (.val (v σ), σ)) n := by
  intro kb kc rng pc stk σ r σ' hat he
  cases he
  obtain ⟨rest, hc⟩ := hcomp kb kc rng
  rw [hc] at hat
  exact Post.val hun ((Steps.refl _).ins hat (hex pc stk σ)) (by rw [hsz])

/-- `l && r`: `l`, a copy of its value tested by `PopJumpForwardIfFalse` (over `r` and the `BinaryOp`),
    `r`, `BinaryOp And`, `Nop` -/
theorem sim_and (ih : IH code rec) (l r : N) (hwf : wf (.infix .and l r) = true) :
    Sim code (evNode fuel rec (.infix .and l r)) (.infix .and l r) := by
  intro kb kc rng pc stk σ res σ' hat he
  change (_ && _) = true at hwf
  simp only [Bool.and_eq_true, Bool.not_eq_true'] at hwf
  obtain ⟨⟨⟨⟨⟨⟨_, hel⟩, her⟩, hxl⟩, hxr⟩, hwl⟩, hwr⟩ := hwf
  change CodeAt _ _ (_ ++ _) at hat
  simp only [CodeAt.append, List.length_append, comp_length, two_length, ← Nat.add_assoc] at hat
  obtain ⟨⟨⟨⟨⟨hatl, hcopy⟩, hpjf⟩, hatr⟩, hbin⟩, hnop⟩ := hat
  have hsz : size rng (.infix .and l r) = size rng l + size rng r + 7 := rfl
  refine ih.seq hwl (isE_not_unit hel) hxl (.refl _) hatl he fun a σ1 Pl he => ?_
  simp only [↓reduceIte] at he
  have Pj := (Pl.dup hcopy).pjf hpjf
  by_cases ht : a.truthy σ1 = true
  · simp only [ht, ↓reduceIte] at Pj he
    refine ih.seq hwr (isE_not_unit her) hxr Pj hatr he fun b σ2 Pr he => ?_
    cases he
    have Pb : Steps code _ ⟨pc + size rng l + 2 + 2 + size rng r + 2, (if a.truthy σ' = true then b else a) :: stk, σ'⟩ :=
      Pr.ins hbin rfl
    exact Post.val rfl (Pb.nop hnop) (by omega)
  · have ht' : a.truthy σ1 = false := by simpa using ht
    simp only [ht', Bool.false_eq_true, ↓reduceIte] at Pj he
    cases he
    exact Post.val rfl Pj (by omega)

/-- `l || r`: as `&&` with `PopJumpForwardIfTrue` and `BinaryOp Or` -/
theorem sim_or (ih : IH code rec) (l r : N) (hwf : wf (.infix .or l r) = true) :
    Sim code (evNode fuel rec (.infix .or l r)) (.infix .or l r) := by
  intro kb kc rng pc stk σ res σ' hat he
  change (_ && _) = true at hwf
  simp only [Bool.and_eq_true, Bool.not_eq_true'] at hwf
  obtain ⟨⟨⟨⟨⟨⟨_, hel⟩, her⟩, hxl⟩, hxr⟩, hwl⟩, hwr⟩ := hwf
  change CodeAt _ _ (_ ++ _) at hat
  simp only [CodeAt.append, List.length_append, comp_length, two_length, ← Nat.add_assoc] at hat
  obtain ⟨⟨⟨⟨⟨hatl, hcopy⟩, hpjt⟩, hatr⟩, hbin⟩, hnop⟩ := hat
  have hsz : size rng (.infix .or l r) = size rng l + size rng r + 7 := rfl
  refine ih.seq hwl (isE_not_unit hel) hxl (.refl _) hatl he fun a σ1 Pl he => ?_
  simp only [reduceCtorEq, ↓reduceIte] at he
  have Pj := (Pl.dup hcopy).pjt hpjt
  by_cases ht : a.truthy σ1 = true
  · simp only [ht, ↓reduceIte] at Pj he
    cases he
    exact Post.val rfl Pj (by omega)
  · have ht' : a.truthy σ1 = false := by simpa using ht
    simp only [ht', Bool.false_eq_true, ↓reduceIte] at Pj he
    refine ih.seq hwr (isE_not_unit her) hxr Pj hatr he fun b σ2 Pr he => ?_
    cases he
    have Pb : Steps code _ ⟨pc + size rng l + 2 + 2 + size rng r + 2, (if a.truthy σ' = true then a else b) :: stk, σ'⟩ :=
      Pr.ins hbin rfl
    exact Post.val rfl (Pb.nop hnop) (by omega)

theorem sim_infix (ih : IH code rec) (op : BinOp) (l r : N) (hop : op ≠ .and) (hor : op ≠ .or)
    (hwf : wf (.infix op l r) = true) : Sim code (evNode fuel rec (.infix op l r)) (.infix op l r) := by
  intro kb kc rng pc stk σ res σ' hat he
  change (_ && _) = true at hwf
  simp only [Bool.and_eq_true, Bool.not_eq_true'] at hwf
  obtain ⟨⟨⟨⟨⟨⟨hok, hel⟩, her⟩, hxl⟩, hxr⟩, hwl⟩, hwr⟩ := hwf
  rw [show comp kb kc rng (.infix op l r) = _ from (if_neg hop).trans (if_neg hor)] at hat
  simp only [CodeAt.append, List.length_append, comp_length, ← Nat.add_assoc] at hat
  obtain ⟨⟨hatl, hatr⟩, hins⟩ := hat
  have hsz : size rng (.infix op l r) = size rng l + size rng r + 2 := if_neg (fun h => h.elim hop hor)
  refine ih.seq hwl (isE_not_unit hel) hxl (.refl _) hatl he fun a σ1 Pl he => ?_
  rw [if_neg hop, if_neg hor] at he
  refine ih.seq hwr (isE_not_unit her) hxr Pl hatr he fun b σ2 Pr he => ?_
  exact Post.liftE rfl he (Pr.binop hins hok hop hor) (by omega)

theorem sim_neg (ih : IH code rec) (e : N) (hwf : wf (.neg e) = true) : Sim code (evNode fuel rec (.neg e)) (.neg e) := by
  intro kb kc rng pc stk σ res σ' hat he
  change (_ && _) = true at hwf
  simp only [Bool.and_eq_true, Bool.not_eq_true'] at hwf
  obtain ⟨⟨hee, hxe⟩, hwe⟩ := hwf
  change CodeAt _ _ (_ ++ _) at hat
  simp only [CodeAt.append, comp_length] at hat
  have hsz : size rng (.neg e) = size rng e + 1 := rfl
  refine ih.seq hwe (isE_not_unit hee) hxe (.refl _) hat.1 he fun v σ1 P1 he => ?_
  cases v with
  | int i =>
    cases he
    have P2 : Steps code _ ⟨pc + size rng e + 1, .int (wrap64 (-i)) :: stk, σ'⟩ := P1.ins hat.2 rfl
    exact Post.val rfl P2 (by omega)
  | _ => cases he; exact Post.fail P1 hat.2 rfl

theorem sim_not (ih : IH code rec) (e : N) (hwf : wf (.not e) = true) : Sim code (evNode fuel rec (.not e)) (.not e) := by
  intro kb kc rng pc stk σ res σ' hat he
  change (_ && _) = true at hwf
  simp only [Bool.and_eq_true, Bool.not_eq_true'] at hwf
  obtain ⟨⟨hee, hxe⟩, hwe⟩ := hwf
  change CodeAt _ _ (_ ++ _) at hat
  simp only [CodeAt.append, comp_length] at hat
  have hsz : size rng (.not e) = size rng e + 1 := rfl
  refine ih.seq hwe (isE_not_unit hee) hxe (.refl _) hat.1 he fun v σ1 P1 he => ?_
  cases he
  have P2 : Steps code _ ⟨pc + size rng e + 1, .bool (!v.truthy σ') :: stk, σ'⟩ := P1.ins hat.2 rfl
  exact Post.val rfl P2 (by omega)

/-- ternary and if/else share their shape: the condition is an operand, the two branches
    inherit the loop targets (shifted by what follows them) -/
theorem sim_cond (ih : IH code rec) (n c a b : N)
    (hcomp : ∀ kb kc rng, comp kb kc rng n = comp 0 0 rng c ++ two (.pjf (size rng a + 4))
      ++ comp (kb + (size rng b + 2)) (kc + (size rng b + 2)) rng a ++ two (.jf (size rng b + 2)) ++ comp kb kc rng b)
    (hsize : ∀ rng, size rng n = size rng c + size rng a + size rng b + 4)
    (hun : isUnitNode n = false) (hesc : escapes n = (escapes c || escapes a || escapes b))
    (hwc : wf c = true) (hwa : wf a = true) (hwb : wf b = true)
    (huc : isUnitNode c = false) (hua : isUnitNode a = false) (hub : isUnitNode b = false) (hxc : escapes c = false) :
    Sim code (fun σ => seqV (rec c σ) fun v σ1 => if v.truthy σ1 = true then rec a σ1 else rec b σ1) n := by
  intro kb kc rng pc stk σ res σ' hat he
  rw [hcomp] at hat
  simp only [CodeAt.append, List.length_append, comp_length, two_length, ← Nat.add_assoc] at hat
  obtain ⟨⟨⟨⟨hatc, hpjf⟩, hata⟩, hjf⟩, hatb⟩ := hat
  have hsz := hsize rng
  refine ih.seq hwc huc hxc (.refl _) hatc he fun v σ1 Pc he => ?_
  have Pj := Pc.pjf hpjf
  by_cases ht : v.truthy σ1 = true
  · simp only [ht, ↓reduceIte] at Pj he
    have Pa := ih a hwa _ _ _ _ stk σ1 _ _ hata he
    cases res with
    | val w => exact Post.val hun ((Pj.trans Pa.val_steps).jf hjf) (by omega)
    | unit => exact (Pa.not_unit hua).elim
    | _ => exact Pa.leave Pj (fun h => by simp [hesc, h]) (by omega) (by omega)
  · have ht' : v.truthy σ1 = false := by simpa using ht
    simp only [ht', Bool.false_eq_true, ↓reduceIte] at Pj he
    have Pb := ih b hwb kb kc _ (pc + size rng c + (size rng a + 4)) stk σ1 _ _ (hatb.cast (by omega)) he
    cases res with
    | val w => exact Post.val hun (Pj.trans Pb.val_steps) (by omega)
    | unit => exact (Pb.not_unit hub).elim
    | _ => exact Pb.leave Pj (fun h => by simp [hesc, h]) (by omega) (by omega)

theorem pre_steps (h : N) (pc : Nat) (stk : List SVal) (σ : St) (hat : CodeAt code pc (pre h)) :
    Steps code ⟨pc, stk, σ⟩ ⟨pc + preLen h, stk, σ⟩ := by
  cases hp : postName h with
  | none => simp only [preLen, hp]; exact .refl _
  | some x =>
    simp only [pre, hp, CodeAt.append, two_length] at hat
    simp only [preLen, hp]
    have P1 : Steps code ⟨pc, stk, σ⟩ ⟨pc + 2, σ.get x :: stk, σ⟩ := (Steps.refl _).ins hat.1 rfl
    exact P1.pop hat.2

/-- a statement list: the head statement (after its `pre`), compiled with the loop targets moved
    by what follows it; then `Nil` if it is the last and pushes nothing, or `PopTop`? and the rest -/
theorem sim_cons (ih : IH code rec) (h t : N) (hwf : wf (.cons h t) = true) :
    Sim code (evNode fuel rec (.cons h t)) (.cons h t) := by
  intro kb kc rng pc stk σ res σ' hat he
  change (_ && _) = true at hwf
  simp only [Bool.and_eq_true, isS, Bool.or_eq_true] at hwf
  obtain ⟨⟨⟨hsh, hlt⟩, hwh⟩, hwt⟩ := hwf
  change CodeAt _ _ (_ ++ _) at hat
  rw [CodeAt.append, pre_length] at hat
  obtain ⟨hatp, hat⟩ := hat
  have hpre := pre_steps h pc stk σ hatp
  have hesc : escapes h = true → escapes (.cons h t) = true := fun hx => Bool.or_eq_true_iff.2 (.inl hx)
  have hsz : size rng (.cons h t) = preLen h + size rng h +
      (if isNilL t = true then (if leaves h = true then 0 else 1) else (if leaves h = true then 1 else 0) + size rng t) := rfl
  dsimp only [evNode] at he
  rcases hh : rec h σ with ⟨r1, σ1⟩
  rw [hh] at he
  by_cases hnil : isNilL t = true
  · simp only [hnil, ↓reduceIte] at he hat hsz
    cases hl : leaves h with
    | true =>
      simp only [hl, ↓reduceIte, List.append_nil, Nat.add_zero] at hat hsz
      have Ph := ih h hwh _ _ _ _ stk σ _ _ hat hh
      cases r1 with
      | val v => cases he; exact Post.val rfl (hpre.trans Ph.val_steps) (by omega)
      | unit => exact absurd (unit_not_leaves Ph.1) (by simp [hl])
      | _ => cases he; exact Ph.leave hpre hesc (by omega) (by omega)
    | false =>
      simp only [hl, Bool.false_eq_true, ↓reduceIte, CodeAt.append, comp_length] at hat hsz
      have Ph := ih h hwh _ _ _ _ stk σ _ _ hat.1 hh
      cases r1 with
      | val v => exact (Ph.not_val (hsh.resolve_right (by simp [hl]))).elim
      | unit =>
        cases he
        have P2 : Steps code _ ⟨pc + preLen h + size rng h + 1, .nil :: stk, σ'⟩ := (hpre.trans Ph.unit_steps).ins hat.2 rfl
        exact Post.val rfl P2 (by omega)
      | _ => cases he; exact Ph.leave hpre hesc (by omega) (by omega)
  · have hnil' : isNilL t = false := by simpa using hnil
    simp only [hnil', Bool.false_eq_true, ↓reduceIte] at he hat hsz
    -- the rest of the list runs from the state after the head
    have rest : ∀ pcT, Steps code ⟨pc, stk, σ⟩ ⟨pcT, stk, σ1⟩ → CodeAt code pcT (comp kb kc rng t) →
        pcT + size rng t = pc + size rng (.cons h t) → rec t σ1 = (res, σ') →
        Post code kb kc rng (.cons h t) pc stk σ res σ' := by
      intro pcT hs hatT hend heT
      have Pt := ih t hwt kb kc _ pcT stk σ1 _ _ hatT heT
      cases res with
      | val v => exact Post.val rfl (hs.trans Pt.val_steps) hend
      | unit => exact (Pt.not_unit (isL_not_unit hlt)).elim
      | _ => exact Pt.leave hs (fun hx => Bool.or_eq_true_iff.2 (.inr hx)) (by omega) (by omega)
    cases hl : leaves h with
    | true =>
      simp only [hl, ↓reduceIte, CodeAt.append, comp_length, one_length] at hat hsz
      obtain ⟨hath, hpop, hatT⟩ := hat
      have Ph := ih h hwh _ _ _ _ stk σ _ _ hath hh
      cases r1 with
      | val v => exact rest _ ((hpre.trans Ph.val_steps).pop hpop) hatT (by omega) he
      | unit => exact absurd (unit_not_leaves Ph.1) (by simp [hl])
      | _ => cases he; exact Ph.leave hpre hesc (by omega) (by omega)
    | false =>
      simp only [hl, Bool.false_eq_true, ↓reduceIte, List.nil_append, Nat.zero_add, CodeAt.append, comp_length] at hat hsz
      have Ph := ih h hwh _ _ _ _ stk σ _ _ hat.1 hh
      cases r1 with
      | val v => exact (Ph.not_val (hsh.resolve_right (by simp [hl]))).elim
      | unit => exact rest _ (hpre.trans Ph.unit_steps) hat.2 (by omega) he
      | _ => cases he; exact Ph.leave hpre hesc (by omega) (by omega)

/-- `break`: leaving a range loop drops its iterator first -/
theorem sim_break : Sim code (fun σ => (.brk, σ)) .break_ := by
  intro kb kc rng pc stk σ res σ' hat he
  cases he
  refine ⟨rfl, fun out ho => ?_⟩
  cases rng with
  | false =>
    cases (ho : out = stk)
    have hsz : size false .break_ = 2 := rfl
    exact ((Steps.refl _).jf hat).cast (by omega)
  | true =>
    obtain ⟨top, rfl⟩ := ho
    change CodeAt _ _ (one .popTop ++ _) at hat
    rw [CodeAt.append] at hat
    have hsz : size true .break_ = 3 := rfl
    exact (((Steps.refl _).pop hat.1).jf hat.2).cast (by omega)

theorem sim_continue : Sim code (fun σ => (.cont, σ)) .continue_ := by
  intro kb kc rng pc stk σ res σ' hat he
  cases he
  have hsz : size rng .continue_ = 2 := rfl
  exact ⟨rfl, ((Steps.refl _).jf hat).cast (by omega)⟩

theorem sim_var (ih : IH code rec) (x : String) (e : N) (hwf : wf (.var x e) = true) :
    Sim code (evNode fuel rec (.var x e)) (.var x e) := by
  intro kb kc rng pc stk σ res σ' hat he
  change (_ && _) = true at hwf
  simp only [Bool.and_eq_true, Bool.not_eq_true'] at hwf
  obtain ⟨⟨hee, hxe⟩, hwe⟩ := hwf
  change CodeAt _ _ (_ ++ _) at hat
  simp only [CodeAt.append, comp_length] at hat
  have hsz : size rng (.var x e) = size rng e + 2 := rfl
  refine ih.seq hwe (isE_not_unit hee) hxe (.refl _) hat.1 he fun v σ1 P1 he => ?_
  cases he
  have P2 : Steps code _ ⟨pc + size rng e + 2, stk, σ1.set x v⟩ := P1.ins hat.2 rfl
  exact Post.unit rfl P2 (by omega)

theorem sim_assign (ih : IH code rec) (x : String) (op : AssignOp) (e : N) (hwf : wf (.assign x op e) = true) :
    Sim code (evNode fuel rec (.assign x op e)) (.assign x op e) := by
  intro kb kc rng pc stk σ res σ' hat he
  change (_ && _) = true at hwf
  simp only [Bool.and_eq_true, Bool.not_eq_true'] at hwf
  obtain ⟨⟨hee, hxe⟩, hwe⟩ := hwf
  by_cases hop : op = .set
  · subst hop
    change CodeAt _ _ (_ ++ _) at hat
    simp only [CodeAt.append, comp_length] at hat
    have hsz : size rng (.assign x .set e) = size rng e + 2 := rfl
    refine ih.seq hwe (isE_not_unit hee) hxe (.refl _) hat.1 he fun v σ1 P1 he => ?_
    cases he
    have P2 : Steps code _ ⟨pc + size rng e + 2, stk, σ1.set x v⟩ := P1.ins hat.2 rfl
    exact Post.unit rfl P2 (by omega)
  · rw [show comp kb kc rng (.assign x op e) = _ from if_neg hop] at hat
    simp only [CodeAt.append, List.length_append, comp_length, two_length, ← Nat.add_assoc] at hat
    obtain ⟨⟨⟨hload, hate⟩, hbin⟩, hsto⟩ := hat
    have hsz : size rng (.assign x op e) = size rng e + 6 := if_neg hop
    have P0 : Steps code ⟨pc, stk, σ⟩ ⟨pc + 2, σ.get x :: stk, σ⟩ := (Steps.refl _).ins hload rfl
    refine ih.seq hwe (isE_not_unit hee) hxe P0 hate he fun v σ1 P1 he => ?_
    have T := P1.assignOp hbin hop
    cases ha : applyF σ1 op (σ.get x) v with
    | ok w =>
      rw [ha] at T he; cases he
      have P2 : Steps code _ ⟨pc + 2 + size rng e + 2 + 2, stk, σ1.set x w⟩ := Steps.ins T hsto rfl
      exact Post.unit rfl P2 (by omega)
    | error c => rw [ha] at T he; cases he; exact ⟨trivial, T⟩

theorem sim_postfix (x : String) (inc : Bool) : Sim code (evNode fuel rec (.postfix x inc)) (.postfix x inc) := by
  intro kb kc rng pc stk σ res σ' hat he
  change CodeAt _ _ (_ ++ _) at hat
  simp only [CodeAt.append, List.length_append, two_length, ← Nat.add_assoc] at hat
  obtain ⟨⟨⟨hload, hcon⟩, hbin⟩, hsto⟩ := hat
  have hsz : size rng (.postfix x inc) = 8 := rfl
  dsimp only [evNode] at he
  have P1 : Steps code ⟨pc, stk, σ⟩ ⟨pc + 2, σ.get x :: stk, σ⟩ := (Steps.refl _).ins hload rfl
  have P2 : Steps code ⟨pc, stk, σ⟩ ⟨pc + 2 + 2, .int (if inc then 1 else -1) :: σ.get x :: stk, σ⟩ := P1.ins hcon rfl
  have T := P2.binop (op := .add) hbin rfl (by decide) (by decide)
  cases ha : binopF σ .add (σ.get x) (.int (if inc then 1 else -1)) with
  | ok w =>
    rw [ha] at T he; cases he
    have P3 : Steps code _ ⟨pc + 2 + 2 + 2 + 2, stk, σ.set x w⟩ := Steps.ins T hsto rfl
    exact Post.unit rfl P3 (by omega)
  | error c => rw [ha] at T he; cases he; exact ⟨trivial, T⟩

/-! ### loops -/

/-- the post-statement phase, and the result of a whole loop: value and unit both land at
    `tgt` with the loop's stack; no break/continue gets out -/
def PhaseTo (code : Code) (c0 : Cfg) (tgt : Nat) (stk : List SVal) (r : Out) (σ' : St) : Prop :=
  match r with
  | .val _ => Steps code c0 ⟨tgt, stk, σ'⟩
  | .unit => Steps code c0 ⟨tgt, stk, σ'⟩
  | .brk => False
  | .cont => False
  | .err c => Fails code c0 c σ'
  | .oof => True

/-- the body phase: the block's value is popped and control is at the post statement; a
    `continue` lands there too, a `break` at the loop's exit -/
def BodyTo (code : Code) (c0 : Cfg) (pcP pcX : Nat) (stk : List SVal) (r : Out) (σ' : St) : Prop :=
  match r with
  | .val _ => Steps code c0 ⟨pcP, stk, σ'⟩
  | .cont => Steps code c0 ⟨pcP, stk, σ'⟩
  | .brk => Steps code c0 ⟨pcX, stk, σ'⟩
  | .unit => False
  | .err c => Fails code c0 c σ'
  | .oof => True

/-- the condition phase: a truthy value lands at the body, a falsy one at the exit -/
def CondTo (code : Code) (c0 : Cfg) (pcB pcX : Nat) (stk : List SVal) (r : Out) (σ' : St) : Prop :=
  match r with
  | .val v => Steps code c0 ⟨if v.truthy σ' = true then pcB else pcX, stk, σ'⟩
  | .err c => Fails code c0 c σ'
  | .oof => True
  | _ => False

/-- a phase reached from `b` is reached from `a` when a run `h` leads from `a` to `b` -/
theorem PhaseTo.pre {a b : Cfg} {tgt : Nat} {stk : List SVal} {r : Out} {σ' : St}
    (l : PhaseTo code b tgt stk r σ') (h : Steps code a b) : PhaseTo code a tgt stk r σ' := by
  cases r with
  | val v => exact h.trans l
  | unit => exact h.trans l
  | err c => exact Fails.pre h l
  | _ => exact l

/-- the generic loop: condition at `pc0` (exit to `pcX`), body at `pcB`, post statement at
    `pcP` ending with the backward jump to `pc0`; by induction on the iteration bound -/
theorem loop_sim {cond body post : St → Out × St} {pc0 pcB pcP pcX : Nat} {stk : List SVal}
    (HC : ∀ σ r σ1, cond σ = (r, σ1) → CondTo code ⟨pc0, stk, σ⟩ pcB pcX stk r σ1)
    (HB : ∀ σ r σ1, body σ = (r, σ1) → BodyTo code ⟨pcB, stk, σ⟩ pcP pcX stk r σ1)
    (HP : ∀ σ r σ1, post σ = (r, σ1) → PhaseTo code ⟨pcP, stk, σ⟩ pc0 stk r σ1) :
    ∀ k σ r σ', loopF cond body post k σ = (r, σ') →
      (∀ v, r ≠ .val v) ∧ PhaseTo code ⟨pc0, stk, σ⟩ pcX stk r σ' := by
  intro k
  induction k with
  | zero =>
    intro σ r σ' h
    cases h
    exact ⟨nofun, trivial⟩
  | succ k ihk =>
    intro σ r σ' h
    change seqV (cond σ) _ = _ at h
    rcases hc : cond σ with ⟨rc, σ1⟩
    have C := HC σ _ _ hc
    rw [hc] at h
    -- the post statement and the next round, from the state after the body
    have after : ∀ σ2, Steps code ⟨pc0, stk, σ⟩ ⟨pcP, stk, σ2⟩ →
        (match post σ2 with
          | (.unit, σ3) => loopF cond body post k σ3
          | (.val _, σ3) => loopF cond body post k σ3
          | other => other) = (r, σ') →
        (∀ v, r ≠ .val v) ∧ PhaseTo code ⟨pc0, stk, σ⟩ pcX stk r σ' := by
      intro σ2 pre0 h
      rcases hp : post σ2 with ⟨rp, σ3⟩
      have P := HP σ2 _ _ hp
      rw [hp] at h
      have next : Steps code ⟨pcP, stk, σ2⟩ ⟨pc0, stk, σ3⟩ → loopF cond body post k σ3 = (r, σ') →
          (∀ v, r ≠ .val v) ∧ PhaseTo code ⟨pc0, stk, σ⟩ pcX stk r σ' :=
        fun P h => ⟨(ihk σ3 r σ' h).1, (ihk σ3 r σ' h).2.pre (pre0.trans P)⟩
      cases rp with
      | val u => exact next P h
      | unit => exact next P h
      | brk => exact P.elim
      | cont => exact P.elim
      | err c => cases h; exact ⟨nofun, Fails.pre pre0 P⟩
      | oof => cases h; exact ⟨nofun, trivial⟩
    cases rc with
    | val v =>
      change (if v.truthy σ1 = true then _ else _) = _ at h
      change Steps code _ ⟨if v.truthy σ1 = true then pcB else pcX, stk, σ1⟩ at C
      by_cases ht : v.truthy σ1 = true
      · rw [if_pos ht] at h C
        rcases hb : body σ1 with ⟨rb, σ2⟩
        have B := HB σ1 _ _ hb
        rw [hb] at h
        cases rb with
        | val w => exact after σ2 (C.trans B) h
        | cont => exact after σ2 (C.trans B) h
        | brk => cases h; exact ⟨nofun, C.trans B⟩
        | unit => exact B.elim
        | err c => cases h; exact ⟨nofun, Fails.pre C B⟩
        | oof => cases h; exact ⟨nofun, trivial⟩
      · rw [if_neg ht] at h C
        cases h
        exact ⟨nofun, C⟩
    | err c => cases h; exact ⟨nofun, C⟩
    | oof => cases h; exact ⟨nofun, trivial⟩
    | _ => exact C.elim

/-- from the loop's phases to the statement's `Post` -/
theorem Post.of_loop {n : N} {pc : Nat} {stk : List SVal} {σ σ' : St} {r : Out}
    (hun : isUnitNode n = true)
    (h : (∀ v, r ≠ .val v) ∧ PhaseTo code ⟨pc, stk, σ⟩ (pc + size rng n) stk r σ') :
    Post code kb kc rng n pc stk σ r σ' := by
  cases r with
  | val v => exact absurd rfl (h.1 v)
  | unit => exact ⟨hun, h.2⟩
  | brk => exact h.2.elim
  | cont => exact h.2.elim
  | err c => exact ⟨trivial, h.2⟩
  | oof => exact ⟨trivial, trivial⟩

/-- the body phase of every loop: the block's value is popped; `continue` lands right after
    that `PopTop`, `break` `kbB` slots after the block, from where `hbrk` leads to the exit -/
theorem body_phase (ih : IH code rec) (b : N) (hwb : wf b = true) (hbb : isBlock b = true)
    (kbB pcB pcX : Nat) (stk : List SVal) (hatb : CodeAt code pcB (comp kbB 1 false b))
    (hpop : CodeAt code (pcB + size false b) (one .popTop))
    (hbrk : ∀ σ, Steps code ⟨pcB + size false b + kbB, stk, σ⟩ ⟨pcX, stk, σ⟩) :
    ∀ σ r σ1, rec b σ = (r, σ1) → BodyTo code ⟨pcB, stk, σ⟩ (pcB + size false b + 1) pcX stk r σ1 := by
  intro σ r σ1 h
  have P := ih b hwb kbB 1 _ pcB stk σ _ _ hatb h
  cases r with
  | val v => exact P.val_steps.pop hpop
  | unit => exact (P.not_unit (isBlock_not_unit hbb)).elim
  | brk => exact Steps.trans (P.2 stk rfl) (hbrk σ1)
  | cont => exact P.2
  | err c => exact P.2
  | oof => trivial

/-- the condition phase of `for c { }` and `for i; c; p { }` -/
theorem cond_phase (ih : IH code rec) (c : N) (hwc : wf c = true) (hec : isE c = true) (hxc : escapes c = false)
    (pc0 d pcX : Nat) (stk : List SVal) (hatc : CodeAt code pc0 (comp 0 0 false c))
    (hpjf : CodeAt code (pc0 + size false c) (two (.pjf d))) (hX : pc0 + size false c + d = pcX) :
    ∀ σ r σ1, rec c σ = (r, σ1) → CondTo code ⟨pc0, stk, σ⟩ (pc0 + size false c + 2) pcX stk r σ1 := by
  intro σ r σ1 h
  subst hX
  have O := ih.operand hwc (isE_not_unit hec) hxc hatc h (stk := stk)
  cases r with
  | val v => exact Steps.pjf O hpjf
  | _ => exact O

theorem sim_forcond (ih : IH code rec) (c b : N) (hwf : wf (.forcond c b) = true) :
    Sim code (evNode fuel rec (.forcond c b)) (.forcond c b) := by
  intro kb kc rng pc stk σ res σ' hat he
  change (_ && _) = true at hwf
  simp only [Bool.and_eq_true, Bool.not_eq_true'] at hwf
  obtain ⟨⟨⟨⟨hec, hbb⟩, hxc⟩, hwc⟩, hwb⟩ := hwf
  change CodeAt _ _ (_ ++ _) at hat
  simp only [CodeAt.append, List.length_append, comp_length, two_length, one_length, ← Nat.add_assoc] at hat
  obtain ⟨⟨⟨⟨⟨hatc, hpjf⟩, hatb⟩, hpop⟩, hjb⟩, hnop⟩ := hat
  have hsz : size rng (.forcond c b) = size false c + size false b + 6 := rfl
  have HC := cond_phase ih c hwc hec hxc pc _ (pc + size rng (.forcond c b)) stk hatc hpjf (by omega)
  have HB := body_phase ih b hwb hbb 3 (pc + size false c + 2) (pc + size rng (.forcond c b)) stk hatb hpop
    fun σ => ((Steps.refl _).nop (hnop.cast (by omega))).cast (by omega)
  have HP : ∀ σ r σ1, (fun σ => ((Out.unit, σ) : Out × St)) σ = (r, σ1) →
      PhaseTo code ⟨pc + size false c + 2 + size false b + 1, stk, σ⟩ pc stk r σ1 := by
    intro σ r σ1 h
    cases h
    exact ((Steps.refl _).jb hjb).cast (by omega)
  exact Post.of_loop rfl (loop_sim HC HB HP fuel σ res σ' he)

theorem sim_forever (ih : IH code rec) (b : N) (hwf : wf (.forever b) = true) :
    Sim code (evNode fuel rec (.forever b)) (.forever b) := by
  intro kb kc rng pc stk σ res σ' hat he
  change (_ && _) = true at hwf
  simp only [Bool.and_eq_true] at hwf
  obtain ⟨hbb, hwb⟩ := hwf
  change CodeAt _ _ (_ ++ _) at hat
  simp only [CodeAt.append, List.length_append, comp_length, two_length, one_length, ← Nat.add_assoc] at hat
  obtain ⟨⟨⟨hatb, hpop⟩, hjb⟩, hnop⟩ := hat
  have hsz : size rng (.forever b) = size false b + 4 := rfl
  have HC : ∀ σ r σ1, (fun σ => ((Out.val (.bool true), σ) : Out × St)) σ = (r, σ1) →
      CondTo code ⟨pc, stk, σ⟩ pc (pc + size rng (.forever b)) stk r σ1 := by
    intro σ r σ1 h
    cases h
    exact .refl _
  have HB := body_phase ih b hwb hbb 3 pc (pc + size rng (.forever b)) stk hatb hpop
    fun σ => ((Steps.refl _).nop hnop).cast (by omega)
  have HP : ∀ σ r σ1, (fun σ => ((Out.unit, σ) : Out × St)) σ = (r, σ1) →
      PhaseTo code ⟨pc + size false b + 1, stk, σ⟩ pc stk r σ1 := by
    intro σ r σ1 h
    cases h
    exact ((Steps.refl _).jb hjb).cast (by omega)
  exact Post.of_loop rfl (loop_sim HC HB HP fuel σ res σ' he)

theorem sim_for3 (ih : IH code rec) (i c p b : N) (hwf : wf (.for3 i c p b) = true) :
    Sim code (evNode fuel rec (.for3 i c p b)) (.for3 i c p b) := by
  intro kb kc rng pc stk σ res σ' hat he
  change (_ && _) = true at hwf
  simp only [Bool.and_eq_true, Bool.not_eq_true'] at hwf
  obtain ⟨⟨⟨⟨⟨⟨⟨⟨⟨⟨hii, hec⟩, hpp⟩, hbb⟩, hxi⟩, hxc⟩, hxp⟩, hwi⟩, hwc⟩, hwp⟩, hwb⟩ := hwf
  change CodeAt _ _ (_ ++ _) at hat
  simp only [CodeAt.append, List.length_append, comp_length, two_length, one_length, ← Nat.add_assoc] at hat
  obtain ⟨⟨⟨⟨⟨⟨⟨hati, hatc⟩, hpjf⟩, hatb⟩, hpop⟩, hatp⟩, hpp2⟩, hjb⟩ := hat
  have hsz : size rng (.for3 i c p b) = size false i + size false c + size false b
      + (size false p + (if leaves p = true then 1 else 0)) + 5 := rfl
  dsimp only [evNode] at he
  -- the init statement
  rcases hi : rec i σ with ⟨r1, σ1⟩
  have Pi := ih i hwi 0 0 _ pc stk σ _ _ hati hi
  rw [hi] at he
  cases r1 with
  | val v => exact (Pi.not_val (isInit_unit hii)).elim
  | brk => exact (Pi.not_brk hxi).elim
  | cont => exact (Pi.not_cont hxi).elim
  | err e => cases he; exact ⟨trivial, Pi.2⟩
  | oof => cases he; exact ⟨trivial, trivial⟩
  | unit =>
    have HC := cond_phase ih c hwc hec hxc (pc + size false i) _ (pc + size rng (.for3 i c p b)) stk hatc hpjf (by omega)
    have HB := body_phase ih b hwb hbb _ (pc + size false i + size false c + 2) (pc + size rng (.for3 i c p b)) stk hatb hpop
      fun σ => (Steps.refl _).cast (by omega)
    have HP : ∀ σ r σ1, rec p σ = (r, σ1) →
        PhaseTo code ⟨pc + size false i + size false c + 2 + size false b + 1, stk, σ⟩ (pc + size false i) stk r σ1 := by
      intro σ r σ1 h
      have P := ih p hwp 0 0 _ _ stk σ _ _ hatp h
      cases r with
      | val v =>
        have hl : leaves p = true := (isPost_cases hpp).resolve_left fun hu => P.not_val hu
        simp only [hl, ↓reduceIte, one_length] at hpp2 hjb
        exact ((P.val_steps.pop hpp2).jb hjb).cast (by omega)
      | unit =>
        simp only [unit_not_leaves P.1, Bool.false_eq_true, ↓reduceIte, List.length_nil] at hjb
        exact (P.unit_steps.jb hjb).cast (by omega)
      | brk => exact (P.not_brk hxp).elim
      | cont => exact (P.not_cont hxp).elim
      | err e => exact P.2
      | oof => trivial
    have R := loop_sim HC HB HP fuel σ1 res σ' he
    exact Post.of_loop rfl ⟨R.1, R.2.pre Pi.unit_steps⟩

/-! ### switch

Inside a switch the subject `sv` stays on the stack: the outcome of a case value, of a selected body
or of the default is `ValTo … (sv :: stk)`. -/

/-- the comparisons of one case: on a match control is `k` slots after them (at the case's
    body), otherwise right after them; the subject stays on the stack -/
theorem vals_sim (ih : IH code rec) (sv : SVal) (stk : List SVal) :
    ∀ (vs : N), wfVals vs = true → ∀ (k P : Nat) (σ : St) (res : Except Out Bool) (σ' : St),
      CodeAt code P (compVals rng k vs) → matchValsF rec sv vs σ = (res, σ') →
      (match res with
       | .ok true => Steps code ⟨P, sv :: stk, σ⟩ ⟨P + valsLen rng vs + k, sv :: stk, σ'⟩
       | .ok false => Steps code ⟨P, sv :: stk, σ⟩ ⟨P + valsLen rng vs, sv :: stk, σ'⟩
       | .error o => ErrTo code ⟨P, sv :: stk, σ⟩ o σ') := by
  intro vs
  induction vs with
  | nilL =>
    intro _ k P σ res σ' _ he
    cases he
    exact .refl _
  | cons v vs _ ihvs =>
    intro hw k P σ res σ' hat he
    change (_ && _) = true at hw
    simp only [Bool.and_eq_true, Bool.not_eq_true'] at hw
    obtain ⟨⟨⟨hev, hxv⟩, hwv⟩, hwvs⟩ := hw
    change CodeAt _ _ (_ ++ _) at hat
    simp only [CodeAt.append, List.length_append, two_length, comp_length, ← Nat.add_assoc] at hat
    obtain ⟨⟨⟨⟨hcopy, hatv⟩, hcmp⟩, hpjt⟩, hatvs⟩ := hat
    have hlen : valsLen rng (.cons v vs) = size rng v + 6 + valsLen rng vs := rfl
    simp only [matchValsF] at he
    rcases hv : rec v σ with ⟨o, σ1⟩
    rw [hv] at he
    have O := (ih.operand hwv (isE_not_unit hev) hxv hatv hv (stk := sv :: sv :: stk)).pre ((Steps.refl _).dup hcopy)
    cases o with
    | val x =>
      have P2 : Steps code _ ⟨P + 2 + size rng v + 2, .bool (eqV σ1.h 8 sv x) :: sv :: stk, σ1⟩ := Steps.ins O hcmp rfl
      have P3 := P2.pjt hpjt
      by_cases heq : eqV σ1.h 8 sv x = true
      · simp only [heq, ↓reduceIte] at he
        cases he
        exact (P3.cast (if_pos heq)).cast (by omega)
      · have heq' : eqV σ1.h 8 sv x = false := by simpa using heq
        simp only [heq', Bool.false_eq_true, ↓reduceIte] at he
        have P4 := P3.cast (if_neg heq)
        have R := ihvs hwvs k _ σ1 res σ' hatvs he
        cases res with
        | ok b => cases b <;> exact (P4.trans R).cast (by omega)
        | error o => exact ErrTo.pre R P4
    | _ => cases he; exact O
  | _ => intro hw; cases hw

theorem dflt_facts : ∀ (cs : N), wfCases cs = true →
    (match dfltBody cs with
     | some b => compDflt rng cs = comp 0 0 rng b ∧ defLen rng cs = size rng b ∧ wf b = true ∧ isBlock b = true ∧ escapes b = false
     | none => compDflt rng cs = one .nil_ ∧ defLen rng cs = 1) := by
  intro cs
  induction cs with
  | nilL => exact fun _ => ⟨rfl, rfl⟩
  | cons h t _ iht =>
    intro hw
    change (_ && _) = true at hw
    simp only [Bool.and_eq_true] at hw
    obtain ⟨hwh, hwt⟩ := hw
    cases h with
    | case_ vals body => exact iht hwt
    | default_ b =>
      change (_ && _) = true at hwh
      simp only [Bool.and_eq_true, Bool.not_eq_true'] at hwh
      exact ⟨rfl, rfl, hwh.2, hwh.1.1, hwh.1.2⟩
    | _ => cases hwh
  | _ => intro hw; cases hw

/-- the two sections of a switch, for a suffix `cs` of the case list whose comparisons sit at
    `P` and whose bodies sit `before` slots into the body section `Bs`: whatever
    `evCasesF` selects (a case body, the default, nil), its value lands on the `Swap` at `W` -/
theorem cases_sim (ih : IH code rec) (sv : SVal) (stk : List SVal) (dflt : Option N) (E Bs D W d : Nat)
    (hBs : Bs = E + 2) (hW : W = D + d)
    (hjd : ∀ σ, Steps code ⟨E, sv :: stk, σ⟩ ⟨D, sv :: stk, σ⟩)
    (hdef : ∀ σ res σ', runDflt rec dflt σ = (res, σ') → ValTo code ⟨D, sv :: stk, σ⟩ W (sv :: stk) res σ') :
    ∀ (cs : N), wfCases cs = true → ∀ (before P : Nat) (σ : St) (res : Out) (σ' : St),
      CodeAt code P (compCmp rng before cs) → P + cmpLen rng cs = E →
      CodeAt code (Bs + before) (compBodies rng d cs) → Bs + before + bodiesLen rng cs = D →
      evCasesF rec sv dflt cs σ = (res, σ') →
      ValTo code ⟨P, sv :: stk, σ⟩ W (sv :: stk) res σ' := by
  intro cs
  induction cs with
  | nilL =>
    intro _ before P σ res σ' _ hP _ _ he
    cases (hP : P + 0 = E)
    exact (hdef σ res σ' he).pre (hjd σ)
  | cons h t _ iht =>
    intro hw before P σ res σ' hatc hP hatb hB he
    change (_ && _) = true at hw
    simp only [Bool.and_eq_true] at hw
    obtain ⟨hwh, hwt⟩ := hw
    cases h with
    | case_ vals body =>
      change (_ && _) = true at hwh
      simp only [Bool.and_eq_true, Bool.not_eq_true'] at hwh
      obtain ⟨⟨⟨hwv, hbb⟩, hxb⟩, hwb⟩ := hwh
      change CodeAt _ _ (compVals rng _ vals ++ _) at hatc
      change CodeAt _ _ (comp 0 0 rng body ++ _ ++ _) at hatb
      simp only [CodeAt.append, List.length_append, two_length, comp_length, compVals_length, ← Nat.add_assoc] at hatc hatb
      obtain ⟨⟨hatbody, hjf⟩, hatb'⟩ := hatb
      have hP' : P + (valsLen rng vals + cmpLen rng t) = E := hP
      have hB' : Bs + before + (size rng body + 2 + bodiesLen rng t) = D := hB
      simp only [evCasesF] at he
      rcases hm : matchValsF rec sv vals σ with ⟨m, σ1⟩
      rw [hm] at he
      have V := vals_sim ih sv stk vals hwv _ P σ m σ1 hatc.1 hm
      cases m with
      | ok b =>
        cases b with
        | true =>
          have V' : Steps code ⟨P, sv :: stk, σ⟩ ⟨Bs + before, sv :: stk, σ1⟩ := Steps.cast V (by omega)
          have B := (ih.operand hwb (isBlock_not_unit hbb) hxb hatbody he (stk := sv :: stk)).pre V'
          cases res with
          | val v => exact (Steps.jf B hjf).cast (by omega)
          | _ => exact B
        | false =>
          exact (iht hwt (before + (size rng body + 2)) (P + valsLen rng vals) σ1 res σ' hatc.2 (by omega)
            (hatb'.cast (by omega)) (by omega) he).pre V
      | error o =>
        cases he
        cases res with
        | err c => exact V
        | oof => trivial
        | _ => exact False.elim V
    | default_ b =>
      have hP' : P + (0 + cmpLen rng t) = E := hP
      have hB' : Bs + before + (0 + bodiesLen rng t) = D := hB
      exact iht hwt before P σ res σ' hatc (by omega) hatb (by omega) he
    | _ => cases hwh
  | _ => intro hw; cases hw

theorem sim_switch (ih : IH code rec) (subj cases : N) (hwf : wf (.switch subj cases) = true) :
    Sim code (evNode fuel rec (.switch subj cases)) (.switch subj cases) := by
  intro kb kc rng pc stk σ res σ' hat he
  change (_ && _) = true at hwf
  simp only [Bool.and_eq_true, Bool.not_eq_true'] at hwf
  obtain ⟨⟨⟨⟨hes, hxs⟩, hws⟩, hwc⟩, _⟩ := hwf
  change CodeAt _ _ (_ ++ _) at hat
  simp only [CodeAt.append, List.length_append, two_length, comp_length, compCmp_length, compBodies_length, compDflt_length,
    ← Nat.add_assoc] at hat
  obtain ⟨⟨⟨⟨⟨⟨hats, hatc⟩, hjd⟩, hatb⟩, hatd⟩, hswap⟩, hpop⟩ := hat
  have hsz : size rng (.switch subj cases)
      = size rng subj + cmpLen rng cases + 2 + bodiesLen rng cases + defLen rng cases + 3 := rfl
  refine ih.seq hws (isE_not_unit hes) hxs (.refl _) hats he fun sv σ1 Ps he => ?_
  have F := dflt_facts (rng := rng) cases hwc
  have hdef : ∀ σ res σ', runDflt rec (dfltBody cases) σ = (res, σ') →
      ValTo code ⟨pc + size rng subj + cmpLen rng cases + 2 + bodiesLen rng cases, sv :: stk, σ⟩
        (pc + size rng subj + cmpLen rng cases + 2 + bodiesLen rng cases + defLen rng cases) (sv :: stk) res σ' := by
    intro σ res σ' h
    cases hd : dfltBody cases with
    | some b =>
      rw [hd] at F h
      obtain ⟨hc, hl, hwb, hbb, hxb⟩ := F
      rw [hc] at hatd
      rw [hl]
      exact ih.operand hwb (isBlock_not_unit hbb) hxb hatd h
    | none =>
      rw [hd] at F h
      obtain ⟨hc, hl⟩ := F
      rw [hc] at hatd
      cases h
      rw [hl]
      exact (Steps.refl _).ins hatd rfl
  have R := (cases_sim ih sv stk (dfltBody cases) (pc + size rng subj + cmpLen rng cases) _ _ _ (defLen rng cases) rfl rfl
    (fun σ => ((Steps.refl _).jf hjd).cast (by omega)) hdef
    cases hwc 0 (pc + size rng subj) σ1 res σ' hatc rfl hatb rfl he).pre Ps
  cases res with
  | val v =>
    have P2 : Steps code _ ⟨pc + size rng subj + cmpLen rng cases + 2 + bodiesLen rng cases + defLen rng cases + 2,
        sv :: v :: stk, σ'⟩ := Steps.ins R hswap rfl
    exact Post.val rfl (P2.pop hpop) (by omega)
  | _ => exact Post.of_err R

/-! ### F7: map literals, index, membership, item assignment -/

theorem take_rev_append (vs stk : List SVal) :
    ((vs.reverse ++ stk).take vs.length).reverse = vs ∧ (vs.reverse ++ stk).drop vs.length = stk := by
  have h : vs.length = vs.reverse.length := by simp
  constructor
  · rw [h, List.take_left']
    · simp
    · rfl
  · rw [h, List.drop_left']
    rfl

/-- the values of the items are pushed in order (the last one on top); an item that fails is the
    failure of the whole literal -/
theorem items_sim (ih : IH code rec) :
    ∀ (items : N), wfVals items = true → ∀ (P : Nat) (stk : List SVal) (σ : St) (res : Except Out (List SVal)) (σ' : St),
      CodeAt code P (compItems rng items) → evItems rec items σ = (res, σ') →
      (match res with
       | .ok vs => Steps code ⟨P, stk, σ⟩ ⟨P + itemsLen rng items, vs.reverse ++ stk, σ'⟩ ∧ vs.length = countItems items
       | .error o => ErrTo code ⟨P, stk, σ⟩ o σ') := by
  intro items
  induction items with
  | nilL =>
    intro _ P stk σ res σ' _ he
    cases he
    exact ⟨.refl _, rfl⟩
  | cons e es _ ihes =>
    intro hw P stk σ res σ' hat he
    change (_ && _) = true at hw
    simp only [Bool.and_eq_true, Bool.not_eq_true'] at hw
    obtain ⟨⟨⟨hee, hxe⟩, hwe⟩, hwes⟩ := hw
    change CodeAt _ _ (_ ++ _) at hat
    simp only [CodeAt.append, comp_length] at hat
    simp only [evItems] at he
    rcases hv : rec e σ with ⟨o, σ1⟩
    rw [hv] at he
    have O := ih.operand hwe (isE_not_unit hee) hxe hat.1 hv (stk := stk)
    cases o with
    | val v =>
      dsimp only at he
      rcases hr : evItems rec es σ1 with ⟨rr, σ2⟩
      rw [hr] at he
      have R := ihes hwes (P + size rng e) (v :: stk) σ1 rr σ2 hat.2 hr
      cases rr with
      | ok vs =>
        cases he
        refine ⟨?_, congrArg (· + 1) R.2⟩
        rw [List.reverse_cons, List.append_assoc]
        exact (Steps.trans O R.1).cast (Nat.add_assoc _ _ _)
      | error o => cases he; exact ErrTo.pre R O
    | _ => cases he; exact O
  | _ => intro hw; cases hw

theorem keysOK_even : ∀ (n : N), keysOK n = true → 2 * (countItems n / 2) = countItems n := by
  intro n
  fun_induction keysOK n with
  | case1 k v rest ih =>
    intro h
    have := ih h
    have e : countItems (.cons (.str k) (.cons v rest)) = countItems rest + 1 + 1 := rfl
    omega
  | case2 => intro _; rfl
  | case3 => intro h; cases h

theorem sim_map (ih : IH code rec) (items : N) (hwf : wf (.map items) = true) :
    Sim code (evNode fuel rec (.map items)) (.map items) := by
  intro kb kc rng pc stk σ res σ' hat he
  change (_ && _) = true at hwf
  simp only [Bool.and_eq_true] at hwf
  obtain ⟨hwf, hkeys⟩ := hwf
  change CodeAt _ _ (_ ++ _) at hat
  simp only [CodeAt.append, compItems_length] at hat
  have hsz : size rng (.map items) = itemsLen rng items + 2 := rfl
  dsimp only [evNode] at he
  rcases hi : evItems rec items σ with ⟨ri, σ1⟩
  rw [hi] at he
  have I := items_sim ih items hwf pc stk σ ri σ1 hat.1 hi
  cases ri with
  | ok vs =>
    dsimp only at he
    obtain ⟨S, hl⟩ := I
    have T := take_rev_append vs stk
    have hev : 2 * (countItems items / 2) = vs.length := by rw [hl]; exact keysOK_even items hkeys
    have hle : vs.length ≤ (vs.reverse ++ stk).length := by simp
    cases hp : pairsOf vs with
    | some ps =>
      rw [hp] at he; cases he
      have P2 : Steps code _ ⟨pc + itemsLen rng items + 2, .ref (σ1.alloc (buildMapObj ps)).1 :: stk, (σ1.alloc (buildMapObj ps)).2⟩ :=
        S.ins hat.2 (by dsimp only [execIns]; simp only [hev, hle, ↓reduceIte, T.1, T.2, hp])
      exact Post.val rfl P2 (by omega)
    | none =>
      rw [hp] at he; cases he
      exact Post.fail S hat.2 (by dsimp only [execIns]; simp only [hev, hle, ↓reduceIte, T.1, hp])
  | error o => cases he; exact Post.of_err I

theorem sim_index (ih : IH code rec) (e i : N) (hwf : wf (.index e i) = true) :
    Sim code (evNode fuel rec (.index e i)) (.index e i) := by
  intro kb kc rng pc stk σ res σ' hat he
  change (_ && _) = true at hwf
  simp only [Bool.and_eq_true, Bool.not_eq_true'] at hwf
  obtain ⟨⟨⟨⟨⟨hee, hei⟩, hxe⟩, hxi⟩, hwe⟩, hwi⟩ := hwf
  change CodeAt _ _ (_ ++ _) at hat
  simp only [CodeAt.append, List.length_append, comp_length, ← Nat.add_assoc] at hat
  obtain ⟨⟨hate, hati⟩, hins⟩ := hat
  have hsz : size rng (.index e i) = size rng e + size rng i + 1 := rfl
  refine ih.seq hwe (isE_not_unit hee) hxe (.refl _) hate he fun ov σ1 Pe he => ?_
  refine ih.seq hwi (isE_not_unit hei) hxi Pe hati he fun iv σ2 Pi he => ?_
  exact Post.liftE rfl he (Pi.getItem hins) (by omega)

/-- membership: item, container, `Swap 1`, `ContainsOp`; `not in` adds `UnaryNot` -/
theorem sim_in (ih : IH code rec) (x c : N) (hwf : wf (.in_ x c) = true) :
    Sim code (evNode fuel rec (.in_ x c)) (.in_ x c) := by
  intro kb kc rng pc stk σ res σ' hat he
  change (_ && _) = true at hwf
  simp only [Bool.and_eq_true, Bool.not_eq_true'] at hwf
  obtain ⟨⟨⟨⟨⟨hex, hec⟩, hxx⟩, hxc⟩, hwx⟩, hwc⟩ := hwf
  change CodeAt _ _ (_ ++ _) at hat
  simp only [CodeAt.append, List.length_append, comp_length, two_length, ← Nat.add_assoc] at hat
  obtain ⟨⟨⟨hatx, hatc⟩, hsw⟩, hco⟩ := hat
  have hsz : size rng (.in_ x c) = size rng x + size rng c + 4 := rfl
  refine ih.seq hwx (isE_not_unit hex) hxx (.refl _) hatx he fun xv σ1 Px he => ?_
  refine ih.seq hwc (isE_not_unit hec) hxc Px hatc he fun cv σ2 Pc he => ?_
  have Ps : Steps code _ ⟨pc + size rng x + size rng c + 2, xv :: cv :: stk, σ2⟩ := Pc.ins hsw rfl
  exact Post.liftE rfl he (Ps.contains hco) (by omega)

theorem sim_notin (ih : IH code rec) (x c : N) (hwf : wf (.notin x c) = true) :
    Sim code (evNode fuel rec (.notin x c)) (.notin x c) := by
  intro kb kc rng pc stk σ res σ' hat he
  change (_ && _) = true at hwf
  simp only [Bool.and_eq_true, Bool.not_eq_true'] at hwf
  obtain ⟨⟨⟨⟨⟨hex, hec⟩, hxx⟩, hxc⟩, hwx⟩, hwc⟩ := hwf
  change CodeAt _ _ (_ ++ _) at hat
  simp only [CodeAt.append, List.length_append, comp_length, two_length, ← Nat.add_assoc] at hat
  obtain ⟨⟨⟨⟨hatx, hatc⟩, hsw⟩, hco⟩, hnt⟩ := hat
  have hsz : size rng (.notin x c) = size rng x + size rng c + 5 := rfl
  refine ih.seq hwx (isE_not_unit hex) hxx (.refl _) hatx he fun xv σ1 Px he => ?_
  refine ih.seq hwc (isE_not_unit hec) hxc Px hatc he fun cv σ2 Pc he => ?_
  have Ps : Steps code _ ⟨pc + size rng x + size rng c + 2, xv :: cv :: stk, σ2⟩ := Pc.ins hsw rfl
  have T := Ps.contains hco
  cases hg : containsS σ2 cv xv with
  | ok v =>
    rw [hg] at T he; cases he
    have P2 : Steps code _ ⟨pc + size rng x + size rng c + 2 + 2 + 1, .bool (!v.truthy σ') :: stk, σ'⟩ := Steps.ins T hnt rfl
    exact Post.val rfl P2 (by omega)
  | error e => rw [hg] at T he; cases he; exact ⟨trivial, T⟩

/-- plain item assignment: right-hand side, container, index, `StoreSubscr` -/
theorem sim_setitem_set (ih : IH code rec) (o i v : N) (hwf : wf (.setitem .set o i v) = true) :
    Sim code (evNode fuel rec (.setitem .set o i v)) (.setitem .set o i v) := by
  intro kb kc rng pc stk σ res σ' hat he
  change (_ && _) = true at hwf
  simp only [Bool.and_eq_true, Bool.not_eq_true'] at hwf
  obtain ⟨⟨⟨⟨⟨⟨⟨⟨heo, hei⟩, hev⟩, hxo⟩, hxi⟩, hxv⟩, hwo⟩, hwi⟩, hwv⟩ := hwf
  change CodeAt _ _ (_ ++ _) at hat
  simp only [CodeAt.append, List.length_append, comp_length, ← Nat.add_assoc] at hat
  obtain ⟨⟨⟨hatv, hato⟩, hati⟩, hins⟩ := hat
  have hsz : size rng (.setitem .set o i v) = size rng v + size rng o + size rng i + 1 := rfl
  dsimp only [evNode] at he
  simp only [↓reduceIte] at he
  refine ih.seq hwv (isE_not_unit hev) hxv (.refl _) hatv he fun rhs σ1 Pv he => ?_
  refine ih.seq hwo (isE_not_unit heo) hxo Pv hato he fun ov σ2 Po he => ?_
  refine ih.seq hwi (isE_not_unit hei) hxi Po hati he fun iv σ3 Pi he => ?_
  have T := Pi.setItem hins
  cases hg : setItemS σ3 ov iv rhs with
  | ok σ4 => rw [hg] at T he; cases he; exact Post.unit rfl T (by omega)
  | error c => rw [hg] at T he; cases he; exact ⟨trivial, T⟩

/-- compound item assignment: container, index, `BinarySubscr`, right-hand side, `BinaryOp`, then
    container and index AGAIN, `StoreSubscr` -/
theorem sim_setitem_op (ih : IH code rec) (op : AssignOp) (hop : op ≠ .set) (o i v : N)
    (hwf : wf (.setitem op o i v) = true) : Sim code (evNode fuel rec (.setitem op o i v)) (.setitem op o i v) := by
  intro kb kc rng pc stk σ res σ' hat he
  change (_ && _) = true at hwf
  simp only [Bool.and_eq_true, Bool.not_eq_true'] at hwf
  obtain ⟨⟨⟨⟨⟨⟨⟨⟨heo, hei⟩, hev⟩, hxo⟩, hxi⟩, hxv⟩, hwo⟩, hwi⟩, hwv⟩ := hwf
  rw [show comp kb kc rng (.setitem op o i v) = _ from if_neg hop] at hat
  simp only [CodeAt.append, List.length_append, comp_length, one_length, two_length, ← Nat.add_assoc] at hat
  obtain ⟨⟨⟨⟨⟨⟨⟨hato, hati⟩, hsub⟩, hatv⟩, hbin⟩, hato2⟩, hati2⟩, hsto⟩ := hat
  have hsz : size rng (.setitem op o i v)
      = size rng o + size rng i + 1 + size rng v + 2 + size rng o + size rng i + 1 := if_neg hop
  dsimp only [evNode] at he
  simp only [if_neg hop] at he
  refine ih.seq hwo (isE_not_unit heo) hxo (.refl _) hato he fun ov σ1 Po he => ?_
  refine ih.seq hwi (isE_not_unit hei) hxi Po hati he fun iv σ2 Pi he => ?_
  have T := Pi.getItem hsub
  cases hg : getItemS σ2 ov iv with
  | error c => rw [hg] at T he; cases he; exact ⟨trivial, T⟩
  | ok cur =>
    rw [hg] at T he
    refine ih.seq hwv (isE_not_unit hev) hxv T hatv he fun rhs σ3 Pv he => ?_
    have T := Pv.assignOp hbin hop
    cases ha : applyF σ3 op cur rhs with
    | error c => rw [ha] at T he; cases he; exact ⟨trivial, T⟩
    | ok nv =>
      rw [ha] at T he
      refine ih.seq hwo (isE_not_unit heo) hxo T hato2 he fun ov2 σ4 Po2 he => ?_
      refine ih.seq hwi (isE_not_unit hei) hxi Po2 hati2 he fun iv2 σ5 Pi2 he => ?_
      have T := Pi2.setItem hsto
      cases hs : setItemS σ5 ov2 iv2 nv with
      | ok σ6 => rw [hs] at T he; cases he; exact Post.unit rfl T (by omega)
      | error c => rw [hs] at T he; cases he; exact ⟨trivial, T⟩

theorem sim_setitem (ih : IH code rec) (op : AssignOp) (o i v : N) (hwf : wf (.setitem op o i v) = true) :
    Sim code (evNode fuel rec (.setitem op o i v)) (.setitem op o i v) := by
  by_cases hop : op = .set
  · subst hop; exact sim_setitem_set ih o i v hwf
  · exact sim_setitem_op ih op hop o i v hwf

/-! ### range loops -/

theorem getIterS_isIter {c it : SVal} (h : getIterS c = .ok it) : isIter it = true := by
  cases c <;> cases h <;> rfl

theorem iterNext_isIter {σ : St} {it it' key value : SVal} (h : iterNext σ it = some (it', key, value)) :
    isIter it' = true := by
  cases it with
  | iterI n pos =>
    simp only [iterNext] at h
    by_cases hc : (pos : Int) < (if n < 0 then -n else n)
    · simp only [hc, ↓reduceIte] at h; cases h; rfl
    · simp only [hc, ↓reduceIte] at h; cases h
  | _ => cases h

/-- the `StoreGlobal`s after `ForIter`: every pushed value is popped into its name -/
theorem stores_steps : ∀ (names : List String) (vals : List SVal) (P : Nat) (rest : List SVal) (σ : St),
    vals.length = names.length → CodeAt code P (stores names) →
    Steps code ⟨P, vals ++ rest, σ⟩ ⟨P + 2 * names.length, rest, bindAll names vals σ⟩
  | [], [], _, _, _, _, _ => .refl _
  | [], _ :: _, _, _, _, hl, _ => by cases hl
  | _ :: _, [], _, _, _, hl, _ => by cases hl
  | x :: xs, v :: vs, P, rest, σ, hl, hat => by
    change CodeAt _ _ (_ ++ _) at hat
    rw [CodeAt.append, two_length] at hat
    have P1 : Steps code ⟨P, v :: vs ++ rest, σ⟩ ⟨P + 2, vs ++ rest, σ.set x v⟩ := (Steps.refl _).ins hat.1 rfl
    exact (P1.trans (stores_steps xs vs (P + 2) rest (σ.set x v) (Nat.succ.inj hl) hat.2)).cast
      (by rw [List.length_cons]; omega)

/-- the body phase of a range loop: the iterator `it` stays below the body's value, which is
    popped; `continue` lands on the backward jump too; `break` has popped the iterator and is at
    the exit -/
def RBodyTo (code : Code) (c0 : Cfg) (pcJ pcX : Nat) (it : SVal) (stk : List SVal) (r : Out) (σ' : St) : Prop :=
  match r with
  | .val _ => Steps code c0 ⟨pcJ, it :: stk, σ'⟩
  | .cont => Steps code c0 ⟨pcJ, it :: stk, σ'⟩
  | .brk => Steps code c0 ⟨pcX, stk, σ'⟩
  | .unit => False
  | .err c => Fails code c0 c σ'
  | .oof => True

/-- the generic range loop: `ForIter d m` at `pcI` (exit `pcX = pcI + d`, the iterator dropped), the
    stores of the names, the body at `pcB`, the backward jump at `pcJ`; by induction on the bound -/
theorem range_sim {names : List String} {m : Nat} {body : St → Out × St} {pcI pcB pcJ pcX d : Nat} {stk : List SVal}
    (hfi : CodeAt code pcI (three (.forIter d m))) (hX : pcI + d = pcX)
    (hlenv : ∀ key value vals, pushKV m key value = some vals → vals.length = names.length)
    (hst : ∀ vals it σ, vals.length = names.length →
      Steps code ⟨pcI + 3, vals ++ it :: stk, σ⟩ ⟨pcB, it :: stk, bindAll names vals σ⟩)
    (HB : ∀ it σ r σ1, body σ = (r, σ1) → RBodyTo code ⟨pcB, it :: stk, σ⟩ pcJ pcX it stk r σ1)
    (hjb : ∀ it σ, Steps code ⟨pcJ, it :: stk, σ⟩ ⟨pcI, it :: stk, σ⟩) :
    ∀ k it σ r σ', isIter it = true → rangeF names m body k it σ = (r, σ') →
      (∀ v, r ≠ .val v) ∧ PhaseTo code ⟨pcI, it :: stk, σ⟩ pcX stk r σ' := by
  intro k
  induction k with
  | zero =>
    intro it σ r σ' _ h
    cases h
    exact ⟨nofun, trivial⟩
  | succ k ihk =>
    intro it σ r σ' hit h
    simp only [rangeF] at h
    cases hn : iterNext σ it with
    | none =>
      rw [hn] at h; cases h
      have P1 : Steps code ⟨pcI, it :: stk, σ⟩ ⟨pcI + d, stk, σ⟩ :=
        (Steps.refl _).ins hfi (by dsimp only [execIns]; simp only [hit, hn, ↓reduceIte])
      exact ⟨nofun, P1.cast hX⟩
    | some e =>
      obtain ⟨it', key, value⟩ := e
      rw [hn] at h
      dsimp only at h
      cases hp : pushKV m key value with
      | none =>
        rw [hp] at h; cases h
        exact ⟨nofun, (Steps.refl _).fails hfi (by dsimp only [execIns]; simp only [hit, hn, hp, ↓reduceIte])⟩
      | some vals =>
        rw [hp] at h
        dsimp only at h
        have P1 : Steps code ⟨pcI, it :: stk, σ⟩ ⟨pcI + 3, vals ++ it' :: stk, σ⟩ :=
          (Steps.refl _).ins hfi (by dsimp only [execIns]; simp only [hit, hn, hp, ↓reduceIte])
        have pre := P1.trans (hst vals it' σ (hlenv _ _ _ hp))
        rcases hb : body (bindAll names vals σ) with ⟨rb, σ2⟩
        rw [hb] at h
        have B := HB it' _ _ _ hb
        have next : Steps code ⟨pcI, it :: stk, σ⟩ ⟨pcJ, it' :: stk, σ2⟩ →
            rangeF names m body k it' σ2 = (r, σ') →
            (∀ v, r ≠ .val v) ∧ PhaseTo code ⟨pcI, it :: stk, σ⟩ pcX stk r σ' := fun S h =>
          have R := ihk it' σ2 r σ' (iterNext_isIter hn) h
          ⟨R.1, R.2.pre (S.trans (hjb it' σ2))⟩
        cases rb with
        | val w => exact next (pre.trans B) h
        | cont => exact next (pre.trans B) h
        | brk => cases h; exact ⟨nofun, pre.trans B⟩
        | unit => exact B.elim
        | err c => cases h; exact ⟨nofun, Fails.pre pre B⟩
        | oof => cases h; exact ⟨nofun, trivial⟩

/-- `for … := range c { b }` and `for v in c { b }` share their shape -/
theorem sim_rangeloop (ih : IH code rec) (n c b : N) (names : List String) (m : Nat)
    (hcomp : ∀ kb kc rng, comp kb kc rng n = comp 0 0 rng c ++ one .getIter
      ++ three (.forIter (3 + 2 * names.length + size true b + 3) m)
      ++ stores names ++ comp 3 1 true b ++ one .popTop
      ++ two (.jb (3 + 2 * names.length + size true b + 1)))
    (hsize : ∀ rng, size rng n = size rng c + 1 + 3 + 2 * names.length + size true b + 3)
    (hun : isUnitNode n = true)
    (hlenv : ∀ key value vals, pushKV m key value = some vals → vals.length = names.length)
    (hec : isE c = true) (hbb : isBlock b = true) (hxc : escapes c = false) (hwc : wf c = true) (hwb : wf b = true) :
    Sim code (fun σ => seqV (rec c σ) fun cv σ1 => rangeOver names m (rec b) fuel cv σ1) n := by
  intro kb kc rng pc stk σ res σ' hat he
  rw [hcomp] at hat
  simp only [CodeAt.append, List.length_append, comp_length, one_length, three_length, stores_length, ← Nat.add_assoc] at hat
  obtain ⟨⟨⟨⟨⟨⟨hatc, hgi⟩, hfi⟩, hsts⟩, hatb⟩, hpop⟩, hjb⟩ := hat
  have hsz := hsize rng
  refine ih.seq hwc (isE_not_unit hec) hxc (.refl _) hatc he fun cv σ1 Pc he => ?_
  have T := Pc.getIter hgi
  unfold rangeOver at he
  cases hg : getIterS cv with
  | error e => rw [hg] at T he; cases he; exact ⟨trivial, T⟩
  | ok it =>
    rw [hg] at T he
    have HB : ∀ it σ r σ1, rec b σ = (r, σ1) →
        RBodyTo code ⟨pc + size rng c + 1 + 3 + 2 * names.length, it :: stk, σ⟩
          (pc + size rng c + 1 + 3 + 2 * names.length + size true b + 1) (pc + size rng n) it stk r σ1 := by
      intro it σ r σ1 h
      have P := ih b hwb 3 1 true _ (it :: stk) σ _ _ hatb h
      cases r with
      | val v => exact P.val_steps.pop hpop
      | unit => exact (P.not_unit (isBlock_not_unit hbb)).elim
      | brk => exact (P.2 stk ⟨it, rfl⟩).cast (by omega)
      | cont => exact P.2
      | err c => exact P.2
      | oof => trivial
    have R := range_sim hfi (by omega) hlenv (fun vals it σ hl => stores_steps names vals _ (it :: stk) σ hl hsts) HB
      (fun it σ => ((Steps.refl _).jb hjb).cast (by omega)) fuel it σ1 res σ' (getIterS_isIter hg) he
    exact Post.of_loop hun ⟨R.1, R.2.pre T⟩

theorem rngNames_pushKV (k v : String) (key value : SVal) (vals : List SVal)
    (h : pushKV (rngNames k v).length key value = some vals) : vals.length = (rngNames k v).length := by
  unfold rngNames at *
  by_cases hk : (k == "") = true <;> by_cases hv : (v == "") = true <;>
    simp [hk, hv, pushKV] at h ⊢ <;> subst h <;> rfl

theorem sim_forrange (ih : IH code rec) (k v : String) (c b : N) (hwf : wf (.forrange k v c b) = true) :
    Sim code (evNode fuel rec (.forrange k v c b)) (.forrange k v c b) := by
  change (_ && _) = true at hwf
  simp only [Bool.and_eq_true, Bool.not_eq_true'] at hwf
  obtain ⟨⟨⟨⟨hec, hbb⟩, hxc⟩, hwc⟩, hwb⟩ := hwf
  exact sim_rangeloop ih (.forrange k v c b) c b (rngNames k v) (rngNames k v).length (fun _ _ _ => rfl) (fun _ => rfl) rfl
    (rngNames_pushKV k v) hec hbb hxc hwc hwb

theorem sim_forin (ih : IH code rec) (v : String) (c b : N) (hwf : wf (.forin v c b) = true) :
    Sim code (evNode fuel rec (.forin v c b)) (.forin v c b) := by
  change (_ && _) = true at hwf
  simp only [Bool.and_eq_true, Bool.not_eq_true'] at hwf
  obtain ⟨⟨⟨⟨hec, hbb⟩, hxc⟩, hwc⟩, hwb⟩ := hwf
  exact sim_rangeloop ih (.forin v c b) c b [v] 3 (fun _ _ _ => rfl) (fun _ => rfl) rfl
    (fun key value vals h => by cases h; rfl) hec hbb hxc hwc hwb

/-- every node form of the fragment: if the sub-nodes are simulated, so is the node -/
theorem evNode_sim (ih : IH code rec) (fuel : Nat) : IH code (evNode fuel rec) := by
  intro n hwf
  cases n with
  | nilLit => exact sim_leaf _ .nil_ (fun _ => .nil) 1 rfl (fun _ => rfl) (fun _ _ _ => ⟨_, rfl⟩) (fun _ _ _ => rfl)
  | none_ => exact sim_leaf _ .nil_ (fun _ => .nil) 1 rfl (fun _ => rfl) (fun _ _ _ => ⟨_, rfl⟩) (fun _ _ _ => rfl)
  | nilL => exact sim_leaf _ .nil_ (fun _ => .nil) 1 rfl (fun _ => rfl) (fun _ _ _ => ⟨_, rfl⟩) (fun _ _ _ => rfl)
  | int i => exact sim_leaf _ (.constInt i) (fun _ => .int i) 2 rfl (fun _ => rfl) (fun _ _ _ => ⟨_, rfl⟩) (fun _ _ _ => rfl)
  | str s => exact sim_leaf _ (.constStr s) (fun _ => .str s) 2 rfl (fun _ => rfl) (fun _ _ _ => ⟨_, rfl⟩) (fun _ _ _ => rfl)
  | id x => exact sim_leaf _ (.loadG x) (·.get x) 2 rfl (fun _ => rfl) (fun _ _ _ => ⟨_, rfl⟩) (fun _ _ _ => rfl)
  | bool b =>
    exact sim_leaf _ (if b then .true_ else .false_) (fun _ => .bool b) 1 rfl (fun _ => rfl) (fun _ _ _ => ⟨_, rfl⟩)
      (fun _ _ _ => by cases b <;> rfl)
  | «infix» op l r =>
    by_cases hand : op = .and
    · subst hand; exact sim_and ih l r hwf
    · by_cases hor : op = .or
      · subst hor; exact sim_or ih l r hwf
      · exact sim_infix ih op l r hand hor hwf
  | neg e => exact sim_neg ih e hwf
  | not e => exact sim_not ih e hwf
  | tern c a b =>
    change (_ && _) = true at hwf
    simp only [Bool.and_eq_true, Bool.not_eq_true'] at hwf
    obtain ⟨⟨⟨⟨⟨⟨⟨⟨hec, hea⟩, heb⟩, hxc⟩, _⟩, _⟩, hwc⟩, hwa⟩, hwb⟩ := hwf
    exact sim_cond ih (.tern c a b) c a b (fun _ _ _ => rfl) (fun _ => rfl) rfl rfl hwc hwa hwb
      (isE_not_unit hec) (isE_not_unit hea) (isE_not_unit heb) hxc
  | if_ c t e =>
    change (_ && _) = true at hwf
    simp only [Bool.and_eq_true, Bool.not_eq_true'] at hwf
    obtain ⟨⟨⟨⟨⟨⟨hec, hbt⟩, hee⟩, hxc⟩, hwc⟩, hwt⟩, hwe⟩ := hwf
    exact sim_cond ih (.if_ c t e) c t e (fun _ _ _ => rfl) (fun _ => rfl) rfl rfl hwc hwt hwe
      (isE_not_unit hec) (isBlock_not_unit hbt) (isElse_not_unit hee) hxc
  | block s =>
    change (_ && _) = true at hwf
    simp only [Bool.and_eq_true] at hwf
    exact fun kb kc rng pc stk σ r σ' hat he =>
      (ih s hwf.2 kb kc rng pc stk σ r σ' hat he).congr rfl (isL_not_unit hwf.1) rfl rfl
  | prog s =>
    change (_ && _) = true at hwf
    simp only [Bool.and_eq_true] at hwf
    exact fun kb kc rng pc stk σ r σ' hat he =>
      (ih s hwf.2 kb kc rng pc stk σ r σ' hat he).congr rfl (isL_not_unit hwf.1.1) rfl rfl
  | expr e =>
    change (_ && _) = true at hwf
    simp only [Bool.and_eq_true] at hwf
    exact fun kb kc rng pc stk σ r σ' hat he =>
      (ih e hwf.2 kb kc rng pc stk σ r σ' hat he).congr rfl (isE_not_unit hwf.1) rfl rfl
  | cons h t => exact sim_cons ih h t hwf
  | var x e => exact sim_var ih x e hwf
  | assign x op e => exact sim_assign ih x op e hwf
  | «postfix» x inc => exact sim_postfix x inc
  | break_ => exact sim_break
  | continue_ => exact sim_continue
  | forcond c b => exact sim_forcond ih c b hwf
  | forever b => exact sim_forever ih b hwf
  | for3 i c p b => exact sim_for3 ih i c p b hwf
  | switch subj cases => exact sim_switch ih subj cases hwf
  | map items => exact sim_map ih items hwf
  | in_ x c => exact sim_in ih x c hwf
  | notin x c => exact sim_notin ih x c hwf
  | index e i => exact sim_index ih e i hwf
  | setitem op o i v => exact sim_setitem ih op o i v hwf
  | forrange k v c b => exact sim_forrange ih k v c b hwf
  | forin v c b => exact sim_forin ih v c b hwf
  | _ => cases hwf

/-- the simulation, for every fuel: induction on fuel only (each node evaluates its sub-nodes
    with one unit of fuel less; loops iterate inside `loop_sim`) -/
theorem ev_sim (code : Code) : ∀ f, IH code (ev f)
  | 0 => fun n _ kb kc rng pc stk σ r σ' _ he => by cases he; exact ⟨trivial, trivial⟩
  | f + 1 => evNode_sim (ev_sim code f) f

/-! ### from `Steps` to the fuel-indexed `run` -/

theorem run_of_steps {code : Code} {a b : Cfg} (h : Steps code a b) :
    ∃ n, ∀ k, run code (n + k) a = run code k b := by
  induction h with
  | refl c => exact ⟨0, fun k => by rw [Nat.zero_add]⟩
  | cons hs _ ih =>
    obtain ⟨n, hn⟩ := ih
    refine ⟨n + 1, fun k => ?_⟩
    have : n + 1 + k = (n + k) + 1 := by omega
    rw [this, run, hs]
    exact hn k

/-- once the VM has halted, more fuel does not change the outcome -/
theorem run_mono {code : Code} : ∀ (k : Nat) (c : Cfg) (res : RunRes) (σ : St),
    run code k c = (res, σ) → res ≠ .running → run code (k + 1) c = (res, σ)
  | 0, c, res, σ, h, hr => by cases h; exact absurd rfl hr
  | k + 1, c, res, σ, h, hr => by
    rw [run] at h ⊢
    cases hs : step code c with
    | ok c' => rw [hs] at h; exact run_mono k c' res σ h hr
    | error e => rw [hs] at h; cases e <;> exact h

/-! ### map objects: lookups after writes (helpers of StrProps.lean) -/

theorem mapGet_mapSet (m : MapObj) (k : String) (v : SVal) (k' : String) :
    mapGet (mapSet m k v) k' = if k' = k then some v else mapGet m k' := by
  induction m with
  | nil => simp [mapSet, mapGet]
  | cons e r ih =>
    obtain ⟨k0, v0⟩ := e
    by_cases h0 : k = k0
    · subst h0
      by_cases h : k' = k <;> simp [mapSet, mapGet, h]
    · by_cases h : k' = k
      · subst h
        simp [mapSet, mapGet, h0, ih]
      · by_cases h1 : k' = k0
        · subst h1
          simp [mapSet, mapGet, h0, h]
        · simp [mapSet, mapGet, h0, h1, h, ih]

/-- the object `BuildMap` makes maps every key to the value of the FIRST pair with that key -/
theorem mapGet_buildMapObj (ps : List (String × SVal)) (k : String) :
    mapGet (buildMapObj ps) k = ps.lookup k := by
  induction ps with
  | nil => rfl
  | cons e r ih =>
    obtain ⟨k0, v0⟩ := e
    show mapGet (mapSet (buildMapObj r) k0 v0) k = _
    rw [mapGet_mapSet, List.lookup_cons]
    by_cases h : k = k0
    · simp [h]
    · have hb : (k == k0) = false := by simpa using h
      simp [h, hb, ih]

theorem items_write_same (σ : St) (a : Nat) (l : MapObj) (ha : a < σ.h.length) : (σ.write a l).items a = l := by
  simp [St.write, St.items, List.getD, ha]

theorem items_write_other (σ : St) (a b : Nat) (l : MapObj) (hab : b ≠ a) : (σ.write a l).items b = σ.items b := by
  simp only [St.write, St.items, List.getD]
  rw [List.getElem?_set_ne (by omega)]

end Risor.C01.Str
