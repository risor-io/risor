import RisorModel.C01.FragLemmas
/-!
C01 — COMPILER CORRECTNESS for the fragment `inFrag` (Frag.lean), proved for ALL programs of
the fragment and ALL fuel (no bound on size, depth or iteration count).

Fragment F1 (`wf`): literals (int, bool, nil, string), global identifiers, the infix operators
`+ - * / % < <= > >= == !=` on every value including their error outcomes (type error,
division by zero = "panic"), short-circuit `&&` and `||` in risor's lowering
(`a; Copy 0; PopJumpForwardIf…; b; BinaryOp And/Or; Nop`), unary `-` and `!`, the ternary,
`if` / `else if` / `else` expressions with block bodies (an absent else pushes nil),
`x := e`, `x = e`, `x += e` (`-= *= /=`), `x++` / `x--` (with the `LoadGlobal x; PopTop` pair
the parser's reading of a postfix statement produces), expression statements, statement lists
(`PopTop` after a non-last expression statement, `Nil` after a last non-expression
statement, `Nil` for the empty list), `for c { }`, `for { }` and `for init; c; post { }`.
Fragment F2 adds `break` and `continue` (jump operands = the closed form of the compiler's
placeholder patching) wherever no operand is pending on the stack: as statements of a loop
body and of the blocks of `if`s nested to any depth in statement position; the guard
`escapes … = false` on operands, conditions, right-hand sides and the loop header excludes
exactly the programs of C04's finding `ctl-under-operands` (a `break` under pending operands).
Fragment F3 adds `switch` expressions in risor's two-section lowering (subject; for every case
value `Copy 0; v; CompareOp ==; PopJumpForwardIfTrue → body`; `JumpForward → default`; every
body followed by `JumpForward → end`; the default's body or `Nil`; `Swap 1; PopTop` dropping
the subject), cases with several values, a default clause anywhere in the list or absent; no
break/continue may leave a switch (that needs the `pendingSwitchValues` pops).
Not in the fragment: functions, calls, containers, string templates, range loops.

What is PROVED here relates the three definitions of Frag.lean (`evalF`, `compF`, `runF`).
What ties them to the Go code is checked by correspondence on every run (harness/c01frag.go):
`compF` = real bytecode = `Compile.lean`; `evalF` = `Sem.lean` = real result;
`runF ∘ compF` = `VM.lean` = real result.

Technique: forward simulation over `CodeAt code pc fragment` (every risor jump is relative,
so a compiled fragment runs the same at any offset of any enclosing code); induction on fuel
(`ev_sim`), each node form by its own lemma (`sim_*`), loops by induction on the iteration
bound (`loop_sim`).
-/
namespace Risor.C01.Frag
open Risor.C01

/-- **Simulation, at full strength.**  For every well-formed node `n` of the fragment (an
    expression, a statement, a block, a statement list, a program), every enclosing code in
    which the code of `n` sits at offset `pc` — compiled for an enclosing loop whose `break`
    target lies `kb` and whose `continue` target lies `kc` slots after the end of `n` —, every
    operand stack `stk`, every store `σ` and every fuel: if the reference semantics gives `r`
    with final store `σ'` then
    * `r = val v`  — `n` is not a unit statement and the VM runs from `(pc, stk, σ)` to
      `(pc + size n, v :: stk, σ')`;
    * `r = unit`   — `n` is a unit statement (`:=`, assignment, `++`, a loop) and the VM runs
      to `(pc + size n, stk, σ')`;
    * `r = brk` / `cont` — a break/continue can escape `n`, and the VM runs to the loop's
      break / continue target with the stack `stk` it started with;
    * `r = err c`  — the VM reaches a configuration with store `σ'` whose next step raises
      the error class `c`;
    * `r = oof` (the reference semantics ran out of fuel) — nothing is claimed. -/
theorem frag_simulation (code : Code) (f : Nat) (n : N) (hwf : wf n = true) (kb kc : Nat)
    (pc : Nat) (stk : List FVal) (σ : Store) (r : Out) (σ' : Store)
    (hat : CodeAt code pc (comp kb kc n)) (he : ev f n σ = (r, σ')) :
    (match r with
     | .val v => isUnitNode n = false ∧ Steps code ⟨pc, stk, σ⟩ ⟨pc + size n, v :: stk, σ'⟩
     | .unit => isUnitNode n = true ∧ Steps code ⟨pc, stk, σ⟩ ⟨pc + size n, stk, σ'⟩
     | .brk => escapes n = true ∧ Steps code ⟨pc, stk, σ⟩ ⟨pc + size n + kb, stk, σ'⟩
     | .cont => escapes n = true ∧ Steps code ⟨pc, stk, σ⟩ ⟨pc + size n + kc, stk, σ'⟩
     | .err c => ∃ c1, Steps code ⟨pc, stk, σ⟩ c1 ∧ c1.σ = σ' ∧ step code c1 = .error (.err c)
     | .oof => True) := by
  have P := ev_sim code f n hwf kb kc pc stk σ r σ' hat he
  cases r with
  | val v => exact ⟨P.1, P.2⟩
  | unit => exact ⟨P.1, P.2⟩
  | brk => exact ⟨P.1, P.2⟩
  | cont => exact ⟨P.1, P.2⟩
  | err c => exact P.2
  | oof => trivial

theorem frag_code_length (n : N) (kb kc : Nat) : (comp kb kc n).length = size n := comp_length n kb kc

/-- **Compiler correctness for the fragment** (the property C01 on `inFrag`): for every
    program `p` of the fragment and every fuel, if the reference semantics ends (anything but
    out-of-fuel) then it ends with a value or an error — never with a stray break/continue —
    and there is a fuel for which the VM, run on the compiled code from the empty stack and
    store, halts with the SAME value (resp. the SAME error class) and the SAME final store. -/
theorem frag_compile_correct (p : N) (hp : inFrag p = true) (fuel : Nat) (r : Out) (σ' : Store)
    (he : evalF fuel p = (r, σ')) (hr : r ≠ .oof) :
    (∃ v, r = .val v ∧ ∃ fuel', runF fuel' (compF p) = (.done v, σ')) ∨
    (∃ c, r = .err c ∧ ∃ fuel', runF fuel' (compF p) = (.err c, σ')) := by
  obtain ⟨hwf, hun, hesc⟩ : wf p = true ∧ isUnitNode p = false ∧ escapes p = false := by
    cases p with
    | prog s =>
      have hp : (wf (.prog s) && wellScoped (.prog s)) = true := hp
      have hw := (Bool.and_eq_true _ _ ▸ hp).1
      have hw' : (isL s && !escapes s && wf s) = true := hw
      simp only [Bool.and_eq_true, Bool.not_eq_true'] at hw'
      exact ⟨hw, rfl, hw'.1.2⟩
    | _ => cases hp
  -- a program is an operand: it ends with a value at the end of its code, or fails
  have P := (ev_sim (compF p) fuel).operand hwf hun hesc (stk := []) (CodeAt.self _) he
  have halt : ∀ {c1 : Cfg} {res : RunRes}, Steps (compF p) ⟨0, [], []⟩ c1 →
      run (compF p) 1 c1 = (res, σ') → ∃ fuel', runF fuel' (compF p) = (res, σ') := fun hs h1 =>
    have ⟨n, hn⟩ := run_of_steps hs
    ⟨n + 1, (hn 1).trans h1⟩
  cases r with
  | val v =>
    refine .inl ⟨v, rfl, halt P ?_⟩
    have hend : (compF p).length ≤ size p := by rw [compF, comp_length]; omega
    simp [run, step, hend]
  | err c =>
    obtain ⟨c1, hs, hσ, hst⟩ := P
    exact .inr ⟨c, rfl, halt hs (by simp [run, hst, hσ])⟩
  | oof => exact absurd rfl hr
  | _ => exact P.elim

/-- the same statement through `Out.toRun` (value ↦ done, error ↦ the same error) -/
theorem frag_compile_correct_toRun (p : N) (hp : inFrag p = true) (fuel : Nat) (r : Out) (σ' : Store)
    (he : evalF fuel p = (r, σ')) (hr : r ≠ .oof) :
    ∃ fuel', runF fuel' (compF p) = (r.toRun, σ') := by
  rcases frag_compile_correct p hp fuel r σ' he hr with ⟨v, rfl, k, hk⟩ | ⟨c, rfl, k, hk⟩
  · exact ⟨k, hk⟩
  · exact ⟨k, hk⟩

/-- the outcome found by `frag_compile_correct` is THE outcome of the VM: every larger fuel
    gives the same halted result (the VM is deterministic and stays halted) -/
theorem frag_run_stable (code : Code) (k j : Nat) (res : RunRes) (σ : Store)
    (h : runF k code = (res, σ)) (hr : res ≠ .running) : runF (k + j) code = (res, σ) := by
  induction j with
  | zero => exact h
  | succ j ih => exact run_mono (k + j) _ res σ ih hr

/-- **An expression pushes exactly one value.**  Any node of the fragment that is not a unit
    statement (an expression, an expression statement, a block, a statement list), compiled
    anywhere, started on any operand stack `stk`: when the reference semantics gives the
    value `v`, the VM ends exactly at the end of the node's code with `v` pushed on an
    otherwise untouched `stk`. -/
theorem frag_expr_pushes_one (code : Code) (f : Nat) (n : N) (hwf : wf n = true) (kb kc : Nat)
    (pc : Nat) (stk : List FVal) (σ σ' : Store) (v : FVal)
    (hat : CodeAt code pc (comp kb kc n)) (he : ev f n σ = (.val v, σ')) :
    Steps code ⟨pc, stk, σ⟩ ⟨pc + (comp kb kc n).length, v :: stk, σ'⟩ := by
  rw [comp_length]
  exact (ev_sim code f n hwf kb kc pc stk σ _ σ' hat he).val_steps

/-- what `compileStmts` emits for a statement that is not the last of its list: the
    statement's code, and `PopTop` when it leaves a value (an expression statement) -/
def stmtCode (kb kc : Nat) (h : N) : Code :=
  pre h ++ comp (kb + (if leaves h then 1 else 0)) (kc + (if leaves h then 1 else 0)) h
    ++ (if leaves h then one .popTop else [])

/-- **Statements are stack-neutral** (C04's property, for the fragment).  Every statement of
    the fragment (`:=`, assignments, `++`, expression statements, `break`, `continue`, the
    three loop forms — with arbitrarily nested bodies), compiled anywhere as `compileStmts`
    compiles a statement, started on any operand stack `stk`: however it ends — completing
    (with `unit` or with a value), or leaving through a `break` / `continue` towards the
    enclosing loop's target — the operand stack is exactly `stk` again. -/
theorem frag_stmt_neutral (code : Code) (f : Nat) (h : N) (hwf : wf h = true) (hs : isS h = true)
    (kb kc : Nat) (pc : Nat) (stk : List FVal) (σ σ' : Store) (r : Out)
    (hat : CodeAt code pc (stmtCode kb kc h)) (he : ev f h σ = (r, σ')) :
    (match r with
     | .val _ => Steps code ⟨pc, stk, σ⟩ ⟨pc + (stmtCode kb kc h).length, stk, σ'⟩
     | .unit => Steps code ⟨pc, stk, σ⟩ ⟨pc + (stmtCode kb kc h).length, stk, σ'⟩
     | .brk => Steps code ⟨pc, stk, σ⟩ ⟨pc + (stmtCode kb kc h).length + kb, stk, σ'⟩
     | .cont => Steps code ⟨pc, stk, σ⟩ ⟨pc + (stmtCode kb kc h).length + kc, stk, σ'⟩
     | _ => True) := by
  unfold stmtCode at hat ⊢
  rw [List.append_assoc] at hat
  obtain ⟨hatp, hat⟩ := hat.app (pre_length h)
  obtain ⟨hath, htail⟩ := hat.app (comp_length h _ _)
  have hpre := pre_steps h pc stk σ hatp
  have P := ev_sim code f h hwf _ _ _ stk σ r σ' hath he
  simp only [List.length_append, pre_length, comp_length]
  simp only [isS, Bool.or_eq_true] at hs
  cases hl : leaves h with
  | false =>
    simp only [hl, Bool.false_eq_true, ↓reduceIte, Nat.add_zero, List.length_nil] at P ⊢
    cases r with
    | val v => cases hs.elim (fun hu => (P.1 : _ = false).symm.trans hu) (fun hl' => hl.symm.trans hl')
    | unit => exact (hpre.trans P.unit_steps).cast (by omega)
    | brk => exact (hpre.trans P.2).cast (by omega)
    | cont => exact (hpre.trans P.2).cast (by omega)
    | err c => trivial
    | oof => trivial
  | true =>
    simp only [hl, ↓reduceIte, one_length] at P htail ⊢
    cases r with
    | val v => exact ((hpre.trans P.val_steps).ins (CodeAt.head htail) execIns_popTop).cast (by omega)
    | unit => cases (unit_not_leaves P.1).symm.trans hl
    | brk => exact (hpre.trans P.2).cast (by omega)
    | cont => exact (hpre.trans P.2).cast (by omega)
    | err c => trivial
    | oof => trivial

/-! ### non-vacuity -/

/-- `s := 0; i := 0; for i < 5 { s += i; i++ }; s` -/
def exLoop : N :=
  .prog (.cons (.var "s" (.int 0)) (.cons (.var "i" (.int 0))
    (.cons (.forcond (.infix .lt (.id "i") (.int 5))
      (.block (.cons (.assign "s" .add (.id "i")) (.cons (.postfix "i" true) .nilL))))
    (.cons (.expr (.id "s")) .nilL))))

/-- `t := 0; for k := 0; k < 3; k++ { t = t + 10 / (2 - k) }` divides by zero in the third round -/
def exPanic : N :=
  .prog (.cons (.var "t" (.int 0))
    (.cons (.for3 (.var "k" (.int 0)) (.infix .lt (.id "k") (.int 3)) (.postfix "k" true)
      (.block (.cons (.assign "t" .set (.infix .add (.id "t") (.infix .div (.int 10) (.infix .sub (.int 2) (.id "k"))))) .nilL)))
    .nilL))

/-- `n := 0; i := 0; for { i++; if i > 6 { break }; if i % 2 == 0 { continue }; n += i }; n`
    (1 + 3 + 5 = 9) -/
def exCtl : N :=
  .prog (.cons (.var "n" (.int 0)) (.cons (.var "i" (.int 0))
    (.cons (.forever (.block
      (.cons (.postfix "i" true)
      (.cons (.expr (.if_ (.infix .gt (.id "i") (.int 6)) (.block (.cons .break_ .nilL)) .none_))
      (.cons (.expr (.if_ (.infix .eq (.infix .mod (.id "i") (.int 2)) (.int 0)) (.block (.cons .continue_ .nilL)) .none_))
      (.cons (.assign "n" .add (.id "i")) .nilL))))))
    (.cons (.expr (.id "n")) .nilL))))

/-- a break under a pending operand (`x = 1 + if … { break }`) is outside the fragment -/
def exUnder : N :=
  .prog (.cons (.var "x" (.int 0))
    (.cons (.forever (.block (.cons (.assign "x" .set (.infix .add (.int 1)
      (.if_ (.bool true) (.block (.cons .break_ .nilL)) .none_))) .nilL))) .nilL))

/-- `k := 0; for i := 0; i < 4; i++ { k = k * 10 + switch i { case 0, 2: 1  default: 7  case 3: 5 } }; k`
    (1, 7, 1, 5 → 1715) -/
def exSwitch : N :=
  .prog (.cons (.var "k" (.int 0))
    (.cons (.for3 (.var "i" (.int 0)) (.infix .lt (.id "i") (.int 4)) (.postfix "i" true)
      (.block (.cons (.assign "k" .set (.infix .add (.infix .mul (.id "k") (.int 10))
        (.switch (.id "i")
          (.cons (.case_ (.cons (.int 0) (.cons (.int 2) .nilL)) (.block (.cons (.expr (.int 1)) .nilL)))
          (.cons (.default_ (.block (.cons (.expr (.int 7)) .nilL)))
          (.cons (.case_ (.cons (.int 3) .nilL) (.block (.cons (.expr (.int 5)) .nilL))) .nilL)))))) .nilL)))
    (.cons (.expr (.id "k")) .nilL)))

example : inFrag exLoop = true := by decide +kernel
example : inFrag exSwitch = true := by decide +kernel
example : (evalF 30 exSwitch).1 = .val (.int 1715) := by decide +kernel
example : (runF 600 (compF exSwitch)).1 = .done (.int 1715) := by decide +kernel
example : (runF 600 (compF exSwitch)).2 = (evalF 30 exSwitch).2 := by decide +kernel
example : inFrag exCtl = true := by decide +kernel
example : inFrag exUnder = false := by decide +kernel
example : (evalF 30 exCtl).1 = .val (.int 9) := by decide +kernel
example : (runF 400 (compF exCtl)).1 = .done (.int 9) := by decide +kernel
example : (runF 400 (compF exCtl)).2 = (evalF 30 exCtl).2 := by decide +kernel
example : inFrag exPanic = true := by decide +kernel
-- the looping program evaluates to 10 and its compiled code runs to 10 with the same store
example : (evalF 20 exLoop).1 = .val (.int 10) := by decide +kernel
example : (runF 200 (compF exLoop)).1 = .done (.int 10) := by decide +kernel
example : (runF 200 (compF exLoop)).2 = (evalF 20 exLoop).2 := by decide +kernel
example : ((evalF 20 exLoop).2.get "s", (evalF 20 exLoop).2.get "i") = (.int 10, .int 5) := by decide +kernel
-- the error outcome: same class, same store (t = 15 after two rounds)
example : (evalF 20 exPanic).1 = .err "panic" := by decide +kernel
example : (runF 200 (compF exPanic)).1 = .err "panic" := by decide +kernel
example : (runF 200 (compF exPanic)).2 = (evalF 20 exPanic).2 := by decide +kernel
example : (evalF 20 exPanic).2.get "t" = .int 15 := by decide +kernel
-- the hypotheses of `frag_compile_correct` are satisfiable and its conclusion is the concrete run
example : ∃ fuel', runF fuel' (compF exLoop) = (.done (.int 10), (evalF 20 exLoop).2) := by
  exact frag_compile_correct_toRun exLoop (by decide +kernel) 20 (.val (.int 10)) (evalF 20 exLoop).2 (by decide +kernel) (by decide +kernel)

end Risor.C01.Frag
