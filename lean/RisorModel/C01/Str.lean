import RisorModel.C01.Frag
/-
C01 — the PROVED FRAGMENT F7 of compiler correctness: STRINGS AND MAPS AS DATA (DESIGN.md C01;
fragment "F7" of the brief).

`Seq.lean`'s development (F1 expressions incl. string literals, `+` concatenation and the six
string comparisons / assignments / if / loops, F2 break / continue, F3 switch; top-level programs,
all variables global, a heap of objects with identity) with MAP objects on the heap instead of
lists:

  * values (`SVal`) are the scalars plus REFERENCES `ref a` to a map object (the address `a` is
    the object's identity) and the int iterator a range loop over an int keeps on the stack;
  * a map object is an association list with unique string keys (`mapSet` replaces or appends);
  * `ev` / `evalStr`   the reference semantics: map literals `{k1: e1, …, kn: en}` with string-literal
                       keys (entries evaluated in SOURCE ORDER; the object is built as
                       `vm.go`'s BuildMap builds it: the pairs are popped from the top of the
                       stack, so of two entries with the same key the EARLIER one is assigned
                       last and wins — the code as it is; see StrProps.lean), index read `m[k]`
                       (a missing key is the error class "index", a key that is not a string the
                       class "type"), item assignment `m[k] = e` and `m[k] op= e` on the heap
                       object (aliases see the write), membership `k in m` / `k not in m`
                       (`Map.Contains`: a key that is not a string is not contained), deep map
                       equality, map truthiness (not empty);
  * `comp` / `compStr` the functional compiler: key constant, value code per entry in source
                       order, `BuildMap n`; `BinarySubscr`, `StoreSubscr`; `x; c; Swap 1;
                       ContainsOp 0` (+ `UnaryNot` for `not in`);
  * `step` / `runStr`  the restriction of `VM.lean`'s `step` to these opcodes on the SAME state
                       type (the heap relation of the simulation is the identity).

`StrProps.lean` proves the simulation for every node and `str_compile_correct` for whole
programs.  The links `evalStr = Sem`, `compStr = Compile.lean = compiler.go`,
`runStr = VM.lean = vm.go` are checked by correspondence on every run (`harness/c01str.go`).
Core Lean only.
-/
namespace Risor.C01.Str
open Risor.C01
open Risor.C01.Frag (isNilL leaves isBlock isElse isL isInit isPost opOK postName isDefault countDefault
  dfltBody assignK nodup preLen)

/-! ### values, states, outcomes -/

inductive SVal where
  | nil
  | bool (b : Bool)
  | int (i : Int)
  | str (s : String)
  | ref (a : Nat)                     -- a map object: its address is its identity
  | iterI (n : Int) (pos : Nat)       -- `*object.IntIter` over `n`
  deriving Repr, DecidableEq, Inhabited

/-- a map object: string keys (unique) with their values -/
abbrev MapObj := List (String × SVal)

/-- the heap: map objects by address -/
abbrev Heap := List MapObj

/-- `m.items[k]` -/
def mapGet : MapObj → String → Option SVal
  | [], _ => none
  | (k', v) :: r, k => if k == k' then some v else mapGet r k

/-- `m.items[k] = v`: replace the entry of `k`, or add one -/
def mapSet : MapObj → String → SVal → MapObj
  | [], k, v => [(k, v)]
  | (k', v') :: r, k, v => if k == k' then (k', v) :: r else (k', v') :: mapSet r k v

/-- the flat list `k1, v1, …, kn, vn` (the operands of `BuildMap`, deepest first) as pairs; `none`
    when a key is not a string (`k.(*object.String)` panics) -/
def pairsOf : List SVal → Option (List (String × SVal))
  | .str k :: v :: rest => (pairsOf rest).map ((k, v) :: ·)
  | [] => some []
  | _ => none

/-- `BuildMap` as `vm.go` runs it: the pairs are popped from the TOP of the stack, i.e. the LAST
    entry is assigned first and the FIRST entry last: of two entries with one key the earlier wins -/
def buildMapObj (ps : List (String × SVal)) : MapObj := ps.foldr (fun kv acc => mapSet acc kv.1 kv.2) []

/-- global variables by name (the most recent binding wins; an unbound name reads `nil`) and the
    heap -/
structure St where
  g : List (String × SVal)
  h : Heap
  deriving Repr, DecidableEq, Inhabited

def getG : List (String × SVal) → String → SVal
  | [], _ => .nil
  | (y, v) :: r, x => if x == y then v else getG r x

def St.get (σ : St) (x : String) : SVal := getG σ.g x

def St.set (σ : St) (x : String) (v : SVal) : St := { σ with g := (x, v) :: σ.g }

/-- the entries of the map object at `a` -/
def St.items (σ : St) (a : Nat) : MapObj := σ.h.getD a []

/-- a new map object: the next free address -/
def St.alloc (σ : St) (l : MapObj) : Nat × St := (σ.h.length, { σ with h := σ.h ++ [l] })

/-- replace the items of the object at `a` -/
def St.write (σ : St) (a : Nat) (l : MapObj) : St := { σ with h := σ.h.set a l }

def St.empty : St := ⟨[], []⟩

/-- `IsTruthy`: a map is truthy when it is not empty -/
def SVal.truthy (σ : St) : SVal → Bool
  | .nil => false
  | .bool b => b
  | .int i => i != 0
  | .str s => s != ""
  | .ref a => !(σ.items a).isEmpty
  | .iterI _ _ => true

/-- `object.Equals`: scalars by value, maps by size and key by key (`Map.Equals`); the fuel bounds the
    nesting depth followed (below it: same object), as `Sem.valEq` / `VM.vEq` -/
def eqV (h : Heap) : Nat → SVal → SVal → Bool
  | _, .nil, .nil => true
  | _, .bool a, .bool b => a == b
  | _, .int a, .int b => a == b
  | _, .str a, .str b => a == b
  | 0, .ref a, .ref b => a == b
  | f + 1, .ref a, .ref b =>
    let la := h.getD a []
    let lb := h.getD b []
    la.length == lb.length && la.all (fun kv => match mapGet lb kv.1 with | some y => eqV h f kv.2 y | none => false)
  | _, .iterI a p, .iterI b q => a == b && p == q
  | _, _, _ => false

inductive Out where
  | val (v : SVal)        -- an expression / expression statement / statement list produced a value
  | unit                  -- a non-expression statement completed
  | brk | cont            -- a `break` / `continue` on its way to the enclosing loop
  | err (cls : String)    -- error class ("type", "index", "panic" = recovered Go panic)
  | oof                   -- out of fuel
  deriving Repr, DecidableEq, Inhabited

/-! ### operators: the Spec side (shape of `Sem.binop`) and the VM side (shape of `VM.vBinary`,
    `VM.vCompare`).  Arithmetic and ordered comparison of two MAPS are outside the fragment: class
    "unsupported" on both sides. -/

def binopF (σ : St) (op : BinOp) (a b : SVal) : Except String SVal :=
  match op with
  | .eq => .ok (.bool (eqV σ.h 8 a b))
  | .ne => .ok (.bool (!(eqV σ.h 8 a b)))
  | .and => .ok (if a.truthy σ then b else a)
  | .or => .ok (if a.truthy σ then a else b)
  | _ =>
    match a, b with
    | .int x, .int y =>
      match op with
      | .add => .ok (.int (wrap64 (x + y)))
      | .sub => .ok (.int (wrap64 (x - y)))
      | .mul => .ok (.int (wrap64 (x * y)))
      | .div => if y == 0 then .error "panic" else .ok (.int (wrap64 (Int.tdiv x y)))
      | .mod => if y == 0 then .error "panic" else .ok (.int (wrap64 (Int.tmod x y)))
      | .lt => .ok (.bool (x < y))
      | .le => .ok (.bool (x ≤ y))
      | .gt => .ok (.bool (x > y))
      | .ge => .ok (.bool (x ≥ y))
      | _ => .error "unsupported"
    | .str x, .str y =>
      match op with
      | .add => .ok (.str (x ++ y))
      | .lt => .ok (.bool (x < y))
      | .le => .ok (.bool (x ≤ y))
      | .gt => .ok (.bool (x > y))
      | .ge => .ok (.bool (x ≥ y))
      | _ => .error "type"
    | .bool x, .bool y =>
      match op with
      | .lt => .ok (.bool (!x && y))
      | .le => .ok (.bool (!x || y))
      | .gt => .ok (.bool (x && !y))
      | .ge => .ok (.bool (x || !y))
      | _ => .error "type"
    | .nil, .nil =>
      match op with
      | .lt | .gt => .ok (.bool false)
      | .le | .ge => .ok (.bool true)
      | _ => .error "type"
    | .ref _, .ref _ => .error "unsupported"
    | _, _ => .error "type"

def applyF (σ : St) (op : AssignOp) (cur v : SVal) : Except String SVal :=
  match op with
  | .set => .ok v
  | .add => binopF σ .add cur v
  | .sub => binopF σ .sub cur v
  | .mul => binopF σ .mul cur v
  | .div => binopF σ .div cur v

def vBinaryF (σ : St) (k : Nat) (a b : SVal) : Except String SVal :=
  if k == 6 then .ok (if a.truthy σ then b else a)
  else if k == 7 then .ok (if a.truthy σ then a else b)
  else
    match a, b with
    | .int x, .int y =>
      if k == 1 then .ok (.int (wrap64 (x + y)))
      else if k == 2 then .ok (.int (wrap64 (x - y)))
      else if k == 3 then .ok (.int (wrap64 (x * y)))
      else if k == 4 then (if y == 0 then .error "panic" else .ok (.int (wrap64 (Int.tdiv x y))))
      else if k == 5 then (if y == 0 then .error "panic" else .ok (.int (wrap64 (Int.tmod x y))))
      else .error "unsupported"
    | .str x, .str y => if k == 1 then .ok (.str (x ++ y)) else .error "type"
    | .ref _, .ref _ => .error "unsupported"
    | _, _ => .error "type"

def vCompareF (σ : St) (k : Nat) (a b : SVal) : Except String SVal :=
  if k == 3 then .ok (.bool (eqV σ.h 8 a b))
  else if k == 4 then .ok (.bool (!(eqV σ.h 8 a b)))
  else
    match a, b with
    | .int x, .int y =>
      .ok (.bool (if k == 1 then x < y else if k == 2 then x ≤ y else if k == 5 then x > y else x ≥ y))
    | .str x, .str y =>
      .ok (.bool (if k == 1 then x < y else if k == 2 then x ≤ y else if k == 5 then x > y else x ≥ y))
    | .bool x, .bool y =>
      .ok (.bool (if k == 1 then !x && y else if k == 2 then !x || y else if k == 5 then x && !y else x || !y))
    | .nil, .nil => .ok (.bool (if k == 1 then false else if k == 2 then true else if k == 5 then false else true))
    | .ref _, .ref _ => .error "unsupported"
    | _, _ => .error "type"

/-! ### containers: `Container.GetItem` / `SetItem` of `*object.List`, the iterators -/

/-- `obj[idx]` (`BinarySubscr`): `Map.GetItem`; a missing key is a raised error (class "index"
    in the harness's classification of "key error"), a key that is not a string the class "type";
    an object that is not a container is the class "type"; strings as containers are outside -/
def getItemS (σ : St) (obj idx : SVal) : Except String SVal :=
  match obj, idx with
  | .ref a, .str k =>
    match mapGet (σ.items a) k with
    | some v => .ok v
    | none => .error "index"
  | .ref _, _ => .error "type"
  | .str _, _ => .error "unsupported"
  | _, _ => .error "type"

/-- `obj[idx] = nv` (`StoreSubscr`): the object at the address is updated in place -/
def setItemS (σ : St) (obj idx nv : SVal) : Except String St :=
  match obj, idx with
  | .ref a, .str k => .ok (σ.write a (mapSet (σ.items a) k nv))
  | .ref _, _ => .error "type"
  | .str _, _ => .error "unsupported"
  | _, _ => .error "type"

/-- `ContainsOp`: `Map.Contains` (a key that is not a string is not contained); an object that is
    not a container is the class "type"; strings as containers are outside the fragment -/
def containsS (σ : St) (c x : SVal) : Except String SVal :=
  match c, x with
  | .ref a, .str k => .ok (.bool (mapGet (σ.items a) k).isSome)
  | .ref _, _ => .ok (.bool false)
  | .str _, _ => .error "unsupported"
  | _, _ => .error "type"

/-- `GetIter`: an int is `Iterable`, an iterator is itself; strings and maps (iterable in risor)
    are outside the fragment; anything else is the class "type" -/
def getIterS (c : SVal) : Except String SVal :=
  match c with
  | .int n => .ok (.iterI n 0)
  | .iterI n p => .ok (.iterI n p)
  | .ref _ => .error "unsupported"
  | .str _ => .error "unsupported"
  | _ => .error "type"

/-- `Iterator.Next` + `Entry`: the advanced iterator, the key and the value; `none` = exhausted.
    The only iterator of the fragment is the one over an int (`getIterS`) -/
def iterNext (_σ : St) : SVal → Option (SVal × SVal × SVal)
  | .iterI n pos =>
    if (pos : Int) < (if n < 0 then -n else n) then
      some (.iterI n (pos + 1), .int pos, .int (if n < 0 then -(pos : Int) else pos))
    else none
  | _ => none

def isIter : SVal → Bool
  | .iterI _ _ => true
  | _ => false

/-- what `ForIter d m` pushes above the iterator: `m` = number of loop names (1: key; 2: value,
    then key on top), 3 = `for v in c` (the value) -/
def pushKV (m : Nat) (key value : SVal) : Option (List SVal) :=
  if m == 0 then some []
  else if m == 1 then some [key]
  else if m == 2 then some [key, value]
  else if m == 3 then some [value]
  else none

/-- the `StoreGlobal`s after `ForIter`: one per name, popping the top -/
def bindAll (names : List String) (vals : List SVal) (σ : St) : St :=
  match names, vals with
  | x :: xs, v :: vs => bindAll xs vs (σ.set x v)
  | _, _ => σ

/-! ### shallow syntactic classes (head constructor only) -/

/-- statements that push no value -/
def isUnitNode : N → Bool
  | .var _ _ | .assign _ _ _ | .postfix _ _ | .forcond _ _ | .forever _ | .for3 _ _ _ _
  | .break_ | .continue_ | .setitem _ _ _ _ | .forrange _ _ _ _ | .forin _ _ _ => true
  | _ => false

def isE : N → Bool
  | .nilLit | .int _ | .bool _ | .str _ | .id _ | .infix _ _ _ | .neg _ | .not _ | .tern _ _ _ | .if_ _ _ _
  | .switch _ _ | .map _ | .index _ _ | .in_ _ _ | .notin _ _ => true
  | _ => false

def isS (n : N) : Bool := isUnitNode n || leaves n

/-- the entries of a map literal: key, value, key, value, …; every key a string literal -/
def keysOK : N → Bool
  | .cons (.str _) (.cons _ rest) => keysOK rest
  | .nilL => true
  | _ => false

/-- a `break`/`continue` inside `n` can leave `n` (loops catch their own) -/
def escapes : N → Bool
  | .break_ | .continue_ => true
  | .infix _ l r | .index l r | .in_ l r | .notin l r => escapes l || escapes r
  | .neg e | .not e | .expr e | .block e | .prog e | .var _ e | .assign _ _ e | .map e => escapes e
  | .tern c a b | .if_ c a b | .setitem _ c a b => escapes c || escapes a || escapes b
  | .cons h t => escapes h || escapes t
  | _ => false

/-- the loop names of a range loop in the order of their `StoreGlobal`s, and `ForIter`'s second
    operand -/
def rngNames (k v : String) : List String := (if k == "" then [] else [k]) ++ (if v == "" then [] else [v])

/-! ### the fragment (shape) -/

mutual
/-- F1 + F2 + F3 of `Frag.lean` (same conditions), plus F7: map literals, index reads, item
    assignment (plain and compound), membership tests, range loops over an int.  Operands (items, container and index
    expressions, right-hand sides, the ranged-over expression) are expressions no break/continue
    escapes; a `break` / `continue` in the body of a range loop is in statement position as in F2
    (the iterator is the only pending operand: `break` pops it). -/
def wf : N → Bool
  | .nilLit | .none_ | .int _ | .bool _ | .str _ | .id _ | .nilL | .postfix _ _ | .break_ | .continue_ => true
  | .infix op l r => opOK op && isE l && isE r && !escapes l && !escapes r && wf l && wf r
  | .neg e | .not e => isE e && !escapes e && wf e
  | .tern c a b => isE c && isE a && isE b && !escapes c && !escapes a && !escapes b && wf c && wf a && wf b
  | .if_ c t e => isE c && isBlock t && isElse e && !escapes c && wf c && wf t && wf e
  | .block s => isL s && wf s
  | .prog s => isL s && !escapes s && wf s
  | .cons h t => isS h && isL t && wf h && wf t
  | .var _ e => isE e && !escapes e && wf e
  | .assign _ _ e => isE e && !escapes e && wf e
  | .expr e => isE e && wf e
  | .forcond c b => isE c && isBlock b && !escapes c && wf c && wf b
  | .forever b => isBlock b && wf b
  | .for3 i c p b =>
    isInit i && isE c && isPost p && isBlock b && !escapes i && !escapes c && !escapes p && wf i && wf c && wf p && wf b
  | .switch subj cases => isE subj && !escapes subj && wf subj && wfCases cases && decide (countDefault cases ≤ 1)
  | .map entries => wfVals entries && keysOK entries
  | .in_ x c | .notin x c => isE x && isE c && !escapes x && !escapes c && wf x && wf c
  | .index e i => isE e && isE i && !escapes e && !escapes i && wf e && wf i
  | .setitem _ o i v =>
    isE o && isE i && isE v && !escapes o && !escapes i && !escapes v && wf o && wf i && wf v
  | .forrange _ _ c b => isE c && isBlock b && !escapes c && wf c && wf b
  | .forin _ c b => isE c && isBlock b && !escapes c && wf c && wf b
  | _ => false
/-- case values / list items: expressions no break/continue escapes -/
def wfVals : N → Bool
  | .cons v vs => isE v && !escapes v && wf v && wfVals vs
  | .nilL => true
  | _ => false
def wfCase : N → Bool
  | .case_ vals body => wfVals vals && isBlock body && !escapes body && wf body
  | .default_ body => isBlock body && !escapes body && wf body
  | _ => false
def wfCases : N → Bool
  | .cons h t => wfCase h && wfCases t
  | .nilL => true
  | _ => false
end

/-! ### scoping (for the LINKS to `Sem.lean` / `Compile.lean`; the theorems do not need it) -/

def declOf : N → List String
  | .var x _ => [x]
  | _ => []

mutual
def scopeOK : List String → N → Bool
  | env, .id x => env.contains x
  | env, .infix _ l r | env, .index l r | env, .in_ l r | env, .notin l r => scopeOK env l && scopeOK env r
  | env, .neg e | env, .not e | env, .expr e | env, .block e | env, .prog e | env, .var _ e => scopeOK env e
  | env, .tern c a b | env, .if_ c a b | env, .setitem _ c a b => scopeOK env c && scopeOK env a && scopeOK env b
  | env, .assign x _ e => env.contains x && scopeOK env e
  | env, .postfix x _ => env.contains x
  | env, .cons h t => scopeOK env h && scopeOK (declOf h ++ env) t
  | env, .forcond c b => scopeOK env c && scopeOK env b
  | env, .forever b => scopeOK env b
  | env, .for3 i c p b =>
    scopeOK env i && scopeOK (declOf i ++ env) c && scopeOK (declOf i ++ env) p && scopeOK (declOf i ++ env) b
  | env, .switch subj cases => scopeOK env subj && scopeCases env cases
  | env, .map items => scopeVals env items
  | env, .forrange k v c b => scopeOK env c && scopeOK (rngNames k v ++ env) b
  | env, .forin v c b => scopeOK env c && scopeOK (v :: env) b
  | _, _ => true
def scopeVals : List String → N → Bool
  | env, .cons v vs => scopeOK env v && scopeVals env vs
  | _, _ => true
def scopeCase : List String → N → Bool
  | env, .case_ vals body => scopeVals env vals && scopeOK env body
  | env, .default_ body => scopeOK env body
  | _, _ => true
def scopeCases : List String → N → Bool
  | env, .cons h t => scopeCase env h && scopeCases env t
  | _, _ => true
end

mutual
/-- every declared name, in compile order (`InsertVariable` order: global indices) -/
def decls : N → List String
  | .infix _ l r | .index l r | .in_ l r | .notin l r => decls l ++ decls r
  | .neg e | .not e | .expr e | .block e | .prog e | .assign _ _ e | .forever e => decls e
  | .tern c a b | .if_ c a b => decls c ++ decls a ++ decls b
  | .var x e => decls e ++ [x]
  | .cons h t => decls h ++ decls t
  | .forcond c b => decls c ++ decls b
  | .for3 i c p b => decls i ++ decls c ++ decls b ++ decls p
  | .switch subj cases => decls subj ++ declsCmp cases ++ declsBodies cases ++ declsDflt cases
  | .map items => declsVals items
  -- the code of the container and index expressions is emitted twice by a compound assignment
  | .setitem op o i v => if op = .set then decls v ++ decls o ++ decls i else decls o ++ decls i ++ decls v ++ decls o ++ decls i
  | .forrange k v c b => decls c ++ rngNames k v ++ decls b
  | .forin v c b => decls c ++ [v] ++ decls b
  | _ => []
def declsVals : N → List String
  | .cons v vs => decls v ++ declsVals vs
  | _ => []
def declsCmpCase : N → List String
  | .case_ vals _ => declsVals vals
  | _ => []
def declsCmp : N → List String
  | .cons h t => declsCmpCase h ++ declsCmp t
  | _ => []
def declsBody : N → List String
  | .case_ _ body => decls body
  | _ => []
def declsBodies : N → List String
  | .cons h t => declsBody h ++ declsBodies t
  | _ => []
def declsDfltBody : N → List String
  | .default_ body => decls body
  | _ => []
def declsDflt : N → List String
  | .cons h t => if isDefault h then declsDfltBody h else declsDflt t
  | _ => []
end

/-- fresh names only, uses after declarations -/
def wellScoped (p : N) : Bool := scopeOK [] p && nodup (decls p)

/-- the fragment: a program (`prog`) of the shape `wf`, well scoped -/
def inStr (p : N) : Bool :=
  match p with
  | .prog _ => wf p && wellScoped p
  | _ => false

/-! ### reference semantics -/

def seqV (r : Out × St) (k : SVal → St → Out × St) : Out × St :=
  match r with
  | (.val v, σ) => k v σ
  | other => other

def liftE (x : Except String SVal) (σ : St) : Out × St :=
  match x with
  | .ok v => (.val v, σ)
  | .error c => (.err c, σ)

/-- `Sem.loop3` (as `Frag.loopF`) -/
def loopF (cond body post : St → Out × St) : Nat → St → Out × St
  | 0, σ => (.oof, σ)
  | k + 1, σ =>
    seqV (cond σ) fun v σ1 =>
      if v.truthy σ1 then
        match body σ1 with
        | (.brk, σ2) => (.unit, σ2)
        | (.val _, σ2) =>
          (match post σ2 with
          | (.unit, σ3) => loopF cond body post k σ3
          | (.val _, σ3) => loopF cond body post k σ3
          | other => other)
        | (.cont, σ2) =>
          (match post σ2 with
          | (.unit, σ3) => loopF cond body post k σ3
          | (.val _, σ3) => loopF cond body post k σ3
          | other => other)
        | other => other
      else (.unit, σ1)

/-- `Sem.loopIter`: a range loop from the iterator `it`: the next entry is taken from the state AS
    IT IS NOW, the loop names are bound, the body runs; `break` ends the loop, `continue` goes on
    with the next entry; `k` bounds the rounds -/
def rangeF (names : List String) (m : Nat) (body : St → Out × St) : Nat → SVal → St → Out × St
  | 0, _, σ => (.oof, σ)
  | k + 1, it, σ =>
    match iterNext σ it with
    | none => (.unit, σ)
    | some (it', key, value) =>
      match pushKV m key value with
      | none => (.err "eval", σ)
      | some vals =>
        match body (bindAll names vals σ) with
        | (.brk, σ2) => (.unit, σ2)
        | (.val _, σ2) => rangeF names m body k it' σ2
        | (.cont, σ2) => rangeF names m body k it' σ2
        | other => other

/-- the entries of a map literal (key, value, key, value, …) left to right (`Sem.evalArgs`) -/
def evItems (rec : N → St → Out × St) : N → St → Except Out (List SVal) × St
  | .cons e es, σ =>
    match rec e σ with
    | (.val v, σ1) =>
      match evItems rec es σ1 with
      | (.ok vs, σ2) => (.ok (v :: vs), σ2)
      | other => other
    | (o, σ1) => (.error o, σ1)
  | _, σ => (.ok [], σ)

/-- `Sem.matchVals` -/
def matchValsF (rec : N → St → Out × St) (sv : SVal) : N → St → Except Out Bool × St
  | .cons v vs, σ =>
    match rec v σ with
    | (.val x, σ1) => if eqV σ1.h 8 sv x then (.ok true, σ1) else matchValsF rec sv vs σ1
    | (o, σ1) => (.error o, σ1)
  | _, σ => (.ok false, σ)

def runDflt (rec : N → St → Out × St) (dflt : Option N) (σ : St) : Out × St :=
  match dflt with
  | some b => rec b σ
  | none => (.val .nil, σ)

/-- `Sem.evalCases` -/
def evCasesF (rec : N → St → Out × St) (sv : SVal) (dflt : Option N) : N → St → Out × St
  | .cons h rest, σ =>
    match h with
    | .case_ vals body =>
      match matchValsF rec sv vals σ with
      | (.ok true, σ1) => rec body σ1
      | (.ok false, σ1) => evCasesF rec sv dflt rest σ1
      | (.error o, σ1) => (o, σ1)
    | _ => evCasesF rec sv dflt rest σ
  | _, σ => runDflt rec dflt σ

/-- a range loop over the value `cv` -/
def rangeOver (names : List String) (m : Nat) (body : St → Out × St) (fuel : Nat) (cv : SVal) (σ : St) : Out × St :=
  match getIterS cv with
  | .ok it => rangeF names m body fuel it σ
  | .error c => (.err c, σ)

/-- one node, sub-nodes through `rec` (open recursion: `ev` ties the knot on fuel) -/
def evNode (fuel : Nat) (rec : N → St → Out × St) (n : N) (σ : St) : Out × St :=
  match n with
  | .nilLit => (.val .nil, σ)
  | .none_ => (.val .nil, σ)
  | .int i => (.val (.int i), σ)
  | .bool b => (.val (.bool b), σ)
  | .str s => (.val (.str s), σ)
  | .id x => (.val (σ.get x), σ)
  | .infix op l r =>
    seqV (rec l σ) fun a σ1 =>
      if op = .and then
        -- `BinaryOp And` / `Or` test `a` again after `r` ran, in the state `σ2` that `r` left.  An
        -- `if` / `switch` expression inside `r` can write `m[k] = e` into an empty map `a`, so for
        -- `||` the second test can differ from the first; nothing removes an entry, so for `&&` it agrees
        (if a.truthy σ1 then seqV (rec r σ1) (fun b σ2 => (.val (if a.truthy σ2 then b else a), σ2)) else (.val a, σ1))
      else if op = .or then
        (if a.truthy σ1 then (.val a, σ1) else seqV (rec r σ1) (fun b σ2 => (.val (if a.truthy σ2 then a else b), σ2)))
      else seqV (rec r σ1) fun b σ2 => liftE (binopF σ2 op a b) σ2
  | .neg e =>
    seqV (rec e σ) fun v σ1 =>
      match v with
      | .int i => (.val (.int (wrap64 (-i))), σ1)
      | _ => (.err "type", σ1)
  | .not e => seqV (rec e σ) fun v σ1 => (.val (.bool (!v.truthy σ1)), σ1)
  | .tern c a b => seqV (rec c σ) fun v σ1 => if v.truthy σ1 then rec a σ1 else rec b σ1
  | .if_ c t e => seqV (rec c σ) fun v σ1 => if v.truthy σ1 then rec t σ1 else rec e σ1
  | .block s => rec s σ
  | .prog s => rec s σ
  | .expr e => rec e σ
  | .nilL => (.val .nil, σ)
  | .cons h t =>
    if isNilL t then
      match rec h σ with
      | (.unit, σ1) => (.val .nil, σ1)
      | other => other
    else
      match rec h σ with
      | (.val _, σ1) => rec t σ1
      | (.unit, σ1) => rec t σ1
      | other => other
  | .var x e => seqV (rec e σ) fun v σ1 => (.unit, σ1.set x v)
  | .assign x op e =>
    seqV (rec e σ) fun v σ1 =>
      match applyF σ1 op (σ.get x) v with
      | .ok r => (.unit, σ1.set x r)
      | .error c => (.err c, σ1)
  | .postfix x inc =>
    match binopF σ .add (σ.get x) (.int (if inc then 1 else -1)) with
    | .ok r => (.unit, σ.set x r)
    | .error c => (.err c, σ)
  | .forcond c b => loopF (rec c) (rec b) (fun σ => (.unit, σ)) fuel σ
  | .forever b => loopF (fun σ => (.val (.bool true), σ)) (rec b) (fun σ => (.unit, σ)) fuel σ
  | .for3 i c p b =>
    match rec i σ with
    | (.unit, σ1) => loopF (rec c) (rec b) (rec p) fuel σ1
    | other => other
  | .break_ => (.brk, σ)
  | .continue_ => (.cont, σ)
  | .switch subj cases => seqV (rec subj σ) fun sv σ1 => evCasesF rec sv (dfltBody cases) cases σ1
  -- F7
  | .map entries =>
    -- key, value, key, value, … left to right; then the object as BuildMap makes it
    match evItems rec entries σ with
    | (.ok vs, σ1) =>
      (match pairsOf vs with
      | some ps => (.val (.ref (σ1.alloc (buildMapObj ps)).1), (σ1.alloc (buildMapObj ps)).2)
      | none => (.err "panic", σ1))
    | (.error o, σ1) => (o, σ1)
  | .in_ x c =>
    seqV (rec x σ) fun xv σ1 => seqV (rec c σ1) fun cv σ2 => liftE (containsS σ2 cv xv) σ2
  | .notin x c =>
    seqV (rec x σ) fun xv σ1 => seqV (rec c σ1) fun cv σ2 =>
      match containsS σ2 cv xv with
      | .ok b => (.val (.bool (!b.truthy σ2)), σ2)
      | .error e => (.err e, σ2)
  | .index e i =>
    seqV (rec e σ) fun ov σ1 => seqV (rec i σ1) fun iv σ2 => liftE (getItemS σ2 ov iv) σ2
  | .setitem op o i v =>
    if op = .set then
      -- the right-hand side, then the container, then the index, then the store
      seqV (rec v σ) fun rhs σ1 => seqV (rec o σ1) fun ov σ2 => seqV (rec i σ2) fun iv σ3 =>
        match setItemS σ3 ov iv rhs with
        | .ok σ4 => (.unit, σ4)
        | .error c => (.err c, σ3)
    else
      -- `a[i] op= v`: container, index, the current item, the right-hand side, the operation,
      -- then container and index AGAIN (compileSetItem compiles them twice), then the store
      seqV (rec o σ) fun ov σ1 => seqV (rec i σ1) fun iv σ2 =>
        match getItemS σ2 ov iv with
        | .error c => (.err c, σ2)
        | .ok cur =>
          seqV (rec v σ2) fun rhs σ3 =>
            match applyF σ3 op cur rhs with
            | .error c => (.err c, σ3)
            | .ok nv =>
              seqV (rec o σ3) fun ov2 σ4 => seqV (rec i σ4) fun iv2 σ5 =>
                match setItemS σ5 ov2 iv2 nv with
                | .ok σ6 => (.unit, σ6)
                | .error c => (.err c, σ5)
  | .forrange k v c b =>
    seqV (rec c σ) fun cv σ1 => rangeOver (rngNames k v) (rngNames k v).length (rec b) fuel cv σ1
  | .forin v c b =>
    seqV (rec c σ) fun cv σ1 => rangeOver [v] 3 (rec b) fuel cv σ1
  | _ => (.err "unsupported", σ)

def ev : Nat → N → St → Out × St
  | 0, _, σ => (.oof, σ)
  | f + 1, n, σ => evNode f (ev f) n σ

/-- a whole program from the empty state -/
def evalStr (fuel : Nat) (p : N) : Out × St := ev fuel p St.empty

/-! ### target: slots, instructions, the functional compiler -/

inductive FIns where
  | nop | nil_ | true_ | false_ | popTop | unaryNeg | unaryNot
  | constInt (i : Int) | constStr (s : String)
  | loadG (x : String) | storeG (x : String)
  | binary (k : Nat) | compare (k : Nat) | copy (k : Nat) | swap (k : Nat)
  | jf (d : Nat) | jb (d : Nat) | pjf (d : Nat) | pjt (d : Nat)
  | buildMap (n : Nat) | binarySubscr | storeSubscr | getIter | containsOp
  | forIter (d : Nat) (m : Nat)                       -- two operand slots
  deriving Repr, DecidableEq, Inhabited

abbrev Code := List (Option FIns)

def one (i : FIns) : Code := [some i]
def two (i : FIns) : Code := [some i, none]
def three (i : FIns) : Code := [some i, none, none]

def opIns : BinOp → FIns
  | .add => .binary 1 | .sub => .binary 2 | .mul => .binary 3 | .div => .binary 4 | .mod => .binary 5
  | .and => .binary 6 | .or => .binary 7
  | .pow => .binary 9 | .lshift => .binary 10 | .rshift => .binary 11 | .bitand => .binary 12
  | .lt => .compare 1 | .le => .compare 2 | .eq => .compare 3 | .ne => .compare 4
  | .gt => .compare 5 | .ge => .compare 6

def pre (h : N) : Code :=
  match postName h with
  | some x => two (.loadG x) ++ one .popTop
  | none => []

def countItems : N → Nat
  | .cons _ t => countItems t + 1
  | _ => 0

/-- the `StoreGlobal`s of the loop names -/
def stores : List String → Code
  | [] => []
  | x :: xs => two (.storeG x) ++ stores xs

mutual
/-- number of slots of a node's code; `rng` = the innermost enclosing loop is a range loop (its
    `break` is one slot longer) -/
def size (rng : Bool) : N → Nat
  | .nilLit | .none_ | .nilL | .bool _ => 1
  | .int _ | .str _ | .id _ | .continue_ => 2
  | .break_ => if rng then 3 else 2
  | .infix op l r => if op = .and ∨ op = .or then size rng l + size rng r + 7 else size rng l + size rng r + 2
  | .neg e | .not e => size rng e + 1
  | .tern c a b | .if_ c a b => size rng c + size rng a + size rng b + 4
  | .block s | .prog s | .expr s => size rng s
  | .cons h t =>
    preLen h + size rng h +
      (if isNilL t then (if leaves h then 0 else 1) else (if leaves h then 1 else 0) + size rng t)
  | .var _ e => size rng e + 2
  | .assign _ op e => if op = .set then size rng e + 2 else size rng e + 6
  | .postfix _ _ => 8
  | .forcond c b => size false c + size false b + 6
  | .forever b => size false b + 4
  | .for3 i c p b => size false i + size false c + size false b + (size false p + (if leaves p then 1 else 0)) + 5
  | .switch subj cases => size rng subj + cmpLen rng cases + 2 + bodiesLen rng cases + defLen rng cases + 3
  | .map items => itemsLen rng items + 2
  | .in_ x c => size rng x + size rng c + 4
  | .notin x c => size rng x + size rng c + 5
  | .index e i => size rng e + size rng i + 1
  | .setitem op o i v =>
    if op = .set then size rng v + size rng o + size rng i + 1
    else size rng o + size rng i + 1 + size rng v + 2 + size rng o + size rng i + 1
  | .forrange k v c b => size rng c + 1 + 3 + 2 * (rngNames k v).length + size true b + 3
  | .forin _ c b => size rng c + 1 + 3 + 2 + size true b + 3
  | _ => 0
def itemsLen (rng : Bool) : N → Nat
  | .cons v vs => size rng v + itemsLen rng vs
  | _ => 0
def valsLen (rng : Bool) : N → Nat
  | .cons v vs => size rng v + 6 + valsLen rng vs
  | _ => 0
def caseCmpLen (rng : Bool) : N → Nat
  | .case_ vals _ => valsLen rng vals
  | _ => 0
def cmpLen (rng : Bool) : N → Nat
  | .cons h t => caseCmpLen rng h + cmpLen rng t
  | _ => 0
def caseBodyLen (rng : Bool) : N → Nat
  | .case_ _ body => size rng body + 2
  | _ => 0
def bodiesLen (rng : Bool) : N → Nat
  | .cons h t => caseBodyLen rng h + bodiesLen rng t
  | _ => 0
def dfltBodyLen (rng : Bool) : N → Nat
  | .default_ body => size rng body
  | _ => 0
def defLen (rng : Bool) : N → Nat
  | .cons h t => if isDefault h then dfltBodyLen rng h else defLen rng t
  | _ => 1
end

mutual
/-- `comp kb kc rng n`: the code of `n` when the enclosing loop's `break` target lies `kb` slots
    and its `continue` target `kc` slots after the END of `n`'s code, and that loop is a range
    loop iff `rng` (closed form of the compiler's placeholder patching, as `Frag.comp`). -/
def comp (kb kc : Nat) (rng : Bool) : N → Code
  | .nilLit => one .nil_
  | .none_ => one .nil_
  | .int i => two (.constInt i)
  | .bool b => one (if b then .true_ else .false_)
  | .str s => two (.constStr s)
  | .id x => two (.loadG x)
  | .infix op l r =>
    if op = .and then
      comp 0 0 rng l ++ two (.copy 0) ++ two (.pjf (size rng r + 5)) ++ comp 0 0 rng r ++ two (.binary 6) ++ one .nop
    else if op = .or then
      comp 0 0 rng l ++ two (.copy 0) ++ two (.pjt (size rng r + 5)) ++ comp 0 0 rng r ++ two (.binary 7) ++ one .nop
    else comp 0 0 rng l ++ comp 0 0 rng r ++ two (opIns op)
  | .neg e => comp 0 0 rng e ++ one .unaryNeg
  | .not e => comp 0 0 rng e ++ one .unaryNot
  | .tern c a b =>
    comp 0 0 rng c ++ two (.pjf (size rng a + 4)) ++ comp (kb + (size rng b + 2)) (kc + (size rng b + 2)) rng a
      ++ two (.jf (size rng b + 2)) ++ comp kb kc rng b
  | .if_ c t e =>
    comp 0 0 rng c ++ two (.pjf (size rng t + 4)) ++ comp (kb + (size rng e + 2)) (kc + (size rng e + 2)) rng t
      ++ two (.jf (size rng e + 2)) ++ comp kb kc rng e
  | .block s => comp kb kc rng s
  | .prog s => comp kb kc rng s
  | .expr e => comp kb kc rng e
  | .nilL => one .nil_
  | .cons h t =>
    pre h ++
      (if isNilL t then
        comp (kb + (if leaves h then 0 else 1)) (kc + (if leaves h then 0 else 1)) rng h
          ++ (if leaves h then [] else one .nil_)
       else
        comp (kb + ((if leaves h then 1 else 0) + size rng t)) (kc + ((if leaves h then 1 else 0) + size rng t)) rng h
          ++ ((if leaves h then one .popTop else []) ++ comp kb kc rng t))
  | .var x e => comp 0 0 rng e ++ two (.storeG x)
  | .assign x op e =>
    if op = .set then comp 0 0 rng e ++ two (.storeG x)
    else two (.loadG x) ++ comp 0 0 rng e ++ two (.binary (assignK op)) ++ two (.storeG x)
  | .postfix x inc =>
    two (.loadG x) ++ two (.constInt (if inc then 1 else -1)) ++ two (.binary 1) ++ two (.storeG x)
  -- `compileControl`: leaving a range loop drops its iterator first
  | .break_ => (if rng then one .popTop else []) ++ two (.jf (kb + 2))
  | .continue_ => two (.jf (kc + 2))
  | .forcond c b =>
    comp 0 0 false c ++ two (.pjf (size false b + 6)) ++ comp 3 1 false b ++ one .popTop
      ++ two (.jb (size false c + size false b + 3)) ++ one .nop
  | .forever b => comp 3 1 false b ++ one .popTop ++ two (.jb (size false b + 1)) ++ one .nop
  | .for3 i c p b =>
    comp 0 0 false i ++ comp 0 0 false c
      ++ two (.pjf (size false b + (size false p + (if leaves p then 1 else 0)) + 5))
      ++ comp ((size false p + (if leaves p then 1 else 0)) + 3) 1 false b ++ one .popTop
      ++ comp 0 0 false p ++ (if leaves p then one .popTop else [])
      ++ two (.jb (size false c + size false b + (size false p + (if leaves p then 1 else 0)) + 3))
  | .switch subj cases =>
    comp 0 0 rng subj ++ compCmp rng 0 cases ++ two (.jf (bodiesLen rng cases + 2)) ++ compBodies rng (defLen rng cases) cases
      ++ compDflt rng cases ++ two (.swap 1) ++ one .popTop
  -- F7
  | .map entries => compItems rng entries ++ two (.buildMap (countItems entries / 2))
  | .in_ x c => comp 0 0 rng x ++ comp 0 0 rng c ++ two (.swap 1) ++ two .containsOp
  | .notin x c => comp 0 0 rng x ++ comp 0 0 rng c ++ two (.swap 1) ++ two .containsOp ++ one .unaryNot
  | .index e i => comp 0 0 rng e ++ comp 0 0 rng i ++ one .binarySubscr
  | .setitem op o i v =>
    if op = .set then comp 0 0 rng v ++ comp 0 0 rng o ++ comp 0 0 rng i ++ one .storeSubscr
    else
      comp 0 0 rng o ++ comp 0 0 rng i ++ one .binarySubscr ++ comp 0 0 rng v ++ two (.binary (assignK op))
        ++ comp 0 0 rng o ++ comp 0 0 rng i ++ one .storeSubscr
  | .forrange k v c b =>
    -- container; GetIter; ForIter (exit: after the backward jump); the names; body; PopTop;
    -- JumpBackward to the ForIter.  break lands after the backward jump, continue on it.
    comp 0 0 rng c ++ one .getIter
      ++ three (.forIter (3 + 2 * (rngNames k v).length + size true b + 3) (rngNames k v).length)
      ++ stores (rngNames k v) ++ comp 3 1 true b ++ one .popTop
      ++ two (.jb (3 + 2 * (rngNames k v).length + size true b + 1))
  | .forin v c b =>
    comp 0 0 rng c ++ one .getIter
      ++ three (.forIter (3 + 2 + size true b + 3) 3)
      ++ stores [v] ++ comp 3 1 true b ++ one .popTop
      ++ two (.jb (3 + 2 + size true b + 1))
  | _ => []
/-- the code of a map literal's entries (key, value, key, value, …) in order -/
def compItems (rng : Bool) : N → Code
  | .cons v vs => comp 0 0 rng v ++ compItems rng vs
  | _ => []
def compVals (rng : Bool) (k : Nat) : N → Code
  | .cons v vs =>
    two (.copy 0) ++ comp 0 0 rng v ++ two (.compare 3) ++ two (.pjt (valsLen rng vs + k + 2)) ++ compVals rng k vs
  | _ => []
def compCmpCase (rng : Bool) (k : Nat) : N → Code
  | .case_ vals _ => compVals rng k vals
  | _ => []
def compCmp (rng : Bool) (before : Nat) : N → Code
  | .cons h t => compCmpCase rng (cmpLen rng t + 2 + before) h ++ compCmp rng (before + caseBodyLen rng h) t
  | _ => []
def compBody (rng : Bool) (a : Nat) : N → Code
  | .case_ _ body => comp 0 0 rng body ++ two (.jf (a + 2))
  | _ => []
def compBodies (rng : Bool) (d : Nat) : N → Code
  | .cons h t => compBody rng (bodiesLen rng t + d) h ++ compBodies rng d t
  | _ => []
def compDfltBody (rng : Bool) : N → Code
  | .default_ body => comp 0 0 rng body
  | _ => []
def compDflt (rng : Bool) : N → Code
  | .cons h t => if isDefault h then compDfltBody rng h else compDflt rng t
  | _ => one .nil_
end

/-- the main code object of a program -/
def compStr (p : N) : Code := comp 0 0 false p

/-! ### the VM restricted to these opcodes (shape of `VM.step`) -/

structure Cfg where
  pc : Nat
  stk : List SVal         -- top first
  σ : St
  deriving Repr

inductive Halt where
  | done (v : SVal)
  | err (cls : String)
  deriving Repr, DecidableEq

def execIns (i : FIns) (c : Cfg) : Except Halt Cfg :=
  match i, c.stk with
  | .nop, _ => .ok { c with pc := c.pc + 1 }
  | .nil_, s => .ok { c with pc := c.pc + 1, stk := .nil :: s }
  | .true_, s => .ok { c with pc := c.pc + 1, stk := .bool true :: s }
  | .false_, s => .ok { c with pc := c.pc + 1, stk := .bool false :: s }
  | .constInt k, s => .ok { c with pc := c.pc + 2, stk := .int k :: s }
  | .constStr k, s => .ok { c with pc := c.pc + 2, stk := .str k :: s }
  | .loadG x, s => .ok { c with pc := c.pc + 2, stk := c.σ.get x :: s }
  | .storeG x, v :: s => .ok { pc := c.pc + 2, stk := s, σ := c.σ.set x v }
  | .binary k, b :: a :: s =>
    match vBinaryF c.σ k a b with
    | .ok v => .ok { c with pc := c.pc + 2, stk := v :: s }
    | .error e => .error (.err e)
  | .compare k, b :: a :: s =>
    match vCompareF c.σ k a b with
    | .ok v => .ok { c with pc := c.pc + 2, stk := v :: s }
    | .error e => .error (.err e)
  | .unaryNeg, v :: s =>
    match v with
    | .int k => .ok { c with pc := c.pc + 1, stk := .int (wrap64 (-k)) :: s }
    | _ => .error (.err "type")
  | .unaryNot, v :: s => .ok { c with pc := c.pc + 1, stk := .bool (!v.truthy c.σ) :: s }
  | .popTop, _ :: s => .ok { c with pc := c.pc + 1, stk := s }
  | .copy k, s =>
    match s[k]? with
    | some v => .ok { c with pc := c.pc + 2, stk := v :: s }
    | none => .error (.err "panic")
  | .swap k, top :: s =>
    if k == 0 then .ok { c with pc := c.pc + 2 }
    else
      match s[k - 1]? with
      | some other => .ok { c with pc := c.pc + 2, stk := other :: s.set (k - 1) top }
      | none => .error (.err "panic")
  | .jf d, _ => .ok { c with pc := c.pc + d }
  | .jb d, _ => .ok { c with pc := c.pc - d }
  | .pjf d, v :: s => .ok { c with pc := if v.truthy c.σ then c.pc + 2 else c.pc + d, stk := s }
  | .pjt d, v :: s => .ok { c with pc := if v.truthy c.σ then c.pc + d else c.pc + 2, stk := s }
  -- F7
  | .buildMap n, s =>
    -- the `2 n` topmost values (key, value per entry, the deepest first) become a new map object
    if 2 * n ≤ s.length then
      match pairsOf (s.take (2 * n)).reverse with
      | some ps =>
        .ok { pc := c.pc + 2, stk := .ref (c.σ.alloc (buildMapObj ps)).1 :: s.drop (2 * n), σ := (c.σ.alloc (buildMapObj ps)).2 }
      | none => .error (.err "panic")                              -- `k.(*object.String)`
    else .error (.err "panic")
  | .containsOp, x :: cont :: s =>
    match containsS c.σ cont x with
    | .ok v => .ok { c with pc := c.pc + 2, stk := v :: s }
    | .error e => .error (.err e)
  | .binarySubscr, idx :: obj :: s =>
    match getItemS c.σ obj idx with
    | .ok v => .ok { c with pc := c.pc + 1, stk := v :: s }
    | .error e => .error (.err e)
  | .storeSubscr, idx :: obj :: rhs :: s =>
    match setItemS c.σ obj idx rhs with
    | .ok σ' => .ok { pc := c.pc + 1, stk := s, σ := σ' }
    | .error e => .error (.err e)
  | .getIter, v :: s =>
    match getIterS v with
    | .ok it => .ok { c with pc := c.pc + 1, stk := it :: s }
    | .error e => .error (.err e)
  | .forIter d m, it :: s =>
    if isIter it then
      match iterNext c.σ it with
      | none => .ok { c with pc := c.pc + d, stk := s }            -- exhausted: the iterator is dropped
      | some (it', key, value) =>
        match pushKV m key value with
        | some vals => .ok { c with pc := c.pc + 3, stk := vals ++ it' :: s }
        | none => .error (.err "eval")
    else .error (.err "panic")                                     -- `vm.pop().(object.Iterator)`
  | _, _ => .error (.err "panic")        -- stack underflow

def step (code : Code) (c : Cfg) : Except Halt Cfg :=
  if c.pc ≥ code.length then .error (.done (c.stk.headD .nil))
  else
    match code[c.pc]? with
    | some (some i) => execIns i c
    | _ => .error (.err "eval")

inductive RunRes where
  | running
  | done (v : SVal)
  | err (cls : String)
  deriving Repr, DecidableEq

def run (code : Code) : Nat → Cfg → RunRes × St
  | 0, c => (.running, c.σ)
  | k + 1, c =>
    match step code c with
    | .ok c' => run code k c'
    | .error (.done v) => (.done v, c.σ)
    | .error (.err e) => (.err e, c.σ)

/-- run a compiled program from pc 0, empty stack, empty state -/
def runStr (fuel : Nat) (code : Code) : RunRes × St := run code fuel ⟨0, [], St.empty⟩

def Out.toRun : Out → RunRes
  | .val v => .done v
  | .unit => .done .nil
  | .brk => .err "compile"
  | .cont => .err "compile"
  | .err c => .err c
  | .oof => .running

end Risor.C01.Str
