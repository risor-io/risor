import RisorModel.C01.PrattLemmas
/-!
C01 — operator precedence and associativity: parsing the rendering of any expression tree gives
the tree back (`parse_render`), for trees of unbounded depth.

`parseExpr` is the token-level model of risor's Pratt parser (Pratt.lean; tied to the real
precedence table and registrations by PrattTies.lean and compared with the real lexer + parser on
every generated expression by harness/c01parse.go).  `renderTop` prints a tree with parentheses
exactly where the precedence table and left associativity require, plus the two places where
the generator's printer (harness/gen.go) always parenthesises (operands of `in`/`not in` and of
prefix operators below CALL level, ternary condition and branches below EQUALS level).

Covered forms: literals (int, bool, nil, string, identifier), all 17 infix operators with their
real levels, prefix `-` and `!`, `in` / `not in`, the ternary (branches parsed at LOWEST),
calls and method calls with argument lists, index, slice (each bound optional), list literals.
-/
namespace Risor.C01.Pratt

/-- The side condition on the continuation is "no infix function on its first token". -/
theorem stopsExpr_iff (rest : List Token) : stopsExpr rest = true ↔ firstOp rest ≤ 1 := by
  cases rest with
  | nil => simp [stopsExpr, firstOp, Level.num]
  | cons tok ts =>
    cases h : infixFn tok.kind with
    | none => simp [stopsExpr, firstOp, h, Level.num]
    | some fn =>
      have h2 : 2 ≤ prec tok.kind := prec_ge_two_of_infix _ (by simp [h])
      simp [stopsExpr, firstOp, h]
      omega

/-- **Round trip (`parse_render`).**  For every expression tree `e` of the printable core whose
    ternaries are unnested (the only trees the language admits: `parseTernary` rejects a `?`
    inside the branches of another, even in parentheses) and every continuation `rest` that does
    not extend the expression (`stopsExpr`: empty, or first token without infix function — EOF,
    newline, `)`, `]`, `,`, `:`, `;`, `}` …), there is a fuel from which on the parser, started
    at LOWEST with the `tern` flag clear on `renderTop e ++ rest`, returns exactly `e` and
    leaves exactly `rest`.  Quantifies over all trees (unbounded depth) and all continuations. -/
theorem parse_render (e : Expr) (rest : List Token) (he : unnested e = true)
    (hr : stopsExpr rest = true) :
    ∃ fuel, ∀ f, fuel ≤ f → parseExpr f Level.LOWEST.num (renderTop e ++ rest) = some (e, rest) := by
  have hr' := (stopsExpr_iff rest).1 hr
  obtain ⟨N, h⟩ := Inv.doneLowest (inv_all e) (t := false) (by simpa [okT] using he) hr'
  exact ⟨N, fun f hf => h f hf⟩

/-- the whole input is the expression -/
theorem parse_render_all (e : Expr) (he : unnested e = true) :
    ∃ fuel, ∀ f, fuel ≤ f → parseExpr f Level.LOWEST.num (renderTop e) = some (e, []) := by
  simpa using parse_render e [] he rfl

/-- **Operand positions.**  The same at every precedence level the parser uses: the text printed
    for an operand position of level `q` that is followed by a token of precedence at most `fl`,
    parsed at any level `p ≤ q` (with `fl ≤ p`, so that the follower ends the operand), gives the
    tree back.  With the `tern` flag set the tree must contain no ternary at all. -/
theorem parse_render_operand (e : Expr) (t : Bool) (q fl p : Nat) (rest : List Token)
    (he : okT t e = true) (hpq : p ≤ q) (hp : p ≤ Level.PREFIX.num) (hfl : fl ≤ p)
    (hr : firstOp rest ≤ fl) :
    ∃ fuel, ∀ f, fuel ≤ f → parseNode f t p (render q fl e ++ rest) = some (e, rest) :=
  (inv_all e t q fl p rest he hpq hp hr).done (by omega)

/-- **Unambiguity.**  Two admissible trees with the same rendering are equal: the printer is
    injective, i.e. the parenthesisation never confuses two different trees. -/
theorem render_injective (e₁ e₂ : Expr) (h₁ : unnested e₁ = true) (h₂ : unnested e₂ = true)
    (h : renderTop e₁ = renderTop e₂) : e₁ = e₂ := by
  obtain ⟨f₁, p₁⟩ := parse_render_all e₁ h₁
  obtain ⟨f₂, p₂⟩ := parse_render_all e₂ h₂
  have a := p₁ (f₁ + f₂) (by omega)
  have b := p₂ (f₁ + f₂) (by omega)
  rw [h, b] at a
  injection a with a
  injection a with a
  exact a.symm

/-- The parser is a left inverse of the printer on token lists: whatever tree the printed text
    of `e` parses to (with enough fuel), it is `e`. -/
theorem parse_of_render_unique (e e' : Expr) (rest' : List Token) (he : unnested e = true)
    (h : ∀ f, ∃ f', f ≤ f' ∧ parseExpr f' Level.LOWEST.num (renderTop e) = some (e', rest')) :
    e' = e ∧ rest' = [] := by
  obtain ⟨f₀, p⟩ := parse_render_all e he
  obtain ⟨f', hf', hp⟩ := h f₀
  rw [p f' hf'] at hp
  injection hp with hp
  injection hp with a b
  exact ⟨a.symm, b.symm⟩

/-! ### why the hypothesis on ternaries is there -/

private def ia : Expr := .ident "a"
private def ib : Expr := .ident "b"
private def ic : Expr := .ident "c"
private def id_ : Expr := .ident "d"
private def ie : Expr := .ident "e"

/-- the full statement, without the restriction to unnested ternaries -/
def parse_render_full : Prop :=
  ∀ (e : Expr) (rest : List Token), stopsExpr rest = true →
    ∃ f, parseExpr f Level.LOWEST.num (renderTop e ++ rest) = some (e, rest)

/-- `a ? (b ? c : d) : e`: the parser rejects it for every fuel (risor's "nested ternary
    expression detected", which parentheses do not lift), so no printer can make it round-trip. -/
theorem parse_render_counterexample_nested_ternary : ¬ parse_render_full := by
  intro h
  obtain ⟨f, hf⟩ := h (.tern ia (.tern ib ic id_) ie) [] rfl
  have hr : renderTop (.tern ia (.tern ib ic id_) ie)
      = ⟨.IDENT, "a"⟩ :: tk .QUESTION :: tk .LPAREN :: ⟨.IDENT, "b"⟩ :: tk .QUESTION ::
        [⟨.IDENT, "c"⟩, tk .COLON, ⟨.IDENT, "d"⟩, tk .RPAREN, tk .COLON, ⟨.IDENT, "e"⟩] := rfl
  have key : ∀ f, parseExpr f 1 (renderTop (.tern ia (.tern ib ic id_) ie)) = none := by
    intro f
    rw [hr]
    exact parse_nested_ternary_fails f "a" "b" _
  simp only [List.append_nil] at hf
  rw [show Level.LOWEST.num = 1 from rfl, key f] at hf
  cases hf

/-! ### associativity and precedence as instances of the round trip -/

private def idt (x : String) : Token := ⟨.IDENT, x⟩

/-- an infix node whose position lets it stand without parentheses -/
theorem render_infix_bare {q fl : Nat} {op : BinOp} (hq : q < prec (opKind op))
    (hfl : fl ≤ prec (opKind op)) (l r : Expr) :
    render q fl (.infix op l r) =
      render (prec (opKind op) - 1) (prec (opKind op)) l
        ++ tk (opKind op) :: render (prec (opKind op)) fl r := by
  simp [render, wrap, hq, hfl]

/-- … and one that needs them -/
theorem render_infix_paren {q fl : Nat} {op : BinOp}
    (h : ¬ (q < prec (opKind op) ∧ fl ≤ prec (opKind op))) (l r : Expr) :
    render q fl (.infix op l r) =
      tk .LPAREN :: (render (prec (opKind op) - 1) (prec (opKind op)) l
        ++ tk (opKind op) :: (render (prec (opKind op)) 1 r ++ [tk .RPAREN])) := by
  simp [render, wrap, h, Level.num]

/-- at top level an infix node is never parenthesised: every operator is above LOWEST -/
theorem renderTop_infix (op : BinOp) (l r : Expr) :
    renderTop (.infix op l r) =
      render (prec (opKind op) - 1) (prec (opKind op)) l
        ++ tk (opKind op) :: render (prec (opKind op)) 1 r := by
  have := prec_opKind_ge op
  exact render_infix_bare (show 1 < _ by omega) (show 1 ≤ _ by omega) l r

/-- `x o₁ y o₂ z` is the text of `(x o₁ y) o₂ z` when `o₁` binds at least as tightly as `o₂` -/
theorem renderTop_left (o₁ o₂ : BinOp) (x y z : String) (h : prec (opKind o₂) ≤ prec (opKind o₁)) :
    renderTop (.infix o₂ (.infix o₁ (.ident x) (.ident y)) (.ident z))
      = [idt x, tk (opKind o₁), idt y, tk (opKind o₂), idt z] := by
  have := prec_opKind_ge o₂
  rw [renderTop_infix, render_infix_bare (by omega) h]
  rfl

/-- `x o₁ y o₂ z` is the text of `x o₁ (y o₂ z)` when `o₂` binds tighter than `o₁` -/
theorem renderTop_right (o₁ o₂ : BinOp) (x y z : String) (h : prec (opKind o₁) < prec (opKind o₂)) :
    renderTop (.infix o₁ (.ident x) (.infix o₂ (.ident y) (.ident z)))
      = [idt x, tk (opKind o₁), idt y, tk (opKind o₂), idt z] := by
  have := prec_opKind_ge o₂
  rw [renderTop_infix, render_infix_bare h (by omega)]
  rfl

/-- **Left associativity, every operator.**  `x op y op z` is what the printer emits for
    `(x op y) op z` — no parentheses — and it parses back to that tree: every infix operator of
    the table, `**` included, associates to the left. -/
theorem left_assoc (op : BinOp) (x y z : String) :
    ∃ fuel, ∀ f, fuel ≤ f →
      parseExpr f Level.LOWEST.num [idt x, tk (opKind op), idt y, tk (opKind op), idt z]
        = some (.infix op (.infix op (.ident x) (.ident y)) (.ident z), []) := by
  rw [← renderTop_left op op x y z (Nat.le_refl _)]
  exact parse_render_all _ rfl

/-- the right-nested tree needs (and gets) parentheses: `x op (y op z)` -/
theorem right_nested_needs_parens (op : BinOp) (x y z : String) :
    renderTop (.infix op (.ident x) (.infix op (.ident y) (.ident z)))
      = [idt x, tk (opKind op), tk .LPAREN, idt y, tk (opKind op), idt z, tk .RPAREN] := by
  rw [renderTop_infix, render_infix_paren (fun h => Nat.lt_irrefl _ h.1)]
  rfl

/-- **Precedence, every pair of operators on different levels.**  If `o₂` binds tighter than
    `o₁`, then `x o₁ y o₂ z` parses as `x o₁ (y o₂ z)` and `x o₂ y o₁ z` as `(x o₂ y) o₁ z`. -/
theorem precedence_pairs (o₁ o₂ : BinOp) (x y z : String) (h : prec (opKind o₁) < prec (opKind o₂)) :
    (∃ fuel, ∀ f, fuel ≤ f →
      parseExpr f Level.LOWEST.num [idt x, tk (opKind o₁), idt y, tk (opKind o₂), idt z]
        = some (.infix o₁ (.ident x) (.infix o₂ (.ident y) (.ident z)), [])) ∧
    (∃ fuel, ∀ f, fuel ≤ f →
      parseExpr f Level.LOWEST.num [idt x, tk (opKind o₂), idt y, tk (opKind o₁), idt z]
        = some (.infix o₁ (.infix o₂ (.ident x) (.ident y)) (.ident z), [])) := by
  rw [← renderTop_right o₁ o₂ x y z h, ← renderTop_left o₂ o₁ x y z (Nat.le_of_lt h)]
  exact ⟨parse_render_all _ rfl, parse_render_all _ rfl⟩

/-- operators on one level group from the left whatever their mix: `x o₁ y o₂ z` is
    `(x o₁ y) o₂ z` (e.g. `a || b && c` is `(a || b) && c`: `&&` and `||` share COND) -/
theorem same_level_left (o₁ o₂ : BinOp) (x y z : String) (h : prec (opKind o₁) = prec (opKind o₂)) :
    ∃ fuel, ∀ f, fuel ≤ f →
      parseExpr f Level.LOWEST.num [idt x, tk (opKind o₁), idt y, tk (opKind o₂), idt z]
        = some (.infix o₂ (.infix o₁ (.ident x) (.ident y)) (.ident z), []) := by
  rw [← renderTop_left o₁ o₂ x y z (Nat.le_of_eq h.symm)]
  exact parse_render_all _ rfl

/-! ### concrete instances (also non-vacuity: the hypotheses are satisfiable on nested trees) -/

/-- `a - b - c` is `(a - b) - c` -/
example : parseExpr 12 1 [idt "a", tk .MINUS, idt "b", tk .MINUS, idt "c"]
    = some (.infix .sub (.infix .sub ia ib) ic, []) := by decide +kernel
/-- `a ** b ** c` is `(a ** b) ** c`: the table makes `**` left-associative -/
example : parseExpr 12 1 [idt "a", tk .POW, idt "b", tk .POW, idt "c"]
    = some (.infix .pow (.infix .pow ia ib) ic, []) := by decide +kernel
/-- `a ** b % c` is `a ** (b % c)`: `%` (MOD) binds tighter than `**` (POWER) -/
example : parseExpr 12 1 [idt "a", tk .POW, idt "b", tk .MOD, idt "c"]
    = some (.infix .pow ia (.infix .mod ib ic), []) := by decide +kernel
/-- `a || b && c` is `(a || b) && c`: one level -/
example : parseExpr 12 1 [idt "a", tk .OR, idt "b", tk .AND, idt "c"]
    = some (.infix .and (.infix .or ia ib) ic, []) := by decide +kernel
/-- `-a ** b` is `(-a) ** b`, `-a(b)` is `-(a(b))` -/
example : parseExpr 12 1 [tk .MINUS, idt "a", tk .POW, idt "b"]
    = some (.infix .pow (.neg ia) ib, []) := by decide +kernel
example : parseExpr 12 1 [tk .MINUS, idt "a", tk .LPAREN, idt "b", tk .RPAREN]
    = some (.neg (.call ia (.cons ib .nil)), []) := by decide +kernel
/-- `a ? b : c + d` is `a ? b : (c + d)` (false branch at LOWEST) and the printer therefore
    parenthesises a ternary that is followed by an operator -/
example : parseExpr 12 1 [idt "a", tk .QUESTION, idt "b", tk .COLON, idt "c", tk .PLUS, idt "d"]
    = some (.tern ia ib (.infix .add ic id_), []) := by decide +kernel
example : renderTop (.infix .and (.tern ia ib ic) id_)
    = [tk .LPAREN, idt "a", tk .QUESTION, idt "b", tk .COLON, idt "c", tk .RPAREN, tk .AND, idt "d"] := by
  decide +kernel
/-- a ternary as right operand of `&&` needs no parentheses -/
example : renderTop (.infix .and id_ (.tern ia ib ic))
    = [idt "d", tk .AND, idt "a", tk .QUESTION, idt "b", tk .COLON, idt "c"] := by decide +kernel

/-- a deep mixed tree: `f(a - (b - c), [a, b][1:], !d)[a in b ? c : d] not in (x.m(a) ? b : c)` -/
private def big : Expr :=
  .notIn
    (.index
      (.call (.ident "f")
        (.cons (.infix .sub ia (.infix .sub ib ic))
          (.cons (.slice (.list (.cons ia (.cons ib .nil))) (.some (.int 1)) .none)
            (.cons (.not id_) .nil))))
      (.tern (.isIn ia ib) ic id_))
    (.tern (.mcall (.ident "x") "m" (.cons ia .nil)) ib ic)

example : unnested big = true := by decide +kernel
example : (renderTop big).length = 46 := by decide +kernel
example : parseExpr 40 1 (renderTop big) = some (big, []) := by decide +kernel
example : parseExpr 40 1 (renderTop big ++ [tk .RPAREN, tk .PLUS]) = some (big, [tk .RPAREN, tk .PLUS]) := by
  decide +kernel
/-- the guard of `parse_render` holds for it, so the theorem applies (and to `big` nested in
    itself any number of times) -/
example : ∃ fuel, ∀ f, fuel ≤ f → parseExpr f 1 (renderTop (.neg (.infix .mul big big)))
    = some (.neg (.infix .mul big big), []) :=
  parse_render_all _ (by decide +kernel)
/-- continuations: stop tokens are accepted, an operator is not -/
example : stopsExpr [tk .RPAREN] = true ∧ stopsExpr [tk .NEWLINE] = true ∧ stopsExpr [tk .COMMA] = true
    ∧ stopsExpr [tk .COLON] = true ∧ stopsExpr [tk .RBRACKET] = true ∧ stopsExpr [tk .EOF] = true
    ∧ stopsExpr [tk .PLUS] = false ∧ stopsExpr [tk .LPAREN] = false := by decide +kernel

end Risor.C01.Pratt
