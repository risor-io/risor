import RisorModel.C01.Pratt
/-!
Helper lemmas for the Pratt round trip (PrattProps.lean).  `Cont t p toks e rest` says that
`parseNode`, given enough fuel, consumes `toks` up to `rest`, has `e` as the left operand at that
point and continues with the infix loop at level `p`; the main invariant `Inv e` states `Cont` for
the rendering of `e` in every context.
-/
namespace Risor.C01.Pratt

/-! ### table facts -/

theorem prec_opKind_ge (op : BinOp) : 3 ≤ prec (opKind op) := by cases op <;> decide +kernel
theorem prec_opKind_le (op : BinOp) : prec (opKind op) ≤ 12 := by cases op <;> decide +kernel
theorem infixFn_opKind (op : BinOp) : infixFn (opKind op) = some .parseInfixExpr := by
  cases op <;> decide +kernel
theorem binOpOfKind_opKind (op : BinOp) : binOpOfKind (opKind op) = some op := by
  cases op <;> rfl
theorem tk_kind (k : Kind) : (tk k).kind = k := rfl

/-- a property of every key of an association list holds of every key `lookup` finds -/
theorem of_lookup_isSome {α β : Type} [BEq α] [LawfulBEq α] {P : α → Prop} (k : α) :
    ∀ l : List (α × β), (∀ e ∈ l, P e.1) → (l.lookup k).isSome = true → P k
  | [], _, h => by cases h
  | (a, b) :: l, hl, h => by
    by_cases hk : k == a
    · exact eq_of_beq hk ▸ hl (a, b) List.mem_cons_self
    · rw [List.lookup_cons, Bool.eq_false_iff.mpr hk] at h
      exact of_lookup_isSome k l (fun e he => hl e (List.mem_cons_of_mem _ he)) h

/-- every token with an infix function has a table entry above LOWEST -/
theorem prec_ge_two_of_infix (k : Kind) : (infixFn k).isSome = true → 2 ≤ prec k :=
  of_lookup_isSome (P := fun k => 2 ≤ prec k) k infixTable (by decide +kernel)

theorem litNat_toString (n : Nat) : litNat (toString n) = n := by
  simp [litNat]

/-- token kinds that can begin a rendered expression -/
def startKind : Kind → Bool
  | .INT | .TRUE | .FALSE | .NIL | .STRING | .IDENT | .LPAREN | .LBRACKET | .MINUS | .BANG => true
  | _ => false

/-! ### the infix loop stops on a continuation that does not bind tighter than `p` -/

theorem loop_stop (f : Nat) (t : Bool) (p : Nat) (e : Expr) (rest : List Token)
    (h : firstOp rest ≤ p) : loop (f+1) t p e rest = some (e, rest) := by
  cases rest with
  | nil => simp [loop]
  | cons tok ts =>
    unfold loop
    by_cases hp : p < prec tok.kind
    · cases hi : infixFn tok.kind with
      | none => simp [hp]
      | some fn =>
        simp [firstOp, hi] at h
        omega
    · simp [hp]

/-! ### "for all large enough fuel" -/

theorem eventually_and {P Q : Nat → Prop} (hp : ∃ N, ∀ f, N ≤ f → P f) (hq : ∃ N, ∀ f, N ≤ f → Q f) :
    ∃ N, ∀ f, N ≤ f → P f ∧ Q f := by
  obtain ⟨N, hp⟩ := hp
  obtain ⟨M, hq⟩ := hq
  exact ⟨N + M, fun f hf => ⟨hp f (by omega), hq f (by omega)⟩⟩

/-- one more unit of fuel: what holds at `g + 1` whenever `P g` does, holds eventually -/
theorem eventually_succ {P Q : Nat → Prop} (hp : ∃ N, ∀ g, N ≤ g → P g) (h : ∀ g, P g → Q (g + 1)) :
    ∃ N, ∀ f, N ≤ f → Q f := by
  obtain ⟨N, hp⟩ := hp
  exact ⟨N + 1, fun
    | 0, hf => absurd hf (Nat.not_succ_le_zero N)
    | g + 1, hf => h g (hp g (Nat.le_of_succ_le_succ hf))⟩

theorem eventually_of_succ {Q : Nat → Prop} (h : ∀ g, Q (g + 1)) : ∃ N, ∀ f, N ≤ f → Q f :=
  eventually_succ (P := fun _ => True) ⟨0, fun _ _ => trivial⟩ fun g _ => h g

/-! ### continuation predicates -/

/-- with enough fuel, `parseNode` on `toks` reaches the infix loop at level `p` with left
    operand `e` and remaining input `rest` -/
def Cont (t : Bool) (p : Nat) (toks : List Token) (e : Expr) (rest : List Token) : Prop :=
  ∃ n m, ∀ f, m ≤ f → parseNode (f + n) t p toks = loop f t p e rest

/-- with enough fuel, `parseNode` on `toks` returns exactly `e` and leaves `rest` -/
def Done (t : Bool) (p : Nat) (toks : List Token) (e : Expr) (rest : List Token) : Prop :=
  ∃ N, ∀ F, N ≤ F → parseNode F t p toks = some (e, rest)

theorem Cont.done {t p toks e rest} (h : Cont t p toks e rest) (hs : firstOp rest ≤ p) :
    Done t p toks e rest := by
  obtain ⟨n, m, h⟩ := h
  refine ⟨m + n + 1, fun F hF => ?_⟩
  obtain ⟨g, rfl⟩ : ∃ g, F = (g + 1) + n := ⟨F - n - 1, by omega⟩
  rw [h (g + 1) (by omega)]
  exact loop_stop g t p e rest hs

/-- a left operand followed by one step of the infix loop -/
theorem Cont.step {t p toks l R e' rest'} (hl : Cont t p toks l R)
    (hstep : ∃ N, ∀ f, N ≤ f → loop (f + 1) t p l R = loop f t p e' rest') :
    Cont t p toks e' rest' := by
  obtain ⟨n, m, h⟩ := hl
  obtain ⟨N, hs⟩ := hstep
  refine ⟨n + 1, m + N, fun f hf => ?_⟩
  rw [show f + (n + 1) = (f + 1) + n by omega, h (f + 1) (by omega), hs f (by omega)]

/-- an expression that starts with a prefix function -/
theorem Cont.ofPrefix {t p toks e rest}
    (h : ∃ N, ∀ f, N ≤ f → prefixP f t toks = some (e, rest)) : Cont t p toks e rest := by
  obtain ⟨N, h⟩ := h
  refine ⟨1, N, fun f hf => ?_⟩
  show parseNode (f + 1) t p toks = _
  rw [parseNode, h f hf]

/-! ### the first token of a rendering -/

/-- `toks` begins with a token that can start an expression -/
def Starts (toks : List Token) : Prop := ∃ tok ts, toks = tok :: ts ∧ startKind tok.kind = true

theorem Starts.append {a : List Token} (h : Starts a) (b : List Token) : Starts (a ++ b) := by
  obtain ⟨tok, ts, rfl, hk⟩ := h
  exact ⟨tok, ts ++ b, rfl, hk⟩

theorem Starts.wrap {ok : Bool} {fl : Nat} {g : Nat → List Token} (h : ∀ fl', Starts (g fl')) :
    Starts (wrap ok fl g) := by
  unfold Pratt.wrap
  split
  · exact h fl
  · exact ⟨tk .LPAREN, g Level.LOWEST.num ++ [tk .RPAREN], rfl, rfl⟩

theorem starts_render : ∀ (e : Expr) (q fl : Nat), Starts (render q fl e)
  | .int _, _, _ => ⟨_, [], rfl, rfl⟩
  | .bool true, _, _ | .bool false, _, _ => ⟨_, [], rfl, rfl⟩
  | .nil, _, _ => ⟨_, [], rfl, rfl⟩
  | .str _, _, _ => ⟨_, [], rfl, rfl⟩
  | .ident _, _, _ => ⟨_, [], rfl, rfl⟩
  | .neg _, _, _ => Starts.wrap fun _ => ⟨tk .MINUS, _, rfl, rfl⟩
  | .not _, _, _ => Starts.wrap fun _ => ⟨tk .BANG, _, rfl, rfl⟩
  | .list _, _, _ => ⟨tk .LBRACKET, _, rfl, rfl⟩
  -- the other forms begin with the rendering of their left operand
  | .infix _ l _, _, _ => Starts.wrap fun _ => ((starts_render l _ _).append _).append _
  | .tern c _ _, _, _ =>
    Starts.wrap fun _ => ((((starts_render c _ _).append _).append _).append _).append _
  | .isIn x _, _, _ => Starts.wrap fun _ => ((starts_render x _ _).append _).append _
  | .notIn x _, _, _ => Starts.wrap fun _ => ((starts_render x _ _).append _).append _
  | .call f _, _, _ => (((starts_render f _ _).append _).append _).append _
  | .mcall o _ _, _, _ => (((starts_render o _ _).append _).append _).append _
  | .index e _, _, _ => (((starts_render e _ _).append _).append _).append _
  | .slice e _ _, _, _ =>
    (((((starts_render e _ _).append _).append _).append _).append _).append _

theorem headIs_of_starts {k : Kind} {toks : List Token} (h : Starts toks) (hk : startKind k = false) :
    headIs k toks = false := by
  obtain ⟨tok, ts, rfl, hs⟩ := h
  simp only [headIs, decide_eq_false_iff_not]
  intro heq
  rw [heq, hk] at hs
  cases hs

theorem skipNl_of_starts {toks : List Token} (h : Starts toks) : skipNl toks = toks := by
  obtain ⟨tok, ts, rfl, hs⟩ := h
  have : tok.kind ≠ .NEWLINE := by
    intro heq; rw [heq] at hs; cases hs
  simp [skipNl, this]

theorem headIs_render (k : Kind) (hk : startKind k = false) (q fl : Nat) (e : Expr) (more : List Token) :
    headIs k (render q fl e ++ more) = false :=
  headIs_of_starts ((starts_render e q fl).append more) hk

theorem skipNl_render (q fl : Nat) (e : Expr) (more : List Token) :
    skipNl (render q fl e ++ more) = render q fl e ++ more :=
  skipNl_of_starts ((starts_render e q fl).append more)

/-! ### single steps of the parser on the tokens the printer emits -/

theorem firstOp_cons_noInfix {tok : Token} (rest : List Token) (h : infixFn tok.kind = none) :
    firstOp (tok :: rest) = 1 := by
  simp [firstOp, h, Level.num]

theorem firstOp_cons_infix {tok : Token} (rest : List Token) {fn} (h : infixFn tok.kind = some fn) :
    firstOp (tok :: rest) = prec tok.kind := by
  simp [firstOp, h]

theorem prefixP_paren {g : Nat} {t : Bool} {inner rest : List Token} {e : Expr}
    (h : parseNode g t 1 inner = some (e, tk .RPAREN :: rest)) :
    prefixP (g + 1) t (tk .LPAREN :: inner) = some (e, rest) := by
  have h1 : prefixFn (tk .LPAREN).kind = some .parseGroupedExpr := rfl
  have h2 : isPostfix (tk .LPAREN).kind = false := rfl
  simp only [prefixP, h1, h2, Level.num, h]
  simp [headIs, tk]

theorem prefixP_neg {g : Nat} {t : Bool} {inner rest : List Token} {e : Expr}
    (h : parseNode g t 13 inner = some (e, rest)) :
    prefixP (g + 1) t (tk .MINUS :: inner) = some (.neg e, rest) := by
  have h1 : prefixFn (tk .MINUS).kind = some .parsePrefixExpr := rfl
  have h2 : isPostfix (tk .MINUS).kind = false := rfl
  simp only [prefixP, h1, h2, Level.num, h]
  simp [tk]

theorem prefixP_not {g : Nat} {t : Bool} {inner rest : List Token} {e : Expr}
    (h : parseNode g t 13 inner = some (e, rest)) :
    prefixP (g + 1) t (tk .BANG :: inner) = some (.not e, rest) := by
  have h1 : prefixFn (tk .BANG).kind = some .parsePrefixExpr := rfl
  have h2 : isPostfix (tk .BANG).kind = false := rfl
  simp only [prefixP, h1, h2, Level.num, h]
  simp [tk]

theorem prefixP_list {g : Nat} {t : Bool} {inner rest : List Token} {items : Args}
    (h : exprList g t .RBRACKET inner = some (items, rest)) :
    prefixP (g + 1) t (tk .LBRACKET :: inner) = some (.list items, rest) := by
  have h1 : prefixFn (tk .LBRACKET).kind = some .parseList := rfl
  have h2 : isPostfix (tk .LBRACKET).kind = false := rfl
  simp only [prefixP, h1, h2, h]
  simp

theorem prefixP_int (g : Nat) (t : Bool) (n : Nat) (rest : List Token) :
    prefixP (g + 1) t (⟨.INT, toString n⟩ :: rest) = some (.int n, rest) := by
  have h1 : prefixFn Kind.INT = some .parseInt := rfl
  have h2 : isPostfix Kind.INT = false := rfl
  simp only [prefixP, h1, h2, litNat_toString]
  simp

theorem prefixP_bool (g : Nat) (t : Bool) (b : Bool) (rest : List Token) :
    prefixP (g + 1) t (tk (if b then .TRUE else .FALSE) :: rest) = some (.bool b, rest) := by
  cases b
  · have h1 : prefixFn Kind.FALSE = some .parseBoolean := rfl
    have h2 : isPostfix Kind.FALSE = false := rfl
    simp [prefixP, h1, h2, tk]
  · have h1 : prefixFn Kind.TRUE = some .parseBoolean := rfl
    have h2 : isPostfix Kind.TRUE = false := rfl
    simp [prefixP, h1, h2, tk]

theorem prefixP_nil (g : Nat) (t : Bool) (rest : List Token) :
    prefixP (g + 1) t (tk .NIL :: rest) = some (.nil, rest) := by
  have h1 : prefixFn (tk .NIL).kind = some .parseNil := rfl
  have h2 : isPostfix (tk .NIL).kind = false := rfl
  simp [prefixP, h1, h2]

theorem prefixP_str (g : Nat) (t : Bool) (s : String) (rest : List Token) :
    prefixP (g + 1) t (⟨.STRING, s⟩ :: rest) = some (.str s, rest) := by
  have h1 : prefixFn Kind.STRING = some .parseString := rfl
  have h2 : isPostfix Kind.STRING = false := rfl
  simp [prefixP, h1, h2]

theorem prefixP_ident (g : Nat) (t : Bool) (x : String) (rest : List Token) :
    prefixP (g + 1) t (⟨.IDENT, x⟩ :: rest) = some (.ident x, rest) := by
  have h1 : prefixFn Kind.IDENT = some .parseIdent := rfl
  have h2 : isPostfix Kind.IDENT = false := rfl
  simp [prefixP, h1, h2]

/-- one turn of the infix loop on a token that binds tighter than `p` -/
theorem loop_step {f : Nat} {t : Bool} {p : Nat} {l e : Expr} {tok : Token} {fn : InfixFn}
    {R rest' : List Token} (hp : p < prec tok.kind) (hi : infixFn tok.kind = some fn)
    (h : infixP f t fn l tok R = some (e, rest')) :
    loop (f + 1) t p l (tok :: R) = loop f t p e rest' := by
  simp only [loop, hp, if_true, hi, h]

theorem loop_infix {f : Nat} {t : Bool} {p : Nat} {l r : Expr} {op : BinOp} {R rest' : List Token}
    (hp : p < prec (opKind op))
    (h : parseNode f t (prec (opKind op)) (skipNl R) = some (r, rest')) :
    loop (f + 2) t p l (tk (opKind op) :: R) = loop (f + 1) t p (.infix op l r) rest' :=
  loop_step hp (infixFn_opKind op)
    (by simp only [infixP, tk_kind, binOpOfKind_opKind, h])

theorem loop_tern {f : Nat} {p : Nat} {c a b : Expr} {R1 R2 rest' : List Token}
    (hp : p < 6)
    (ha : parseNode f true 1 R1 = some (a, tk .COLON :: R2))
    (hb : parseNode f true 1 R2 = some (b, rest')) :
    loop (f + 2) false p c (tk .QUESTION :: R1) = loop (f + 1) false p (.tern c a b) rest' :=
  loop_step (fn := .parseTernary) hp rfl (by simp [infixP, Level.num, ha, hb, headIs, tk])

theorem loop_in {f : Nat} {t : Bool} {p : Nat} {l r : Expr} {R rest' : List Token}
    (hp : p < 13) (h : parseNode f t 13 R = some (r, rest')) :
    loop (f + 2) t p l (tk .IN :: R) = loop (f + 1) t p (.isIn l r) rest' :=
  loop_step (fn := .parseIn) hp rfl (by simp only [infixP, Level.num, h])

theorem loop_notin {f : Nat} {t : Bool} {p : Nat} {l r : Expr} {R rest' : List Token}
    (hp : p < 13) (h : parseNode f t 13 R = some (r, rest')) :
    loop (f + 2) t p l (tk .NOT :: tk .IN :: R) = loop (f + 1) t p (.notIn l r) rest' :=
  loop_step (fn := .parseNotIn) hp rfl (by simp [infixP, Level.num, h, headIs, tk])

theorem loop_call {f : Nat} {t : Bool} {p : Nat} {l : Expr} {args : Args} {R rest' : List Token}
    (hp : p ≤ 13) (h : exprList f t .RPAREN R = some (args, rest')) :
    loop (f + 2) t p l (tk .LPAREN :: R) = loop (f + 1) t p (.call l args) rest' :=
  loop_step (fn := .parseCall) (Nat.lt_succ_of_le hp) rfl (by simp only [infixP, h])

theorem loop_mcall {f : Nat} {t : Bool} {p : Nat} {l : Expr} {name : String} {args : Args}
    {R rest' : List Token}
    (hp : p ≤ 13) (h : exprList f t .RPAREN R = some (args, rest')) :
    loop (f + 2) t p l (tk .PERIOD :: ⟨.IDENT, name⟩ :: tk .LPAREN :: R)
      = loop (f + 1) t p (.mcall l name args) rest' :=
  loop_step (fn := .parseGetAttr) (show p < 15 by omega) rfl
    (by simp [infixP, skipNl, headIs, tk, h])

theorem loop_index {f : Nat} {t : Bool} {p : Nat} {l i : Expr} {R rest' : List Token}
    (hp : p ≤ 13) (hc : headIs .COLON R = false)
    (h : parseNode f t 1 R = some (i, tk .RBRACKET :: rest')) :
    loop (f + 2) t p l (tk .LBRACKET :: R) = loop (f + 1) t p (.index l i) rest' :=
  loop_step (fn := .parseIndex) (show p < 15 by omega) rfl
    (by simp only [infixP, hc, Level.num, h]; simp [headIs, tk])

theorem sliceTail_none (g : Nat) (t : Bool) (l : Expr) (lo : Opt) (rest' : List Token) :
    sliceTail (g + 1) t l lo (tk .RBRACKET :: rest') = some (.slice l lo .none, rest') := by
  simp [sliceTail, headIs, tk]

theorem sliceTail_some {g : Nat} {t : Bool} {l hi : Expr} {lo : Opt} {R rest' : List Token}
    (hc : headIs .RBRACKET R = false)
    (h : parseNode g t 1 R = some (hi, tk .RBRACKET :: rest')) :
    sliceTail (g + 1) t l lo R = some (.slice l lo (.some hi), rest') := by
  have hb : headIs .RBRACKET (tk .RBRACKET :: rest') = true := by simp [headIs, tk]
  simp only [sliceTail, hc, Level.num, h, hb, List.tail_cons]
  simp

theorem loop_slice_nolo {f : Nat} {t : Bool} {p : Nat} {l e' : Expr} {R rest' : List Token}
    (hp : p ≤ 13) (hs : sliceTail f t l .none R = some (e', rest')) :
    loop (f + 2) t p l (tk .LBRACKET :: tk .COLON :: R) = loop (f + 1) t p e' rest' :=
  loop_step (fn := .parseIndex) (show p < 15 by omega) rfl
    (by simp [infixP, headIs, tk, hs])

theorem loop_slice_lo {f : Nat} {t : Bool} {p : Nat} {l lo e' : Expr} {R R2 rest' : List Token}
    (hp : p ≤ 13) (hc : headIs .COLON R = false)
    (h : parseNode f t 1 R = some (lo, tk .COLON :: R2))
    (hs : sliceTail f t l (.some lo) R2 = some (e', rest')) :
    loop (f + 2) t p l (tk .LBRACKET :: R) = loop (f + 1) t p e' rest' :=
  loop_step (fn := .parseIndex) (show p < 15 by omega) rfl
    (by simp only [infixP, hc, Level.num, h]; simp [headIs, tk, hs])

theorem exprList_nil (g : Nat) (t : Bool) (en : Kind) (rest : List Token) :
    exprList (g + 1) t en (tk en :: rest) = some (.nil, rest) := by
  simp [exprList, headIs, tk]

theorem exprList_cons {g : Nat} {t : Bool} {en : Kind} {e : Expr} {es : Args} {R R' rest : List Token}
    (hh : headIs en R = false) (hn : skipNl R = R)
    (h : parseNode g t 1 R = some (e, R')) (ht : listTail g t en R' = some (es, rest)) :
    exprList (g + 1) t en R = some (.cons e es, rest) := by
  simp only [exprList, hh, hn, Level.num, h, ht]
  simp

theorem listTail_nil (g : Nat) (t : Bool) (en : Kind) (rest : List Token)
    (h1 : en ≠ .COMMA) (h2 : en ≠ .NEWLINE) :
    listTail (g + 1) t en (tk en :: rest) = some (.nil, rest) := by
  simp [listTail, headIs, tk, skipNl, h1, h2]

theorem listTail_cons {g : Nat} {t : Bool} {en : Kind} {e : Expr} {es : Args} {R R' rest : List Token}
    (hh : headIs en R = false) (hn : skipNl R = R)
    (h : parseNode g t 1 R = some (e, R')) (ht : listTail g t en R' = some (es, rest)) :
    listTail (g + 1) t en (tk .COMMA :: R) = some (.cons e es, rest) := by
  have hc : headIs .COMMA (tk .COMMA :: R) = true := by simp [headIs, tk]
  simp only [listTail, hc, List.tail_cons, hn, hh, Level.num, h, ht]
  simp

/-! ### the ternary restriction, per constructor -/

theorem okT_infix {t : Bool} {op : BinOp} {l r : Expr} (h : okT t (.infix op l r) = true) :
    okT t l = true ∧ okT t r = true := by
  cases t <;> simpa [okT, noTern, unnested] using h
theorem okT_neg {t : Bool} {e : Expr} (h : okT t (.neg e) = true) : okT t e = true := by
  cases t <;> simpa [okT, noTern, unnested] using h
theorem okT_not {t : Bool} {e : Expr} (h : okT t (.not e) = true) : okT t e = true := by
  cases t <;> simpa [okT, noTern, unnested] using h
theorem okT_tern {t : Bool} {c a b : Expr} (h : okT t (.tern c a b) = true) :
    t = false ∧ okT false c = true ∧ okT true a = true ∧ okT true b = true := by
  cases t
  · simpa [okT, unnested, and_assoc] using h
  · simp [okT, noTern] at h
theorem okT_isIn {t : Bool} {x c : Expr} (h : okT t (.isIn x c) = true) :
    okT t x = true ∧ okT t c = true := by
  cases t <;> simpa [okT, noTern, unnested] using h
theorem okT_notIn {t : Bool} {x c : Expr} (h : okT t (.notIn x c) = true) :
    okT t x = true ∧ okT t c = true := by
  cases t <;> simpa [okT, noTern, unnested] using h
theorem okT_call {t : Bool} {f : Expr} {args : Args} (h : okT t (.call f args) = true) :
    okT t f = true ∧ okTArgs t args = true := by
  cases t <;> simpa [okT, okTArgs, noTern, unnested] using h
theorem okT_mcall {t : Bool} {o : Expr} {name : String} {args : Args}
    (h : okT t (.mcall o name args) = true) : okT t o = true ∧ okTArgs t args = true := by
  cases t <;> simpa [okT, okTArgs, noTern, unnested] using h
theorem okT_index {t : Bool} {e i : Expr} (h : okT t (.index e i) = true) :
    okT t e = true ∧ okT t i = true := by
  cases t <;> simpa [okT, noTern, unnested] using h
theorem okT_slice {t : Bool} {e : Expr} {lo hi : Opt} (h : okT t (.slice e lo hi) = true) :
    okT t e = true ∧ okTOpt t lo = true ∧ okTOpt t hi = true := by
  cases t <;> simpa [okT, okTOpt, noTern, unnested, and_assoc] using h
theorem okT_list {t : Bool} {items : Args} (h : okT t (.list items) = true) :
    okTArgs t items = true := by
  cases t <;> simpa [okT, okTArgs, noTern, unnested] using h
theorem okTArgs_cons {t : Bool} {e : Expr} {es : Args} (h : okTArgs t (.cons e es) = true) :
    okT t e = true ∧ okTArgs t es = true := by
  cases t <;> simpa [okT, okTArgs, noTernArgs, unnestedArgs] using h
theorem okTOpt_some {t : Bool} {e : Expr} (h : okTOpt t (.some e) = true) : okT t e = true := by
  cases t <;> simpa [okT, okTOpt, noTernOpt, unnestedOpt] using h

/-! ### the invariants -/

/-- Main invariant: parsing, at any level `p ≤ q` (and
    `p ≤ PREFIX`, the highest level any parse function passes), the text printed for a position
    of level `q` followed by a token of precedence at most `fl` yields `e` as the left operand
    and continues the infix loop at level `p` with whatever follows. -/
def Inv (e : Expr) : Prop :=
  ∀ (t : Bool) (q fl p : Nat) (rest : List Token),
    okT t e = true → p ≤ q → p ≤ 13 → firstOp rest ≤ fl →
    Cont t p (render q fl e ++ rest) e rest

/-- closing brackets an expression list can end with -/
def Closer (en : Kind) : Prop :=
  startKind en = false ∧ en ≠ .COMMA ∧ en ≠ .NEWLINE ∧ infixFn en = none

def InvTail (a : Args) : Prop :=
  ∀ (t : Bool) (en : Kind) (rest : List Token), okTArgs t a = true → Closer en →
    ∃ N, ∀ F, N ≤ F → listTail F t en (renderTail a ++ tk en :: rest) = some (a, rest)

def InvArgs (a : Args) : Prop :=
  ∀ (t : Bool) (en : Kind) (rest : List Token), okTArgs t a = true → Closer en →
    ∃ N, ∀ F, N ≤ F → exprList F t en (renderArgs a ++ tk en :: rest) = some (a, rest)

def InvOpt : Opt → Prop
  | .none => True
  | .some e => Inv e

/-- an `Inv` instance at LOWEST followed by a token without infix function gives `Done` -/
theorem Inv.doneLowest {e : Expr} (h : Inv e) {t : Bool} (hok : okT t e = true)
    {rest : List Token} (hr : firstOp rest ≤ 1) :
    Done t 1 (render 1 1 e ++ rest) e rest :=
  (h t 1 1 1 rest hok (Nat.le_refl _) (by omega) hr).done hr

/-- From the unparenthesised case to both cases: an operand whose bare form `G fl'` parses at
    every level below its root level `K` (when the follower does not exceed `S`) also parses in
    parentheses at any level. -/
theorem inv_of_wrap {e : Expr} {K S : Nat} {G : Nat → List Token} (hK : 1 < K) (hS : 1 ≤ S)
    (U : ∀ (t : Bool) (p' fl' : Nat) (rest' : List Token), okT t e = true → p' < K → p' ≤ 13 →
      fl' ≤ S → firstOp rest' ≤ fl' → Cont t p' (G fl' ++ rest') e rest')
    (t : Bool) (q fl p : Nat) (rest : List Token) (hok : okT t e = true) (hpq : p ≤ q)
    (hp : p ≤ 13) (hrest : firstOp rest ≤ fl) :
    Cont t p (wrap (decide (q < K) && decide (fl ≤ S)) fl G ++ rest) e rest := by
  unfold wrap
  split
  next hc =>
    simp only [Bool.and_eq_true, decide_eq_true_eq] at hc
    exact U t p fl rest hok (Nat.lt_of_le_of_lt hpq hc.1) hp hc.2 hrest
  next =>
    -- in parentheses the operand is parsed at LOWEST and followed by `)`
    have hfo : firstOp (tk .RPAREN :: rest) ≤ 1 := Nat.le_of_eq (firstOp_cons_noInfix _ rfl)
    have hin := (U t 1 1 (tk .RPAREN :: rest) hok hK (by omega) hS hfo).done hfo
    refine Cont.ofPrefix (eventually_succ hin fun g hg => ?_)
    simpa [List.append_assoc, Level.num] using prefixP_paren hg

/-! ### the invariant, constructor by constructor -/

theorem inv_atom {e : Expr} {tok : Token} (hr : ∀ q fl, render q fl e = [tok])
    (hp : ∀ g t rest, prefixP (g + 1) t (tok :: rest) = some (e, rest)) : Inv e := by
  intro t q fl p rest _ _ _ _
  rw [hr]
  exact Cont.ofPrefix (eventually_of_succ fun g => hp g t rest)

theorem inv_int (n : Nat) : Inv (.int n) :=
  inv_atom (fun _ _ => by rw [render]) (fun g t rest => prefixP_int g t n rest)
theorem inv_bool (b : Bool) : Inv (.bool b) :=
  inv_atom (fun _ _ => by rw [render]) (fun g t rest => prefixP_bool g t b rest)
theorem inv_nil : Inv .nil :=
  inv_atom (fun _ _ => by rw [render]) (fun g t rest => prefixP_nil g t rest)
theorem inv_str (s : String) : Inv (.str s) :=
  inv_atom (fun _ _ => by rw [render]) (fun g t rest => prefixP_str g t s rest)
theorem inv_ident (x : String) : Inv (.ident x) :=
  inv_atom (fun _ _ => by rw [render]) (fun g t rest => prefixP_ident g t x rest)

theorem inv_infix (op : BinOp) (l r : Expr) (ihl : Inv l) (ihr : Inv r) : Inv (.infix op l r) := by
  intro t q fl p rest hok hpq hp hrest
  rw [render]
  have hge := prec_opKind_ge op
  have hle := prec_opKind_le op
  refine inv_of_wrap (K := prec (opKind op)) (S := prec (opKind op)) (by omega) (by omega) ?_
    t q fl p rest hok hpq hp hrest
  intro t p' fl' rest' hok hp' hp13 hfl hrest'
  obtain ⟨hokl, hokr⟩ := okT_infix hok
  have hr := (ihr t (prec (opKind op)) fl' (prec (opKind op)) rest' hokr (Nat.le_refl _)
    (by omega) hrest').done (Nat.le_trans hrest' hfl)
  simp only [List.append_assoc, List.cons_append, List.nil_append]
  refine (ihl t (prec (opKind op) - 1) (prec (opKind op)) p' _ hokl (by omega) hp13
    (Nat.le_of_eq (firstOp_cons_infix (tok := tk (opKind op)) _ (infixFn_opKind op)))).step
    (eventually_succ hr fun g hg => loop_infix hp' ?_)
  rw [skipNl_render]
  exact hg

theorem inv_neg (e : Expr) (ih : Inv e) : Inv (.neg e) := by
  intro t q fl p rest hok hpq hp hrest
  rw [render]
  simp only [Level.num]
  refine inv_of_wrap (K := 13) (S := 13) (by omega) (by omega) ?_ t q fl p rest hok hpq hp hrest
  intro t p' fl' rest' hok hp' hp13 hfl hrest'
  have h := (ih t 13 fl' 13 rest' (okT_neg hok) (Nat.le_refl _) (Nat.le_refl _) hrest').done
    (Nat.le_trans hrest' hfl)
  exact Cont.ofPrefix (eventually_succ h fun g hg => prefixP_neg hg)

theorem inv_not (e : Expr) (ih : Inv e) : Inv (.not e) := by
  intro t q fl p rest hok hpq hp hrest
  rw [render]
  simp only [Level.num]
  refine inv_of_wrap (K := 13) (S := 13) (by omega) (by omega) ?_ t q fl p rest hok hpq hp hrest
  intro t p' fl' rest' hok hp' hp13 hfl hrest'
  have h := (ih t 13 fl' 13 rest' (okT_not hok) (Nat.le_refl _) (Nat.le_refl _) hrest').done
    (Nat.le_trans hrest' hfl)
  exact Cont.ofPrefix (eventually_succ h fun g hg => prefixP_not hg)

theorem inv_tern (c a b : Expr) (ihc : Inv c) (iha : Inv a) (ihb : Inv b) : Inv (.tern c a b) := by
  intro t q fl p rest hok hpq hp hrest
  rw [render]
  simp only [Level.num]
  refine inv_of_wrap (K := 6) (S := 1) (by omega) (by omega) ?_ t q fl p rest hok hpq hp hrest
  intro t p' fl' rest' hok hp' hp13 hfl hrest'
  obtain ⟨rfl, hokc, hoka, hokb⟩ := okT_tern hok
  have hb := (ihb true 6 fl' 1 rest' hokb (by omega) (by omega) hrest').done
    (Nat.le_trans hrest' hfl)
  have hcol : firstOp (tk .COLON :: (render 6 fl' b ++ rest')) ≤ 1 :=
    Nat.le_of_eq (firstOp_cons_noInfix _ rfl)
  have ha := (iha true 6 1 1 _ hoka (by omega) (by omega) hcol).done hcol
  simp only [List.append_assoc, List.cons_append, List.nil_append]
  exact (ihc false 6 6 p' _ hokc (by omega) hp13
    (Nat.le_of_eq (firstOp_cons_infix (tok := tk .QUESTION) _ rfl))).step
    (eventually_succ (eventually_and ha hb) fun g hg => loop_tern hp' hg.1 hg.2)

theorem inv_isIn (x c : Expr) (ihx : Inv x) (ihc : Inv c) : Inv (.isIn x c) := by
  intro t q fl p rest hok hpq hp hrest
  rw [render]
  simp only [Level.num]
  refine inv_of_wrap (K := 13) (S := 13) (by omega) (by omega) ?_ t q fl p rest hok hpq hp hrest
  intro t p' fl' rest' hok hp' hp13 hfl hrest'
  obtain ⟨hokx, hokc⟩ := okT_isIn hok
  have h := (ihc t 13 fl' 13 rest' hokc (Nat.le_refl _) (Nat.le_refl _) hrest').done
    (Nat.le_trans hrest' hfl)
  simp only [List.append_assoc, List.cons_append, List.nil_append]
  exact (ihx t 13 13 p' _ hokx (by omega) hp13
    (Nat.le_of_eq (firstOp_cons_infix (tok := tk .IN) _ rfl))).step
    (eventually_succ h fun g hg => loop_in hp' hg)

theorem inv_notIn (x c : Expr) (ihx : Inv x) (ihc : Inv c) : Inv (.notIn x c) := by
  intro t q fl p rest hok hpq hp hrest
  rw [render]
  simp only [Level.num]
  refine inv_of_wrap (K := 13) (S := 13) (by omega) (by omega) ?_ t q fl p rest hok hpq hp hrest
  intro t p' fl' rest' hok hp' hp13 hfl hrest'
  obtain ⟨hokx, hokc⟩ := okT_notIn hok
  have h := (ihc t 13 fl' 13 rest' hokc (Nat.le_refl _) (Nat.le_refl _) hrest').done
    (Nat.le_trans hrest' hfl)
  simp only [List.append_assoc, List.cons_append, List.nil_append]
  exact (ihx t 13 13 p' _ hokx (by omega) hp13
    (Nat.le_of_eq (firstOp_cons_infix (tok := tk .NOT) _ rfl))).step
    (eventually_succ h fun g hg => loop_notin hp' hg)

theorem closer_rparen : Closer .RPAREN := ⟨rfl, by decide, by decide, rfl⟩
theorem closer_rbracket : Closer .RBRACKET := ⟨rfl, by decide, by decide, rfl⟩

theorem inv_call (f : Expr) (args : Args) (ihf : Inv f) (iha : InvArgs args) : Inv (.call f args) := by
  intro t q fl p rest hok hpq hp hrest
  rw [render]
  simp only [Level.num, List.append_assoc, List.cons_append, List.nil_append]
  obtain ⟨hokf, hoka⟩ := okT_call hok
  exact (ihf t 13 14 p _ hokf hp hp
    (Nat.le_of_eq (firstOp_cons_infix (tok := tk .LPAREN) _ rfl))).step
    (eventually_succ (iha t .RPAREN rest hoka closer_rparen) fun g hg => loop_call hp hg)

theorem inv_mcall (o : Expr) (name : String) (args : Args) (iho : Inv o) (iha : InvArgs args) :
    Inv (.mcall o name args) := by
  intro t q fl p rest hok hpq hp hrest
  rw [render]
  simp only [Level.num, List.append_assoc, List.cons_append, List.nil_append]
  obtain ⟨hoko, hoka⟩ := okT_mcall hok
  exact (iho t 14 15 p _ hoko (by omega) hp
    (Nat.le_of_eq (firstOp_cons_infix (tok := tk .PERIOD) _ rfl))).step
    (eventually_succ (iha t .RPAREN rest hoka closer_rparen) fun g hg => loop_mcall hp hg)

theorem inv_index (e i : Expr) (ihe : Inv e) (ihi : Inv i) : Inv (.index e i) := by
  intro t q fl p rest hok hpq hp hrest
  rw [render]
  simp only [Level.num, List.append_assoc, List.cons_append, List.nil_append]
  obtain ⟨hoke, hoki⟩ := okT_index hok
  have hrb : firstOp (tk .RBRACKET :: rest) ≤ 1 := Nat.le_of_eq (firstOp_cons_noInfix _ rfl)
  exact (ihe t 14 15 p _ hoke (by omega) hp
    (Nat.le_of_eq (firstOp_cons_infix (tok := tk .LBRACKET) _ rfl))).step
    (eventually_succ (ihi.doneLowest hoki hrb) fun g hg =>
      loop_index hp (headIs_render _ rfl _ _ _ _) hg)

/-- the part of a slice after the colon -/
theorem sliceTail_render (l : Expr) (lo hi : Opt) (ih : InvOpt hi) (t : Bool)
    (hok : okTOpt t hi = true) (rest : List Token) :
    ∃ N, ∀ F, N ≤ F → sliceTail F t l lo (renderOpt hi ++ tk .RBRACKET :: rest)
      = some (.slice l lo hi, rest) := by
  have hrb : firstOp (tk .RBRACKET :: rest) ≤ 1 := Nat.le_of_eq (firstOp_cons_noInfix _ rfl)
  cases hi with
  | none => exact eventually_of_succ fun g => sliceTail_none g t l lo rest
  | some e =>
    exact eventually_succ (Inv.doneLowest (e := e) ih (okTOpt_some hok) hrb) fun g hg =>
      sliceTail_some (headIs_render _ rfl _ _ _ _) hg

theorem inv_slice (e : Expr) (lo hi : Opt) (ihe : Inv e) (ihlo : InvOpt lo) (ihhi : InvOpt hi) :
    Inv (.slice e lo hi) := by
  intro t q fl p rest hok hpq hp hrest
  rw [render]
  simp only [Level.num, List.append_assoc, List.cons_append, List.nil_append]
  obtain ⟨hoke, hoklo, hokhi⟩ := okT_slice hok
  have ht := sliceTail_render e lo hi ihhi t hokhi rest
  refine (ihe t 14 15 p _ hoke (by omega) hp
    (Nat.le_of_eq (firstOp_cons_infix (tok := tk .LBRACKET) _ rfl))).step ?_
  cases lo with
  | none => exact eventually_succ ht fun g hg => loop_slice_nolo hp hg
  | some x =>
    have hcol : firstOp (tk .COLON :: (renderOpt hi ++ tk .RBRACKET :: rest)) ≤ 1 :=
      Nat.le_of_eq (firstOp_cons_noInfix _ rfl)
    exact eventually_succ (eventually_and (Inv.doneLowest (e := x) ihlo (okTOpt_some hoklo) hcol) ht)
      fun g hg => loop_slice_lo hp (headIs_render _ rfl _ _ _ _) hg.1 hg.2

theorem invTail_nil : InvTail .nil := fun t en rest _ hc =>
  eventually_of_succ fun g => listTail_nil g t en rest hc.2.1 hc.2.2.1

theorem firstOp_tail (es : Args) (en : Kind) (hc : Closer en) (rest : List Token) :
    firstOp (renderTail es ++ tk en :: rest) ≤ 1 := by
  cases es with
  | nil => exact Nat.le_of_eq (firstOp_cons_noInfix _ hc.2.2.2)
  | cons e es => exact Nat.le_of_eq (firstOp_cons_noInfix (tok := tk .COMMA) _ rfl)

theorem invTail_cons (e : Expr) (es : Args) (ihe : Inv e) (ihes : InvTail es) : InvTail (.cons e es) := by
  intro t en rest hok hc
  obtain ⟨hoke, hokes⟩ := okTArgs_cons hok
  have h := eventually_and (Inv.doneLowest ihe hoke (firstOp_tail es en hc rest)) (ihes t en rest hokes hc)
  simp only [renderTail, Level.num, List.append_assoc, List.cons_append, List.nil_append]
  exact eventually_succ h fun g hg =>
    listTail_cons (headIs_render _ hc.1 _ _ _ _) (skipNl_render _ _ _ _) hg.1 hg.2

theorem invArgs_nil : InvArgs .nil := fun t en rest _ _ =>
  eventually_of_succ fun g => exprList_nil g t en rest

theorem invArgs_cons (e : Expr) (es : Args) (ihe : Inv e) (ihes : InvTail es) : InvArgs (.cons e es) := by
  intro t en rest hok hc
  obtain ⟨hoke, hokes⟩ := okTArgs_cons hok
  have h := eventually_and (Inv.doneLowest ihe hoke (firstOp_tail es en hc rest)) (ihes t en rest hokes hc)
  simp only [renderArgs, Level.num, List.append_assoc]
  exact eventually_succ h fun g hg =>
    exprList_cons (headIs_render _ hc.1 _ _ _ _) (skipNl_render _ _ _ _) hg.1 hg.2

theorem inv_list (items : Args) (ih : InvArgs items) : Inv (.list items) := by
  intro t q fl p rest hok hpq hp hrest
  rw [render]
  simp only [List.append_assoc, List.cons_append, List.nil_append]
  exact Cont.ofPrefix (eventually_succ (ih t .RBRACKET rest (okT_list hok) closer_rbracket)
    fun g hg => prefixP_list hg)

/-! ### assembling the mutual induction -/

mutual
theorem inv_all : ∀ e : Expr, Inv e
  | .int n => inv_int n
  | .bool b => inv_bool b
  | .nil => inv_nil
  | .str s => inv_str s
  | .ident x => inv_ident x
  | .infix op l r => inv_infix op l r (inv_all l) (inv_all r)
  | .neg e => inv_neg e (inv_all e)
  | .not e => inv_not e (inv_all e)
  | .tern c a b => inv_tern c a b (inv_all c) (inv_all a) (inv_all b)
  | .isIn x c => inv_isIn x c (inv_all x) (inv_all c)
  | .notIn x c => inv_notIn x c (inv_all x) (inv_all c)
  | .call f args => inv_call f args (inv_all f) (invArgs_all args)
  | .mcall o name args => inv_mcall o name args (inv_all o) (invArgs_all args)
  | .index e i => inv_index e i (inv_all e) (inv_all i)
  | .slice e lo hi => inv_slice e lo hi (inv_all e) (invOpt_all lo) (invOpt_all hi)
  | .list items => inv_list items (invArgs_all items)
theorem invArgs_all : ∀ a : Args, InvArgs a
  | .nil => invArgs_nil
  | .cons e es => invArgs_cons e es (inv_all e) (invTail_all es)
theorem invTail_all : ∀ a : Args, InvTail a
  | .nil => invTail_nil
  | .cons e es => invTail_cons e es (inv_all e) (invTail_all es)
theorem invOpt_all : ∀ o : Opt, InvOpt o
  | .none => trivial
  | .some e => inv_all e
end

/-! ### a `?` met while the `tern` flag is set makes the parse fail, whatever the fuel -/

theorem loop_question_fails (f p : Nat) (l : Expr) (R : List Token) (hp : p < 6) :
    loop f true p l (tk .QUESTION :: R) = none := by
  have hk : prec (tk .QUESTION).kind = 6 := rfl
  have hi : infixFn (tk .QUESTION).kind = some .parseTernary := rfl
  cases f with
  | zero => rfl
  | succ f =>
    cases f with
    | zero => simp [loop, hk, hp, hi, infixP]
    | succ f => simp [loop, hk, hp, hi, infixP]

theorem parse_ident_question_fails (f : Nat) (x : String) (R : List Token) :
    parseNode f true 1 (⟨.IDENT, x⟩ :: tk .QUESTION :: R) = none := by
  cases f with
  | zero => rfl
  | succ f =>
    cases f with
    | zero => simp [parseNode, prefixP]
    | succ f => simp [parseNode, prefixP_ident, loop_question_fails]

theorem parse_paren_ident_question_fails (f : Nat) (x : String) (R : List Token) :
    parseNode f true 1 (tk .LPAREN :: ⟨.IDENT, x⟩ :: tk .QUESTION :: R) = none := by
  have h1 : prefixFn (tk .LPAREN).kind = some .parseGroupedExpr := rfl
  have h2 : isPostfix (tk .LPAREN).kind = false := rfl
  cases f with
  | zero => rfl
  | succ f =>
    cases f with
    | zero => simp [parseNode, prefixP]
    | succ f => simp [parseNode, prefixP, h1, h2, Level.num, parse_ident_question_fails]

/-- `a ? ( b ? …` fails for every fuel -/
theorem parse_nested_ternary_fails (f : Nat) (a b : String) (R : List Token) :
    parseNode f false 1
      (⟨.IDENT, a⟩ :: tk .QUESTION :: tk .LPAREN :: ⟨.IDENT, b⟩ :: tk .QUESTION :: R) = none := by
  have hk : prec (tk .QUESTION).kind = 6 := rfl
  have hi : infixFn (tk .QUESTION).kind = some .parseTernary := rfl
  cases f with
  | zero => rfl
  | succ f =>
    cases f with
    | zero => simp [parseNode, prefixP]
    | succ f =>
      cases f with
      | zero => simp [parseNode, prefixP_ident, loop, hk, hi, infixP]
      | succ f =>
        simp [parseNode, prefixP_ident, loop, hk, hi, infixP, Level.num,
          parse_paren_ident_question_fails]

end Risor.C01.Pratt
