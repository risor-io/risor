import RisorModel.C01.CloVM
import RisorModel.C01.CloLemmas
/-!
C01, closure fragment — the machine with relocation (`CloVM.lean`) runs in LOCKSTEP with the
machine whose store is the semantics' store (`Clo.lean`), under the relation `RelC` between the semantics' cells and the cells of
the machine with relocation (`M2.of m1 h cur frs caps` is the state with `m1`'s skeleton).
Core Lean only.
-/
namespace Risor.C01.Clo
open Risor.C01

/-! ### cells -/

theorem cget_set_same (h : Cells) (a : Nat) (x : String) (v : V) : (h.set a x v).get a x = v := by
  simp [Cells.set, Cells.get]

theorem cget_set_other (h : Cells) (a b : Nat) (x y : String) (v : V) (hne : ¬ (b = a ∧ y = x)) :
    (h.set a x v).get b y = h.get b y := by
  have : (b == a && y == x) = false := by
    rcases Nat.decEq b a with h1 | h1
    · simp [h1]
    · rcases String.decEq y x with h2 | h2
      · simp [h2]
      · exact absurd ⟨h1, h2⟩ hne
  simp only [Cells.set, Cells.get, this, Bool.false_eq_true, ↓reduceIte]

theorem cget_bind_other (h : Cells) (a b : Nat) (L : Store) (x : String) (hne : b ≠ a) :
    (h.bind a L).get b x = h.get b x := by
  induction L with
  | nil => rfl
  | cons p r ih =>
    have : (b == a && x == p.1) = false := by simp [hne]
    simpa only [Cells.bind, List.map_cons, List.cons_append, Cells.get, this, Bool.false_eq_true, ↓reduceIte] using ih

/-- the slice made of the locals `L` holds what `L` held -/
theorem cget_bind_same (h : Cells) (a : Nat) (L : Store) (x : String) (hn : h.get a x = .nil) :
    (h.bind a L).get a x = L.get x := by
  induction L with
  | nil => simpa [Cells.bind, Store.get] using hn
  | cons p r ih =>
    obtain ⟨y, v⟩ := p
    simp only [Cells.bind, List.map_cons, List.cons_append, Cells.get, Store.get, beq_self_eq_true, Bool.true_and]
    by_cases hxy : (x == y) = true
    · simp [hxy]
    · simp only [hxy, Bool.false_eq_true, ↓reduceIte]; exact ih

theorem cget_nokeys (h : Cells) (a : Nat) (x : String) (hk : ∀ e ∈ h, e.1.1 ≠ a) : h.get a x = .nil := by
  induction h with
  | nil => rfl
  | cons e r ih =>
    obtain ⟨⟨b, y⟩, v⟩ := e
    have hb : b ≠ a := hk _ (List.mem_cons_self ..)
    have : (a == b && x == y) = false := by simp [Ne.symm hb]
    simp only [Cells.get, this, Bool.false_eq_true, ↓reduceIte]
    exact ih (fun e he => hk e (List.mem_cons_of_mem _ he))

/-! ### values that mention captured cells only -/

theorem okV_mono {caps caps' : List Nat} (hs : ∀ b ∈ caps, b ∈ caps') {v : V} (h : okV caps v) : okV caps' v := by
  cases v with
  | cell b x => exact hs b h
  | clo i k cs => exact fun c hc => hs _ (h c hc)
  | _ => trivial

theorem okL_mono {caps caps' : List Nat} (hs : ∀ b ∈ caps, b ∈ caps') {l : List V} (h : okL caps l) : okL caps' l :=
  fun v hv => okV_mono hs (h v hv)
theorem okS_mono {caps caps' : List Nat} (hs : ∀ b ∈ caps, b ∈ caps') {s : Store} (h : okS caps s) : okS caps' s :=
  fun e he => okV_mono hs (h e he)
theorem okA_mono {caps caps' : List Nat} (hs : ∀ b ∈ caps, b ∈ caps') {a : Act} (h : okA caps a) : okA caps' a :=
  fun c hc => hs _ (h c hc)

theorem okS_get {caps : List Nat} {s : Store} (h : okS caps s) (x : String) : okV caps (s.get x) := by
  induction s with
  | nil => trivial
  | cons e r ih =>
    obtain ⟨y, v⟩ := e
    simp only [Store.get]
    split
    · exact h (y, v) (List.mem_cons_self ..)
    · exact ih (fun e he => h e (List.mem_cons_of_mem _ he))

theorem okH_get {caps : List Nat} {h : Cells} (hok : ∀ e ∈ h, okV caps e.2) (a : Nat) (x : String) : okV caps (h.get a x) := by
  induction h with
  | nil => trivial
  | cons e r ih =>
    obtain ⟨⟨b, y⟩, v⟩ := e
    simp only [Cells.get]
    split
    · exact hok _ (List.mem_cons_self ..)
    · exact ih (fun e he => hok e (List.mem_cons_of_mem _ he))

theorem okS_set {caps : List Nat} {s : Store} (h : okS caps s) (x : String) {v : V} (hv : okV caps v) : okS caps (s.set x v) := by
  intro e he
  rcases List.mem_cons.1 he with rfl | he
  · exact hv
  · exact h e he

/-- whatever value `r` yields mentions captured cells only -/
def okR (caps : List Nat) (r : Except String V) : Prop := ∀ v, r = .ok v → okV caps v

theorem okR.ok {caps : List Nat} {v : V} (h : okV caps v) : okR caps (.ok v) := fun _ e => by cases e; exact h
theorem okR.error {caps : List Nat} {e : String} : okR caps (.error e) := fun _ e => by cases e
theorem okR.ite {caps : List Nat} {c : Prop} [Decidable c] {x y : Except String V} (hx : okR caps x) (hy : okR caps y) :
    okR caps (if c then x else y) := by
  split
  · exact hx
  · exact hy

theorem okV_ite {caps : List Nat} {c : Bool} {a b : V} (ha : okV caps a) (hb : okV caps b) :
    okV caps (if c = true then a else b) := by
  cases c
  · exact hb
  · exact ha

/-- `&&` and `||` hand on an operand; every other result is an integer or a string.  (No `split`:
    the splitter of the match on two values is dear to generate; the cases reduce by evaluation.) -/
theorem okV_vBinaryF {caps : List Nat} {k : Nat} {a b v : V} (h : vBinaryF k a b = .ok v) (ha : okV caps a) (hb : okV caps b) :
    okV caps v := by
  refine (?_ : okR caps (vBinaryF k a b)) v h
  unfold vBinaryF
  refine .ite (.ok (okV_ite hb ha)) (.ite (.ok (okV_ite ha hb)) ?_)
  cases a <;> first | exact .error | skip
  all_goals cases b <;> first | exact .error | skip
  all_goals repeat (first | exact .error | exact .ok trivial | apply okR.ite)

/-- a comparison yields a boolean -/
theorem okV_vCompareF {caps : List Nat} {k : Nat} {a b v : V} (h : vCompareF k a b = .ok v) : okV caps v := by
  refine (?_ : okR caps (vCompareF k a b)) v h
  unfold vCompareF
  refine .ite (.ok trivial) (.ite (.ok trivial) ?_)
  cases a <;> first | exact .error | skip
  all_goals cases b <;> first | exact .error | exact .ok trivial

/-- the cells `LoadClosure` pops were on the stack; what stays was on the stack -/
theorem popCells_ok {caps : List Nat} : ∀ (n : Nat) (s : List V) (acc cs : List Cell) (rest : List V),
    popCells n s acc = some (cs, rest) → okL caps s → (∀ c ∈ acc, c.1 ∈ caps) →
    (∀ c ∈ cs, c.1 ∈ caps) ∧ okL caps rest
  | 0, s, acc, cs, rest, h, hs, ha => by
    simp only [popCells, Option.some.injEq, Prod.mk.injEq] at h
    obtain ⟨rfl, rfl⟩ := h
    exact ⟨ha, hs⟩
  | n + 1, [], acc, cs, rest, h, _, _ => by simp [popCells] at h
  | n + 1, v :: s, acc, cs, rest, h, hs, ha => by
    cases v with
    | cell a x =>
      simp only [popCells] at h
      refine popCells_ok n s ((a, x) :: acc) cs rest h (fun v hv => hs v (List.mem_cons_of_mem _ hv)) ?_
      intro c hc
      rcases List.mem_cons.1 hc with rfl | hc
      · exact hs (.cell a x) (List.mem_cons_self ..)
      · exact ha c hc
    | _ => simp [popCells] at h

/-! ### instructions that do not look at the cells -/

/-- every instruction of an activation but `LoadFast`, `StoreFast`, `LoadFree`, `StoreFree`, `MakeCell` -/
def isPure : FIns → Bool
  | .loadF _ | .storeF _ | .loadFree _ | .storeFree _ | .makeCell _ => false
  | _ => true

/-- an instruction that does not look at the cells does the same whatever the cells are -/
theorem pure_exec (i : FIns) (hp : isPure i = true) (c : Cfg) (h : Cells) :
    execIns i (c.withCells h) = (match execIns i c with
      | .ok c' => .ok (c'.withCells h)
      | .error e => .error e) := by
  obtain ⟨pc, stk, σ⟩ := c
  cases i <;> cases hp <;> rcases stk with _ | ⟨a, _ | ⟨b, r⟩⟩ <;>
    first | rfl | (simp only [execIns, Cfg.withCells]; split <;> first | rfl | (split <;> rfl))

theorem okL_cons {caps : List Nat} {v : V} {l : List V} (hv : okV caps v) (hl : okL caps l) : okL caps (v :: l) := by
  intro w hw
  rcases List.mem_cons.1 hw with rfl | hw
  · exact hv
  · exact hl w hw

theorem okL_tail {caps : List Nat} {v : V} {l : List V} (h : okL caps (v :: l)) : okL caps l :=
  fun w hw => h w (List.mem_cons_of_mem _ hw)

theorem okL_head {caps : List Nat} {v : V} {l : List V} (h : okL caps (v :: l)) : okV caps v :=
  h v (List.mem_cons_self ..)

theorem okL_getElem {caps : List Nat} {l : List V} (h : okL caps l) {k : Nat} {v : V} (hk : l[k]? = some v) : okV caps v :=
  h v (List.mem_of_getElem? hk)

theorem okL_set {caps : List Nat} {l : List V} (h : okL caps l) (k : Nat) {v : V} (hv : okV caps v) : okL caps (l.set k v) := by
  intro w hw
  rcases List.mem_or_eq_of_mem_set hw with hw | rfl
  · exact h w hw
  · exact hv

/-- what an instruction that does not look at the cells does to the rest, by what it does to the stack -/
theorem pure_facts {caps : List Nat} (i : FIns) (hp : isPure i = true) (c c' : Cfg) (hx : execIns i c = .ok c')
    (hs : okL caps c.stk) (hg : okS caps c.σ.sh.glob) :
    c'.σ.sh.cells = c.σ.sh.cells ∧ c'.σ.act = c.σ.act ∧ c.σ.sh.next ≤ c'.σ.sh.next ∧
      okL caps c'.stk ∧ okS caps c'.σ.sh.glob := by
  obtain ⟨pc, stk, σ⟩ := c
  cases i with
  | loadF _ | storeF _ | loadFree _ | storeFree _ | makeCell _ => cases hp
  | call _ | ret => cases stk <;> cases hx
  | nop | jf _ | jb _ => cases stk <;> cases hx <;> exact ⟨rfl, rfl, Nat.le_refl _, hs, hg⟩
  | nil_ | true_ | false_ | constInt _ | constStr _ | constFn _ =>
    cases stk <;> cases hx <;> exact ⟨rfl, rfl, Nat.le_refl _, okL_cons trivial hs, hg⟩
  | loadG x => cases stk <;> cases hx <;> exact ⟨rfl, rfl, Nat.le_refl _, okL_cons (okS_get hg _) hs, hg⟩
  | popTop | pjf _ | pjt _ =>
    cases stk with
    | nil => cases hx
    | cons a r => cases hx; exact ⟨rfl, rfl, Nat.le_refl _, okL_tail hs, hg⟩
  | storeG x =>
    cases stk with
    | nil => cases hx
    | cons a r => cases hx; exact ⟨rfl, rfl, Nat.le_refl _, okL_tail hs, okS_set hg _ (okL_head hs)⟩
  | unaryNot =>
    cases stk with
    | nil => cases hx
    | cons a r => cases hx; exact ⟨rfl, rfl, Nat.le_refl _, okL_cons trivial (okL_tail hs), hg⟩
  | unaryNeg =>
    cases stk with
    | nil => cases hx
    | cons a r => cases a <;> cases hx; exact ⟨rfl, rfl, Nat.le_refl _, okL_cons trivial (okL_tail hs), hg⟩
  | binary k =>
    rcases stk with _ | ⟨b, _ | ⟨a, r⟩⟩
    · cases hx
    · cases hx
    · simp only [execIns] at hx
      split at hx <;> cases hx
      exact ⟨rfl, rfl, Nat.le_refl _,
        okL_cons (okV_vBinaryF ‹_› (okL_head (okL_tail hs)) (okL_head hs)) (okL_tail (okL_tail hs)), hg⟩
  | compare k =>
    rcases stk with _ | ⟨b, _ | ⟨a, r⟩⟩
    · cases hx
    · cases hx
    · simp only [execIns] at hx
      split at hx <;> cases hx
      exact ⟨rfl, rfl, Nat.le_refl _, okL_cons (okV_vCompareF ‹_›) (okL_tail (okL_tail hs)), hg⟩
  | copy k =>
    simp only [execIns] at hx
    split at hx <;> cases hx
    exact ⟨rfl, rfl, Nat.le_refl _, okL_cons (okL_getElem hs ‹_›) hs, hg⟩
  | swap k =>
    cases stk with
    | nil => cases hx
    | cons top s =>
      simp only [execIns] at hx
      split at hx
      · cases hx; exact ⟨rfl, rfl, Nat.le_refl _, hs, hg⟩
      · split at hx <;> cases hx
        exact ⟨rfl, rfl, Nat.le_refl _,
          okL_cons (okL_getElem (okL_tail hs) ‹_›) (okL_set (okL_tail hs) _ (okL_head hs)), hg⟩
  | loadClosure k n =>
    simp only [execIns] at hx
    split at hx <;> cases hx
    have := popCells_ok _ _ _ _ _ ‹_› hs (by intro c hc; cases hc)
    exact ⟨rfl, rfl, Nat.le_succ _, okL_cons (fun c hc => this.1 c hc) this.2, hg⟩

/-! ### writes seen through `view` -/

theorem sget_set (s : Store) (x y : String) (v : V) : (s.set x v).get y = if y == x then v else s.get y := rfl

theorem cellOf_caps {caps : List Nat} {a : Act} (ha : okA caps a) (h0 : 0 ∈ caps) (x : String) : (a.cellOf x).1 ∈ caps := by
  unfold Act.cellOf
  split
  · rename_i c hc; exact ha c (List.mem_of_find?_eq_some hc)
  · exact h0

/-- writing the heap cell `(b, y)` on both sides keeps a frame's view, provided the frame is
    captured when it is the activation `b` -/
theorem set_both {c1 h : Cells} {l : Loc} {i b : Nat} {y : String} {v : V}
    (hv : ∀ x, c1.get i x = view h l i x) (hc : i = b → l.cap = true) :
    ∀ x, (c1.set b y v).get i x = view (h.set b y v) l i x := by
  intro x
  by_cases hk : i = b ∧ x = y
  · obtain ⟨rfl, rfl⟩ := hk
    simp only [view, hc rfl, ↓reduceIte, cget_set_same]
  · rw [cget_set_other _ _ _ _ _ _ hk, hv x]
    unfold view
    split
    · rw [cget_set_other _ _ _ _ _ _ hk]
    · rfl

theorem Sus_set {c1 h : Cells} {caps : List Nat} {b : Nat} {y : String} {v : V} (hb : b ∈ caps) :
    ∀ (fs : List Frame) (ls : List Loc), Sus c1 h caps fs ls → Sus (c1.set b y v) (h.set b y v) caps fs ls
  | [], [], _ => trivial
  | fr :: fs, l :: ls, ⟨h1, h2, h3, h4, h5, h6⟩ =>
    ⟨set_both h1 (fun e => h2.2 (e ▸ hb)), h2, h3, h4, h5, Sus_set hb fs ls h6⟩
  | [], _ :: _, hf => hf.elim
  | _ :: _, [], hf => hf.elim

/-- the semantics' cells change only at activations that are not suspended -/
theorem Sus_other {c1 c1' h : Cells} {caps : List Nat} :
    ∀ (fs : List Frame) (ls : List Loc), (∀ fr ∈ fs, ∀ x, c1'.get fr.act.id x = c1.get fr.act.id x) →
      Sus c1 h caps fs ls → Sus c1' h caps fs ls
  | [], [], _, _ => trivial
  | fr :: fs, l :: ls, hc, ⟨h1, h2, h3, h4, h5, h6⟩ =>
    ⟨fun x => (hc fr (List.mem_cons_self ..) x).trans (h1 x), h2, h3, h4, h5,
      Sus_other fs ls (fun fr' hf => hc fr' (List.mem_cons_of_mem _ hf)) h6⟩
  | [], _ :: _, _, hf => hf.elim
  | _ :: _, [], _, hf => hf.elim

/-- `CaptureLocals` of the activation `a` (not suspended): the other frames do not notice -/
theorem Sus_capture {c1 h : Cells} {caps : List Nat} {a : Nat} {L : Store} :
    ∀ (fs : List Frame) (ls : List Loc), (∀ fr ∈ fs, fr.act.id ≠ a) →
      Sus c1 h caps fs ls → Sus c1 (h.bind a L) (a :: caps) fs ls
  | [], [], _, _ => trivial
  | fr :: fs, l :: ls, hne, ⟨h1, h2, h3, h4, h5, h6⟩ => by
    have hn := hne fr (List.mem_cons_self ..)
    have sub : ∀ b ∈ caps, b ∈ a :: caps := fun b hb => List.mem_cons_of_mem _ hb
    refine ⟨?_, ?_, okS_mono sub h3, okL_mono sub h4, okA_mono sub h5,
      Sus_capture fs ls (fun fr' hf => hne fr' (List.mem_cons_of_mem _ hf)) h6⟩
    · intro x
      rw [h1 x]; unfold view; split
      · rw [cget_bind_other _ _ _ _ _ hn]
      · rfl
    · rw [h2, List.mem_cons]
      exact ⟨Or.inr, fun h => h.resolve_left hn⟩
  | [], _ :: _, _, hf => hf.elim
  | _ :: _, [], _, hf => hf.elim

/-! ### lockstep -/

/-- the defaults of the program's parameters are plain values (`paramOf`: int, bool, string) -/
def ParamsPlain (P : Prog) : Prop := ∀ g fc, P.find g = some fc → ∀ p ∈ fc.params, ∀ d, p.2 = some d → okV [] d

variable {P : Prog}

/-- what `lockstep` says of one state `m1` and a state of the machine with relocation related to it -/
def Lock (P : Prog) (m1 : M) (h : Cells) (cur : Loc) (frs : List Loc) (caps : List Nat) : Prop :=
  (∀ m1', mstep P m1 = .ok m1' → ∃ h' cur' frs' caps',
      mstep2 P (M2.of m1 h cur frs caps) = .ok (M2.of m1' h' cur' frs' caps') ∧ RelC m1' h' cur' frs' caps') ∧
  (∀ e, mstep P m1 = .error e → mstep2 P (M2.of m1 h cur frs caps) = .error e)

theorem mstep_default (m : M) (i : FIns) (hi : (P.codeOf m.fn)[m.cfg.pc]? = some (some i))
    (h1 : ∀ n, i ≠ .call n) (h2 : i ≠ .ret) :
    mstep P m = (match execIns i m.cfg with
      | .ok c => .ok { m with cfg := c }
      | .error (.done v) => if m.frames.isEmpty then .error (.done v) else .error (.err "eval")
      | .error e => .error e) := by
  obtain ⟨⟨pc, stk, σ⟩, fn, frames⟩ := m
  unfold mstep
  simp only at hi ⊢
  rw [hi]
  split
  · rename_i n heq; simp only [Option.some.injEq] at heq; exact absurd heq (h1 n)
  · rename_i heq; simp only [Option.some.injEq] at heq; exact absurd heq h2
  · simp only [step_of hi]
    rfl

theorem mstep2_default (s : M2) (i : FIns) (hi : (P.codeOf s.m.fn)[s.m.cfg.pc]? = some (some i))
    (hp : isPure i = true ∨ (∃ x, i = .loadFree x) ∨ (∃ x, i = .storeFree x)) (h1 : ∀ n, i ≠ .call n) (h2 : i ≠ .ret) :
    mstep2 P s = (match mstep P s.m with
      | .ok m' => .ok { s with m := m' }
      | .error h => .error h) := by
  unfold mstep2
  rw [hi]
  split
  · rename_i x heq; simp only [Option.some.injEq] at heq; subst heq
    rcases hp with hp | ⟨y, hp⟩ | ⟨y, hp⟩ <;> simp [isPure] at hp
  · rename_i x heq; simp only [Option.some.injEq] at heq; subst heq
    rcases hp with hp | ⟨y, hp⟩ | ⟨y, hp⟩ <;> simp [isPure] at hp
  · rename_i x heq; simp only [Option.some.injEq] at heq; subst heq
    rcases hp with hp | ⟨y, hp⟩ | ⟨y, hp⟩ <;> simp [isPure] at hp
  · rename_i n heq; simp only [Option.some.injEq] at heq; exact absurd heq (h1 n)
  · rename_i heq; simp only [Option.some.injEq] at heq; exact absurd heq h2
  · rfl

/-- an instruction that does not look at the cells: both machines do the same -/
theorem lockstep_pure (m1 : M) (h : Cells) (cur : Loc) (frs : List Loc) (caps : List Nat) (R : RelC m1 h cur frs caps)
    (i : FIns) (hi : (P.codeOf m1.fn)[m1.cfg.pc]? = some (some i))
    (hp : isPure i = true) (h1 : ∀ n, i ≠ .call n) (h2 : i ≠ .ret) :
    Lock P m1 h cur frs caps := by
  unfold Lock
  have hi2 : (P.codeOf (M2.of m1 h cur frs caps).m.fn)[(M2.of m1 h cur frs caps).m.cfg.pc]? = some (some i) := hi
  rw [mstep2_default _ i hi2 (.inl hp) h1 h2, mstep_default _ i hi2 h1 h2, mstep_default m1 i hi h1 h2]
  simp only [M2.of]
  rw [pure_exec i hp m1.cfg h]
  cases hx : execIns i m1.cfg with
  | ok c' =>
    simp only
    refine ⟨?_, by intro e he; cases he⟩
    intro m1' hm
    simp only [Except.ok.injEq] at hm
    subst hm
    obtain ⟨f1, f2, f3, f4, f5⟩ := pure_facts i hp m1.cfg c' hx R.okStk R.okGlob
    refine ⟨h, cur, frs, caps, rfl, ?_⟩
    exact {
      run := by simp only [f1, f2]; exact R.run
      sus := by simp only [f1]; exact R.sus
      heap := by simp only [f1]; exact R.heap
      fresh := by simp only [f1]; exact fun b x hb => R.fresh b x (Nat.le_trans f3 hb)
      capcur := by simp only [f2]; exact R.capcur
      nodup := by simp only [f2]; exact R.nodup
      below := by simp only [f2]; exact fun i hi => Nat.lt_of_lt_of_le (R.below i hi) f3
      capsBelow := fun b hb => Nat.lt_of_lt_of_le (R.capsBelow b hb) f3
      heapKeys := R.heapKeys
      zero := R.zero
      okStk := f4
      okLoc := R.okLoc
      okGlob := f5
      okHeap := R.okHeap
      okAct := by simp only [f2]; exact R.okAct }
  | error e =>
    cases e with
    | done v =>
      simp only
      refine ⟨(by intro m1' hm; split at hm <;> cases hm), ?_⟩
      intro e' he
      split at he <;> simp_all
    | err c => exact ⟨(by intro m1' hm; cases hm), fun e' he => by simpa using he⟩
    | nonlocal => exact ⟨(by intro m1' hm; cases hm), fun e' he => by simpa using he⟩

/-- writing a heap cell `(b, y)` (of a captured activation) on both sides -/
theorem RelC_write {m1 : M} {h : Cells} {cur : Loc} {frs : List Loc} {caps : List Nat} (R : RelC m1 h cur frs caps)
    (b : Nat) (y : String) (v : V) (hb : b ∈ caps) (hv : okV caps v) (pc' : Nat) (stk' : List V) (fn' : Option FnId)
    (hstk : okL caps stk') :
    RelC ⟨⟨pc', stk', { m1.cfg.σ with sh := { m1.cfg.σ.sh with cells := m1.cfg.σ.sh.cells.set b y v } }⟩, fn', m1.frames⟩
      (h.set b y v) cur frs caps :=
  { run := set_both R.run (fun e => R.capcur.2 (e ▸ hb))
    sus := Sus_set hb _ _ R.sus
    heap := by
      intro b' hb' x
      by_cases hk : b' = b ∧ x = y
      · obtain ⟨rfl, rfl⟩ := hk; simp only [cget_set_same]
      · simp only [cget_set_other _ _ _ _ _ _ hk]; exact R.heap b' hb' x
    fresh := by
      intro b' x hb'
      have hlt : b < m1.cfg.σ.sh.next := R.capsBelow b hb
      have hb'' : m1.cfg.σ.sh.next ≤ b' := hb'
      have hk : ¬ (b' = b ∧ x = y) := fun e => by have := e.1; omega
      simp only [cget_set_other _ _ _ _ _ _ hk]; exact R.fresh b' x hb'
    capcur := R.capcur
    nodup := R.nodup
    below := R.below
    capsBelow := R.capsBelow
    heapKeys := by
      intro e he
      rcases List.mem_cons.1 he with rfl | he
      · exact hb
      · exact R.heapKeys e he
    zero := R.zero
    okStk := hstk
    okLoc := R.okLoc
    okGlob := R.okGlob
    okHeap := by
      intro e he
      rcases List.mem_cons.1 he with rfl | he
      · exact hv
      · exact R.okHeap e he
    okAct := R.okAct }

/-- only the operand stack / position changes -/
theorem RelC_stk {m1 : M} {h : Cells} {cur : Loc} {frs : List Loc} {caps : List Nat} (R : RelC m1 h cur frs caps)
    (pc' : Nat) (stk' : List V) (fn' : Option FnId) (hstk : okL caps stk') :
    RelC ⟨⟨pc', stk', m1.cfg.σ⟩, fn', m1.frames⟩ h cur frs caps :=
  { run := R.run, sus := R.sus, heap := R.heap, fresh := R.fresh, capcur := R.capcur, nodup := R.nodup, below := R.below,
    capsBelow := R.capsBelow, heapKeys := R.heapKeys, zero := R.zero, okStk := hstk, okLoc := R.okLoc, okGlob := R.okGlob,
    okHeap := R.okHeap, okAct := R.okAct }

theorem view_ok {caps : List Nat} {h : Cells} {l : Loc} (hh : ∀ e ∈ h, okV caps e.2) (hl : okS caps l.loc) (a : Nat) (x : String) :
    okV caps (view h l a x) := by
  unfold view
  split
  · exact okH_get hh a x
  · exact okS_get hl x

theorem mstep_noins (m : M) (hi : (P.codeOf m.fn)[m.cfg.pc]? = none ∨ (P.codeOf m.fn)[m.cfg.pc]? = some none) :
    mstep P m = (if m.cfg.pc ≥ (P.codeOf m.fn).length then
        (if m.frames.isEmpty then .error (.done (m.cfg.stk.headD .nil)) else .error (.err "eval"))
      else .error (.err "eval")) := by
  unfold mstep step
  rcases hi with hi | hi <;> rw [hi] <;> by_cases hp : m.cfg.pc ≥ (P.codeOf m.fn).length <;> simp [hp]

theorem lockstep_loadF {m1 : M} {h : Cells} {cur : Loc} {frs : List Loc} {caps : List Nat} (R : RelC m1 h cur frs caps)
    (x : String) (hi : (P.codeOf m1.fn)[m1.cfg.pc]? = some (some (.loadF x))) :
    Lock P m1 h cur frs caps := by
  unfold Lock
  obtain ⟨⟨pc, stk, ⟨act, ⟨c1, glob, next⟩⟩⟩, fn, frames⟩ := m1
  rw [mstep_default _ _ hi (by intro n hn; cases hn) (by intro hn; cases hn)]
  simp only [execIns]
  refine ⟨?_, by intro e he; cases he⟩
  intro m1' hm
  cases hm
  refine ⟨h, cur, frs, caps, ?_, RelC_stk R _ _ _ (okL_cons
    (by have := R.run x; simp only at this; rw [this]; exact view_ok R.okHeap R.okLoc _ _) R.okStk)⟩
  · unfold mstep2
    have hi2 : (P.codeOf (M2.of ⟨⟨pc, stk, ⟨act, ⟨c1, glob, next⟩⟩⟩, fn, frames⟩ h cur frs caps).m.fn)[(M2.of ⟨⟨pc, stk, ⟨act, ⟨c1, glob, next⟩⟩⟩, fn, frames⟩ h cur frs caps).m.cfg.pc]? = some (some (.loadF x)) := hi
    rw [hi2]
    have := R.run x
    simp only at this
    simp only [M2.of, M2.setCfg, Cfg.withCells, M2.heap, M2.id, this]

theorem lockstep_loadFree {m1 : M} {h : Cells} {cur : Loc} {frs : List Loc} {caps : List Nat} (R : RelC m1 h cur frs caps)
    (x : String) (hi : (P.codeOf m1.fn)[m1.cfg.pc]? = some (some (.loadFree x))) :
    Lock P m1 h cur frs caps := by
  unfold Lock
  obtain ⟨⟨pc, stk, ⟨act, ⟨c1, glob, next⟩⟩⟩, fn, frames⟩ := m1
  have hb : (act.cellOf x).1 ∈ caps := cellOf_caps R.okAct R.zero x
  have hval := R.heap _ hb (act.cellOf x).2
  simp only at hval
  have hi2 : (P.codeOf (M2.of ⟨⟨pc, stk, ⟨act, ⟨c1, glob, next⟩⟩⟩, fn, frames⟩ h cur frs caps).m.fn)[(M2.of ⟨⟨pc, stk, ⟨act, ⟨c1, glob, next⟩⟩⟩, fn, frames⟩ h cur frs caps).m.cfg.pc]? = some (some (.loadFree x)) := hi
  rw [mstep_default _ _ hi (by intro n hn; cases hn) (by intro hn; cases hn),
    mstep2_default _ _ hi2 (.inr (.inl ⟨x, rfl⟩)) (by intro n hn; cases hn) (by intro hn; cases hn),
    mstep_default _ _ hi2 (by intro n hn; cases hn) (by intro hn; cases hn)]
  simp only [execIns, M2.of, Cfg.withCells]
  refine ⟨?_, by intro e he; cases he⟩
  intro m1' hm
  cases hm
  refine ⟨h, cur, frs, caps, by rw [hval], RelC_stk R _ _ _ (okL_cons (by rw [hval]; exact okH_get R.okHeap _ _) R.okStk)⟩

theorem lockstep_storeFree {m1 : M} {h : Cells} {cur : Loc} {frs : List Loc} {caps : List Nat} (R : RelC m1 h cur frs caps)
    (x : String) (hi : (P.codeOf m1.fn)[m1.cfg.pc]? = some (some (.storeFree x))) :
    Lock P m1 h cur frs caps := by
  unfold Lock
  obtain ⟨⟨pc, stk, ⟨act, ⟨c1, glob, next⟩⟩⟩, fn, frames⟩ := m1
  have hb : (act.cellOf x).1 ∈ caps := cellOf_caps R.okAct R.zero x
  have hi2 : (P.codeOf (M2.of ⟨⟨pc, stk, ⟨act, ⟨c1, glob, next⟩⟩⟩, fn, frames⟩ h cur frs caps).m.fn)[(M2.of ⟨⟨pc, stk, ⟨act, ⟨c1, glob, next⟩⟩⟩, fn, frames⟩ h cur frs caps).m.cfg.pc]? = some (some (.storeFree x)) := hi
  rw [mstep_default _ _ hi (by intro n hn; cases hn) (by intro hn; cases hn),
    mstep2_default _ _ hi2 (.inr (.inr ⟨x, rfl⟩)) (by intro n hn; cases hn) (by intro hn; cases hn),
    mstep_default _ _ hi2 (by intro n hn; cases hn) (by intro hn; cases hn)]
  cases stk with
  | nil =>
    simp only [execIns, M2.of, Cfg.withCells]
    exact ⟨(by intro m1' hm; cases hm), fun e he => by cases he; rfl⟩
  | cons v r =>
    simp only [execIns, M2.of, Cfg.withCells]
    refine ⟨?_, by intro e he; cases he⟩
    intro m1' hm
    cases hm
    exact ⟨h.set (act.cellOf x).1 (act.cellOf x).2 v, cur, frs, caps, rfl,
      RelC_write R _ _ v hb (okL_head R.okStk) _ _ _ (okL_tail R.okStk)⟩

theorem lockstep_storeF {m1 : M} {h : Cells} {cur : Loc} {frs : List Loc} {caps : List Nat} (R : RelC m1 h cur frs caps)
    (x : String) (hi : (P.codeOf m1.fn)[m1.cfg.pc]? = some (some (.storeF x))) :
    Lock P m1 h cur frs caps := by
  unfold Lock
  obtain ⟨⟨pc, stk, ⟨act, ⟨c1, glob, next⟩⟩⟩, fn, frames⟩ := m1
  have hi2 : (P.codeOf (M2.of ⟨⟨pc, stk, ⟨act, ⟨c1, glob, next⟩⟩⟩, fn, frames⟩ h cur frs caps).m.fn)[(M2.of ⟨⟨pc, stk, ⟨act, ⟨c1, glob, next⟩⟩⟩, fn, frames⟩ h cur frs caps).m.cfg.pc]? = some (some (.storeF x)) := hi
  rw [mstep_default _ _ hi (by intro n hn; cases hn) (by intro hn; cases hn)]
  unfold mstep2
  rw [hi2]
  cases stk with
  | nil =>
    simp only [execIns, M2.of, Cfg.withCells]
    exact ⟨(by intro m1' hm; cases hm), fun e he => by cases he; rfl⟩
  | cons v r =>
    simp only [execIns, M2.of, Cfg.withCells, M2.setCfg, M2.heap, M2.id]
    refine ⟨?_, by intro e he; cases he⟩
    intro m1' hm
    cases hm
    by_cases hc : cur.cap = true
    · have hb : act.id ∈ caps := R.capcur.1 hc
      exact ⟨h.set act.id x v, cur, frs, caps, by simp only [hc, ↓reduceIte],
        RelC_write R _ _ v hb (okL_head R.okStk) _ _ _ (okL_tail R.okStk)⟩
    · have hc : cur.cap = false := by simpa using hc
      have hnb : act.id ∉ caps := fun hb => by have := R.capcur.2 hb; rw [hc] at this; cases this
      refine ⟨h, { cur with loc := cur.loc.set x v }, frs, caps, by simp only [hc, Bool.false_eq_true, ↓reduceIte], ?_⟩
      have hrun := R.run
      simp only [view, hc, Bool.false_eq_true, ↓reduceIte] at hrun
      exact {
        run := by
          intro y
          simp only [view, hc, Bool.false_eq_true, ↓reduceIte, sget_set]
          by_cases hy : y = x
          · subst hy; simp [cget_set_same]
          · have hk : ¬ (act.id = act.id ∧ y = x) := fun e => hy e.2
            simp only [cget_set_other _ _ _ _ _ _ hk, hrun y]
            simp [hy]
        sus := by
          refine Sus_other _ _ ?_ R.sus
          intro fr hfr y
          have hne : fr.act.id ≠ act.id := by
            intro e
            have := R.nodup
            simp only [List.nodup_cons, List.mem_map] at this
            exact this.1 ⟨fr, hfr, e⟩
          exact cget_set_other _ _ _ _ _ _ (fun e => hne e.1)
        heap := by
          intro b hb y
          have hne : b ≠ act.id := fun e => hnb (e ▸ hb)
          simp only [cget_set_other _ _ _ _ _ _ (fun e => hne e.1)]
          exact R.heap b hb y
        fresh := by
          intro b y hb
          have hlt : act.id < next := R.below act.id (List.mem_cons_self ..)
          have hb' : next ≤ b := hb
          have hne : b ≠ act.id := by omega
          simp only [cget_set_other _ _ _ _ _ _ (fun e => hne e.1)]
          exact R.fresh b y hb
        capcur := by simp only [hc]; exact ⟨(fun e => by cases e), fun e => absurd e hnb⟩
        nodup := R.nodup
        below := R.below
        capsBelow := R.capsBelow
        heapKeys := R.heapKeys
        zero := R.zero
        okStk := okL_tail R.okStk
        okLoc := okS_set R.okLoc x (okL_head R.okStk)
        okGlob := R.okGlob
        okHeap := R.okHeap
        okAct := R.okAct }

theorem lockstep_makeCell {m1 : M} {h : Cells} {cur : Loc} {frs : List Loc} {caps : List Nat} (R : RelC m1 h cur frs caps)
    (x : String) (hi : (P.codeOf m1.fn)[m1.cfg.pc]? = some (some (.makeCell x))) :
    Lock P m1 h cur frs caps := by
  unfold Lock
  obtain ⟨⟨pc, stk, ⟨act, ⟨c1, glob, next⟩⟩⟩, fn, frames⟩ := m1
  have hi2 : (P.codeOf (M2.of ⟨⟨pc, stk, ⟨act, ⟨c1, glob, next⟩⟩⟩, fn, frames⟩ h cur frs caps).m.fn)[(M2.of ⟨⟨pc, stk, ⟨act, ⟨c1, glob, next⟩⟩⟩, fn, frames⟩ h cur frs caps).m.cfg.pc]? = some (some (.makeCell x)) := hi
  rw [mstep_default _ _ hi (by intro n hn; cases hn) (by intro hn; cases hn)]
  unfold mstep2
  rw [hi2]
  simp only [execIns, M2.of, Cfg.withCells, M2.setCfg, M2.heap, M2.id, M2.capture]
  refine ⟨?_, by intro e he; cases he⟩
  intro m1' hm
  cases hm
  by_cases hc : cur.cap = true
  · have hb : act.id ∈ caps := R.capcur.1 hc
    exact ⟨h, cur, frs, caps, by simp only [hc, ↓reduceIte], RelC_stk R _ _ _ (okL_cons hb R.okStk)⟩
  · have hc : cur.cap = false := by simpa using hc
    have hnb : act.id ∉ caps := fun hb => by have := R.capcur.2 hb; rw [hc] at this; cases this
    have sub : ∀ b ∈ caps, b ∈ act.id :: caps := fun b hb => List.mem_cons_of_mem _ hb
    have hrun := R.run
    simp only [view, hc, Bool.false_eq_true, ↓reduceIte] at hrun
    have hnil : ∀ y, h.get act.id y = .nil := fun y =>
      cget_nokeys h act.id y (fun e he hk => hnb (hk ▸ R.heapKeys e he))
    have hslice : ∀ y, c1.get act.id y = (h.bind act.id cur.loc).get act.id y := fun y => by
      rw [cget_bind_same _ _ _ _ (hnil y)]; exact hrun y
    refine ⟨h.bind act.id cur.loc, { cur with cap := true }, frs, act.id :: caps,
      by simp only [hc, Bool.false_eq_true, ↓reduceIte], ?_⟩
    exact {
      run := by intro y; simp only [view, ↓reduceIte]; exact hslice y
      sus := by
        refine Sus_capture _ _ ?_ R.sus
        intro fr hfr e
        have := R.nodup
        simp only [List.nodup_cons, List.mem_map] at this
        exact this.1 ⟨fr, hfr, e⟩
      heap := by
        intro b hb y
        rcases List.mem_cons.1 hb with rfl | hb
        · exact hslice y
        · have hne : b ≠ act.id := fun e => hnb (e ▸ hb)
          rw [cget_bind_other _ _ _ _ _ hne]; exact R.heap b hb y
      fresh := R.fresh
      capcur := ⟨fun _ => List.mem_cons_self .., fun _ => rfl⟩
      nodup := R.nodup
      below := R.below
      capsBelow := by
        intro b hb
        rcases List.mem_cons.1 hb with rfl | hb
        · exact R.below _ (List.mem_cons_self ..)
        · exact R.capsBelow b hb
      heapKeys := by
        intro e he
        rcases List.mem_append.1 he with he | he
        · obtain ⟨p, _, rfl⟩ := List.mem_map.1 he; exact List.mem_cons_self ..
        · exact sub _ (R.heapKeys e he)
      zero := sub _ R.zero
      okStk := okL_cons (List.mem_cons_self ..) (okL_mono sub R.okStk)
      okLoc := okS_mono sub R.okLoc
      okGlob := okS_mono sub R.okGlob
      okHeap := by
        intro e he
        rcases List.mem_append.1 he with he | he
        · obtain ⟨p, hp, rfl⟩ := List.mem_map.1 he; exact okV_mono sub (R.okLoc p hp)
        · exact okV_mono sub (R.okHeap e he)
      okAct := okA_mono sub R.okAct }

theorem okS_bindArgs {caps : List Nat} : ∀ (ps : List (String × Option V)) (vs : List V) (L : Store),
    bindArgs ps vs = some L → okL caps vs → (∀ p ∈ ps, ∀ d, p.2 = some d → okV [] d) → okS caps L
  | [], [], L, h, _, _ => by cases h; intro e he; cases he
  | [], _ :: _, L, h, _, _ => by cases h
  | (x, o) :: ps, a :: as, L, h, hv, hd => by
    simp only [bindArgs, Option.map_eq_some_iff] at h
    obtain ⟨L', hL, rfl⟩ := h
    intro e he
    rcases List.mem_cons.1 he with rfl | he
    · exact okL_head hv
    · exact okS_bindArgs ps as L' hL (okL_tail hv) (fun p hp => hd p (List.mem_cons_of_mem _ hp)) e he
  | (x, some d) :: ps, [], L, h, hv, hd => by
    simp only [bindArgs, Option.map_eq_some_iff] at h
    obtain ⟨L', hL, rfl⟩ := h
    intro e he
    rcases List.mem_cons.1 he with rfl | he
    · exact okV_mono (by intro b hb; cases hb) (hd (x, some d) (List.mem_cons_self ..) d rfl)
    · exact okS_bindArgs ps [] L' hL hv (fun p hp => hd p (List.mem_cons_of_mem _ hp)) e he
  | (_, none) :: _, [], L, h, _, _ => by cases h

theorem lockstep_call (hPP : ParamsPlain P) {m1 : M} {h : Cells} {cur : Loc} {frs : List Loc} {caps : List Nat}
    (R : RelC m1 h cur frs caps) (n : Nat) (hi : (P.codeOf m1.fn)[m1.cfg.pc]? = some (some (.call n))) :
    Lock P m1 h cur frs caps := by
  unfold Lock
  obtain ⟨⟨pc, stk, ⟨act, ⟨c1, glob, next⟩⟩⟩, fn, frames⟩ := m1
  have hi2 : (P.codeOf (M2.of ⟨⟨pc, stk, ⟨act, ⟨c1, glob, next⟩⟩⟩, fn, frames⟩ h cur frs caps).m.fn)[(M2.of ⟨⟨pc, stk, ⟨act, ⟨c1, glob, next⟩⟩⟩, fn, frames⟩ h cur frs caps).m.cfg.pc]? = some (some (.call n)) := hi
  have e1 : mstep P ⟨⟨pc, stk, ⟨act, ⟨c1, glob, next⟩⟩⟩, fn, frames⟩ = doCall P n ⟨⟨pc, stk, ⟨act, ⟨c1, glob, next⟩⟩⟩, fn, frames⟩ := by
    unfold mstep; simp only at hi; simp only [hi]
  have e2 : mstep2 P (M2.of ⟨⟨pc, stk, ⟨act, ⟨c1, glob, next⟩⟩⟩, fn, frames⟩ h cur frs caps)
      = doCall2 P n (M2.of ⟨⟨pc, stk, ⟨act, ⟨c1, glob, next⟩⟩⟩, fn, frames⟩ h cur frs caps) := by
    unfold mstep2; rw [hi2]
  rw [e1, e2]
  unfold doCall doCall2
  simp only [M2.of, Cfg.withCells]
  cases hd : stk.drop n with
  | nil => exact ⟨(by intro m1' hm; cases hm), fun e he => by cases he; rfl⟩
  | cons fv rest =>
    simp only
    cases hcal : fv.callee with
    | none => exact ⟨(by intro m1' hm; cases hm), fun e he => by cases he; rfl⟩
    | some gc =>
      obtain ⟨g, cs⟩ := gc
      simp only
      cases hf : P.find g with
      | none => exact ⟨(by intro m1' hm; cases hm), fun e he => by cases he; rfl⟩
      | some fc =>
        simp only
        cases hent : enterLoc fv fc.name fc.named fc.params ((stk.take n).reverse) with
        | none => exact ⟨(by intro m1' hm; cases hm), fun e he => by cases he; rfl⟩
        | some L =>
          simp only
          refine ⟨?_, by intro e he; cases he⟩
          intro m1' hm
          cases hm
          refine ⟨h, ⟨L, false⟩, cur :: frs, caps, rfl, ?_⟩
          have hfvmem : fv ∈ stk := List.mem_of_mem_drop (by rw [hd]; exact List.mem_cons_self ..)
          have hfv : okV caps fv := R.okStk fv hfvmem
          have hrest : okL caps rest := fun v hv => R.okStk v (List.mem_of_mem_drop (by rw [hd]; exact List.mem_cons_of_mem _ hv))
          have hargs : okL caps ((stk.take n).reverse) := fun v hv => R.okStk v (List.mem_of_mem_take (List.mem_reverse.1 hv))
          have hcs : ∀ c ∈ cs, c.1 ∈ caps := by
            cases fv with
            | fn k =>
              simp only [V.callee, Option.some.injEq, Prod.mk.injEq] at hcal
              obtain ⟨_, rfl⟩ := hcal; intro c hc; cases hc
            | clo i k cs' =>
              simp only [V.callee, Option.some.injEq, Prod.mk.injEq] at hcal
              obtain ⟨_, rfl⟩ := hcal; exact hfv
            | nil => simp [V.callee] at hcal
            | bool b => simp [V.callee] at hcal
            | int i => simp [V.callee] at hcal
            | str s => simp [V.callee] at hcal
            | cell a x => simp [V.callee] at hcal
          have hL : okS caps L := by
            unfold enterLoc at hent
            simp only [Option.map_eq_some_iff] at hent
            obtain ⟨L0, hL0, rfl⟩ := hent
            have h0 := okS_bindArgs fc.params _ L0 hL0 hargs (hPP g fc hf)
            split
            · intro e he
              rcases List.mem_append.1 he with he | he
              · exact h0 e he
              · simp only [List.mem_singleton] at he; subst he; exact hfv
            · exact h0
          have hidlt : act.id < next := R.below act.id (List.mem_cons_self ..)
          exact {
            run := by
              intro y
              show (c1.bind next L).get next y = view h ⟨L, false⟩ next y
              simp only [view, Bool.false_eq_true, ↓reduceIte]
              exact cget_bind_same _ _ _ _ (R.fresh next y (Nat.le_refl _))
            sus := by
              refine ⟨?_, R.capcur, R.okLoc, hrest, R.okAct, ?_⟩
              · intro y
                show (c1.bind next L).get act.id y = _
                rw [cget_bind_other _ _ _ _ _ (Nat.ne_of_lt hidlt)]; exact R.run y
              · refine Sus_other _ _ ?_ R.sus
                intro fr hfr y
                have : fr.act.id < next := R.below _ (List.mem_cons_of_mem _ (List.mem_map.2 ⟨fr, hfr, rfl⟩))
                exact cget_bind_other _ _ _ _ _ (Nat.ne_of_lt this)
            heap := by
              intro b hb y
              have : b < next := R.capsBelow b hb
              show (c1.bind next L).get b y = _
              rw [cget_bind_other _ _ _ _ _ (Nat.ne_of_lt this)]; exact R.heap b hb y
            fresh := by
              intro b y hb
              have hb' : next + 1 ≤ b := hb
              show (c1.bind next L).get b y = _
              rw [cget_bind_other _ _ _ _ _ (Nat.ne_of_gt hb')]; exact R.fresh b y (Nat.le_of_succ_le hb')
            capcur := ⟨(fun e => by cases e), fun hb => by have := R.capsBelow next hb; simp only at this; omega⟩
            nodup := by
              show (next :: (act.id :: frames.map (·.act.id))).Nodup
              refine List.nodup_cons.2 ⟨?_, R.nodup⟩
              intro hmem
              have := R.below next hmem
              simp only at this; omega
            below := by
              intro i hi
              show i < next + 1
              rcases List.mem_cons.1 hi with rfl | hi
              · omega
              · have := R.below i hi; simp only at this; omega
            capsBelow := fun b hb => by
              have hlt : b < next := R.capsBelow b hb
              show b < next + 1
              omega
            heapKeys := R.heapKeys
            zero := R.zero
            okStk := fun v hv => by cases hv
            okLoc := hL
            okGlob := R.okGlob
            okHeap := R.okHeap
            okAct := hcs }

theorem lockstep_ret {m1 : M} {h : Cells} {cur : Loc} {frs : List Loc} {caps : List Nat}
    (R : RelC m1 h cur frs caps) (hi : (P.codeOf m1.fn)[m1.cfg.pc]? = some (some .ret)) :
    Lock P m1 h cur frs caps := by
  unfold Lock
  obtain ⟨⟨pc, stk, ⟨act, ⟨c1, glob, next⟩⟩⟩, fn, frames⟩ := m1
  have hi2 : (P.codeOf (M2.of ⟨⟨pc, stk, ⟨act, ⟨c1, glob, next⟩⟩⟩, fn, frames⟩ h cur frs caps).m.fn)[(M2.of ⟨⟨pc, stk, ⟨act, ⟨c1, glob, next⟩⟩⟩, fn, frames⟩ h cur frs caps).m.cfg.pc]? = some (some .ret) := hi
  have e1 : mstep P ⟨⟨pc, stk, ⟨act, ⟨c1, glob, next⟩⟩⟩, fn, frames⟩ = doRet ⟨⟨pc, stk, ⟨act, ⟨c1, glob, next⟩⟩⟩, fn, frames⟩ := by
    unfold mstep; simp only at hi; simp only [hi]
  have e2 : mstep2 P (M2.of ⟨⟨pc, stk, ⟨act, ⟨c1, glob, next⟩⟩⟩, fn, frames⟩ h cur frs caps)
      = doRet2 (M2.of ⟨⟨pc, stk, ⟨act, ⟨c1, glob, next⟩⟩⟩, fn, frames⟩ h cur frs caps) := by
    unfold mstep2; rw [hi2]
  rw [e1, e2]
  unfold doRet doRet2
  simp only [M2.of, Cfg.withCells]
  cases stk with
  | nil => exact ⟨(by intro m1' hm; cases hm), fun e he => by cases he; rfl⟩
  | cons v r =>
    cases frames with
    | nil => exact ⟨(by intro m1' hm; cases hm), fun e he => by cases he; rfl⟩
    | cons fr fs =>
      cases frs with
      | nil => exact (R.sus : False).elim
      | cons l ls =>
        refine ⟨?_, by intro e he; cases he⟩
        intro m1' hm
        cases hm
        obtain ⟨s1, s2, s3, s4, s5, s6⟩ := (R.sus : Sus c1 h caps (fr :: fs) (l :: ls))
        refine ⟨h, l, ls, caps, rfl, ?_⟩
        exact {
          run := s1
          sus := s6
          heap := R.heap
          fresh := R.fresh
          capcur := s2
          nodup := (List.nodup_cons.1 R.nodup).2
          below := fun i hi => R.below i (List.mem_cons_of_mem _ hi)
          capsBelow := R.capsBelow
          heapKeys := R.heapKeys
          zero := R.zero
          okStk := okL_cons (okL_head R.okStk) s4
          okLoc := s3
          okGlob := R.okGlob
          okHeap := R.okHeap
          okAct := s5 }

/-- **Lockstep.**  Whatever the machine `M` (whose store is the semantics') does in one step from a
    state related to a state of the machine with relocation, that machine does in one step too, and
    the states are related again; an error or the end of the run is the same on both. -/
theorem lockstep (hPP : ParamsPlain P) (m1 : M) (h : Cells) (cur : Loc) (frs : List Loc) (caps : List Nat)
    (R : RelC m1 h cur frs caps) :
    (∀ m1', mstep P m1 = .ok m1' → ∃ h' cur' frs' caps',
        mstep2 P (M2.of m1 h cur frs caps) = .ok (M2.of m1' h' cur' frs' caps') ∧ RelC m1' h' cur' frs' caps') ∧
    (∀ e, mstep P m1 = .error e → mstep2 P (M2.of m1 h cur frs caps) = .error e) := by
  have noins : (P.codeOf m1.fn)[m1.cfg.pc]? = none ∨ (P.codeOf m1.fn)[m1.cfg.pc]? = some none →
      Lock P m1 h cur frs caps := by
    intro hi
    unfold Lock
    have hi2 : (P.codeOf (M2.of m1 h cur frs caps).m.fn)[(M2.of m1 h cur frs caps).m.cfg.pc]? = none ∨
        (P.codeOf (M2.of m1 h cur frs caps).m.fn)[(M2.of m1 h cur frs caps).m.cfg.pc]? = some none := hi
    have e2 : mstep2 P (M2.of m1 h cur frs caps) = (match mstep P (M2.of m1 h cur frs caps).m with
        | .ok m' => .ok { (M2.of m1 h cur frs caps) with m := m' }
        | .error h => .error h) := by
      unfold mstep2
      rcases hi2 with hi2 | hi2 <;> rw [hi2] <;> rfl
    rw [e2, mstep_noins _ hi2, mstep_noins _ hi]
    simp only [M2.of, Cfg.withCells]
    by_cases hp : m1.cfg.pc ≥ (P.codeOf m1.fn).length
    · by_cases hf : m1.frames.isEmpty = true
      · simp only [hp, hf, ↓reduceIte]
        exact ⟨(by intro m1' hm; cases hm), fun e he => by cases he; rfl⟩
      · simp only [hp, hf, ↓reduceIte]
        exact ⟨(by intro m1' hm; cases hm), fun e he => by cases he; rfl⟩
    · simp only [hp, ↓reduceIte]
      exact ⟨(by intro m1' hm; cases hm), fun e he => by cases he; rfl⟩
  cases hi : (P.codeOf m1.fn)[m1.cfg.pc]? with
  | none => exact noins (.inl hi)
  | some o =>
    cases o with
    | none => exact noins (.inr hi)
    | some i =>
      cases i
      case loadF x => exact lockstep_loadF R x hi
      case storeF x => exact lockstep_storeF R x hi
      case loadFree x => exact lockstep_loadFree R x hi
      case storeFree x => exact lockstep_storeFree R x hi
      case makeCell x => exact lockstep_makeCell R x hi
      case call n => exact lockstep_call hPP R n hi
      case ret => exact lockstep_ret R hi
      all_goals exact lockstep_pure m1 h cur frs caps R _ hi rfl (by intro n hn; cases hn) (by intro hn; cases hn)

/-! ### runs -/

inductive MSteps2 (P : Prog) : M2 → M2 → Prop where
  | refl (s : M2) : MSteps2 P s s
  | cons {a b c : M2} : mstep2 P a = .ok b → MSteps2 P b c → MSteps2 P a c

/-- a run of `M` is matched, step for step, by a run of the machine with relocation -/
theorem msteps_lock (hPP : ParamsPlain P) {m1 m1' : M} (hs : MSteps P m1 m1') :
    ∀ (h : Cells) (cur : Loc) (frs : List Loc) (caps : List Nat), RelC m1 h cur frs caps →
      ∃ h' cur' frs' caps', MSteps2 P (M2.of m1 h cur frs caps) (M2.of m1' h' cur' frs' caps') ∧ RelC m1' h' cur' frs' caps' := by
  induction hs with
  | refl m => intro h cur frs caps R; exact ⟨h, cur, frs, caps, .refl _, R⟩
  | cons hstep _ ih =>
    intro h cur frs caps R
    obtain ⟨h1, cur1, frs1, caps1, hs1, R1⟩ := (lockstep hPP _ h cur frs caps R).1 _ hstep
    obtain ⟨h2, cur2, frs2, caps2, hs2, R2⟩ := ih h1 cur1 frs1 caps1 R1
    exact ⟨h2, cur2, frs2, caps2, .cons hs1 hs2, R2⟩

/-- a finished run of `M` is a finished run of the machine with relocation: same result, same globals -/
theorem mrun_lock (hPP : ParamsPlain P) : ∀ (k : Nat) (m1 : M) (h : Cells) (cur : Loc) (frs : List Loc) (caps : List Nat),
    RelC m1 h cur frs caps → (mrun P k m1).1 ≠ .running →
    mrun2 P k (M2.of m1 h cur frs caps) = ((mrun P k m1).1, (mrun P k m1).2.glob)
  | 0, m1, h, cur, frs, caps, _, hr => by simp [mrun] at hr
  | k + 1, m1, h, cur, frs, caps, R, hr => by
    have L := lockstep hPP m1 h cur frs caps R
    simp only [mrun, mrun2] at hr ⊢
    cases hstep : mstep P m1 with
    | ok m1' =>
      obtain ⟨h1, cur1, frs1, caps1, hs1, R1⟩ := L.1 _ hstep
      rw [hstep] at hr
      simp only [hs1]
      exact mrun_lock hPP k m1' h1 cur1 frs1 caps1 R1 hr
    | error e =>
      rw [L.2 _ hstep]
      cases e <;> rfl

theorem RelC_init : RelC M.init [] ⟨[], true⟩ [] [0] :=
  { run := fun _ => rfl
    sus := trivial
    heap := fun _ _ _ => rfl
    fresh := fun _ _ _ => rfl
    capcur := ⟨fun _ => List.mem_cons_self .., fun _ => rfl⟩
    nodup := by simp [M.init]
    below := by intro i hi; simp [M.init, Env.init] at hi ⊢; omega
    capsBelow := by intro b hb; simp [M.init, Env.init] at hb ⊢; omega
    heapKeys := fun e he => by cases he
    zero := List.mem_cons_self ..
    okStk := fun v hv => by cases hv
    okLoc := fun e he => by cases he
    okGlob := fun e he => by cases he
    okHeap := fun e he => by cases he
    okAct := fun c hc => by cases hc }

theorem M2_init_of : M2.init = M2.of M.init [] ⟨[], true⟩ [] [0] := rfl

theorem okV_paramOf {q : N} {x : String} {d : V} (h : paramOf q = some (x, some d)) : okV [] d := by
  unfold paramOf at h
  split at h <;> simp only [Option.some.injEq, Prod.mk.injEq, reduceCtorEq, and_false] at h
  all_goals (obtain ⟨_, h⟩ := h; cases h; trivial)

/- The cases of `collect_params` below: a node with one, two or three sub-nodes collects what its sub-nodes
   collect (`col1`/`col2`/`col3`, with the induction hypotheses of the sub-nodes), and is neither a cut point nor a
   statement list (`col_cut`, `col_st`: `collectCut` and `stmtsOf` are empty on it). -/
macro "col_cut" : tactic => `(tactic| (intro d hd; simp [collectCut] at hd))
macro "col_st" : tactic => `(tactic| (intro d hd; simp [collectCut, stmtsOf] at hd))
macro "col1" ih:ident : tactic =>
  `(tactic| (refine ⟨?_, by col_cut, by col_st⟩; intro d hd; simp only [collect] at hd; exact ($ih _).1 d hd))
macro "col2" ih1:ident ih2:ident : tactic =>
  `(tactic| (refine ⟨?_, by col_cut, by col_st⟩; intro d hd; simp only [collect, List.mem_append] at hd
             rcases hd with hd | hd
             · exact ($ih1 _).1 d hd
             · exact ($ih2 _).1 d hd))
macro "col3" ih1:ident ih2:ident ih3:ident : tactic =>
  `(tactic| (refine ⟨?_, by col_cut, by col_st⟩; intro d hd; simp only [collect, List.mem_append] at hd
             rcases hd with (hd | hd) | hd
             · exact ($ih1 _).1 d hd
             · exact ($ih2 _).1 d hd
             · exact ($ih3 _).1 d hd))

/-- every function collected from a program takes its parameters from `paramsOf` -/
theorem collect_params : ∀ (n : N) (pls : List String),
    (∀ d ∈ collect pls n, ∃ ps, d.params = paramsOf ps) ∧ (∀ d ∈ collectCut pls n, ∃ ps, d.params = paramsOf ps) ∧
    (∀ d ∈ collectCut pls (stmtsOf n), ∃ ps, d.params = paramsOf ps) := by
  intro n
  induction n with
  | func name ps b ihp ihb =>
    intro pls
    refine ⟨?_, by col_cut, by col_st⟩
    intro d hd
    cases b <;> simp only [collect, List.mem_cons, List.not_mem_nil, or_false] at hd
    case block s =>
      rcases hd with rfl | hd
      · exact ⟨ps, rfl⟩
      · exact (ihb (ownNames name ps s)).2.2 d hd
    all_goals (subst hd; exact ⟨ps, rfl⟩)
  | cons h t ihh iht =>
    intro pls
    refine ⟨?_, ?_, by col_st⟩
    · intro d hd; simp only [collect, List.mem_append] at hd
      rcases hd with hd | hd
      · exact (ihh _).1 d hd
      · exact (iht _).1 d hd
    · intro d hd; simp only [collectCut] at hd
      split at hd
      · exact (ihh _).1 d hd
      · rcases List.mem_append.1 hd with hd | hd
        · exact (ihh _).1 d hd
        · exact (iht _).2.1 d hd
  | block e ih =>
    intro pls
    refine ⟨?_, by col_cut, ?_⟩
    · intro d hd; simp only [collect] at hd; exact (ih _).1 d hd
    · intro d hd; simp only [stmtsOf] at hd; exact (ih _).2.1 d hd
  | «infix» op l r ihl ihr => intro pls; col2 ihl ihr
  | neg e ih => intro pls; col1 ih
  | not e ih => intro pls; col1 ih
  | expr e ih => intro pls; col1 ih
  | prog e ih => intro pls; col1 ih
  | var x e ih => intro pls; col1 ih
  | assign x op e ih => intro pls; col1 ih
  | forever e ih => intro pls; col1 ih
  | return_ e ih => intro pls; col1 ih
  | default_ e ih => intro pls; col1 ih
  | tern c a b i1 i2 i3 => intro pls; col3 i1 i2 i3
  | if_ c a b i1 i2 i3 => intro pls; col3 i1 i2 i3
  | forcond c b i1 i2 => intro pls; col2 i1 i2
  | call f a i1 i2 => intro pls; col2 i1 i2
  | case_ v b i1 i2 => intro pls; col2 i1 i2
  | switch s c i1 i2 => intro pls; col2 i1 i2
  | for3 i c p b i1 i2 i3 i4 =>
    intro pls
    refine ⟨?_, by col_cut, by col_st⟩; intro d hd; simp only [collect, List.mem_append] at hd
    rcases hd with ((hd | hd) | hd) | hd
    · exact (i1 _).1 d hd
    · exact (i2 _).1 d hd
    · exact (i4 _).1 d hd
    · exact (i3 _).1 d hd
  | _ => intro pls; exact ⟨by intro d hd; simp [collect] at hd, by col_cut, by col_st⟩

theorem paramsPlain_compClo (p : N) : ParamsPlain (compClo p) := by
  intro g fc hf q hq d hd
  have hmem : fc ∈ (compClo p).funs := List.mem_of_find?_eq_some hf
  simp only [compClo, List.mem_map] at hmem
  obtain ⟨dcl, hdcl, rfl⟩ := hmem
  simp only [compDecl] at hq
  obtain ⟨ps, hps⟩ := (collect_params p []).1 dcl hdcl
  rw [hps] at hq
  simp only [paramsOf, List.mem_filterMap] at hq
  obtain ⟨qn, _, hqn⟩ := hq
  obtain ⟨x, o⟩ := q
  simp only at hd; subst hd
  exact okV_paramOf hqn

end Risor.C01.Clo
