import RisorModel.C01.Seq
/-!
C01 fragment F6 — helper lemmas for `SeqProps.lean`: `FragLemmas.lean`'s development over the
state with a heap (`St`): multi-step execution (`Steps`), the position-independence predicate
`CodeAt`, one simulation lemma per construct (`sim_*`), the generic loop lemma, and the constructs
of this fragment: list items, list literals, index reads, item assignment, the range loop.  A
`break` that leaves a range loop pops the iterator: `Lands` states where a `break` lands for BOTH
kinds of enclosing loop (`BrkStk`).  After the simulation lemmas: from `Steps` to the fuel-indexed
`run`, small facts about item writes, `ev_ext` (every evaluation only grows the heap and keeps
every list's length: `Ext`), and facts about item lists and loop-name bindings used by
SeqProps.lean.  Core Lean only.
-/
namespace Risor.C01.Seq
open Risor.C01
open Risor.C01.Frag (isNilL leaves isBlock isElse isL isInit isPost opOK postName isDefault countDefault
  dfltBody assignK nodup preLen)

/-! ### multi-step execution -/

inductive Steps (code : Code) : Cfg → Cfg → Prop where
  | refl (c : Cfg) : Steps code c c
  | cons {a b c : Cfg} : step code a = .ok b → Steps code b c → Steps code a c

theorem Steps.trans {code : Code} {a b c : Cfg} (h1 : Steps code a b) (h2 : Steps code b c) : Steps code a c := by
  induction h1 with
  | refl => exact h2
  | cons hs _ ih => exact .cons hs (ih h2)

theorem Steps.cast {code : Code} {a : Cfg} {p q : Nat} {s : List SVal} {σ : St}
    (h : Steps code a ⟨p, s, σ⟩) (e : p = q) : Steps code a ⟨q, s, σ⟩ := e ▸ h

theorem Steps.castL {code : Code} {b : Cfg} {p q : Nat} {s : List SVal} {σ : St}
    (h : Steps code ⟨p, s, σ⟩ b) (e : p = q) : Steps code ⟨q, s, σ⟩ b := e ▸ h

theorem step_of {code : Code} {pc : Nat} {i : FIns} (h : code[pc]? = some (some i)) (stk : List SVal) (σ : St) :
    step code ⟨pc, stk, σ⟩ = execIns i ⟨pc, stk, σ⟩ := by
  have hlt : ¬ (pc ≥ code.length) := fun h1 => by rw [List.getElem?_eq_none h1] at h; cases h
  simp only [step, hlt, if_false, h]

/-- one more instruction: the one found at `pc`, with its effect `hex` (an `execIns_*` equation) -/
theorem Steps.ins {code : Code} {a c' : Cfg} {pc : Nat} {i : FIns} {stk : List SVal} {σ : St}
    (h1 : Steps code a ⟨pc, stk, σ⟩) (hi : code[pc]? = some (some i)) (hex : execIns i ⟨pc, stk, σ⟩ = .ok c') :
    Steps code a c' :=
  h1.trans (.cons ((step_of hi stk σ).trans hex) (.refl _))

/-- the run reaches a configuration whose next step is the error `cls`, with store `σ'` -/
def Fails (code : Code) (c0 : Cfg) (cls : String) (σ' : St) : Prop :=
  ∃ c1, Steps code c0 c1 ∧ c1.σ = σ' ∧ step code c1 = .error (.err cls)

theorem Fails.pre {code : Code} {a b : Cfg} {cls : String} {σ' : St}
    (h : Steps code a b) (f : Fails code b cls σ') : Fails code a cls σ' := by
  obtain ⟨c1, h1, h2, h3⟩ := f
  exact ⟨c1, h.trans h1, h2, h3⟩

theorem Fails.ins {code : Code} {a : Cfg} {pc : Nat} {i : FIns} {stk : List SVal} {σ : St} {cls : String}
    (h1 : Steps code a ⟨pc, stk, σ⟩) (hi : code[pc]? = some (some i)) (hex : execIns i ⟨pc, stk, σ⟩ = .error (.err cls)) :
    Fails code a cls σ :=
  ⟨_, h1, rfl, (step_of hi stk σ).trans hex⟩

/-- the operand stack a `break` leaves at the loop's exit: the stack of the statement itself, or,
    when the enclosing loop is a range loop, that stack without the iterator on its top -/
def BrkStk : Bool → List SVal → List SVal → Prop
  | true, stk, out => ∃ top, stk = top :: out
  | false, stk, out => out = stk

/-- outcome `r` with final store `σ'` is realised from `c0`: a value lands at `pcE` on top of
    `stk`, unit lands at `pcE` with `stk` itself, `continue` lands on the enclosing loop's
    target (`kc` slots after `pcE`) with `stk` itself, `break` on the loop's exit (`kb` slots after
    `pcE`) with any stack `BrkStk rng stk` allows, an error is raised by the VM with the same class;
    nothing is claimed for out-of-fuel -/
def Lands (code : Code) (c0 : Cfg) (pcE kb kc : Nat) (rng : Bool) (stk : List SVal) (r : Out) (σ' : St) : Prop :=
  match r with
  | .val v => Steps code c0 ⟨pcE, v :: stk, σ'⟩
  | .unit => Steps code c0 ⟨pcE, stk, σ'⟩
  | .brk => ∀ out, BrkStk rng stk out → Steps code c0 ⟨pcE + kb, out, σ'⟩
  | .cont => Steps code c0 ⟨pcE + kc, stk, σ'⟩
  | .err c => Fails code c0 c σ'
  | .oof => True

theorem Lands.pre {code : Code} {a b : Cfg} {pcE kb kc : Nat} {rng : Bool} {stk : List SVal} {r : Out} {σ' : St}
    (h : Steps code a b) (l : Lands code b pcE kb kc rng stk r σ') : Lands code a pcE kb kc rng stk r σ' := by
  cases r with
  | val v => exact h.trans l
  | unit => exact h.trans l
  | brk => exact fun out ho => h.trans (l out ho)
  | cont => exact h.trans l
  | err c => exact Fails.pre h l
  | oof => trivial

/-- which nodes end with a value, which with `unit`, and which can be left by a break/continue -/
def Shape (n : N) (r : Out) : Prop :=
  match r with
  | .val _ => isUnitNode n = false
  | .unit => isUnitNode n = true
  | .brk => escapes n = true
  | .cont => escapes n = true
  | _ => True

/-- the simulation statement for one node at one place -/
def Post (code : Code) (kb kc : Nat) (rng : Bool) (n : N) (pc : Nat) (stk : List SVal) (σ : St) (r : Out) (σ' : St) : Prop :=
  Shape n r ∧ Lands code ⟨pc, stk, σ⟩ (pc + size rng n) kb kc rng stk r σ'

/-- outcome of an operand (an expression that no break/continue escapes): its value lands at
    `pcE` on top of `stk`, or the VM raises the same error; there is no other outcome -/
def ValTo (code : Code) (c0 : Cfg) (pcE : Nat) (stk : List SVal) (r : Out) (σ' : St) : Prop :=
  match r with
  | .val v => Steps code c0 ⟨pcE, v :: stk, σ'⟩
  | .err c => Fails code c0 c σ'
  | .oof => True
  | _ => False

theorem ValTo.pre {code : Code} {c0 c1 : Cfg} {pcE : Nat} {stk : List SVal} {r : Out} {σ' : St}
    (h : Steps code c0 c1) (l : ValTo code c1 pcE stk r σ') : ValTo code c0 pcE stk r σ' := by
  cases r with
  | val v => exact h.trans l
  | err c => exact Fails.pre h l
  | oof => trivial
  | _ => exact l

/-! ### `CodeAt code pc frag`: the fragment sits at slot offset `pc` of the enclosing code -/

def CodeAt (code : Code) (pc : Nat) (frag : Code) : Prop :=
  ∀ i, i < frag.length → code[pc + i]? = frag[i]?

theorem CodeAt.self (code : Code) : CodeAt code 0 code := by
  intro i _
  simp

theorem CodeAt.cast {code : Code} {p q : Nat} {frag : Code} (h : CodeAt code p frag) (e : p = q) :
    CodeAt code q frag := e ▸ h

theorem CodeAt.head {code : Code} {pc : Nat} {x : Option FIns} {rest : Code} (h : CodeAt code pc (x :: rest)) :
    code[pc]? = some x := by
  simpa using h 0 (by simp)

/-- the two halves of `a ++ b`; the running position is kept as the sum `pc + k` -/
theorem CodeAt.app {code : Code} {pc k : Nat} {a b : Code} (h : CodeAt code pc (a ++ b)) (e : a.length = k) :
    CodeAt code pc a ∧ CodeAt code (pc + k) b := by
  subst e
  refine ⟨fun i hi => ?_, fun i hi => ?_⟩
  · rw [h i (by simp; omega), List.getElem?_append_left hi]
  · rw [Nat.add_assoc, h (a.length + i) (by simp; omega), List.getElem?_append_right (by omega)]
    simp

@[simp] theorem one_length (i : FIns) : (one i).length = 1 := rfl
@[simp] theorem two_length (i : FIns) : (two i).length = 2 := rfl
@[simp] theorem three_length (i : FIns) : (three i).length = 3 := rfl

/-- an instruction and what follows it -/
theorem CodeAt.one {code : Code} {pc : Nat} {i : FIns} {b : Code} (h : CodeAt code pc (one i ++ b)) :
    code[pc]? = some (some i) ∧ CodeAt code (pc + 1) b := ⟨CodeAt.head h, (h.app rfl).2⟩
theorem CodeAt.two {code : Code} {pc : Nat} {i : FIns} {b : Code} (h : CodeAt code pc (two i ++ b)) :
    code[pc]? = some (some i) ∧ CodeAt code (pc + 2) b := ⟨CodeAt.head h, (h.app rfl).2⟩
theorem CodeAt.three {code : Code} {pc : Nat} {i : FIns} {b : Code} (h : CodeAt code pc (three i ++ b)) :
    code[pc]? = some (some i) ∧ CodeAt code (pc + 3) b := ⟨CodeAt.head h, (h.app rfl).2⟩

/-! ### the instructions, one equation each -/

section
variable {pc : Nat} {s : List SVal} {σ : St} {v a b : SVal}

theorem execIns_nop : execIns .nop ⟨pc, s, σ⟩ = .ok ⟨pc + 1, s, σ⟩ := rfl
theorem execIns_nil : execIns .nil_ ⟨pc, s, σ⟩ = .ok ⟨pc + 1, .nil :: s, σ⟩ := rfl
theorem execIns_constInt {k : Int} : execIns (.constInt k) ⟨pc, s, σ⟩ = .ok ⟨pc + 2, .int k :: s, σ⟩ := rfl
theorem execIns_constStr {k : String} : execIns (.constStr k) ⟨pc, s, σ⟩ = .ok ⟨pc + 2, .str k :: s, σ⟩ := rfl
theorem execIns_loadG {x : String} : execIns (.loadG x) ⟨pc, s, σ⟩ = .ok ⟨pc + 2, σ.get x :: s, σ⟩ := rfl
theorem execIns_storeG {x : String} : execIns (.storeG x) ⟨pc, v :: s, σ⟩ = .ok ⟨pc + 2, s, σ.set x v⟩ := rfl
theorem execIns_unaryNot : execIns .unaryNot ⟨pc, v :: s, σ⟩ = .ok ⟨pc + 1, .bool (!v.truthy σ) :: s, σ⟩ := rfl
theorem execIns_popTop : execIns .popTop ⟨pc, v :: s, σ⟩ = .ok ⟨pc + 1, s, σ⟩ := rfl
theorem execIns_copy0 : execIns (.copy 0) ⟨pc, v :: s, σ⟩ = .ok ⟨pc + 2, v :: v :: s, σ⟩ := rfl
theorem execIns_swap1 : execIns (.swap 1) ⟨pc, a :: b :: s, σ⟩ = .ok ⟨pc + 2, b :: a :: s, σ⟩ := rfl
theorem execIns_jf {d : Nat} : execIns (.jf d) ⟨pc, s, σ⟩ = .ok ⟨pc + d, s, σ⟩ := rfl
theorem execIns_jb {d : Nat} : execIns (.jb d) ⟨pc, s, σ⟩ = .ok ⟨pc - d, s, σ⟩ := rfl
theorem execIns_pjf {d : Nat} :
    execIns (.pjf d) ⟨pc, v :: s, σ⟩ = .ok ⟨if v.truthy σ = true then pc + 2 else pc + d, s, σ⟩ := rfl
theorem execIns_pjt {d : Nat} :
    execIns (.pjt d) ⟨pc, v :: s, σ⟩ = .ok ⟨if v.truthy σ = true then pc + d else pc + 2, s, σ⟩ := rfl

/-- what an instruction that computes `x` and replaces its operands (the stack is `s` without them) by the
    result does: `w` is its width -/
def pushRes (x : Except String SVal) (pc w : Nat) (s : List SVal) (σ : St) : Except Halt Cfg :=
  match x with
  | .ok v => .ok ⟨pc + w, v :: s, σ⟩
  | .error e => .error (.err e)

theorem execIns_binary {k : Nat} : execIns (.binary k) ⟨pc, b :: a :: s, σ⟩ = pushRes (vBinaryF σ k a b) pc 2 s σ := rfl
theorem execIns_compare {k : Nat} : execIns (.compare k) ⟨pc, b :: a :: s, σ⟩ = pushRes (vCompareF σ k a b) pc 2 s σ := rfl
theorem execIns_binarySubscr : execIns .binarySubscr ⟨pc, b :: a :: s, σ⟩ = pushRes (getItemS σ a b) pc 1 s σ := rfl
theorem execIns_getIter : execIns .getIter ⟨pc, v :: s, σ⟩ = pushRes (getIterS v) pc 1 s σ := rfl
theorem execIns_storeSubscr {rhs : SVal} :
    execIns .storeSubscr ⟨pc, b :: a :: rhs :: s, σ⟩ =
      (match setItemS σ a b rhs with
       | .ok σ' => .ok ⟨pc + 1, s, σ'⟩
       | .error e => .error (.err e)) := rfl

theorem pushRes_ok {x : Except String SVal} {w : Nat} (h : x = .ok v) : pushRes x pc w s σ = .ok ⟨pc + w, v :: s, σ⟩ := by
  rw [h]; rfl
theorem pushRes_error {x : Except String SVal} {w : Nat} {c : String} (h : x = .error c) :
    pushRes x pc w s σ = .error (.err c) := by
  rw [h]; rfl

end

/-! ### shallow class facts (a constructor inside the class: `rfl`; outside: the hypothesis is `false = true`) -/

theorem isE_not_unit {n : N} (h : isE n = true) : isUnitNode n = false := by
  cases n <;> first | rfl | cases h
theorem isBlock_not_unit {n : N} (h : isBlock n = true) : isUnitNode n = false := by
  cases n <;> first | rfl | cases h
theorem isElse_not_unit {n : N} (h : isElse n = true) : isUnitNode n = false := by
  cases n <;> first | rfl | cases h
theorem isL_not_unit {n : N} (h : isL n = true) : isUnitNode n = false := by
  cases n <;> first | rfl | cases h
theorem isInit_unit {n : N} (h : isInit n = true) : isUnitNode n = true := by
  cases n <;> first | rfl | cases h
theorem unit_not_leaves {n : N} (h : isUnitNode n = true) : leaves n = false := by
  cases n <;> first | rfl | cases h
theorem isPost_cases {n : N} (h : isPost n = true) : isUnitNode n = true ∨ leaves n = true := by
  cases n <;> first | exact .inl rfl | exact .inr rfl | cases h

/-! ### operators: the VM's numeric dispatch agrees with the source-level operator -/

/-- `BinaryOp k` computes the operator whose number is `k` (table `opIns`) -/
theorem vBinaryF_binopF {σ : St} {op : BinOp} {k : Nat} (hk : opIns op = .binary k) (hok : opOK op = true)
    (hand : op ≠ .and) (hor : op ≠ .or) (a b : SVal) : vBinaryF σ k a b = binopF σ op a b := by
  cases op <;> cases hk <;>
    first | exact absurd rfl hand | exact absurd rfl hor | (cases a <;> cases b <;> rfl) | cases hok

theorem vCompareF_binopF {σ : St} {op : BinOp} {k : Nat} (hk : opIns op = .compare k) (a b : SVal) :
    vCompareF σ k a b = binopF σ op a b := by
  cases op <;> cases hk <;> first | rfl | (cases a <;> cases b <;> rfl)

theorem opIns_cases (op : BinOp) : (∃ k, opIns op = .binary k) ∨ (∃ k, opIns op = .compare k) := by
  cases op <;> first | exact .inl ⟨_, rfl⟩ | exact .inr ⟨_, rfl⟩

theorem execIns_opIns (op : BinOp) (hok : opOK op = true) (hand : op ≠ .and) (hor : op ≠ .or)
    (a b : SVal) (s : List SVal) (pc : Nat) (σ : St) :
    execIns (opIns op) ⟨pc, b :: a :: s, σ⟩ = pushRes (binopF σ op a b) pc 2 s σ := by
  rcases opIns_cases op with ⟨k, hk⟩ | ⟨k, hk⟩
  · rw [hk, ← vBinaryF_binopF hk hok hand hor]; rfl
  · rw [hk, ← vCompareF_binopF hk]; rfl

theorem vBinaryF_assign (σ : St) (op : AssignOp) (h : op ≠ .set) (cur v : SVal) :
    vBinaryF σ (assignK op) cur v = applyF σ op cur v := by
  cases op with
  | set => exact absurd rfl h
  | add => exact vBinaryF_binopF (op := .add) rfl rfl nofun nofun cur v
  | sub => exact vBinaryF_binopF (op := .sub) rfl rfl nofun nofun cur v
  | mul => exact vBinaryF_binopF (op := .mul) rfl rfl nofun nofun cur v
  | div => exact vBinaryF_binopF (op := .div) rfl rfl nofun nofun cur v

/-! ### the length of a node's code does not depend on where the loop targets are -/

theorem pre_length (h : N) : (pre h).length = preLen h := by
  unfold pre preLen
  cases postName h <;> rfl

@[simp] theorem stores_length (xs : List String) : (stores xs).length = 2 * xs.length := by
  induction xs with
  | nil => rfl
  | cons x xs ih => simp [stores, ih]; omega

/-- neither a list cell, a case nor a default clause: only `comp` has code for such a node -/
def plainNode : N → Bool
  | .cons .. | .case_ .. | .default_ .. => false
  | _ => true

/-- on a plain node the eight list-shaped components of `comp_lengths` are what the catch-all equations of
    their functions say: empty code of length 0 (`compDflt`: the one `Nil`); the length of the node's own
    code `own` is all there is to show -/
theorem comp_lengths_of_plain {n : N} (hp : plainNode n = true)
    (own : ∀ rng kb kc, (comp kb kc rng n).length = size rng n) :
    (∀ rng kb kc, (comp kb kc rng n).length = size rng n) ∧ (∀ rng k, (compVals rng k n).length = valsLen rng n) ∧
    (∀ rng k, (compCmpCase rng k n).length = caseCmpLen rng n) ∧ (∀ rng b, (compCmp rng b n).length = cmpLen rng n) ∧
    (∀ rng a, (compBody rng a n).length = caseBodyLen rng n) ∧ (∀ rng d, (compBodies rng d n).length = bodiesLen rng n) ∧
    (∀ rng, (compDfltBody rng n).length = dfltBodyLen rng n) ∧ (∀ rng, (compDflt rng n).length = defLen rng n) ∧
    (∀ rng, (compItems rng n).length = itemsLen rng n) := by
  have hc : ∀ h t, n = .cons h t → False := fun h t e => by subst e; cases hp
  have hk : ∀ v b, n = .case_ v b → False := fun v b e => by subst e; cases hp
  have hd : ∀ b, n = .default_ b → False := fun b e => by subst e; cases hp
  refine ⟨own, ?_⟩
  simp only [compVals.eq_2 _ _ _ hc, valsLen.eq_2 _ _ hc, compCmpCase.eq_2 _ _ _ hk, caseCmpLen.eq_2 _ _ hk,
    compCmp.eq_2 _ _ _ hc, cmpLen.eq_2 _ _ hc, compBody.eq_2 _ _ _ hk, caseBodyLen.eq_2 _ _ hk,
    compBodies.eq_2 _ _ _ hc, bodiesLen.eq_2 _ _ hc, compDfltBody.eq_2 _ _ hd, dfltBodyLen.eq_2 _ _ hd,
    compDflt.eq_2 _ _ hc, defLen.eq_2 _ _ hc, compItems.eq_2 _ _ hc, itemsLen.eq_2 _ _ hc,
    List.length_nil, one_length, implies_true, and_self]

/-- lengths of every piece of generated code (the mutual functions of `comp`), by structural
    induction on the node -/
theorem comp_lengths (n : N) :
    (∀ rng kb kc, (comp kb kc rng n).length = size rng n) ∧ (∀ rng k, (compVals rng k n).length = valsLen rng n) ∧
    (∀ rng k, (compCmpCase rng k n).length = caseCmpLen rng n) ∧ (∀ rng b, (compCmp rng b n).length = cmpLen rng n) ∧
    (∀ rng a, (compBody rng a n).length = caseBodyLen rng n) ∧ (∀ rng d, (compBodies rng d n).length = bodiesLen rng n) ∧
    (∀ rng, (compDfltBody rng n).length = dfltBodyLen rng n) ∧ (∀ rng, (compDflt rng n).length = defLen rng n) ∧
    (∀ rng, (compItems rng n).length = itemsLen rng n) := by
  induction n
  case cons h t ihh iht =>
    obtain ⟨h1, _, h3, _, h5, _, h7, _, _⟩ := ihh
    obtain ⟨t1, t2, _, t4, _, t6, _, t8, t9⟩ := iht
    refine ⟨?_, ?_, fun _ _ => rfl, ?_, fun _ _ => rfl, ?_, fun _ => rfl, ?_, ?_⟩
    · intro rng kb kc
      change (pre h ++ ite _ _ _).length = preLen h + size rng h + ite _ _ _
      rw [List.length_append, pre_length]
      split <;> split <;> simp [h1, t1] <;> omega
    · intro rng k
      change List.length (_ ++ _) = _ + _
      simp only [List.length_append, two_length, h1, t2]; omega
    · intro rng b
      change List.length (_ ++ _) = _ + _
      rw [List.length_append, h3, t4]
    · intro rng d
      change List.length (_ ++ _) = _ + _
      rw [List.length_append, h5, t6]
    · intro rng
      change List.length (ite _ _ _) = ite _ _ _
      split
      · exact h7 rng
      · exact t8 rng
    · intro rng
      change List.length (_ ++ _) = _ + _
      rw [List.length_append, h1, t9]
  case case_ vals body ihv ihb =>
    refine ⟨fun _ _ _ => rfl, fun _ _ => rfl, fun rng k => ihv.2.1 rng _, fun _ _ => rfl, ?_, fun _ _ => rfl,
      fun _ => rfl, fun _ => rfl, fun _ => rfl⟩
    intro rng a
    change List.length (_ ++ _) = _ + _
    rw [List.length_append, ihb.1]; rfl
  case default_ body ihb =>
    exact ⟨fun _ _ _ => rfl, fun _ _ => rfl, fun _ _ => rfl, fun _ _ => rfl, fun _ _ => rfl, fun _ _ => rfl,
      fun rng => ihb.1 rng 0 0, fun _ => rfl, fun _ => rfl⟩
  -- every other node is plain: what remains is the length of its own code
  all_goals refine comp_lengths_of_plain rfl fun rng kb kc => ?_
  case «infix» op l r ihl ihr =>
    change List.length (ite _ _ (ite _ _ _)) = ite _ _ _
    by_cases h1 : op = .and
    · subst h1; simp [ihl.1, ihr.1]; omega
    · by_cases h2 : op = .or
      · subst h2; simp [ihl.1, ihr.1]; omega
      · simp [h1, h2, ihl.1, ihr.1]; omega
  case assign x op e ih =>
    change List.length (ite _ _ _) = ite _ _ _
    split <;> simp [ih.1]; omega
  case for3 i c p b ihi ihc ihp ihb =>
    change List.length (_ ++ _) = _ + _
    simp only [List.length_append, ihi.1, ihc.1, ihp.1, ihb.1, two_length, one_length]
    split <;> simp <;> omega
  case switch subj cases ihs ihc =>
    change List.length (_ ++ _) = _ + _
    simp only [List.length_append, ihs.1, ihc.2.2.2.1, ihc.2.2.2.2.2.1, ihc.2.2.2.2.2.2.2.1, two_length, one_length]
  case setitem op o i v iho ihi ihv =>
    change List.length (ite _ _ _) = ite _ _ _
    split <;> simp [iho.1, ihi.1, ihv.1] <;> omega
  case list items ih =>
    change List.length (_ ++ _) = _ + _
    rw [List.length_append, ih.2.2.2.2.2.2.2.2]; rfl
  case index e i ihe ihi =>
    change List.length (_ ++ _ ++ _) = _ + _ + _
    rw [List.length_append, List.length_append, ihe.1, ihi.1]; rfl
  case forrange k v c b ihc ihb =>
    change List.length (_ ++ _) = _ + _
    simp only [List.length_append, ihc.1, ihb.1, one_length, two_length, three_length, stores_length]
  case forin v c b ihc ihb =>
    change List.length (_ ++ _) = _ + _
    simp only [List.length_append, ihc.1, ihb.1, one_length, two_length, three_length, stores_length]
    rfl
  case tern c a b ihc iha ihb =>
    change List.length (_ ++ _) = _ + _
    simp only [List.length_append, ihc.1, iha.1, ihb.1, two_length]; omega
  case if_ c a b ihc iha ihb =>
    change List.length (_ ++ _) = _ + _
    simp only [List.length_append, ihc.1, iha.1, ihb.1, two_length]; omega
  case forcond c b ihc ihb =>
    change List.length (_ ++ _) = _ + _
    simp only [List.length_append, ihc.1, ihb.1, two_length, one_length]; omega
  case forever b ihb =>
    change List.length (_ ++ _) = _ + _
    simp only [List.length_append, ihb.1, two_length, one_length]
  case neg e ih => change List.length (_ ++ _) = _ + _; rw [List.length_append, ih.1]; rfl
  case not e ih => change List.length (_ ++ _) = _ + _; rw [List.length_append, ih.1]; rfl
  case var x e ih => change List.length (_ ++ _) = _ + _; rw [List.length_append, ih.1]; rfl
  case block s ih => exact ih.1 rng kb kc
  case prog s ih => exact ih.1 rng kb kc
  case expr s ih => exact ih.1 rng kb kc
  case break_ => cases rng <;> rfl
  case bool b => cases b <;> rfl
  all_goals rfl

theorem comp_length (n : N) (kb kc : Nat) (rng : Bool) : (comp kb kc rng n).length = size rng n := (comp_lengths n).1 rng kb kc
theorem compVals_length (n : N) (k : Nat) (rng : Bool) : (compVals rng k n).length = valsLen rng n := (comp_lengths n).2.1 rng k
theorem compCmp_length (n : N) (b : Nat) (rng : Bool) : (compCmp rng b n).length = cmpLen rng n := (comp_lengths n).2.2.2.1 rng b
theorem compBody_length (n : N) (a : Nat) (rng : Bool) : (compBody rng a n).length = caseBodyLen rng n := (comp_lengths n).2.2.2.2.1 rng a
theorem compBodies_length (n : N) (d : Nat) (rng : Bool) : (compBodies rng d n).length = bodiesLen rng n := (comp_lengths n).2.2.2.2.2.1 rng d
theorem compDflt_length (n : N) (rng : Bool) : (compDflt rng n).length = defLen rng n := (comp_lengths n).2.2.2.2.2.2.2.1 rng
theorem compItems_length (n : N) (rng : Bool) : (compItems rng n).length = itemsLen rng n := (comp_lengths n).2.2.2.2.2.2.2.2 rng

/-! ### the induction hypothesis and how the proofs use it -/

theorem seqV_elim {x : Out × St} {k : SVal → St → Out × St} {r : Out} {σ' : St}
    (h : seqV x k = (r, σ')) :
    (∃ v σ1, x = (.val v, σ1) ∧ k v σ1 = (r, σ')) ∨ ((∀ v, r ≠ .val v) ∧ x = (r, σ')) := by
  obtain ⟨r1, σ1⟩ := x
  cases r1 with
  | val v => exact .inl ⟨v, σ1, rfl, h⟩
  | _ => cases h; exact .inr ⟨nofun, rfl⟩

/-- the evaluation `f` of the node `n` is simulated wherever the code of `n` sits, whatever the
    loop targets, the stack and the state -/
def SimAt (code : Code) (n : N) (f : St → Out × St) : Prop :=
  ∀ kb kc rng pc stk σ r σ', CodeAt code pc (comp kb kc rng n) → f σ = (r, σ') → Post code kb kc rng n pc stk σ r σ'

/-- the induction hypothesis: sub-nodes evaluated through `rec` are simulated -/
def IH (code : Code) (rec : N → St → Out × St) : Prop := ∀ n, wf n = true → SimAt code n (rec n)

variable {code : Code} {rec : N → St → Out × St} {fuel : Nat} {kb kc : Nat} {rng : Bool}

theorem Post.val {n : N} {pc q : Nat} {stk : List SVal} {σ σ' : St} {v : SVal} (hu : isUnitNode n = false)
    (h : Steps code ⟨pc, stk, σ⟩ ⟨q, v :: stk, σ'⟩) (e : q = pc + size rng n) :
    Post code kb kc rng n pc stk σ (.val v) σ' := ⟨hu, h.cast e⟩

theorem Post.unit {n : N} {pc q : Nat} {stk : List SVal} {σ σ' : St} (hu : isUnitNode n = true)
    (h : Steps code ⟨pc, stk, σ⟩ ⟨q, stk, σ'⟩) (e : q = pc + size rng n) :
    Post code kb kc rng n pc stk σ .unit σ' := ⟨hu, h.cast e⟩

theorem Post.val_steps {n : N} {pc : Nat} {stk : List SVal} {σ σ' : St} {v : SVal}
    (h : Post code kb kc rng n pc stk σ (.val v) σ') : Steps code ⟨pc, stk, σ⟩ ⟨pc + size rng n, v :: stk, σ'⟩ := h.2

theorem Post.unit_steps {n : N} {pc : Nat} {stk : List SVal} {σ σ' : St}
    (h : Post code kb kc rng n pc stk σ .unit σ') : Steps code ⟨pc, stk, σ⟩ ⟨pc + size rng n, stk, σ'⟩ := h.2

/-- an error or out-of-fuel of a part, after a prefix of the node's run, is the node's -/
theorem Post.of_valTo {n : N} {pc0 pcE : Nat} {stk0 stk1 : List SVal} {σ0 σ' : St} {r : Out}
    (h : ValTo code ⟨pc0, stk0, σ0⟩ pcE stk1 r σ') (hnv : ∀ v, r ≠ .val v) :
    Post code kb kc rng n pc0 stk0 σ0 r σ' := by
  cases r with
  | val v => exact absurd rfl (hnv v)
  | err c => exact ⟨trivial, h⟩
  | oof => exact ⟨trivial, trivial⟩
  | _ => exact h.elim

/-- a `break`, `continue`, error or out-of-fuel of a part that runs on the node's own stack with the
    node's loop targets (`d` slots follow the part) is the node's -/
theorem Post.escape {sub n : N} {pc0 pc1 d : Nat} {stk : List SVal} {σ0 σ1 σ' : St} {r : Out}
    (hpre : Steps code ⟨pc0, stk, σ0⟩ ⟨pc1, stk, σ1⟩)
    (h : Post code (kb + d) (kc + d) rng sub pc1 stk σ1 r σ')
    (hend : pc1 + size rng sub + d = pc0 + size rng n) (hesc : escapes sub = true → escapes n = true)
    (hnv : ∀ v, r ≠ .val v) (hnu : r ≠ .unit) : Post code kb kc rng n pc0 stk σ0 r σ' := by
  have e1 : pc1 + size rng sub + (kb + d) = pc0 + size rng n + kb := by omega
  have e2 : pc1 + size rng sub + (kc + d) = pc0 + size rng n + kc := by omega
  cases r with
  | val v => exact absurd rfl (hnv v)
  | unit => exact absurd rfl hnu
  | brk => exact ⟨hesc h.1, fun out ho => (hpre.trans (h.2 out ho)).cast e1⟩
  | cont => exact ⟨hesc h.1, (hpre.trans h.2).cast e2⟩
  | err c => exact ⟨trivial, Fails.pre hpre h.2⟩
  | oof => exact ⟨trivial, trivial⟩

/-- a part in tail position: it runs on the node's stack with the node's loop targets and ends
    where the node ends -/
theorem Post.last {sub n : N} {pc0 pc1 : Nat} {stk : List SVal} {σ0 σ1 σ' : St} {r : Out}
    (hpre : Steps code ⟨pc0, stk, σ0⟩ ⟨pc1, stk, σ1⟩) (h : Post code kb kc rng sub pc1 stk σ1 r σ')
    (hend : pc1 + size rng sub = pc0 + size rng n) (hun : isUnitNode n = isUnitNode sub)
    (hesc : escapes sub = true → escapes n = true) : Post code kb kc rng n pc0 stk σ0 r σ' := by
  cases r with
  | val v => exact ⟨hun.trans h.1, (hpre.trans h.2).cast hend⟩
  | unit => exact ⟨hun.trans h.1, (hpre.trans h.2).cast hend⟩
  | _ => exact .escape (d := 0) hpre h hend hesc nofun nofun

/-- an operand — a well-formed node that is not a unit statement and that no break/continue
    escapes —, compiled with no loop targets -/
theorem IH.operand (ih : IH code rec) {e : N} (hw : wf e = true) (hu : isUnitNode e = false) (hx : escapes e = false)
    {pc : Nat} {stk : List SVal} {σ σ' : St} {r : Out}
    (hat : CodeAt code pc (comp 0 0 rng e)) (h : rec e σ = (r, σ')) :
    ValTo code ⟨pc, stk, σ⟩ (pc + size rng e) stk r σ' := by
  have P := ih e hw 0 0 rng pc stk σ r σ' hat h
  cases r with
  | val v => exact P.2
  | unit => cases hu.symm.trans P.1
  | brk => cases hx.symm.trans P.1
  | cont => cases hx.symm.trans P.1
  | err c => exact P.2
  | oof => trivial

/-- the `seqV` step of the semantics against the code of its operand `e`, after the prefix `hpre`
    of the node's run: what remains is the continuation `k` from the operand's value -/
theorem IH.seq (ih : IH code rec) {e n : N} (hw : wf e = true) (hu : isUnitNode e = false) (hx : escapes e = false)
    {pc0 pc1 : Nat} {stk0 stk1 : List SVal} {σ0 σ1 σ' : St} {r : Out} {k : SVal → St → Out × St}
    (hpre : Steps code ⟨pc0, stk0, σ0⟩ ⟨pc1, stk1, σ1⟩) (hat : CodeAt code pc1 (comp 0 0 rng e))
    (he : seqV (rec e σ1) k = (r, σ'))
    (hk : ∀ v σ2, Steps code ⟨pc0, stk0, σ0⟩ ⟨pc1 + size rng e, v :: stk1, σ2⟩ → k v σ2 = (r, σ') →
      Post code kb kc rng n pc0 stk0 σ0 r σ') :
    Post code kb kc rng n pc0 stk0 σ0 r σ' := by
  rcases seqV_elim he with ⟨v, σ2, h1, h2⟩ | ⟨hnv, h1⟩
  · exact hk v σ2 (hpre.trans (ih.operand hw hu hx hat h1)) h2
  · exact .of_valTo (.pre hpre (ih.operand hw hu hx hat h1)) hnv

theorem Post.fail {n : N} {i : FIns} {pc0 pc1 : Nat} {stk0 stk1 : List SVal} {σ0 σ1 : St} {c : String}
    (hpre : Steps code ⟨pc0, stk0, σ0⟩ ⟨pc1, stk1, σ1⟩) (hi : code[pc1]? = some (some i))
    (hex : execIns i ⟨pc1, stk1, σ1⟩ = .error (.err c)) :
    Post code kb kc rng n pc0 stk0 σ0 (.err c) σ1 := ⟨trivial, Fails.ins hpre hi hex⟩

/-! ### one simulation lemma per construct (sub-nodes through the induction hypothesis) -/

theorem sim_and (ih : IH code rec) (l r : N) (hwf : wf (.infix .and l r) = true) :
    SimAt code (.infix .and l r) (evNode fuel rec (.infix .and l r)) := by
  intro kb kc rng pc stk σ res σ' hat he
  change (_ && _) = true at hwf
  simp only [Bool.and_eq_true, Bool.not_eq_true'] at hwf
  obtain ⟨⟨⟨⟨⟨⟨_, hel⟩, her⟩, hxl⟩, hxr⟩, hwl⟩, hwr⟩ := hwf
  change CodeAt code pc (_ ++ _) at hat
  simp only [List.append_assoc] at hat
  have hlen : size rng (.infix .and l r) = size rng l + size rng r + 7 := rfl
  obtain ⟨hatl, hat⟩ := hat.app (comp_length l 0 0 rng)
  obtain ⟨hcopy, hat⟩ := hat.two
  obtain ⟨hpjf, hat⟩ := hat.two
  obtain ⟨hatr, hat⟩ := hat.app (comp_length r 0 0 rng)
  obtain ⟨hbin, hnop⟩ := hat.two
  refine ih.seq hwl (isE_not_unit hel) hxl (.refl _) hatl he fun a σ1 Pl he => ?_
  have P2 := (Pl.ins hcopy execIns_copy0).ins hpjf execIns_pjf
  by_cases ht : a.truthy σ1 = true
  · simp only [ht, ↓reduceIte] at he P2
    refine ih.seq hwr (isE_not_unit her) hxr P2 hatr he fun b σ2 Pr he => ?_
    cases he
    exact .val rfl ((Pr.ins hbin execIns_binary).ins (CodeAt.head hnop) execIns_nop) (by omega)
  · simp only [ht, Bool.false_eq_true, ↓reduceIte] at he P2
    cases he
    exact .val rfl P2 (by omega)

theorem sim_or (ih : IH code rec) (l r : N) (hwf : wf (.infix .or l r) = true) :
    SimAt code (.infix .or l r) (evNode fuel rec (.infix .or l r)) := by
  intro kb kc rng pc stk σ res σ' hat he
  change (_ && _) = true at hwf
  simp only [Bool.and_eq_true, Bool.not_eq_true'] at hwf
  obtain ⟨⟨⟨⟨⟨⟨_, hel⟩, her⟩, hxl⟩, hxr⟩, hwl⟩, hwr⟩ := hwf
  change CodeAt code pc (_ ++ _) at hat
  simp only [List.append_assoc] at hat
  have hlen : size rng (.infix .or l r) = size rng l + size rng r + 7 := rfl
  obtain ⟨hatl, hat⟩ := hat.app (comp_length l 0 0 rng)
  obtain ⟨hcopy, hat⟩ := hat.two
  obtain ⟨hpjt, hat⟩ := hat.two
  obtain ⟨hatr, hat⟩ := hat.app (comp_length r 0 0 rng)
  obtain ⟨hbin, hnop⟩ := hat.two
  refine ih.seq hwl (isE_not_unit hel) hxl (.refl _) hatl he fun a σ1 Pl he => ?_
  have P2 := (Pl.ins hcopy execIns_copy0).ins hpjt execIns_pjt
  by_cases ht : a.truthy σ1 = true
  · simp only [ht, ↓reduceIte] at he P2
    cases he
    exact .val rfl P2 (by omega)
  · simp only [ht, Bool.false_eq_true, ↓reduceIte] at he P2
    refine ih.seq hwr (isE_not_unit her) hxr P2 hatr he fun b σ2 Pr he => ?_
    cases he
    exact .val rfl ((Pr.ins hbin execIns_binary).ins (CodeAt.head hnop) execIns_nop) (by omega)

theorem sim_infix (ih : IH code rec) (op : BinOp) (l r : N) (hop : op ≠ .and) (hor : op ≠ .or) (hwf : wf (.infix op l r) = true) :
    SimAt code (.infix op l r) (evNode fuel rec (.infix op l r)) := by
  intro kb kc rng pc stk σ res σ' hat he
  change (_ && _) = true at hwf
  simp only [Bool.and_eq_true, Bool.not_eq_true'] at hwf
  obtain ⟨⟨⟨⟨⟨⟨hok, hel⟩, her⟩, hxl⟩, hxr⟩, hwl⟩, hwr⟩ := hwf
  change CodeAt code pc (ite _ _ (ite _ _ _)) at hat
  change seqV _ (fun a σ1 => ite _ _ (ite _ _ _)) = _ at he
  have hlen : size rng (.infix op l r) = size rng l + size rng r + 2 :=
    if_neg (fun h => h.elim hop hor)
  simp only [if_neg hop, if_neg hor, List.append_assoc] at hat he
  obtain ⟨hatl, hat⟩ := hat.app (comp_length l 0 0 rng)
  obtain ⟨hatr, hins⟩ := hat.app (comp_length r 0 0 rng)
  refine ih.seq hwl (isE_not_unit hel) hxl (.refl _) hatl he fun a σ1 Pl he => ?_
  refine ih.seq hwr (isE_not_unit her) hxr Pl hatr he fun b σ2 Pr he => ?_
  have hex := execIns_opIns op hok hop hor a b stk (pc + size rng l + size rng r) σ2
  cases hb : binopF σ2 op a b with
  | ok v =>
    rw [hb] at he; cases he
    exact .val rfl (Pr.ins (CodeAt.head hins) (hex.trans (pushRes_ok hb))) (by omega)
  | error c =>
    rw [hb] at he; cases he
    exact .fail Pr (CodeAt.head hins) (hex.trans (pushRes_error hb))

theorem sim_neg (ih : IH code rec) (e : N) (hwf : wf (.neg e) = true) :
    SimAt code (.neg e) (evNode fuel rec (.neg e)) := by
  intro kb kc rng pc stk σ res σ' hat he
  change (_ && _) = true at hwf
  simp only [Bool.and_eq_true, Bool.not_eq_true'] at hwf
  obtain ⟨⟨hee, hxe⟩, hwe⟩ := hwf
  change CodeAt code pc (_ ++ _) at hat
  obtain ⟨hate, hins⟩ := hat.app (comp_length e 0 0 rng)
  refine ih.seq hwe (isE_not_unit hee) hxe (.refl _) hate he fun v σ1 P1 he => ?_
  cases v with
  | int i => cases he; exact .val rfl (P1.ins (CodeAt.head hins) rfl) rfl
  | _ => cases he; exact .fail P1 (CodeAt.head hins) rfl

theorem sim_not (ih : IH code rec) (e : N) (hwf : wf (.not e) = true) :
    SimAt code (.not e) (evNode fuel rec (.not e)) := by
  intro kb kc rng pc stk σ res σ' hat he
  change (_ && _) = true at hwf
  simp only [Bool.and_eq_true, Bool.not_eq_true'] at hwf
  obtain ⟨⟨hee, hxe⟩, hwe⟩ := hwf
  change CodeAt code pc (_ ++ _) at hat
  obtain ⟨hate, hins⟩ := hat.app (comp_length e 0 0 rng)
  refine ih.seq hwe (isE_not_unit hee) hxe (.refl _) hate he fun v σ1 P1 he => ?_
  cases he
  exact .val rfl (P1.ins (CodeAt.head hins) execIns_unaryNot) rfl

/-- ternary and if/else share their shape: the condition is an operand, the two branches
    inherit the loop targets (shifted by what follows them) -/
theorem sim_cond (ih : IH code rec) (n c a b : N)
    (hcomp : comp kb kc rng n = comp 0 0 rng c ++ two (.pjf (size rng a + 4)) ++ comp (kb + (size rng b + 2)) (kc + (size rng b + 2)) rng a
      ++ two (.jf (size rng b + 2)) ++ comp kb kc rng b)
    (hlen : size rng n = size rng c + size rng a + size rng b + 4)
    (hun : isUnitNode n = false) (hesc : escapes n = (escapes c || escapes a || escapes b))
    (hwc : wf c = true) (hwa : wf a = true) (hwb : wf b = true)
    (huc : isUnitNode c = false) (hua : isUnitNode a = false) (hub : isUnitNode b = false)
    (hxc : escapes c = false)
    (pc : Nat) (stk : List SVal) (σ : St) (res : Out) (σ' : St)
    (hat : CodeAt code pc (comp kb kc rng n))
    (he : (seqV (rec c σ) fun v σ1 => if v.truthy σ1 = true then rec a σ1 else rec b σ1) = (res, σ')) :
    Post code kb kc rng n pc stk σ res σ' := by
  rw [hcomp] at hat
  simp only [List.append_assoc] at hat
  obtain ⟨hatc, hat⟩ := hat.app (comp_length c 0 0 rng)
  obtain ⟨hpjf, hat⟩ := hat.two
  obtain ⟨hata, hat⟩ := hat.app (comp_length a _ _ rng)
  obtain ⟨hjf, hatb⟩ := hat.two
  refine ih.seq hwc huc hxc (.refl _) hatc he fun v σ1 Pc he => ?_
  have pre := Pc.ins hpjf execIns_pjf
  by_cases ht : v.truthy σ1 = true
  · simp only [ht, ↓reduceIte] at he pre
    have Pa := ih a hwa _ _ _ _ stk σ1 _ _ hata he
    cases res with
    | val w => exact .val hun ((pre.trans Pa.val_steps).ins hjf execIns_jf) (by omega)
    | unit => cases hua.symm.trans Pa.1
    | _ => exact .escape pre Pa (by omega) (fun h => by simp [hesc, h]) nofun nofun
  · simp only [ht, Bool.false_eq_true, ↓reduceIte] at he pre
    have pre := pre.cast (q := pc + size rng c + 2 + size rng a + 2) (by omega)
    exact .last pre (ih b hwb kb kc _ _ stk σ1 _ _ hatb he) (by omega) (hun.trans hub.symm) (fun h => by simp [hesc, h])

/-- a leaf: one instruction pushes the value, the store is untouched -/
theorem sim_leaf (n : N) (i : FIns) (v : SVal) (w : Nat) (pc : Nat) (stk : List SVal) (σ : St) (r : Out) (σ' : St)
    (hun : isUnitNode n = false)
    (hins : code[pc]? = some (some i)) (hlen : size rng n = w)
    (hex : execIns i ⟨pc, stk, σ⟩ = .ok ⟨pc + w, v :: stk, σ⟩)
    (he : (Out.val v, σ) = (r, σ')) : Post code kb kc rng n pc stk σ r σ' := by
  cases he
  exact .val hun ((Steps.refl _).ins hins hex) (by rw [hlen])

theorem pre_steps (h : N) (pc : Nat) (stk : List SVal) (σ : St) (hat : CodeAt code pc (pre h)) :
    Steps code ⟨pc, stk, σ⟩ ⟨pc + preLen h, stk, σ⟩ := by
  unfold pre at hat
  unfold preLen
  cases hp : postName h with
  | none => exact .refl _
  | some x =>
    rw [hp] at hat
    obtain ⟨h1, h2⟩ := hat.two
    exact ((Steps.refl _).ins h1 execIns_loadG).ins (CodeAt.head h2) execIns_popTop

theorem sim_cons (ih : IH code rec) (h t : N) (hwf : wf (.cons h t) = true) :
    SimAt code (.cons h t) (evNode fuel rec (.cons h t)) := by
  intro kb kc rng pc stk σ res σ' hat he
  change (_ && _) = true at hwf
  simp only [Bool.and_eq_true, isS, Bool.or_eq_true] at hwf
  obtain ⟨⟨⟨hsh, hlt⟩, hwh⟩, hwt⟩ := hwf
  change CodeAt code pc (_ ++ ite _ _ _) at hat
  change ite _ _ _ = _ at he
  have hsz : size rng (.cons h t) = preLen h + size rng h + ite _ _ _ := rfl
  obtain ⟨hatp, hat⟩ := hat.app (pre_length h)
  have hpre := pre_steps h pc stk σ hatp
  have hesc : escapes h = true → escapes (.cons h t) = true := fun e => by
    show (escapes h || escapes t) = true
    rw [e]; rfl
  -- the head statement: a value forces an expression statement, unit a non-expression
  rcases hh : rec h σ with ⟨r1, σ1⟩
  rw [hh] at he
  have Ph := fun d hat => ih h hwh (kb + d) (kc + d) rng (pc + preLen h) stk σ r1 σ1 hat hh
  have hval : ∀ {d v}, Post code (kb + d) (kc + d) rng h (pc + preLen h) stk σ (.val v) σ1 → leaves h = true :=
    fun P => hsh.resolve_left (fun hu => by cases (P.1 : isUnitNode h = false).symm.trans hu)
  by_cases hnil : isNilL t = true
  · -- the last statement: its value, or nil after a non-expression
    simp only [hnil, ↓reduceIte] at he hat hsz
    cases hl : leaves h with
    | true =>
      simp only [hl, ↓reduceIte, List.append_nil] at hat hsz
      cases r1 with
      | val v => cases he; exact .val rfl (hpre.trans (Ph 0 hat).val_steps) (by omega)
      | unit => cases (unit_not_leaves (Ph 0 hat).1).symm.trans hl
      | _ => cases he; exact .escape hpre (Ph 0 hat) (by omega) hesc nofun nofun
    | false =>
      simp only [hl, Bool.false_eq_true, ↓reduceIte] at hat hsz
      obtain ⟨hath, hins⟩ := hat.app (comp_length h _ _ rng)
      cases r1 with
      | val v => cases (hval (Ph _ hath)).symm.trans hl
      | unit =>
        cases he
        exact .val rfl ((hpre.trans (Ph 1 hath).unit_steps).ins (CodeAt.head hins) execIns_nil) (by omega)
      | _ => cases he; exact .escape hpre (Ph 1 hath) (by omega) hesc nofun nofun
  · -- the rest of the list runs from the state after the head
    simp only [hnil, Bool.false_eq_true, ↓reduceIte] at he hat hsz
    have rest : ∀ {pcT}, Steps code ⟨pc, stk, σ⟩ ⟨pcT, stk, σ1⟩ → CodeAt code pcT (comp kb kc rng t) →
        pcT + size rng t = pc + size rng (.cons h t) → rec t σ1 = (res, σ') →
        Post code kb kc rng (.cons h t) pc stk σ res σ' := fun hs hatT hend heT =>
      .last hs (ih t hwt kb kc _ _ stk σ1 _ _ hatT heT) hend (isL_not_unit hlt).symm (fun e => by
        show (escapes h || escapes t) = true
        rw [e, Bool.or_true])
    obtain ⟨hath, hat⟩ := hat.app (comp_length h _ _ rng)
    cases hl : leaves h with
    | true =>
      simp only [hl, ↓reduceIte] at hat hath hsz
      obtain ⟨hpop, hatT⟩ := hat.one
      cases r1 with
      | val v => exact rest ((hpre.trans (Ph _ hath).val_steps).ins hpop execIns_popTop) hatT (by omega) he
      | unit => cases (unit_not_leaves (Ph _ hath).1).symm.trans hl
      | _ => cases he; exact .escape hpre (Ph _ hath) (by omega) hesc nofun nofun
    | false =>
      simp only [hl, Bool.false_eq_true, ↓reduceIte, List.nil_append] at hat hath hsz
      cases r1 with
      | val v => cases (hval (Ph _ hath)).symm.trans hl
      | unit => exact rest (hpre.trans (Ph _ hath).unit_steps) hat (by omega) he
      | _ => cases he; exact .escape hpre (Ph _ hath) (by omega) hesc nofun nofun

theorem sim_ctl (isBrk : Bool) (pc : Nat) (stk : List SVal) (σ : St) (res : Out) (σ' : St)
    (hat : CodeAt code pc (comp kb kc rng (if isBrk then .break_ else .continue_)))
    (he : ((if isBrk then Out.brk else Out.cont), σ) = (res, σ')) :
    Post code kb kc rng (if isBrk then .break_ else .continue_) pc stk σ res σ' := by
  cases isBrk with
  | true =>
    cases he
    refine ⟨rfl, fun out ho => ?_⟩
    cases rng with
    | false =>
      cases (ho : out = stk)
      exact ((Steps.refl _).ins (CodeAt.head hat) execIns_jf).cast (by show _ = pc + 2 + kb; omega)
    | true =>
      obtain ⟨top, rfl⟩ := ho
      obtain ⟨hpop, hjf⟩ := CodeAt.one hat
      exact (((Steps.refl _).ins hpop execIns_popTop).ins (CodeAt.head hjf) execIns_jf).cast
        (by show _ = pc + 3 + kb; omega)
  | false =>
    cases he
    exact ⟨rfl, ((Steps.refl _).ins (CodeAt.head hat) execIns_jf).cast (by show _ = pc + 2 + kc; omega)⟩

theorem sim_var (ih : IH code rec) (x : String) (e : N) (hwf : wf (.var x e) = true) :
    SimAt code (.var x e) (evNode fuel rec (.var x e)) := by
  intro kb kc rng pc stk σ res σ' hat he
  change (_ && _) = true at hwf
  simp only [Bool.and_eq_true, Bool.not_eq_true'] at hwf
  obtain ⟨⟨hee, hxe⟩, hwe⟩ := hwf
  change CodeAt code pc (_ ++ _) at hat
  obtain ⟨hate, hins⟩ := hat.app (comp_length e 0 0 rng)
  refine ih.seq hwe (isE_not_unit hee) hxe (.refl _) hate he fun v σ1 P1 he => ?_
  cases he
  exact .unit rfl (P1.ins (CodeAt.head hins) execIns_storeG) rfl

theorem sim_assign (ih : IH code rec) (x : String) (op : AssignOp) (e : N) (hwf : wf (.assign x op e) = true) :
    SimAt code (.assign x op e) (evNode fuel rec (.assign x op e)) := by
  intro kb kc rng pc stk σ res σ' hat he
  change (_ && _) = true at hwf
  simp only [Bool.and_eq_true, Bool.not_eq_true'] at hwf
  obtain ⟨⟨hee, hxe⟩, hwe⟩ := hwf
  change CodeAt code pc (ite _ _ _) at hat
  change seqV _ _ = _ at he
  have hlen : size rng (.assign x op e) = ite _ _ _ := rfl
  by_cases hop : op = .set
  · subst hop
    simp only [↓reduceIte] at hat hlen
    obtain ⟨hate, hins⟩ := hat.app (comp_length e 0 0 rng)
    refine ih.seq hwe (isE_not_unit hee) hxe (.refl _) hate he fun v σ1 P1 he => ?_
    cases he
    exact .unit rfl (P1.ins (CodeAt.head hins) execIns_storeG) rfl
  · simp only [if_neg hop, List.append_assoc] at hat hlen
    obtain ⟨hload, hat⟩ := hat.two
    obtain ⟨hate, hat⟩ := hat.app (comp_length e 0 0 rng)
    obtain ⟨hbin, hsto⟩ := hat.two
    refine ih.seq hwe (isE_not_unit hee) hxe ((Steps.refl _).ins hload execIns_loadG) hate he
      fun v σ1 P1 he => ?_
    have hex := (execIns_binary (pc := pc + 2 + size rng e) (s := stk) (σ := σ1)).trans
      (congrArg (pushRes · _ 2 stk σ1) (vBinaryF_assign σ1 op hop (σ.get x) v))
    cases ha : applyF σ1 op (σ.get x) v with
    | ok w =>
      rw [ha] at he; cases he
      exact .unit rfl ((P1.ins hbin (hex.trans (pushRes_ok ha))).ins (CodeAt.head hsto) execIns_storeG) (by omega)
    | error c =>
      rw [ha] at he; cases he
      exact .fail P1 hbin (hex.trans (pushRes_error ha))

theorem sim_postfix (x : String) (inc : Bool) :
    SimAt code (.postfix x inc) (evNode fuel rec (.postfix x inc)) := by
  intro kb kc rng pc stk σ res σ' hat he
  change CodeAt code pc (_ ++ _) at hat
  simp only [List.append_assoc] at hat
  obtain ⟨hload, hat⟩ := hat.two
  obtain ⟨hcon, hat⟩ := hat.two
  obtain ⟨hbin, hsto⟩ := hat.two
  have pre := ((Steps.refl _).ins hload execIns_loadG).ins hcon (execIns_constInt (s := σ.get x :: stk))
  have hex := (execIns_binary (pc := pc + 2 + 2) (s := stk) (σ := σ)).trans
    (congrArg (pushRes · _ 2 stk σ) (vBinaryF_binopF (op := .add) rfl rfl nofun nofun (σ.get x) (.int (if inc then 1 else -1))))
  change (match binopF σ .add (σ.get x) (.int (if inc then 1 else -1)) with
    | .ok r => (Out.unit, σ.set x r) | .error c => (.err c, σ)) = _ at he
  cases ha : binopF σ .add (σ.get x) (.int (if inc then 1 else -1)) with
  | ok w =>
    rw [ha] at he; cases he
    exact .unit rfl ((pre.ins hbin (hex.trans (pushRes_ok ha))).ins (CodeAt.head hsto) execIns_storeG) rfl
  | error c =>
    rw [ha] at he; cases he
    exact .fail pre hbin (hex.trans (pushRes_error ha))

/-! ### loops -/

/-- the post-statement phase: value and unit both land at `tgt` with the loop's stack; no
    break/continue gets out -/
def PhaseTo (code : Code) (c0 : Cfg) (tgt : Nat) (stk : List SVal) (r : Out) (σ' : St) : Prop :=
  match r with
  | .val _ => Steps code c0 ⟨tgt, stk, σ'⟩
  | .unit => Steps code c0 ⟨tgt, stk, σ'⟩
  | .brk => False
  | .cont => False
  | .err c => Fails code c0 c σ'
  | .oof => True

/-- the body phase: the block's value is popped and control is at the post statement; a
    `continue` lands there too, a `break` at the loop's exit -/
def BodyTo (code : Code) (c0 : Cfg) (pcP pcX : Nat) (stk : List SVal) (r : Out) (σ' : St) : Prop :=
  match r with
  | .val _ => Steps code c0 ⟨pcP, stk, σ'⟩
  | .cont => Steps code c0 ⟨pcP, stk, σ'⟩
  | .brk => Steps code c0 ⟨pcX, stk, σ'⟩
  | .unit => False
  | .err c => Fails code c0 c σ'
  | .oof => True

/-- the condition phase: a truthy value lands at the body, a falsy one at the exit -/
def CondTo (code : Code) (c0 : Cfg) (pcB pcX : Nat) (stk : List SVal) (r : Out) (σ' : St) : Prop :=
  match r with
  | .val v => Steps code c0 ⟨if v.truthy σ' = true then pcB else pcX, stk, σ'⟩
  | .unit => False
  | .brk => False
  | .cont => False
  | .err c => Fails code c0 c σ'
  | .oof => True

/-- a whole loop: it completes with `unit` at its exit on the stack it found, or fails -/
def LoopTo (code : Code) (c0 : Cfg) (pcX : Nat) (stk : List SVal) (r : Out) (σ' : St) : Prop :=
  match r with
  | .unit => Steps code c0 ⟨pcX, stk, σ'⟩
  | .err c => Fails code c0 c σ'
  | .oof => True
  | _ => False

theorem LoopTo.pre {code : Code} {c0 c1 : Cfg} {pcX : Nat} {stk : List SVal} {r : Out} {σ' : St}
    (l : LoopTo code c1 pcX stk r σ') (h : Steps code c0 c1) : LoopTo code c0 pcX stk r σ' := by
  cases r with
  | unit => exact h.trans l
  | err c => exact Fails.pre h l
  | oof => trivial
  | _ => exact l

theorem Post.of_loop {n : N} {pc : Nat} {stk : List SVal} {σ σ' : St} {r : Out}
    (hun : isUnitNode n = true) (h : LoopTo code ⟨pc, stk, σ⟩ (pc + size rng n) stk r σ') :
    Post code kb kc rng n pc stk σ r σ' := by
  cases r with
  | unit => exact ⟨hun, h⟩
  | err c => exact ⟨trivial, h⟩
  | oof => exact ⟨trivial, trivial⟩
  | _ => exact h.elim

/-- the generic loop: condition at `pc0` (exit to `pcX`), body at `pcB`, post statement at
    `pcP` ending with the backward jump to `pc0`; by induction on the iteration bound -/
theorem loop_sim {cond body post : St → Out × St} {pc0 pcB pcP pcX : Nat} {stk : List SVal}
    (HC : ∀ σ r σ1, cond σ = (r, σ1) → CondTo code ⟨pc0, stk, σ⟩ pcB pcX stk r σ1)
    (HB : ∀ σ r σ1, body σ = (r, σ1) → BodyTo code ⟨pcB, stk, σ⟩ pcP pcX stk r σ1)
    (HP : ∀ σ r σ1, post σ = (r, σ1) → PhaseTo code ⟨pcP, stk, σ⟩ pc0 stk r σ1) :
    ∀ k σ r σ', loopF cond body post k σ = (r, σ') → LoopTo code ⟨pc0, stk, σ⟩ pcX stk r σ' := by
  intro k
  induction k with
  | zero =>
    intro σ r σ' h
    cases h
    trivial
  | succ k ihk =>
    intro σ r σ' h
    unfold loopF at h
    -- the post statement and the next round, from the state after the body
    have after : ∀ σ2, Steps code ⟨pc0, stk, σ⟩ ⟨pcP, stk, σ2⟩ →
        (match post σ2 with
          | (.unit, σ3) => loopF cond body post k σ3
          | (.val _, σ3) => loopF cond body post k σ3
          | other => other) = (r, σ') →
        LoopTo code ⟨pc0, stk, σ⟩ pcX stk r σ' := by
      intro σ2 pre0 h
      rcases hp : post σ2 with ⟨rp, σ3⟩
      have P := HP σ2 _ _ hp
      rw [hp] at h
      cases rp with
      | val u => exact (ihk σ3 r σ' h).pre (pre0.trans P)
      | unit => exact (ihk σ3 r σ' h).pre (pre0.trans P)
      | err c => cases h; exact Fails.pre pre0 P
      | oof => cases h; trivial
      | _ => exact P.elim
    rcases seqV_elim h with ⟨v, σ1, hc, h⟩ | ⟨hnv, hx⟩
    · have C : Steps code _ ⟨if v.truthy σ1 = true then pcB else pcX, stk, σ1⟩ := HC σ _ _ hc
      by_cases ht : v.truthy σ1 = true
      · simp only [ht, ↓reduceIte] at h C
        rcases hb : body σ1 with ⟨rb, σ2⟩
        have B := HB σ1 _ _ hb
        rw [hb] at h
        cases rb with
        | val w => exact after σ2 (C.trans B) h
        | cont => exact after σ2 (C.trans B) h
        | brk => cases h; exact C.trans B
        | unit => exact B.elim
        | err c => cases h; exact Fails.pre C B
        | oof => cases h; trivial
      · simp only [ht, Bool.false_eq_true, ↓reduceIte] at h C
        cases h
        exact C
    · have C := HC σ _ _ hx
      cases r with
      | val u => exact absurd rfl (hnv u)
      | err c => exact C
      | oof => trivial
      | _ => exact C.elim

/-- the body phase of every loop: the block's value is popped; `continue` lands right after
    that `PopTop`, `break` `kbB` slots after the block, from where `hbrk` leads to the exit -/
theorem body_phase (ih : IH code rec) (b : N) (hwb : wf b = true) (hbb : isBlock b = true)
    (kbB pcB pcX : Nat) (stk : List SVal) (hatb : CodeAt code pcB (comp kbB 1 false b))
    (hpop : code[pcB + size false b]? = some (some .popTop))
    (hbrk : ∀ σ, Steps code ⟨pcB + size false b + kbB, stk, σ⟩ ⟨pcX, stk, σ⟩) :
    ∀ σ r σ1, rec b σ = (r, σ1) → BodyTo code ⟨pcB, stk, σ⟩ (pcB + size false b + 1) pcX stk r σ1 := by
  intro σ r σ1 h
  have P := ih b hwb kbB 1 _ pcB stk σ _ _ hatb h
  cases r with
  | val v => exact P.val_steps.ins hpop execIns_popTop
  | unit => cases (isBlock_not_unit hbb).symm.trans P.1
  | brk => exact Steps.trans (P.2 stk rfl) (hbrk σ1)
  | cont => exact P.2
  | err c => exact P.2
  | oof => trivial

/-- the condition phase of `for c { }` and `for i; c; p { }` -/
theorem cond_phase (ih : IH code rec) (c : N) (hwc : wf c = true) (hec : isE c = true) (hxc : escapes c = false)
    (pc0 d : Nat) (stk : List SVal) (hatc : CodeAt code pc0 (comp 0 0 false c))
    (hpjf : code[pc0 + size false c]? = some (some (.pjf d))) :
    ∀ σ r σ1, rec c σ = (r, σ1) →
      CondTo code ⟨pc0, stk, σ⟩ (pc0 + size false c + 2) (pc0 + size false c + d) stk r σ1 := by
  intro σ r σ1 h
  have P := ih.operand hwc (isE_not_unit hec) hxc (stk := stk) hatc h
  cases r with
  | val v => exact Steps.ins P hpjf execIns_pjf
  | _ => exact P

/-- the backward jump that ends a round, and the statement without a post statement -/
theorem jb_phase {pcJ pc0 d : Nat} {stk : List SVal} (hjb : code[pcJ]? = some (some (.jb d))) (e : pcJ - d = pc0) :
    ∀ σ r σ1, (fun σ => ((Out.unit, σ) : Out × St)) σ = (r, σ1) → PhaseTo code ⟨pcJ, stk, σ⟩ pc0 stk r σ1 := by
  intro σ r σ1 h
  cases h
  exact ((Steps.refl _).ins hjb execIns_jb).cast e

theorem sim_forcond (ih : IH code rec) (c b : N) (hwf : wf (.forcond c b) = true) :
    SimAt code (.forcond c b) (evNode fuel rec (.forcond c b)) := by
  intro kb kc rng pc stk σ res σ' hat he
  change (_ && _) = true at hwf
  simp only [Bool.and_eq_true, Bool.not_eq_true'] at hwf
  obtain ⟨⟨⟨⟨hec, hbb⟩, hxc⟩, hwc⟩, hwb⟩ := hwf
  change CodeAt code pc (_ ++ _) at hat
  simp only [List.append_assoc] at hat
  have hlen : size rng (.forcond c b) = size false c + size false b + 6 := rfl
  obtain ⟨hatc, hat⟩ := hat.app (comp_length c 0 0 false)
  obtain ⟨hpjf, hat⟩ := hat.two
  obtain ⟨hatb, hat⟩ := hat.app (comp_length b 3 1 false)
  obtain ⟨hpop, hat⟩ := hat.one
  obtain ⟨hjb, hnop⟩ := hat.two
  have HC := cond_phase ih c hwc hec hxc pc (size false b + 6) stk hatc hpjf
  have HB := body_phase ih b hwb hbb 3 _ (pc + size false c + (size false b + 6)) stk hatb hpop
    (fun σ => (((Steps.refl _).ins (CodeAt.head hnop) execIns_nop).castL (by omega)).cast (by omega))
  have R := loop_sim HC HB (jb_phase hjb (by omega)) fuel σ res σ' he
  exact .of_loop rfl (by rw [hlen, ← Nat.add_assoc, ← Nat.add_assoc]; exact R)

theorem sim_forever (ih : IH code rec) (b : N) (hwf : wf (.forever b) = true) :
    SimAt code (.forever b) (evNode fuel rec (.forever b)) := by
  intro kb kc rng pc stk σ res σ' hat he
  change (_ && _) = true at hwf
  simp only [Bool.and_eq_true] at hwf
  obtain ⟨hbb, hwb⟩ := hwf
  change CodeAt code pc (_ ++ _) at hat
  simp only [List.append_assoc] at hat
  have hlen : size rng (.forever b) = size false b + 4 := rfl
  obtain ⟨hatb, hat⟩ := hat.app (comp_length b 3 1 false)
  obtain ⟨hpop, hat⟩ := hat.one
  obtain ⟨hjb, hnop⟩ := hat.two
  have HC : ∀ σ r σ1, (fun σ => ((Out.val (.bool true), σ) : Out × St)) σ = (r, σ1) →
      CondTo code ⟨pc, stk, σ⟩ pc (pc + size rng (.forever b)) stk r σ1 := by
    intro σ r σ1 h
    cases h
    exact .refl _
  have HB := body_phase ih b hwb hbb 3 pc (pc + size rng (.forever b)) stk hatb hpop
    (fun σ => (((Steps.refl _).ins (CodeAt.head hnop) execIns_nop).castL (by omega)).cast (by omega))
  exact .of_loop rfl (loop_sim HC HB (jb_phase hjb (by omega)) fuel σ res σ' he)

theorem sim_for3 (ih : IH code rec) (i c p b : N) (hwf : wf (.for3 i c p b) = true) :
    SimAt code (.for3 i c p b) (evNode fuel rec (.for3 i c p b)) := by
  intro kb kc rng pc stk σ res σ' hat he
  change (_ && _) = true at hwf
  simp only [Bool.and_eq_true, Bool.not_eq_true'] at hwf
  obtain ⟨⟨⟨⟨⟨⟨⟨⟨⟨⟨hii, hec⟩, hpp⟩, hbb⟩, hxi⟩, hxc⟩, hxp⟩, hwi⟩, hwc⟩, hwp⟩, hwb⟩ := hwf
  change CodeAt code pc (_ ++ _) at hat
  simp only [List.append_assoc] at hat
  have hlen : size rng (.for3 i c p b) = size false i + size false c + size false b
      + (size false p + (if leaves p = true then 1 else 0)) + 5 := rfl
  obtain ⟨hati, hat⟩ := hat.app (comp_length i 0 0 false)
  obtain ⟨hatc, hat⟩ := hat.app (comp_length c 0 0 false)
  obtain ⟨hpjf, hat⟩ := hat.two
  obtain ⟨hatb, hat⟩ := hat.app (comp_length b _ 1 false)
  obtain ⟨hpop, hat⟩ := hat.one
  obtain ⟨hatp, hat⟩ := hat.app (comp_length p 0 0 false)
  -- the init statement completes with unit, or fails
  rcases hi : rec i σ with ⟨r1, σ1⟩
  have Pi := ih i hwi 0 0 _ pc stk σ _ _ hati hi
  unfold evNode at he
  simp only at he
  rw [hi] at he
  cases r1 with
  | val v => cases (isInit_unit hii).symm.trans Pi.1
  | brk => cases hxi.symm.trans Pi.1
  | cont => cases hxi.symm.trans Pi.1
  | err e => cases he; exact ⟨trivial, Pi.2⟩
  | oof => cases he; exact ⟨trivial, trivial⟩
  | unit =>
    have HC := cond_phase ih c hwc hec hxc (pc + size false i) _ stk hatc hpjf
    have HB := body_phase ih b hwb hbb _ _
      (pc + size false i + size false c + (size false b + (size false p + (if leaves p = true then 1 else 0)) + 5))
      stk hatb hpop (fun σ => (Steps.refl _).cast (by omega))
    -- the post statement: an expression statement's value is popped before the backward jump
    have HP : ∀ σ r σ1, rec p σ = (r, σ1) →
        PhaseTo code ⟨pc + size false i + size false c + 2 + size false b + 1, stk, σ⟩ (pc + size false i) stk r σ1 := by
      intro σ r σ1 h
      have P := ih p hwp 0 0 _ _ stk σ _ _ hatp h
      cases r with
      | val v =>
        have hl : leaves p = true := (isPost_cases hpp).resolve_left (fun hu => by cases (P.1 : _ = false).symm.trans hu)
        simp only [hl, ↓reduceIte] at hat
        obtain ⟨hpop2, hjb⟩ := hat.one
        exact ((P.val_steps.ins hpop2 execIns_popTop).ins (CodeAt.head hjb) execIns_jb).cast (by omega)
      | unit =>
        simp only [unit_not_leaves P.1, Bool.false_eq_true, ↓reduceIte, List.nil_append] at hat
        exact (P.unit_steps.ins (CodeAt.head hat) execIns_jb).cast (by omega)
      | brk => cases hxp.symm.trans P.1
      | cont => cases hxp.symm.trans P.1
      | err e => exact P.2
      | oof => trivial
    have R := loop_sim HC HB HP fuel σ1 res σ' he
    have R2 : LoopTo code ⟨pc + size false i, stk, σ1⟩ (pc + size rng (.for3 i c p b)) stk res σ' := by
      rw [hlen, ← Nat.add_assoc, ← Nat.add_assoc, ← Nat.add_assoc, ← Nat.add_assoc]
      simp only [Nat.add_assoc] at R ⊢
      exact R
    exact .of_loop rfl (R2.pre Pi.unit_steps)

/-! ### switch -/

/-- a list of operands (case values, list items) that stops at one that fails: the outcome `o`
    of that operand -/
def ErrTo (code : Code) (c0 : Cfg) (o : Out) (σ' : St) : Prop :=
  match o with
  | .err c => Fails code c0 c σ'
  | .oof => True
  | _ => False

theorem ErrTo.pre {c0 c1 : Cfg} {o : Out} {σ' : St} (h : Steps code c0 c1) (l : ErrTo code c1 o σ') :
    ErrTo code c0 o σ' := by
  cases o with
  | err c => exact Fails.pre h l
  | oof => trivial
  | _ => exact l

theorem ValTo.errTo {c0 : Cfg} {pcE : Nat} {stk : List SVal} {o : Out} {σ' : St}
    (h : ValTo code c0 pcE stk o σ') (hnv : ∀ v, o ≠ .val v) : ErrTo code c0 o σ' := by
  cases o with
  | val v => exact absurd rfl (hnv v)
  | _ => exact h

/-- the comparisons of one case: on a match control is `k` slots after them (at the case's
    body), otherwise right after them; the subject stays on the stack -/
theorem vals_sim (ih : IH code rec) (sv : SVal) (stk : List SVal) :
    ∀ (vs : N), wfVals vs = true → ∀ (k P : Nat) (σ : St) (res : Except Out Bool) (σ' : St),
      CodeAt code P (compVals rng k vs) → matchValsF rec sv vs σ = (res, σ') →
      (match res with
       | .ok true => Steps code ⟨P, sv :: stk, σ⟩ ⟨P + valsLen rng vs + k, sv :: stk, σ'⟩
       | .ok false => Steps code ⟨P, sv :: stk, σ⟩ ⟨P + valsLen rng vs, sv :: stk, σ'⟩
       | .error o => ErrTo code ⟨P, sv :: stk, σ⟩ o σ') := by
  intro vs
  induction vs with
  | nilL =>
    intro _ k P σ res σ' _ he
    cases he
    exact .refl _
  | cons v vs _ ihvs =>
    intro hw k P σ res σ' hat he
    change (_ && _) = true at hw
    simp only [Bool.and_eq_true, Bool.not_eq_true'] at hw
    obtain ⟨⟨⟨hev, hxv⟩, hwv⟩, hwvs⟩ := hw
    change CodeAt code P (_ ++ _) at hat
    simp only [List.append_assoc] at hat
    have hlen : valsLen rng (.cons v vs) = size rng v + 6 + valsLen rng vs := rfl
    obtain ⟨hcopy, hat⟩ := hat.two
    obtain ⟨hatv, hat⟩ := hat.app (comp_length v 0 0 rng)
    obtain ⟨hcmp, hat⟩ := hat.two
    obtain ⟨hpjt, hatvs⟩ := hat.two
    unfold matchValsF at he
    rcases hv : rec v σ with ⟨o, σ1⟩
    rw [hv] at he
    have Pv := ValTo.pre ((Steps.refl _).ins hcopy execIns_copy0)
      (ih.operand hwv (isE_not_unit hev) hxv (stk := sv :: sv :: stk) hatv hv)
    cases o with
    | val x =>
      -- `Compare ==` then `PopJumpForwardIfTrue`: to the body on a match, to the next value otherwise
      have pre := (Steps.ins Pv hcmp execIns_compare).ins hpjt execIns_pjt
      change Steps code _ ⟨ite (eqV σ1.h 8 sv x = true) _ _, _, _⟩ at pre
      by_cases heq : eqV σ1.h 8 sv x = true
      · simp only [heq, ↓reduceIte] at he pre
        cases he
        exact pre.cast (by omega)
      · simp only [heq, Bool.false_eq_true, ↓reduceIte] at he pre
        have R := ihvs hwvs k _ σ1 res σ' hatvs he
        rcases res with o | _ | _
        · exact .pre pre R
        · exact (pre.trans R).cast (by omega)
        · exact (pre.trans R).cast (by omega)
    | _ => cases he; exact Pv.errTo nofun
  | _ => intro hw; cases hw

theorem dflt_facts : ∀ (cs : N), wfCases cs = true →
    (match dfltBody cs with
     | some b => compDflt rng cs = comp 0 0 rng b ∧ defLen rng cs = size rng b ∧ wf b = true ∧ isBlock b = true ∧ escapes b = false
     | none => compDflt rng cs = one .nil_ ∧ defLen rng cs = 1) := by
  intro cs
  induction cs with
  | nilL => intro _; exact ⟨rfl, rfl⟩
  | cons h t _ iht =>
    intro hw
    change (_ && _) = true at hw
    simp only [Bool.and_eq_true] at hw
    obtain ⟨hwh, hwt⟩ := hw
    cases h with
    | case_ vals body => exact iht hwt
    | default_ b =>
      change (_ && _) = true at hwh
      simp only [Bool.and_eq_true, Bool.not_eq_true'] at hwh
      exact ⟨rfl, rfl, hwh.2, hwh.1.1, hwh.1.2⟩
    | _ => cases hwh
  | _ => intro hw; cases hw

/-- the two sections of a switch, for a suffix `cs` of the case list whose comparisons sit at
    `P` and whose bodies sit `before` slots into the body section `Bs`: whatever
    `evCasesF` selects (a case body, the default, nil), its value lands on the `Swap` at `W`,
    above the subject -/
theorem cases_sim (ih : IH code rec) (sv : SVal) (stk : List SVal) (dflt : Option N) (E Bs D W d : Nat)
    (hBs : Bs = E + 2) (hW : W = D + d)
    (hjd : ∀ σ, Steps code ⟨E, sv :: stk, σ⟩ ⟨D, sv :: stk, σ⟩)
    (hdef : ∀ σ res σ', runDflt rec dflt σ = (res, σ') → ValTo code ⟨D, sv :: stk, σ⟩ W (sv :: stk) res σ') :
    ∀ (cs : N), wfCases cs = true → ∀ (before P : Nat) (σ : St) (res : Out) (σ' : St),
      CodeAt code P (compCmp rng before cs) → P + cmpLen rng cs = E →
      CodeAt code (Bs + before) (compBodies rng d cs) → Bs + before + bodiesLen rng cs = D →
      evCasesF rec sv dflt cs σ = (res, σ') →
      ValTo code ⟨P, sv :: stk, σ⟩ W (sv :: stk) res σ' := by
  intro cs
  induction cs with
  | nilL =>
    intro _ before P σ res σ' _ hP _ _ he
    cases (hP : P = E)
    exact .pre (hjd σ) (hdef σ res σ' he)
  | cons h t _ iht =>
    intro hw before P σ res σ' hatc hP hatb hB he
    change (_ && _) = true at hw
    simp only [Bool.and_eq_true] at hw
    obtain ⟨hwh, hwt⟩ := hw
    cases h with
    | case_ vals body =>
      change (_ && _) = true at hwh
      simp only [Bool.and_eq_true, Bool.not_eq_true'] at hwh
      obtain ⟨⟨⟨hwv, hbb⟩, hxb⟩, hwb⟩ := hwh
      change CodeAt code P (compVals rng _ vals ++ _) at hatc
      change CodeAt code _ ((_ ++ _) ++ _) at hatb
      change P + (valsLen rng vals + cmpLen rng t) = E at hP
      change Bs + before + (size rng body + 2 + bodiesLen rng t) = D at hB
      unfold evCasesF at he; simp only at he
      have hcb : caseBodyLen rng (.case_ vals body) = size rng body + 2 := rfl
      rw [List.append_assoc] at hatb
      obtain ⟨hatv, hatc'⟩ := hatc.app (compVals_length vals _ rng)
      obtain ⟨hatbody, hatb⟩ := hatb.app (comp_length body 0 0 rng)
      obtain ⟨hjf, hatb'⟩ := hatb.two
      rcases hm : matchValsF rec sv vals σ with ⟨m, σ1⟩
      rw [hm] at he
      have V := vals_sim ih sv stk vals hwv _ P σ m σ1 hatv hm
      rcases m with o | _ | _
      · cases he
        cases res with
        | err c => exact V
        | oof => trivial
        | _ => exact V.elim
      · exact .pre V (iht hwt _ _ σ1 res σ' hatc' (by omega) (hatb'.cast (by omega)) (by omega) he)
      · -- the selected body, then the jump over the remaining bodies and the default
        have B := ValTo.pre (V.cast (by omega))
          (ih.operand hwb (isBlock_not_unit hbb) hxb (stk := sv :: stk) hatbody he)
        cases res with
        | val v => exact (Steps.ins B hjf execIns_jf).cast (by omega)
        | _ => exact B
    | default_ b =>
      change P + (0 + cmpLen rng t) = E at hP
      change Bs + before + (0 + bodiesLen rng t) = D at hB
      rw [Nat.zero_add] at hP hB
      unfold evCasesF at he; simp only at he
      exact iht hwt before P σ res σ' hatc hP hatb hB he
    | _ => cases hwh
  | _ => intro hw; cases hw

theorem sim_switch (ih : IH code rec) (subj cases : N) (hwf : wf (.switch subj cases) = true) :
    SimAt code (.switch subj cases) (evNode fuel rec (.switch subj cases)) := by
  intro kb kc rng pc stk σ res σ' hat he
  change (_ && _) = true at hwf
  simp only [Bool.and_eq_true, Bool.not_eq_true'] at hwf
  obtain ⟨⟨⟨⟨hes, hxs⟩, hws⟩, hwc⟩, _⟩ := hwf
  change CodeAt code pc (_ ++ _) at hat
  simp only [List.append_assoc] at hat
  have hlen : size rng (.switch subj cases)
      = size rng subj + cmpLen rng cases + 2 + bodiesLen rng cases + defLen rng cases + 3 := rfl
  obtain ⟨hats, hat⟩ := hat.app (comp_length subj 0 0 rng)
  obtain ⟨hatc, hat⟩ := hat.app (compCmp_length cases 0 rng)
  obtain ⟨hjd, hat⟩ := hat.two
  obtain ⟨hatb, hat⟩ := hat.app (compBodies_length cases _ rng)
  obtain ⟨hatd, hat⟩ := hat.app (compDflt_length cases rng)
  obtain ⟨hswap, hpop⟩ := hat.two
  refine ih.seq hws (isE_not_unit hes) hxs (.refl _) hats he fun sv σ1 Ps he => ?_
  -- the default section: the default's body, or `Nil`
  have hdef : ∀ σ res σ', runDflt rec (dfltBody cases) σ = (res, σ') →
      ValTo code ⟨pc + size rng subj + cmpLen rng cases + 2 + bodiesLen rng cases, sv :: stk, σ⟩
        (pc + size rng subj + cmpLen rng cases + 2 + bodiesLen rng cases + defLen rng cases) (sv :: stk) res σ' := by
    intro σ res σ' h
    have F := dflt_facts (rng := rng) cases hwc
    cases hd : dfltBody cases with
    | some b =>
      rw [hd] at F h
      obtain ⟨hc, hl, hwb, hbb, hxb⟩ := F
      rw [hc] at hatd
      rw [hl]
      exact ih.operand hwb (isBlock_not_unit hbb) hxb hatd h
    | none =>
      rw [hd] at F h
      obtain ⟨hc, hl⟩ := F
      rw [hc] at hatd
      cases h
      rw [hl]
      exact (Steps.refl _).ins (CodeAt.head hatd) execIns_nil
  have R := ValTo.pre Ps (cases_sim ih sv stk (dfltBody cases) _ _ _ _ (defLen rng cases) rfl rfl
    (fun σ => ((Steps.refl _).ins hjd execIns_jf).cast (by omega)) hdef
    cases hwc 0 _ σ1 res σ' hatc rfl hatb rfl he)
  cases res with
  | val v =>
    exact .val rfl ((Steps.ins R hswap execIns_swap1).ins (CodeAt.head hpop) execIns_popTop) (by omega)
  | _ => exact .of_valTo R nofun

/-! ### F6: list literals, index, item assignment, range loops -/

theorem take_rev_append (vs stk : List SVal) :
    ((vs.reverse ++ stk).take vs.length).reverse = vs ∧ (vs.reverse ++ stk).drop vs.length = stk := by
  have h : vs.length = vs.reverse.length := by simp
  constructor
  · rw [h, List.take_left']
    · simp
    · rfl
  · rw [h, List.drop_left']
    rfl

/-- `BuildList n` on the `n` item values pushed in order (the last one on top) -/
theorem execIns_buildList {pc : Nat} {vs s : List SVal} {σ : St} :
    execIns (.buildList vs.length) ⟨pc, vs.reverse ++ s, σ⟩ = .ok ⟨pc + 2, .ref (σ.alloc vs).1 :: s, (σ.alloc vs).2⟩ := by
  have T := take_rev_append vs s
  have hle : vs.length ≤ (vs.reverse ++ s).length := by simp
  show (if vs.length ≤ (vs.reverse ++ s).length then _ else _) = _
  rw [if_pos hle, T.1, T.2]

/-- the values of the items are pushed in order (the last one on top); an item that fails is the
    failure of the whole literal -/
theorem items_sim (ih : IH code rec) :
    ∀ (items : N), wfVals items = true → ∀ (P : Nat) (stk : List SVal) (σ : St) (res : Except Out (List SVal)) (σ' : St),
      CodeAt code P (compItems rng items) → evItems rec items σ = (res, σ') →
      (match res with
       | .ok vs => Steps code ⟨P, stk, σ⟩ ⟨P + itemsLen rng items, vs.reverse ++ stk, σ'⟩ ∧ vs.length = countItems items
       | .error o => ErrTo code ⟨P, stk, σ⟩ o σ') := by
  intro items
  induction items with
  | nilL =>
    intro _ P stk σ res σ' _ he
    cases he
    exact ⟨.refl _, rfl⟩
  | cons e es _ ihes =>
    intro hw P stk σ res σ' hat he
    change (_ && _) = true at hw
    simp only [Bool.and_eq_true, Bool.not_eq_true'] at hw
    obtain ⟨⟨⟨hee, hxe⟩, hwe⟩, hwes⟩ := hw
    change CodeAt code P (_ ++ _) at hat
    obtain ⟨hate, hates⟩ := hat.app (comp_length e 0 0 rng)
    unfold evItems at he
    rcases hv : rec e σ with ⟨o, σ1⟩
    rw [hv] at he
    have Pv := ih.operand hwe (isE_not_unit hee) hxe (stk := stk) hate hv
    cases o with
    | val v =>
      simp only at he
      rcases hr : evItems rec es σ1 with ⟨rr, σ2⟩
      rw [hr] at he
      have R := ihes hwes _ (v :: stk) σ1 rr σ2 hates hr
      cases rr with
      | ok vs =>
        cases he
        refine ⟨?_, congrArg (· + 1) R.2⟩
        rw [List.reverse_cons, List.append_assoc]
        exact (Steps.trans Pv R.1).cast (Nat.add_assoc ..)
      | error o => cases he; exact .pre Pv R
    | _ => cases he; exact Pv.errTo nofun
  | _ => intro hw; cases hw

theorem sim_list (ih : IH code rec) (items : N) (hwf : wf (.list items) = true) :
    SimAt code (.list items) (evNode fuel rec (.list items)) := by
  intro kb kc rng pc stk σ res σ' hat he
  change CodeAt code pc (_ ++ _) at hat
  obtain ⟨hati, hb⟩ := hat.app (compItems_length items rng)
  unfold evNode at he
  simp only at he
  rcases hi : evItems rec items σ with ⟨ri, σ1⟩
  rw [hi] at he
  have I := items_sim ih items hwf pc stk σ ri σ1 hati hi
  cases ri with
  | ok vs =>
    cases he
    obtain ⟨S, hl⟩ := I
    exact .val rfl (S.ins (CodeAt.head hb) (hl ▸ execIns_buildList)) rfl
  | error o =>
    cases he
    cases res with
    | err c => exact ⟨trivial, I⟩
    | oof => exact ⟨trivial, trivial⟩
    | _ => exact I.elim

theorem sim_index (ih : IH code rec) (e i : N) (hwf : wf (.index e i) = true) :
    SimAt code (.index e i) (evNode fuel rec (.index e i)) := by
  intro kb kc rng pc stk σ res σ' hat he
  change (_ && _) = true at hwf
  simp only [Bool.and_eq_true, Bool.not_eq_true'] at hwf
  obtain ⟨⟨⟨⟨⟨hee, hei⟩, hxe⟩, hxi⟩, hwe⟩, hwi⟩ := hwf
  change CodeAt code pc (_ ++ _) at hat
  simp only [List.append_assoc] at hat
  have hlen : size rng (.index e i) = size rng e + size rng i + 1 := rfl
  obtain ⟨hate, hat⟩ := hat.app (comp_length e 0 0 rng)
  obtain ⟨hati, hins⟩ := hat.app (comp_length i 0 0 rng)
  refine ih.seq hwe (isE_not_unit hee) hxe (.refl _) hate he fun ov σ1 Pe he => ?_
  refine ih.seq hwi (isE_not_unit hei) hxi Pe hati he fun iv σ2 Pi he => ?_
  cases hg : getItemS σ2 ov iv with
  | ok v =>
    rw [hg] at he; cases he
    exact .val rfl (Pi.ins (CodeAt.head hins) (execIns_binarySubscr.trans (pushRes_ok hg))) (by omega)
  | error c =>
    rw [hg] at he; cases he
    exact .fail Pi (CodeAt.head hins) (execIns_binarySubscr.trans (pushRes_error hg))

theorem execIns_storeSubscr_ok {pc : Nat} {a b rhs : SVal} {s : List SVal} {σ σ' : St} (h : setItemS σ a b rhs = .ok σ') :
    execIns .storeSubscr ⟨pc, b :: a :: rhs :: s, σ⟩ = .ok ⟨pc + 1, s, σ'⟩ := by
  rw [execIns_storeSubscr, h]
theorem execIns_storeSubscr_error {pc : Nat} {a b rhs : SVal} {s : List SVal} {σ : St} {c : String}
    (h : setItemS σ a b rhs = .error c) : execIns .storeSubscr ⟨pc, b :: a :: rhs :: s, σ⟩ = .error (.err c) := by
  rw [execIns_storeSubscr, h]

/-- plain item assignment: right-hand side, container, index, `StoreSubscr` -/
theorem sim_setitem_set (ih : IH code rec) (o i v : N) (hwf : wf (.setitem .set o i v) = true) :
    SimAt code (.setitem .set o i v) (evNode fuel rec (.setitem .set o i v)) := by
  intro kb kc rng pc stk σ res σ' hat he
  change (_ && _) = true at hwf
  simp only [Bool.and_eq_true, Bool.not_eq_true'] at hwf
  obtain ⟨⟨⟨⟨⟨⟨⟨⟨heo, hei⟩, hev⟩, hxo⟩, hxi⟩, hxv⟩, hwo⟩, hwi⟩, hwv⟩ := hwf
  change CodeAt code pc (_ ++ _) at hat
  simp only [List.append_assoc] at hat
  have hlen : size rng (.setitem .set o i v) = size rng v + size rng o + size rng i + 1 := rfl
  obtain ⟨hatv, hat⟩ := hat.app (comp_length v 0 0 rng)
  obtain ⟨hato, hat⟩ := hat.app (comp_length o 0 0 rng)
  obtain ⟨hati, hins⟩ := hat.app (comp_length i 0 0 rng)
  refine ih.seq hwv (isE_not_unit hev) hxv (.refl _) hatv he fun rhs σ1 Pv he => ?_
  refine ih.seq hwo (isE_not_unit heo) hxo Pv hato he fun ov σ2 Po he => ?_
  refine ih.seq hwi (isE_not_unit hei) hxi Po hati he fun iv σ3 Pi he => ?_
  cases hg : setItemS σ3 ov iv rhs with
  | ok σ4 =>
    rw [hg] at he; cases he
    exact .unit rfl (Pi.ins (CodeAt.head hins) (execIns_storeSubscr_ok hg)) (by omega)
  | error c =>
    rw [hg] at he; cases he
    exact .fail Pi (CodeAt.head hins) (execIns_storeSubscr_error hg)

/-- compound item assignment: container, index, `BinarySubscr`, right-hand side, `BinaryOp`, then
    container and index AGAIN, `StoreSubscr` -/
theorem sim_setitem_op (ih : IH code rec) (op : AssignOp) (hop : op ≠ .set) (o i v : N) (hwf : wf (.setitem op o i v) = true) :
    SimAt code (.setitem op o i v) (evNode fuel rec (.setitem op o i v)) := by
  intro kb kc rng pc stk σ res σ' hat he
  change (_ && _) = true at hwf
  simp only [Bool.and_eq_true, Bool.not_eq_true'] at hwf
  obtain ⟨⟨⟨⟨⟨⟨⟨⟨heo, hei⟩, hev⟩, hxo⟩, hxi⟩, hxv⟩, hwo⟩, hwi⟩, hwv⟩ := hwf
  change CodeAt code pc (ite _ _ _) at hat
  change ite _ _ _ = _ at he
  have hlen : size rng (.setitem op o i v) = ite _ _ _ := rfl
  simp only [if_neg hop, List.append_assoc] at hat he hlen
  obtain ⟨hato, hat⟩ := hat.app (comp_length o 0 0 rng)
  obtain ⟨hati, hat⟩ := hat.app (comp_length i 0 0 rng)
  obtain ⟨hsub, hat⟩ := hat.one
  obtain ⟨hatv, hat⟩ := hat.app (comp_length v 0 0 rng)
  obtain ⟨hbin, hat⟩ := hat.two
  obtain ⟨hato2, hat⟩ := hat.app (comp_length o 0 0 rng)
  obtain ⟨hati2, hsto⟩ := hat.app (comp_length i 0 0 rng)
  refine ih.seq hwo (isE_not_unit heo) hxo (.refl _) hato he fun ov σ1 Po he => ?_
  refine ih.seq hwi (isE_not_unit hei) hxi Po hati he fun iv σ2 Pi he => ?_
  cases hg : getItemS σ2 ov iv with
  | error c =>
    rw [hg] at he; cases he
    exact .fail Pi hsub (execIns_binarySubscr.trans (pushRes_error hg))
  | ok cur =>
    rw [hg] at he
    have Pc := Pi.ins hsub (execIns_binarySubscr.trans (pushRes_ok hg))
    refine ih.seq hwv (isE_not_unit hev) hxv Pc hatv he fun rhs σ3 Pv he => ?_
    have hex := (execIns_binary (pc := pc + size rng o + size rng i + 1 + size rng v) (s := stk) (σ := σ3)).trans
      (congrArg (pushRes · _ 2 stk σ3) (vBinaryF_assign σ3 op hop cur rhs))
    cases ha : applyF σ3 op cur rhs with
    | error c =>
      rw [ha] at he; cases he
      exact .fail Pv hbin (hex.trans (pushRes_error ha))
    | ok nv =>
      rw [ha] at he
      have Pb := Pv.ins hbin (hex.trans (pushRes_ok ha))
      refine ih.seq hwo (isE_not_unit heo) hxo Pb hato2 he fun ov2 σ4 Po2 he => ?_
      refine ih.seq hwi (isE_not_unit hei) hxi Po2 hati2 he fun iv2 σ5 Pi2 he => ?_
      cases hs : setItemS σ5 ov2 iv2 nv with
      | ok σ6 =>
        rw [hs] at he; cases he
        exact .unit rfl (Pi2.ins (CodeAt.head hsto) (execIns_storeSubscr_ok hs)) (by omega)
      | error c =>
        rw [hs] at he; cases he
        exact .fail Pi2 (CodeAt.head hsto) (execIns_storeSubscr_error hs)

/-! #### range loops -/

theorem getIterS_isIter {c it : SVal} (h : getIterS c = .ok it) : isIter it = true := by
  cases c <;> cases h <;> rfl

theorem iterNext_isIter {σ : St} {it it' key value : SVal} (h : iterNext σ it = some (it', key, value)) :
    isIter it' = true := by
  cases it with
  | iterL a pos =>
    simp only [iterNext] at h
    split at h
    · cases h; rfl
    · cases h
  | iterI n pos =>
    simp only [iterNext] at h
    by_cases hc : (pos : Int) < (if n < 0 then -n else n)
    · simp only [hc, ↓reduceIte] at h; cases h; rfl
    · simp only [hc, ↓reduceIte] at h; cases h
  | _ => cases h

/-- `ForIter d m` on an exhausted iterator drops it and leaves the loop; otherwise it pushes the
    advanced iterator and the loop values -/
theorem execIns_forIter {pc d m : Nat} {it : SVal} {s : List SVal} {σ : St} (hit : isIter it = true) :
    execIns (.forIter d m) ⟨pc, it :: s, σ⟩ =
      (match iterNext σ it with
       | none => .ok ⟨pc + d, s, σ⟩
       | some (it', key, value) =>
         match pushKV m key value with
         | some vals => .ok ⟨pc + 3, vals ++ it' :: s, σ⟩
         | none => .error (.err "eval")) := by
  show (if isIter it = true then _ else _) = _
  rw [if_pos hit]
  rfl

/-- the `StoreGlobal`s after `ForIter`: every pushed value is popped into its name -/
theorem stores_steps : ∀ (names : List String) (vals : List SVal) (P : Nat) (rest : List SVal) (σ : St),
    vals.length = names.length → CodeAt code P (stores names) →
    Steps code ⟨P, vals ++ rest, σ⟩ ⟨P + 2 * names.length, rest, bindAll names vals σ⟩ := by
  intro names
  induction names with
  | nil =>
    intro vals P rest σ hl _
    cases vals with
    | nil => exact .refl _
    | cons v vs => cases hl
  | cons x xs ihx =>
    intro vals P rest σ hl hat
    cases vals with
    | nil => cases hl
    | cons v vs =>
      obtain ⟨hsto, hrest⟩ := CodeAt.two (b := stores xs) hat
      have R := ihx vs (P + 2) rest (σ.set x v) (Nat.succ.inj hl) hrest
      exact (Steps.trans ((Steps.refl _).ins hsto execIns_storeG) R).cast
        (by rw [List.length_cons]; omega)

/-- the body phase of a range loop: the iterator `it` stays below the body's value, which is
    popped; `continue` lands on the backward jump too; `break` has popped the iterator and is at
    the exit -/
def RBodyTo (code : Code) (c0 : Cfg) (pcJ pcX : Nat) (it : SVal) (stk : List SVal) (r : Out) (σ' : St) : Prop :=
  match r with
  | .val _ => Steps code c0 ⟨pcJ, it :: stk, σ'⟩
  | .cont => Steps code c0 ⟨pcJ, it :: stk, σ'⟩
  | .brk => Steps code c0 ⟨pcX, stk, σ'⟩
  | .unit => False
  | .err c => Fails code c0 c σ'
  | .oof => True

/-- the generic range loop: `ForIter d m` at `pcI` (exit `pcX = pcI + d`, the iterator dropped), the
    stores of the names, the body at `pcB`, the backward jump at `pcJ`; by induction on the bound -/
theorem range_sim {names : List String} {m : Nat} {body : St → Out × St} {pcI pcB pcJ pcX d : Nat} {stk : List SVal}
    (hfi : code[pcI]? = some (some (.forIter d m))) (hX : pcX = pcI + d)
    (hlenv : ∀ key value vals, pushKV m key value = some vals → vals.length = names.length)
    (hst : ∀ vals it σ, vals.length = names.length →
      Steps code ⟨pcI + 3, vals ++ it :: stk, σ⟩ ⟨pcB, it :: stk, bindAll names vals σ⟩)
    (HB : ∀ it σ r σ1, body σ = (r, σ1) → RBodyTo code ⟨pcB, it :: stk, σ⟩ pcJ pcX it stk r σ1)
    (hjb : ∀ it σ, Steps code ⟨pcJ, it :: stk, σ⟩ ⟨pcI, it :: stk, σ⟩) :
    ∀ k it σ r σ', isIter it = true → rangeF names m body k it σ = (r, σ') →
      LoopTo code ⟨pcI, it :: stk, σ⟩ pcX stk r σ' := by
  intro k
  induction k with
  | zero =>
    intro it σ r σ' _ h
    cases h
    trivial
  | succ k ihk =>
    intro it σ r σ' hit h
    unfold rangeF at h
    have hex := execIns_forIter (pc := pcI) (d := d) (m := m) (s := stk) (σ := σ) hit
    cases hn : iterNext σ it with
    | none =>
      rw [hn] at h hex; cases h
      exact ((Steps.refl _).ins hfi hex).cast hX.symm
    | some e =>
      obtain ⟨it', key, value⟩ := e
      rw [hn] at h hex
      cases hp : pushKV m key value with
      | none =>
        simp only [hp] at h hex; cases h
        exact Fails.ins (.refl _) hfi hex
      | some vals =>
        simp only [hp] at h hex
        have pre := ((Steps.refl _).ins hfi hex).trans (hst vals it' σ (hlenv _ _ _ hp))
        rcases hb : body (bindAll names vals σ) with ⟨rb, σ2⟩
        rw [hb] at h
        have B := HB it' _ _ _ hb
        -- the next round, from the backward jump
        have next : Steps code ⟨pcI, it :: stk, σ⟩ ⟨pcJ, it' :: stk, σ2⟩ →
            rangeF names m body k it' σ2 = (r, σ') → LoopTo code ⟨pcI, it :: stk, σ⟩ pcX stk r σ' := fun S h =>
          (ihk it' σ2 r σ' (iterNext_isIter hn) h).pre (S.trans (hjb it' σ2))
        cases rb with
        | val w => exact next (pre.trans B) h
        | cont => exact next (pre.trans B) h
        | brk => cases h; exact pre.trans B
        | unit => exact B.elim
        | err c => cases h; exact Fails.pre pre B
        | oof => cases h; trivial

/-- `for … := range c { b }` and `for v in c { b }` share their shape -/
theorem sim_rangeloop (ih : IH code rec) (n c b : N) (names : List String) (m : Nat)
    (hcomp : comp kb kc rng n = comp 0 0 rng c ++ one .getIter
      ++ three (.forIter (3 + 2 * names.length + size true b + 3) m)
      ++ stores names ++ comp 3 1 true b ++ one .popTop
      ++ two (.jb (3 + 2 * names.length + size true b + 1)))
    (hsize : size rng n = size rng c + 1 + 3 + 2 * names.length + size true b + 3)
    (hun : isUnitNode n = true)
    (hlenv : ∀ key value vals, pushKV m key value = some vals → vals.length = names.length)
    (hec : isE c = true) (hbb : isBlock b = true) (hxc : escapes c = false) (hwc : wf c = true) (hwb : wf b = true)
    (pc : Nat) (stk : List SVal) (σ : St) (res : Out) (σ' : St)
    (hat : CodeAt code pc (comp kb kc rng n))
    (he : (seqV (rec c σ) fun cv σ1 => rangeOver names m (rec b) fuel cv σ1) = (res, σ')) :
    Post code kb kc rng n pc stk σ res σ' := by
  rw [hcomp] at hat
  simp only [List.append_assoc] at hat
  obtain ⟨hatc, hat⟩ := hat.app (comp_length c 0 0 rng)
  obtain ⟨hgi, hat⟩ := hat.one
  obtain ⟨hfi, hat⟩ := hat.three
  obtain ⟨hsts, hat⟩ := hat.app (stores_length names)
  obtain ⟨hatb, hat⟩ := hat.app (comp_length b 3 1 true)
  obtain ⟨hpop, hjb⟩ := hat.one
  refine ih.seq hwc (isE_not_unit hec) hxc (.refl _) hatc he fun cv σ1 Pc he => ?_
  unfold rangeOver at he
  cases hg : getIterS cv with
  | error e =>
    rw [hg] at he; cases he
    exact .fail Pc hgi (execIns_getIter.trans (pushRes_error hg))
  | ok it =>
    rw [hg] at he
    have pre := Pc.ins hgi (execIns_getIter.trans (pushRes_ok hg))
    -- the body block runs above the iterator; its `break` has popped it
    have HB : ∀ it σ r σ1, rec b σ = (r, σ1) →
        RBodyTo code ⟨pc + size rng c + 1 + 3 + 2 * names.length, it :: stk, σ⟩
          (pc + size rng c + 1 + 3 + 2 * names.length + size true b + 1)
          (pc + size rng c + 1 + (3 + 2 * names.length + size true b + 3)) it stk r σ1 := by
      intro it σ r σ1 h
      have P := ih b hwb 3 1 true _ (it :: stk) σ _ _ hatb h
      cases r with
      | val v => exact P.val_steps.ins hpop execIns_popTop
      | unit => cases (isBlock_not_unit hbb).symm.trans P.1
      | brk => exact (P.2 stk ⟨it, rfl⟩).cast (by omega)
      | cont => exact P.2
      | err c => exact P.2
      | oof => trivial
    have R := range_sim hfi rfl hlenv (fun vals it σ hl => stores_steps names vals _ (it :: stk) σ hl hsts) HB
      (fun it σ => ((Steps.refl _).ins (CodeAt.head hjb) execIns_jb).cast (by omega))
      fuel it σ1 res σ' (getIterS_isIter hg) he
    have e : pc + size rng c + 1 + (3 + 2 * names.length + size true b + 3) = pc + size rng n := by omega
    exact .of_loop hun ((e ▸ R).pre pre)

theorem rngNames_pushKV (k v : String) (key value : SVal) (vals : List SVal)
    (h : pushKV (rngNames k v).length key value = some vals) : vals.length = (rngNames k v).length := by
  unfold rngNames at *
  by_cases hk : (k == "") = true <;> by_cases hv : (v == "") = true <;>
    simp [hk, hv, pushKV] at h ⊢ <;> subst h <;> rfl

theorem sim_forrange (ih : IH code rec) (k v : String) (c b : N) (hwf : wf (.forrange k v c b) = true) :
    SimAt code (.forrange k v c b) (evNode fuel rec (.forrange k v c b)) := by
  intro kb kc rng pc stk σ res σ' hat he
  change (_ && _) = true at hwf
  simp only [Bool.and_eq_true, Bool.not_eq_true'] at hwf
  obtain ⟨⟨⟨⟨hec, hbb⟩, hxc⟩, hwc⟩, hwb⟩ := hwf
  exact sim_rangeloop ih _ c b (rngNames k v) (rngNames k v).length rfl rfl rfl
    (rngNames_pushKV k v) hec hbb hxc hwc hwb pc stk σ res σ' hat he

theorem sim_forin (ih : IH code rec) (v : String) (c b : N) (hwf : wf (.forin v c b) = true) :
    SimAt code (.forin v c b) (evNode fuel rec (.forin v c b)) := by
  intro kb kc rng pc stk σ res σ' hat he
  change (_ && _) = true at hwf
  simp only [Bool.and_eq_true, Bool.not_eq_true'] at hwf
  obtain ⟨⟨⟨⟨hec, hbb⟩, hxc⟩, hwc⟩, hwb⟩ := hwf
  exact sim_rangeloop ih _ c b [v] 3 rfl rfl rfl
    (fun key value vals h => by cases h; rfl) hec hbb hxc hwc hwb pc stk σ res σ' hat he

/-- every node form of the fragment: if the sub-nodes are simulated, so is the node -/
theorem evNode_sim (ih : IH code rec) (fuel : Nat) : IH code (evNode fuel rec) := by
  intro n hwf
  cases n with
  | «infix» op l r =>
    by_cases hand : op = .and
    · subst hand; exact sim_and ih l r hwf
    · by_cases hor : op = .or
      · subst hor; exact sim_or ih l r hwf
      · exact sim_infix ih op l r hand hor hwf
  | neg e => exact sim_neg ih e hwf
  | not e => exact sim_not ih e hwf
  | tern c a b =>
    change (_ && _) = true at hwf
    simp only [Bool.and_eq_true, Bool.not_eq_true'] at hwf
    obtain ⟨⟨⟨⟨⟨⟨⟨⟨hec, hea⟩, heb⟩, hxc⟩, _⟩, _⟩, hwc⟩, hwa⟩, hwb⟩ := hwf
    exact fun kb kc rng => sim_cond ih _ c a b rfl rfl rfl rfl hwc hwa hwb
      (isE_not_unit hec) (isE_not_unit hea) (isE_not_unit heb) hxc
  | if_ c t e =>
    change (_ && _) = true at hwf
    simp only [Bool.and_eq_true, Bool.not_eq_true'] at hwf
    obtain ⟨⟨⟨⟨⟨⟨hec, hbt⟩, hee⟩, hxc⟩, hwc⟩, hwt⟩, hwe⟩ := hwf
    exact fun kb kc rng => sim_cond ih _ c t e rfl rfl rfl rfl hwc hwt hwe
      (isE_not_unit hec) (isBlock_not_unit hbt) (isElse_not_unit hee) hxc
  | block s =>
    have hw : (isL s && wf s) = true := hwf
    simp only [Bool.and_eq_true] at hw
    exact fun kb kc rng pc stk σ r σ' hat he =>
      .last (.refl _) (ih s hw.2 kb kc rng pc stk σ r σ' hat he) rfl (isL_not_unit hw.1).symm id
  | prog s =>
    have hw : (isL s && !escapes s && wf s) = true := hwf
    simp only [Bool.and_eq_true] at hw
    exact fun kb kc rng pc stk σ r σ' hat he =>
      .last (.refl _) (ih s hw.2 kb kc rng pc stk σ r σ' hat he) rfl (isL_not_unit hw.1.1).symm id
  | expr e =>
    have hw : (isE e && wf e) = true := hwf
    simp only [Bool.and_eq_true] at hw
    exact fun kb kc rng pc stk σ r σ' hat he =>
      .last (.refl _) (ih e hw.2 kb kc rng pc stk σ r σ' hat he) rfl (isE_not_unit hw.1).symm id
  | cons h t => exact sim_cons ih h t hwf
  | var x e => exact sim_var ih x e hwf
  | assign x op e => exact sim_assign ih x op e hwf
  | «postfix» x inc => exact sim_postfix x inc
  | break_ => exact fun kb kc rng => sim_ctl true
  | continue_ => exact fun kb kc rng => sim_ctl false
  | forcond c b => exact sim_forcond ih c b hwf
  | forever b => exact sim_forever ih b hwf
  | for3 i c p b => exact sim_for3 ih i c p b hwf
  | switch subj cases => exact sim_switch ih subj cases hwf
  | list items => exact sim_list ih items hwf
  | index e i => exact sim_index ih e i hwf
  | setitem op o i v =>
    by_cases hop : op = .set
    · subst hop; exact sim_setitem_set ih o i v hwf
    · exact sim_setitem_op ih op hop o i v hwf
  | forrange k v c b => exact sim_forrange ih k v c b hwf
  | forin v c b => exact sim_forin ih v c b hwf
  -- leaves: one instruction pushes the value
  | nilLit => exact fun _ _ _ pc stk σ r σ' hat he => sim_leaf _ .nil_ .nil 1 pc stk σ r σ' rfl (CodeAt.head hat) rfl rfl he
  | none_ => exact fun _ _ _ pc stk σ r σ' hat he => sim_leaf _ .nil_ .nil 1 pc stk σ r σ' rfl (CodeAt.head hat) rfl rfl he
  | nilL => exact fun _ _ _ pc stk σ r σ' hat he => sim_leaf _ .nil_ .nil 1 pc stk σ r σ' rfl (CodeAt.head hat) rfl rfl he
  | int i =>
    exact fun _ _ _ pc stk σ r σ' hat he => sim_leaf _ (.constInt i) (.int i) 2 pc stk σ r σ' rfl (CodeAt.head hat) rfl rfl he
  | str s =>
    exact fun _ _ _ pc stk σ r σ' hat he => sim_leaf _ (.constStr s) (.str s) 2 pc stk σ r σ' rfl (CodeAt.head hat) rfl rfl he
  | id x =>
    exact fun _ _ _ pc stk σ r σ' hat he => sim_leaf _ (.loadG x) (σ.get x) 2 pc stk σ r σ' rfl (CodeAt.head hat) rfl rfl he
  | bool b =>
    exact fun _ _ _ pc stk σ r σ' hat he =>
      sim_leaf _ (if b then .true_ else .false_) (.bool b) 1 pc stk σ r σ' rfl (CodeAt.head hat) rfl (by cases b <;> rfl) he
  | _ => cases hwf

/-- the simulation, for every fuel: induction on fuel only (each node evaluates its sub-nodes
    with one unit of fuel less; loops iterate inside `loop_sim`) -/
theorem ev_sim (code : Code) : ∀ f, IH code (ev f)
  | 0 => by
    intro n _ kb kc rng pc stk σ r σ' _ he
    cases he
    exact ⟨trivial, trivial⟩
  | f + 1 => evNode_sim (ev_sim code f) f

/-! ### from `Steps` to the fuel-indexed `run` -/

theorem run_of_steps {code : Code} {a b : Cfg} (h : Steps code a b) :
    ∃ n, ∀ k, run code (n + k) a = run code k b := by
  induction h with
  | refl c => exact ⟨0, fun k => by rw [Nat.zero_add]⟩
  | cons hs _ ih =>
    obtain ⟨n, hn⟩ := ih
    refine ⟨n + 1, fun k => ?_⟩
    have : n + 1 + k = (n + k) + 1 := by omega
    rw [this, run, hs]
    exact hn k

/-- once the VM has halted, more fuel does not change the outcome -/
theorem run_mono {code : Code} : ∀ (k : Nat) (c : Cfg) (res : RunRes) (σ : St),
    run code k c = (res, σ) → res ≠ .running → run code (k + 1) c = (res, σ)
  | 0, c, res, σ, h, hr => by simp only [run] at h; cases h; exact absurd rfl hr
  | k + 1, c, res, σ, h, hr => by
    rw [run] at h ⊢
    cases hs : step code c with
    | ok c' => rw [hs] at h; simp only at h ⊢; exact run_mono k c' res σ h hr
    | error e => rw [hs] at h; cases e <;> exact h

/-! ### item writes -/

theorem resolveIndex_lt {k : Int} {n : Nat} {j : Int} (h : resolveIndex k n = some j) : 0 ≤ j ∧ j.toNat < n := by
  unfold resolveIndex at h
  simp only at h
  split at h
  · cases h
  · split at h
    · cases h; omega
    · split at h
      · cases h
      · cases h
        simp only [Bool.or_eq_true, decide_eq_true_eq] at *
        omega

theorem items_write_same (σ : St) (a : Nat) (l : List SVal) (ha : a < σ.h.length) : (σ.write a l).items a = l := by
  simp [St.write, St.items, List.getD, ha]

theorem items_write_other (σ : St) (a b : Nat) (l : List SVal) (hab : b ≠ a) : (σ.write a l).items b = σ.items b := by
  simp only [St.write, St.items, List.getD]
  rw [List.getElem?_set_ne (by omega)]

/-- a successful item write went to an allocated object at a resolved position -/
theorem setItemS_ok {σ σ' : St} {a : Nat} {i nv : SVal} (h : setItemS σ (.ref a) i nv = .ok σ') :
    ∃ k j, i = .int k ∧ resolveIndex k (σ.items a).length = some j ∧ a < σ.h.length ∧
      σ' = σ.write a ((σ.items a).set j.toNat nv) := by
  cases i with
  | int k =>
    simp only [setItemS] at h
    cases hr : resolveIndex k (σ.items a).length with
    | none => rw [hr] at h; cases h
    | some j =>
      rw [hr] at h
      have hj := resolveIndex_lt hr
      -- an address that is not allocated has no items, so no index resolves
      have ha : a < σ.h.length := by
        rcases Nat.lt_or_ge a σ.h.length with h1 | h1
        · exact h1
        · have : σ.items a = [] := by simp [St.items, List.getD, List.getElem?_eq_none h1]
          rw [this] at hj; cases hj.2
      exact ⟨k, j, rfl, hr, ha, by cases h; rfl⟩
  | _ => cases h

/-! ### the heap only grows, and no list changes its length -/

/-- `σ'` extends `σ`: every object of `σ` is still there with the same number of items (its items
    may have been overwritten), and there may be new objects -/
def Ext (σ σ' : St) : Prop :=
  σ.h.length ≤ σ'.h.length ∧ ∀ a, a < σ.h.length → (σ'.items a).length = (σ.items a).length

theorem Ext.refl (σ : St) : Ext σ σ := ⟨Nat.le_refl _, fun _ _ => rfl⟩

theorem Ext.trans {a b c : St} (h1 : Ext a b) (h2 : Ext b c) : Ext a c :=
  ⟨Nat.le_trans h1.1 h2.1, fun x hx => by rw [h2.2 x (by have := h1.1; omega), h1.2 x hx]⟩

theorem Ext.set (σ : St) (x : String) (v : SVal) : Ext σ (σ.set x v) := ⟨Nat.le_refl _, fun _ _ => rfl⟩

theorem Ext.bindAll (names : List String) (vals : List SVal) (σ : St) : Ext σ (bindAll names vals σ) := by
  induction names generalizing vals σ with
  | nil => cases vals <;> exact Ext.refl _
  | cons x xs ih =>
    cases vals with
    | nil => exact Ext.refl _
    | cons v vs => exact (Ext.set σ x v).trans (ih vs _)

theorem Ext.alloc (σ : St) (l : List SVal) : Ext σ (σ.alloc l).2 := by
  refine ⟨by simp [St.alloc], fun a ha => ?_⟩
  simp [St.items, St.alloc, List.getD, List.getElem?_append_left ha]

theorem Ext.setItem {σ σ' : St} {obj i nv : SVal} (h : setItemS σ obj i nv = .ok σ') : Ext σ σ' := by
  cases obj with
  | ref a =>
    obtain ⟨k, j, rfl, _, ha, rfl⟩ := setItemS_ok h
    refine ⟨by simp [St.write], fun b hb => ?_⟩
    by_cases hab : b = a
    · rw [hab, items_write_same _ _ _ ha, List.length_set]
    · rw [items_write_other _ _ _ _ hab]
  | _ => cases i <;> cases h

/-- an outcome that returns the state it was given -/
theorem Ext.of_eq {σ σ' : St} {r r' : Out} (h : (r, σ) = (r', σ')) : Ext σ σ' := by
  cases h; exact Ext.refl _

theorem seqV_ext {σ σ' : St} {x : Out × St} {k : SVal → St → Out × St} {r : Out}
    (h : seqV x k = (r, σ')) (hx : ∀ r1 σ1, x = (r1, σ1) → Ext σ σ1)
    (hk : ∀ v σ1, k v σ1 = (r, σ') → Ext σ1 σ') : Ext σ σ' := by
  rcases seqV_elim h with ⟨v, σ1, h1, h2⟩ | ⟨_, h1⟩
  · exact (hx _ _ h1).trans (hk v σ1 h2)
  · exact hx _ _ h1

/-- the induction hypothesis: sub-evaluations extend the state -/
def PresAll (rec : N → St → Out × St) : Prop := ∀ n σ r σ', rec n σ = (r, σ') → Ext σ σ'

theorem loopF_ext {cond body post : St → Out × St}
    (hc : ∀ σ r σ', cond σ = (r, σ') → Ext σ σ') (hb : ∀ σ r σ', body σ = (r, σ') → Ext σ σ')
    (hp : ∀ σ r σ', post σ = (r, σ') → Ext σ σ') :
    ∀ k σ r σ', loopF cond body post k σ = (r, σ') → Ext σ σ' := by
  intro k
  induction k with
  | zero => intro σ r σ' h; exact .of_eq h
  | succ k ih =>
    intro σ r σ' h
    unfold loopF at h
    refine seqV_ext h (fun _ _ h1 => hc _ _ _ h1) (fun v σ1 h2 => ?_)
    split at h2
    · rcases hbd : body σ1 with ⟨rb, σ2⟩
      rw [hbd] at h2
      have E1 := hb _ _ _ hbd
      -- the post statement and the next round
      have after : (match post σ2 with
          | (.unit, σ3) => loopF cond body post k σ3
          | (.val _, σ3) => loopF cond body post k σ3
          | other => other) = (r, σ') → Ext σ2 σ' := by
        intro h3
        rcases hpd : post σ2 with ⟨rp, σ3⟩
        rw [hpd] at h3
        have E2 := hp _ _ _ hpd
        cases rp with
        | unit => exact E2.trans (ih _ _ _ h3)
        | val w => exact E2.trans (ih _ _ _ h3)
        | _ => cases h3; exact E2
      cases rb with
      | val w => exact E1.trans (after h2)
      | cont => exact E1.trans (after h2)
      | _ => cases h2; exact E1
    · exact .of_eq h2

theorem rangeF_ext {names : List String} {m : Nat} {body : St → Out × St}
    (hb : ∀ σ r σ', body σ = (r, σ') → Ext σ σ') :
    ∀ k it σ r σ', rangeF names m body k it σ = (r, σ') → Ext σ σ' := by
  intro k
  induction k with
  | zero => intro it σ r σ' h; exact .of_eq h
  | succ k ih =>
    intro it σ r σ' h
    unfold rangeF at h
    split at h
    · exact .of_eq h
    · split at h
      · exact .of_eq h
      · rename_i vals _
        rcases hbd : body (bindAll names vals σ) with ⟨rb, σ2⟩
        rw [hbd] at h
        have E1 := (Ext.bindAll names vals σ).trans (hb _ _ _ hbd)
        cases rb with
        | val w => exact E1.trans (ih _ _ _ _ h)
        | cont => exact E1.trans (ih _ _ _ _ h)
        | _ => cases h; exact E1

theorem evItems_ext {rec : N → St → Out × St} (hr : PresAll rec) :
    ∀ items σ res σ', evItems rec items σ = (res, σ') → Ext σ σ' := by
  intro items
  induction items with
  | cons e es _ ihes =>
    intro σ res σ' h
    unfold evItems at h
    rcases hv : rec e σ with ⟨r, σ1⟩
    rw [hv] at h
    have E1 := hr _ _ _ _ hv
    cases r with
    | val w =>
      simp only at h
      rcases hr2 : evItems rec es σ1 with ⟨rr, σ2⟩
      rw [hr2] at h
      have E2 := E1.trans (ihes _ _ _ hr2)
      cases rr <;> (cases h; exact E2)
    | _ => cases h; exact E1
  | _ => intro σ res σ' h; cases h; exact Ext.refl _

theorem matchValsF_ext {rec : N → St → Out × St} (hr : PresAll rec) (sv : SVal) :
    ∀ vs σ res σ', matchValsF rec sv vs σ = (res, σ') → Ext σ σ' := by
  intro vs
  induction vs with
  | cons v vs _ ihvs =>
    intro σ res σ' h
    unfold matchValsF at h
    rcases hv : rec v σ with ⟨r, σ1⟩
    rw [hv] at h
    have E1 := hr _ _ _ _ hv
    cases r with
    | val w =>
      simp only at h
      split at h
      · cases h; exact E1
      · exact E1.trans (ihvs _ _ _ h)
    | _ => cases h; exact E1
  | _ => intro σ res σ' h; cases h; exact Ext.refl _

theorem evCasesF_ext {rec : N → St → Out × St} (hr : PresAll rec) (sv : SVal) (dflt : Option N) :
    ∀ cs σ r σ', evCasesF rec sv dflt cs σ = (r, σ') → Ext σ σ' := by
  intro cs
  induction cs with
  | cons h t _ iht =>
    intro σ r σ' he
    cases h with
    | case_ vals body =>
      unfold evCasesF at he; simp only at he
      rcases hm : matchValsF rec sv vals σ with ⟨m, σ1⟩
      rw [hm] at he
      have E1 := matchValsF_ext hr sv _ _ _ _ hm
      rcases m with o | _ | _
      · cases he; exact E1
      · exact E1.trans (iht _ _ _ he)
      · exact E1.trans (hr _ _ _ _ he)
    | _ => unfold evCasesF at he; exact iht _ _ _ he
  | _ =>
    intro σ r σ' he
    change runDflt rec dflt σ = _ at he
    cases dflt with
    | some b => exact hr _ _ _ _ he
    | none => exact .of_eq he

theorem evNode_ext {rec : N → St → Out × St} (hr : PresAll rec) (fuel : Nat) : PresAll (evNode fuel rec) := by
  intro n σ r σ' he
  have R := fun (n : N) (σ : St) (r1 : Out) (σ1 : St) (h : rec n σ = (r1, σ1)) => hr n σ r1 σ1 h
  have lift : ∀ {x : Except String SVal} {σ1 : St}, liftE x σ1 = (r, σ') → Ext σ1 σ' := fun {x σ1} h => by
    cases x <;> exact .of_eq h
  have range : ∀ {names m b cv σ1}, rangeOver names m (rec b) fuel cv σ1 = (r, σ') → Ext σ1 σ' :=
    fun {names m b cv σ1} h => by
      unfold rangeOver at h
      split at h
      · exact rangeF_ext (R b) _ _ _ _ _ h
      · exact .of_eq h
  unfold evNode at he
  cases n
  case «infix» op l r =>
    refine seqV_ext he (R l σ) (fun a σ1 h => ?_)
    split at h
    · split at h
      · exact seqV_ext h (R r σ1) (fun b σ2 h => .of_eq h)
      · exact .of_eq h
    · split at h
      · split at h
        · exact .of_eq h
        · exact seqV_ext h (R r σ1) (fun b σ2 h => .of_eq h)
      · exact seqV_ext h (R r σ1) (fun b σ2 h => lift h)
  case neg e =>
    refine seqV_ext he (R e σ) (fun v σ1 h => ?_)
    split at h <;> exact .of_eq h
  case not e => exact seqV_ext he (R e σ) (fun v σ1 h => .of_eq h)
  case tern c a b =>
    refine seqV_ext he (R c σ) (fun v σ1 h => ?_)
    split at h <;> exact R _ _ _ _ h
  case if_ c a b =>
    refine seqV_ext he (R c σ) (fun v σ1 h => ?_)
    split at h <;> exact R _ _ _ _ h
  case block s => exact R _ _ _ _ he
  case prog s => exact R _ _ _ _ he
  case expr s => exact R _ _ _ _ he
  case cons h t =>
    simp only at he
    rcases hh : rec h σ with ⟨r1, σ1⟩
    rw [hh] at he
    have E1 := R _ _ _ _ hh
    split at he
    · cases r1 <;> (cases he; exact E1)
    · cases r1 with
      | val v => exact E1.trans (R _ _ _ _ he)
      | unit => exact E1.trans (R _ _ _ _ he)
      | _ => cases he; exact E1
  case var x e => exact seqV_ext he (R e σ) (fun v σ1 h => by cases h; exact Ext.set _ _ _)
  case assign x op e =>
    refine seqV_ext he (R e σ) (fun v σ1 h => ?_)
    split at h
    · cases h; exact Ext.set _ _ _
    · exact .of_eq h
  case «postfix» x inc =>
    simp only at he
    split at he
    · cases he; exact Ext.set _ _ _
    · exact .of_eq he
  case forcond c b => exact loopF_ext (R c) (R b) (fun _ _ _ h => .of_eq h) _ _ _ _ he
  case forever b => exact loopF_ext (fun _ _ _ h => .of_eq h) (R b) (fun _ _ _ h => .of_eq h) _ _ _ _ he
  case for3 i c p b =>
    simp only at he
    rcases hi : rec i σ with ⟨r1, σ1⟩
    rw [hi] at he
    have E1 := R _ _ _ _ hi
    cases r1 with
    | unit => exact E1.trans (loopF_ext (R c) (R b) (R p) _ _ _ _ he)
    | _ => cases he; exact E1
  case switch subj cases => exact seqV_ext he (R subj σ) (fun sv σ1 h => evCasesF_ext hr sv _ _ _ _ _ h)
  case list items =>
    simp only at he
    rcases hi : evItems rec items σ with ⟨ri, σ1⟩
    rw [hi] at he
    have E1 := evItems_ext hr _ _ _ _ hi
    cases ri with
    | ok vs => cases he; exact E1.trans (Ext.alloc _ _)
    | error o => cases he; exact E1
  case index e i =>
    exact seqV_ext he (R e σ) (fun ov σ1 h => seqV_ext h (R i σ1) (fun iv σ2 h => lift h))
  case setitem op o i v =>
    -- the last step of both forms: the store, or its error
    have store : ∀ {σ5 : St} {ov iv nv : SVal},
        (match setItemS σ5 ov iv nv with | .ok σ6 => (Out.unit, σ6) | .error c => (.err c, σ5)) = (r, σ') →
        Ext σ5 σ' := fun {σ5 ov iv nv} h => by
      split at h
      · rename_i hs; cases h; exact Ext.setItem hs
      · exact .of_eq h
    simp only at he
    split at he
    · exact seqV_ext he (R v σ) (fun rhs σ1 h => seqV_ext h (R o σ1) (fun ov σ2 h =>
        seqV_ext h (R i σ2) (fun iv σ3 h => store h)))
    · refine seqV_ext he (R o σ) (fun ov σ1 h => seqV_ext h (R i σ1) (fun iv σ2 h => ?_))
      split at h
      · exact .of_eq h
      · refine seqV_ext h (R v σ2) (fun rhs σ3 h => ?_)
        split at h
        · exact .of_eq h
        · exact seqV_ext h (R o σ3) (fun ov2 σ4 h => seqV_ext h (R i σ4) (fun iv2 σ5 h => store h))
  case forrange k v c b => exact seqV_ext he (R c σ) (fun cv σ1 h => range h)
  case forin v c b => exact seqV_ext he (R c σ) (fun cv σ1 h => range h)
  -- leaves, `break`, `continue`, and what is outside the fragment return the state as it is
  all_goals exact .of_eq he

/-- **every evaluation extends the state**: the heap only grows and no list changes its length
    (all nodes, no well-formedness needed) -/
theorem ev_ext : ∀ f, PresAll (ev f)
  | 0 => fun _ _ _ _ he => .of_eq he
  | f + 1 => evNode_ext (ev_ext f) f

/-! ### item lists, loop-name bindings (helpers of SeqProps.lean) -/

/-- an item list fails only with the outcome of an item that did not produce a value -/
theorem evItems_error_not_val (rec : N → St → Out × St) :
    ∀ (items : N) (σ σ' : St) (o : Out), evItems rec items σ = (.error o, σ') → ∀ v, o ≠ .val v := by
  intro items
  induction items with
  | cons e es _ ihes =>
    intro σ σ' o h v
    unfold evItems at h
    rcases hv : rec e σ with ⟨r, σ1⟩
    rw [hv] at h
    cases r with
    | val w =>
      simp only at h
      rcases hr : evItems rec es σ1 with ⟨rr, σ2⟩
      rw [hr] at h
      cases rr with
      | ok vs => cases h
      | error o' => cases h; exact ihes σ1 _ _ hr v
    | _ => cases h; nofun
  | _ => intro σ σ' o h; cases h

theorem bindAll_items (names : List String) (vals : List SVal) (σ : St) (a : Nat) :
    (bindAll names vals σ).items a = σ.items a := by
  induction names generalizing vals σ with
  | nil => cases vals <;> rfl
  | cons x xs ih =>
    cases vals with
    | nil => rfl
    | cons v vs => exact ih vs _

end Risor.C01.Seq
