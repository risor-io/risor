import RisorModel.C01.Frag
/-!
C01 fragment — helper lemmas for `FragProps.lean`: multi-step execution (`Steps`), the
position-independence predicate `CodeAt code pc fragment` (every risor jump is relative, so
a compiled fragment behaves the same wherever it sits), one simulation lemma per construct
(`sim_*`), and the generic loop lemma.  Core Lean only.
-/
namespace Risor.C01.Frag
open Risor.C01

/-! ### multi-step execution -/

inductive Steps (code : Code) : Cfg → Cfg → Prop where
  | refl (c : Cfg) : Steps code c c
  | cons {a b c : Cfg} : step code a = .ok b → Steps code b c → Steps code a c

theorem Steps.trans {code : Code} {a b c : Cfg} (h1 : Steps code a b) (h2 : Steps code b c) : Steps code a c := by
  induction h1 with
  | refl => exact h2
  | cons hs _ ih => exact .cons hs (ih h2)

theorem Steps.cast {code : Code} {a : Cfg} {p q : Nat} {s : List FVal} {σ : Store}
    (h : Steps code a ⟨p, s, σ⟩) (e : p = q) : Steps code a ⟨q, s, σ⟩ := e ▸ h

theorem Steps.castL {code : Code} {b : Cfg} {p q : Nat} {s : List FVal} {σ : Store}
    (h : Steps code ⟨p, s, σ⟩ b) (e : p = q) : Steps code ⟨q, s, σ⟩ b := e ▸ h

theorem step_of {code : Code} {pc : Nat} {i : FIns} (h : code[pc]? = some (some i)) (stk : List FVal) (σ : Store) :
    step code ⟨pc, stk, σ⟩ = execIns i ⟨pc, stk, σ⟩ := by
  have hlt : ¬ (pc ≥ code.length) := fun h1 => by rw [List.getElem?_eq_none h1] at h; cases h
  simp only [step, hlt, if_false, h]

/-- one more instruction: the one found at `pc`, with its effect `hex` (an `execIns_*` equation) -/
theorem Steps.ins {code : Code} {a c' : Cfg} {pc : Nat} {i : FIns} {stk : List FVal} {σ : Store}
    (h1 : Steps code a ⟨pc, stk, σ⟩) (hi : code[pc]? = some (some i)) (hex : execIns i ⟨pc, stk, σ⟩ = .ok c') :
    Steps code a c' :=
  h1.trans (.cons ((step_of hi stk σ).trans hex) (.refl _))

/-- the run reaches a configuration whose next step is the error `cls`, with store `σ'` -/
def Fails (code : Code) (c0 : Cfg) (cls : String) (σ' : Store) : Prop :=
  ∃ c1, Steps code c0 c1 ∧ c1.σ = σ' ∧ step code c1 = .error (.err cls)

theorem Fails.pre {code : Code} {a b : Cfg} {cls : String} {σ' : Store}
    (h : Steps code a b) (f : Fails code b cls σ') : Fails code a cls σ' := by
  obtain ⟨c1, h1, h2, h3⟩ := f
  exact ⟨c1, h.trans h1, h2, h3⟩

theorem Fails.ins {code : Code} {a : Cfg} {pc : Nat} {i : FIns} {stk : List FVal} {σ : Store} {cls : String}
    (h1 : Steps code a ⟨pc, stk, σ⟩) (hi : code[pc]? = some (some i)) (hex : execIns i ⟨pc, stk, σ⟩ = .error (.err cls)) :
    Fails code a cls σ :=
  ⟨_, h1, rfl, (step_of hi stk σ).trans hex⟩

/-- outcome `r` with final store `σ'` is realised from `c0`: a value lands at `pcE` on top of
    `stk`, unit lands at `pcE` with `stk` itself, `break` / `continue` land on the enclosing
    loop's targets (`kb` / `kc` slots after `pcE`) with `stk` itself, an error is raised by the
    VM with the same class; nothing is claimed for out-of-fuel -/
def Lands (code : Code) (c0 : Cfg) (pcE kb kc : Nat) (stk : List FVal) (r : Out) (σ' : Store) : Prop :=
  match r with
  | .val v => Steps code c0 ⟨pcE, v :: stk, σ'⟩
  | .unit => Steps code c0 ⟨pcE, stk, σ'⟩
  | .brk => Steps code c0 ⟨pcE + kb, stk, σ'⟩
  | .cont => Steps code c0 ⟨pcE + kc, stk, σ'⟩
  | .err c => Fails code c0 c σ'
  | .oof => True

/-- which nodes end with a value, which with `unit`, and which can be left by a break/continue -/
def Shape (n : N) (r : Out) : Prop :=
  match r with
  | .val _ => isUnitNode n = false
  | .unit => isUnitNode n = true
  | .brk => escapes n = true
  | .cont => escapes n = true
  | _ => True

/-- the simulation statement for one node at one place -/
def Post (code : Code) (kb kc : Nat) (n : N) (pc : Nat) (stk : List FVal) (σ : Store) (r : Out) (σ' : Store) : Prop :=
  Shape n r ∧ Lands code ⟨pc, stk, σ⟩ (pc + size n) kb kc stk r σ'

/-- outcome of an operand (an expression that no break/continue escapes): its value lands at
    `pcE` on top of `stk`, or the VM raises the same error; there is no other outcome -/
def ValTo (code : Code) (c0 : Cfg) (pcE : Nat) (stk : List FVal) (r : Out) (σ' : Store) : Prop :=
  match r with
  | .val v => Steps code c0 ⟨pcE, v :: stk, σ'⟩
  | .err c => Fails code c0 c σ'
  | .oof => True
  | _ => False

/-- an operand, or a list of operands (the values of a case), that stopped without a value: the
    outcome `o` of the operand that failed -/
def ErrTo (code : Code) (c0 : Cfg) (o : Out) (σ' : Store) : Prop :=
  match o with
  | .err c => Fails code c0 c σ'
  | .oof => True
  | _ => False

theorem ValTo.pre {code : Code} {c0 c1 : Cfg} {pcE : Nat} {stk : List FVal} {r : Out} {σ' : Store}
    (l : ValTo code c1 pcE stk r σ') (h : Steps code c0 c1) : ValTo code c0 pcE stk r σ' := by
  cases r with
  | val v => exact h.trans l
  | err c => exact Fails.pre h l
  | _ => exact l

theorem ErrTo.pre {code : Code} {c0 c1 : Cfg} {o : Out} {σ' : Store}
    (l : ErrTo code c1 o σ') (h : Steps code c0 c1) : ErrTo code c0 o σ' := by
  cases o with
  | err c => exact Fails.pre h l
  | _ => exact l

theorem ValTo.err {code : Code} {c0 : Cfg} {pcE : Nat} {stk : List FVal} {o : Out} {σ' : Store}
    (l : ValTo code c0 pcE stk o σ') (hnv : ∀ v, o ≠ .val v) : ErrTo code c0 o σ' := by
  cases o with
  | val v => exact absurd rfl (hnv v)
  | _ => exact l

/-! ### `CodeAt code pc frag`: the fragment sits at slot offset `pc` of the enclosing code -/

def CodeAt (code : Code) (pc : Nat) (frag : Code) : Prop :=
  ∀ i, i < frag.length → code[pc + i]? = frag[i]?

theorem CodeAt.self (code : Code) : CodeAt code 0 code := by
  intro i _
  simp

theorem CodeAt.cast {code : Code} {p q : Nat} {frag : Code} (h : CodeAt code p frag) (e : p = q) :
    CodeAt code q frag := e ▸ h

theorem CodeAt.head {code : Code} {pc : Nat} {x : Option FIns} {rest : Code} (h : CodeAt code pc (x :: rest)) :
    code[pc]? = some x := by
  simpa using h 0 (by simp)

/-- the two halves of `a ++ b`; the running position is kept as the sum `pc + k` -/
theorem CodeAt.app {code : Code} {pc k : Nat} {a b : Code} (h : CodeAt code pc (a ++ b)) (e : a.length = k) :
    CodeAt code pc a ∧ CodeAt code (pc + k) b := by
  subst e
  refine ⟨fun i hi => ?_, fun i hi => ?_⟩
  · rw [h i (by simp; omega), List.getElem?_append_left hi]
  · rw [Nat.add_assoc, h (a.length + i) (by simp; omega), List.getElem?_append_right (by omega)]
    simp

@[simp] theorem one_length (i : FIns) : (one i).length = 1 := rfl
@[simp] theorem two_length (i : FIns) : (two i).length = 2 := rfl

/-- an instruction and what follows it -/
theorem CodeAt.one {code : Code} {pc : Nat} {i : FIns} {b : Code} (h : CodeAt code pc (one i ++ b)) :
    code[pc]? = some (some i) ∧ CodeAt code (pc + 1) b := ⟨CodeAt.head h, (h.app rfl).2⟩
theorem CodeAt.two {code : Code} {pc : Nat} {i : FIns} {b : Code} (h : CodeAt code pc (two i ++ b)) :
    code[pc]? = some (some i) ∧ CodeAt code (pc + 2) b := ⟨CodeAt.head h, (h.app rfl).2⟩

/-! ### the instructions, one equation each -/

section
variable {pc : Nat} {s : List FVal} {σ : Store} {v a b : FVal}

theorem execIns_nop : execIns .nop ⟨pc, s, σ⟩ = .ok ⟨pc + 1, s, σ⟩ := rfl
theorem execIns_nil : execIns .nil_ ⟨pc, s, σ⟩ = .ok ⟨pc + 1, .nil :: s, σ⟩ := rfl
theorem execIns_constInt {k : Int} : execIns (.constInt k) ⟨pc, s, σ⟩ = .ok ⟨pc + 2, .int k :: s, σ⟩ := rfl
theorem execIns_constStr {k : String} : execIns (.constStr k) ⟨pc, s, σ⟩ = .ok ⟨pc + 2, .str k :: s, σ⟩ := rfl
theorem execIns_loadG {x : String} : execIns (.loadG x) ⟨pc, s, σ⟩ = .ok ⟨pc + 2, σ.get x :: s, σ⟩ := rfl
theorem execIns_storeG {x : String} : execIns (.storeG x) ⟨pc, v :: s, σ⟩ = .ok ⟨pc + 2, s, σ.set x v⟩ := rfl
theorem execIns_unaryNot : execIns .unaryNot ⟨pc, v :: s, σ⟩ = .ok ⟨pc + 1, .bool (!v.truthy) :: s, σ⟩ := rfl
theorem execIns_popTop : execIns .popTop ⟨pc, v :: s, σ⟩ = .ok ⟨pc + 1, s, σ⟩ := rfl
theorem execIns_copy0 : execIns (.copy 0) ⟨pc, v :: s, σ⟩ = .ok ⟨pc + 2, v :: v :: s, σ⟩ := rfl
theorem execIns_swap1 : execIns (.swap 1) ⟨pc, a :: b :: s, σ⟩ = .ok ⟨pc + 2, b :: a :: s, σ⟩ := rfl
theorem execIns_jf {d : Nat} : execIns (.jf d) ⟨pc, s, σ⟩ = .ok ⟨pc + d, s, σ⟩ := rfl
theorem execIns_jb {d : Nat} : execIns (.jb d) ⟨pc, s, σ⟩ = .ok ⟨pc - d, s, σ⟩ := rfl
theorem execIns_pjf {d : Nat} :
    execIns (.pjf d) ⟨pc, v :: s, σ⟩ = .ok ⟨if v.truthy = true then pc + 2 else pc + d, s, σ⟩ := rfl
theorem execIns_pjt {d : Nat} :
    execIns (.pjt d) ⟨pc, v :: s, σ⟩ = .ok ⟨if v.truthy = true then pc + d else pc + 2, s, σ⟩ := rfl

/-- what an instruction that computes `x` and replaces its operands (the stack is `s` without them) by the
    result does: `w` is its width -/
def pushRes (x : Except String FVal) (pc w : Nat) (s : List FVal) (σ : Store) : Except Halt Cfg :=
  match x with
  | .ok v => .ok ⟨pc + w, v :: s, σ⟩
  | .error e => .error (.err e)

theorem execIns_binary {k : Nat} : execIns (.binary k) ⟨pc, b :: a :: s, σ⟩ = pushRes (vBinaryF k a b) pc 2 s σ := rfl
theorem execIns_compare {k : Nat} : execIns (.compare k) ⟨pc, b :: a :: s, σ⟩ = pushRes (vCompareF k a b) pc 2 s σ := rfl

theorem pushRes_ok {x : Except String FVal} {w : Nat} (h : x = .ok v) : pushRes x pc w s σ = .ok ⟨pc + w, v :: s, σ⟩ := by
  rw [h]; rfl
theorem pushRes_error {x : Except String FVal} {w : Nat} {c : String} (h : x = .error c) :
    pushRes x pc w s σ = .error (.err c) := by
  rw [h]; rfl

end

/-! ### shallow class facts (a constructor inside the class: `rfl`; outside: the hypothesis is `false = true`) -/

theorem isE_not_unit {n : N} (h : isE n = true) : isUnitNode n = false := by
  cases n <;> first | rfl | cases h
theorem isBlock_not_unit {n : N} (h : isBlock n = true) : isUnitNode n = false := by
  cases n <;> first | rfl | cases h
theorem isElse_not_unit {n : N} (h : isElse n = true) : isUnitNode n = false := by
  cases n <;> first | rfl | cases h
theorem isL_not_unit {n : N} (h : isL n = true) : isUnitNode n = false := by
  cases n <;> first | rfl | cases h
theorem isInit_unit {n : N} (h : isInit n = true) : isUnitNode n = true := by
  cases n <;> first | rfl | cases h
theorem unit_not_leaves {n : N} (h : isUnitNode n = true) : leaves n = false := by
  cases n <;> first | rfl | cases h
theorem isPost_cases {n : N} (h : isPost n = true) : isUnitNode n = true ∨ leaves n = true := by
  cases n <;> first | exact Bool.noConfusion h | exact .inl rfl | exact .inr h

/-! ### operators: the VM's numeric dispatch agrees with the source-level operator -/

/-- `BinaryOp k` computes the operator whose number is `k` (table `opIns`) -/
theorem vBinaryF_binopF {op : BinOp} {k : Nat} (hk : opIns op = .binary k) (hok : opOK op = true)
    (hand : op ≠ .and) (hor : op ≠ .or) (a b : FVal) : vBinaryF k a b = binopF op a b := by
  cases op <;> cases hk <;>
    first | exact absurd rfl hand | exact absurd rfl hor | (cases a <;> cases b <;> rfl) | cases hok

theorem vCompareF_binopF {op : BinOp} {k : Nat} (hk : opIns op = .compare k) (a b : FVal) :
    vCompareF k a b = binopF op a b := by
  cases op <;> cases hk <;> first | rfl | (cases a <;> cases b <;> rfl)

theorem opIns_cases (op : BinOp) : (∃ k, opIns op = .binary k) ∨ (∃ k, opIns op = .compare k) := by
  cases op <;> first | exact .inl ⟨_, rfl⟩ | exact .inr ⟨_, rfl⟩

theorem execIns_opIns (op : BinOp) (hok : opOK op = true) (hand : op ≠ .and) (hor : op ≠ .or)
    (a b : FVal) (s : List FVal) (pc : Nat) (σ : Store) :
    execIns (opIns op) ⟨pc, b :: a :: s, σ⟩ = pushRes (binopF op a b) pc 2 s σ := by
  rcases opIns_cases op with ⟨k, hk⟩ | ⟨k, hk⟩
  · rw [hk, ← vBinaryF_binopF hk hok hand hor]; rfl
  · rw [hk, ← vCompareF_binopF hk]; rfl

theorem vBinaryF_assign (op : AssignOp) (h : op ≠ .set) (cur v : FVal) :
    vBinaryF (assignK op) cur v = applyF op cur v := by
  cases op with
  | set => exact absurd rfl h
  | add => exact vBinaryF_binopF (op := .add) rfl rfl nofun nofun cur v
  | sub => exact vBinaryF_binopF (op := .sub) rfl rfl nofun nofun cur v
  | mul => exact vBinaryF_binopF (op := .mul) rfl rfl nofun nofun cur v
  | div => exact vBinaryF_binopF (op := .div) rfl rfl nofun nofun cur v

/-! ### the length of a node's code does not depend on where the loop targets are -/

theorem pre_length (h : N) : (pre h).length = preLen h := by
  unfold pre preLen
  cases postName h <;> rfl

/-- neither a list cell, a case nor a default clause: only `comp` has code for such a node -/
def plainNode : N → Bool
  | .cons .. | .case_ .. | .default_ .. => false
  | _ => true

/-- on a plain node the seven list-shaped components of `comp_lengths` are what the catch-all equations of
    their functions say: empty code of length 0 (`compDflt`: the one `Nil`); the length of the node's own
    code `own` is all there is to show -/
theorem comp_lengths_of_plain {n : N} (hp : plainNode n = true) (own : ∀ kb kc, (comp kb kc n).length = size n) :
    (∀ kb kc, (comp kb kc n).length = size n) ∧ (∀ k, (compVals k n).length = valsLen n) ∧
    (∀ k, (compCmpCase k n).length = caseCmpLen n) ∧ (∀ b, (compCmp b n).length = cmpLen n) ∧
    (∀ a, (compBody a n).length = caseBodyLen n) ∧ (∀ d, (compBodies d n).length = bodiesLen n) ∧
    ((compDfltBody n).length = dfltBodyLen n) ∧ ((compDflt n).length = defLen n) := by
  have hc : ∀ h t, n = .cons h t → False := fun h t e => by subst e; cases hp
  have hk : ∀ v b, n = .case_ v b → False := fun v b e => by subst e; cases hp
  have hd : ∀ b, n = .default_ b → False := fun b e => by subst e; cases hp
  refine ⟨own, ?_⟩
  simp only [compVals.eq_2 _ _ hc, valsLen.eq_2 _ hc, compCmpCase.eq_2 _ _ hk, caseCmpLen.eq_2 _ hk,
    compCmp.eq_2 _ _ hc, cmpLen.eq_2 _ hc, compBody.eq_2 _ _ hk, caseBodyLen.eq_2 _ hk,
    compBodies.eq_2 _ _ hc, bodiesLen.eq_2 _ hc, compDfltBody.eq_2 _ hd, dfltBodyLen.eq_2 _ hd,
    compDflt.eq_2 _ hc, defLen.eq_2 _ hc, List.length_nil, one_length, implies_true, and_self]

/-- lengths of every piece of generated code (the mutual functions of `comp`), by structural
    induction on the node -/
theorem comp_lengths (n : N) :
    (∀ kb kc, (comp kb kc n).length = size n) ∧ (∀ k, (compVals k n).length = valsLen n) ∧
    (∀ k, (compCmpCase k n).length = caseCmpLen n) ∧ (∀ b, (compCmp b n).length = cmpLen n) ∧
    (∀ a, (compBody a n).length = caseBodyLen n) ∧ (∀ d, (compBodies d n).length = bodiesLen n) ∧
    ((compDfltBody n).length = dfltBodyLen n) ∧ ((compDflt n).length = defLen n) := by
  induction n
  case cons h t ihh iht =>
    obtain ⟨h1, _, h3, _, h5, _, h7, _⟩ := ihh
    obtain ⟨t1, t2, _, t4, _, t6, _, t8⟩ := iht
    refine ⟨fun kb kc => ?_, fun k => ?_, fun _ => rfl, fun b => ?_, fun _ => rfl, fun d => ?_, rfl, ?_⟩
    · change (pre h ++ ite _ _ _).length = preLen h + size h + ite _ _ _
      rw [List.length_append, pre_length]
      split <;> split <;> simp only [List.length_append, h1, t1, one_length, List.length_nil] <;> omega
    · change List.length (_ ++ _) = _ + _
      simp only [List.length_append, two_length, h1, t2]; omega
    · change List.length (_ ++ _) = _ + _
      rw [List.length_append, h3, t4]
    · change List.length (_ ++ _) = _ + _
      rw [List.length_append, h5, t6]
    · change List.length (ite _ _ _) = ite _ _ _
      split
      · exact h7
      · exact t8
  case case_ vals body ihv ihb =>
    refine ⟨fun _ _ => rfl, fun _ => rfl, fun k => ihv.2.1 k, fun _ => rfl, fun a => ?_, fun _ => rfl, rfl, rfl⟩
    change List.length (_ ++ _) = _ + _
    rw [List.length_append, ihb.1]; rfl
  case default_ body ihb =>
    exact ⟨fun _ _ => rfl, fun _ => rfl, fun _ => rfl, fun _ => rfl, fun _ => rfl, fun _ => rfl, ihb.1 0 0, rfl⟩
  -- every other node is plain: what remains is the length of its own code
  all_goals refine comp_lengths_of_plain rfl fun kb kc => ?_
  case «infix» op l r ihl ihr =>
    change List.length (ite _ _ (ite _ _ _)) = ite _ _ _
    by_cases h1 : op = .and
    · simp only [h1, ↓reduceIte, true_or, List.length_append, two_length, one_length, ihl.1, ihr.1]; omega
    · by_cases h2 : op = .or
      · simp only [h2, reduceCtorEq, ↓reduceIte, or_true, List.length_append, two_length, one_length, ihl.1, ihr.1]; omega
      · simp only [h1, h2, ↓reduceIte, or_self, List.length_append, two_length, ihl.1, ihr.1]
  case assign x op e ih =>
    change List.length (ite _ _ _) = ite _ _ _
    split
    · simp only [List.length_append, two_length, ih.1]
    · simp only [List.length_append, two_length, ih.1]; omega
  case for3 i c p b ihi ihc ihp ihb =>
    change List.length (_ ++ _) = _ + _
    simp only [List.length_append, ihi.1, ihc.1, ihp.1, ihb.1, two_length, one_length,
      apply_ite List.length, List.length_nil]
    omega
  case switch subj cases ihs ihc =>
    change List.length (_ ++ _) = _ + _
    simp only [List.length_append, two_length, one_length, ihs.1, ihc.2.2.2.1, ihc.2.2.2.2.2.1,
      ihc.2.2.2.2.2.2.2]
  case tern c a b ihc iha ihb =>
    change List.length (_ ++ _) = _ + _
    simp only [List.length_append, two_length, ihc.1, iha.1, ihb.1]; omega
  case if_ c a b ihc iha ihb =>
    change List.length (_ ++ _) = _ + _
    simp only [List.length_append, two_length, ihc.1, iha.1, ihb.1]; omega
  case forcond c b ihc ihb =>
    change List.length (_ ++ _) = _ + _
    simp only [List.length_append, two_length, one_length, ihc.1, ihb.1]; omega
  case forever b ihb =>
    change List.length (_ ++ _) = _ + _
    simp only [List.length_append, two_length, one_length, ihb.1]
  case neg e ih => change List.length (_ ++ _) = _ + _; rw [List.length_append, ih.1]; rfl
  case not e ih => change List.length (_ ++ _) = _ + _; rw [List.length_append, ih.1]; rfl
  case var x e ih => change List.length (_ ++ _) = _ + _; rw [List.length_append, ih.1]; rfl
  case block s ih => exact ih.1 kb kc
  case prog s ih => exact ih.1 kb kc
  case expr s ih => exact ih.1 kb kc
  case bool b => cases b <;> rfl
  all_goals rfl

theorem comp_length (n : N) (kb kc : Nat) : (comp kb kc n).length = size n := (comp_lengths n).1 kb kc
theorem compVals_length (n : N) (k : Nat) : (compVals k n).length = valsLen n := (comp_lengths n).2.1 k
theorem compCmp_length (n : N) (b : Nat) : (compCmp b n).length = cmpLen n := (comp_lengths n).2.2.2.1 b
theorem compBody_length (n : N) (a : Nat) : (compBody a n).length = caseBodyLen n := (comp_lengths n).2.2.2.2.1 a
theorem compBodies_length (n : N) (d : Nat) : (compBodies d n).length = bodiesLen n := (comp_lengths n).2.2.2.2.2.1 d
theorem compDflt_length (n : N) : (compDflt n).length = defLen n := (comp_lengths n).2.2.2.2.2.2.2

/-! ### the induction hypothesis and how the proofs use it -/

theorem seqV_elim {x : Out × Store} {k : FVal → Store → Out × Store} {r : Out} {σ' : Store}
    (h : seqV x k = (r, σ')) :
    (∃ v σ1, x = (.val v, σ1) ∧ k v σ1 = (r, σ')) ∨ ((∀ v, r ≠ .val v) ∧ x = (r, σ')) := by
  obtain ⟨r1, σ1⟩ := x
  cases r1 with
  | val v => exact .inl ⟨v, σ1, rfl, h⟩
  | _ => cases h; exact .inr ⟨nofun, rfl⟩

/-- the evaluation `f` of the node `n` is simulated wherever the code of `n` sits, whatever the
    loop targets, the stack and the store -/
def SimAt (code : Code) (n : N) (f : Store → Out × Store) : Prop :=
  ∀ kb kc pc stk σ r σ', CodeAt code pc (comp kb kc n) → f σ = (r, σ') → Post code kb kc n pc stk σ r σ'

/-- the induction hypothesis: sub-nodes evaluated through `rec` are simulated -/
def IH (code : Code) (rec : N → Store → Out × Store) : Prop := ∀ n, wf n = true → SimAt code n (rec n)

variable {code : Code} {rec : N → Store → Out × Store} {fuel : Nat} {kb kc : Nat}

theorem Post.val {n : N} {pc q : Nat} {stk : List FVal} {σ σ' : Store} {v : FVal} (hu : isUnitNode n = false)
    (h : Steps code ⟨pc, stk, σ⟩ ⟨q, v :: stk, σ'⟩) (e : q = pc + size n) :
    Post code kb kc n pc stk σ (.val v) σ' := ⟨hu, h.cast e⟩

theorem Post.unit {n : N} {pc q : Nat} {stk : List FVal} {σ σ' : Store} (hu : isUnitNode n = true)
    (h : Steps code ⟨pc, stk, σ⟩ ⟨q, stk, σ'⟩) (e : q = pc + size n) :
    Post code kb kc n pc stk σ .unit σ' := ⟨hu, h.cast e⟩

theorem Post.val_steps {n : N} {pc : Nat} {stk : List FVal} {σ σ' : Store} {v : FVal}
    (h : Post code kb kc n pc stk σ (.val v) σ') : Steps code ⟨pc, stk, σ⟩ ⟨pc + size n, v :: stk, σ'⟩ := h.2

theorem Post.unit_steps {n : N} {pc : Nat} {stk : List FVal} {σ σ' : Store}
    (h : Post code kb kc n pc stk σ .unit σ') : Steps code ⟨pc, stk, σ⟩ ⟨pc + size n, stk, σ'⟩ := h.2

/-- an error or out-of-fuel of a part, after a prefix of the node's run, is the node's -/
theorem Post.of_err {n : N} {pc : Nat} {stk : List FVal} {σ σ' : Store} {r : Out}
    (h : ErrTo code ⟨pc, stk, σ⟩ r σ') : Post code kb kc n pc stk σ r σ' := by
  cases r with
  | err c => exact ⟨trivial, h⟩
  | oof => exact ⟨trivial, trivial⟩
  | _ => exact h.elim

/-- a `break`, `continue`, error or out-of-fuel of a part that runs on the node's own stack with the
    node's loop targets (`d` slots follow the part) is the node's -/
theorem Post.escape {sub n : N} {pc0 pc1 d : Nat} {stk : List FVal} {σ0 σ1 σ' : Store} {r : Out}
    (hpre : Steps code ⟨pc0, stk, σ0⟩ ⟨pc1, stk, σ1⟩)
    (h : Post code (kb + d) (kc + d) sub pc1 stk σ1 r σ')
    (hend : pc1 + size sub + d = pc0 + size n) (hesc : escapes sub = true → escapes n = true)
    (hnv : ∀ v, r ≠ .val v) (hnu : r ≠ .unit) : Post code kb kc n pc0 stk σ0 r σ' := by
  have e1 : pc1 + size sub + (kb + d) = pc0 + size n + kb := by omega
  have e2 : pc1 + size sub + (kc + d) = pc0 + size n + kc := by omega
  cases r with
  | val v => exact absurd rfl (hnv v)
  | unit => exact absurd rfl hnu
  | brk => exact ⟨hesc h.1, (hpre.trans h.2).cast e1⟩
  | cont => exact ⟨hesc h.1, (hpre.trans h.2).cast e2⟩
  | err c => exact ⟨trivial, Fails.pre hpre h.2⟩
  | oof => exact ⟨trivial, trivial⟩

/-- a part in tail position: it runs on the node's stack with the node's loop targets and ends
    where the node ends -/
theorem Post.last {sub n : N} {pc0 pc1 : Nat} {stk : List FVal} {σ0 σ1 σ' : Store} {r : Out}
    (hpre : Steps code ⟨pc0, stk, σ0⟩ ⟨pc1, stk, σ1⟩) (h : Post code kb kc sub pc1 stk σ1 r σ')
    (hend : pc1 + size sub = pc0 + size n) (hun : isUnitNode n = isUnitNode sub)
    (hesc : escapes sub = true → escapes n = true) : Post code kb kc n pc0 stk σ0 r σ' := by
  cases r with
  | val v => exact ⟨hun.trans h.1, (hpre.trans h.2).cast hend⟩
  | unit => exact ⟨hun.trans h.1, (hpre.trans h.2).cast hend⟩
  | _ => exact .escape (d := 0) hpre h hend hesc nofun nofun

/-- an operand — a well-formed node that is not a unit statement and that no break/continue
    escapes —, compiled with no loop targets -/
theorem IH.operand (ih : IH code rec) {e : N} (hw : wf e = true) (hu : isUnitNode e = false) (hx : escapes e = false)
    {pc : Nat} {stk : List FVal} {σ σ' : Store} {r : Out}
    (hat : CodeAt code pc (comp 0 0 e)) (h : rec e σ = (r, σ')) :
    ValTo code ⟨pc, stk, σ⟩ (pc + size e) stk r σ' := by
  have P := ih e hw 0 0 pc stk σ r σ' hat h
  cases r with
  | val v => exact P.2
  | unit => cases hu.symm.trans P.1
  | brk => cases hx.symm.trans P.1
  | cont => cases hx.symm.trans P.1
  | err c => exact P.2
  | oof => trivial

/-- the `seqV` step of the semantics against the code of its operand `e`, after the prefix `hpre`
    of the node's run: what remains is the continuation `k` from the operand's value -/
theorem IH.seq (ih : IH code rec) {e n : N} (hw : wf e = true) (hu : isUnitNode e = false) (hx : escapes e = false)
    {pc0 pc1 : Nat} {stk0 stk1 : List FVal} {σ0 σ1 σ' : Store} {r : Out} {k : FVal → Store → Out × Store}
    (hpre : Steps code ⟨pc0, stk0, σ0⟩ ⟨pc1, stk1, σ1⟩) (hat : CodeAt code pc1 (comp 0 0 e))
    (he : seqV (rec e σ1) k = (r, σ'))
    (hk : ∀ v σ2, Steps code ⟨pc0, stk0, σ0⟩ ⟨pc1 + size e, v :: stk1, σ2⟩ → k v σ2 = (r, σ') →
      Post code kb kc n pc0 stk0 σ0 r σ') :
    Post code kb kc n pc0 stk0 σ0 r σ' := by
  rcases seqV_elim he with ⟨v, σ2, h1, h2⟩ | ⟨hnv, h1⟩
  · exact hk v σ2 (hpre.trans (ih.operand hw hu hx hat h1)) h2
  · exact .of_err (((ih.operand (stk := stk1) hw hu hx hat h1).pre hpre).err hnv)

theorem Post.fail {n : N} {i : FIns} {pc0 pc1 : Nat} {stk0 stk1 : List FVal} {σ0 σ1 : Store} {c : String}
    (hpre : Steps code ⟨pc0, stk0, σ0⟩ ⟨pc1, stk1, σ1⟩) (hi : code[pc1]? = some (some i))
    (hex : execIns i ⟨pc1, stk1, σ1⟩ = .error (.err c)) :
    Post code kb kc n pc0 stk0 σ0 (.err c) σ1 := ⟨trivial, Fails.ins hpre hi hex⟩

/-! ### one simulation lemma per construct (sub-nodes through the induction hypothesis)

The code, the size and the well-formedness condition of a node are exposed by `change` / `rfl`
(computation on the constructor): `simp only [comp]` and the like would first have Lean generate
the equation lemmas of these mutual definitions by cases on `N` (47 constructors). -/

/-- `&&` and `||` share their shape: `a; Copy 0; PopJumpForwardIf…; b; BinaryOp; Nop`.  The right
    operand runs only when the left value's truthiness is `t` (`&&`: true, `||`: false) and is then
    the result; otherwise the jump `j` skips it and the left value is the result. -/
theorem sim_short (ih : IH code rec) (op : BinOp) (t : Bool) (j : Nat → FIns) (k : Nat) (l r : N)
    (hcomp : comp kb kc (.infix op l r) =
      comp 0 0 l ++ two (.copy 0) ++ two (j (size r + 5)) ++ comp 0 0 r ++ two (.binary k) ++ one .nop)
    (hlen : size (.infix op l r) = size l + size r + 7)
    (hj : ∀ d pc v s σ, execIns (j d) ⟨pc, v :: s, σ⟩ = .ok ⟨if v.truthy = t then pc + 2 else pc + d, s, σ⟩)
    (hk : ∀ pc a b s σ, a.truthy = t → execIns (.binary k) ⟨pc, b :: a :: s, σ⟩ = .ok ⟨pc + 2, b :: s, σ⟩)
    (hwf : wf (.infix op l r) = true) (pc : Nat) (stk : List FVal) (σ : Store) (res : Out) (σ' : Store)
    (hat : CodeAt code pc (comp kb kc (.infix op l r)))
    {f : FVal → Store → Out × Store}
    (hf : ∀ a σ1, f a σ1 = if a.truthy = t then seqV (rec r σ1) (fun b σ2 => (.val b, σ2)) else (.val a, σ1))
    (he : seqV (rec l σ) f = (res, σ')) :
    Post code kb kc (.infix op l r) pc stk σ res σ' := by
  change (_ && _) = true at hwf
  simp only [Bool.and_eq_true, Bool.not_eq_true'] at hwf
  obtain ⟨⟨⟨⟨⟨⟨_, hel⟩, her⟩, hxl⟩, hxr⟩, hwl⟩, hwr⟩ := hwf
  rw [hcomp] at hat
  simp only [List.append_assoc] at hat
  obtain ⟨hatl, hat⟩ := hat.app (comp_length l 0 0)
  obtain ⟨hcopy, hat⟩ := hat.two
  obtain ⟨hjmp, hat⟩ := hat.two
  obtain ⟨hatr, hat⟩ := hat.app (comp_length r 0 0)
  obtain ⟨hbin, hnop⟩ := hat.two
  refine ih.seq hwl (isE_not_unit hel) hxl (.refl _) hatl he fun a σ1 Pl he => ?_
  have P2 := (Pl.ins hcopy execIns_copy0).ins hjmp (hj ..)
  rw [hf] at he
  by_cases ht : a.truthy = t
  · rw [if_pos ht] at he P2
    refine ih.seq hwr (isE_not_unit her) hxr P2 hatr he fun b σ2 Pr he => ?_
    cases he
    exact .val rfl ((Pr.ins hbin (hk _ _ _ _ _ ht)).ins (CodeAt.head hnop) execIns_nop) (by omega)
  · rw [if_neg ht] at he P2
    cases he
    exact .val rfl P2 (by omega)

theorem sim_infix (ih : IH code rec) (op : BinOp) (l r : N) (hop : op ≠ .and) (hor : op ≠ .or) (hwf : wf (.infix op l r) = true) :
    SimAt code (.infix op l r) (evNode fuel rec (.infix op l r)) := by
  intro kb kc pc stk σ res σ' hat he
  change (_ && _) = true at hwf
  simp only [Bool.and_eq_true, Bool.not_eq_true'] at hwf
  obtain ⟨⟨⟨⟨⟨⟨hok, hel⟩, her⟩, hxl⟩, hxr⟩, hwl⟩, hwr⟩ := hwf
  change CodeAt code pc (ite _ _ (ite _ _ _)) at hat
  change seqV _ (fun a σ1 => ite _ _ (ite _ _ _)) = _ at he
  have hlen : size (.infix op l r) = size l + size r + 2 := if_neg (fun h => h.elim hop hor)
  simp only [if_neg hop, if_neg hor, List.append_assoc] at hat he
  obtain ⟨hatl, hat⟩ := hat.app (comp_length l 0 0)
  obtain ⟨hatr, hins⟩ := hat.app (comp_length r 0 0)
  refine ih.seq hwl (isE_not_unit hel) hxl (.refl _) hatl he fun a σ1 Pl he => ?_
  refine ih.seq hwr (isE_not_unit her) hxr Pl hatr he fun b σ2 Pr he => ?_
  have hex := execIns_opIns op hok hop hor a b stk (pc + size l + size r) σ2
  cases hb : binopF op a b with
  | ok v =>
    rw [hb] at he; cases he
    exact .val rfl (Pr.ins (CodeAt.head hins) (hex.trans (pushRes_ok hb))) (by omega)
  | error c =>
    rw [hb] at he; cases he
    exact .fail Pr (CodeAt.head hins) (hex.trans (pushRes_error hb))

theorem sim_neg (ih : IH code rec) (e : N) (hwf : wf (.neg e) = true) :
    SimAt code (.neg e) (evNode fuel rec (.neg e)) := by
  intro kb kc pc stk σ res σ' hat he
  change (_ && _) = true at hwf
  simp only [Bool.and_eq_true, Bool.not_eq_true'] at hwf
  obtain ⟨⟨hee, hxe⟩, hwe⟩ := hwf
  change CodeAt code pc (_ ++ _) at hat
  obtain ⟨hate, hins⟩ := hat.app (comp_length e 0 0)
  refine ih.seq hwe (isE_not_unit hee) hxe (.refl _) hate he fun v σ1 P1 he => ?_
  cases v with
  | int i => cases he; exact .val rfl (P1.ins (CodeAt.head hins) rfl) rfl
  | _ => cases he; exact .fail P1 (CodeAt.head hins) rfl

theorem sim_not (ih : IH code rec) (e : N) (hwf : wf (.not e) = true) :
    SimAt code (.not e) (evNode fuel rec (.not e)) := by
  intro kb kc pc stk σ res σ' hat he
  change (_ && _) = true at hwf
  simp only [Bool.and_eq_true, Bool.not_eq_true'] at hwf
  obtain ⟨⟨hee, hxe⟩, hwe⟩ := hwf
  change CodeAt code pc (_ ++ _) at hat
  obtain ⟨hate, hins⟩ := hat.app (comp_length e 0 0)
  refine ih.seq hwe (isE_not_unit hee) hxe (.refl _) hate he fun v σ1 P1 he => ?_
  cases he
  exact .val rfl (P1.ins (CodeAt.head hins) execIns_unaryNot) rfl

/-- ternary and if/else share their shape: the condition is an operand, the two branches
    inherit the loop targets (shifted by what follows them) -/
theorem sim_cond (ih : IH code rec) (n c a b : N)
    (hcomp : comp kb kc n = comp 0 0 c ++ two (.pjf (size a + 4)) ++ comp (kb + (size b + 2)) (kc + (size b + 2)) a
      ++ two (.jf (size b + 2)) ++ comp kb kc b)
    (hlen : size n = size c + size a + size b + 4)
    (hun : isUnitNode n = false) (hesc : escapes n = (escapes c || escapes a || escapes b))
    (hwc : wf c = true) (hwa : wf a = true) (hwb : wf b = true)
    (huc : isUnitNode c = false) (hua : isUnitNode a = false) (hub : isUnitNode b = false)
    (hxc : escapes c = false)
    (pc : Nat) (stk : List FVal) (σ : Store) (res : Out) (σ' : Store)
    (hat : CodeAt code pc (comp kb kc n))
    (he : (seqV (rec c σ) fun v σ1 => if v.truthy = true then rec a σ1 else rec b σ1) = (res, σ')) :
    Post code kb kc n pc stk σ res σ' := by
  rw [hcomp] at hat
  simp only [List.append_assoc] at hat
  obtain ⟨hatc, hat⟩ := hat.app (comp_length c 0 0)
  obtain ⟨hpjf, hat⟩ := hat.two
  obtain ⟨hata, hat⟩ := hat.app (comp_length a _ _)
  obtain ⟨hjf, hatb⟩ := hat.two
  refine ih.seq hwc huc hxc (.refl _) hatc he fun v σ1 Pc he => ?_
  have pre := Pc.ins hpjf execIns_pjf
  by_cases ht : v.truthy = true
  · -- the first branch, then the jump over the second
    simp only [ht, ↓reduceIte] at he pre
    have Pa := ih a hwa _ _ _ stk σ1 _ _ hata he
    cases res with
    | val w => exact .val hun ((pre.trans Pa.val_steps).ins hjf execIns_jf) (by omega)
    | unit => cases hua.symm.trans Pa.1
    | _ => exact .escape pre Pa (by omega) (fun h => by simp only [hesc, h, Bool.or_true, Bool.true_or]) nofun nofun
  · simp only [ht, Bool.false_eq_true, ↓reduceIte] at he pre
    have pre := pre.cast (q := pc + size c + 2 + size a + 2) (by omega)
    exact .last pre (ih b hwb kb kc _ stk σ1 _ _ hatb he) (by omega) (hun.trans hub.symm)
      (fun h => by simp only [hesc, h, Bool.or_true])

/-- a leaf: one instruction pushes the value, the store is untouched -/
theorem sim_leaf (n : N) (i : FIns) (v : FVal) (w : Nat) (pc : Nat) (stk : List FVal) (σ : Store) (r : Out) (σ' : Store)
    (hun : isUnitNode n = false)
    (hins : code[pc]? = some (some i)) (hlen : size n = w)
    (hex : execIns i ⟨pc, stk, σ⟩ = .ok ⟨pc + w, v :: stk, σ⟩)
    (he : (Out.val v, σ) = (r, σ')) : Post code kb kc n pc stk σ r σ' := by
  cases he
  exact .val hun ((Steps.refl _).ins hins hex) (by rw [hlen])

theorem pre_steps (h : N) (pc : Nat) (stk : List FVal) (σ : Store) (hat : CodeAt code pc (pre h)) :
    Steps code ⟨pc, stk, σ⟩ ⟨pc + preLen h, stk, σ⟩ := by
  unfold pre at hat
  unfold preLen
  cases hp : postName h with
  | none => exact .refl _
  | some x =>
    rw [hp] at hat
    obtain ⟨h1, h2⟩ := hat.two
    exact ((Steps.refl _).ins h1 execIns_loadG).ins (CodeAt.head h2) execIns_popTop

theorem sim_cons (ih : IH code rec) (h t : N) (hwf : wf (.cons h t) = true) :
    SimAt code (.cons h t) (evNode fuel rec (.cons h t)) := by
  intro kb kc pc stk σ res σ' hat he
  change (_ && _) = true at hwf
  simp only [Bool.and_eq_true, isS, Bool.or_eq_true] at hwf
  obtain ⟨⟨⟨hsh, hlt⟩, hwh⟩, hwt⟩ := hwf
  change CodeAt code pc (_ ++ ite _ _ _) at hat
  change ite _ _ _ = _ at he
  have hsz : size (.cons h t) = preLen h + size h + ite _ _ _ := rfl
  obtain ⟨hatp, hat⟩ := hat.app (pre_length h)
  have hpre := pre_steps h pc stk σ hatp
  have hesc : escapes h = true → escapes (.cons h t) = true := fun e => by
    show (escapes h || escapes t) = true
    rw [e]; rfl
  -- the head statement: a value forces an expression statement, unit a non-expression
  rcases hh : rec h σ with ⟨r1, σ1⟩
  rw [hh] at he
  have Ph := fun d hat => ih h hwh (kb + d) (kc + d) (pc + preLen h) stk σ r1 σ1 hat hh
  have hval : ∀ {d v}, Post code (kb + d) (kc + d) h (pc + preLen h) stk σ (.val v) σ1 → leaves h = true :=
    fun P => hsh.resolve_left (fun hu => by cases (P.1 : isUnitNode h = false).symm.trans hu)
  by_cases hnil : isNilL t = true
  · -- the last statement: its value, or nil after a non-expression
    simp only [hnil, ↓reduceIte] at he hat hsz
    cases hl : leaves h with
    | true =>
      simp only [hl, ↓reduceIte, List.append_nil] at hat hsz
      cases r1 with
      | val v => cases he; exact .val rfl (hpre.trans (Ph 0 hat).val_steps) (by omega)
      | unit => cases (unit_not_leaves (Ph 0 hat).1).symm.trans hl
      | _ => cases he; exact .escape hpre (Ph 0 hat) (by omega) hesc nofun nofun
    | false =>
      simp only [hl, Bool.false_eq_true, ↓reduceIte] at hat hsz
      obtain ⟨hath, hins⟩ := hat.app (comp_length h _ _)
      cases r1 with
      | val v => cases (hval (Ph _ hath)).symm.trans hl
      | unit =>
        cases he
        exact .val rfl ((hpre.trans (Ph 1 hath).unit_steps).ins (CodeAt.head hins) execIns_nil) (by omega)
      | _ => cases he; exact .escape hpre (Ph 1 hath) (by omega) hesc nofun nofun
  · -- the rest of the list runs from the state after the head
    simp only [hnil, Bool.false_eq_true, ↓reduceIte] at he hat hsz
    have rest : ∀ {pcT}, Steps code ⟨pc, stk, σ⟩ ⟨pcT, stk, σ1⟩ → CodeAt code pcT (comp kb kc t) →
        pcT + size t = pc + size (.cons h t) → rec t σ1 = (res, σ') →
        Post code kb kc (.cons h t) pc stk σ res σ' := fun hs hatT hend heT =>
      .last hs (ih t hwt kb kc _ stk σ1 _ _ hatT heT) hend (isL_not_unit hlt).symm (fun e => by
        show (escapes h || escapes t) = true
        rw [e, Bool.or_true])
    obtain ⟨hath, hat⟩ := hat.app (comp_length h _ _)
    cases hl : leaves h with
    | true =>
      simp only [hl, ↓reduceIte] at hat hath hsz
      obtain ⟨hpop, hatT⟩ := hat.one
      cases r1 with
      | val v => exact rest ((hpre.trans (Ph _ hath).val_steps).ins hpop execIns_popTop) hatT (by omega) he
      | unit => cases (unit_not_leaves (Ph _ hath).1).symm.trans hl
      | _ => cases he; exact .escape hpre (Ph _ hath) (by omega) hesc nofun nofun
    | false =>
      simp only [hl, Bool.false_eq_true, ↓reduceIte, List.nil_append] at hat hath hsz
      cases r1 with
      | val v => cases (hval (Ph _ hath)).symm.trans hl
      | unit => exact rest (hpre.trans (Ph _ hath).unit_steps) hat (by omega) he
      | _ => cases he; exact .escape hpre (Ph _ hath) (by omega) hesc nofun nofun

theorem sim_ctl (isBrk : Bool) (pc : Nat) (stk : List FVal) (σ : Store) (res : Out) (σ' : Store)
    (hat : CodeAt code pc (comp kb kc (if isBrk then .break_ else .continue_)))
    (he : ((if isBrk then Out.brk else Out.cont), σ) = (res, σ')) :
    Post code kb kc (if isBrk then .break_ else .continue_) pc stk σ res σ' := by
  cases isBrk with
  | true =>
    cases he
    exact ⟨rfl, ((Steps.refl _).ins (CodeAt.head hat) execIns_jf).cast (by show _ = pc + 2 + kb; omega)⟩
  | false =>
    cases he
    exact ⟨rfl, ((Steps.refl _).ins (CodeAt.head hat) execIns_jf).cast (by show _ = pc + 2 + kc; omega)⟩

theorem sim_var (ih : IH code rec) (x : String) (e : N) (hwf : wf (.var x e) = true) :
    SimAt code (.var x e) (evNode fuel rec (.var x e)) := by
  intro kb kc pc stk σ res σ' hat he
  change (_ && _) = true at hwf
  simp only [Bool.and_eq_true, Bool.not_eq_true'] at hwf
  obtain ⟨⟨hee, hxe⟩, hwe⟩ := hwf
  change CodeAt code pc (_ ++ _) at hat
  obtain ⟨hate, hins⟩ := hat.app (comp_length e 0 0)
  refine ih.seq hwe (isE_not_unit hee) hxe (.refl _) hate he fun v σ1 P1 he => ?_
  cases he
  exact .unit rfl (P1.ins (CodeAt.head hins) execIns_storeG) rfl

theorem sim_assign (ih : IH code rec) (x : String) (op : AssignOp) (e : N) (hwf : wf (.assign x op e) = true) :
    SimAt code (.assign x op e) (evNode fuel rec (.assign x op e)) := by
  intro kb kc pc stk σ res σ' hat he
  change (_ && _) = true at hwf
  simp only [Bool.and_eq_true, Bool.not_eq_true'] at hwf
  obtain ⟨⟨hee, hxe⟩, hwe⟩ := hwf
  change CodeAt code pc (ite _ _ _) at hat
  change seqV _ _ = _ at he
  have hlen : size (.assign x op e) = ite _ _ _ := rfl
  by_cases hop : op = .set
  · subst hop
    simp only [↓reduceIte] at hat hlen
    obtain ⟨hate, hins⟩ := hat.app (comp_length e 0 0)
    refine ih.seq hwe (isE_not_unit hee) hxe (.refl _) hate he fun v σ1 P1 he => ?_
    cases he
    exact .unit rfl (P1.ins (CodeAt.head hins) execIns_storeG) rfl
  · simp only [if_neg hop, List.append_assoc] at hat hlen
    obtain ⟨hload, hat⟩ := hat.two
    obtain ⟨hate, hat⟩ := hat.app (comp_length e 0 0)
    obtain ⟨hbin, hsto⟩ := hat.two
    refine ih.seq hwe (isE_not_unit hee) hxe ((Steps.refl _).ins hload execIns_loadG) hate he
      fun v σ1 P1 he => ?_
    have hex := (execIns_binary (pc := pc + 2 + size e) (s := stk) (σ := σ1)).trans
      (congrArg (pushRes · _ 2 stk σ1) (vBinaryF_assign op hop (σ.get x) v))
    cases ha : applyF op (σ.get x) v with
    | ok w =>
      rw [ha] at he; cases he
      exact .unit rfl ((P1.ins hbin (hex.trans (pushRes_ok ha))).ins (CodeAt.head hsto) execIns_storeG) (by omega)
    | error c =>
      rw [ha] at he; cases he
      exact .fail P1 hbin (hex.trans (pushRes_error ha))

theorem sim_postfix (x : String) (inc : Bool) :
    SimAt code (.postfix x inc) (evNode fuel rec (.postfix x inc)) := by
  intro kb kc pc stk σ res σ' hat he
  change CodeAt code pc (_ ++ _) at hat
  simp only [List.append_assoc] at hat
  obtain ⟨hload, hat⟩ := hat.two
  obtain ⟨hcon, hat⟩ := hat.two
  obtain ⟨hbin, hsto⟩ := hat.two
  have pre := ((Steps.refl _).ins hload execIns_loadG).ins hcon (execIns_constInt (s := σ.get x :: stk))
  have hex := (execIns_binary (pc := pc + 2 + 2) (s := stk) (σ := σ)).trans
    (congrArg (pushRes · _ 2 stk σ) (vBinaryF_binopF (op := .add) rfl rfl nofun nofun (σ.get x) (.int (if inc then 1 else -1))))
  change (match binopF .add (σ.get x) (.int (if inc then 1 else -1)) with
    | .ok r => (Out.unit, σ.set x r) | .error c => (.err c, σ)) = _ at he
  cases ha : binopF .add (σ.get x) (.int (if inc then 1 else -1)) with
  | ok w =>
    rw [ha] at he; cases he
    exact .unit rfl ((pre.ins hbin (hex.trans (pushRes_ok ha))).ins (CodeAt.head hsto) execIns_storeG) rfl
  | error c =>
    rw [ha] at he; cases he
    exact .fail pre hbin (hex.trans (pushRes_error ha))

/-! ### loops -/

/-- the post-statement phase: value and unit both land at `tgt` with the loop's stack; no
    break/continue gets out -/
def PhaseTo (code : Code) (c0 : Cfg) (tgt : Nat) (stk : List FVal) (r : Out) (σ' : Store) : Prop :=
  match r with
  | .val _ => Steps code c0 ⟨tgt, stk, σ'⟩
  | .unit => Steps code c0 ⟨tgt, stk, σ'⟩
  | .brk => False
  | .cont => False
  | .err c => Fails code c0 c σ'
  | .oof => True

/-- the body phase: the block's value is popped and control is at the post statement; a
    `continue` lands there too, a `break` at the loop's exit -/
def BodyTo (code : Code) (c0 : Cfg) (pcP pcX : Nat) (stk : List FVal) (r : Out) (σ' : Store) : Prop :=
  match r with
  | .val _ => Steps code c0 ⟨pcP, stk, σ'⟩
  | .cont => Steps code c0 ⟨pcP, stk, σ'⟩
  | .brk => Steps code c0 ⟨pcX, stk, σ'⟩
  | .unit => False
  | .err c => Fails code c0 c σ'
  | .oof => True

/-- the condition phase: a truthy value lands at the body, a falsy one at the exit -/
def CondTo (code : Code) (c0 : Cfg) (pcB pcX : Nat) (stk : List FVal) (r : Out) (σ' : Store) : Prop :=
  match r with
  | .val v => Steps code c0 ⟨if v.truthy = true then pcB else pcX, stk, σ'⟩
  | .unit => False
  | .brk => False
  | .cont => False
  | .err c => Fails code c0 c σ'
  | .oof => True

/-- a whole loop: it completes with `unit` at its exit on the stack it found, or fails -/
def LoopTo (code : Code) (c0 : Cfg) (pcX : Nat) (stk : List FVal) (r : Out) (σ' : Store) : Prop :=
  match r with
  | .unit => Steps code c0 ⟨pcX, stk, σ'⟩
  | .err c => Fails code c0 c σ'
  | .oof => True
  | _ => False

theorem LoopTo.pre {code : Code} {c0 c1 : Cfg} {pcX : Nat} {stk : List FVal} {r : Out} {σ' : Store}
    (l : LoopTo code c1 pcX stk r σ') (h : Steps code c0 c1) : LoopTo code c0 pcX stk r σ' := by
  cases r with
  | unit => exact h.trans l
  | err c => exact Fails.pre h l
  | oof => trivial
  | _ => exact l

theorem Post.of_loop {n : N} {pc : Nat} {stk : List FVal} {σ σ' : Store} {r : Out}
    (hun : isUnitNode n = true) (h : LoopTo code ⟨pc, stk, σ⟩ (pc + size n) stk r σ') :
    Post code kb kc n pc stk σ r σ' := by
  cases r with
  | unit => exact ⟨hun, h⟩
  | err c => exact ⟨trivial, h⟩
  | oof => exact ⟨trivial, trivial⟩
  | _ => exact h.elim

/-- the generic loop: condition at `pc0` (exit to `pcX`), body at `pcB`, post statement at
    `pcP` ending with the backward jump to `pc0`; by induction on the iteration bound -/
theorem loop_sim {cond body post : Store → Out × Store} {pc0 pcB pcP pcX : Nat} {stk : List FVal}
    (HC : ∀ σ r σ1, cond σ = (r, σ1) → CondTo code ⟨pc0, stk, σ⟩ pcB pcX stk r σ1)
    (HB : ∀ σ r σ1, body σ = (r, σ1) → BodyTo code ⟨pcB, stk, σ⟩ pcP pcX stk r σ1)
    (HP : ∀ σ r σ1, post σ = (r, σ1) → PhaseTo code ⟨pcP, stk, σ⟩ pc0 stk r σ1) :
    ∀ k σ r σ', loopF cond body post k σ = (r, σ') → LoopTo code ⟨pc0, stk, σ⟩ pcX stk r σ' := by
  intro k
  induction k with
  | zero =>
    intro σ r σ' h
    cases h
    trivial
  | succ k ihk =>
    intro σ r σ' h
    unfold loopF at h
    -- the post statement and the next round, from the state after the body
    have after : ∀ σ2, Steps code ⟨pc0, stk, σ⟩ ⟨pcP, stk, σ2⟩ →
        (match post σ2 with
          | (.unit, σ3) => loopF cond body post k σ3
          | (.val _, σ3) => loopF cond body post k σ3
          | other => other) = (r, σ') →
        LoopTo code ⟨pc0, stk, σ⟩ pcX stk r σ' := by
      intro σ2 pre0 h
      rcases hp : post σ2 with ⟨rp, σ3⟩
      have P := HP σ2 _ _ hp
      rw [hp] at h
      cases rp with
      | val u => exact (ihk σ3 r σ' h).pre (pre0.trans P)
      | unit => exact (ihk σ3 r σ' h).pre (pre0.trans P)
      | err c => cases h; exact Fails.pre pre0 P
      | oof => cases h; trivial
      | _ => exact P.elim
    rcases seqV_elim h with ⟨v, σ1, hc, h⟩ | ⟨hnv, hx⟩
    · have C : Steps code _ ⟨if v.truthy = true then pcB else pcX, stk, σ1⟩ := HC σ _ _ hc
      by_cases ht : v.truthy = true
      · simp only [ht, ↓reduceIte] at h C
        rcases hb : body σ1 with ⟨rb, σ2⟩
        have B := HB σ1 _ _ hb
        rw [hb] at h
        cases rb with
        | val w => exact after σ2 (C.trans B) h
        | cont => exact after σ2 (C.trans B) h
        | brk => cases h; exact C.trans B
        | unit => exact B.elim
        | err c => cases h; exact Fails.pre C B
        | oof => cases h; trivial
      · simp only [ht, Bool.false_eq_true, ↓reduceIte] at h C
        cases h
        exact C
    · have C := HC σ _ _ hx
      cases r with
      | val u => exact absurd rfl (hnv u)
      | err c => exact C
      | oof => trivial
      | _ => exact C.elim

/-- the body phase of every loop: the block's value is popped; `continue` lands right after
    that `PopTop`, `break` `kbB` slots after the block, from where `hbrk` leads to the exit -/
theorem body_phase (ih : IH code rec) (b : N) (hwb : wf b = true) (hbb : isBlock b = true)
    (kbB pcB pcX : Nat) (stk : List FVal) (hatb : CodeAt code pcB (comp kbB 1 b))
    (hpop : code[pcB + size b]? = some (some .popTop))
    (hbrk : ∀ σ, Steps code ⟨pcB + size b + kbB, stk, σ⟩ ⟨pcX, stk, σ⟩) :
    ∀ σ r σ1, rec b σ = (r, σ1) → BodyTo code ⟨pcB, stk, σ⟩ (pcB + size b + 1) pcX stk r σ1 := by
  intro σ r σ1 h
  have P := ih b hwb kbB 1 pcB stk σ _ _ hatb h
  cases r with
  | val v => exact P.val_steps.ins hpop execIns_popTop
  | unit => cases (isBlock_not_unit hbb).symm.trans P.1
  | brk => exact Steps.trans P.2 (hbrk σ1)
  | cont => exact P.2
  | err c => exact P.2
  | oof => trivial

/-- the condition phase of `for c { }` and `for i; c; p { }` -/
theorem cond_phase (ih : IH code rec) (c : N) (hwc : wf c = true) (hec : isE c = true) (hxc : escapes c = false)
    (pc0 d : Nat) (stk : List FVal) (hatc : CodeAt code pc0 (comp 0 0 c))
    (hpjf : code[pc0 + size c]? = some (some (.pjf d))) :
    ∀ σ r σ1, rec c σ = (r, σ1) →
      CondTo code ⟨pc0, stk, σ⟩ (pc0 + size c + 2) (pc0 + size c + d) stk r σ1 := by
  intro σ r σ1 h
  have P := ih.operand hwc (isE_not_unit hec) hxc (stk := stk) hatc h
  cases r with
  | val v => exact Steps.ins P hpjf execIns_pjf
  | _ => exact P

/-- the backward jump that ends a round, and the statement without a post statement -/
theorem jb_phase {pcJ pc0 d : Nat} {stk : List FVal} (hjb : code[pcJ]? = some (some (.jb d))) (e : pcJ - d = pc0) :
    ∀ σ r σ1, (fun σ => ((Out.unit, σ) : Out × Store)) σ = (r, σ1) → PhaseTo code ⟨pcJ, stk, σ⟩ pc0 stk r σ1 := by
  intro σ r σ1 h
  cases h
  exact ((Steps.refl _).ins hjb execIns_jb).cast e

theorem sim_forcond (ih : IH code rec) (c b : N) (hwf : wf (.forcond c b) = true) :
    SimAt code (.forcond c b) (evNode fuel rec (.forcond c b)) := by
  intro kb kc pc stk σ res σ' hat he
  change (_ && _) = true at hwf
  simp only [Bool.and_eq_true, Bool.not_eq_true'] at hwf
  obtain ⟨⟨⟨⟨hec, hbb⟩, hxc⟩, hwc⟩, hwb⟩ := hwf
  change CodeAt code pc (_ ++ _) at hat
  simp only [List.append_assoc] at hat
  have hlen : size (.forcond c b) = size c + size b + 6 := rfl
  obtain ⟨hatc, hat⟩ := hat.app (comp_length c 0 0)
  obtain ⟨hpjf, hat⟩ := hat.two
  obtain ⟨hatb, hat⟩ := hat.app (comp_length b 3 1)
  obtain ⟨hpop, hat⟩ := hat.one
  obtain ⟨hjb, hnop⟩ := hat.two
  have HC := cond_phase ih c hwc hec hxc pc (size b + 6) stk hatc hpjf
  have HB := body_phase ih b hwb hbb 3 _ (pc + size c + (size b + 6)) stk hatb hpop
    (fun σ => (((Steps.refl _).ins (CodeAt.head hnop) execIns_nop).castL (by omega)).cast (by omega))
  have R := loop_sim HC HB (jb_phase hjb (by omega)) fuel σ res σ' he
  exact .of_loop rfl (by rw [hlen, ← Nat.add_assoc, ← Nat.add_assoc]; exact R)

theorem sim_forever (ih : IH code rec) (b : N) (hwf : wf (.forever b) = true) :
    SimAt code (.forever b) (evNode fuel rec (.forever b)) := by
  intro kb kc pc stk σ res σ' hat he
  change (_ && _) = true at hwf
  simp only [Bool.and_eq_true] at hwf
  obtain ⟨hbb, hwb⟩ := hwf
  change CodeAt code pc (_ ++ _) at hat
  simp only [List.append_assoc] at hat
  have hlen : size (.forever b) = size b + 4 := rfl
  obtain ⟨hatb, hat⟩ := hat.app (comp_length b 3 1)
  obtain ⟨hpop, hat⟩ := hat.one
  obtain ⟨hjb, hnop⟩ := hat.two
  have HC : ∀ σ r σ1, (fun σ => ((Out.val (.bool true), σ) : Out × Store)) σ = (r, σ1) →
      CondTo code ⟨pc, stk, σ⟩ pc (pc + size (.forever b)) stk r σ1 := by
    intro σ r σ1 h
    cases h
    exact .refl _
  have HB := body_phase ih b hwb hbb 3 pc (pc + size (.forever b)) stk hatb hpop
    (fun σ => (((Steps.refl _).ins (CodeAt.head hnop) execIns_nop).castL (by omega)).cast (by omega))
  exact .of_loop rfl (loop_sim HC HB (jb_phase hjb (by omega)) fuel σ res σ' he)

theorem sim_for3 (ih : IH code rec) (i c p b : N) (hwf : wf (.for3 i c p b) = true) :
    SimAt code (.for3 i c p b) (evNode fuel rec (.for3 i c p b)) := by
  intro kb kc pc stk σ res σ' hat he
  change (_ && _) = true at hwf
  simp only [Bool.and_eq_true, Bool.not_eq_true'] at hwf
  obtain ⟨⟨⟨⟨⟨⟨⟨⟨⟨⟨hii, hec⟩, hpp⟩, hbb⟩, hxi⟩, hxc⟩, hxp⟩, hwi⟩, hwc⟩, hwp⟩, hwb⟩ := hwf
  change CodeAt code pc (_ ++ _) at hat
  simp only [List.append_assoc] at hat
  have hlen : size (.for3 i c p b) = size i + size c + size b
      + (size p + (if leaves p = true then 1 else 0)) + 5 := rfl
  obtain ⟨hati, hat⟩ := hat.app (comp_length i 0 0)
  obtain ⟨hatc, hat⟩ := hat.app (comp_length c 0 0)
  obtain ⟨hpjf, hat⟩ := hat.two
  obtain ⟨hatb, hat⟩ := hat.app (comp_length b _ 1)
  obtain ⟨hpop, hat⟩ := hat.one
  obtain ⟨hatp, hat⟩ := hat.app (comp_length p 0 0)
  -- the init statement completes with unit, or fails
  rcases hi : rec i σ with ⟨r1, σ1⟩
  have Pi := ih i hwi 0 0 pc stk σ _ _ hati hi
  unfold evNode at he
  simp only at he
  rw [hi] at he
  cases r1 with
  | val v => cases (isInit_unit hii).symm.trans Pi.1
  | brk => cases hxi.symm.trans Pi.1
  | cont => cases hxi.symm.trans Pi.1
  | err e => cases he; exact ⟨trivial, Pi.2⟩
  | oof => cases he; exact ⟨trivial, trivial⟩
  | unit =>
    have HC := cond_phase ih c hwc hec hxc (pc + size i) _ stk hatc hpjf
    have HB := body_phase ih b hwb hbb _ _
      (pc + size i + size c + (size b + (size p + (if leaves p = true then 1 else 0)) + 5))
      stk hatb hpop (fun σ => (Steps.refl _).cast (by omega))
    -- the post statement: an expression statement's value is popped before the backward jump
    have HP : ∀ σ r σ1, rec p σ = (r, σ1) →
        PhaseTo code ⟨pc + size i + size c + 2 + size b + 1, stk, σ⟩ (pc + size i) stk r σ1 := by
      intro σ r σ1 h
      have P := ih p hwp 0 0 _ stk σ _ _ hatp h
      cases r with
      | val v =>
        have hl : leaves p = true := (isPost_cases hpp).resolve_left (fun hu => by cases (P.1 : _ = false).symm.trans hu)
        simp only [hl, ↓reduceIte] at hat
        obtain ⟨hpop2, hjb⟩ := hat.one
        exact ((P.val_steps.ins hpop2 execIns_popTop).ins (CodeAt.head hjb) execIns_jb).cast (by omega)
      | unit =>
        simp only [unit_not_leaves P.1, Bool.false_eq_true, ↓reduceIte, List.nil_append] at hat
        exact (P.unit_steps.ins (CodeAt.head hat) execIns_jb).cast (by omega)
      | brk => cases hxp.symm.trans P.1
      | cont => cases hxp.symm.trans P.1
      | err e => exact P.2
      | oof => trivial
    have R := loop_sim HC HB HP fuel σ1 res σ' he
    have R2 : LoopTo code ⟨pc + size i, stk, σ1⟩ (pc + size (.for3 i c p b)) stk res σ' := by
      rw [hlen, ← Nat.add_assoc, ← Nat.add_assoc, ← Nat.add_assoc, ← Nat.add_assoc]
      simp only [Nat.add_assoc] at R ⊢
      exact R
    exact .of_loop rfl (R2.pre Pi.unit_steps)

/-! ### switch -/

/-- the comparisons of one case: on a match control is `k` slots after them (at the case's
    body), otherwise right after them; the subject stays on the stack -/
theorem vals_sim (ih : IH code rec) (sv : FVal) (stk : List FVal) :
    ∀ (vs : N), wfVals vs = true → ∀ (k P : Nat) (σ : Store) (res : Except Out Bool) (σ' : Store),
      CodeAt code P (compVals k vs) → matchValsF rec sv vs σ = (res, σ') →
      (match res with
       | .ok true => Steps code ⟨P, sv :: stk, σ⟩ ⟨P + valsLen vs + k, sv :: stk, σ'⟩
       | .ok false => Steps code ⟨P, sv :: stk, σ⟩ ⟨P + valsLen vs, sv :: stk, σ'⟩
       | .error o => ErrTo code ⟨P, sv :: stk, σ⟩ o σ') := by
  intro vs
  induction vs with
  | nilL =>
    intro _ k P σ res σ' _ he
    cases he
    exact .refl _
  | cons v vs _ ihvs =>
    intro hw k P σ res σ' hat he
    change (_ && _) = true at hw
    simp only [Bool.and_eq_true, Bool.not_eq_true'] at hw
    obtain ⟨⟨⟨hev, hxv⟩, hwv⟩, hwvs⟩ := hw
    change CodeAt code P (_ ++ _) at hat
    simp only [List.append_assoc] at hat
    have hlen : valsLen (.cons v vs) = size v + 6 + valsLen vs := rfl
    obtain ⟨hcopy, hat⟩ := hat.two
    obtain ⟨hatv, hat⟩ := hat.app (comp_length v 0 0)
    obtain ⟨hcmp, hat⟩ := hat.two
    obtain ⟨hpjt, hatvs⟩ := hat.two
    unfold matchValsF at he
    rcases hv : rec v σ with ⟨o, σ1⟩
    rw [hv] at he
    have Pv := (ih.operand hwv (isE_not_unit hev) hxv (stk := sv :: sv :: stk) hatv hv).pre
      ((Steps.refl _).ins hcopy execIns_copy0)
    cases o with
    | val x =>
      -- `Compare ==` then `PopJumpForwardIfTrue`: to the body on a match, to the next value otherwise
      have pre := (Steps.ins Pv hcmp execIns_compare).ins hpjt execIns_pjt
      change Steps code _ ⟨ite ((sv == x) = true) _ _, _, _⟩ at pre
      by_cases heq : (sv == x) = true
      · simp only [heq, ↓reduceIte] at he pre
        cases he
        exact pre.cast (by omega)
      · simp only [heq, Bool.false_eq_true, ↓reduceIte] at he pre
        have R := ihvs hwvs k _ σ1 res σ' hatvs he
        rcases res with o | _ | _
        · exact R.pre pre
        · exact (pre.trans R).cast (by omega)
        · exact (pre.trans R).cast (by omega)
    | _ => cases he; exact Pv.err nofun
  | _ => intro hw; cases hw

theorem dflt_facts : ∀ (cs : N), wfCases cs = true →
    (match dfltBody cs with
     | some b => compDflt cs = comp 0 0 b ∧ defLen cs = size b ∧ wf b = true ∧ isBlock b = true ∧ escapes b = false
     | none => compDflt cs = one .nil_ ∧ defLen cs = 1) := by
  intro cs
  induction cs with
  | nilL => intro _; exact ⟨rfl, rfl⟩
  | cons h t _ iht =>
    intro hw
    change (_ && _) = true at hw
    simp only [Bool.and_eq_true] at hw
    obtain ⟨hwh, hwt⟩ := hw
    cases h with
    | case_ vals body => exact iht hwt
    | default_ b =>
      change (_ && _) = true at hwh
      simp only [Bool.and_eq_true, Bool.not_eq_true'] at hwh
      exact ⟨rfl, rfl, hwh.2, hwh.1.1, hwh.1.2⟩
    | _ => cases hwh
  | _ => intro hw; cases hw

/-- the two sections of a switch, for a suffix `cs` of the case list whose comparisons sit at
    `P` and whose bodies sit `before` slots into the body section `Bs`: whatever
    `evCasesF` selects (a case body, the default, nil), its value lands on the `Swap` at `W`,
    above the subject -/
theorem cases_sim (ih : IH code rec) (sv : FVal) (stk : List FVal) (dflt : Option N) (E Bs D W d : Nat)
    (hBs : Bs = E + 2) (hW : W = D + d)
    (hjd : ∀ σ, Steps code ⟨E, sv :: stk, σ⟩ ⟨D, sv :: stk, σ⟩)
    (hdef : ∀ σ res σ', runDflt rec dflt σ = (res, σ') → ValTo code ⟨D, sv :: stk, σ⟩ W (sv :: stk) res σ') :
    ∀ (cs : N), wfCases cs = true → ∀ (before P : Nat) (σ : Store) (res : Out) (σ' : Store),
      CodeAt code P (compCmp before cs) → P + cmpLen cs = E →
      CodeAt code (Bs + before) (compBodies d cs) → Bs + before + bodiesLen cs = D →
      evCasesF rec sv dflt cs σ = (res, σ') →
      ValTo code ⟨P, sv :: stk, σ⟩ W (sv :: stk) res σ' := by
  intro cs
  induction cs with
  | nilL =>
    intro _ before P σ res σ' _ hP _ _ he
    cases (hP : P = E)
    exact (hdef σ res σ' he).pre (hjd σ)
  | cons h t _ iht =>
    intro hw before P σ res σ' hatc hP hatb hB he
    change (_ && _) = true at hw
    simp only [Bool.and_eq_true] at hw
    obtain ⟨hwh, hwt⟩ := hw
    cases h with
    | case_ vals body =>
      change (_ && _) = true at hwh
      simp only [Bool.and_eq_true, Bool.not_eq_true'] at hwh
      obtain ⟨⟨⟨hwv, hbb⟩, hxb⟩, hwb⟩ := hwh
      change CodeAt code P (compVals _ vals ++ _) at hatc
      change CodeAt code _ ((_ ++ _) ++ _) at hatb
      change P + (valsLen vals + cmpLen t) = E at hP
      change Bs + before + (size body + 2 + bodiesLen t) = D at hB
      unfold evCasesF at he; simp only at he
      have hcb : caseBodyLen (.case_ vals body) = size body + 2 := rfl
      rw [List.append_assoc] at hatb
      obtain ⟨hatv, hatc'⟩ := hatc.app (compVals_length vals _)
      obtain ⟨hatbody, hatb⟩ := hatb.app (comp_length body 0 0)
      obtain ⟨hjf, hatb'⟩ := hatb.two
      rcases hm : matchValsF rec sv vals σ with ⟨m, σ1⟩
      rw [hm] at he
      have V := vals_sim ih sv stk vals hwv _ P σ m σ1 hatv hm
      rcases m with o | _ | _
      · cases he
        cases res with
        | err c => exact V
        | oof => trivial
        | _ => exact V.elim
      · exact (iht hwt _ _ σ1 res σ' hatc' (by omega) (hatb'.cast (by omega)) (by omega) he).pre V
      · -- the selected body, then the jump over the remaining bodies and the default
        have B := (ih.operand hwb (isBlock_not_unit hbb) hxb (stk := sv :: stk) hatbody he).pre
          (V.cast (by omega))
        cases res with
        | val v => exact (Steps.ins B hjf execIns_jf).cast (by omega)
        | _ => exact B
    | default_ b =>
      change P + (0 + cmpLen t) = E at hP
      change Bs + before + (0 + bodiesLen t) = D at hB
      rw [Nat.zero_add] at hP hB
      unfold evCasesF at he; simp only at he
      exact iht hwt before P σ res σ' hatc hP hatb hB he
    | _ => cases hwh
  | _ => intro hw; cases hw

theorem sim_switch (ih : IH code rec) (subj cases : N) (hwf : wf (.switch subj cases) = true) :
    SimAt code (.switch subj cases) (evNode fuel rec (.switch subj cases)) := by
  intro kb kc pc stk σ res σ' hat he
  change (_ && _) = true at hwf
  simp only [Bool.and_eq_true, Bool.not_eq_true'] at hwf
  obtain ⟨⟨⟨⟨hes, hxs⟩, hws⟩, hwc⟩, _⟩ := hwf
  change CodeAt code pc (_ ++ _) at hat
  simp only [List.append_assoc] at hat
  have hlen : size (.switch subj cases)
      = size subj + cmpLen cases + 2 + bodiesLen cases + defLen cases + 3 := rfl
  obtain ⟨hats, hat⟩ := hat.app (comp_length subj 0 0)
  obtain ⟨hatc, hat⟩ := hat.app (compCmp_length cases 0)
  obtain ⟨hjd, hat⟩ := hat.two
  obtain ⟨hatb, hat⟩ := hat.app (compBodies_length cases _)
  obtain ⟨hatd, hat⟩ := hat.app (compDflt_length cases)
  obtain ⟨hswap, hpop⟩ := hat.two
  refine ih.seq hws (isE_not_unit hes) hxs (.refl _) hats he fun sv σ1 Ps he => ?_
  -- the default section: the default's body, or `Nil`
  have hdef : ∀ σ res σ', runDflt rec (dfltBody cases) σ = (res, σ') →
      ValTo code ⟨pc + size subj + cmpLen cases + 2 + bodiesLen cases, sv :: stk, σ⟩
        (pc + size subj + cmpLen cases + 2 + bodiesLen cases + defLen cases) (sv :: stk) res σ' := by
    intro σ res σ' h
    have F := dflt_facts cases hwc
    cases hd : dfltBody cases with
    | some b =>
      rw [hd] at F h
      obtain ⟨hc, hl, hwb, hbb, hxb⟩ := F
      rw [hc] at hatd
      rw [hl]
      exact ih.operand hwb (isBlock_not_unit hbb) hxb hatd h
    | none =>
      rw [hd] at F h
      obtain ⟨hc, hl⟩ := F
      rw [hc] at hatd
      cases h
      rw [hl]
      exact (Steps.refl _).ins (CodeAt.head hatd) execIns_nil
  have R := (cases_sim ih sv stk (dfltBody cases) _ _ _ _ (defLen cases) rfl rfl
    (fun σ => ((Steps.refl _).ins hjd execIns_jf).cast (by omega)) hdef
    cases hwc 0 _ σ1 res σ' hatc rfl hatb rfl he).pre Ps
  cases res with
  | val v =>
    exact .val rfl ((Steps.ins R hswap execIns_swap1).ins (CodeAt.head hpop) execIns_popTop) (by omega)
  | _ => exact .of_err (R.err nofun)

/-- every node form of the fragment: if the sub-nodes are simulated, so is the node -/
theorem evNode_sim (ih : IH code rec) (fuel : Nat) : IH code (evNode fuel rec) := by
  intro n hwf
  cases n with
  | «infix» op l r =>
    by_cases hand : op = .and
    · subst hand
      exact fun kb kc pc stk σ res σ' hat he =>
        sim_short ih .and true .pjf 6 l r rfl rfl (fun _ _ _ _ _ => rfl)
          (fun pc a b s σ ht => (execIns_binary (k := 6)).trans (pushRes_ok (congrArg Except.ok (if_pos ht))))
          hwf pc stk σ res σ' hat (fun _ _ => rfl) he
    · by_cases hor : op = .or
      · subst hor
        exact fun kb kc pc stk σ res σ' hat he =>
          sim_short ih .or false .pjt 7 l r rfl rfl
            (fun d pc v s σ => by rw [execIns_pjt]; cases v.truthy <;> rfl)
            (fun pc a b s σ ht => (execIns_binary (k := 7)).trans (pushRes_ok (congrArg Except.ok (if_neg (ht ▸ Bool.false_ne_true)))))
            hwf pc stk σ res σ' hat (fun a σ1 => by cases a.truthy <;> rfl) he
      · exact sim_infix ih op l r hand hor hwf
  | neg e => exact sim_neg ih e hwf
  | not e => exact sim_not ih e hwf
  | tern c a b =>
    change (_ && _) = true at hwf
    simp only [Bool.and_eq_true, Bool.not_eq_true'] at hwf
    obtain ⟨⟨⟨⟨⟨⟨⟨⟨hec, hea⟩, heb⟩, hxc⟩, _⟩, _⟩, hwc⟩, hwa⟩, hwb⟩ := hwf
    exact fun kb kc => sim_cond ih _ c a b rfl rfl rfl rfl hwc hwa hwb
      (isE_not_unit hec) (isE_not_unit hea) (isE_not_unit heb) hxc
  | if_ c t e =>
    change (_ && _) = true at hwf
    simp only [Bool.and_eq_true, Bool.not_eq_true'] at hwf
    obtain ⟨⟨⟨⟨⟨⟨hec, hbt⟩, hee⟩, hxc⟩, hwc⟩, hwt⟩, hwe⟩ := hwf
    exact fun kb kc => sim_cond ih _ c t e rfl rfl rfl rfl hwc hwt hwe
      (isE_not_unit hec) (isBlock_not_unit hbt) (isElse_not_unit hee) hxc
  | block s =>
    have hw : (isL s && wf s) = true := hwf
    simp only [Bool.and_eq_true] at hw
    exact fun kb kc pc stk σ r σ' hat he =>
      .last (.refl _) (ih s hw.2 kb kc pc stk σ r σ' hat he) rfl (isL_not_unit hw.1).symm id
  | prog s =>
    have hw : (isL s && !escapes s && wf s) = true := hwf
    simp only [Bool.and_eq_true] at hw
    exact fun kb kc pc stk σ r σ' hat he =>
      .last (.refl _) (ih s hw.2 kb kc pc stk σ r σ' hat he) rfl (isL_not_unit hw.1.1).symm id
  | expr e =>
    have hw : (isE e && wf e) = true := hwf
    simp only [Bool.and_eq_true] at hw
    exact fun kb kc pc stk σ r σ' hat he =>
      .last (.refl _) (ih e hw.2 kb kc pc stk σ r σ' hat he) rfl (isE_not_unit hw.1).symm id
  | cons h t => exact sim_cons ih h t hwf
  | var x e => exact sim_var ih x e hwf
  | assign x op e => exact sim_assign ih x op e hwf
  | «postfix» x inc => exact sim_postfix x inc
  | break_ => exact fun kb kc => sim_ctl true
  | continue_ => exact fun kb kc => sim_ctl false
  | forcond c b => exact sim_forcond ih c b hwf
  | forever b => exact sim_forever ih b hwf
  | for3 i c p b => exact sim_for3 ih i c p b hwf
  | switch subj cases => exact sim_switch ih subj cases hwf
  -- leaves: one instruction pushes the value
  | nilLit => exact fun _ _ pc stk σ r σ' hat he => sim_leaf _ .nil_ .nil 1 pc stk σ r σ' rfl (CodeAt.head hat) rfl rfl he
  | none_ => exact fun _ _ pc stk σ r σ' hat he => sim_leaf _ .nil_ .nil 1 pc stk σ r σ' rfl (CodeAt.head hat) rfl rfl he
  | nilL => exact fun _ _ pc stk σ r σ' hat he => sim_leaf _ .nil_ .nil 1 pc stk σ r σ' rfl (CodeAt.head hat) rfl rfl he
  | int i =>
    exact fun _ _ pc stk σ r σ' hat he => sim_leaf _ (.constInt i) (.int i) 2 pc stk σ r σ' rfl (CodeAt.head hat) rfl rfl he
  | str s =>
    exact fun _ _ pc stk σ r σ' hat he => sim_leaf _ (.constStr s) (.str s) 2 pc stk σ r σ' rfl (CodeAt.head hat) rfl rfl he
  | id x =>
    exact fun _ _ pc stk σ r σ' hat he => sim_leaf _ (.loadG x) (σ.get x) 2 pc stk σ r σ' rfl (CodeAt.head hat) rfl rfl he
  | bool b =>
    exact fun _ _ pc stk σ r σ' hat he =>
      sim_leaf _ (if b then .true_ else .false_) (.bool b) 1 pc stk σ r σ' rfl (CodeAt.head hat) rfl (by cases b <;> rfl) he
  | _ => cases hwf

/-- the simulation, for every fuel: induction on fuel only (each node evaluates its sub-nodes
    with one unit of fuel less; loops iterate inside `loop_sim`) -/
theorem ev_sim (code : Code) : ∀ f, IH code (ev f)
  | 0 => by
    intro n _ kb kc pc stk σ r σ' _ he
    cases he
    exact ⟨trivial, trivial⟩
  | f + 1 => evNode_sim (ev_sim code f) f

/-! ### from `Steps` to the fuel-indexed `run` -/

theorem run_of_steps {code : Code} {a b : Cfg} (h : Steps code a b) :
    ∃ n, ∀ k, run code (n + k) a = run code k b := by
  induction h with
  | refl c => exact ⟨0, fun k => by rw [Nat.zero_add]⟩
  | cons hs _ ih =>
    obtain ⟨n, hn⟩ := ih
    refine ⟨n + 1, fun k => ?_⟩
    have : n + 1 + k = (n + k) + 1 := by omega
    rw [this, run, hs]
    exact hn k

/-- once the VM has halted, more fuel does not change the outcome -/
theorem run_mono {code : Code} : ∀ (k : Nat) (c : Cfg) (res : RunRes) (σ : Store),
    run code k c = (res, σ) → res ≠ .running → run code (k + 1) c = (res, σ)
  | 0, c, res, σ, h, hr => by simp only [run] at h; cases h; exact absurd rfl hr
  | k + 1, c, res, σ, h, hr => by
    rw [run] at h ⊢
    cases hs : step code c with
    | ok c' => rw [hs] at h; simp only at h ⊢; exact run_mono k c' res σ h hr
    | error e => rw [hs] at h; cases e <;> exact h

end Risor.C01.Frag
