import RisorModel.C01.Fun
/-!
C01 function fragment — helper lemmas for `FunProps.lean`.  The development of
`FragLemmas.lean` (multi-step execution, `CodeAt`, one simulation lemma per construct, the
generic loop lemma) over the machine with call frames of `Fun.lean`, plus the lemmas for
calls, `return` and function bodies.

`World` = what stays fixed while one activation runs a node: the program, the running code
object and the stack of suspended callers.  `Steps W a b` = the MACHINE goes from activation
state `a` to activation state `b` in the same world; in between it may have entered and left
any number of callee activations.  Core Lean only.
-/
namespace Risor.C01.Fun
open Risor.C01
open Risor.C01.Frag (isNilL opOK postName isDefault countDefault dfltBody assignK)

/-! ### the machine, multi-step -/

structure World where
  P : Prog
  fn : Option String
  fs : List Frame

/-- the code object the activation runs -/
def World.code (W : World) : Code := W.P.codeOf W.fn

/-- the machine state in which the activation is in state `c` -/
def World.at (W : World) (c : Cfg) : M := { cfg := c, fn := W.fn, frames := W.fs }

inductive MSteps (P : Prog) : M → M → Prop where
  | refl (m : M) : MSteps P m m
  | cons {a b c : M} : mstep P a = .ok b → MSteps P b c → MSteps P a c

theorem MSteps.trans {P : Prog} {a b c : M} (h1 : MSteps P a b) (h2 : MSteps P b c) : MSteps P a c := by
  induction h1 with
  | refl => exact h2
  | cons hs _ ih => exact .cons hs (ih h2)

theorem MSteps.one {P : Prog} {a b : M} (h : mstep P a = .ok b) : MSteps P a b := .cons h (.refl _)

def Steps (W : World) (a b : Cfg) : Prop := MSteps W.P (W.at a) (W.at b)

/-- an instruction of the activation itself is a step of the machine (`Call` and `ReturnValue` are
    no instructions of one activation: `execIns` refuses them) -/
theorem mstep_of_step {W : World} {a b : Cfg} (h : step W.code a = .ok b) : mstep W.P (W.at a) = .ok (W.at b) := by
  unfold mstep
  simp only [World.at]
  have hc : W.P.codeOf W.fn = W.code := rfl
  rw [hc]
  have h0 := h
  unfold step at h
  split at h
  · cases h
  · split
    · rename_i n hn; rw [hn] at h; cases h
    · rename_i hn; rw [hn] at h; cases h
    · rw [h0]

/-- an error raised by an instruction of the activation itself is an error of the machine -/
theorem mstep_of_step_err {W : World} {a : Cfg} {c : String} (h : step W.code a = .error (.err c)) :
    mstep W.P (W.at a) = .error (.err c) := by
  unfold mstep
  simp only [World.at]
  have hc : W.P.codeOf W.fn = W.code := rfl
  rw [hc]
  have h0 := h
  unfold step at h
  split at h
  · cases h
  · split
    · rename_i n hn; rw [hn] at h; cases h
    · rename_i hn; rw [hn] at h; cases h
    · rw [h0]

theorem Steps.refl {W : World} (c : Cfg) : Steps W c c := MSteps.refl _

theorem Steps.trans {W : World} {a b c : Cfg} (h1 : Steps W a b) (h2 : Steps W b c) : Steps W a c :=
  MSteps.trans h1 h2

theorem Steps.cast {W : World} {a : Cfg} {p q : Nat} {s : List V} {σ : Env}
    (h : Steps W a ⟨p, s, σ⟩) (e : p = q) : Steps W a ⟨q, s, σ⟩ := e ▸ h

theorem Steps.castL {W : World} {b : Cfg} {p q : Nat} {s : List V} {σ : Env}
    (h : Steps W ⟨p, s, σ⟩ b) (e : p = q) : Steps W ⟨q, s, σ⟩ b := e ▸ h

theorem step_of {code : Code} {pc : Nat} {i : FIns} (h : code[pc]? = some (some i)) (stk : List V) (σ : Env) :
    step code ⟨pc, stk, σ⟩ = execIns i ⟨pc, stk, σ⟩ := by
  have hlt : ¬ (pc ≥ code.length) := fun h1 => by rw [List.getElem?_eq_none h1] at h; cases h
  simp only [step, hlt, if_false, h]

/-- one more instruction: the one found at `pc`, with its effect `hex` (an `execIns_*` equation) -/
theorem Steps.ins {W : World} {a c' : Cfg} {pc : Nat} {i : FIns} {stk : List V} {σ : Env}
    (h1 : Steps W a ⟨pc, stk, σ⟩) (hi : W.code[pc]? = some (some i)) (hex : execIns i ⟨pc, stk, σ⟩ = .ok c') :
    Steps W a c' :=
  h1.trans (MSteps.one (mstep_of_step ((step_of hi stk σ).trans hex)))

/-- where an abrupt completion ends, for globals `G`: an error `cls c` — a machine state with
    globals `G` whose next step raises the class `c`; a `return v` — the caller of the activation
    resumed after its `Call` with `v` pushed on the operand stack it had below the call, ITS locals,
    the remaining suspended frames untouched, and globals `G` (with no caller: the machine halts
    with `v`) -/
def Final (W : World) (x : Exc) (G : Store) (m1 : M) : Prop :=
  match x with
  | .cls c => m1.cfg.σ.glob = G ∧ mstep W.P m1 = .error (.err c)
  | .ret v =>
    match W.fs with
    | fr :: fs' => m1 = { cfg := ⟨fr.pc, v :: fr.stk, ⟨fr.loc, G⟩⟩, fn := fr.fn, frames := fs' }
    | [] => m1.cfg.σ.glob = G ∧ mstep W.P m1 = .error (.done v)

/-- the run from `c0` completes abruptly with `x` and final globals `σ'.glob` -/
def Fails (W : World) (c0 : Cfg) (x : Exc) (σ' : Env) : Prop :=
  ∃ m1, MSteps W.P (W.at c0) m1 ∧ Final W x σ'.glob m1

theorem Fails.pre {W : World} {a b : Cfg} {x : Exc} {σ' : Env}
    (h : Steps W a b) (f : Fails W b x σ') : Fails W a x σ' := by
  obtain ⟨m1, h1, h2⟩ := f
  exact ⟨m1, MSteps.trans h h1, h2⟩

/-- the instruction found at the position reached raises an error -/
theorem Fails.ins {W : World} {a : Cfg} {pc : Nat} {i : FIns} {stk : List V} {σ : Env} {c : String}
    (h1 : Steps W a ⟨pc, stk, σ⟩) (hi : W.code[pc]? = some (some i)) (hex : execIns i ⟨pc, stk, σ⟩ = .error (.err c)) :
    Fails W a (.cls c) σ :=
  ⟨_, h1, rfl, mstep_of_step_err ((step_of hi stk σ).trans hex)⟩

variable {ls : List String}

/-- outcome `r` with final store `σ'` is realised from `c0`: a value lands at `pcE` on top of
    `stk`, unit lands at `pcE` with `stk` itself, `break` / `continue` land on the enclosing
    loop's targets (`kb` / `kc` slots after `pcE`) with `stk` itself, an error is raised by the
    VM with the same class; nothing is claimed for out-of-fuel -/
def Lands (W : World) (c0 : Cfg) (pcE kb kc : Nat) (stk : List V) (r : Out) (σ' : Env) : Prop :=
  match r with
  | .val v => Steps W c0 ⟨pcE, v :: stk, σ'⟩
  | .unit => Steps W c0 ⟨pcE, stk, σ'⟩
  | .brk => Steps W c0 ⟨pcE + kb, stk, σ'⟩
  | .cont => Steps W c0 ⟨pcE + kc, stk, σ'⟩
  | .err c => Fails W c0 c σ'
  | .oof => True

/-- which nodes end with a value, which with `unit`, and which can be left by a break/continue -/
def Shape (n : N) (r : Out) : Prop :=
  match r with
  | .val _ => isUnitNode n = false
  | .unit => isUnitNode n = true
  | .brk => escapes n = true
  | .cont => escapes n = true
  | _ => True

theorem Shape.mono {m n : N} {r : Out} (h : Shape m r) (hu : isUnitNode n = isUnitNode m)
    (hx : escapes m = true → escapes n = true) : Shape n r := by
  cases r with
  | val v => exact hu.trans h
  | unit => exact hu.trans h
  | brk => exact hx h
  | cont => exact hx h
  | _ => trivial

/-- the simulation statement for one node at one place -/
def Post (W : World) (kb kc : Nat) (n : N) (pc : Nat) (stk : List V) (σ : Env) (r : Out) (σ' : Env) : Prop :=
  Shape n r ∧ Lands W ⟨pc, stk, σ⟩ (pc + size n) kb kc stk r σ'

/-- the run of an operand from `c0` above `stk`: its value lands at `q` on top of `stk`, or its error is raised -/
def ValTo (W : World) (c0 : Cfg) (q : Nat) (stk : List V) (r : Out) (σ' : Env) : Prop :=
  match r with
  | .val v => Steps W c0 ⟨q, v :: stk, σ'⟩
  | .err c => Fails W c0 c σ'
  | .oof => True
  | _ => False

/-- a run of operands that stopped at one without a value -/
def ErrTo (W : World) (c0 : Cfg) (o : Out) (σ' : Env) : Prop :=
  match o with
  | .err c => Fails W c0 c σ'
  | .oof => True
  | _ => False

/-! ### `CodeAt code pc frag`: the fragment sits at slot offset `pc` of the enclosing code -/

def CodeAt (code : Code) (pc : Nat) (frag : Code) : Prop :=
  ∀ i, i < frag.length → code[pc + i]? = frag[i]?

theorem CodeAt.self (code : Code) : CodeAt code 0 code := by
  intro i _
  simp

theorem CodeAt.cast {code : Code} {p q : Nat} {frag : Code} (h : CodeAt code p frag) (e : p = q) :
    CodeAt code q frag := e ▸ h

theorem CodeAt.head {code : Code} {pc : Nat} {x : Option FIns} {rest : Code} (h : CodeAt code pc (x :: rest)) :
    code[pc]? = some x := by
  simpa using h 0 (by simp)

/-- the two halves of `a ++ b`; the running position is kept as the sum `pc + k` -/
theorem CodeAt.app {code : Code} {pc k : Nat} {a b : Code} (h : CodeAt code pc (a ++ b)) (e : a.length = k) :
    CodeAt code pc a ∧ CodeAt code (pc + k) b := by
  subst e
  refine ⟨fun i hi => ?_, fun i hi => ?_⟩
  · rw [h i (by simp; omega), List.getElem?_append_left hi]
  · rw [Nat.add_assoc, h (a.length + i) (by simp; omega), List.getElem?_append_right (by omega)]
    simp

@[simp] theorem one_length (i : FIns) : (one i).length = 1 := rfl
@[simp] theorem two_length (i : FIns) : (two i).length = 2 := rfl

/-- an instruction and what follows it -/
theorem CodeAt.one {code : Code} {pc : Nat} {i : FIns} {b : Code} (h : CodeAt code pc (one i ++ b)) :
    code[pc]? = some (some i) ∧ CodeAt code (pc + 1) b := ⟨CodeAt.head h, (h.app rfl).2⟩
theorem CodeAt.two {code : Code} {pc : Nat} {i : FIns} {b : Code} (h : CodeAt code pc (two i ++ b)) :
    code[pc]? = some (some i) ∧ CodeAt code (pc + 2) b := ⟨CodeAt.head h, (h.app rfl).2⟩

/-! ### the instructions, one equation each -/

section
variable {pc : Nat} {s : List V} {σ : Env} {v a b : V}

theorem execIns_nop : execIns .nop ⟨pc, s, σ⟩ = .ok ⟨pc + 1, s, σ⟩ := rfl
theorem execIns_nil : execIns .nil_ ⟨pc, s, σ⟩ = .ok ⟨pc + 1, .nil :: s, σ⟩ := rfl
theorem execIns_constInt {k : Int} : execIns (.constInt k) ⟨pc, s, σ⟩ = .ok ⟨pc + 2, .int k :: s, σ⟩ := rfl
theorem execIns_constStr {k : String} : execIns (.constStr k) ⟨pc, s, σ⟩ = .ok ⟨pc + 2, .str k :: s, σ⟩ := rfl
theorem execIns_constFn {g : String} : execIns (.constFn g) ⟨pc, s, σ⟩ = .ok ⟨pc + 2, .fn g :: s, σ⟩ := rfl
theorem execIns_unaryNot : execIns .unaryNot ⟨pc, v :: s, σ⟩ = .ok ⟨pc + 1, .bool (!v.truthy) :: s, σ⟩ := rfl
theorem execIns_popTop : execIns .popTop ⟨pc, v :: s, σ⟩ = .ok ⟨pc + 1, s, σ⟩ := rfl
theorem execIns_copy0 : execIns (.copy 0) ⟨pc, v :: s, σ⟩ = .ok ⟨pc + 2, v :: v :: s, σ⟩ := rfl
theorem execIns_swap1 : execIns (.swap 1) ⟨pc, a :: b :: s, σ⟩ = .ok ⟨pc + 2, b :: a :: s, σ⟩ := rfl
theorem execIns_jf {d : Nat} : execIns (.jf d) ⟨pc, s, σ⟩ = .ok ⟨pc + d, s, σ⟩ := rfl
theorem execIns_jb {d : Nat} : execIns (.jb d) ⟨pc, s, σ⟩ = .ok ⟨pc - d, s, σ⟩ := rfl
theorem execIns_pjf {d : Nat} :
    execIns (.pjf d) ⟨pc, v :: s, σ⟩ = .ok ⟨if v.truthy = true then pc + 2 else pc + d, s, σ⟩ := rfl
theorem execIns_pjt {d : Nat} :
    execIns (.pjt d) ⟨pc, v :: s, σ⟩ = .ok ⟨if v.truthy = true then pc + d else pc + 2, s, σ⟩ := rfl

/-- what an instruction that computes `x` and replaces its operands (the stack is `s` without them) by the
    result does: `w` is its width -/
def pushRes (x : Except String V) (pc w : Nat) (s : List V) (σ : Env) : Except Halt Cfg :=
  match x with
  | .ok v => .ok ⟨pc + w, v :: s, σ⟩
  | .error e => .error (.err e)

theorem execIns_binary {k : Nat} : execIns (.binary k) ⟨pc, b :: a :: s, σ⟩ = pushRes (vBinaryF k a b) pc 2 s σ := rfl
theorem execIns_compare {k : Nat} : execIns (.compare k) ⟨pc, b :: a :: s, σ⟩ = pushRes (vCompareF k a b) pc 2 s σ := rfl

theorem pushRes_ok {x : Except String V} {w : Nat} (h : x = .ok v) : pushRes x pc w s σ = .ok ⟨pc + w, v :: s, σ⟩ := by
  rw [h]; rfl
theorem pushRes_error {x : Except String V} {w : Nat} {c : String} (h : x = .error c) :
    pushRes x pc w s σ = .error (.err c) := by
  rw [h]; rfl

end

/-- variable access: the opcode the resolution picks reads / writes the variable -/
theorem exec_loadV (ls : List String) (x : String) (pc : Nat) (stk : List V) (σ : Env) :
    execIns (loadV ls x) ⟨pc, stk, σ⟩ = .ok ⟨pc + 2, σ.get ls x :: stk, σ⟩ := by
  unfold loadV Env.get
  split <;> rfl

theorem exec_storeV (ls : List String) (x : String) (pc : Nat) (v : V) (stk : List V) (σ : Env) :
    execIns (storeV ls x) ⟨pc, v :: stk, σ⟩ = .ok ⟨pc + 2, stk, σ.set ls x v⟩ := by
  unfold storeV Env.set
  split <;> rfl

/-! ### shallow class facts (a constructor inside the class: `rfl`; outside: the hypothesis is `false = true`) -/

theorem isE_not_unit {n : N} (h : isE n = true) : isUnitNode n = false := by
  cases n <;> first | rfl | cases h
theorem isBlock_not_unit {n : N} (h : isBlock n = true) : isUnitNode n = false := by
  cases n <;> first | rfl | cases h
theorem isElse_not_unit {n : N} (h : isElse n = true) : isUnitNode n = false := by
  cases n <;> first | rfl | cases h
theorem isL_not_unit {n : N} (h : isL n = true) : isUnitNode n = false := by
  cases n <;> first | rfl | cases h
theorem isNone_not_unit {n : N} (h : isNone n = true) : isUnitNode n = false := by
  cases n <;> first | rfl | cases h
theorem isInit_unit {n : N} (h : isInit n = true) : isUnitNode n = true := by
  cases n <;> first | rfl | cases h
theorem unit_not_leaves {n : N} (h : isUnitNode n = true) : leaves n = false := by
  cases n <;> first | rfl | cases h | exact congrArg not h
theorem isPost_cases {n : N} (h : isPost n = true) : isUnitNode n = true ∨ leaves n = true := by
  cases n <;> first | exact Bool.noConfusion h | exact .inl rfl | exact .inr h
theorem isReturn_eq {n : N} (h : isReturn n = true) : ∃ e, n = .return_ e := by
  cases n <;> first | exact Bool.noConfusion h | exact ⟨_, rfl⟩

/-! ### operators: the VM's numeric dispatch agrees with the source-level operator -/

/-- `opIns` numbers the arithmetic operators as `vBinaryF` dispatches them.  The two definitions split on
    the operand types by different matches, hence the sweep over the types. -/
theorem vBinaryF_binopF {op : BinOp} {k : Nat} (hk : opIns op = .binary k) (hok : opOK op = true)
    (hand : op ≠ .and) (hor : op ≠ .or) (a b : V) : vBinaryF k a b = binopF op a b := by
  cases op <;> cases hk <;>
    first | exact absurd rfl hand | exact absurd rfl hor | (cases a <;> cases b <;> rfl) | cases hok

theorem vCompareF_binopF {op : BinOp} {k : Nat} (hk : opIns op = .compare k) (a b : V) :
    vCompareF k a b = binopF op a b := by
  cases op <;> cases hk <;> first | rfl | (cases a <;> cases b <;> rfl)

theorem opIns_cases (op : BinOp) : (∃ k, opIns op = .binary k) ∨ (∃ k, opIns op = .compare k) := by
  cases op <;> first | exact .inl ⟨_, rfl⟩ | exact .inr ⟨_, rfl⟩

theorem execIns_opIns (op : BinOp) (hok : opOK op = true) (hand : op ≠ .and) (hor : op ≠ .or)
    (a b : V) (s : List V) (pc : Nat) (σ : Env) :
    execIns (opIns op) ⟨pc, b :: a :: s, σ⟩ = pushRes (binopF op a b) pc 2 s σ := by
  rcases opIns_cases op with ⟨k, hk⟩ | ⟨k, hk⟩
  · rw [hk, ← vBinaryF_binopF hk hok hand hor]; rfl
  · rw [hk, ← vCompareF_binopF hk]; rfl

theorem vBinaryF_assign (op : AssignOp) (h : op ≠ .set) (cur v : V) :
    vBinaryF (assignK op) cur v = applyF op cur v := by
  cases op with
  | set => exact absurd rfl h
  | add => exact vBinaryF_binopF (op := .add) rfl rfl nofun nofun cur v
  | sub => exact vBinaryF_binopF (op := .sub) rfl rfl nofun nofun cur v
  | mul => exact vBinaryF_binopF (op := .mul) rfl rfl nofun nofun cur v
  | div => exact vBinaryF_binopF (op := .div) rfl rfl nofun nofun cur v

/-! ### the length of a node's code does not depend on where the loop targets are -/

theorem pre_length (h : N) : (pre ls h).length = preLen h := by
  unfold pre preLen
  cases postName h <;> rfl

/-- neither a list cell, a case nor a default clause: only `comp` has code for such a node -/
def plainNode : N → Bool
  | .cons .. | .case_ .. | .default_ .. => false
  | _ => true

/-- on a plain node the eight list-shaped components of `comp_lengths` are what the catch-all equations of
    their functions say: empty code of length 0 (`compDflt`: the one `Nil`); the length of the node's own
    code `own` is all there is to show -/
theorem comp_lengths_of_plain {n : N} (hp : plainNode n = true) (own : ∀ kb kc, (comp ls kb kc n).length = size n) :
    (∀ kb kc, (comp ls kb kc n).length = size n) ∧ (∀ k, (compVals ls k n).length = valsLen n) ∧
    (∀ k, (compCmpCase ls k n).length = caseCmpLen n) ∧ (∀ b, (compCmp ls b n).length = cmpLen n) ∧
    (∀ a, (compBody ls a n).length = caseBodyLen n) ∧ (∀ d, (compBodies ls d n).length = bodiesLen n) ∧
    ((compDfltBody ls n).length = dfltBodyLen n) ∧ ((compDflt ls n).length = defLen n) ∧
    ((compArgs ls n).length = argsLen n) := by
  have hc : ∀ h t, n = .cons h t → False := fun h t e => by subst e; cases hp
  have hk : ∀ v b, n = .case_ v b → False := fun v b e => by subst e; cases hp
  have hd : ∀ b, n = .default_ b → False := fun b e => by subst e; cases hp
  refine ⟨own, ?_⟩
  simp only [compVals.eq_2 _ _ _ hc, valsLen.eq_2 _ hc, compCmpCase.eq_2 _ _ _ hk, caseCmpLen.eq_2 _ hk,
    compCmp.eq_2 _ _ _ hc, cmpLen.eq_2 _ hc, compBody.eq_2 _ _ _ hk, caseBodyLen.eq_2 _ hk,
    compBodies.eq_2 _ _ _ hc, bodiesLen.eq_2 _ hc, compDfltBody.eq_2 _ _ hd, dfltBodyLen.eq_2 _ hd,
    compDflt.eq_2 _ _ hc, defLen.eq_2 _ hc, compArgs.eq_2 _ _ hc, argsLen.eq_2 _ hc,
    List.length_nil, one_length, implies_true, and_self]

/-- lengths of every piece of generated code (the mutual functions of `comp`), by structural
    induction on the node -/
theorem comp_lengths (n : N) :
    (∀ kb kc, (comp ls kb kc n).length = size n) ∧ (∀ k, (compVals ls k n).length = valsLen n) ∧
    (∀ k, (compCmpCase ls k n).length = caseCmpLen n) ∧ (∀ b, (compCmp ls b n).length = cmpLen n) ∧
    (∀ a, (compBody ls a n).length = caseBodyLen n) ∧ (∀ d, (compBodies ls d n).length = bodiesLen n) ∧
    ((compDfltBody ls n).length = dfltBodyLen n) ∧ ((compDflt ls n).length = defLen n) ∧
    ((compArgs ls n).length = argsLen n) := by
  induction n
  case cons h t ihh iht =>
    obtain ⟨h1, _, h3, _, h5, _, h7, _, _⟩ := ihh
    obtain ⟨t1, t2, _, t4, _, t6, _, t8, t9⟩ := iht
    refine ⟨fun kb kc => ?_, fun k => ?_, fun _ => rfl, fun b => ?_, fun _ => rfl, fun d => ?_, rfl, ?_, ?_⟩
    · change (pre ls h ++ ite _ _ _).length = preLen h + size h + ite _ _ _
      rw [List.length_append, pre_length]
      split <;> split <;> simp only [List.length_append, h1, t1, one_length, List.length_nil] <;> omega
    · change List.length (_ ++ _) = _ + _
      simp only [List.length_append, two_length, h1, t2]; omega
    · change List.length (_ ++ _) = _ + _
      rw [List.length_append, h3, t4]
    · change List.length (_ ++ _) = _ + _
      rw [List.length_append, h5, t6]
    · change List.length (ite _ _ _) = ite _ _ _
      split
      · exact h7
      · exact t8
    · change List.length (_ ++ _) = _ + _
      rw [List.length_append, h1, t9]
  case case_ vals body ihv ihb =>
    refine ⟨fun _ _ => rfl, fun _ => rfl, fun k => ihv.2.1 k, fun _ => rfl, fun a => ?_, fun _ => rfl, rfl, rfl, rfl⟩
    change List.length (_ ++ _) = _ + _
    rw [List.length_append, ihb.1]; rfl
  case default_ body ihb =>
    exact ⟨fun _ _ => rfl, fun _ => rfl, fun _ => rfl, fun _ => rfl, fun _ => rfl, fun _ => rfl, ihb.1 0 0, rfl, rfl⟩
  -- every other node is plain: what remains is the length of its own code
  all_goals refine comp_lengths_of_plain rfl fun kb kc => ?_
  case «infix» op l r ihl ihr =>
    change List.length (ite _ _ (ite _ _ _)) = ite _ _ _
    by_cases h1 : op = .and
    · rw [if_pos h1, if_pos (.inl h1)]
      simp only [List.length_append, two_length, one_length, ihl.1, ihr.1]; omega
    · by_cases h2 : op = .or
      · rw [if_neg h1, if_pos h2, if_pos (.inr h2)]
        simp only [List.length_append, two_length, one_length, ihl.1, ihr.1]; omega
      · rw [if_neg h1, if_neg h2, if_neg (fun h => h.elim h1 h2)]
        simp only [List.length_append, two_length, ihl.1, ihr.1]
  case assign x op e ih =>
    change List.length (ite _ _ _) = ite _ _ _
    split
    · simp only [List.length_append, two_length, ih.1]
    · simp only [List.length_append, two_length, ih.1]; omega
  case for3 i c p b ihi ihc ihp ihb =>
    change List.length (_ ++ _) = _ + _
    simp only [List.length_append, ihi.1, ihc.1, ihp.1, ihb.1, two_length, one_length,
      apply_ite List.length, List.length_nil]
    omega
  case switch subj cases ihs ihc =>
    change List.length (_ ++ _) = _ + _
    simp only [List.length_append, two_length, one_length, ihs.1, ihc.2.2.2.1, ihc.2.2.2.2.2.1,
      ihc.2.2.2.2.2.2.2]
  case tern c a b ihc iha ihb =>
    change List.length (_ ++ _) = _ + _
    simp only [List.length_append, two_length, ihc.1, iha.1, ihb.1]; omega
  case if_ c a b ihc iha ihb =>
    change List.length (_ ++ _) = _ + _
    simp only [List.length_append, two_length, ihc.1, iha.1, ihb.1]; omega
  case forcond c b ihc ihb =>
    change List.length (_ ++ _) = _ + _
    simp only [List.length_append, two_length, one_length, ihc.1, ihb.1]; omega
  case forever b ihb =>
    change List.length (_ ++ _) = _ + _
    simp only [List.length_append, two_length, one_length, ihb.1]
  case neg e ih => change List.length (_ ++ _) = _ + _; rw [List.length_append, ih.1]; rfl
  case not e ih => change List.length (_ ++ _) = _ + _; rw [List.length_append, ih.1]; rfl
  case var x e ih =>
    change List.length (ite _ _ _) = ite _ _ _
    split
    · rfl
    · rw [List.length_append, ih.1]; rfl
  case call f args ihf iha =>
    change List.length (_ ++ _) = _ + _
    simp only [List.length_append, two_length, ihf.1, iha.2.2.2.2.2.2.2.2]
  case return_ e ih => change List.length (_ ++ _) = _ + _; rw [List.length_append, ih.1]; rfl
  case block s ih => exact ih.1 kb kc
  case prog s ih => exact ih.1 kb kc
  case expr s ih =>
    change List.length (ite _ _ _) = ite _ _ _
    split
    · rfl
    · exact ih.1 kb kc
  all_goals rfl

theorem comp_length (n : N) (kb kc : Nat) : (comp ls kb kc n).length = size n := (comp_lengths n).1 kb kc
theorem compVals_length (n : N) (k : Nat) : (compVals ls k n).length = valsLen n := (comp_lengths n).2.1 k
theorem compCmp_length (n : N) (b : Nat) : (compCmp ls b n).length = cmpLen n := (comp_lengths n).2.2.2.1 b
theorem compBody_length (n : N) (a : Nat) : (compBody ls a n).length = caseBodyLen n := (comp_lengths n).2.2.2.2.1 a
theorem compBodies_length (n : N) (d : Nat) : (compBodies ls d n).length = bodiesLen n := (comp_lengths n).2.2.2.2.2.1 d
theorem compDflt_length (n : N) : (compDflt ls n).length = defLen n := (comp_lengths n).2.2.2.2.2.2.2.1
theorem compArgs_length (n : N) : (compArgs ls n).length = argsLen n := (comp_lengths n).2.2.2.2.2.2.2.2

/-! ### the induction hypothesis and how the proofs use it -/

theorem seqV_elim {x : Out × Env} {k : V → Env → Out × Env} {r : Out} {σ' : Env}
    (h : seqV x k = (r, σ')) :
    (∃ v σ1, x = (.val v, σ1) ∧ k v σ1 = (r, σ')) ∨ ((∀ v, r ≠ .val v) ∧ x = (r, σ')) := by
  obtain ⟨r1, σ1⟩ := x
  cases r1 with
  | val v => exact .inl ⟨v, σ1, rfl, h⟩
  | _ => cases h; exact .inr ⟨nofun, rfl⟩

/-- the evaluation `f` of the node `n` is simulated wherever the code of `n` sits, whatever the
    loop targets, the stack and the state -/
def SimAt (W : World) (ls : List String) (n : N) (f : Env → Out × Env) : Prop :=
  ∀ kb kc pc stk σ r σ', CodeAt W.code pc (comp ls kb kc n) → f σ = (r, σ') → Post W kb kc n pc stk σ r σ'

/-- the induction hypothesis: sub-nodes evaluated through `rec` are simulated -/
def IH (W : World) (ls : List String) (rec : N → Env → Out × Env) : Prop := ∀ n, wf n = true → SimAt W ls n (rec n)

variable {W : World} {rec : N → Env → Out × Env} {app : V → List V → Store → Out × Store} {fuel : Nat} {kb kc : Nat}

theorem Post.val {n : N} {pc q : Nat} {stk : List V} {σ σ' : Env} {v : V} (hu : isUnitNode n = false)
    (h : Steps W ⟨pc, stk, σ⟩ ⟨q, v :: stk, σ'⟩) (e : q = pc + size n) : Post W kb kc n pc stk σ (.val v) σ' :=
  ⟨hu, h.cast e⟩

theorem Post.unit {n : N} {pc q : Nat} {stk : List V} {σ σ' : Env} (hu : isUnitNode n = true)
    (h : Steps W ⟨pc, stk, σ⟩ ⟨q, stk, σ'⟩) (e : q = pc + size n) : Post W kb kc n pc stk σ .unit σ' :=
  ⟨hu, h.cast e⟩

theorem Post.val_steps {n : N} {pc : Nat} {stk : List V} {σ σ' : Env} {v : V}
    (h : Post W kb kc n pc stk σ (.val v) σ') : Steps W ⟨pc, stk, σ⟩ ⟨pc + size n, v :: stk, σ'⟩ := h.2

theorem Post.unit_steps {n : N} {pc : Nat} {stk : List V} {σ σ' : Env}
    (h : Post W kb kc n pc stk σ .unit σ') : Steps W ⟨pc, stk, σ⟩ ⟨pc + size n, stk, σ'⟩ := h.2

theorem Post.fail {n : N} {i : FIns} {pc0 pc1 : Nat} {stk0 stk1 : List V} {σ0 σ1 : Env} {c : String}
    (hpre : Steps W ⟨pc0, stk0, σ0⟩ ⟨pc1, stk1, σ1⟩) (hi : W.code[pc1]? = some (some i))
    (hex : execIns i ⟨pc1, stk1, σ1⟩ = .error (.err c)) :
    Post W kb kc n pc0 stk0 σ0 (.err (.cls c)) σ1 := ⟨trivial, Fails.ins hpre hi hex⟩

/-- a node that has the size, the unit class and the escapes of `m` and runs as `m` does -/
theorem Post.congr {n m : N} {pc : Nat} {stk : List V} {σ σ' : Env} {r : Out}
    (hc : size n = size m) (hu : isUnitNode n = isUnitNode m) (hx : escapes n = escapes m)
    (h : Post W kb kc m pc stk σ r σ') :
    Post W kb kc n pc stk σ r σ' :=
  ⟨h.1.mono hu (fun e => hx.trans e), hc ▸ h.2⟩

/-- a sub-node in tail position (same stack, the loop targets shifted by what follows it) ended with
    `r`: a `break`, `continue` or error is the node's outcome (`hpass`) and is realised as the sub-node
    realised it; what happens after a value / after `unit` is given by `hval` / `hunit` -/
theorem Post.tail {sub n : N} {pc0 pc1 kb1 kc1 : Nat} {stk : List V} {σ0 σ1 σm σ' : Env} {r res : Out}
    (hpre : Steps W ⟨pc0, stk, σ0⟩ ⟨pc1, stk, σ1⟩) (h : Post W kb1 kc1 sub pc1 stk σ1 r σm)
    (hx : escapes sub = true → escapes n = true)
    (hb : pc1 + size sub + kb1 = pc0 + size n + kb) (hc : pc1 + size sub + kc1 = pc0 + size n + kc)
    (hpass : (∀ v, r ≠ .val v) → r ≠ .unit → (r, σm) = (res, σ'))
    (hval : ∀ v, r = .val v → Post W kb kc n pc0 stk σ0 res σ')
    (hunit : r = .unit → Post W kb kc n pc0 stk σ0 res σ') :
    Post W kb kc n pc0 stk σ0 res σ' := by
  cases r with
  | val v => exact hval v rfl
  | unit => exact hunit rfl
  | brk => cases hpass nofun nofun; exact ⟨hx h.1, (hpre.trans h.2).cast hb⟩
  | cont => cases hpass nofun nofun; exact ⟨hx h.1, (hpre.trans h.2).cast hc⟩
  | err c => cases hpass nofun nofun; exact ⟨trivial, Fails.pre hpre h.2⟩
  | oof => cases hpass nofun nofun; exact ⟨trivial, trivial⟩

/-- a sub-node that is no unit statement, in tail position, whose outcome is the node's (a branch
    of an `if`, the rest of a statement list); `hval` is what the code does with its value after it
    (a jump to the node's end) -/
theorem Post.last {sub n : N} {pc0 pc1 kb1 kc1 : Nat} {stk : List V} {σ0 σ1 σ' : Env} {r : Out}
    (hpre : Steps W ⟨pc0, stk, σ0⟩ ⟨pc1, stk, σ1⟩)
    (h : Post W kb1 kc1 sub pc1 stk σ1 r σ')
    (hun : isUnitNode n = false) (hus : isUnitNode sub = false) (hx : escapes sub = true → escapes n = true)
    (hval : ∀ v, Steps W ⟨pc1 + size sub, v :: stk, σ'⟩ ⟨pc0 + size n, v :: stk, σ'⟩)
    (hb : pc1 + size sub + kb1 = pc0 + size n + kb) (hc : pc1 + size sub + kc1 = pc0 + size n + kc) :
    Post W kb kc n pc0 stk σ0 r σ' :=
  Post.tail hpre h hx hb hc (fun _ _ => rfl)
    (fun v e => by subst e; exact ⟨hun, (hpre.trans h.2).trans (hval v)⟩)
    (fun e => by subst e; cases hus.symm.trans h.1)

/-! ### operands: a value on top of the stack, or an error, nothing else -/

theorem ValTo.pre {c0 c1 : Cfg} {q : Nat} {stk : List V} {r : Out} {σ' : Env}
    (l : ValTo W c1 q stk r σ') (h : Steps W c0 c1) : ValTo W c0 q stk r σ' := by
  cases r with
  | val v => exact h.trans l
  | err c => exact Fails.pre h l
  | _ => exact l

theorem ErrTo.pre {c0 c1 : Cfg} {o : Out} {σ' : Env} (l : ErrTo W c1 o σ') (h : Steps W c0 c1) : ErrTo W c0 o σ' := by
  cases o with
  | err c => exact Fails.pre h l
  | _ => exact l

theorem ValTo.err {c0 : Cfg} {q : Nat} {stk : List V} {o : Out} {σ' : Env}
    (l : ValTo W c0 q stk o σ') (hnv : ∀ v, o ≠ .val v) : ErrTo W c0 o σ' := by
  cases o with
  | val v => exact absurd rfl (hnv v)
  | _ => exact l

theorem ErrTo.valTo {c0 : Cfg} {q : Nat} {stk : List V} {o : Out} {σ' : Env} (l : ErrTo W c0 o σ') :
    ValTo W c0 q stk o σ' := by
  cases o with
  | val v => exact l.elim
  | _ => exact l

/-- instructions after the operand that carry its value along -/
theorem ValTo.andThen {c0 : Cfg} {q q' : Nat} {stk stk' : List V} {r : Out} {σ' : Env}
    (l : ValTo W c0 q stk r σ') (f : ∀ v, Steps W ⟨q, v :: stk, σ'⟩ ⟨q', v :: stk', σ'⟩) :
    ValTo W c0 q' stk' r σ' := by
  cases r with
  | val v => exact Steps.trans l (f v)
  | _ => exact l

/-- a node whose outcome is that of an operand run to its end -/
theorem Post.of_valTo {n : N} {pc q : Nat} {stk : List V} {σ σ' : Env} {r : Out} (hu : isUnitNode n = false)
    (l : ValTo W ⟨pc, stk, σ⟩ q stk r σ') (e : q = pc + size n) : Post W kb kc n pc stk σ r σ' := by
  subst e
  cases r with
  | val v => exact ⟨hu, l⟩
  | err c => exact ⟨trivial, l⟩
  | oof => exact ⟨trivial, trivial⟩
  | _ => exact l.elim

/-- a run of operands that stopped at one without a value ends the node in the same way -/
theorem Post.of_err {n : N} {pc : Nat} {stk : List V} {σ σ' : Env} {r : Out}
    (h : ErrTo W ⟨pc, stk, σ⟩ r σ') : Post W kb kc n pc stk σ r σ' := by
  cases r with
  | err c => exact ⟨trivial, h⟩
  | oof => exact ⟨trivial, trivial⟩
  | _ => exact h.elim

/-- a sub-node that is an operand (never `unit`, no break/continue out of it), run wherever it sits -/
theorem IH.operand (ih : IH W ls rec) {sub : N} (hw : wf sub = true) (hu : isUnitNode sub = false)
    (hx : escapes sub = false) {pc : Nat} {stk : List V} {σ σ' : Env} {r : Out}
    (hat : CodeAt W.code pc (comp ls 0 0 sub)) (h : rec sub σ = (r, σ')) :
    ValTo W ⟨pc, stk, σ⟩ (pc + size sub) stk r σ' := by
  have P := ih sub hw 0 0 pc stk σ _ _ hat h
  cases r with
  | val v => exact P.2
  | unit => cases hu.symm.trans P.1
  | brk => cases hx.symm.trans P.1
  | cont => cases hx.symm.trans P.1
  | err c => exact P.2
  | oof => trivial

/-- an operand inside `seqV`, after the prefix `hpre` of the node's run: when it yields no value (error,
    out of fuel) the node ends as the operand did; otherwise the run goes on (`next`) from the operand's
    value on top of the stack -/
theorem IH.seq (ih : IH W ls rec) {sub n : N} (hw : wf sub = true) (hu : isUnitNode sub = false)
    (hx : escapes sub = false) {pc0 pc1 : Nat} {stk0 stk1 : List V} {σ0 σ1 σ' : Env} {r : Out}
    {k : V → Env → Out × Env} (hpre : Steps W ⟨pc0, stk0, σ0⟩ ⟨pc1, stk1, σ1⟩)
    (hat : CodeAt W.code pc1 (comp ls 0 0 sub)) (he : seqV (rec sub σ1) k = (r, σ'))
    (next : ∀ v σ2, Steps W ⟨pc0, stk0, σ0⟩ ⟨pc1 + size sub, v :: stk1, σ2⟩ → k v σ2 = (r, σ') →
      Post W kb kc n pc0 stk0 σ0 r σ') :
    Post W kb kc n pc0 stk0 σ0 r σ' := by
  rcases seqV_elim he with ⟨v, σ2, h1, he⟩ | ⟨hnv, h1⟩
  · exact next v σ2 (hpre.trans (ih.operand hw hu hx hat h1)) he
  · exact .of_err (((ih.operand (stk := stk1) hw hu hx hat h1).pre hpre).err hnv)

/-! ### one simulation lemma per construct (sub-nodes through the induction hypothesis)

The code, the well-formedness condition, the size and the evaluation of a node are exposed by `change`
(definitional unfolding).  The code is then right-nested and taken apart from the left by
`CodeAt.app` / `.one` / `.two`: every piece comes out at the running sum `pc + |a| + |b| ..`, which
is also how the `Steps` chain accumulates positions. -/

/-- `&&` and `||` share their shape: `a; Copy 0; PopJumpForwardIf…; b; BinaryOp; Nop`.  The right
    operand runs only when the left value's truthiness is `t` (`&&`: true, `||`: false) and is then
    the result; otherwise the jump `j` skips it and the left value is the result.  `K` is what the
    semantics does after the left operand (`hK`: the same, with the test phrased on `t`). -/
theorem sim_short (ih : IH W ls rec) (op : BinOp) (t : Bool) (j : Nat → FIns) (k : Nat) (l r : N)
    (hcomp : comp ls kb kc (.infix op l r) =
      comp ls 0 0 l ++ two (.copy 0) ++ two (j (size r + 5)) ++ comp ls 0 0 r ++ two (.binary k) ++ one .nop)
    (hsize : size (.infix op l r) = size l + size r + 7)
    (hj : ∀ d pc v s σ, execIns (j d) ⟨pc, v :: s, σ⟩ = .ok ⟨if v.truthy = t then pc + 2 else pc + d, s, σ⟩)
    (hk : ∀ a b : V, a.truthy = t → vBinaryF k a b = .ok b)
    (hwf : wf (.infix op l r) = true) (pc : Nat) (stk : List V) (σ : Env) (res : Out) (σ' : Env)
    (hat : CodeAt W.code pc (comp ls kb kc (.infix op l r)))
    {K : V → Env → Out × Env} (he : seqV (rec l σ) K = (res, σ'))
    (hK : ∀ a σ1, K a σ1 = if a.truthy = t then seqV (rec r σ1) (fun b σ2 => (.val b, σ2)) else (.val a, σ1)) :
    Post W kb kc (.infix op l r) pc stk σ res σ' := by
  change (_ && _) = true at hwf
  simp only [Bool.and_eq_true, Bool.not_eq_true'] at hwf
  obtain ⟨⟨⟨⟨⟨⟨_, hel⟩, her⟩, hxl⟩, hxr⟩, hwl⟩, hwr⟩ := hwf
  rw [hcomp] at hat
  simp only [List.append_assoc] at hat
  obtain ⟨hatl, hat⟩ := hat.app (comp_length l 0 0)
  obtain ⟨hcopy, hat⟩ := hat.two
  obtain ⟨hjmp, hat⟩ := hat.two
  obtain ⟨hatr, hat⟩ := hat.app (comp_length r 0 0)
  obtain ⟨hbin, hnop⟩ := hat.two
  refine ih.seq hwl (isE_not_unit hel) hxl (.refl _) hatl he fun a σ1 Pl he => ?_
  rw [hK] at he
  have P2 := (Pl.ins hcopy execIns_copy0).ins hjmp (hj ..)
  by_cases ht : a.truthy = t
  · rw [if_pos ht] at he P2
    refine ih.seq hwr (isE_not_unit her) hxr P2 hatr he fun b σ2 Pr he => ?_
    cases he
    exact .val rfl ((Pr.ins hbin (execIns_binary.trans (pushRes_ok (hk a b ht)))).ins (CodeAt.head hnop) execIns_nop)
      (by omega)
  · rw [if_neg ht] at he P2
    cases he
    exact .val rfl P2 (by omega)

theorem sim_infix (ih : IH W ls rec) (op : BinOp) (l r : N) (hop : op ≠ .and) (hor : op ≠ .or)
    (hwf : wf (.infix op l r) = true) : SimAt W ls (.infix op l r) (evNode ls fuel rec app (.infix op l r)) := by
  intro kb kc pc stk σ res σ' hat he
  change (_ && _) = true at hwf
  simp only [Bool.and_eq_true, Bool.not_eq_true'] at hwf
  obtain ⟨⟨⟨⟨⟨⟨hok, hel⟩, her⟩, hxl⟩, hxr⟩, hwl⟩, hwr⟩ := hwf
  change CodeAt W.code pc (ite _ _ (ite _ _ _)) at hat
  change seqV _ (fun a σ1 => ite _ _ (ite _ _ _)) = _ at he
  have hlen : size (.infix op l r) = size l + size r + 2 := if_neg (fun h => h.elim hop hor)
  simp only [if_neg hop, if_neg hor, List.append_assoc] at hat he
  obtain ⟨hatl, hat⟩ := hat.app (comp_length l 0 0)
  obtain ⟨hatr, hins⟩ := hat.app (comp_length r 0 0)
  refine ih.seq hwl (isE_not_unit hel) hxl (.refl _) hatl he fun a σ1 Pl he => ?_
  refine ih.seq hwr (isE_not_unit her) hxr Pl hatr he fun b σ2 Pr he => ?_
  have hex := execIns_opIns op hok hop hor a b stk (pc + size l + size r) σ2
  cases hb : binopF op a b with
  | ok v =>
    rw [hb] at he; cases he
    exact .val rfl (Pr.ins (CodeAt.head hins) (hex.trans (pushRes_ok hb))) (by omega)
  | error c =>
    rw [hb] at he; cases he
    exact .fail Pr (CodeAt.head hins) (hex.trans (pushRes_error hb))

theorem sim_neg (ih : IH W ls rec) (e : N) (hwf : wf (.neg e) = true) :
    SimAt W ls (.neg e) (evNode ls fuel rec app (.neg e)) := by
  intro kb kc pc stk σ res σ' hat he
  change (_ && _) = true at hwf
  simp only [Bool.and_eq_true, Bool.not_eq_true'] at hwf
  obtain ⟨⟨hee, hxe⟩, hwe⟩ := hwf
  change CodeAt W.code pc (_ ++ _) at hat
  obtain ⟨hate, hins⟩ := hat.app (comp_length e 0 0)
  refine ih.seq hwe (isE_not_unit hee) hxe (.refl _) hate he fun v σ1 P1 he => ?_
  cases v with
  | int i => cases he; exact .val rfl (P1.ins (CodeAt.head hins) rfl) rfl
  | _ => cases he; exact .fail P1 (CodeAt.head hins) rfl

theorem sim_not (ih : IH W ls rec) (e : N) (hwf : wf (.not e) = true) :
    SimAt W ls (.not e) (evNode ls fuel rec app (.not e)) := by
  intro kb kc pc stk σ res σ' hat he
  change (_ && _) = true at hwf
  simp only [Bool.and_eq_true, Bool.not_eq_true'] at hwf
  obtain ⟨⟨hee, hxe⟩, hwe⟩ := hwf
  change CodeAt W.code pc (_ ++ _) at hat
  obtain ⟨hate, hins⟩ := hat.app (comp_length e 0 0)
  refine ih.seq hwe (isE_not_unit hee) hxe (.refl _) hate he fun v σ1 P1 he => ?_
  cases he
  exact .val rfl (P1.ins (CodeAt.head hins) execIns_unaryNot) rfl

/-- ternary and if/else share their shape: the condition is an operand, the two branches
    inherit the loop targets (shifted by what follows them) -/
theorem sim_cond (ih : IH W ls rec) (n c a b : N)
    (hcomp : comp ls kb kc n = comp ls 0 0 c ++ two (.pjf (size a + 4)) ++ comp ls (kb + (size b + 2)) (kc + (size b + 2)) a
      ++ two (.jf (size b + 2)) ++ comp ls kb kc b)
    (hsize : size n = size c + size a + size b + 4)
    (hun : isUnitNode n = false) (hesc : escapes n = (escapes c || escapes a || escapes b))
    (hwc : wf c = true) (hwa : wf a = true) (hwb : wf b = true)
    (huc : isUnitNode c = false) (hua : isUnitNode a = false) (hub : isUnitNode b = false)
    (hxc : escapes c = false)
    (pc : Nat) (stk : List V) (σ : Env) (res : Out) (σ' : Env)
    (hat : CodeAt W.code pc (comp ls kb kc n))
    (he : (seqV (rec c σ) fun v σ1 => if v.truthy = true then rec a σ1 else rec b σ1) = (res, σ')) :
    Post W kb kc n pc stk σ res σ' := by
  rw [hcomp] at hat
  simp only [List.append_assoc] at hat
  obtain ⟨hatc, hat⟩ := hat.app (comp_length c 0 0)
  obtain ⟨hpjf, hat⟩ := hat.two
  obtain ⟨hata, hat⟩ := hat.app (comp_length a _ _)
  obtain ⟨hjf, hatb⟩ := hat.two
  refine ih.seq hwc huc hxc (.refl _) hatc he fun v σ1 Pc he => ?_
  have pre := Pc.ins hpjf execIns_pjf
  by_cases ht : v.truthy = true
  · -- the first branch, then the jump over the second
    simp only [ht, ↓reduceIte] at he pre
    exact .last pre (ih a hwa _ _ _ stk σ1 _ _ hata he) hun hua
      (fun e => by simp only [hesc, e, Bool.or_true, Bool.true_or])
      (fun w => ((Steps.refl _).ins hjf execIns_jf).cast (by omega)) (by omega) (by omega)
  · simp only [ht, Bool.false_eq_true, ↓reduceIte] at he pre
    exact .last (pre.cast (q := pc + size c + 2 + size a + 2) (by omega)) (ih b hwb kb kc _ stk σ1 _ _ hatb he) hun hub
      (fun e => by simp only [hesc, e, Bool.or_true])
      (fun w => (Steps.refl _).cast (by omega)) (by omega) (by omega)

/-- a leaf: one instruction pushes the value, the store is untouched -/
theorem sim_leaf (n : N) (i : FIns) (v : V) (w : Nat) (pc : Nat) (stk : List V) (σ : Env) (r : Out) (σ' : Env)
    (hun : isUnitNode n = false)
    (hins : W.code[pc]? = some (some i)) (hlen : size n = w)
    (hex : execIns i ⟨pc, stk, σ⟩ = .ok ⟨pc + w, v :: stk, σ⟩)
    (he : (Out.val v, σ) = (r, σ')) : Post W kb kc n pc stk σ r σ' := by
  cases he
  exact .val hun ((Steps.refl _).ins hins hex) (by rw [hlen])

theorem pre_steps (h : N) (pc : Nat) (stk : List V) (σ : Env) (hat : CodeAt W.code pc (pre ls h)) :
    Steps W ⟨pc, stk, σ⟩ ⟨pc + preLen h, stk, σ⟩ := by
  unfold pre at hat
  unfold preLen
  cases hp : postName h with
  | none => exact .refl _
  | some x =>
    rw [hp] at hat
    obtain ⟨h1, h2⟩ := hat.two
    exact ((Steps.refl _).ins h1 (exec_loadV ..)).ins (CodeAt.head h2) execIns_popTop

theorem sim_cons (ih : IH W ls rec) (h t : N) (hwf : wf (.cons h t) = true) :
    SimAt W ls (.cons h t) (evNode ls fuel rec app (.cons h t)) := by
  intro kb kc pc stk σ res σ' hat he
  change (_ && _) = true at hwf
  simp only [Bool.and_eq_true, isS, Bool.or_eq_true] at hwf
  obtain ⟨⟨⟨hsh, hlt⟩, hwh⟩, hwt⟩ := hwf
  change CodeAt W.code pc (_ ++ ite _ _ _) at hat
  change ite _ _ _ = _ at he
  have hsz : size (.cons h t) = preLen h + size h + ite _ _ _ := rfl
  obtain ⟨hatp, hrest⟩ := hat.app (pre_length h)
  have hpre := pre_steps h pc stk σ hatp
  have hesc : escapes h = true → escapes (.cons h t) = true := fun e => by
    show (escapes h || escapes t) = true
    rw [e]; rfl
  rcases hh : rec h σ with ⟨r1, σ1⟩
  rw [hh] at he
  -- the head statement, with `rst` slots of the list's code after it: a value comes from an
  -- expression statement, `unit` from any other; every other outcome is the list's
  have head : ∀ rst tail, CodeAt W.code (pc + preLen h) (comp ls (kb + rst) (kc + rst) h ++ tail) →
      size (.cons h t) = preLen h + size h + rst →
      (∀ v, r1 = .val v → leaves h = true ∧ Steps W ⟨pc, stk, σ⟩ ⟨pc + preLen h + size h, v :: stk, σ1⟩) ∧
      (r1 = .unit → leaves h = false ∧ Steps W ⟨pc, stk, σ⟩ ⟨pc + preLen h + size h, stk, σ1⟩) ∧
      ((∀ v, r1 ≠ .val v) → r1 ≠ .unit → Post W kb kc (.cons h t) pc stk σ r1 σ1) := by
    intro rst tail hc hsz
    have Ph := ih h hwh _ _ _ stk σ _ _ (hc.app rfl).1 hh
    refine ⟨?_, ?_, fun hnv hnu => Post.tail hpre Ph hesc (by omega) (by omega) (fun _ _ => rfl)
      (fun v e => absurd e (hnv v)) (fun e => absurd e hnu)⟩
    · rintro v rfl
      exact ⟨hsh.resolve_left (fun hu => by cases (Ph.1 : isUnitNode h = false).symm.trans hu), hpre.trans Ph.val_steps⟩
    · rintro rfl
      exact ⟨unit_not_leaves Ph.1, hpre.trans Ph.unit_steps⟩
  by_cases hnil : isNilL t = true
  · -- last statement: its value, or `Nil` after a non-expression
    simp only [hnil, ↓reduceIte] at he hrest hsz
    obtain ⟨hv, hu, ha⟩ := head _ _ hrest hsz
    cases r1 with
    | val v =>
      cases he
      obtain ⟨hl, S⟩ := hv v rfl
      simp only [hl, ↓reduceIte] at hsz
      exact .val rfl S (by omega)
    | unit =>
      cases he
      obtain ⟨hl, S⟩ := hu rfl
      simp only [hl, Bool.false_eq_true, ↓reduceIte] at hrest hsz
      obtain ⟨-, hins⟩ := hrest.app (comp_length h _ _)
      exact .val rfl (S.ins (CodeAt.head hins) execIns_nil) (by omega)
    | _ => cases he; exact ha nofun nofun
  · simp only [hnil, Bool.false_eq_true, ↓reduceIte] at he hrest hsz
    obtain ⟨hv, hu, ha⟩ := head _ _ hrest hsz
    -- the rest of the list runs from the state after the head
    have rest : ∀ pcT, Steps W ⟨pc, stk, σ⟩ ⟨pcT, stk, σ1⟩ → CodeAt W.code pcT (comp ls kb kc t) →
        pcT + size t = pc + size (.cons h t) → rec t σ1 = (res, σ') →
        Post W kb kc (.cons h t) pc stk σ res σ' := fun pcT hs hatT hend heT =>
      .last hs (ih t hwt kb kc pcT stk σ1 _ _ hatT heT) rfl (isL_not_unit hlt)
        (fun e => by show (escapes h || escapes t) = true; rw [e, Bool.or_true])
        (fun v => (Steps.refl _).cast hend) (by omega) (by omega)
    obtain ⟨-, hrest⟩ := hrest.app (comp_length h _ _)
    cases r1 with
    | val v =>
      obtain ⟨hl, S⟩ := hv v rfl
      simp only [hl, ↓reduceIte] at hrest hsz
      obtain ⟨hpop, hatT⟩ := hrest.one
      exact rest _ (S.ins hpop execIns_popTop) hatT (by omega) he
    | unit =>
      obtain ⟨hl, S⟩ := hu rfl
      simp only [hl, Bool.false_eq_true, ↓reduceIte, List.nil_append] at hrest hsz
      exact rest _ S hrest (by omega) he
    | _ => cases he; exact ha nofun nofun

theorem sim_ctl (isBrk : Bool) (pc : Nat) (stk : List V) (σ : Env) (res : Out) (σ' : Env)
    (hat : CodeAt W.code pc (comp ls kb kc (if isBrk then .break_ else .continue_)))
    (he : ((if isBrk then Out.brk else Out.cont), σ) = (res, σ')) :
    Post W kb kc (if isBrk then .break_ else .continue_) pc stk σ res σ' := by
  cases isBrk with
  | true =>
    cases he
    exact ⟨rfl, ((Steps.refl _).ins (CodeAt.head hat) execIns_jf).cast (by show _ = pc + 2 + kb; omega)⟩
  | false =>
    cases he
    exact ⟨rfl, ((Steps.refl _).ins (CodeAt.head hat) execIns_jf).cast (by show _ = pc + 2 + kc; omega)⟩

theorem sim_var (ih : IH W ls rec) (x : String) (e : N) (hwf : wf (.var x e) = true) :
    SimAt W ls (.var x e) (evNode ls fuel rec app (.var x e)) := by
  intro kb kc pc stk σ res σ' hat he
  change ite _ _ _ = true at hwf
  change CodeAt W.code pc (ite _ _ _) at hat
  change ite _ _ _ = _ at he
  have hlen : size (.var x e) = ite _ _ _ := rfl
  cases hf : isFuncLit e with
  | true =>
    -- `g := func(…) { … }`: the function constant, stored under `g`
    simp only [hf, ↓reduceIte] at hat he hlen
    cases he
    obtain ⟨hc, hs⟩ := hat.two
    exact .unit rfl (((Steps.refl _).ins hc execIns_constFn).ins (CodeAt.head hs) (exec_storeV ..)) (by omega)
  | false =>
    simp only [hf, Bool.false_eq_true, ↓reduceIte, Bool.and_eq_true, Bool.not_eq_true'] at hat he hlen hwf
    obtain ⟨⟨hee, hxe⟩, hwe⟩ := hwf
    obtain ⟨hate, hins⟩ := hat.app (comp_length e 0 0)
    refine ih.seq hwe (isE_not_unit hee) hxe (.refl _) hate he fun v σ1 P1 he => ?_
    cases he
    exact .unit rfl (P1.ins (CodeAt.head hins) (exec_storeV ..)) (by omega)

theorem sim_assign (ih : IH W ls rec) (x : String) (op : AssignOp) (e : N) (hwf : wf (.assign x op e) = true) :
    SimAt W ls (.assign x op e) (evNode ls fuel rec app (.assign x op e)) := by
  intro kb kc pc stk σ res σ' hat he
  change (_ && _) = true at hwf
  simp only [Bool.and_eq_true, Bool.not_eq_true'] at hwf
  obtain ⟨⟨hee, hxe⟩, hwe⟩ := hwf
  change CodeAt W.code pc (ite _ _ _) at hat
  change seqV _ _ = _ at he
  have hlen : size (.assign x op e) = ite _ _ _ := rfl
  by_cases hop : op = .set
  · subst hop
    simp only [↓reduceIte] at hat hlen
    obtain ⟨hate, hins⟩ := hat.app (comp_length e 0 0)
    refine ih.seq hwe (isE_not_unit hee) hxe (.refl _) hate he fun v σ1 P1 he => ?_
    cases he
    exact .unit rfl (P1.ins (CodeAt.head hins) (exec_storeV ..)) (by omega)
  · simp only [if_neg hop, List.append_assoc] at hat hlen
    obtain ⟨hload, hat⟩ := hat.two
    obtain ⟨hate, hat⟩ := hat.app (comp_length e 0 0)
    obtain ⟨hbin, hsto⟩ := hat.two
    -- the current value is loaded before the right-hand side runs
    refine ih.seq hwe (isE_not_unit hee) hxe ((Steps.refl _).ins hload (exec_loadV ..)) hate he
      fun v σ1 P1 he => ?_
    have hex := (execIns_binary (pc := pc + 2 + size e) (s := stk) (σ := σ1)).trans
      (congrArg (pushRes · _ 2 stk σ1) (vBinaryF_assign op hop (σ.get ls x) v))
    cases ha : applyF op (σ.get ls x) v with
    | ok w =>
      rw [ha] at he; cases he
      exact .unit rfl ((P1.ins hbin (hex.trans (pushRes_ok ha))).ins (CodeAt.head hsto) (exec_storeV ..)) (by omega)
    | error c =>
      rw [ha] at he; cases he
      exact .fail P1 hbin (hex.trans (pushRes_error ha))

theorem sim_postfix (x : String) (inc : Bool) :
    SimAt W ls (.postfix x inc) (evNode ls fuel rec app (.postfix x inc)) := by
  intro kb kc pc stk σ res σ' hat he
  change CodeAt W.code pc (_ ++ _) at hat
  simp only [List.append_assoc] at hat
  obtain ⟨hload, hat⟩ := hat.two
  obtain ⟨hcon, hat⟩ := hat.two
  obtain ⟨hbin, hsto⟩ := hat.two
  have pre := ((Steps.refl _).ins hload (exec_loadV ..)).ins hcon (execIns_constInt (s := σ.get ls x :: stk))
  have hex := (execIns_binary (pc := pc + 2 + 2) (s := stk) (σ := σ)).trans
    (congrArg (pushRes · _ 2 stk σ) (vBinaryF_binopF (op := .add) rfl rfl nofun nofun (σ.get ls x) (.int (if inc then 1 else -1))))
  unfold evNode at he
  simp only at he
  cases ha : binopF .add (σ.get ls x) (.int (if inc then 1 else -1)) with
  | ok w =>
    rw [ha] at he; cases he
    exact .unit rfl ((pre.ins hbin (hex.trans (pushRes_ok ha))).ins (CodeAt.head hsto) (exec_storeV ..)) rfl
  | error c =>
    rw [ha] at he; cases he
    exact .fail pre hbin (hex.trans (pushRes_error ha))

/-! ### loops -/

/-- the post-statement phase: value and unit both land at `tgt` with the loop's stack; no
    break/continue gets out -/
def PhaseTo (W : World) (c0 : Cfg) (tgt : Nat) (stk : List V) (r : Out) (σ' : Env) : Prop :=
  match r with
  | .val _ => Steps W c0 ⟨tgt, stk, σ'⟩
  | .unit => Steps W c0 ⟨tgt, stk, σ'⟩
  | .brk => False
  | .cont => False
  | .err c => Fails W c0 c σ'
  | .oof => True

/-- the body phase: the block's value is popped and control is at the post statement; a
    `continue` lands there too, a `break` at the loop's exit -/
def BodyTo (W : World) (c0 : Cfg) (pcP pcX : Nat) (stk : List V) (r : Out) (σ' : Env) : Prop :=
  match r with
  | .val _ => Steps W c0 ⟨pcP, stk, σ'⟩
  | .cont => Steps W c0 ⟨pcP, stk, σ'⟩
  | .brk => Steps W c0 ⟨pcX, stk, σ'⟩
  | .unit => False
  | .err c => Fails W c0 c σ'
  | .oof => True

/-- the condition phase: a truthy value lands at the body, a falsy one at the exit -/
def CondTo (W : World) (c0 : Cfg) (pcB pcX : Nat) (stk : List V) (r : Out) (σ' : Env) : Prop :=
  match r with
  | .val v => Steps W c0 ⟨if v.truthy = true then pcB else pcX, stk, σ'⟩
  | .unit => False
  | .brk => False
  | .cont => False
  | .err c => Fails W c0 c σ'
  | .oof => True

/-- a whole loop: it completes with `unit` at its exit on the stack it found, or fails -/
def LoopTo (W : World) (c0 : Cfg) (pcX : Nat) (stk : List V) (r : Out) (σ' : Env) : Prop :=
  match r with
  | .unit => Steps W c0 ⟨pcX, stk, σ'⟩
  | .err c => Fails W c0 c σ'
  | .oof => True
  | _ => False

theorem LoopTo.pre {c0 c1 : Cfg} {pcX : Nat} {stk : List V} {r : Out} {σ' : Env}
    (l : LoopTo W c1 pcX stk r σ') (h : Steps W c0 c1) : LoopTo W c0 pcX stk r σ' := by
  cases r with
  | unit => exact h.trans l
  | err c => exact Fails.pre h l
  | oof => trivial
  | _ => exact l

theorem Post.of_loop {n : N} {pc q : Nat} {stk : List V} {σ σ' : Env} {r : Out}
    (hun : isUnitNode n = true) (h : LoopTo W ⟨pc, stk, σ⟩ q stk r σ') (e : q = pc + size n) :
    Post W kb kc n pc stk σ r σ' := by
  subst e
  cases r with
  | unit => exact ⟨hun, h⟩
  | err c => exact ⟨trivial, h⟩
  | oof => exact ⟨trivial, trivial⟩
  | _ => exact h.elim

/-- the generic loop: condition at `pc0` (exit to `pcX`), body at `pcB`, post statement at
    `pcP` ending with the backward jump to `pc0`; by induction on the iteration bound -/
theorem loop_sim {cond body post : Env → Out × Env} {pc0 pcB pcP pcX : Nat} {stk : List V}
    (HC : ∀ σ r σ1, cond σ = (r, σ1) → CondTo W ⟨pc0, stk, σ⟩ pcB pcX stk r σ1)
    (HB : ∀ σ r σ1, body σ = (r, σ1) → BodyTo W ⟨pcB, stk, σ⟩ pcP pcX stk r σ1)
    (HP : ∀ σ r σ1, post σ = (r, σ1) → PhaseTo W ⟨pcP, stk, σ⟩ pc0 stk r σ1) :
    ∀ k σ r σ', loopF cond body post k σ = (r, σ') → LoopTo W ⟨pc0, stk, σ⟩ pcX stk r σ' := by
  intro k
  induction k with
  | zero =>
    intro σ r σ' h
    cases h
    trivial
  | succ k ihk =>
    intro σ r σ' h
    unfold loopF at h
    -- the post statement and the next round, from the state after the body
    have after : ∀ σ2, Steps W ⟨pc0, stk, σ⟩ ⟨pcP, stk, σ2⟩ →
        (match post σ2 with
          | (.unit, σ3) => loopF cond body post k σ3
          | (.val _, σ3) => loopF cond body post k σ3
          | other => other) = (r, σ') →
        LoopTo W ⟨pc0, stk, σ⟩ pcX stk r σ' := by
      intro σ2 pre0 h
      rcases hp : post σ2 with ⟨rp, σ3⟩
      have P := HP σ2 _ _ hp
      rw [hp] at h
      cases rp with
      | val u => exact (ihk σ3 r σ' h).pre (pre0.trans P)
      | unit => exact (ihk σ3 r σ' h).pre (pre0.trans P)
      | err c => cases h; exact Fails.pre pre0 P
      | oof => cases h; trivial
      | _ => exact P.elim
    rcases seqV_elim h with ⟨v, σ1, hc, h⟩ | ⟨hnv, hx⟩
    · have C : Steps W _ ⟨if v.truthy = true then pcB else pcX, stk, σ1⟩ := HC σ _ _ hc
      by_cases ht : v.truthy = true
      · simp only [ht, ↓reduceIte] at h C
        rcases hb : body σ1 with ⟨rb, σ2⟩
        have B := HB σ1 _ _ hb
        rw [hb] at h
        cases rb with
        | val w => exact after σ2 (C.trans B) h
        | cont => exact after σ2 (C.trans B) h
        | brk => cases h; exact C.trans B
        | unit => exact B.elim
        | err c => cases h; exact Fails.pre C B
        | oof => cases h; trivial
      · simp only [ht, Bool.false_eq_true, ↓reduceIte] at h C
        cases h
        exact C
    · have C := HC σ _ _ hx
      cases r with
      | val u => exact absurd rfl (hnv u)
      | err c => exact C
      | oof => trivial
      | _ => exact C.elim

/-- the body phase of every loop: the block's value is popped; `continue` lands right after
    that `PopTop`, `break` `kbB` slots after the block, from where `hbrk` leads to the exit -/
theorem body_phase (ih : IH W ls rec) (b : N) (hwb : wf b = true) (hbb : isBlock b = true)
    (kbB pcB pcX : Nat) (stk : List V) (hatb : CodeAt W.code pcB (comp ls kbB 1 b))
    (hpop : W.code[pcB + size b]? = some (some .popTop))
    (hbrk : ∀ σ, Steps W ⟨pcB + size b + kbB, stk, σ⟩ ⟨pcX, stk, σ⟩) :
    ∀ σ r σ1, rec b σ = (r, σ1) → BodyTo W ⟨pcB, stk, σ⟩ (pcB + size b + 1) pcX stk r σ1 := by
  intro σ r σ1 h
  have P := ih b hwb kbB 1 pcB stk σ _ _ hatb h
  cases r with
  | val v => exact P.val_steps.ins hpop execIns_popTop
  | unit => cases (isBlock_not_unit hbb).symm.trans P.1
  | brk => exact Steps.trans P.2 (hbrk σ1)
  | cont => exact P.2
  | err c => exact P.2
  | oof => trivial

/-- the condition phase of `for c { }` and `for i; c; p { }`: the operand, then the conditional jump -/
theorem cond_phase (ih : IH W ls rec) (c : N) (hwc : wf c = true) (hec : isE c = true) (hxc : escapes c = false)
    (pc0 d : Nat) (stk : List V) (hatc : CodeAt W.code pc0 (comp ls 0 0 c))
    (hpjf : W.code[pc0 + size c]? = some (some (.pjf d))) :
    ∀ σ r σ1, rec c σ = (r, σ1) →
      CondTo W ⟨pc0, stk, σ⟩ (pc0 + size c + 2) (pc0 + size c + d) stk r σ1 := by
  intro σ r σ1 h
  have P := ih.operand (stk := stk) hwc (isE_not_unit hec) hxc hatc h
  cases r with
  | val v => exact Steps.ins P hpjf execIns_pjf
  | _ => exact P

/-- the backward jump that ends a round, and the statement without a post statement -/
theorem jb_phase {pcJ pc0 d : Nat} {stk : List V} (hjb : W.code[pcJ]? = some (some (.jb d))) (e : pcJ - d = pc0) :
    ∀ σ r σ1, (fun σ => ((Out.unit, σ) : Out × Env)) σ = (r, σ1) → PhaseTo W ⟨pcJ, stk, σ⟩ pc0 stk r σ1 := by
  intro σ r σ1 h
  cases h
  exact ((Steps.refl _).ins hjb execIns_jb).cast e

theorem sim_forcond (ih : IH W ls rec) (c b : N) (hwf : wf (.forcond c b) = true) :
    SimAt W ls (.forcond c b) (evNode ls fuel rec app (.forcond c b)) := by
  intro kb kc pc stk σ res σ' hat he
  change (_ && _) = true at hwf
  simp only [Bool.and_eq_true, Bool.not_eq_true'] at hwf
  obtain ⟨⟨⟨⟨hec, hbb⟩, hxc⟩, hwc⟩, hwb⟩ := hwf
  change CodeAt W.code pc (_ ++ _) at hat
  simp only [List.append_assoc] at hat
  have hlen : size (.forcond c b) = size c + size b + 6 := rfl
  obtain ⟨hatc, hat⟩ := hat.app (comp_length c 0 0)
  obtain ⟨hpjf, hat⟩ := hat.two
  obtain ⟨hatb, hat⟩ := hat.app (comp_length b 3 1)
  obtain ⟨hpop, hat⟩ := hat.one
  obtain ⟨hjb, hnop⟩ := hat.two
  have HC := cond_phase ih c hwc hec hxc pc (size b + 6) stk hatc hpjf
  have HB := body_phase ih b hwb hbb 3 _ (pc + size c + (size b + 6)) stk hatb hpop
    (fun σ => (((Steps.refl _).ins (CodeAt.head hnop) execIns_nop).castL (by omega)).cast (by omega))
  exact .of_loop rfl (loop_sim HC HB (jb_phase hjb (by omega)) fuel σ res σ' he) (by omega)

theorem sim_forever (ih : IH W ls rec) (b : N) (hwf : wf (.forever b) = true) :
    SimAt W ls (.forever b) (evNode ls fuel rec app (.forever b)) := by
  intro kb kc pc stk σ res σ' hat he
  change (_ && _) = true at hwf
  simp only [Bool.and_eq_true] at hwf
  obtain ⟨hbb, hwb⟩ := hwf
  change CodeAt W.code pc (_ ++ _) at hat
  simp only [List.append_assoc] at hat
  have hlen : size (.forever b) = size b + 4 := rfl
  obtain ⟨hatb, hat⟩ := hat.app (comp_length b 3 1)
  obtain ⟨hpop, hat⟩ := hat.one
  obtain ⟨hjb, hnop⟩ := hat.two
  have HC : ∀ σ r σ1, (fun σ => ((Out.val (.bool true), σ) : Out × Env)) σ = (r, σ1) →
      CondTo W ⟨pc, stk, σ⟩ pc (pc + size (.forever b)) stk r σ1 := by
    intro σ r σ1 h
    cases h
    exact .refl _
  have HB := body_phase ih b hwb hbb 3 pc (pc + size (.forever b)) stk hatb hpop
    (fun σ => (((Steps.refl _).ins (CodeAt.head hnop) execIns_nop).castL (by omega)).cast (by omega))
  exact .of_loop rfl (loop_sim HC HB (jb_phase hjb (by omega)) fuel σ res σ' he) rfl

theorem sim_for3 (ih : IH W ls rec) (i c p b : N) (hwf : wf (.for3 i c p b) = true) :
    SimAt W ls (.for3 i c p b) (evNode ls fuel rec app (.for3 i c p b)) := by
  intro kb kc pc stk σ res σ' hat he
  change (_ && _) = true at hwf
  simp only [Bool.and_eq_true, Bool.not_eq_true'] at hwf
  obtain ⟨⟨⟨⟨⟨⟨⟨⟨⟨⟨hii, hec⟩, hpp⟩, hbb⟩, hxi⟩, hxc⟩, hxp⟩, hwi⟩, hwc⟩, hwp⟩, hwb⟩ := hwf
  change CodeAt W.code pc (_ ++ _) at hat
  simp only [List.append_assoc] at hat
  have hlen : size (.for3 i c p b) = size i + size c + size b + (size p + (if leaves p = true then 1 else 0)) + 5 := rfl
  obtain ⟨hati, hat⟩ := hat.app (comp_length i 0 0)
  obtain ⟨hatc, hat⟩ := hat.app (comp_length c 0 0)
  obtain ⟨hpjf, hat⟩ := hat.two
  obtain ⟨hatb, hat⟩ := hat.app (comp_length b _ 1)
  obtain ⟨hpop, hat⟩ := hat.one
  obtain ⟨hatp, hat⟩ := hat.app (comp_length p 0 0)
  -- the init statement completes with unit, or fails
  rcases hi : rec i σ with ⟨r1, σ1⟩
  have Pi := ih i hwi 0 0 pc stk σ _ _ hati hi
  unfold evNode at he
  simp only at he
  rw [hi] at he
  cases r1 with
  | val v => cases (isInit_unit hii).symm.trans Pi.1
  | brk => cases hxi.symm.trans Pi.1
  | cont => cases hxi.symm.trans Pi.1
  | err e => cases he; exact ⟨trivial, Pi.2⟩
  | oof => cases he; exact ⟨trivial, trivial⟩
  | unit =>
    have HC := cond_phase ih c hwc hec hxc (pc + size i) _ stk hatc hpjf
    have HB := body_phase ih b hwb hbb _ _
      (pc + size i + size c + (size b + (size p + (if leaves p = true then 1 else 0)) + 5))
      stk hatb hpop (fun σ => (Steps.refl _).cast (by omega))
    -- the post statement: an expression statement's value is popped before the backward jump
    have HP : ∀ σ r σ1, rec p σ = (r, σ1) →
        PhaseTo W ⟨pc + size i + size c + 2 + size b + 1, stk, σ⟩ (pc + size i) stk r σ1 := by
      intro σ r σ1 h
      have P := ih p hwp 0 0 _ stk σ _ _ hatp h
      cases r with
      | val v =>
        have hl : leaves p = true := (isPost_cases hpp).resolve_left (fun hu => by cases (P.1 : _ = false).symm.trans hu)
        simp only [hl, ↓reduceIte] at hat
        obtain ⟨hpop2, hjb⟩ := hat.one
        exact ((P.val_steps.ins hpop2 execIns_popTop).ins (CodeAt.head hjb) execIns_jb).cast (by omega)
      | unit =>
        simp only [unit_not_leaves P.1, Bool.false_eq_true, ↓reduceIte, List.nil_append] at hat
        exact (P.unit_steps.ins (CodeAt.head hat) execIns_jb).cast (by omega)
      | brk => cases hxp.symm.trans P.1
      | cont => cases hxp.symm.trans P.1
      | err e => exact P.2
      | oof => trivial
    exact .of_loop rfl ((loop_sim HC HB HP fuel σ1 res σ' he).pre Pi.unit_steps) (by omega)

/-! ### switch -/

/-- the comparisons of one case: on a match control is `k` slots after them (at the case's
    body), otherwise right after them; the subject stays on the stack -/
theorem vals_sim (ih : IH W ls rec) (sv : V) (stk : List V) :
    ∀ (vs : N), wfVals vs = true → ∀ (k P : Nat) (σ : Env) (res : Except Out Bool) (σ' : Env),
      CodeAt W.code P (compVals ls k vs) → matchValsF rec sv vs σ = (res, σ') →
      (match res with
       | .ok true => Steps W ⟨P, sv :: stk, σ⟩ ⟨P + valsLen vs + k, sv :: stk, σ'⟩
       | .ok false => Steps W ⟨P, sv :: stk, σ⟩ ⟨P + valsLen vs, sv :: stk, σ'⟩
       | .error o => ErrTo W ⟨P, sv :: stk, σ⟩ o σ') := by
  intro vs
  induction vs with
  | nilL =>
    intro _ k P σ res σ' _ he
    cases he
    exact .refl _
  | cons v vs _ ihvs =>
    intro hw k P σ res σ' hat he
    change (_ && _) = true at hw
    simp only [Bool.and_eq_true, Bool.not_eq_true'] at hw
    obtain ⟨⟨⟨hev, hxv⟩, hwv⟩, hwvs⟩ := hw
    change CodeAt W.code P (_ ++ _) at hat
    simp only [List.append_assoc] at hat
    have hlen : valsLen (.cons v vs) = size v + 6 + valsLen vs := rfl
    obtain ⟨hcopy, hat⟩ := hat.two
    obtain ⟨hatv, hat⟩ := hat.app (comp_length v 0 0)
    obtain ⟨hcmp, hat⟩ := hat.two
    obtain ⟨hpjt, hatvs⟩ := hat.two
    unfold matchValsF at he
    rcases hv : rec v σ with ⟨o, σ1⟩
    rw [hv] at he
    -- the subject is copied, the value runs above the copy
    have Pv := (ih.operand (stk := sv :: sv :: stk) hwv (isE_not_unit hev) hxv hatv hv).pre
      ((Steps.refl _).ins hcopy execIns_copy0)
    cases o with
    | val x =>
      -- `Compare ==` then `PopJumpForwardIfTrue`: to the body on a match, to the next value otherwise
      have pre := (Steps.ins Pv hcmp execIns_compare).ins hpjt execIns_pjt
      change Steps W _ ⟨ite ((sv == x) = true) _ _, _, _⟩ at pre
      by_cases heq : (sv == x) = true
      · simp only [heq, ↓reduceIte] at he pre
        cases he
        exact pre.cast (by omega)
      · simp only [heq, Bool.false_eq_true, ↓reduceIte] at he pre
        have R := ihvs hwvs k _ σ1 res σ' hatvs he
        rcases res with o | _ | _
        · exact R.pre pre
        · exact (pre.trans R).cast (by omega)
        · exact (pre.trans R).cast (by omega)
    | _ => cases he; exact Pv.err nofun
  | _ => intro hw; cases hw

theorem dflt_facts : ∀ (cs : N), wfCases cs = true →
    (match dfltBody cs with
     | some b => compDflt ls cs = comp ls 0 0 b ∧ defLen cs = size b ∧ wf b = true ∧ isBlock b = true ∧ escapes b = false
     | none => compDflt ls cs = one .nil_ ∧ defLen cs = 1) := by
  intro cs
  induction cs with
  | nilL => intro _; exact ⟨rfl, rfl⟩
  | cons h t _ iht =>
    intro hw
    change (_ && _) = true at hw
    simp only [Bool.and_eq_true] at hw
    obtain ⟨hwh, hwt⟩ := hw
    cases h with
    | case_ vals body => exact iht hwt
    | default_ b =>
      change (_ && _) = true at hwh
      simp only [Bool.and_eq_true, Bool.not_eq_true'] at hwh
      exact ⟨rfl, rfl, hwh.2, hwh.1.1, hwh.1.2⟩
    | _ => cases hwh
  | _ => intro hw; cases hw

/-- the two sections of a switch, for a suffix `cs` of the case list whose comparisons sit at
    `P` and whose bodies sit `before` slots into the body section `Bs`: whatever
    `evCasesF` selects (a case body, the default, nil), its value lands on the `Swap` at `Wp`, above the subject -/
theorem cases_sim (ih : IH W ls rec) (sv : V) (stk : List V) (dflt : Option N) (E Bs D Wp d : Nat)
    (hBs : Bs = E + 2) (hW : Wp = D + d)
    (hjd : ∀ σ, Steps W ⟨E, sv :: stk, σ⟩ ⟨D, sv :: stk, σ⟩)
    (hdef : ∀ σ res σ', runDflt rec dflt σ = (res, σ') → ValTo W ⟨D, sv :: stk, σ⟩ Wp (sv :: stk) res σ') :
    ∀ (cs : N), wfCases cs = true → ∀ (before P : Nat) (σ : Env) (res : Out) (σ' : Env),
      CodeAt W.code P (compCmp ls before cs) → P + cmpLen cs = E →
      CodeAt W.code (Bs + before) (compBodies ls d cs) → Bs + before + bodiesLen cs = D →
      evCasesF rec sv dflt cs σ = (res, σ') →
      ValTo W ⟨P, sv :: stk, σ⟩ Wp (sv :: stk) res σ' := by
  intro cs
  induction cs with
  | nilL =>
    intro _ before P σ res σ' _ hP _ _ he
    cases (hP : P = E)
    exact (hdef σ res σ' he).pre (hjd σ)
  | cons h t _ iht =>
    intro hw before P σ res σ' hatc hP hatb hB he
    change (_ && _) = true at hw
    simp only [Bool.and_eq_true] at hw
    obtain ⟨hwh, hwt⟩ := hw
    cases h with
    | case_ vals body =>
      change (_ && _) = true at hwh
      simp only [Bool.and_eq_true, Bool.not_eq_true'] at hwh
      obtain ⟨⟨⟨hwv, hbb⟩, hxb⟩, hwb⟩ := hwh
      change CodeAt W.code P (compVals ls _ vals ++ _) at hatc
      change CodeAt W.code _ ((_ ++ _) ++ _) at hatb
      change P + (valsLen vals + cmpLen t) = E at hP
      change Bs + before + (size body + 2 + bodiesLen t) = D at hB
      unfold evCasesF at he; simp only at he
      have hcb : caseBodyLen (.case_ vals body) = size body + 2 := rfl
      rw [List.append_assoc] at hatb
      obtain ⟨hatv, hatc'⟩ := hatc.app (compVals_length vals _)
      obtain ⟨hatbody, hatb⟩ := hatb.app (comp_length body 0 0)
      obtain ⟨hjf, hatb'⟩ := hatb.two
      rcases hm : matchValsF rec sv vals σ with ⟨m, σ1⟩
      rw [hm] at he
      have V := vals_sim ih sv stk vals hwv _ P σ m σ1 hatv hm
      rcases m with o | _ | _
      · cases he
        exact V.valTo
      · exact (iht hwt _ _ σ1 res σ' hatc' (by omega) (hatb'.cast (by omega)) (by omega) he).pre V
      · -- the selected body, then the jump over the remaining bodies and the default
        have B := (ih.operand (stk := sv :: stk) hwb (isBlock_not_unit hbb) hxb hatbody he).pre (V.cast (by omega))
        exact B.andThen fun v => ((Steps.refl _).ins hjf execIns_jf).cast (by omega)
    | default_ b =>
      change P + (0 + cmpLen t) = E at hP
      change Bs + before + (0 + bodiesLen t) = D at hB
      rw [Nat.zero_add] at hP hB
      unfold evCasesF at he; simp only at he
      exact iht hwt before P σ res σ' hatc hP hatb hB he
    | _ => cases hwh
  | _ => intro hw; cases hw

theorem sim_switch (ih : IH W ls rec) (subj cases : N) (hwf : wf (.switch subj cases) = true) :
    SimAt W ls (.switch subj cases) (evNode ls fuel rec app (.switch subj cases)) := by
  intro kb kc pc stk σ res σ' hat he
  change (_ && _) = true at hwf
  simp only [Bool.and_eq_true, Bool.not_eq_true'] at hwf
  obtain ⟨⟨⟨⟨hes, hxs⟩, hws⟩, hwc⟩, _⟩ := hwf
  change CodeAt W.code pc (_ ++ _) at hat
  simp only [List.append_assoc] at hat
  have hlen : size (.switch subj cases) = size subj + cmpLen cases + 2 + bodiesLen cases + defLen cases + 3 := rfl
  obtain ⟨hats, hat⟩ := hat.app (comp_length subj 0 0)
  obtain ⟨hatc, hat⟩ := hat.app (compCmp_length cases 0)
  obtain ⟨hjd, hat⟩ := hat.two
  obtain ⟨hatb, hat⟩ := hat.app (compBodies_length cases _)
  obtain ⟨hatd, hat⟩ := hat.app (compDflt_length cases)
  obtain ⟨hswap, hpop⟩ := hat.two
  refine ih.seq hws (isE_not_unit hes) hxs (.refl _) hats he fun sv σ1 Ps he => ?_
  -- the default section: the default's body, or `Nil`
  have hdef : ∀ σ res σ', runDflt rec (dfltBody cases) σ = (res, σ') →
      ValTo W ⟨pc + size subj + cmpLen cases + 2 + bodiesLen cases, sv :: stk, σ⟩
        (pc + size subj + cmpLen cases + 2 + bodiesLen cases + defLen cases) (sv :: stk) res σ' := by
    intro σ res σ' h
    have F := dflt_facts (ls := ls) cases hwc
    cases hd : dfltBody cases with
    | some b =>
      rw [hd] at F h
      obtain ⟨hc, hl, hwb, hbb, hxb⟩ := F
      rw [hc] at hatd
      rw [hl]
      exact ih.operand hwb (isBlock_not_unit hbb) hxb hatd h
    | none =>
      rw [hd] at F h
      obtain ⟨hc, hl⟩ := F
      rw [hc] at hatd
      cases h
      rw [hl]
      exact (Steps.refl _).ins (CodeAt.head hatd) execIns_nil
  have R := (cases_sim ih sv stk (dfltBody cases) _ _ _ _ (defLen cases) rfl rfl
    (fun σ => ((Steps.refl _).ins hjd execIns_jf).cast (by omega)) hdef
    cases hwc 0 _ σ1 res σ' hatc rfl hatb rfl he).pre Ps
  -- the value is swapped with the subject, the subject popped
  exact .of_valTo rfl
    (R.andThen fun v => ((Steps.refl _).ins hswap execIns_swap1).ins (CodeAt.head hpop) execIns_popTop) (by omega)

/-! ### calls, `return`, function bodies -/

theorem mstep_call {W : World} {pc n : Nat} (h : W.code[pc]? = some (some (.call n))) (stk : List V) (σ : Env) :
    mstep W.P (W.at ⟨pc, stk, σ⟩) = doCall W.P n (W.at ⟨pc, stk, σ⟩) := by
  unfold mstep
  simp only [World.at]
  have hc : W.P.codeOf W.fn = W.code := rfl
  rw [hc, h]

theorem mstep_ret {W : World} {pc : Nat} (h : W.code[pc]? = some (some .ret)) (stk : List V) (σ : Env) :
    mstep W.P (W.at ⟨pc, stk, σ⟩) = doRet (W.at ⟨pc, stk, σ⟩) := by
  unfold mstep
  simp only [World.at]
  have hc : W.P.codeOf W.fn = W.code := rfl
  rw [hc, h]

/-- `ReturnValue` with `v` on top: the activation is left with `v` -/
theorem ret_fails {W : World} {pc : Nat} {v : V} {stk : List V} {σ : Env} (h : W.code[pc]? = some (some .ret)) :
    Fails W ⟨pc, v :: stk, σ⟩ (.ret v) σ := by
  have hm := mstep_ret h (v :: stk) σ
  cases hfs : W.fs with
  | nil =>
    refine ⟨W.at ⟨pc, v :: stk, σ⟩, .refl _, ?_⟩
    simp only [Final, hfs]
    refine ⟨rfl, ?_⟩
    rw [hm]
    simp [doRet, World.at, hfs]
  | cons fr fs' =>
    refine ⟨{ cfg := ⟨fr.pc, v :: fr.stk, ⟨fr.loc, σ.glob⟩⟩, fn := fr.fn, frames := fs' }, MSteps.one ?_, ?_⟩
    · rw [hm]
      simp [doRet, World.at, hfs]
    · simp only [Final, hfs]

/-- the arguments of a call: their values are pushed left to right -/
theorem args_sim (ih : IH W ls rec) :
    ∀ (as : N), wfVals as = true → ∀ (P : Nat) (stk : List V) (σ : Env) (res : Except Out (List V)) (σ' : Env),
      CodeAt W.code P (compArgs ls as) → evArgsF rec as σ = (res, σ') →
      (match res with
       | .ok vs => vs.length = argCount as ∧ Steps W ⟨P, stk, σ⟩ ⟨P + argsLen as, vs.reverse ++ stk, σ'⟩
       | .error o => ErrTo W ⟨P, stk, σ⟩ o σ') := by
  intro as
  induction as with
  | nilL =>
    intro _ P stk σ res σ' _ he
    cases he
    exact ⟨rfl, .refl _⟩
  | cons a as _ ihas =>
    intro hw P stk σ res σ' hat he
    change (_ && _) = true at hw
    simp only [Bool.and_eq_true, Bool.not_eq_true'] at hw
    obtain ⟨⟨⟨hea, hxa⟩, hwa⟩, hwas⟩ := hw
    change CodeAt W.code P (_ ++ _) at hat
    have hlen : argsLen (.cons a as) = size a + argsLen as := rfl
    obtain ⟨hata, hatas⟩ := hat.app (comp_length a 0 0)
    unfold evArgsF at he
    rcases ha : rec a σ with ⟨o, σ1⟩
    rw [ha] at he
    have Pa := ih.operand (stk := stk) hwa (isE_not_unit hea) hxa hata ha
    cases o with
    | val v =>
      rcases hr : evArgsF rec as σ1 with ⟨res2, σ2⟩
      simp only [hr] at he
      have R := ihas hwas (P + size a) (v :: stk) σ1 res2 σ2 hatas hr
      cases res2 with
      | ok vs =>
        cases he
        obtain ⟨hn, Rs⟩ := R
        refine ⟨congrArg (· + 1) hn, ?_⟩
        rw [List.reverse_cons, List.append_assoc]
        exact (Steps.trans Pa Rs).cast (by omega)
      | error o2 =>
        cases he
        exact R.pre Pa
    | _ => cases he; exact Pa.err nofun
  | _ => intro hw; cases hw

/-- **what a call does, seen from the caller** (`call_returns_one`): from the `Call n` instruction
    with the callee and its `n` arguments on top of `stk`, a call that yields `v` runs to the
    instruction after the `Call` with `v` pushed on `stk`, the caller's locals as they were and
    the globals the callee left; a call that fails raises the same error class -/
def CallOK (W : World) (app : V → List V → Store → Out × Store) : Prop :=
  ∀ (fv : V) (vs : List V) (G : Store) (r : Out) (G' : Store), app fv vs G = (r, G') →
    ∀ (pc : Nat) (stk : List V) (loc : Store), W.code[pc]? = some (some (.call vs.length)) →
      (match r with
       | .val v => Steps W ⟨pc, vs.reverse ++ fv :: stk, ⟨loc, G⟩⟩ ⟨pc + 2, v :: stk, ⟨loc, G'⟩⟩
       | .err x => (∀ v, x ≠ .ret v) ∧ Fails W ⟨pc, vs.reverse ++ fv :: stk, ⟨loc, G⟩⟩ x ⟨loc, G'⟩
       | .oof => True
       | _ => False)

theorem sim_call (ih : IH W ls rec) (happ : CallOK W app) (fe args : N) (hwf : wf (.call fe args) = true) :
    SimAt W ls (.call fe args) (evNode ls fuel rec app (.call fe args)) := by
  intro kb kc pc stk σ res σ' hat he
  change (_ && _) = true at hwf
  simp only [Bool.and_eq_true, Bool.not_eq_true'] at hwf
  obtain ⟨⟨⟨hef, hxf⟩, hwfe⟩, hwa⟩ := hwf
  change CodeAt W.code pc (_ ++ _) at hat
  rw [List.append_assoc] at hat
  have hlen : size (.call fe args) = size fe + argsLen args + 2 := rfl
  obtain ⟨hatf, hat⟩ := hat.app (comp_length fe 0 0)
  obtain ⟨hata, hcall⟩ := hat.app (compArgs_length args)
  refine ih.seq hwfe (isE_not_unit hef) hxf (.refl _) hatf he fun fv σ1 Pf he => ?_
  rcases ha : evArgsF rec args σ1 with ⟨ra, σ2⟩
  rw [ha] at he
  have A := args_sim ih args hwa (pc + size fe) (fv :: stk) σ1 ra σ2 hata ha
  cases ra with
  | ok vs =>
    obtain ⟨hn, As⟩ := A
    rcases hap : app fv vs σ2.glob with ⟨r, G'⟩
    simp only [hap] at he
    cases he
    have C := happ fv vs σ2.glob res G' hap (pc + size fe + argsLen args) stk σ2.loc (by rw [hn]; exact CodeAt.head hcall)
    refine .of_valTo rfl (ValTo.pre (q := pc + size fe + argsLen args + 2) ?_ (Pf.trans As)) (by omega)
    cases res with
    | val v => exact C
    | err x => exact C.2
    | oof => trivial
    | _ => exact C.elim
  | error o =>
    cases he
    exact .of_err (A.pre Pf)

theorem sim_return (ih : IH W ls rec) (e : N) (hwf : wf (.return_ e) = true) :
    SimAt W ls (.return_ e) (evNode ls fuel rec app (.return_ e)) := by
  intro kb kc pc stk σ res σ' hat he
  change (_ && _) = true at hwf
  simp only [Bool.and_eq_true, Bool.not_eq_true', Bool.or_eq_true] at hwf
  obtain ⟨⟨hee, hxe⟩, hwe⟩ := hwf
  change CodeAt W.code pc (_ ++ _) at hat
  obtain ⟨hate, hins⟩ := hat.app (comp_length e 0 0)
  rcases h1 : rec e σ with ⟨r1, σ1⟩
  have P1 := ih.operand (stk := stk) hwe (hee.elim isE_not_unit isNone_not_unit) hxe hate h1
  unfold evNode at he
  simp only at he
  rw [h1] at he
  cases r1 with
  | val v => cases he; exact ⟨trivial, Fails.pre P1 (ret_fails (CodeAt.head hins))⟩
  | err x => cases he; exact ⟨trivial, P1⟩
  | oof => cases he; exact ⟨trivial, trivial⟩
  | _ => exact P1.elim

/-- `func f(…) { … }` as a statement: the constant, a copy, the store under the name, and the
    `PopTop` of the copy -/
theorem sim_fundecl (e : N) (hf : isFuncLit e = true) : SimAt W ls (.expr e) (evNode ls fuel rec app (.expr e)) := by
  intro kb kc pc stk σ res σ' hat he
  change CodeAt W.code pc (ite _ _ _) at hat
  change ite _ _ _ = _ at he
  have hlen : size (.expr e) = ite _ _ _ := rfl
  simp only [hf, ↓reduceIte, List.append_assoc] at hat he hlen
  cases he
  obtain ⟨h1, hat⟩ := hat.two
  obtain ⟨h2, hat⟩ := hat.two
  obtain ⟨h3, h4⟩ := hat.two
  exact .unit hf ((((Steps.refl _).ins h1 execIns_constFn).ins h2 execIns_copy0).ins h3 (exec_storeV ..)
    |>.ins (CodeAt.head h4) execIns_popTop) (by omega)

/-- how the body of a function ends: a value (of the last expression statement, or nil) and a
    `return v` both leave the activation with the value; an error is raised; nothing else -/
def BodyEnds (W : World) (c0 : Cfg) (r : Out) (σ' : Env) : Prop :=
  match r with
  | .val v => Fails W c0 (.ret v) σ'
  | .err x => Fails W c0 x σ'
  | .oof => True
  | _ => False

theorem BodyEnds.pre {c0 c1 : Cfg} {r : Out} {σ' : Env} (l : BodyEnds W c1 r σ') (h : Steps W c0 c1) :
    BodyEnds W c0 r σ' := by
  cases r with
  | val v => exact Fails.pre h l
  | err x => exact Fails.pre h l
  | _ => exact l

/-- a statement of a function body (no break/continue leaves it) that is not a top-level `return`: the run
    stands after it, with its value on the stack exactly when it is an expression statement -/
theorem stmt_steps (ih : IH W ls rec) (h : N) (hwh : wf h = true) (hsh : isS h = true) (hxh : escapes h = false)
    {pc : Nat} {stk : List V} {σ σ1 : Env} {r1 : Out} {tail : Code}
    (hat : CodeAt W.code pc (pre ls h ++ (comp ls 0 0 h ++ tail))) (hh : rec h σ = (r1, σ1)) :
    (match r1 with
     | .val v => leaves h = true ∧ Steps W ⟨pc, stk, σ⟩ ⟨pc + preLen h + size h, v :: stk, σ1⟩
     | .unit => leaves h = false ∧ Steps W ⟨pc, stk, σ⟩ ⟨pc + preLen h + size h, stk, σ1⟩
     | .err x => Fails W ⟨pc, stk, σ⟩ x σ1
     | .oof => True
     | _ => False) ∧ CodeAt W.code (pc + preLen h + size h) tail := by
  simp only [isS, Bool.or_eq_true] at hsh
  obtain ⟨hatp, hat⟩ := hat.app (pre_length h)
  obtain ⟨hath, htail⟩ := hat.app (comp_length h 0 0)
  have hpre := pre_steps h pc stk σ hatp
  have Ph := ih h hwh 0 0 _ stk σ _ _ hath hh
  refine ⟨?_, htail⟩
  cases r1 with
  | val v => exact ⟨hsh.resolve_left (fun hu => by cases (Ph.1 : _ = false).symm.trans hu), hpre.trans Ph.val_steps⟩
  | unit => exact ⟨unit_not_leaves Ph.1, hpre.trans Ph.unit_steps⟩
  | brk => cases hxh.symm.trans Ph.1
  | cont => cases hxh.symm.trans Ph.1
  | err x => exact Fails.pre hpre Ph.2
  | oof => trivial

/-- a function body as `compileFunctionBlock` compiles it, run by `evBody` -/
theorem body_sim (ih : IH W ls rec)
    (hret : ∀ e σ r σ', rec (.return_ e) σ = (r, σ') → r ≠ .unit ∧ ∀ v, r ≠ .val v) :
    ∀ (stmts : N), isL stmts = true → escapes stmts = false → wf stmts = true →
    ∀ (pc : Nat) (stk : List V) (σ : Env) (r : Out) (σ' : Env),
      CodeAt W.code pc (compFnStmts ls stmts) → evBody rec stmts σ = (r, σ') →
      BodyEnds W ⟨pc, stk, σ⟩ r σ' := by
  intro stmts
  induction stmts with
  | nilL =>
    intro _ _ _ pc stk σ r σ' hat he
    cases he
    obtain ⟨h1, h2⟩ := CodeAt.one (show CodeAt W.code pc (one .nil_ ++ one .ret) from hat)
    exact Fails.pre ((Steps.refl _).ins h1 execIns_nil) (ret_fails (CodeAt.head h2))
  | cons h t _ iht =>
    intro _ hesc hwf pc stk σ r σ' hat he
    change (_ && _) = true at hwf
    simp only [Bool.and_eq_true] at hwf
    obtain ⟨⟨⟨hsh, hlt⟩, hwh⟩, hwt⟩ := hwf
    have hesc : (escapes h || escapes t) = false := hesc
    simp only [Bool.or_eq_false_iff] at hesc
    obtain ⟨hxh, hxt⟩ := hesc
    unfold evBody at he
    unfold compFnStmts at hat
    rcases hh : rec h σ with ⟨r1, σ1⟩
    rw [hh] at he
    by_cases hr : isReturn h = true
    · -- the first top-level `return`: what follows is not compiled
      simp only [hr, ↓reduceIte] at hat
      have Ph := ih h hwh 0 0 pc stk σ _ _ hat hh
      obtain ⟨e, rfl⟩ := isReturn_eq hr
      have hn := hret e σ r1 σ1 hh
      cases r1 with
      | val v => exact absurd rfl (hn.2 v)
      | unit => exact absurd rfl hn.1
      | brk => cases hxh.symm.trans Ph.1
      | cont => cases hxh.symm.trans Ph.1
      | err x => cases he; exact Ph.2
      | oof => cases he; trivial
    · by_cases hnil : isNilL t = true
      · -- the last statement: its value, or nil, is returned
        simp only [hr, hnil, Bool.false_eq_true, ↓reduceIte, List.append_assoc] at hat he
        obtain ⟨S, htail⟩ := stmt_steps (stk := stk) ih h hwh hsh hxh hat hh
        cases r1 with
        | val v =>
          cases he
          rw [if_pos S.1] at htail
          exact Fails.pre S.2 (ret_fails (CodeAt.head htail))
        | unit =>
          cases he
          rw [if_neg (by rw [S.1]; nofun)] at htail
          obtain ⟨h1, h2⟩ := htail.one
          exact Fails.pre (S.2.ins h1 execIns_nil) (ret_fails (CodeAt.head h2))
        | err x => cases he; exact S
        | oof => cases he; trivial
        | _ => exact S.elim
      · simp only [hr, hnil, Bool.false_eq_true, ↓reduceIte, List.append_assoc] at hat he
        obtain ⟨S, htail⟩ := stmt_steps (stk := stk) ih h hwh hsh hxh hat hh
        -- the rest of the body runs from the state after the statement
        have rest : ∀ q, Steps W ⟨pc, stk, σ⟩ ⟨q, stk, σ1⟩ → CodeAt W.code q (compFnStmts ls t) →
            evBody rec t σ1 = (r, σ') → BodyEnds W ⟨pc, stk, σ⟩ r σ' :=
          fun q pre hq he => (iht hlt hxt hwt q stk σ1 r σ' hq he).pre pre
        cases r1 with
        | val v =>
          rw [if_pos S.1] at htail
          obtain ⟨hpop, hatt⟩ := htail.one
          exact rest _ (S.2.ins hpop execIns_popTop) hatt he
        | unit =>
          rw [if_neg (by rw [S.1]; nofun), List.nil_append] at htail
          exact rest _ S.2 htail he
        | err x => cases he; exact S
        | oof => cases he; trivial
        | _ => exact S.elim
  | _ => intro h; cases h

theorem take_args (vs : List V) (fv : V) (stk : List V) :
    ((vs.reverse ++ fv :: stk).take vs.length).reverse = vs := by
  have : (vs.reverse ++ fv :: stk).take vs.length = vs.reverse := by
    rw [List.take_append_of_le_length (by simp)]
    rw [List.take_of_length_le (by simp)]
  rw [this, List.reverse_reverse]

theorem drop_args (vs : List V) (fv : V) (stk : List V) :
    (vs.reverse ++ fv :: stk).drop vs.length = fv :: stk := by
  rw [List.drop_append_of_le_length (by simp)]
  rw [List.drop_of_length_le (by simp)]
  rfl

/-- application is what the `Call` instruction does: if the bodies of the program's functions are
    simulated wherever they run (`ihb`), a call returns exactly one value to its caller -/
theorem app_sim (Φ : List FDecl) (evb : List String → N → Env → Out × Env) (P : Prog)
    (hP : ∀ g, P.find g = (findFun Φ g).map compDecl)
    (hΦ : ∀ g d, findFun Φ g = some d → wfBody d.body = true)
    (ihb : ∀ (W' : World) (ls' : List String), W'.P = P → IH W' ls' (evb ls'))
    (hret : ∀ ls' e σ r σ', evb ls' (.return_ e) σ = (r, σ') → r ≠ .unit ∧ ∀ v, r ≠ .val v)
    (W : World) (hW : W.P = P) : CallOK W (applyFn Φ evb) := by
  intro fv vs G r G' hap pc stk loc hcall
  have hm := mstep_call hcall (vs.reverse ++ fv :: stk) ⟨loc, G⟩
  -- a call that fails before the callee is entered
  have early : ∀ c, doCall W.P vs.length (W.at ⟨pc, vs.reverse ++ fv :: stk, ⟨loc, G⟩⟩) = .error (.err c) →
      Fails W ⟨pc, vs.reverse ++ fv :: stk, ⟨loc, G⟩⟩ (.cls c) ⟨loc, G⟩ := by
    intro c hd
    exact ⟨W.at _, .refl _, rfl, by rw [hm]; exact hd⟩
  unfold applyFn at hap
  cases fv
  case fn g =>
    simp only at hap
    cases hfind : findFun Φ g with
    | none =>
      rw [hfind] at hap
      simp only at hap; cases hap
      refine ⟨nofun, early "eval" ?_⟩
      simp only [doCall, World.at, drop_args, hW, hP, hfind, Option.map_none]
    | some d =>
      rw [hfind] at hap
      simp only at hap
      have hPg : W.P.find g = some (compDecl d) := by rw [hW, hP, hfind]; rfl
      cases hent : enterLoc d.name d.named d.params vs with
      | none =>
        rw [hent] at hap
        simp only at hap; cases hap
        refine ⟨nofun, early "args" ?_⟩
        simp only [doCall, World.at, drop_args, take_args, hPg, compDecl, hent]
      | some L =>
        rw [hent] at hap
        simp only at hap
        -- the callee's world: the caller suspended on top of the caller's own suspended frames
        let W' : World := { P := W.P, fn := some g, fs := ⟨W.fn, pc + 2, stk, loc⟩ :: W.fs }
        have hcode : W'.code = compFnStmts d.ls d.body := by
          show W.P.codeOf (some g) = _
          simp [Prog.codeOf, hPg, compDecl]
        have hstep : mstep W.P (W.at ⟨pc, vs.reverse ++ .fn g :: stk, ⟨loc, G⟩⟩) = .ok (W'.at ⟨0, [], ⟨L, G⟩⟩) := by
          rw [hm]
          simp only [doCall, World.at, drop_args, take_args, hPg, compDecl, hent, W']
        have enter : MSteps W.P (W.at ⟨pc, vs.reverse ++ .fn g :: stk, ⟨loc, G⟩⟩) (W'.at ⟨0, [], ⟨L, G⟩⟩) :=
          MSteps.one hstep
        have ih' : IH W' d.ls (evb d.ls) := ihb W' d.ls hW
        have hb := hΦ g d hfind
        unfold wfBody at hb
        simp only [Bool.and_eq_true, Bool.not_eq_true'] at hb
        rcases hbody : evBody (evb d.ls) d.body ⟨L, G⟩ with ⟨rb, σb⟩
        rw [hbody] at hap
        have B := body_sim ih' (hret d.ls) d.body hb.1.1 hb.1.2 hb.2 0 [] ⟨L, G⟩ rb σb
          (by rw [hcode]; exact CodeAt.self _) hbody
        -- a body that ends with `v` (falling off its end, or `return v`)
        have returns : ∀ v, Fails W' ⟨0, [], ⟨L, G⟩⟩ (.ret v) σb →
            Steps W ⟨pc, vs.reverse ++ .fn g :: stk, ⟨loc, G⟩⟩ ⟨pc + 2, v :: stk, ⟨loc, σb.glob⟩⟩ := by
          intro v F
          obtain ⟨m1, hs, hfin⟩ := F
          have hfin' : m1 = { cfg := ⟨pc + 2, v :: stk, ⟨loc, σb.glob⟩⟩, fn := W.fn, frames := W.fs } := hfin
          subst hfin'
          exact MSteps.trans enter hs
        cases rb with
        | val v =>
          simp only at hap; cases hap
          exact returns v B
        | err x =>
          cases x with
          | cls c =>
            simp only at hap; cases hap
            obtain ⟨m1, hs, hg, he⟩ := B
            exact ⟨nofun, m1, MSteps.trans enter hs, hg, he⟩
          | ret v =>
            simp only at hap; cases hap
            exact returns v B
        | oof => simp only at hap; cases hap; trivial
        | _ => exact B.elim
  -- a callee that is no function
  all_goals
    simp only at hap; cases hap
    exact ⟨nofun, early "type" (by simp only [doCall, World.at, drop_args])⟩

/-! ### every node form -/

/-- every node form of the fragment: if the sub-nodes are simulated and calls return one value, so
    is the node -/
theorem evNode_sim (ih : IH W ls rec) (happ : CallOK W app) (fuel : Nat) : IH W ls (evNode ls fuel rec app) := by
  intro n hwf
  cases n with
  | «infix» op l r =>
    by_cases hand : op = .and
    · subst hand
      exact fun kb kc pc stk σ res σ' hat he =>
        sim_short ih .and true .pjf 6 l r rfl rfl (fun _ _ _ _ _ => execIns_pjf)
          (fun a b ht => by show Except.ok (if a.truthy = true then b else a) = _; rw [if_pos ht])
          hwf pc stk σ res σ' hat he (fun _ _ => rfl)
    · by_cases hor : op = .or
      · subst hor
        -- `||` runs the right operand when the left value is falsy
        exact fun kb kc pc stk σ res σ' hat he =>
          sim_short ih .or false .pjt 7 l r rfl rfl
            (fun _ _ v _ _ => execIns_pjt.trans (by cases v.truthy <;> rfl))
            (fun a b ht => by show Except.ok (if a.truthy = true then a else b) = _; rw [if_neg (by rw [ht]; nofun)])
            hwf pc stk σ res σ' hat he (fun a _ => by cases a.truthy <;> rfl)
      · exact sim_infix ih op l r hand hor hwf
  | neg e => exact sim_neg ih e hwf
  | not e => exact sim_not ih e hwf
  | tern c a b =>
    change (_ && _) = true at hwf
    simp only [Bool.and_eq_true, Bool.not_eq_true'] at hwf
    obtain ⟨⟨⟨⟨⟨⟨⟨⟨hec, hea⟩, heb⟩, hxc⟩, _⟩, _⟩, hwc⟩, hwa⟩, hwb⟩ := hwf
    exact fun kb kc => sim_cond ih _ c a b rfl rfl rfl rfl hwc hwa hwb
      (isE_not_unit hec) (isE_not_unit hea) (isE_not_unit heb) hxc
  | if_ c t e =>
    change (_ && _) = true at hwf
    simp only [Bool.and_eq_true, Bool.not_eq_true'] at hwf
    obtain ⟨⟨⟨⟨⟨⟨hec, hbt⟩, hee⟩, hxc⟩, hwc⟩, hwt⟩, hwe⟩ := hwf
    exact fun kb kc => sim_cond ih _ c t e rfl rfl rfl rfl hwc hwt hwe
      (isE_not_unit hec) (isBlock_not_unit hbt) (isElse_not_unit hee) hxc
  | block s =>
    have hw : (isL s && wf s) = true := hwf
    simp only [Bool.and_eq_true] at hw
    exact fun kb kc pc stk σ r σ' hat he =>
      .congr (m := s) rfl (isL_not_unit hw.1).symm rfl (ih s hw.2 kb kc pc stk σ r σ' hat he)
  | prog s =>
    have hw : (isL s && !escapes s && wf s) = true := hwf
    simp only [Bool.and_eq_true] at hw
    exact fun kb kc pc stk σ r σ' hat he =>
      .congr (m := s) rfl (isL_not_unit hw.1.1).symm rfl (ih s hw.2 kb kc pc stk σ r σ' hat he)
  | expr e =>
    cases hf : isFuncLit e with
    | true => exact sim_fundecl e hf
    | false =>
      have hw : (if isFuncLit e = true then funcName e != "" else isE e && wf e) = true := hwf
      simp only [hf, Bool.false_eq_true, ↓reduceIte, Bool.and_eq_true] at hw
      intro kb kc pc stk σ r σ' hat he
      change CodeAt W.code pc (ite _ _ _) at hat
      change ite _ _ _ = _ at he
      simp only [hf, Bool.false_eq_true, ↓reduceIte] at hat he
      exact .congr (m := e) (if_neg (by rw [hf]; nofun)) (hf.trans (isE_not_unit hw.1).symm) rfl
        (ih e hw.2 kb kc pc stk σ r σ' hat he)
  | cons h t => exact sim_cons ih h t hwf
  | var x e => exact sim_var ih x e hwf
  | assign x op e => exact sim_assign ih x op e hwf
  | «postfix» x inc => exact sim_postfix x inc
  | break_ => exact fun kb kc => sim_ctl true
  | continue_ => exact fun kb kc => sim_ctl false
  | forcond c b => exact sim_forcond ih c b hwf
  | forever b => exact sim_forever ih b hwf
  | for3 i c p b => exact sim_for3 ih i c p b hwf
  | switch subj cases => exact sim_switch ih subj cases hwf
  | call fe args => exact sim_call ih happ fe args hwf
  | return_ e => exact sim_return ih e hwf
  -- leaves: one instruction pushes the value
  | nilLit => exact fun _ _ pc stk σ r σ' hat he => sim_leaf _ .nil_ .nil 1 pc stk σ r σ' rfl (CodeAt.head hat) rfl rfl he
  | none_ => exact fun _ _ pc stk σ r σ' hat he => sim_leaf _ .nil_ .nil 1 pc stk σ r σ' rfl (CodeAt.head hat) rfl rfl he
  | nilL => exact fun _ _ pc stk σ r σ' hat he => sim_leaf _ .nil_ .nil 1 pc stk σ r σ' rfl (CodeAt.head hat) rfl rfl he
  | int i =>
    exact fun _ _ pc stk σ r σ' hat he => sim_leaf _ (.constInt i) (.int i) 2 pc stk σ r σ' rfl (CodeAt.head hat) rfl rfl he
  | str s =>
    exact fun _ _ pc stk σ r σ' hat he => sim_leaf _ (.constStr s) (.str s) 2 pc stk σ r σ' rfl (CodeAt.head hat) rfl rfl he
  | id x =>
    exact fun _ _ pc stk σ r σ' hat he =>
      sim_leaf _ (loadV ls x) (σ.get ls x) 2 pc stk σ r σ' rfl (CodeAt.head hat) rfl (exec_loadV ..) he
  | bool b =>
    exact fun _ _ pc stk σ r σ' hat he =>
      sim_leaf _ (if b then .true_ else .false_) (.bool b) 1 pc stk σ r σ' rfl (CodeAt.head hat) rfl (by cases b <;> rfl) he
  | _ => cases hwf

/-- a `return` statement never completes normally -/
theorem ev_return_abrupt (Φ : List FDecl) (f : Nat) (ls : List String) (e : N) (σ : Env) (r : Out) (σ' : Env)
    (h : ev Φ f ls (.return_ e) σ = (r, σ')) : r ≠ .unit ∧ ∀ v, r ≠ .val v := by
  cases f with
  | zero => cases h; exact ⟨nofun, nofun⟩
  | succ f =>
    have h' : evNode ls f (ev Φ f ls) (applyFn Φ (ev Φ f)) (.return_ e) σ = (r, σ') := h
    unfold evNode at h'
    simp only at h'
    split at h' <;> cases h' <;> exact ⟨nofun, nofun⟩

/-- the program `P` is the compiled form of the functions `Φ` -/
def Compiled (Φ : List FDecl) (P : Prog) : Prop := ∀ g, P.find g = (findFun Φ g).map compDecl

/-- every function body is in the fragment -/
def BodiesOK (Φ : List FDecl) : Prop := ∀ g d, findFun Φ g = some d → wfBody d.body = true

/-- the simulation, for every fuel, every world (code object, suspended frames) and every set of
    local names: induction on fuel only (each node evaluates its sub-nodes, and each call the
    callee's body, with one unit of fuel less; loops iterate inside `loop_sim`) -/
theorem ev_sim (Φ : List FDecl) (P : Prog) (hP : Compiled Φ P) (hΦ : BodiesOK Φ) :
    ∀ f (W : World) (ls : List String), W.P = P → IH W ls (ev Φ f ls)
  | 0 => by
    intro W ls _ n _ kb kc pc stk σ r σ' _ he
    cases he
    exact ⟨trivial, trivial⟩
  | f + 1 => fun W ls hW =>
    evNode_sim (ev_sim Φ P hP hΦ f W ls hW)
      (app_sim Φ (ev Φ f) P hP hΦ (fun W' ls' h' => ev_sim Φ P hP hΦ f W' ls' h')
        (fun ls' e σ r σ' h => ev_return_abrupt Φ f ls' e σ r σ' h) W hW) f

/-- calls return one value, for every fuel and world -/
theorem call_sim (Φ : List FDecl) (P : Prog) (hP : Compiled Φ P) (hΦ : BodiesOK Φ) (f : Nat) (W : World) (hW : W.P = P) :
    CallOK W (applyFn Φ (ev Φ f)) :=
  app_sim Φ (ev Φ f) P hP hΦ (fun W' ls' h' => ev_sim Φ P hP hΦ f W' ls' h')
    (fun ls' e σ r σ' h => ev_return_abrupt Φ f ls' e σ r σ' h) W hW

/-- `compFun` compiles the functions of the program -/
theorem compFun_compiled (p : N) : Compiled (funsOf p) (compFun p) := by
  intro g
  unfold Prog.find compFun findFun
  simp only
  induction funsOf p with
  | nil => rfl
  | cons d Φ ih =>
    simp only [List.map_cons, List.find?_cons]
    have : (compDecl d).name = d.name := rfl
    rw [this]
    cases d.name == g with
    | true => rfl
    | false => exact ih

/-! ### from `MSteps` to the fuel-indexed `mrun` -/

theorem mrun_of_msteps {P : Prog} {a b : M} (h : MSteps P a b) :
    ∃ n, ∀ k, mrun P (n + k) a = mrun P k b := by
  induction h with
  | refl c => exact ⟨0, fun k => by rw [Nat.zero_add]⟩
  | cons hs _ ih =>
    obtain ⟨n, hn⟩ := ih
    refine ⟨n + 1, fun k => ?_⟩
    have : n + 1 + k = (n + k) + 1 := by omega
    rw [this, mrun, hs]
    exact hn k

/-- once the machine has halted, more fuel does not change the outcome -/
theorem mrun_mono {P : Prog} : ∀ (k : Nat) (m : M) (res : RunRes) (G : Store),
    mrun P k m = (res, G) → res ≠ .running → mrun P (k + 1) m = (res, G)
  | 0, m, res, G, h, hr => by simp only [mrun] at h; cases h; exact absurd rfl hr
  | k + 1, m, res, G, h, hr => by
    rw [mrun] at h ⊢
    cases hs : mstep P m with
    | ok m' => rw [hs] at h; simp only at h ⊢; exact mrun_mono k m' res G h hr
    | error e => rw [hs] at h; cases e <;> exact h

end Risor.C01.Fun
