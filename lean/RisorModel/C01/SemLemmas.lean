import RisorModel.C01.Sem
/-!
C01 — helper definitions and lemmas for the theorems of `Props.lean` about `error`, `try`,
`defer` and pipes: the text of a value depends on the heap only, so a `print` may be stated
against the state before the call's bookkeeping (`steps`).
-/
namespace Risor.C01

theorem textUnknown_heap (st st' : St) (h : st.heap = st'.heap) (n : Nat) :
    textUnknown st n = textUnknown st' n := by
  induction n with
  | zero =>
    funext v
    cases v with
    | err c m => cases m <;> rfl
    | _ => rfl
  | succ n ih =>
    funext v
    cases v with
    | list r | set r | map r => unfold textUnknown; rw [h, ih]
    | err c m => cases m <;> rfl
    | _ => rfl

theorem inspect_heap (st st' : St) (h : st.heap = st'.heap) (n : Nat) :
    inspect st n = inspect st' n := by
  induction n with
  | zero =>
    funext v
    cases v with
    | err c m => cases m <;> rfl
    | _ => rfl
  | succ n ih =>
    funext v
    cases v with
    | list r | set r | map r => unfold inspect; rw [h, ih]
    | err c m => cases m <;> rfl
    | _ => rfl

theorem display_heap (st st' : St) (h : st.heap = st'.heap) : display st = display st' := by
  funext v
  cases v <;> simp [display, inspect_heap st st' h]

/-- the line `print(args)` writes -/
def printLine (st : St) (args : List Val) : String := " ".intercalate (args.map (display st))

theorem printLine_heap (st st' : St) (h : st.heap = st'.heap) : printLine st = printLine st' := by
  funext args
  rw [printLine, printLine, display_heap st st' h]

/-- `print` on values whose text the model knows: one line, no other effect than the call budget -/
theorem print_call (f : Nat) (args : List Val) (st : St) (hs : st.steps ≠ 0)
    (ht : args.any (textUnknown st 8) = false) :
    callVal (f + 1) (.builtin "print") args st =
      (.val .nil, { st with steps := st.steps - 1, out := printLine st args :: st.out }) := by
  have h1 := textUnknown_heap { st with steps := st.steps - 1 } st rfl 8
  have h2 := display_heap { st with steps := st.steps - 1 } st rfl
  simp [callVal, hs, printLine, h1, ht, h2]

theorem evalPipe_done (f : Nat) (x : Val) (env : Env) (st : St) :
    evalPipe (f + 1) x .nilL env st = (.val x, st) := by
  simp [evalPipe]

/-- the outcome of a function body as `callVal` reads it: a value (explicit return, last
    expression, or nil) or a raised error; `none` = out of fuel / outside the model / a stray
    break or continue -/
def bodyOutcome : Sig → Option Sig
  | .ret v => some (.val v)
  | .val v => some (.val v)
  | .unit => some (.val .nil)
  | .err c => some (.err c)
  | .uerr m => some (.uerr m)
  | _ => none

end Risor.C01
