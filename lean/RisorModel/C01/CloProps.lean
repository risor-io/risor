import RisorModel.C01.CloLemmas
import RisorModel.C01.CloVMLemmas
/-!
C01 — COMPILER CORRECTNESS for the CLOSURE fragment `inClo` (Clo.lean; fragment F5 = closures with
depth-1 captures), proved for ALL programs of the fragment, ALL fuel, ALL operand stacks, ALL stacks
of suspended caller frames and ALL heaps of cells.

The fragment: everything of `FunProps.lean` (F1–F3 expressions, assignments, if/else, loops,
break/continue, switch; F4 functions, parameters with defaults, locals, `return`, calls, recursion)
in the main code and inside function bodies at every depth, plus
  * anonymous function literals as EXPRESSIONS anywhere in a function body (and in the main code):
    returned (`return func…`, implicitly as the last expression statement), bound to locals and
    globals, passed as arguments, used as callees (`func(x) { … }(3)`), created in if blocks and
    loop bodies;
  * literals that READ and WRITE the parameters, the self slot and the locals of the function they
    are written in (depth-1 free variables): `MakeCell idx 0` per resolution, in resolution order,
    then `LoadClosure fn n`; `LoadFree` / `StoreFree` in the body, in every position a variable
    may stand (operands, conditions, switch subjects and case values, loop headers, `x = e`,
    `x op= e`, `x++`);
  * closures called after the creating activation has RETURNED, several times (state kept in the
    captured variables), several closures of one activation sharing its variables, the creating
    function reading and writing its variables after the capture, closures passed to other
    functions and called there, closures compared (`==`: a closure is equal to itself only, a
    capture-free literal is one constant).
Not in the fragment (`inClo`): free variables two or more function levels up (recorded finding
C02-positional-capture), captured variables declared inside a loop body (recorded: one slot for all
iterations), named functions inside functions, `defer`, containers, builtins taking callbacks.

What is PROVED relates the three definitions of Clo.lean (`evalClo`, `compClo`, `runClo`); what ties
them to the Go code is checked by correspondence on every run (harness/c01clo.go).

THE STORES.  The reference semantics and the machine are stated over ONE representation of the
store, `Sh` = (cells, globals, counter): the semantics' cell of variable `x` of activation `a` IS the
machine's slot `x` of the heap slice of activation `a` (`Cells.get _ a x`), a closure value is the
same object on both sides (`V.clo id fn cells`), and neither side ever moves a cell.  So the
relation between the semantics' cells and the machine's cells is the IDENTITY on `(a, x)`; it is
explicit in the statements below as the shared `σ : Env` / `σ'.sh`.  What differs is how the two
sides REACH a cell: the semantics by the variable's name and the closure's captured environment
(`Env.get` / `Env.set`), the machine by the instruction the compiler chose (`LoadFast` into the
running frame's slice, `LoadFree` through the cell list of the running closure object, built by
`MakeCell`/`LoadClosure` on the operand stack).
TWO MACHINES.  `runClo` (Clo.lean) has every activation's locals slice on the heap from the start.
`runCloVM` (CloVM.lean) is the machine as vm/frame.go keeps locals: IN THE FRAME until the
activation's first `MakeCell` (`frame.CaptureLocals` copies them to a heap slice and redirects the
frame), uncaptured frames dropped at return.  `CloVMLemmas.lean` proves that the two run in LOCKSTEP
under the explicit store relation `RelC` (CloVM.lean): the semantics' cell `(a, x)` holds what the
frame of activation `a` holds before the capture and what the heap slice `(a, ·)` holds after it —
for every captured activation, live or RETURNED —, nothing is claimed for returned activations that
never captured (the machine has dropped them), and no value anywhere (operand stacks, variables,
closures, heap) mentions a cell of an uncaptured activation.  `clo_simulation_vm`, `runCloVM_eq`,
`clo_compile_correct_vm` below state the results on that machine.  Idealisation left: operand stack
and frame stack are unbounded (the real VM: 1024 / 1024).  Link (C) compares the outcomes with
`VM.lean` and the real VM on every generated program.

Technique: `FunLemmas.lean`'s development over the machine with cells (`CloLemmas.lean`), plus
`mk_steps` (the `MakeCell … LoadClosure` sequence builds exactly `mkClo`'s closure).
-/
namespace Risor.C01.Clo
open Risor.C01

/-- **Simulation, at full strength** (the generalisation of `frag_simulation` to a machine with
    a frame stack).  Let `P` be the compiled form of the functions `Φ` (`Compiled`), all of whose
    bodies are in the fragment (`BodiesOK`).  For every well-formed node `n` (expression,
    statement, block, list, program), every code object of ANY world `W` over `P` — i.e. any
    running code object `W.fn` and ANY stack `W.fs` of suspended caller frames — in which the code
    of `n` (compiled for local names `ls`, loop targets `kb` / `kc`) sits at offset `pc`, every
    operand stack `stk`, every state `σ` (locals and globals) and every fuel: if the reference
    semantics gives `r` with final state `σ'` then the MACHINE, started in the activation state
    `(pc, stk, σ)` on top of the frames `W.fs`,
    * `r = val v`  — reaches `(pc + size ls n, v :: stk, σ')` in the same activation on top of the
      SAME frames (whatever activations were entered in between have been left);
    * `r = unit`   — reaches `(pc + size ls n, stk, σ')` likewise;
    * `r = brk` / `cont` — reaches the loop's break / continue target with `stk`;
    * `r = err (cls c)` — reaches a machine state (possibly inside a callee) with globals
      `σ'.sh` whose next step raises the error class `c`;
    * `r = err (ret v)` (a `return v` leaving the running function) — resumes the innermost
      suspended frame `fr` at its return address with `v` pushed on ITS operand stack, ITS
      locals, the globals `σ'.sh`, and the remaining frames untouched; with no caller the
      machine halts with `v`;
    * `r = oof` — nothing is claimed. -/
theorem clo_simulation (Φ : List FDecl) (P : Prog) (hP : Compiled Φ P) (hΦ : BodiesOK Φ)
    (W : World) (hW : W.P = P) (ls : Sc) (f : Nat) (n : N) (hwf : wf n = true) (kb kc : Nat)
    (pc : Nat) (stk : List V) (σ : Env) (r : Out) (σ' : Env)
    (hat : CodeAt W.code pc (comp ls kb kc n)) (he : ev Φ f ls n σ = (r, σ')) :
    (match r with
     | .val v => isUnitNode n = false ∧
        MSteps W.P ⟨⟨pc, stk, σ⟩, W.fn, W.fs⟩ ⟨⟨pc + size ls n, v :: stk, σ'⟩, W.fn, W.fs⟩
     | .unit => isUnitNode n = true ∧
        MSteps W.P ⟨⟨pc, stk, σ⟩, W.fn, W.fs⟩ ⟨⟨pc + size ls n, stk, σ'⟩, W.fn, W.fs⟩
     | .brk => escapes n = true ∧
        MSteps W.P ⟨⟨pc, stk, σ⟩, W.fn, W.fs⟩ ⟨⟨pc + size ls n + kb, stk, σ'⟩, W.fn, W.fs⟩
     | .cont => escapes n = true ∧
        MSteps W.P ⟨⟨pc, stk, σ⟩, W.fn, W.fs⟩ ⟨⟨pc + size ls n + kc, stk, σ'⟩, W.fn, W.fs⟩
     | .err (.cls c) => ∃ m1, MSteps W.P ⟨⟨pc, stk, σ⟩, W.fn, W.fs⟩ m1 ∧ m1.cfg.σ.sh = σ'.sh ∧
        mstep W.P m1 = .error (.err c)
     | .err (.ret v) =>
        (∀ fr fs', W.fs = fr :: fs' →
          MSteps W.P ⟨⟨pc, stk, σ⟩, W.fn, W.fs⟩ ⟨⟨fr.pc, v :: fr.stk, ⟨fr.act, σ'.sh⟩⟩, fr.fn, fs'⟩) ∧
        (W.fs = [] → ∃ m1, MSteps W.P ⟨⟨pc, stk, σ⟩, W.fn, W.fs⟩ m1 ∧ m1.cfg.σ.sh = σ'.sh ∧
          mstep W.P m1 = .error (.done v))
     | .oof => True) := by
  have Q := ev_sim Φ P hP hΦ f W ls hW n hwf kb kc pc stk σ r σ' hat he
  cases r with
  | val v => exact ⟨Q.1, Q.2⟩
  | unit => exact ⟨Q.1, Q.2⟩
  | brk => exact ⟨Q.1, Q.2⟩
  | cont => exact ⟨Q.1, Q.2⟩
  | oof => trivial
  | err x =>
    cases x with
    | cls c => exact Q.2
    | ret v =>
      obtain ⟨m1, hs, hfin⟩ := Q.2
      refine ⟨?_, ?_⟩
      · intro fr fs' hfs
        simp only [Final, hfs] at hfin
        subst hfin
        exact hs
      · intro hfs
        simp only [Final, hfs] at hfin
        exact ⟨m1, hs, hfin.1, hfin.2⟩

theorem clo_code_length (ls : Sc) (n : N) (kb kc : Nat) : (comp ls kb kc n).length = size ls n :=
  comp_length n kb kc

/-- **A call returns exactly one value** (`call_returns_one`; this is what C04's stack model
    assumes about `Call`).  In any world over the compiled program: when applying the function
    value `fv` to the argument values `vs` under globals `G` yields `v` and globals `G'`
    (reference semantics, any fuel), the machine standing at a `Call n` instruction with the `n`
    arguments and the callee on top of ANY operand stack `stk` runs — through the callee's whole
    activation and everything it calls — to the instruction after the `Call` with exactly `v`
    pushed on `stk`, the caller's locals `loc` as they were, the suspended frames `W.fs` as
    they were, and the globals `G'`. -/
theorem call_returns_one (Φ : List FDecl) (P : Prog) (hP : Compiled Φ P) (hΦ : BodiesOK Φ)
    (W : World) (hW : W.P = P) (f : Nat) (fv : V) (vs : List V) (G G' : Sh) (v : V)
    (h : applyFn Φ (ev Φ f) fv vs G = (.val v, G'))
    (pc : Nat) (stk : List V) (loc : Act) (hcall : W.code[pc]? = some (some (.call vs.length))) :
    MSteps W.P ⟨⟨pc, vs.reverse ++ fv :: stk, ⟨loc, G⟩⟩, W.fn, W.fs⟩ ⟨⟨pc + 2, v :: stk, ⟨loc, G'⟩⟩, W.fn, W.fs⟩ :=
  call_sim Φ P hP hΦ f W hW fv vs G (.val v) G' h pc stk loc hcall

/-- a call that fails raises the same error class on the machine (wrong argument count: `args`;
    a callee that is no function: `type`; an error inside the callee, at any depth) -/
theorem call_fails_alike (Φ : List FDecl) (P : Prog) (hP : Compiled Φ P) (hΦ : BodiesOK Φ)
    (W : World) (hW : W.P = P) (f : Nat) (fv : V) (vs : List V) (G G' : Sh) (c : String)
    (h : applyFn Φ (ev Φ f) fv vs G = (.err (.cls c), G'))
    (pc : Nat) (stk : List V) (loc : Act) (hcall : W.code[pc]? = some (some (.call vs.length))) :
    ∃ m1, MSteps W.P ⟨⟨pc, vs.reverse ++ fv :: stk, ⟨loc, G⟩⟩, W.fn, W.fs⟩ m1 ∧ m1.cfg.σ.sh = G' ∧
      mstep W.P m1 = .error (.err c) :=
  (call_sim Φ P hP hΦ f W hW fv vs G (.err (.cls c)) G' h pc stk loc hcall).2

/-- application never yields anything but a value, an error class or out-of-fuel: a `return`, a
    `break` or a `continue` does not cross a call -/
theorem call_outcomes (Φ : List FDecl) (evb : Sc → N → Env → Out × Env) (fv : V) (vs : List V) (G G' : Sh)
    (r : Out) (h : applyFn Φ evb fv vs G = (r, G')) :
    (∃ v, r = .val v) ∨ (∃ c, r = .err (.cls c)) ∨ r = .oof := by
  unfold applyFn at h
  split at h
  · split at h
    · cases h; exact .inr (.inl ⟨_, rfl⟩)
    · split at h
      · cases h; exact .inr (.inl ⟨_, rfl⟩)
      · split at h <;> cases h
        · exact .inl ⟨_, rfl⟩
        · exact .inl ⟨_, rfl⟩
        · exact .inr (.inl ⟨_, rfl⟩)
        · exact .inr (.inr rfl)
        · exact .inr (.inl ⟨_, rfl⟩)
  · cases h; exact .inr (.inl ⟨_, rfl⟩)

theorem bodiesOK_of_bodiesWF (p : N) (h : bodiesWF p = true) : BodiesOK (funsOf p) := by
  intro g d hf
  unfold bodiesWF at h
  rw [List.all_eq_true] at h
  exact h d (List.mem_of_find?_eq_some hf)

/-- **Compiler correctness, on the shape alone.**  For every program `p` of the fragment's SHAPE
    (`inCloShape`: well-formed nodes, well-formed function bodies — no scoping condition: both
    sides resolve names in the same way) and every fuel, if the reference semantics ends
    (anything but out-of-fuel) then it ends with a value or an error class — never with a stray
    break/continue/return — and there is a fuel for which the machine, run on the compiled
    program (`compClo p`: the main code and one code object per function) from the empty stack,
    empty stores and no frames, halts with the SAME value (resp. the SAME error class) and the
    SAME final globals. -/
theorem clo_compile_correct_shape (p : N) (hp : inCloShape p = true) (fuel : Nat) (r : Out) (G' : Store)
    (he : evalClo fuel p = (r, G')) (hr : r ≠ .oof) :
    (∃ v, r = .val v ∧ ∃ fuel', runClo fuel' (compClo p) = (.done v, G')) ∨
    (∃ c, r = .err (.cls c) ∧ ∃ fuel', runClo fuel' (compClo p) = (.err c, G')) := by
  have hwf : wf p = true ∧ isUnitNode p = false ∧ escapes p = false ∧ bodiesWF p = true := by
    cases p <;> simp_all [inCloShape, isUnitNode, wf, escapes]
  let W : World := { P := compClo p, fn := none, fs := [] }
  unfold evalClo at he
  rcases h0 : ev (funsOf p) fuel Sc.main p Env.init with ⟨r0, σ0⟩
  rw [h0] at he
  have Q := ev_sim (funsOf p) (compClo p) (compClo_compiled p) (bodiesOK_of_bodiesWF p hwf.2.2.2) fuel W Sc.main rfl
    p hwf.1 0 0 0 [] Env.init r0 σ0 (CodeAt.self _) h0
  have ofMrun : ∀ k res (G : Sh), mrun (compClo p) k M.init = (res, G) → runClo k (compClo p) = (res, G.glob) := by
    intro k res G h; simp only [runClo, h]
  -- the machine halts at the end of the main code with the value on top
  have done : ∀ v, Steps W ⟨0, [], Env.init⟩ ⟨size Sc.main p, [v], σ0⟩ → ∃ k, runClo k (compClo p) = (.done v, σ0.sh.glob) := by
    intro v hs
    obtain ⟨n, hn⟩ := mrun_of_msteps hs
    refine ⟨n + 1, ofMrun _ _ _ ?_⟩
    have : M.init = W.at ⟨0, [], Env.init⟩ := rfl
    rw [this, hn 1]
    simp [mrun, mstep, step, World.at, W, Prog.codeOf, compClo, comp_length]
  have halts : ∀ (m1 : M) (h : Halt) (res : RunRes), MSteps (compClo p) M.init m1 → mstep (compClo p) m1 = .error h →
      (match h with | .done v => res = .done v | .err c => res = .err c | .nonlocal => False) →
      ∃ k, runClo k (compClo p) = (res, m1.cfg.σ.sh.glob) := by
    intro m1 h res hs hst hres
    obtain ⟨n, hn⟩ := mrun_of_msteps hs
    refine ⟨n + 1, ofMrun _ _ _ ?_⟩
    rw [hn 1]
    cases h with
    | done v => simp only at hres; subst hres; simp [mrun, hst]
    | err c => simp only at hres; subst hres; simp [mrun, hst]
    | nonlocal => exact hres.elim
  cases r0 with
  | oof => simp only at he; cases he; exact absurd rfl hr
  | unit => have := Q.1; simp only [Shape] at this; rw [hwf.2.1] at this; cases this
  | brk => have := Q.1; simp only [Shape] at this; rw [hwf.2.2.1] at this; cases this
  | cont => have := Q.1; simp only [Shape] at this; rw [hwf.2.2.1] at this; cases this
  | val v =>
    simp only at he; cases he
    have hs : Steps W ⟨0, [], Env.init⟩ ⟨0 + size Sc.main p, [v], σ0⟩ := Q.val_steps
    rw [Nat.zero_add] at hs
    exact .inl ⟨v, rfl, done v hs⟩
  | err x =>
    cases x with
    | cls c =>
      simp only at he; cases he
      obtain ⟨m1, hs, hg, hst⟩ := Q.2
      obtain ⟨k, hk⟩ := halts m1 (.err c) (.err c) hs hst rfl
      exact .inr ⟨c, rfl, k, by rw [hk, hg]⟩
    | ret v =>
      simp only at he; cases he
      obtain ⟨m1, hs, hfin⟩ := Q.2
      have hfin' : m1.cfg.σ.sh = σ0.sh ∧ mstep (compClo p) m1 = .error (.done v) := hfin
      obtain ⟨k, hk⟩ := halts m1 (.done v) (.done v) hs hfin'.2 rfl
      exact .inl ⟨v, rfl, k, by rw [hk, hfin'.1]⟩

theorem inClo_shape (p : N) (hp : inClo p = true) : inCloShape p = true := by
  cases p <;> simp_all [inClo, inCloShape]

/-- **Compiler correctness for the closure fragment** (the property C01 on `inClo`): for every
    program `p` of the fragment and every fuel, if the reference semantics ends with a value or an
    error (not out-of-fuel), there is a fuel for which the machine on the compiled program halts
    with the same value / the same error class and the same final globals.  (`inClo` adds to the
    shape the scoping conditions under which `evalClo` / `compClo` ARE `Sem.lean` / `compiler.go`
    on the program: that is what the correspondence check establishes, on `inClo` programs.) -/
theorem clo_compile_correct (p : N) (hp : inClo p = true) (fuel : Nat) (r : Out) (G' : Store)
    (he : evalClo fuel p = (r, G')) (hr : r ≠ .oof) :
    (∃ v, r = .val v ∧ ∃ fuel', runClo fuel' (compClo p) = (.done v, G')) ∨
    (∃ c, r = .err (.cls c) ∧ ∃ fuel', runClo fuel' (compClo p) = (.err c, G')) :=
  clo_compile_correct_shape p (inClo_shape p hp) fuel r G' he hr

/-- how a source outcome shows on the machine -/
def Out.toRun : Out → RunRes
  | .val v => .done v
  | .unit => .done .nil
  | .brk => .err "compile"
  | .cont => .err "compile"
  | .err (.cls c) => .err c
  | .err (.ret v) => .done v
  | .oof => .running

theorem clo_compile_correct_toRun (p : N) (hp : inClo p = true) (fuel : Nat) (r : Out) (G' : Store)
    (he : evalClo fuel p = (r, G')) (hr : r ≠ .oof) :
    ∃ fuel', runClo fuel' (compClo p) = (r.toRun, G') := by
  rcases clo_compile_correct p hp fuel r G' he hr with ⟨v, rfl, k, hk⟩ | ⟨c, rfl, k, hk⟩
  · exact ⟨k, hk⟩
  · exact ⟨k, hk⟩

/-- the outcome found by `clo_compile_correct` is THE outcome of the machine: every larger fuel
    gives the same halted result (the machine is deterministic and stays halted) -/
theorem clo_run_stable (P : Prog) (k j : Nat) (res : RunRes) (G : Store)
    (h : runClo k P = (res, G)) (hr : res ≠ .running) : runClo (k + j) P = (res, G) := by
  have hm : ∀ j, mrun P (k + j) M.init = mrun P k M.init := by
    intro j
    induction j with
    | zero => rfl
    | succ j ih =>
      have hres : (mrun P k M.init).1 = res := by simp only [runClo] at h; exact (Prod.mk.inj h).1
      exact (mrun_mono (k + j) _ res (mrun P k M.init).2 (by rw [ih, ← hres]) hr).trans (by rw [← hres])
  simp only [runClo, hm j] at h ⊢
  exact h

/-- **An expression pushes exactly one value, also across calls.**  Any node that is not a
    unit statement, compiled anywhere in any code object, started on any operand stack `stk` over
    any suspended frames: when the reference semantics gives the value `v`, the machine ends
    exactly at the end of the node's code, in the same activation, with `v` pushed on an
    otherwise untouched `stk`. -/
theorem clo_expr_pushes_one (Φ : List FDecl) (P : Prog) (hP : Compiled Φ P) (hΦ : BodiesOK Φ)
    (W : World) (hW : W.P = P) (ls : Sc) (f : Nat) (n : N) (hwf : wf n = true) (kb kc : Nat)
    (pc : Nat) (stk : List V) (σ σ' : Env) (v : V)
    (hat : CodeAt W.code pc (comp ls kb kc n)) (he : ev Φ f ls n σ = (.val v, σ')) :
    MSteps W.P ⟨⟨pc, stk, σ⟩, W.fn, W.fs⟩ ⟨⟨pc + (comp ls kb kc n).length, v :: stk, σ'⟩, W.fn, W.fs⟩ := by
  rw [comp_length]
  exact (ev_sim Φ P hP hΦ f W ls hW n hwf kb kc pc stk σ _ σ' hat he).val_steps

/-- what `compileStmts` emits for a statement that is not the last of its list -/
def stmtCode (ls : Sc) (kb kc : Nat) (h : N) : Code :=
  pre ls h ++ comp ls (kb + (if leaves h then 1 else 0)) (kc + (if leaves h then 1 else 0)) h
    ++ (if leaves h then one .popTop else [])

/-- **Statements are stack-neutral, also when they call** (C04's property, for the fragment).
    Every statement of the fragment (`:=`, assignments, `++`, expression statements — among them
    calls as statements —, `break`, `continue`, the three loop forms with arbitrarily nested
    bodies), compiled anywhere in any code object as `compileStmts` compiles a statement, started
    on any operand stack `stk` over any suspended frames: however it ends — completing (with
    `unit` or with a value), or leaving through a `break` / `continue` towards the enclosing
    loop's target — the operand stack is exactly `stk` again and the frames are untouched.
    (A `return` leaves the activation: see `clo_simulation`.) -/
theorem clo_stmt_neutral (Φ : List FDecl) (P : Prog) (hP : Compiled Φ P) (hΦ : BodiesOK Φ)
    (W : World) (hW : W.P = P) (ls : Sc) (f : Nat) (h : N) (hwf : wf h = true) (hs : isS h = true)
    (kb kc : Nat) (pc : Nat) (stk : List V) (σ σ' : Env) (r : Out)
    (hat : CodeAt W.code pc (stmtCode ls kb kc h)) (he : ev Φ f ls h σ = (r, σ')) :
    (match r with
     | .val _ => MSteps W.P ⟨⟨pc, stk, σ⟩, W.fn, W.fs⟩ ⟨⟨pc + (stmtCode ls kb kc h).length, stk, σ'⟩, W.fn, W.fs⟩
     | .unit => MSteps W.P ⟨⟨pc, stk, σ⟩, W.fn, W.fs⟩ ⟨⟨pc + (stmtCode ls kb kc h).length, stk, σ'⟩, W.fn, W.fs⟩
     | .brk => MSteps W.P ⟨⟨pc, stk, σ⟩, W.fn, W.fs⟩ ⟨⟨pc + (stmtCode ls kb kc h).length + kb, stk, σ'⟩, W.fn, W.fs⟩
     | .cont => MSteps W.P ⟨⟨pc, stk, σ⟩, W.fn, W.fs⟩ ⟨⟨pc + (stmtCode ls kb kc h).length + kc, stk, σ'⟩, W.fn, W.fs⟩
     | _ => True) := by
  unfold stmtCode at hat ⊢
  have hpre := pre_steps h pc stk σ hat.append_left.append_left
  have hath := hat.append_left.append_right
  have htail := hat.append_right
  simp only [List.length_append, pre_length, comp_length] at hath htail ⊢
  simp only [isS, Bool.or_eq_true] at hs
  cases hl : leaves h with
  | false =>
    simp only [hl, Bool.false_eq_true, ↓reduceIte, Nat.add_zero, List.length_nil] at hath ⊢
    have Q := ev_sim Φ P hP hΦ f W ls hW h hwf kb kc _ stk σ r σ' hath he
    cases r with
    | val v =>
      rcases hs with hu | hl'
      · cases hu.symm.trans Q.1
      · rw [hl] at hl'; cases hl'
    | unit => exact (hpre.trans Q.unit_steps).cast (by omega)
    | brk => exact (Steps.trans hpre Q.2).cast (by omega)
    | cont => exact (Steps.trans hpre Q.2).cast (by omega)
    | err c => trivial
    | oof => trivial
  | true =>
    simp only [hl, ↓reduceIte, one_length] at hath htail ⊢
    have Q := ev_sim Φ P hP hΦ f W ls hW h hwf (kb + 1) (kc + 1) _ stk σ r σ' hath he
    have hpop := CodeAt.one htail
    cases r with
    | val v =>
      exact ((hpre.trans (Q.val_steps.cast (by omega))).ins hpop
        (c' := ⟨pc + (preLen h + size ls h) + 1, stk, σ'⟩) rfl).cast (by omega)
    | unit => have := unit_not_leaves (Q.1 : isUnitNode h = true); rw [hl] at this; cases this
    | brk => exact (Steps.trans hpre Q.2).cast (by omega)
    | cont => exact (Steps.trans hpre Q.2).cast (by omega)
    | err c => trivial
    | oof => trivial


/-! ### cells outlive frames, and are shared -/

/-- the cell a closure made in activation `a` holds for a captured name `x` is the cell `(a, x)` -/
theorem cellOf_made (i a : Nat) (us : List String) (x : String) (hx : x ∈ us) :
    Act.cellOf ⟨i, us.map fun y => (a, y)⟩ x = (a, x) := by
  unfold Act.cellOf
  induction us with
  | nil => cases hx
  | cons y r ih =>
    simp only [List.map_cons, List.find?_cons]
    by_cases hy : y = x
    · subst hy; simp
    · have : (y == x) = false := by simp [hy]
      simp only [this]
      rcases List.mem_cons.1 hx with h | h
      · exact absurd h.symm hy
      · exact ih h

/-- what `mkClo` makes of a literal that captures `x`: a closure whose cell for `x` is the cell of
    the RUNNING activation's `x` -/
theorem mkClo_callee (ls : Sc) (lit : N) (σ : Env) (x : String) (hx : x ∈ capt ls.ls lit) :
    (mkClo ls lit σ).1.callee = some ((lit, ls.ls), (capt ls.ls lit).map fun y => (σ.act.id, y)) := by
  have hne : (capt ls.ls lit).isEmpty = false := by
    cases h : capt ls.ls lit with
    | nil => rw [h] at hx; cases hx
    | cons _ _ => rfl
  simp [mkClo, hne, V.callee]

/-- **A closure outlives the frame that made it.**  Let a function literal `lit` whose body refers
    to the variable `x` of the enclosing function (`x ∈ capt`) be evaluated in ANY state `σ` (running
    activation `σ.act.id`), giving the closure `c = (mkClo ls lit σ).1`.  Take ANY later shared state
    `G` — nothing is assumed about the activation that made `c`: it may have RETURNED long ago, no
    frame of it need exist; only that serial numbers are not reused (`σ.act.id < G.next`) — and ANY
    call of `c` (any arguments `L`; the code of `c` resolves `x` as a free variable: `sc`).  In the
    activation the call enters (`G.enter cs L`):
    * reading `x` yields the CURRENT content of the cell `(σ.act.id, x)` — the creating activation's
      variable, as whoever wrote it last left it;
    * assigning `x := v` writes exactly that cell and no other;
    * the creating function, were it still running (or any other closure it made), would read `v`
      from its variable `x` afterwards;
    * the machine's `LoadFree x` / `StoreFree x` in that activation — over ANY stack of frames —
      push / update that same cell. -/
theorem closure_outlives_frame (ls : Sc) (lit : N) (σ : Env) (x : String) (hx : x ∈ capt ls.ls lit)
    (G : Sh) (hG : σ.act.id < G.next) (k : FnId) (cs : List Cell)
    (hc : (mkClo ls lit σ).1.callee = some (k, cs))
    (L : Store) (sc : Sc) (hl : sc.ls.contains x = false) (hf : sc.fr.contains x = true) (v : V) :
    (G.enter cs L).get sc x = G.cells.get σ.act.id x ∧
    ((G.enter cs L).set sc x v).sh.cells.get σ.act.id x = v ∧
    (∀ b y, (b, y) ≠ (σ.act.id, x) →
      ((G.enter cs L).set sc x v).sh.cells.get b y = (G.enter cs L).sh.cells.get b y) ∧
    (ls.ls.contains x = true → (⟨σ.act, ((G.enter cs L).set sc x v).sh⟩ : Env).get ls x = v) ∧
    (∀ pc stk, execIns (.loadFree x) ⟨pc, stk, G.enter cs L⟩
        = .ok ⟨pc + 2, G.cells.get σ.act.id x :: stk, G.enter cs L⟩) ∧
    (∀ pc stk, execIns (.storeFree x) ⟨pc, v :: stk, G.enter cs L⟩ = .ok ⟨pc + 2, stk, (G.enter cs L).set sc x v⟩) := by
  rw [mkClo_callee ls lit σ x hx] at hc
  cases hc
  have hcell : (G.enter ((capt ls.ls lit).map fun y => (σ.act.id, y)) L).act.cellOf x = (σ.act.id, x) :=
    cellOf_made _ _ _ _ hx
  have hne : σ.act.id ≠ G.next := by omega
  have hget : (G.enter ((capt ls.ls lit).map fun y => (σ.act.id, y)) L).sh.cells.get σ.act.id x = G.cells.get σ.act.id x :=
    cget_bind_other _ _ _ _ _ hne
  have hset : ∀ w, (G.enter ((capt ls.ls lit).map fun y => (σ.act.id, y)) L).set sc x w
      = { (G.enter ((capt ls.ls lit).map fun y => (σ.act.id, y)) L) with
          sh := { (G.enter ((capt ls.ls lit).map fun y => (σ.act.id, y)) L).sh with
            cells := (G.enter ((capt ls.ls lit).map fun y => (σ.act.id, y)) L).sh.cells.set σ.act.id x w } } := by
    intro w
    simp only [Env.set, hl, hf, hcell, Bool.false_eq_true, ↓reduceIte]
  refine ⟨?_, ?_, ?_, ?_, ?_, ?_⟩
  · simp only [Env.get, hl, hf, hcell, Bool.false_eq_true, ↓reduceIte]; exact hget
  · rw [hset]; exact cget_set_same ..
  · intro b y hby; rw [hset]; exact cget_set_other _ _ _ _ _ _ (fun e => hby (by rw [e.1, e.2]))
  · intro hown; rw [hset]; simp only [Env.get, hown, ↓reduceIte]; exact cget_set_same ..
  · intro pc stk; simp only [execIns, hcell, hget]
  · intro pc stk; rw [hset]; simp only [execIns, hcell]

/-- **Two closures of one activation share its variable.**  Two literals that both refer to the
    variable `x` of the enclosing function, evaluated by the SAME activation (in any two states
    `σ1`, `σ2` of it), give closures `c1`, `c2`.  When a call of `c1` — from any shared state `G`,
    with any arguments — assigns `x := v`, a call of `c2` made from the state that assignment
    leaves (any arguments) reads `v` from `x`: each observes the other's writes.  (Both hold the
    cell `(σ1.act.id, x)`; neither holds a copy.) -/
theorem closures_share_variable (ls : Sc) (lit1 lit2 : N) (σ1 σ2 : Env) (hsame : σ2.act.id = σ1.act.id)
    (x : String) (h1 : x ∈ capt ls.ls lit1) (h2 : x ∈ capt ls.ls lit2)
    (G : Sh) (hG : σ1.act.id < G.next) (k1 k2 : FnId) (cs1 cs2 : List Cell)
    (hc1 : (mkClo ls lit1 σ1).1.callee = some (k1, cs1)) (hc2 : (mkClo ls lit2 σ2).1.callee = some (k2, cs2))
    (L1 L2 : Store) (sc1 sc2 : Sc)
    (hl1 : sc1.ls.contains x = false) (hf1 : sc1.fr.contains x = true)
    (hl2 : sc2.ls.contains x = false) (hf2 : sc2.fr.contains x = true) (v : V) :
    ((((G.enter cs1 L1).set sc1 x v).sh).enter cs2 L2).get sc2 x = v := by
  have A := closure_outlives_frame ls lit1 σ1 x h1 G hG k1 cs1 hc1 L1 sc1 hl1 hf1 v
  have hnext : ((G.enter cs1 L1).set sc1 x v).sh.next = G.next + 1 := by
    simp only [Env.set, hl1, hf1, Bool.false_eq_true, ↓reduceIte, Sh.enter]
  have B := closure_outlives_frame ls lit2 σ2 x h2 ((G.enter cs1 L1).set sc1 x v).sh (by rw [hnext, hsame]; omega)
    k2 cs2 hc2 L2 sc2 hl2 hf2 v
  rw [B.1, hsame]
  exact A.2.1

/-! ### non-vacuity -/

/-- the counter factory: `func counter() { n := 0; return func() { n++; return n } }; c := counter(); c(); c()` → 2 -/
def exCounter : N :=
  .prog (.cons (.expr (.func "counter" .nilL
      (.block (.cons (.var "n" (.int 0))
        (.cons (.return_ (.func "" .nilL (.block (.cons (.postfix "n" true) (.cons (.return_ (.id "n")) .nilL))))) .nilL)))))
    (.cons (.var "c" (.call (.id "counter") .nilL))
    (.cons (.expr (.call (.id "c") .nilL))
    (.cons (.expr (.call (.id "c") .nilL)) .nilL))))

/-- the adder factory (a captured PARAMETER):
    `func adder(n) { return func(x) { return x + n } }; add5 := adder(5); add5(10) + adder(1)(2)` → 18 -/
def exAdder : N :=
  .prog (.cons (.expr (.func "adder" (.cons (.param "n" .none_) .nilL)
      (.block (.cons (.return_ (.func "" (.cons (.param "x" .none_) .nilL)
        (.block (.cons (.return_ (.infix .add (.id "x") (.id "n"))) .nilL)))) .nilL))))
    (.cons (.var "add5" (.call (.id "adder") (.cons (.int 5) .nilL)))
    (.cons (.expr (.infix .add (.call (.id "add5") (.cons (.int 10) .nilL))
        (.call (.call (.id "adder") (.cons (.int 1) .nilL)) (.cons (.int 2) .nilL)))) .nilL)))

/-- two closures sharing one variable, called after their maker returned:
    `inc := nil; get := nil
     func mk() { n := 0; inc = func() { n += 1; return n }; get = func() { return n } }
     mk(); inc(); inc(); get()` → 2 -/
def exShared : N :=
  .prog (.cons (.var "inc" .nilLit) (.cons (.var "get" .nilLit)
    (.cons (.expr (.func "mk" .nilL
      (.block (.cons (.var "n" (.int 0))
        (.cons (.assign "inc" .set (.func "" .nilL (.block (.cons (.assign "n" .add (.int 1)) (.cons (.return_ (.id "n")) .nilL)))))
        (.cons (.assign "get" .set (.func "" .nilL (.block (.cons (.return_ (.id "n")) .nilL)))) .nilL))))))
    (.cons (.expr (.call (.id "mk") .nilL))
    (.cons (.expr (.call (.id "inc") .nilL))
    (.cons (.expr (.call (.id "inc") .nilL))
    (.cons (.expr (.call (.id "get") .nilL)) .nilL)))))))

/-- the creating function writes after the capture and reads what it wrote through the closure:
    `func f() { n := 1; g := func() { return n * 10 }; n = 7; a := g(); n = n + 1; return a + n }; f()` → 78 -/
def exWriteAfter : N :=
  .prog (.cons (.expr (.func "f" .nilL
      (.block (.cons (.var "n" (.int 1))
        (.cons (.var "g" (.func "" .nilL (.block (.cons (.return_ (.infix .mul (.id "n") (.int 10))) .nilL))))
        (.cons (.assign "n" .set (.int 7))
        (.cons (.var "a" (.call (.id "g") .nilL))
        (.cons (.assign "n" .set (.infix .add (.id "n") (.int 1)))
        (.cons (.return_ (.infix .add (.id "a") (.id "n"))) .nilL)))))))))
    (.cons (.expr (.call (.id "f") .nilL)) .nilL))

/-- a closure passed to another function and called there (twice), keeping its state:
    `func twice(fn, x) { fn(fn(x)) }
     func mk() { calls := 0; return func(x) { calls++; return x * 2 + calls } }
     c := mk(); twice(c, 1) * 100 + twice(c, 1)` → (2·(2·1+1)+2)·100 + (2·(2·1+3)+4) = 814 -/
def exPassed : N :=
  .prog (.cons (.expr (.func "twice" (.cons (.param "fn" .none_) (.cons (.param "x" .none_) .nilL))
      (.block (.cons (.expr (.call (.id "fn") (.cons (.call (.id "fn") (.cons (.id "x") .nilL)) .nilL))) .nilL))))
    (.cons (.expr (.func "mk" .nilL
      (.block (.cons (.var "calls" (.int 0))
        (.cons (.return_ (.func "" (.cons (.param "x" .none_) .nilL)
          (.block (.cons (.postfix "calls" true)
            (.cons (.return_ (.infix .add (.infix .mul (.id "x") (.int 2)) (.id "calls"))) .nilL))))) .nilL)))))
    (.cons (.var "c" (.call (.id "mk") .nilL))
    (.cons (.expr (.infix .add
      (.infix .mul (.call (.id "twice") (.cons (.id "c") (.cons (.int 1) .nilL))) (.int 100))
      (.call (.id "twice") (.cons (.id "c") (.cons (.int 1) .nilL))))) .nilL))))

/-- a capture two function levels up is outside the fragment (recorded finding C02-positional-capture):
    `func f(a) { return func(b) { return func(c) { return a + c } } }; f(1)(2)(3)` -/
def exDepth2 : N :=
  .prog (.cons (.expr (.func "f" (.cons (.param "a" .none_) .nilL)
      (.block (.cons (.return_ (.func "" (.cons (.param "b" .none_) .nilL)
        (.block (.cons (.return_ (.func "" (.cons (.param "c" .none_) .nilL)
          (.block (.cons (.return_ (.infix .add (.id "a") (.id "c"))) .nilL)))) .nilL)))) .nilL))))
    (.cons (.expr (.call (.call (.call (.id "f") (.cons (.int 1) .nilL)) (.cons (.int 2) .nilL)) (.cons (.int 3) .nilL))) .nilL))

example : inClo exCounter = true := by decide +kernel
example : inClo exAdder = true := by decide +kernel
example : inClo exShared = true := by decide +kernel
example : inClo exWriteAfter = true := by decide +kernel
example : inClo exPassed = true := by decide +kernel
example : inClo exDepth2 = false := by decide +kernel
-- the counter: both sides count to 2; the closure's code is LoadFree n; PopTop; LoadFree n; 1; +; StoreFree n; LoadFree n; Return
example : (evalClo 60 exCounter).1 = .val (.int 2) := by decide +kernel
example : (runClo 400 (compClo exCounter)).1 = .done (.int 2) := by decide +kernel
example : ((compClo exCounter).funs.map (·.code.length)) = [17, 14] := by decide +kernel
-- three references to `n` in the closure's body: three cells are made, one per resolution
example : ((compClo exCounter).funs.map fun fc => (fc.code.filter fun i => match i with | some (.makeCell _) => true | _ => false).length)
    = [3, 0] := by decide +kernel
-- the adder: a captured parameter
example : (evalClo 60 exAdder).1 = .val (.int 18) := by decide +kernel
example : (runClo 400 (compClo exAdder)).1 = .done (.int 18) := by decide +kernel
-- two closures, one variable, the maker's frame gone
example : (evalClo 60 exShared).1 = .val (.int 2) := by decide +kernel
example : (runClo 400 (compClo exShared)).1 = .done (.int 2) := by decide +kernel
-- writes of the creating function after the capture are seen by the closure, and vice versa
example : (evalClo 60 exWriteAfter).1 = .val (.int 78) := by decide +kernel
example : (runClo 400 (compClo exWriteAfter)).1 = .done (.int 78) := by decide +kernel
-- a closure passed to `twice` and called there
example : (evalClo 60 exPassed).1 = .val (.int 814) := by decide +kernel
example : (runClo 600 (compClo exPassed)).1 = .done (.int 814) := by decide +kernel
example : (runClo 600 (compClo exPassed)).2 = (evalClo 60 exPassed).2 := by decide +kernel
-- the hypotheses of `clo_compile_correct` are satisfiable and its conclusion is the concrete run
example : ∃ fuel', runClo fuel' (compClo exCounter) = (.done (.int 2), (evalClo 60 exCounter).2) :=
  clo_compile_correct_toRun exCounter (by decide +kernel) 60 (.val (.int 2)) (evalClo 60 exCounter).2 (by decide +kernel) (by decide +kernel)

/-! ### the machine with relocation (`CloVM.lean`: locals in the frame until `CaptureLocals`) -/

/-- **Simulation on the machine that relocates locals, with the stores related by `RelC`.**
    `clo_simulation` composed with the lockstep refinement: let the node `n` be evaluated by the
    reference semantics from `σ` to the outcome `r` and the state `σ'`, its code sitting at `pc` of
    the running code object of a world `W`.  Take ANY state of the relocating machine related to
    `(pc, stk, σ)` over the frames `W.fs` — any heap `h`, any frame storages `cur` / `frs`, any set
    of captured activations `caps` with `RelC`: the semantics' cell `(a, x)` holds what the frame of
    activation `a` or, once captured, the heap slice `(a, ·)` holds.  Then that machine runs to a
    state which has the skeleton (position, operand stack, activation, globals, counter, frames) of
    the configuration `clo_simulation` names for `r`, and whose heap, frame storages and captured
    set are again related by `RelC` to the semantics' final cells `σ'.sh.cells`.  (Stated for the
    completing outcomes and for an error of a class, where the machine stops with the same class;
    nothing is claimed for a `return` outcome or out-of-fuel.) -/
theorem clo_simulation_vm (Φ : List FDecl) (P : Prog) (hP : Compiled Φ P) (hΦ : BodiesOK Φ) (hPP : ParamsPlain P)
    (W : World) (hW : W.P = P) (ls : Sc) (f : Nat) (n : N) (hwf : wf n = true) (kb kc : Nat)
    (pc : Nat) (stk : List V) (σ : Env) (r : Out) (σ' : Env)
    (hat : CodeAt W.code pc (comp ls kb kc n)) (he : ev Φ f ls n σ = (r, σ'))
    (h : Cells) (cur : Loc) (frs : List Loc) (caps : List Nat)
    (R : RelC ⟨⟨pc, stk, σ⟩, W.fn, W.fs⟩ h cur frs caps) :
    (match r with
     | .val v => ∃ h' cur' frs' caps',
        MSteps2 W.P (M2.of ⟨⟨pc, stk, σ⟩, W.fn, W.fs⟩ h cur frs caps)
          (M2.of ⟨⟨pc + size ls n, v :: stk, σ'⟩, W.fn, W.fs⟩ h' cur' frs' caps') ∧
        RelC ⟨⟨pc + size ls n, v :: stk, σ'⟩, W.fn, W.fs⟩ h' cur' frs' caps'
     | .unit => ∃ h' cur' frs' caps',
        MSteps2 W.P (M2.of ⟨⟨pc, stk, σ⟩, W.fn, W.fs⟩ h cur frs caps)
          (M2.of ⟨⟨pc + size ls n, stk, σ'⟩, W.fn, W.fs⟩ h' cur' frs' caps') ∧
        RelC ⟨⟨pc + size ls n, stk, σ'⟩, W.fn, W.fs⟩ h' cur' frs' caps'
     | .brk => ∃ h' cur' frs' caps',
        MSteps2 W.P (M2.of ⟨⟨pc, stk, σ⟩, W.fn, W.fs⟩ h cur frs caps)
          (M2.of ⟨⟨pc + size ls n + kb, stk, σ'⟩, W.fn, W.fs⟩ h' cur' frs' caps') ∧
        RelC ⟨⟨pc + size ls n + kb, stk, σ'⟩, W.fn, W.fs⟩ h' cur' frs' caps'
     | .cont => ∃ h' cur' frs' caps',
        MSteps2 W.P (M2.of ⟨⟨pc, stk, σ⟩, W.fn, W.fs⟩ h cur frs caps)
          (M2.of ⟨⟨pc + size ls n + kc, stk, σ'⟩, W.fn, W.fs⟩ h' cur' frs' caps') ∧
        RelC ⟨⟨pc + size ls n + kc, stk, σ'⟩, W.fn, W.fs⟩ h' cur' frs' caps'
     | .err (.cls c) => ∃ m1 h' cur' frs' caps',
        MSteps2 W.P (M2.of ⟨⟨pc, stk, σ⟩, W.fn, W.fs⟩ h cur frs caps) (M2.of m1 h' cur' frs' caps') ∧
        RelC m1 h' cur' frs' caps' ∧ m1.cfg.σ.sh = σ'.sh ∧ mstep2 W.P (M2.of m1 h' cur' frs' caps') = .error (.err c)
     | _ => True) := by
  have hPP' : ParamsPlain W.P := hW ▸ hPP
  have Q := clo_simulation Φ P hP hΦ W hW ls f n hwf kb kc pc stk σ r σ' hat he
  cases r with
  | val v => exact msteps_lock hPP' Q.2 h cur frs caps R
  | unit => exact msteps_lock hPP' Q.2 h cur frs caps R
  | brk => exact msteps_lock hPP' Q.2 h cur frs caps R
  | cont => exact msteps_lock hPP' Q.2 h cur frs caps R
  | oof => trivial
  | err x =>
    cases x with
    | ret v => trivial
    | cls c =>
      obtain ⟨m1, hs, hg, hst⟩ := Q
      obtain ⟨h', cur', frs', caps', hs2, R2⟩ := msteps_lock hPP' hs h cur frs caps R
      exact ⟨m1, h', cur', frs', caps', hs2, R2, hg, (lockstep hPP' m1 h' cur' frs' caps' R2).2 _ hst⟩

/-- a finished run of `runClo` is the run of the machine with relocation: same result, same globals -/
theorem runCloVM_eq (p : N) (k : Nat) (hr : (runClo k (compClo p)).1 ≠ .running) :
    runCloVM k (compClo p) = runClo k (compClo p) := by
  unfold runCloVM runClo
  rw [M2_init_of]
  exact mrun_lock (paramsPlain_compClo p) k M.init [] ⟨[], true⟩ [] [0] RelC_init hr

/-- **Compiler correctness down to the machine that keeps locals in the frame until they are
    captured**: for every program of the fragment and every fuel, if the reference semantics ends
    with a value or an error, the machine with relocation (`CloVM.lean`: `frame.CaptureLocals` at the
    first `MakeCell` of an activation, uncaptured frames dropped at return) halts on the compiled
    program with the same value / the same error class and the same final globals. -/
theorem clo_compile_correct_vm (p : N) (hp : inClo p = true) (fuel : Nat) (r : Out) (G' : Store)
    (he : evalClo fuel p = (r, G')) (hr : r ≠ .oof) :
    (∃ v, r = .val v ∧ ∃ fuel', runCloVM fuel' (compClo p) = (.done v, G')) ∨
    (∃ c, r = .err (.cls c) ∧ ∃ fuel', runCloVM fuel' (compClo p) = (.err c, G')) := by
  rcases clo_compile_correct p hp fuel r G' he hr with ⟨v, rfl, k, hk⟩ | ⟨c, rfl, k, hk⟩
  · exact .inl ⟨v, rfl, k, by rw [runCloVM_eq p k (by rw [hk]; intro h; cases h), hk]⟩
  · exact .inr ⟨c, rfl, k, by rw [runCloVM_eq p k (by rw [hk]; intro h; cases h), hk]⟩

-- the examples on the machine with relocation
example : (runCloVM 400 (compClo exCounter)).1 = .done (.int 2) := by decide +kernel
example : (runCloVM 400 (compClo exShared)).1 = .done (.int 2) := by decide +kernel
example : (runCloVM 400 (compClo exWriteAfter)).1 = .done (.int 78) := by decide +kernel
example : (runCloVM 600 (compClo exPassed)).1 = .done (.int 814) := by decide +kernel

end Risor.C01.Clo
