import RisorModel.C01.VM
/-!
C01 — theorems about the VM model's run functions (the executable definitions that the
correspondence check drives).  `runVMTrace` is the run used for the LOCKSTEP tie with
`vm.eval` (the harness compares its dispatch trace with the real VM's through the
build-tag-guarded hook `vm.VerifTrace`); these theorems say that observing a run does not
change it, and that the trace of a longer run extends the trace of a shorter one, for every
machine state and every fuel.
-/
namespace Risor.C01

/-- **Observing does not disturb.**  For every fuel, machine state and trace prefix, the traced
    run ends with exactly the result and final state of the plain run `runVM`. -/
theorem runVMTrace_eq (f : Nat) (m : VM) (t : Array (String × Nat × Nat)) :
    (runVMTrace f m t).1 = runVM f m := by
  induction f generalizing m t with
  | zero => rfl
  | succ f ih =>
    simp only [runVMTrace, runVM]
    cases h : step m with
    | ok m' => simp only [ih]
    | error r => rfl

/-- the trace only grows: what was recorded before the run stays a prefix -/
theorem runVMTrace_extends (f : Nat) (m : VM) (t : Array (String × Nat × Nat)) :
    ∃ ext : List (String × Nat × Nat), (runVMTrace f m t).2.toList = t.toList ++ ext := by
  induction f generalizing m t with
  | zero => exact ⟨[], by simp [runVMTrace]⟩
  | succ f ih =>
    simp only [runVMTrace]
    cases hd : dispatchInfo m with
    | none =>
      cases h : step m with
      | ok m' => simpa using ih m' t
      | error r => exact ⟨[], by simp⟩
    | some e =>
      cases h : step m with
      | ok m' =>
        obtain ⟨ext, he⟩ := ih m' (t.push e)
        exact ⟨e :: ext, by simp [he]⟩
      | error r => exact ⟨[e], by simp⟩

/-- at most one observation per step: a run of `f` steps dispatches at most `f` instructions -/
theorem runVMTrace_size_le (f : Nat) (m : VM) (t : Array (String × Nat × Nat)) :
    (runVMTrace f m t).2.size ≤ t.size + f := by
  induction f generalizing m t with
  | zero => simp [runVMTrace]
  | succ f ih =>
    simp only [runVMTrace]
    cases hd : dispatchInfo m with
    | none =>
      cases h : step m with
      | ok m' => have := ih m' t; simp only; omega
      | error r => simp only; omega
    | some e =>
      cases h : step m with
      | ok m' => have := ih m' (t.push e); simp only [Array.size_push] at this ⊢; omega
      | error r => simp only [Array.size_push]; omega

/-- **Fuel monotonicity of the trace.**  The dispatch trace of a run with more fuel extends the
    trace of the run with less: the instruction sequence the model executes does not depend on
    when it is stopped. -/
theorem runVMTrace_fuel_mono (f k : Nat) (m : VM) (t : Array (String × Nat × Nat)) :
    ∃ ext : List (String × Nat × Nat),
      (runVMTrace (f + k) m t).2.toList = (runVMTrace f m t).2.toList ++ ext := by
  induction f generalizing m t with
  | zero =>
    obtain ⟨ext, he⟩ := runVMTrace_extends k m t
    exact ⟨ext, by simpa [runVMTrace] using he⟩
  | succ f ih =>
    have hk : f + 1 + k = (f + k) + 1 := by omega
    rw [hk]
    simp only [runVMTrace]
    cases h : step m with
    | ok m' => exact ih m' _
    | error r => exact ⟨[], by simp⟩

/-- a run that has ended (anything but `running`) is not changed by more fuel -/
theorem runVM_stable (f k : Nat) (m : VM) (h : (runVM f m).1 ≠ .running) :
    runVM (f + k) m = runVM f m := by
  induction f generalizing m with
  | zero => simp [runVM] at h
  | succ f ih =>
    have hk : f + 1 + k = (f + k) + 1 := by omega
    rw [hk]
    simp only [runVM] at h ⊢
    cases hs : step m with
    | ok m' => simp only [hs] at h; exact ih m' h
    | error r => rfl

/-- a closed instance: `1 + 2` (LoadConst 0; LoadConst 1; BinaryOp 1 = Add) dispatches three
    instructions of the main code, at slots 0, 2, 4 and stack heights 0, 1, 2 -/
example :
    let code : CodeB := { id := "__main__", ins := #[(0, { op := .loadConst, a := 0 }), (2, { op := .loadConst, a := 1 }), (4, { op := .binaryOp, a := 1 })],
                          len := 6, consts := #[.int 1, .int 2], names := #[] }
    (runCodesTrace 10 [] [code]).2.toList = [("__main__", 0, 0), ("__main__", 2, 1), ("__main__", 4, 2)] := by
  decide +kernel

/-- the repaired defect, kept as a checked statement: before the repair a set literal holding a
    list evaluated to an error VALUE (nothing was raised); the reference semantics and the repaired
    VM raise a type error -/
theorem C01_fixed_set_literal_was_error_value :
    buildSetPreFix [.list 0, .int 2] = some (.err "type" none) ∧ buildSetPreFix [.int 1, .int 2] = none := by
  constructor <;> rfl

end Risor.C01
