import RisorModel.C01.SeqLemmas
/-!
C01 — COMPILER CORRECTNESS for fragment F6 = MUTABLE CONTAINERS WITH IDENTITY AND ITERATION
(`inSeq`, Seq.lean), proved for ALL programs of the fragment, ALL fuel, ALL operand stacks and
ALL states (globals + heap).

The fragment: everything of F1 + F2 + F3 (FragProps.lean: scalar expressions with their errors,
`&&` / `||`, unary operators, ternary, if / else-if / else, `:=`, assignments, `++`, statement
lists, the three `for` forms, break / continue in statement position, switch), top-level
programs with global variables, PLUS
  * list literals `[e1, …, en]` (`e1 … en; BuildList n`): a NEW object at the next free address;
  * index reads `a[i]` (`a; i; BinarySubscr`) with risor's negative-index rule
    (`object.ResolveIndex`), the error class "index" out of range, "type" for an index that is
    not an int and for an object that is not a container;
  * item assignment `a[i] = e` (`e; a; i; StoreSubscr`) and `a[i] op= e`
    (`a; i; BinarySubscr; e; BinaryOp; a; i; StoreSubscr`: container and index expressions are
    evaluated TWICE, finding C01-compound-index-evaluated-twice: the model follows the code);
  * values are REFERENCES: `b := a` copies the reference, a write through one is read through
    the other; list equality `==` / `!=` is deep (`List.Equals`), a list is truthy when not empty;
  * range loops `for k, v := range c { }`, `for k := range c { }`, `for range c { }`,
    `for v in c { }` (`c; GetIter; ForIter d m; StoreGlobal…; body; PopTop; JumpBackward`) over a
    list or an int: the iterator object sits in the loop's operand-stack slot, `ForIter` drops
    it on exhaustion, `break` is `PopTop; JumpForward` (drops it), `continue` jumps to the
    backward jump (keeps it); the list is re-read at every round (`iter.l.items`), so writes of
    the body to later positions are seen.
Not in the fragment: functions / calls (`len`), slices, sets, maps, strings as containers,
`list + list`, ordered comparison of lists (both sides give the class "unsupported" for these),
`append` (no construct of the fragment changes the length of a list).

The store / heap relation of the simulation is the IDENTITY: the machine (`step`) runs on the
same state type `St` (globals and heap) as the reference semantics (`ev`), list objects get the
same addresses on both sides, so values are compared by `=` (same scalars, same addresses) and
final states by `=` (same globals, same heap) — stronger than equality up to heap isomorphism
or of deep (printed) values, which follow from it.

What ties the three definitions to the Go code is checked by correspondence on every run
(harness/c01seq.go): `compSeq` = real bytecode = `Compile.lean`; `evalSeq` = `Sem.lean` = real
result (deep value and final globals); `runSeq ∘ compSeq` = `VM.lean` = real result.
-/
namespace Risor.C01.Seq
open Risor.C01
open Risor.C01.Frag (isNilL leaves isBlock isElse isL isInit isPost opOK postName isDefault countDefault
  dfltBody assignK nodup preLen)

/-- **Simulation, at full strength** (the generalisation of `frag_simulation` over the heap).  For
    every well-formed node `n`, every enclosing code in which the code of `n` sits at offset `pc` —
    compiled for an enclosing loop whose `break` target lies `kb` and whose `continue` target lies
    `kc` slots after the end of `n`, that loop being a range loop iff `rng` —, every operand stack
    `stk`, every state `σ` (globals and heap) and every fuel: if the reference semantics gives `r`
    with final state `σ'` then the machine, from `(pc, stk, σ)`,
    * `r = val v`  — runs to `(pc + size n, v :: stk, σ')` (and `n` is not a unit statement);
    * `r = unit`   — runs to `(pc + size n, stk, σ')` (and `n` is a unit statement);
    * `r = brk`    — runs to the loop's break target with the stack `stk` it started with, or,
      when the loop is a range loop, with `stk` WITHOUT ITS TOP (the iterator, which the `break`
      pops): for every `out` with `BrkStk rng stk out`;
    * `r = cont`   — runs to the loop's continue target with `stk` (iterator included);
    * `r = err c`  — reaches a configuration with state `σ'` whose next step raises class `c`;
    * `r = oof`    — nothing is claimed.
    The final state of the machine IS the final state of the semantics (same heap). -/
theorem seq_simulation (code : Code) (f : Nat) (n : N) (hwf : wf n = true) (kb kc : Nat) (rng : Bool)
    (pc : Nat) (stk : List SVal) (σ : St) (r : Out) (σ' : St)
    (hat : CodeAt code pc (comp kb kc rng n)) (he : ev f n σ = (r, σ')) :
    (match r with
     | .val v => isUnitNode n = false ∧ Steps code ⟨pc, stk, σ⟩ ⟨pc + size rng n, v :: stk, σ'⟩
     | .unit => isUnitNode n = true ∧ Steps code ⟨pc, stk, σ⟩ ⟨pc + size rng n, stk, σ'⟩
     | .brk => escapes n = true ∧
        ∀ out, BrkStk rng stk out → Steps code ⟨pc, stk, σ⟩ ⟨pc + size rng n + kb, out, σ'⟩
     | .cont => escapes n = true ∧ Steps code ⟨pc, stk, σ⟩ ⟨pc + size rng n + kc, stk, σ'⟩
     | .err c => ∃ c1, Steps code ⟨pc, stk, σ⟩ c1 ∧ c1.σ = σ' ∧ step code c1 = .error (.err c)
     | .oof => True) := by
  have P := ev_sim code f n hwf kb kc rng pc stk σ r σ' hat he
  cases r with
  | err c => exact P.2
  | oof => trivial
  | _ => exact P

theorem seq_code_length (n : N) (kb kc : Nat) (rng : Bool) : (comp kb kc rng n).length = size rng n :=
  comp_length n kb kc rng

/-- **Compiler correctness for the fragment** (the property C01 on `inSeq`): for every program `p`
    of the fragment and every fuel, if the reference semantics ends (anything but out-of-fuel)
    then it ends with a value or an error — never with a stray break/continue — and there is a
    fuel for which the machine, run on the compiled code from the empty stack and the empty
    state, halts with the SAME value (the same scalar / the same list address), resp. the SAME
    error class, and the SAME final state: the same globals and the same heap. -/
theorem seq_compile_correct (p : N) (hp : inSeq p = true) (fuel : Nat) (r : Out) (σ' : St)
    (he : evalSeq fuel p = (r, σ')) (hr : r ≠ .oof) :
    (∃ v, r = .val v ∧ ∃ fuel', runSeq fuel' (compSeq p) = (.done v, σ')) ∨
    (∃ c, r = .err c ∧ ∃ fuel', runSeq fuel' (compSeq p) = (.err c, σ')) := by
  obtain ⟨hwf, hun, hesc⟩ : wf p = true ∧ isUnitNode p = false ∧ escapes p = false := by
    cases p with
    | prog s =>
      have hp : (wf (.prog s) && wellScoped (.prog s)) = true := hp
      have hw := (Bool.and_eq_true _ _ ▸ hp).1
      have hw' : (isL s && !escapes s && wf s) = true := hw
      simp only [Bool.and_eq_true, Bool.not_eq_true'] at hw'
      exact ⟨hw, rfl, hw'.1.2⟩
    | _ => cases hp
  have P := (ev_sim (compSeq p) fuel).operand hwf hun hesc (stk := []) (CodeAt.self _) he
  -- the machine stops at the end of the code (a value) or at the failing instruction
  have halt : ∀ {c1 : Cfg} {res : RunRes}, Steps (compSeq p) ⟨0, [], St.empty⟩ c1 →
      run (compSeq p) 1 c1 = (res, σ') → ∃ fuel', runSeq fuel' (compSeq p) = (res, σ') := fun hs h1 =>
    have ⟨n, hn⟩ := run_of_steps hs
    ⟨n + 1, (hn 1).trans h1⟩
  cases r with
  | val v =>
    refine .inl ⟨v, rfl, halt P ?_⟩
    have hend : (compSeq p).length ≤ size false p := by rw [compSeq, comp_length]; omega
    simp [run, step, hend]
  | err c =>
    obtain ⟨c1, hs, hσ, hst⟩ := P
    exact .inr ⟨c, rfl, halt hs (by simp [run, hst, hσ])⟩
  | oof => exact absurd rfl hr
  | _ => exact P.elim

theorem seq_compile_correct_toRun (p : N) (hp : inSeq p = true) (fuel : Nat) (r : Out) (σ' : St)
    (he : evalSeq fuel p = (r, σ')) (hr : r ≠ .oof) :
    ∃ fuel', runSeq fuel' (compSeq p) = (r.toRun, σ') := by
  rcases seq_compile_correct p hp fuel r σ' he hr with ⟨v, rfl, k, hk⟩ | ⟨c, rfl, k, hk⟩
  · exact ⟨k, hk⟩
  · exact ⟨k, hk⟩

/-- the outcome found by `seq_compile_correct` is THE outcome of the machine: every larger fuel
    gives the same halted result -/
theorem seq_run_stable (code : Code) (k j : Nat) (res : RunRes) (σ : St)
    (h : runSeq k code = (res, σ)) (hr : res ≠ .running) : runSeq (k + j) code = (res, σ) := by
  induction j with
  | zero => exact h
  | succ j ih => exact run_mono (k + j) _ res σ ih hr

/-- **An expression pushes exactly one value**: any node that is not a unit statement (an
    expression — a list literal, an index read included —, an expression statement, a block, a
    statement list), compiled anywhere, started on any operand stack `stk` in any state: when the
    reference semantics gives the value `v`, the machine ends exactly at the end of the node's
    code with `v` pushed on an otherwise untouched `stk` and the semantics' final state. -/
theorem seq_expr_pushes_one (code : Code) (f : Nat) (n : N) (hwf : wf n = true) (kb kc : Nat) (rng : Bool)
    (pc : Nat) (stk : List SVal) (σ σ' : St) (v : SVal)
    (hat : CodeAt code pc (comp kb kc rng n)) (he : ev f n σ = (.val v, σ')) :
    Steps code ⟨pc, stk, σ⟩ ⟨pc + (comp kb kc rng n).length, v :: stk, σ'⟩ := by
  rw [comp_length]
  exact (ev_sim code f n hwf kb kc rng pc stk σ _ σ' hat he).val_steps

/-- what `compileStmts` emits for a statement that is not the last of its list -/
def stmtCode (kb kc : Nat) (rng : Bool) (h : N) : Code :=
  pre h ++ comp (kb + (if leaves h then 1 else 0)) (kc + (if leaves h then 1 else 0)) rng h
    ++ (if leaves h then one .popTop else [])

/-- **Statements are stack-neutral** (C04's property, for the fragment).  Every statement of the
    fragment (`:=`, assignments, item assignments, `++`, expression statements, `break`,
    `continue`, the three `for` forms and the RANGE LOOPS — with arbitrarily nested bodies),
    compiled anywhere as `compileStmts` compiles a statement, started on any operand stack `stk`:
    however it ends — completing (with `unit` or with a value), or leaving through a `continue` —
    the operand stack is exactly `stk` again; a `break` leaves `stk`, minus the iterator on its
    top when the enclosing loop is a range loop.  In particular a range loop statement leaves
    the stack as it found it (its iterator slot is gone) on normal exit and on its own breaks. -/
theorem seq_stmt_neutral (code : Code) (f : Nat) (h : N) (hwf : wf h = true) (hs : isS h = true)
    (kb kc : Nat) (rng : Bool) (pc : Nat) (stk : List SVal) (σ σ' : St) (r : Out)
    (hat : CodeAt code pc (stmtCode kb kc rng h)) (he : ev f h σ = (r, σ')) :
    (match r with
     | .val _ => Steps code ⟨pc, stk, σ⟩ ⟨pc + (stmtCode kb kc rng h).length, stk, σ'⟩
     | .unit => Steps code ⟨pc, stk, σ⟩ ⟨pc + (stmtCode kb kc rng h).length, stk, σ'⟩
     | .brk => ∀ out, BrkStk rng stk out →
        Steps code ⟨pc, stk, σ⟩ ⟨pc + (stmtCode kb kc rng h).length + kb, out, σ'⟩
     | .cont => Steps code ⟨pc, stk, σ⟩ ⟨pc + (stmtCode kb kc rng h).length + kc, stk, σ'⟩
     | _ => True) := by
  unfold stmtCode at hat ⊢
  rw [List.append_assoc] at hat
  obtain ⟨hatp, hat⟩ := hat.app (pre_length h)
  obtain ⟨hath, htail⟩ := hat.app (comp_length h _ _ rng)
  have hpre := pre_steps h pc stk σ hatp
  have P := ev_sim code f h hwf _ _ rng _ stk σ r σ' hath he
  simp only [List.length_append, pre_length, comp_length]
  simp only [isS, Bool.or_eq_true] at hs
  cases hl : leaves h with
  | false =>
    simp only [hl, Bool.false_eq_true, ↓reduceIte, Nat.add_zero, List.length_nil] at P ⊢
    cases r with
    | val v => cases hs.elim (fun hu => (P.1 : _ = false).symm.trans hu) (fun hl' => hl.symm.trans hl')
    | unit => exact (hpre.trans P.unit_steps).cast (by omega)
    | brk => exact fun out ho => (hpre.trans (P.2 out ho)).cast (by omega)
    | cont => exact (hpre.trans P.2).cast (by omega)
    | err c => trivial
    | oof => trivial
  | true =>
    simp only [hl, ↓reduceIte, one_length] at P htail ⊢
    cases r with
    | val v => exact ((hpre.trans P.val_steps).ins (CodeAt.head htail) execIns_popTop).cast (by omega)
    | unit => cases (unit_not_leaves P.1).symm.trans hl
    | brk => exact fun out ho => (hpre.trans (P.2 out ho)).cast (by omega)
    | cont => exact (hpre.trans P.2).cast (by omega)
    | err c => trivial
    | oof => trivial

/-- **The iterator slot of a range loop.**  The body block `b` of a range loop runs with the
    iterator `it` on top of the loop's stack `stk`, compiled with the loop's targets (`break` 3
    slots, `continue` 1 slot after the body: the exit / the backward jump).  Whatever the body
    does: a completed round ends with `v :: it :: stk` (the `PopTop` after the body then leaves
    `it :: stk`), a `continue` arrives at the backward jump with `it :: stk` (iterator kept), a
    `break` arrives at the loop's exit with `stk` (iterator popped: the stack the loop found). -/
theorem range_body_discipline (code : Code) (f : Nat) (b : N) (hwf : wf b = true) (hb : isBlock b = true)
    (pc : Nat) (it : SVal) (stk : List SVal) (σ σ' : St) (r : Out)
    (hat : CodeAt code pc (comp 3 1 true b)) (he : ev f b σ = (r, σ')) :
    (match r with
     | .val v => Steps code ⟨pc, it :: stk, σ⟩ ⟨pc + size true b, v :: it :: stk, σ'⟩
     | .cont => Steps code ⟨pc, it :: stk, σ⟩ ⟨pc + size true b + 1, it :: stk, σ'⟩
     | .brk => Steps code ⟨pc, it :: stk, σ⟩ ⟨pc + size true b + 3, stk, σ'⟩
     | .unit => False
     | _ => True) := by
  have P := ev_sim code f b hwf 3 1 true pc (it :: stk) σ r σ' hat he
  cases r with
  | val v => exact P.2
  | cont => exact P.2
  | brk => exact P.2 stk ⟨it, rfl⟩
  | unit => cases (isBlock_not_unit hb).symm.trans P.1
  | err c => trivial
  | oof => trivial

/-! ### identity: aliasing and freshness -/

/-- **A write through one reference is read through every other reference to the same list.**
    Two references to a list are the same value `ref a` wherever they are kept (two variables after
    `b := a`, an element of another list, an operand-stack slot).  In any state: if the item
    assignment `r[i] = nv` through one of them succeeds, then reading `r'[i]` through any other
    one gives `nv`.  (`StoreSubscr` / `BinarySubscr` of the machine are `setItemS` / `getItemS`
    on the same state, so the statement holds verbatim for the machine: `alias_write_visible_vm`.) -/
theorem alias_write_visible (σ σ' : St) (a : Nat) (r r' i nv : SVal) (hr : r = .ref a) (hr' : r' = .ref a)
    (h : setItemS σ r i nv = .ok σ') : getItemS σ' r' i = .ok nv := by
  subst hr hr'
  obtain ⟨k, j, rfl, hres, ha, rfl⟩ := setItemS_ok h
  have hj := resolveIndex_lt hres
  simp only [getItemS, items_write_same _ _ _ ha, List.length_set, hres]
  congr 1
  simp [List.getD, hj.2]

/-- the same for two VARIABLES holding the same list (`b := a; b[i] = nv; a[i]`): the write does
    not touch the globals, so `y` still holds the reference and reads the new item -/
theorem alias_write_visible_vars (σ σ' : St) (x y : String) (a : Nat) (i nv : SVal)
    (hx : σ.get x = .ref a) (hy : σ.get y = .ref a) (h : setItemS σ (σ.get x) i nv = .ok σ') :
    σ'.get y = .ref a ∧ getItemS σ' (σ'.get y) i = .ok nv := by
  rw [hx] at h
  obtain ⟨k, j, rfl, hres, ha, rfl⟩ := setItemS_ok h
  have hg : (σ.write a ((σ.items a).set j.toNat nv)).get y = .ref a := by simpa [St.get, St.write] using hy
  refine ⟨hg, ?_⟩
  rw [hg]
  exact alias_write_visible σ _ a (.ref a) (.ref a) (.int k) nv rfl rfl h

/-- the machine's side: `StoreSubscr` through one reference, then `BinarySubscr` through another
    reference to the same object with the same index, pushes the stored value -/
theorem alias_write_visible_vm (σ : St) (a : Nat) (i nv : SVal) (pc : Nat) (s : List SVal) (c1 : Cfg)
    (h : execIns .storeSubscr ⟨pc, i :: .ref a :: nv :: s, σ⟩ = .ok c1) (pc' : Nat) (s' : List SVal) :
    execIns .binarySubscr ⟨pc', i :: .ref a :: s', c1.σ⟩ = .ok ⟨pc' + 1, nv :: s', c1.σ⟩ := by
  rw [execIns_storeSubscr] at h
  cases hs : setItemS σ (.ref a) i nv with
  | error e => rw [hs] at h; cases h
  | ok σ1 =>
    rw [hs] at h; cases h
    exact execIns_binarySubscr.trans (pushRes_ok (alias_write_visible σ σ1 a _ _ i nv rfl rfl hs))

/-- a write to one object is not visible in any other object -/
theorem write_other_untouched (σ σ' : St) (a b : Nat) (i nv : SVal) (hab : b ≠ a)
    (h : setItemS σ (.ref a) i nv = .ok σ') : σ'.items b = σ.items b := by
  obtain ⟨k, j, rfl, _, _, rfl⟩ := setItemS_ok h
  exact items_write_other σ a b _ hab

/-- the value of a list literal is a reference to a NEW object: its address is the first one not
    allocated in the state in which its items were evaluated, and the objects of that state are
    unchanged by the allocation -/
theorem literal_allocates (f : Nat) (items : N) (σ σ' : St) (v : SVal)
    (he : ev (f + 1) (.list items) σ = (.val v, σ')) :
    ∃ σ1 vs, evItems (ev f) items σ = (.ok vs, σ1) ∧ v = .ref σ1.h.length ∧ σ'.g = σ1.g ∧
      σ'.h = σ1.h ++ [vs] ∧ σ'.items σ1.h.length = vs ∧ ∀ b, b < σ1.h.length → σ'.items b = σ1.items b := by
  change evNode f (ev f) (.list items) σ = _ at he
  unfold evNode at he
  simp only at he
  rcases hi : evItems (ev f) items σ with ⟨ri, σ1⟩
  rw [hi] at he
  cases ri with
  | error o =>
    cases he
    exact absurd rfl (evItems_error_not_val _ _ _ _ _ hi v)
  | ok vs =>
    cases he
    refine ⟨σ1, vs, rfl, rfl, rfl, rfl, ?_, ?_⟩
    · simp [St.items, St.alloc, List.getD]
    · intro b hb
      simp [St.items, St.alloc, List.getD, List.getElem?_append_left hb]

/-- **every evaluation extends the state** (`ev_ext`, SeqLemmas.lean): the heap only grows and no
    list changes its length — for every node (well-formed or not), fuel, state and outcome -/
theorem ev_heap_mono (f : Nat) (n : N) (σ σ' : St) (r : Out) (he : ev f n σ = (r, σ')) :
    σ.h.length ≤ σ'.h.length ∧ ∀ a, a < σ.h.length → (σ'.items a).length = (σ.items a).length :=
  ev_ext f n σ r σ' he

/-- truthiness of a value that refers to allocated objects only does not change along an
    evaluation (no construct of the fragment changes the length of a list): the second test of the
    left operand that `BinaryOp And / Or` makes after the right operand ran (`evNode`, `.infix`)
    always agrees with the first -/
theorem truthy_stable (σ1 σ2 : St) (v : SVal) (h : Ext σ1 σ2)
    (hv : ∀ a, (v = .ref a ∨ ∃ p, v = .iterL a p) → a < σ1.h.length) : v.truthy σ2 = v.truthy σ1 := by
  cases v with
  | ref a =>
    have := h.2 a (hv a (.inl rfl))
    simp only [SVal.truthy]
    cases h2 : σ2.items a <;> cases h1 : σ1.items a <;> simp_all
  | iterL a p =>
    have := h.2 a (hv a (.inr ⟨p, rfl⟩))
    simp only [SVal.truthy, this]
  | _ => rfl

/-- **Two evaluations of a list literal give distinct objects.**  A list literal evaluated to `v1`,
    then ANY evaluation in between (any node `n` — the rest of a loop round, say —, any outcome),
    then a list literal (the same one again, or any other) evaluated to `v2`: the two values are
    references to DIFFERENT objects, and a write to either of them is not visible in the other. -/
theorem literal_is_fresh (f1 f2 g : Nat) (items1 items2 n : N) (σ σ1 σ2 σ3 : St) (v1 v2 : SVal) (r : Out)
    (h1 : ev (f1 + 1) (.list items1) σ = (.val v1, σ1))
    (hmid : ev g n σ1 = (r, σ2))
    (h2 : ev (f2 + 1) (.list items2) σ2 = (.val v2, σ3)) :
    ∃ a1 a2, v1 = .ref a1 ∧ v2 = .ref a2 ∧ a1 ≠ a2 ∧
      (∀ i nv σ4, setItemS σ3 (.ref a2) i nv = .ok σ4 → σ4.items a1 = σ3.items a1) ∧
      (∀ i nv σ4, setItemS σ3 (.ref a1) i nv = .ok σ4 → σ4.items a2 = σ3.items a2) := by
  obtain ⟨σa, vs1, _, hv1, _, hh1, _, _⟩ := literal_allocates f1 items1 σ σ1 v1 h1
  obtain ⟨σb, vs2, hi2, hv2, _, _, _, _⟩ := literal_allocates f2 items2 σ2 σ3 v2 h2
  have e1 : σ1.h.length = σa.h.length + 1 := by rw [hh1]; simp
  have e2 := (ev_ext g n σ1 r σ2 hmid).1
  have e3 := (evItems_ext (ev_ext f2) items2 σ2 _ σb hi2).1
  have hne : σa.h.length ≠ σb.h.length := by omega
  refine ⟨σa.h.length, σb.h.length, hv1, hv2, hne, ?_, ?_⟩
  · intro i nv σ4 hs; exact write_other_untouched σ3 σ4 _ _ i nv hne hs
  · intro i nv σ4 hs; exact write_other_untouched σ3 σ4 _ _ i nv (Ne.symm hne) hs

/-! ### iteration -/

/-- the rounds a range loop over the items `l` makes, spelled out: the body is run on
    `(i, l[i])` for `i = pos, pos + 1, …` in this order, once per item; a `break` ends the loop,
    an error (or the body running out of fuel) is the loop's outcome -/
def visitAll (names : List String) (m : Nat) (body : St → Out × St) : Nat → List SVal → St → Out × St
  | _, [], σ => (.unit, σ)
  | i, x :: rest, σ =>
    match pushKV m (.int i) x with
    | none => (.err "eval", σ)
    | some vals =>
      match body (bindAll names vals σ) with
      | (.brk, σ2) => (.unit, σ2)
      | (.val _, σ2) => visitAll names m body (i + 1) rest σ2
      | (.cont, σ2) => visitAll names m body (i + 1) rest σ2
      | other => other

theorem range_visits_from (names : List String) (m : Nat) (body : St → Out × St) (a : Nat) (l : List SVal)
    (hbody : ∀ σ r σ1, σ.items a = l → body σ = (r, σ1) → σ1.items a = l) :
    ∀ (k pos : Nat) (σ : St), σ.items a = l → l.length - pos < k →
      rangeF names m body k (.iterL a pos) σ = visitAll names m body pos (l.drop pos) σ := by
  intro k
  induction k with
  | zero => intro pos σ _ hk; omega
  | succ k ih =>
    intro pos σ hl hk
    simp only [rangeF, iterNext, hl]
    cases hx : l[pos]? with
    | none =>
      rw [List.drop_eq_nil_of_le (List.getElem?_eq_none_iff.mp hx)]
      rfl
    | some x =>
      obtain ⟨hlt, hx⟩ := List.getElem?_eq_some_iff.mp hx
      rw [List.drop_eq_getElem_cons hlt, hx]
      simp only [visitAll]
      cases hp : pushKV m (.int pos) x with
      | none => rfl
      | some vals =>
        simp only
        rcases hb : body (bindAll names vals σ) with ⟨rb, σ2⟩
        have h2 := hbody _ _ _ (by rw [bindAll_items]; exact hl) hb
        cases rb with
        | val w => exact ih (pos + 1) σ2 h2 (by omega)
        | cont => exact ih (pos + 1) σ2 h2 (by omega)
        | _ => rfl

/-- **A range loop over a list that its body does not mutate visits the items in order.**  On the
    semantics' side: a range loop (any of the four forms: `names` / `m`) over the list at address
    `a`, whose items are `l` when the loop starts, with a body that leaves THAT list as it is
    (it may write other lists and any variable), run with enough fuel (more rounds than items):
    the body is run on `(0, l[0]), (1, l[1]), …` in increasing index order, exactly once per item
    — `l.length` times when no round breaks or fails —, then the loop completes.  (`visitAll`
    spells the rounds out by recursion on `l`.)  The simulation (`seq_simulation` on the
    `forrange` / `forin` node) transfers the statement to the compiled code: the machine ends in
    the state `visitAll …` computes. -/
theorem range_visits_in_order (names : List String) (m : Nat) (body : St → Out × St) (a : Nat) (σ : St)
    (hbody : ∀ σ0 r σ1, σ0.items a = σ.items a → body σ0 = (r, σ1) → σ1.items a = σ.items a)
    (k : Nat) (hk : (σ.items a).length < k) :
    rangeOver names m body k (.ref a) σ = visitAll names m body 0 (σ.items a) σ := by
  simp only [rangeOver, getIterS]
  exact range_visits_from names m body a (σ.items a) hbody k 0 σ rfl (by omega)

/-- `range_visits_in_order` transferred to the compiled code by the simulation: a `for k, v := range c`
    loop whose container evaluates to the list at `a` and whose body does not mutate that list,
    compiled anywhere, started on any stack: when the rounds `visitAll` spells out (the body on
    `(0, l[0]), (1, l[1]), …`) complete in state `σ'`, the machine runs from the start of the loop's
    code to its end with the stack it started with (the iterator slot gone) and the state `σ'`. -/
theorem range_visits_in_order_compiled (code : Code) (f : Nat) (k v : String) (c b : N)
    (hwf : wf (.forrange k v c b) = true) (kb kc : Nat) (rng : Bool) (pc : Nat) (stk : List SVal)
    (σ σ1 σ' : St) (a : Nat)
    (hat : CodeAt code pc (comp kb kc rng (.forrange k v c b)))
    (hc : ev f c σ = (.val (.ref a), σ1))
    (hbody : ∀ σ0 r σ2, σ0.items a = σ1.items a → ev f b σ0 = (r, σ2) → σ2.items a = σ1.items a)
    (hk : (σ1.items a).length < f)
    (hres : visitAll (rngNames k v) (rngNames k v).length (ev f b) 0 (σ1.items a) σ1 = (.unit, σ')) :
    Steps code ⟨pc, stk, σ⟩ ⟨pc + size rng (.forrange k v c b), stk, σ'⟩ := by
  have he : ev (f + 1) (.forrange k v c b) σ = (.unit, σ') := by
    show seqV (ev f c σ) _ = _
    rw [hc]
    exact (range_visits_in_order _ _ _ a σ1 hbody f hk).trans hres
  exact (seq_simulation code (f + 1) _ hwf kb kc rng pc stk σ .unit σ' hat he).2

/-- the number of rounds: a body that always completes (value or `continue`, never `break`, an
    error or out of fuel) is run exactly `l.length` times — stated with a counter the body bumps -/
theorem visitAll_counts (names : List String) (m : Nat) (hm : m ≤ 3) (body : St → Out × St) (cnt : St → Nat)
    (hbind : ∀ vals σ, cnt (bindAll names vals σ) = cnt σ)
    (hbody : ∀ σ, ∃ v σ1, body σ = (.val v, σ1) ∧ cnt σ1 = cnt σ + 1) :
    ∀ (l : List SVal) (i : Nat) (σ : St), ∃ σ', visitAll names m body i l σ = (.unit, σ') ∧ cnt σ' = cnt σ + l.length := by
  intro l
  induction l with
  | nil => intro i σ; exact ⟨σ, rfl, rfl⟩
  | cons x rest ih =>
    intro i σ
    simp only [visitAll]
    have hp : ∃ vals, pushKV m (.int i) x = some vals := by
      have : m = 0 ∨ m = 1 ∨ m = 2 ∨ m = 3 := by omega
      rcases this with rfl | rfl | rfl | rfl <;> exact ⟨_, rfl⟩
    obtain ⟨vals, hp⟩ := hp
    obtain ⟨v, σ1, hb, hc⟩ := hbody (bindAll names vals σ)
    simp only [hp, hb]
    obtain ⟨σ', h1, h2⟩ := ih (i + 1) σ1
    refine ⟨σ', h1, ?_⟩
    rw [h2, hc, hbind]
    simp only [List.length_cons]
    omega

/-! ### non-vacuity: both sides evaluated -/

private def L (xs : List N) : N := N.ofList xs

/-- `a := [1, 2]; b := a; b[0] = 9; a[0]` → 9 (aliasing) -/
def exAlias : N :=
  .prog (L [.var "a" (.list (L [.int 1, .int 2])), .var "b" (.id "a"),
    .setitem .set (.id "b") (.int 0) (.int 9), .expr (.index (.id "a") (.int 0))])

/-- `a := [1]; b := [1]; b[0] = 5; a[0]` → 1 (two literals, two objects); `a == b` is deep -/
def exFresh : N :=
  .prog (L [.var "a" (.list (L [.int 1])), .var "b" (.list (L [.int 1])),
    .var "e" (.infix .eq (.id "a") (.id "b")),
    .setitem .set (.id "b") (.int 0) (.int 5),
    .expr (.list (L [.index (.id "a") (.int 0), .id "e", .infix .eq (.id "a") (.id "b")]))])

/-- `a := [1, 2, 3]; a[-1]` → 3 (negative index) -/
def exNeg : N := .prog (L [.var "a" (.list (L [.int 1, .int 2, .int 3])), .expr (.index (.id "a") (.neg (.int 1)))])

/-- `a := [1, 2, 3]; a[3]` → error class "index" -/
def exRange : N := .prog (L [.var "a" (.list (L [.int 1, .int 2, .int 3])), .expr (.index (.id "a") (.int 3))])

/-- `x := 3; x[0]` → error class "type" (indexing an int) -/
def exType : N := .prog (L [.var "x" (.int 3), .expr (.index (.id "x") (.int 0))])

/-- `s := 0; for i, v := range [10, 20, 30] { s += v + i }; s` → 63 -/
def exSum : N :=
  .prog (L [.var "s" (.int 0),
    .forrange "i" "v" (.list (L [.int 10, .int 20, .int 30]))
      (.block (L [.assign "s" .add (.infix .add (.id "v") (.id "i"))])),
    .expr (.id "s")])

/-- `a := [1, 2, 3, 4]; s := 0; for i, v := range a { if v == 3 { break }; if v == 1 { continue }; s += v }; s`
    → 2 (continue on 1, break on 3, the iterator popped by the break) -/
def exBreak : N :=
  .prog (L [.var "a" (.list (L [.int 1, .int 2, .int 3, .int 4])), .var "s" (.int 0),
    .forrange "i" "v" (.id "a") (.block (L [
      .expr (.if_ (.infix .eq (.id "v") (.int 3)) (.block (L [.break_])) .none_),
      .expr (.if_ (.infix .eq (.id "v") (.int 1)) (.block (L [.continue_])) .none_),
      .assign "s" .add (.id "v")])),
    .expr (.id "s")])

/-- `[[1, 2], [3]][0][1]` → 2 (nested lists) -/
def exNested : N :=
  .prog (L [.expr (.index (.index (.list (L [.list (L [.int 1, .int 2]), .list (L [.int 3])])) (.int 0)) (.int 1))])

/-- `a := [1, 1, 1]; for i, v := range a { if i < 2 { a[i + 1] = v * 2 } }; a[2]` → 4: the body's
    writes to later positions are seen by the iterator -/
def exMutate : N :=
  .prog (L [.var "a" (.list (L [.int 1, .int 1, .int 1])),
    .forrange "i" "v" (.id "a") (.block (L [
      .expr (.if_ (.infix .lt (.id "i") (.int 2))
        (.block (L [.setitem .set (.id "a") (.infix .add (.id "i") (.int 1)) (.infix .mul (.id "v") (.int 2))])) .none_)])),
    .expr (.index (.id "a") (.int 2))])

/-- `a := [10, 20]; i := 0; a[i] += if true { i = 1; 5 } else { 0 }; a[1]` → 15: the index is
    evaluated again after the right-hand side (finding C01-compound-index-evaluated-twice) -/
def exTwice : N :=
  .prog (L [.var "a" (.list (L [.int 10, .int 20])), .var "i" (.int 0),
    .setitem .add (.id "a") (.id "i")
      (.if_ (.bool true) (.block (L [.assign "i" .set (.int 1), .expr (.int 5)])) (.block (L [.expr (.int 0)]))),
    .expr (.index (.id "a") (.int 1))])

/-- `n := 0; for k := range 4 { for v in [1, 2] { if v == 2 { break }; n += 1 } }; n` → 4 -/
def exNest2 : N :=
  .prog (L [.var "n" (.int 0),
    .forrange "k" "" (.int 4) (.block (L [
      .forin "v" (.list (L [.int 1, .int 2])) (.block (L [
        .expr (.if_ (.infix .eq (.id "v") (.int 2)) (.block (L [.break_])) .none_),
        .assign "n" .add (.int 1)]))])),
    .expr (.id "n")])

/-- a break under a pending operand inside a range body is outside the fragment -/
def exUnder : N :=
  .prog (L [.var "x" (.int 0),
    .forrange "" "" (.list (L [.int 1])) (.block (L [.assign "x" .set (.infix .add (.int 1)
      (.if_ (.bool true) (.block (L [.break_])) .none_))]))])

example : inSeq exAlias = true := by decide +kernel
example : (evalSeq 30 exAlias).1 = .val (.int 9) := by decide +kernel
example : (runSeq 300 (compSeq exAlias)).1 = .done (.int 9) := by decide +kernel
example : (runSeq 300 (compSeq exAlias)).2 = (evalSeq 30 exAlias).2 := by decide +kernel
-- both variables hold the SAME address, the heap has ONE object
example : ((evalSeq 30 exAlias).2.get "a", (evalSeq 30 exAlias).2.get "b", (evalSeq 30 exAlias).2.h)
    = (.ref 0, .ref 0, [[.int 9, .int 2]]) := by decide +kernel
example : inSeq exFresh = true := by decide +kernel
-- a[0] is still 1; a == b was true before the write and is false after it
example : (evalSeq 30 exFresh).2.items 2 = [.int 1, .bool true, .bool false] := by decide +kernel
example : (runSeq 300 (compSeq exFresh)) = ((evalSeq 30 exFresh).1.toRun, (evalSeq 30 exFresh).2) := by decide +kernel
example : ((evalSeq 30 exFresh).2.get "a", (evalSeq 30 exFresh).2.get "b") = (.ref 0, .ref 1) := by decide +kernel
example : inSeq exNeg = true := by decide +kernel
example : (evalSeq 30 exNeg).1 = .val (.int 3) := by decide +kernel
example : (runSeq 300 (compSeq exNeg)).1 = .done (.int 3) := by decide +kernel
example : inSeq exRange = true := by decide +kernel
example : (evalSeq 30 exRange).1 = .err "index" := by decide +kernel
example : (runSeq 300 (compSeq exRange)) = (.err "index", (evalSeq 30 exRange).2) := by decide +kernel
example : inSeq exType = true := by decide +kernel
example : (evalSeq 30 exType).1 = .err "type" := by decide +kernel
example : (runSeq 300 (compSeq exType)).1 = .err "type" := by decide +kernel
example : inSeq exSum = true := by decide +kernel
example : (evalSeq 30 exSum).1 = .val (.int 63) := by decide +kernel
example : (runSeq 400 (compSeq exSum)).1 = .done (.int 63) := by decide +kernel
example : (runSeq 400 (compSeq exSum)).2 = (evalSeq 30 exSum).2 := by decide +kernel
example : inSeq exBreak = true := by decide +kernel
example : (evalSeq 30 exBreak).1 = .val (.int 2) := by decide +kernel
example : (runSeq 600 (compSeq exBreak)).1 = .done (.int 2) := by decide +kernel
example : (runSeq 600 (compSeq exBreak)).2 = (evalSeq 30 exBreak).2 := by decide +kernel
example : inSeq exNested = true := by decide +kernel
example : (evalSeq 30 exNested).1 = .val (.int 2) := by decide +kernel
example : (runSeq 300 (compSeq exNested)).1 = .done (.int 2) := by decide +kernel
example : inSeq exMutate = true := by decide +kernel
example : (evalSeq 30 exMutate).1 = .val (.int 4) := by decide +kernel
example : (runSeq 900 (compSeq exMutate)) = (.done (.int 4), (evalSeq 30 exMutate).2) := by decide +kernel
example : inSeq exTwice = true := by decide +kernel
example : (evalSeq 30 exTwice).1 = .val (.int 15) := by decide +kernel
example : (runSeq 300 (compSeq exTwice)) = (.done (.int 15), (evalSeq 30 exTwice).2) := by decide +kernel
example : inSeq exNest2 = true := by decide +kernel
example : (evalSeq 40 exNest2).1 = .val (.int 4) := by decide +kernel
example : (runSeq 2000 (compSeq exNest2)) = (.done (.int 4), (evalSeq 40 exNest2).2) := by decide +kernel
example : inSeq exUnder = false := by decide +kernel
-- the hypotheses of `seq_compile_correct` are satisfiable and its conclusion is the concrete run
example : ∃ fuel', runSeq fuel' (compSeq exBreak) = (.done (.int 2), (evalSeq 30 exBreak).2) :=
  seq_compile_correct_toRun exBreak (by decide +kernel) 30 (.val (.int 2)) (evalSeq 30 exBreak).2 (by decide +kernel) (by decide)
-- `range_visits_in_order` / `visitAll`: three rounds over [10, 20, 30] with (i, v) = (0,10), (1,20), (2,30)
example : (visitAll ["i", "v"] 2 (fun σ => (.val .nil, σ.set "t" (.int 0))) 0 [.int 10, .int 20, .int 30] St.empty).2.g
    = [("t", .int 0), ("v", .int 30), ("i", .int 2), ("t", .int 0), ("v", .int 20), ("i", .int 1),
       ("t", .int 0), ("v", .int 10), ("i", .int 0)] := by decide +kernel

end Risor.C01.Seq
