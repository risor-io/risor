import RisorModel.C01.Clo
/-
C01, closure fragment — the machine AS THE REAL VM KEEPS ITS LOCALS (`vm/frame.go`): a frame's
locals live IN THE FRAME (`frame.storage` / `locals`) until the first `MakeCell` of its activation;
`frame.CaptureLocals` then copies them into a fresh heap slice, redirects the frame's `locals` to
that slice, and the cell points into it; from then on `LoadFast` / `StoreFast` of that activation go
to the heap slice, so the frame and every cell see one storage.  When a frame that never captured
returns, its locals are gone (the frame slot is reused); a captured slice stays on the heap for as
long as a cell points into it.

`M2` is `Clo.lean`'s machine `M` with exactly that difference: `M` puts every activation's locals
slice on the heap when the activation starts.  `CloVMLemmas.lean` proves that the two machines run
in LOCKSTEP under the relation `RelC` below — THE RELATION BETWEEN THE SEMANTICS' CELLS AND THE
MACHINE'S CELLS — and `CloProps.lean` composes that with `clo_simulation`.
Core Lean only.
-/
namespace Risor.C01.Clo
open Risor.C01

/-- where a frame keeps its locals: in the frame (`loc`) while `cap = false`; after
    `CaptureLocals` (`cap = true`) in the heap slice of its activation, and `loc` is dead -/
structure Loc where
  loc : Store
  cap : Bool
  deriving Repr

/-- the machine with relocation.  `m` is the skeleton shared with `M` (position, operand stack,
    running activation, globals, counter, suspended frames); `m.cfg.σ.sh.cells` is the HEAP: it
    holds the slices of the activations in `caps` only. -/
structure M2 where
  m : M
  cur : Loc                 -- the running frame's locals
  frs : List Loc            -- the suspended frames' locals (parallel to `m.frames`)
  caps : List Nat           -- the activations whose locals have been captured (the heap's slices)
  deriving Repr

def M2.heap (s : M2) : Cells := s.m.cfg.σ.sh.cells
def M2.id (s : M2) : Nat := s.m.cfg.σ.act.id

/-- the content of local `x` of the activation `a` whose frame storage is `l` -/
def view (h : Cells) (l : Loc) (a : Nat) (x : String) : V := if l.cap then h.get a x else l.loc.get x

def M2.setCfg (s : M2) (c : Cfg) : M2 := { s with m := { s.m with cfg := c } }

def Cfg.withCells (c : Cfg) (h : Cells) : Cfg := { c with σ := { c.σ with sh := { c.σ.sh with cells := h } } }

/-- `frame.CaptureLocals`: the first time, copy the frame's locals to a new heap slice -/
def M2.capture (s : M2) : M2 :=
  if s.cur.cap then s
  else { m := { s.m with cfg := s.m.cfg.withCells (s.heap.bind s.id s.cur.loc) },
         cur := { s.cur with cap := true }, frs := s.frs, caps := s.id :: s.caps }

/-- `Call n`: as `doCall`, but the callee's initial locals go into ITS FRAME, not to the heap -/
def doCall2 (P : Prog) (n : Nat) (s : M2) : Except Halt M2 :=
  match s.m.cfg.stk.drop n with
  | fv :: rest =>
    match fv.callee with
    | some (g, cs) =>
      match P.find g with
      | none => .error (.err "eval")
      | some fc =>
        match enterLoc fv fc.name fc.named fc.params ((s.m.cfg.stk.take n).reverse) with
        | none => .error (.err "args")
        | some L =>
          .ok { m := { cfg := { pc := 0, stk := [],
                                σ := { act := ⟨s.m.cfg.σ.sh.next, cs⟩,
                                       sh := { s.m.cfg.σ.sh with next := s.m.cfg.σ.sh.next + 1 } } },
                       fn := some g,
                       frames := { fn := s.m.fn, pc := s.m.cfg.pc + 2, stk := rest, act := s.m.cfg.σ.act } :: s.m.frames },
                cur := ⟨L, false⟩, frs := s.cur :: s.frs, caps := s.caps }
    | none => .error (.err "type")
  | [] => .error (.err "panic")

/-- `ReturnValue`: the running frame's own storage is dropped with the frame -/
def doRet2 (s : M2) : Except Halt M2 :=
  match s.m.cfg.stk, s.m.frames, s.frs with
  | v :: _, fr :: fs, l :: ls =>
    .ok { m := { cfg := { pc := fr.pc, stk := v :: fr.stk, σ := { act := fr.act, sh := s.m.cfg.σ.sh } }, fn := fr.fn, frames := fs },
          cur := l, frs := ls, caps := s.caps }
  | v :: _, [], _ => .error (.done v)
  | _, _, _ => .error (.err "panic")

/-- one step: `LoadFast` / `StoreFast` go to the frame or to its heap slice, `MakeCell` captures
    first; every other instruction is `mstep`'s on the skeleton (`LoadFree` / `StoreFree` go
    through the cell into the heap) -/
def mstep2 (P : Prog) (s : M2) : Except Halt M2 :=
  match (P.codeOf s.m.fn)[s.m.cfg.pc]? with
  | some (some (.loadF x)) =>
    .ok (s.setCfg { s.m.cfg with pc := s.m.cfg.pc + 2, stk := view s.heap s.cur s.id x :: s.m.cfg.stk })
  | some (some (.storeF x)) =>
    match s.m.cfg.stk with
    | v :: r =>
      if s.cur.cap then .ok (s.setCfg ({ s.m.cfg with pc := s.m.cfg.pc + 2, stk := r }.withCells (s.heap.set s.id x v)))
      else .ok { s.setCfg { s.m.cfg with pc := s.m.cfg.pc + 2, stk := r } with cur := { s.cur with loc := s.cur.loc.set x v } }
    | [] => .error (.err "panic")
  | some (some (.makeCell x)) =>
    .ok (s.capture.setCfg { s.capture.m.cfg with pc := s.m.cfg.pc + 3, stk := .cell s.id x :: s.m.cfg.stk })
  | some (some (.call n)) => doCall2 P n s
  | some (some .ret) => doRet2 s
  | _ =>
    match mstep P s.m with
    | .ok m' => .ok { s with m := m' }
    | .error h => .error h

/-- run with a step budget; the result and the final globals -/
def mrun2 (P : Prog) : Nat → M2 → RunRes × Store
  | 0, s => (.running, s.m.cfg.σ.sh.glob)
  | k + 1, s =>
    match mstep2 P s with
    | .ok s' => mrun2 P k s'
    | .error (.done v) => (.done v, s.m.cfg.σ.sh.glob)
    | .error (.err e) => (.err e, s.m.cfg.σ.sh.glob)
    | .error .nonlocal => (.err "eval", s.m.cfg.σ.sh.glob)

/-- the main code's frame: no locals; its (empty) slice counts as captured, so that the default
    cell of `Act.cellOf` is a heap cell -/
def M2.init : M2 := { m := M.init, cur := ⟨[], true⟩, frs := [], caps := [0] }

/-- run a compiled program on the machine with relocation -/
def runCloVM (fuel : Nat) (P : Prog) : RunRes × Store := mrun2 P fuel M2.init

/-! ### the relation between the cells of the semantics (= of `M`) and the relocating machine's -/

/-- a value mentions only cells of captured activations -/
def okV (caps : List Nat) : V → Prop
  | .cell b _ => b ∈ caps
  | .clo _ _ cs => ∀ c ∈ cs, c.1 ∈ caps
  | _ => True

def okL (caps : List Nat) (l : List V) : Prop := ∀ v ∈ l, okV caps v
def okS (caps : List Nat) (s : Store) : Prop := ∀ e ∈ s, okV caps e.2
def okA (caps : List Nat) (a : Act) : Prop := ∀ c ∈ a.fv, c.1 ∈ caps

/-- the suspended frames, pairwise: the semantics' cells of the frame's activation are what the
    frame's storage (frame or heap slice) holds; the frame is captured iff its slice exists -/
def Sus (c1 h : Cells) (caps : List Nat) : List Frame → List Loc → Prop
  | [], [] => True
  | fr :: fs, l :: ls =>
    (∀ x, c1.get fr.act.id x = view h l fr.act.id x) ∧ (l.cap = true ↔ fr.act.id ∈ caps) ∧
      okS caps l.loc ∧ okL caps fr.stk ∧ okA caps fr.act ∧ Sus c1 h caps fs ls
  | _, _ => False

/-- **The store relation.**  `m1` is a state of the machine `M`, whose store IS the semantics'
    store (`clo_simulation`): every variable `x` of every activation `a` is the cell
    `m1.cfg.σ.sh.cells (a, x)`.  `s` is a state of the machine with relocation.  They are related
    when they agree on everything but the cells (code position, operand stack, running activation
    and closure, globals, counter, suspended frames), and
    * `run`, `sus`: for the running and for every suspended activation `a`, the semantics' cell
      `(a, x)` holds what the frame's storage of `x` holds — the frame itself before the capture,
      the heap slice `(a, ·)` after it;
    * `heap`: for every captured activation `a` — running, suspended or RETURNED — the semantics'
      cell `(a, x)` holds what the heap slice holds: the cells of closures are these;
    * nothing is claimed about the semantics' cells of returned activations that never captured:
      the real machine has dropped them, and nothing can reach them (`ok…`: every cell on the
      operand stacks, in variables, in closures and in the heap points into a captured slice);
    * bookkeeping: a frame is marked captured iff its slice exists, serial numbers of live
      activations are distinct and, like those of the slices, below the counter, cells of
      activations not yet started are unwritten.
    (`RelC`: the conditions on the cells, for the heap `h`, the frame storages `cur` / `frs` and the
    captured activations `caps` of the relocating machine; the lemmas state the rest — same skeleton —
    by writing the related state as `M2.of m1 h cur frs caps`.) -/
structure RelC (m1 : M) (h : Cells) (cur : Loc) (frs : List Loc) (caps : List Nat) : Prop where
  run : ∀ x, m1.cfg.σ.sh.cells.get m1.cfg.σ.act.id x = view h cur m1.cfg.σ.act.id x
  sus : Sus m1.cfg.σ.sh.cells h caps m1.frames frs
  heap : ∀ b ∈ caps, ∀ x, m1.cfg.σ.sh.cells.get b x = h.get b x
  fresh : ∀ b x, m1.cfg.σ.sh.next ≤ b → m1.cfg.σ.sh.cells.get b x = .nil
  capcur : cur.cap = true ↔ m1.cfg.σ.act.id ∈ caps
  nodup : (m1.cfg.σ.act.id :: m1.frames.map (·.act.id)).Nodup
  below : ∀ i ∈ m1.cfg.σ.act.id :: m1.frames.map (·.act.id), i < m1.cfg.σ.sh.next
  capsBelow : ∀ b ∈ caps, b < m1.cfg.σ.sh.next
  heapKeys : ∀ e ∈ h, e.1.1 ∈ caps
  zero : 0 ∈ caps
  okStk : okL caps m1.cfg.stk
  okLoc : okS caps cur.loc
  okGlob : okS caps m1.cfg.σ.sh.glob
  okHeap : ∀ e ∈ h, okV caps e.2
  okAct : okA caps m1.cfg.σ.act

/-- the state of the relocating machine that has `m1`'s skeleton, the heap `h`, the frame
    storages `cur` / `frs` and the captured activations `caps` -/
def M2.of (m1 : M) (h : Cells) (cur : Loc) (frs : List Loc) (caps : List Nat) : M2 :=
  { m := { cfg := m1.cfg.withCells h, fn := m1.fn, frames := m1.frames }, cur := cur, frs := frs, caps := caps }

/-- `Rel m1 s`: `s` agrees with `m1` on everything but the cells, and the cells are related by `RelC` -/
def Rel (m1 : M) (s : M2) : Prop :=
  s = M2.of m1 s.heap s.cur s.frs s.caps ∧ RelC m1 s.heap s.cur s.frs s.caps

end Risor.C01.Clo
