import RisorModel.C16.Model
import RisorModel.C16.Lemmas
/-!
C16 — the index arithmetic TRANSLATED from object/list.go on every run (`resolveIntSliceGo`,
`insertAct`; `Ties.lean` proves the regenerated definitions equal to the copies in Model.lean
by `rfl`) related to the compact models the heap machine runs, and the property's statements
about slices over ALL integers, all bounds (present, omitted, wrongly typed) and all lists.
-/
namespace Risor.C16

/-- the acceptance condition of a slice with normalised bounds `a`, `b` on a container of
    length `n`, as the property reads it plus the code's extra demand `a < n` -/
def sliceOk (n : Nat) (st sp : Int) : Prop :=
  0 ≤ Spec.sliceNorm n st ∧ Spec.sliceNorm n st ≤ Spec.sliceNorm n sp ∧
    Spec.sliceNorm n sp ≤ n ∧ Spec.sliceNorm n st < n

instance (n : Nat) (st sp : Int) : Decidable (sliceOk n st sp) := by unfold sliceOk; infer_instance

/-- closed form of the translated function on two int bounds -/
def goClosed (n : Nat) (st sp : Int) : SliceResI :=
  if sliceOk n st sp then .ok (Spec.sliceNorm n st) (Spec.sliceNorm n sp) else .err .slice

/-- the answer of the arithmetic part (`sliceBounds`) as the translated function reports it -/
def ofBounds : Option (Int × Int) → SliceResI
  | some (a, b) => .ok a b
  | none => .err .slice

theorem ofBounds_none : ofBounds none = .err .slice := rfl
theorem ofBounds_some (a b : Int) : ofBounds (some (a, b)) = .ok a b := rfl

/-- between two int bounds the translated function is `sliceBounds`, for every size: the
    translation repeats the rest of the function under each `if`, `sliceBounds` runs the same
    guards once in a row; once the signs of the two bounds are fixed both are the same chain -/
theorem go_ints (st sp n : Int) :
    resolveIntSliceGo (some (.int st)) (some (.int sp)) n = ofBounds (sliceBounds st sp n) := by
  unfold resolveIntSliceGo sliceBounds
  dsimp only [notNil, boundInt, isOk, intValue, Option.isSome, Option.getD]
  by_cases hs : st < 0 <;> by_cases hp : sp < 0 <;>
    simp only [hs, hp, Bool.not_true, Bool.false_eq_true, ↓reduceIte, decide_eq_true_eq,
      apply_ite ofBounds, ofBounds_none, ofBounds_some]

theorem ofBounds_sliceBounds (st sp : Int) (n : Nat) :
    ofBounds (sliceBounds st sp n) = goClosed n st sp := by
  rw [sliceBounds_eq, apply_ite ofBounds]
  rfl

/-- a bound that is present and not an Int object -/
def badBound (x : Option Val) : Bool :=
  match x with
  | none => false
  | some (.int _) => false
  | some _ => true

theorem go_bad_start (s t : Option Val) (n : Int) (h : badBound s = true) :
    resolveIntSliceGo s t n = .err .type := by
  cases s with
  | none => cases h
  | some v => cases v <;> first | rfl | cases h

theorem go_bad_stop (s t : Option Val) (n : Int) (h : badBound t = true) :
    resolveIntSliceGo s t n = .err .type := by
  cases t with
  | none => cases h
  | some w =>
    cases w <;> first
      | (cases s with
         | none => rfl
         | some v => cases v <;> rfl)
      | cases h

theorem boundOf_bad (x : Option Val) (d : Int) : boundOf x d = none ↔ badBound x = true := by
  cases x with
  | none => simp [boundOf, badBound]
  | some v => cases v <;> simp [boundOf, badBound]

/-- the translated `ResolveIntSlice` is the type dispatch on the two bounds followed by
    `sliceBounds`, for every pair of bounds and every size (negative ones included) -/
theorem resolveIntSliceGo_eq_sliceBounds (s t : Option Val) (n : Int) :
    resolveIntSliceGo s t n =
      (match boundOf s 0, boundOf t n with
       | some st, some sp => ofBounds (sliceBounds st sp n)
       | _, _ => .err .type) := by
  by_cases hs : badBound s = true
  · rw [go_bad_start s t n hs, (boundOf_bad s 0).2 hs]
  by_cases ht : badBound t = true
  · rw [go_bad_stop s t n ht, (boundOf_bad t n).2 ht]
    cases boundOf s 0 <;> rfl
  -- an omitted bound reduces to the same tree as an int bound with the default value
  cases s with
  | none =>
    cases t with
    | none => exact go_ints 0 n n
    | some w => cases w <;> first | exact go_ints 0 _ n | exact absurd rfl ht
  | some v =>
    cases v <;> first
      | exact absurd rfl hs
      | (cases t with
         | none => exact go_ints _ n n
         | some w => cases w <;> first | exact go_ints _ _ n | exact absurd rfl ht)

/-- the translated `ResolveIntSlice`, in closed form, for every pair of bounds -/
theorem resolveIntSliceGo_eq (s t : Option Val) (n : Nat) :
    resolveIntSliceGo s t n =
      (match boundOf s 0, boundOf t n with
       | some st, some sp => goClosed n st sp
       | _, _ => .err .type) := by
  rw [resolveIntSliceGo_eq_sliceBounds]
  cases boundOf s 0 with
  | none => rfl
  | some st =>
    cases boundOf t n with
    | none => rfl
    | some sp => exact ofBounds_sliceBounds st sp n

/-- the machine's slice result read as the translated function's result type -/
def SliceRes.toI : SliceRes → SliceResI
  | .ok a b => .ok a b
  | .err c => .err c

/-- The compact model of `ResolveIntSlice` the heap machine (and every theorem of Props.lean
    about slices) runs computes, for EVERY pair of bounds (omitted, an int of any size, a value
    of any other type) and every length, exactly what the function translated from the Go
    source on this run computes: same bounds, same error class. -/
theorem resolveIntSlice_eq_go (s t : Option Val) (n : Nat) :
    resolveIntSliceGo s t n = (resolveIntSlice s t n).toI := by
  rw [resolveIntSliceGo_eq_sliceBounds]
  unfold resolveIntSlice
  cases boundOf s 0 with
  | none => rfl
  | some st =>
    cases boundOf t n with
    | none => rfl
    | some sp =>
      dsimp only
      cases h : sliceBounds st sp n with
      | none => rfl
      | some ab =>
        obtain ⟨a, b⟩ := ab
        have := sliceBounds_some h
        simp only [ofBounds_some, SliceRes.toI, SliceResI.ok.injEq]
        omega

/-! ## The property's statements about slices, over the TRANSLATED function -/

/-- Whenever the function translated from object/list.go
    `ResolveIntSlice` succeeds -- for every pair of bounds (omitted, any int, any other value)
    and every container length `n` -- the bounds it returns satisfy `0 ≤ start ≤ stop ≤ n`
    (and, as the code is written, `start < n`), so `items[start:stop]` never reads outside
    the container. -/
theorem resolveIntSlice_in_bounds (s t : Option Val) (n : Nat) (a b : Int)
    (h : resolveIntSliceGo s t n = .ok a b) : 0 ≤ a ∧ a ≤ b ∧ b ≤ n ∧ a < n := by
  rw [resolveIntSliceGo_eq] at h
  split at h
  · unfold goClosed at h
    split at h
    · rename_i hc
      unfold sliceOk at hc
      simp only [SliceResI.ok.injEq] at h
      omega
    · cases h
  · cases h

/-- With bounds that are omitted or ints (of any size), the
    translated function raises an error exactly when the normalised bounds (`x + n` for a
    negative `x`; 0 / `n` for an omitted one) are NOT a range `0 ≤ a ≤ b ≤ n` with `a < n`; the
    error is then a slice error, and otherwise the result is exactly the normalised pair. -/
theorem resolveIntSlice_rejects_iff (s t : Option Val) (n : Nat) (st sp : Int)
    (hs : boundOf s 0 = some st) (ht : boundOf t n = some sp) :
    (resolveIntSliceGo s t n = .err .slice ↔ ¬ sliceOk n st sp) ∧
    (resolveIntSliceGo s t n = .ok (Spec.sliceNorm n st) (Spec.sliceNorm n sp) ↔ sliceOk n st sp) ∧
    resolveIntSliceGo s t n ≠ .err .type := by
  rw [resolveIntSliceGo_eq, hs, ht]
  simp only [goClosed]
  by_cases h : sliceOk n st sp
  · simp [h]
  · simp [h]

/-- The translated function raises a type error exactly
    when a bound is present and is not an int. -/
theorem resolveIntSlice_type_error_iff (s t : Option Val) (n : Nat) :
    resolveIntSliceGo s t n = .err .type ↔ (badBound s = true ∨ badBound t = true) := by
  constructor
  · intro h
    rw [resolveIntSliceGo_eq] at h
    cases hs : boundOf s 0 with
    | none => exact Or.inl ((boundOf_bad s 0).1 hs)
    | some st =>
      cases ht : boundOf t n with
      | none => exact Or.inr ((boundOf_bad t n).1 ht)
      | some sp =>
        rw [hs, ht] at h
        simp only [goClosed] at h
        split at h <;> cases h
  · rintro (h | h)
    · exact go_bad_start s t n h
    · exact go_bad_stop s t n h

/-- For every list, `l[s:t]` of the code-shaped model succeeds exactly
    when the translated `ResolveIntSlice` does, and is then the sub-list between the resolved
    bounds: `take stop` then `drop start` (= `List.extract`) -- nothing else of the list, in
    order. -/
theorem slice_is_sublist (items : List Val) (s t : Option Val) :
    (∀ r, Impl.slice items s t = .ok r →
      ∃ a b : Int, resolveIntSliceGo s t items.length = .ok a b ∧
        r = (items.take b.toNat).drop a.toNat ∧ r = items.extract a.toNat b.toNat) ∧
    (∀ c, Impl.slice items s t = .error c ↔ resolveIntSliceGo s t items.length = .err c) := by
  rw [resolveIntSlice_eq_go]
  unfold Impl.slice
  cases h : resolveIntSlice s t items.length with
  | ok a b =>
    refine ⟨fun r hr => ⟨a, b, rfl, ?_, ?_⟩, fun c => ?_⟩
    · simp only [Except.ok.injEq] at hr
      subst hr
      simp [List.drop_take]
    · simp only [Except.ok.injEq] at hr
      subst hr
      rw [List.extract_eq_take_drop]
      simp
    · simp [SliceRes.toI]
  | err c =>
    refine ⟨fun r hr => (by cases hr), fun c' => ?_⟩
    simp [SliceRes.toI]

/-- `l[:]` of a non-empty list is the whole list (the machine stores
    it as a new object: `slice_independent` in Props.lean). -/
theorem slice_full_is_copy (items : List Val) (h : items ≠ []) :
    Impl.slice items none none = .ok items := by
  rw [Impl.slice_refines]
  unfold Spec.slice
  have : 0 < items.length := List.length_pos_iff.mpr h
  have hn : ¬ ((items.length : Int) < 0) := by omega
  simp [boundOf, Spec.sliceNorm, this, hn]

/-- as the code is written (`start > size-1` is an error even for `start = 0`), `[][:]` and
    every other slice of an EMPTY list raises a slice error instead of giving `[]`: an error,
    not wrong data -/
theorem slice_of_empty_rejected (s t : Option Val) (r : List Val) :
    Impl.slice [] s t ≠ .ok r := by
  intro h
  obtain ⟨a, b, hab, _⟩ := (slice_is_sublist [] s t).1 r h
  have := resolveIntSlice_in_bounds s t 0 a b hab
  omega

/-- For every list and every integer `k`, whenever the code accepts both
    `l[:k]` and `l[k:]`, the two pieces joined are the list. -/
theorem slice_concat (items : List Val) (k : Int) (r1 r2 : List Val)
    (h1 : Impl.slice items none (some (.int k)) = .ok r1)
    (h2 : Impl.slice items (some (.int k)) none = .ok r2) : r1 ++ r2 = items := by
  rw [Impl.slice_refines] at h1 h2
  simp only [Spec.slice, boundOf, sliceNorm_of_nonneg _ (Int.le_refl 0),
    sliceNorm_of_nonneg _ (Int.natCast_nonneg _)] at h1 h2
  split at h1
  · split at h2
    · cases h1; cases h2
      simp only [Int.toNat_zero, List.drop_zero, Nat.sub_zero, Int.toNat_natCast]
      rw [List.take_of_length_le (l := List.drop _ _) (by simp), List.take_append_drop]
    · cases h2
  · cases h1

theorem ite_ok_iff {c : Prop} [Decidable c] (x : List Val) :
    (∃ r, (if c then (Except.ok x : Except ErrC (List Val)) else .error .slice) = .ok r) ↔ c := by
  by_cases h : c <;> simp [h]

/-- the code accepts both `l[:k]` and `l[k:]` exactly for `-n ≤ k < n` -/
theorem slice_concat_accepts_iff (items : List Val) (k : Int) :
    ((∃ r1, Impl.slice items none (some (.int k)) = .ok r1) ∧
      (∃ r2, Impl.slice items (some (.int k)) none = .ok r2)) ↔
    (-(items.length : Int) ≤ k ∧ k < items.length) := by
  rw [Impl.slice_refines, Impl.slice_refines]
  simp only [Spec.slice, boundOf, sliceNorm_of_nonneg _ (Int.le_refl 0),
    sliceNorm_of_nonneg _ (Int.natCast_nonneg _), ite_ok_iff]
  unfold Spec.sliceNorm
  split <;> omega

example : resolveIntSliceGo (some (.int (-2))) none 3 = .ok 1 3 := by decide +kernel
example : resolveIntSliceGo (some (.int 3)) none 3 = .err .slice := by decide +kernel
example : resolveIntSliceGo none (some (.str [97])) 3 = .err .type := by decide +kernel
example : Impl.slice [.int 1, .int 2, .int 3] none (some (.int (-1))) = .ok [.int 1, .int 2] := by rfl

/-! ## `(*List).Insert`: the translated index arithmetic and choice of slice operation -/

/-- what the three slice operations of `(*List).Insert` leave in `items` -/
def applyInsAct (items : List Val) (v : Val) : InsAct → List Val
  | .prepend => v :: items
  | .append => items ++ [v]
  | .shift k => items.take k.toNat ++ v :: items.drop k.toNat

/-- For every list, every integer index and every value, the compact
    `Impl.insert` the machine runs is the slice operation the TRANSLATED `(*List).Insert`
    chooses, applied to the list. -/
theorem insert_eq_act (items : List Val) (index : Int) (v : Val) :
    Impl.insert items index v = applyInsAct items v (insertAct index items.length) := by
  unfold Impl.insert insertAct
  simp only [beq_iff_eq, decide_eq_true_eq, apply_ite (applyInsAct items v)]
  -- both sides clamp the index the same way; with the two signs fixed they coincide
  by_cases h0 : index < 0
  · by_cases h1 : (items.length : Int) + index < 0
    · simp only [h0, h1, if_true]; rfl
    · simp only [h0, h1, if_true, if_false]; rfl
  · simp only [h0, if_false]; rfl

/-- The translated `(*List).Insert` puts the new item before
    position `clamp(index)` of the reference reading (`Spec.insertPos`: negative indices count
    from the end and stop at 0, large ones stop at the end), for ALL integers. -/
theorem insertAct_position (items : List Val) (index : Int) (v : Val) :
    applyInsAct items v (insertAct index items.length) = Spec.insert items index v := by
  rw [← insert_eq_act]; exact Impl.insert_refines items index v

example : insertAct (-9) 2 = .prepend := by decide +kernel
example : insertAct 1 3 = .shift 1 := by decide +kernel
example : insertAct 99 3 = .append := by decide +kernel

end Risor.C16
