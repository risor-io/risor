/-
C16 — executable model of risor's containers (object/list.go, map.go, set.go, string.go,
byte_slice.go, the index helpers ResolveIndex / ResolveIntSlice, and the VM's subscript,
slice, compound-assignment and `delete` paths).

The layers, core Lean only:

* `Impl.*`  — pure functions on the *contents* of one container, written the way the Go code
  computes (index normalisation through `resolveIndex`, the three-way case split of
  `List.Insert`, `Remove` = `Index` + splice, the in-place swap loop of `Reverse`, Go's
  insertion sort, maps as unordered association lists, the accumulating loop of `list.map`
  with one index object per call; the single reused index object it had before its repair is
  kept as `Impl.preFixMapIdx`).
* `Spec.*`  — the simple reference functions the property demands (Python-like list
  semantics on `List`, finite maps as functions, sets as membership predicates).
* `step` / `run` — a heap machine over *all* container objects of a scenario, with object
  identity (nested containers are references) and byte arrays shared between byte_slice
  views, run either as the code is (`Mode.impl`) or as the property demands (`Mode.spec`).

* `BOp` / `stepB` — the builtins and methods that take a container, must leave it untouched
  and hand back an independent container: `sorted(x)` and `sorted(x, f)` (the comparison
  function as a call-numbered oracle that may raise at any call, `Impl.sortBy`), `reversed`,
  `list()`, `set()`, `keys()`, `m.items()`, `l.filter`, `l.each`, `chunk`. They are one
  constructor `Op.bi` of the machine and read the same in both modes.

* list iterators (`Obj.iter`, `Op.iNew/iNext/iRest`) and `for` loops whose body changes the
  list they run over (`Op.lFor`, `Body`, `forLoop`): object/list_iter.go reads `iter.l.items`
  on every step, so an iterator is a cursor into the LIVE list; `Impl.iterNext` is Go's
  `pos`/`len` arithmetic, `Spec.iterNext` is `items[k]?`.

* searching (`index`, `count`, `remove`, `in`, `filter`) goes through the model of
  `object.Equals` (`valEq`), which compares numbers BY VALUE across int, float and byte.

Abstractions (see checks/C16.json "trusted"): the capacity and backing-array identity of
`List.items` are not modelled, because no operation of list.go hands out a sub-slice of it
without copying (the correspondence check compares *every* live object after *every* step,
so a change of that fact shows up as a mismatch; `Alias.lean` models the slice headers and
backing arrays for eight list operations and `AliasProps.alias_refines_seq` proves that they show
exactly these contents for all histories and growth policies); Go's hash maps are association lists
observed only through sorted keys; floats are half-integers (`Val.flt t` = t/2) of small
magnitude, for which `float64(int) == float` and float sums are exact; NaN, infinities,
-0.0 and rounding are not modelled. Ints are exact at EVERY magnitude (`numKey`): sorting
lists that hold neighbouring ints beyond 2^53 has a reference reading of its own
(`Spec.isSortOf`), and `f64OfInt` models what a float64 sees of an int only to state that a
sort through float keys is no sort.
-/
namespace Risor.C16

abbrev Str := List Nat   -- the bytes of a Go string

inductive Val where
  | nil
  | bool (b : Bool)
  | int (i : Int)
  | byte (n : Nat)
  | flt (t : Int)          -- a float64 whose value is the half-integer t/2 (2.0 = flt 4, 1.5 = flt 3)
  | str (s : Str)
  | ref (r : Nat)          -- a container or iterator object on the heap
  deriving DecidableEq, Repr, Inhabited

inductive Obj where
  | list (items : List Val)
  | map (kvs : List (Str × Val))
  | set (items : List Val)
  | bytes (arr off len : Nat)    -- a Go slice header into byte array `arr`
  | iter (l : Nat) (k : Nat)     -- object.ListIter over list object `l`; `k` items were yielded (Go: pos = k - 1)
  deriving DecidableEq, Repr, Inhabited

structure Heap where
  objs : List Obj
  arrs : List (List Nat)
  deriving DecidableEq, Repr, Inhabited

inductive ErrC where
  | type | index | slice | key | value | panic
  deriving DecidableEq, Repr

inductive Res where
  | unit
  | val (v : Val)
  | err (c : ErrC)
  deriving DecidableEq, Repr

/-! ### index helpers -/

inductive IdxRes where
  | ok (i : Int)
  | err
  deriving DecidableEq, Repr

/-- hand copy of object/list.go `ResolveIndex`; `Ties.lean` proves it equal (by `rfl`) to the
    definition the extractor regenerates from the source on every run. -/
def resolveIndex (idx : Int) (size : Int) : IdxRes :=
  let max := (size - 1)
  if (decide (idx > max)) then
    .err
  else
    if (decide (idx ≥ 0)) then
      .ok idx
    else
      let reversed := (idx + size)
      if ((decide (reversed < 0)) || (decide (reversed > max))) then
        .err
      else
        .ok reversed

/-- the arithmetic part of object/list.go `ResolveIntSlice` (after the type checks), in the
    order of the Go code; `none` = "slice error" -/
def sliceBounds (start stop size : Int) : Option (Int × Int) :=
  let start1 := if start < 0 then size + start else start
  if start1 < 0 then none else
  let stop1 := if stop < 0 then size + stop else stop
  if stop1 < 0 then none else
  if start1 > stop1 then none else
  if start1 > size - 1 then none else
  if stop1 > size then none else
  some (start1, stop1)

inductive SliceRes where
  | ok (start stop : Nat)
  | err (c : ErrC)
  deriving DecidableEq, Repr

/-- a slice bound: missing = the default, an Int object = its value, anything else = type error -/
def boundOf (x : Option Val) (dflt : Int) : Option Int :=
  match x with
  | none => some dflt
  | some (.int i) => some i
  | some _ => none

/-- `ResolveIntSlice`: a missing bound is 0 / size, a non-int bound is a type error -/
def resolveIntSlice (start stop : Option Val) (size : Nat) : SliceRes :=
  match boundOf start 0 with
  | none => .err .type
  | some st =>
    match boundOf stop size with
    | none => .err .type
    | some sp =>
      match sliceBounds st sp size with
      | none => .err .slice
      | some (a, b) => .ok a.toNat b.toNat

/-! #### `ResolveIntSlice` and `(*List).Insert` as the source has them (regenerated on every run)

The two definitions below are hand copies of what `extract/c16.go` translates from
object/list.go; `Ties.lean` proves them equal (by `rfl`) to the regenerated definitions, and
`Lemmas.lean` (`resolveIntSlice_eq_go`, `insert_eq_act`) proves for ALL inputs that the
compact models the machine runs (`resolveIntSlice`, `Impl.insert`) compute the same. -/

/-- result of the translated `ResolveIntSlice`: the two int64 bounds, or the error class -/
inductive SliceResI where
  | ok (start stop : Int)
  | err (c : ErrC)
  deriving DecidableEq, Repr

/-- `x != nil` for a slice bound -/
def notNil (x : Option Val) : Bool := x.isSome
/-- `x.(*Int)`: the Int object behind a bound, if it is one -/
def boundInt (x : Option Val) : Option Int :=
  match x with
  | some (.int i) => some i
  | _ => none
/-- the `ok` of `v, ok := x.(*Int)` -/
def isOk (o : Option Int) : Bool := o.isSome
/-- `v.value` -/
def intValue (o : Option Int) : Int := o.getD 0

/-- hand copy of the translation of object/list.go `ResolveIntSlice` (`Ties.resolveIntSlice_tie`) -/
def resolveIntSliceGo (sStart : Option Val) (sStop : Option Val) (size : Int) : SliceResI :=
  let start : Int := 0
  let stop : Int := 0
  if (notNil sStart) then
    let startObj := (boundInt sStart)
    let ok := (isOk startObj)
    if (!ok) then
      .err .type
    else
      let start := (intValue startObj)
      if (notNil sStop) then
        let stopObj := (boundInt sStop)
        let ok := (isOk stopObj)
        if (!ok) then
          .err .type
        else
          let stop := (intValue stopObj)
          if (decide (start < 0)) then
            let start := (size + start)
            if (decide (start < 0)) then
              .err .slice
            else
              if (decide (stop < 0)) then
                let stop := (size + stop)
                if (decide (stop < 0)) then
                  .err .slice
                else
                  if (decide (start > stop)) then
                    .err .slice
                  else
                    if (decide (start > (size - 1))) then
                      .err .slice
                    else
                      if (decide (stop > size)) then
                        .err .slice
                      else
                        .ok start stop
              else
                if (decide (start > stop)) then
                  .err .slice
                else
                  if (decide (start > (size - 1))) then
                    .err .slice
                  else
                    if (decide (stop > size)) then
                      .err .slice
                    else
                      .ok start stop
          else
            if (decide (stop < 0)) then
              let stop := (size + stop)
              if (decide (stop < 0)) then
                .err .slice
              else
                if (decide (start > stop)) then
                  .err .slice
                else
                  if (decide (start > (size - 1))) then
                    .err .slice
                  else
                    if (decide (stop > size)) then
                      .err .slice
                    else
                      .ok start stop
            else
              if (decide (start > stop)) then
                .err .slice
              else
                if (decide (start > (size - 1))) then
                  .err .slice
                else
                  if (decide (stop > size)) then
                    .err .slice
                  else
                    .ok start stop
      else
        let stop := size
        if (decide (start < 0)) then
          let start := (size + start)
          if (decide (start < 0)) then
            .err .slice
          else
            if (decide (stop < 0)) then
              let stop := (size + stop)
              if (decide (stop < 0)) then
                .err .slice
              else
                if (decide (start > stop)) then
                  .err .slice
                else
                  if (decide (start > (size - 1))) then
                    .err .slice
                  else
                    if (decide (stop > size)) then
                      .err .slice
                    else
                      .ok start stop
            else
              if (decide (start > stop)) then
                .err .slice
              else
                if (decide (start > (size - 1))) then
                  .err .slice
                else
                  if (decide (stop > size)) then
                    .err .slice
                  else
                    .ok start stop
        else
          if (decide (stop < 0)) then
            let stop := (size + stop)
            if (decide (stop < 0)) then
              .err .slice
            else
              if (decide (start > stop)) then
                .err .slice
              else
                if (decide (start > (size - 1))) then
                  .err .slice
                else
                  if (decide (stop > size)) then
                    .err .slice
                  else
                    .ok start stop
          else
            if (decide (start > stop)) then
              .err .slice
            else
              if (decide (start > (size - 1))) then
                .err .slice
              else
                if (decide (stop > size)) then
                  .err .slice
                else
                  .ok start stop
  else
    if (notNil sStop) then
      let stopObj := (boundInt sStop)
      let ok := (isOk stopObj)
      if (!ok) then
        .err .type
      else
        let stop := (intValue stopObj)
        if (decide (start < 0)) then
          let start := (size + start)
          if (decide (start < 0)) then
            .err .slice
          else
            if (decide (stop < 0)) then
              let stop := (size + stop)
              if (decide (stop < 0)) then
                .err .slice
              else
                if (decide (start > stop)) then
                  .err .slice
                else
                  if (decide (start > (size - 1))) then
                    .err .slice
                  else
                    if (decide (stop > size)) then
                      .err .slice
                    else
                      .ok start stop
            else
              if (decide (start > stop)) then
                .err .slice
              else
                if (decide (start > (size - 1))) then
                  .err .slice
                else
                  if (decide (stop > size)) then
                    .err .slice
                  else
                    .ok start stop
        else
          if (decide (stop < 0)) then
            let stop := (size + stop)
            if (decide (stop < 0)) then
              .err .slice
            else
              if (decide (start > stop)) then
                .err .slice
              else
                if (decide (start > (size - 1))) then
                  .err .slice
                else
                  if (decide (stop > size)) then
                    .err .slice
                  else
                    .ok start stop
          else
            if (decide (start > stop)) then
              .err .slice
            else
              if (decide (start > (size - 1))) then
                .err .slice
              else
                if (decide (stop > size)) then
                  .err .slice
                else
                  .ok start stop
    else
      let stop := size
      if (decide (start < 0)) then
        let start := (size + start)
        if (decide (start < 0)) then
          .err .slice
        else
          if (decide (stop < 0)) then
            let stop := (size + stop)
            if (decide (stop < 0)) then
              .err .slice
            else
              if (decide (start > stop)) then
                .err .slice
              else
                if (decide (start > (size - 1))) then
                  .err .slice
                else
                  if (decide (stop > size)) then
                    .err .slice
                  else
                    .ok start stop
          else
            if (decide (start > stop)) then
              .err .slice
            else
              if (decide (start > (size - 1))) then
                .err .slice
              else
                if (decide (stop > size)) then
                  .err .slice
                else
                  .ok start stop
      else
        if (decide (stop < 0)) then
          let stop := (size + stop)
          if (decide (stop < 0)) then
            .err .slice
          else
            if (decide (start > stop)) then
              .err .slice
            else
              if (decide (start > (size - 1))) then
                .err .slice
              else
                if (decide (stop > size)) then
                  .err .slice
                else
                  .ok start stop
        else
          if (decide (start > stop)) then
            .err .slice
          else
            if (decide (start > (size - 1))) then
              .err .slice
            else
              if (decide (stop > size)) then
                .err .slice
              else
                .ok start stop

/-- which of its three slice operations `(*List).Insert` performs -/
inductive InsAct where
  | prepend              -- ls.items = append([]Object{obj}, ls.items...)
  | append               -- ls.items = append(ls.items, obj)
  | shift (index : Int)  -- append nil; copy(items[index+1:], items[index:]); items[index] = obj
  deriving DecidableEq, Repr

/-- hand copy of the translation of object/list.go `(*List).Insert` (`Ties.insertAct_tie`);
    `n` is `int64(len(ls.items))` -/
def insertAct (index : Int) (n : Int) : InsAct :=
  if (decide (index < 0)) then
    let index := (n + index)
    if (decide (index < 0)) then
      let index := 0
      if (index == 0) then
        .prepend
      else
        if (decide (index ≥ n)) then
          .append
        else
          (.shift index)
    else
      if (index == 0) then
        .prepend
      else
        if (decide (index ≥ n)) then
          .append
        else
          (.shift index)
  else
    if (index == 0) then
      .prepend
    else
      if (decide (index ≥ n)) then
        .append
      else
        (.shift index)

/-- 64-bit wrap-around of Go's int64 addition -/
def wrap64 (x : Int) : Int := (x + 9223372036854775808) % 18446744073709551616 - 9223372036854775808

/-! ### UTF-8 decoding as Go's `[]rune(s)` performs it (invalid bytes become U+FFFD, one
    byte at a time) and encoding as `string(rune)` -/

def cont (b : Nat) : Bool := 128 ≤ b && b ≤ 191

def decodeRunes : Nat → Str → List Nat
  | 0, _ => []
  | _, [] => []
  | f+1, b0 :: rest =>
    if b0 < 128 then b0 :: decodeRunes f rest
    else if 194 ≤ b0 && b0 ≤ 223 then
      match rest with
      | b1 :: r1 => if cont b1 then ((b0 - 192) * 64 + (b1 - 128)) :: decodeRunes f r1 else 65533 :: decodeRunes f rest
      | _ => 65533 :: decodeRunes f rest
    else if 224 ≤ b0 && b0 ≤ 239 then
      match rest with
      | b1 :: b2 :: r2 =>
        let lo := if b0 = 224 then 160 else 128
        let hi := if b0 = 237 then 159 else 191
        if lo ≤ b1 && b1 ≤ hi && cont b2 then
          ((b0 - 224) * 4096 + (b1 - 128) * 64 + (b2 - 128)) :: decodeRunes f r2
        else 65533 :: decodeRunes f rest
      | _ => 65533 :: decodeRunes f rest
    else if 240 ≤ b0 && b0 ≤ 244 then
      match rest with
      | b1 :: b2 :: b3 :: r3 =>
        let lo := if b0 = 240 then 144 else 128
        let hi := if b0 = 244 then 143 else 191
        if lo ≤ b1 && b1 ≤ hi && cont b2 && cont b3 then
          ((b0 - 240) * 262144 + (b1 - 128) * 4096 + (b2 - 128) * 64 + (b3 - 128)) :: decodeRunes f r3
        else 65533 :: decodeRunes f rest
      | _ => 65533 :: decodeRunes f rest
    else 65533 :: decodeRunes f rest

/-- `[]rune(s)` -/
def runes (s : Str) : List Nat := decodeRunes s.length s

/-- `string(rune)` (surrogates and out-of-range values become U+FFFD) -/
def encodeRune (r : Nat) : Str :=
  if r < 128 then [r]
  else if r < 2048 then [192 + r / 64, 128 + r % 64]
  else if (55296 ≤ r && r ≤ 57343) || r > 1114111 then [239, 191, 189]
  else if r < 65536 then [224 + r / 4096, 128 + r / 64 % 64, 128 + r % 64]
  else [240 + r / 262144, 128 + r / 4096 % 64, 128 + r / 64 % 64, 128 + r % 64]

def encodeRunes (rs : List Nat) : Str := rs.flatMap encodeRune

/-! ### equality, ordering, hash keys (C15 proves their laws; here they are parameters of the
    container theorems and concrete functions of the executable machine) -/

def bytesContent (h : Heap) (arr off len : Nat) : List Nat :=
  ((h.arrs.getD arr []).drop off).take len

def strLt : Str → Str → Bool
  | [], [] => false
  | [], _ :: _ => true
  | _ :: _, [] => false
  | a :: as, b :: bs => if a < b then true else if b < a then false else strLt as bs

def lookupKV (k : Str) : List (Str × Val) → Option Val
  | [] => none
  | (k', v) :: rest => if k' = k then some v else lookupKV k rest

/-- hash key of an atom: (rank of the type name, IntValue, StrValue); `none` = unhashable.
    Type names order as "bool" < "byte" < "float" < "int" < "nil" < "string". A float's key is
    (FLOAT, FltValue) with IntValue 0 and StrValue ""; two float keys are equal / ordered as
    their values are, so the half-integer numerator stands in the integer slot. -/
def hashKey : Val → Option (Nat × Int × Str)
  | .bool b => some (0, if b then 1 else 0, [])
  | .byte n => some (1, n, [])
  | .flt t => some (2, t, [])
  | .int i => some (3, i, [])
  | .nil => some (4, 0, [])
  | .str s => some (5, 0, s)
  | .ref _ => none

def keyEq (a b : Val) : Bool :=
  match hashKey a, hashKey b with
  | some x, some y => x == y
  | _, _ => false

def keyLt (a b : Val) : Bool :=
  match hashKey a, hashKey b with
  | some (t1, i1, s1), some (t2, i2, s2) =>
    if t1 ≠ t2 then t1 < t2 else if i1 ≠ i2 then i1 < i2 else strLt s1 s2
  | _, _ => false

def Heap.get (h : Heap) (r : Nat) : Obj := h.objs.getD r (.list [])

/-- `a.Equals(b)` with `fuel` bounding the nesting depth followed through references -/
def valEq (h : Heap) (fuel : Nat) (a b : Val) : Bool :=
  match a, b with
  | .nil, .nil => true
  | .bool x, .bool y => x == y
  | .int x, .int y => x == y
  | .int x, .byte y => x == (y : Int)
  | .byte x, .int y => (x : Int) == y
  | .byte x, .byte y => x == y
  -- Int/Byte/Float.Equals compare BY VALUE across the three numeric types
  -- (`float64(i.value) == other.value`): 2 == 2.0 == byte(2)
  | .int x, .flt t => 2 * x == t
  | .flt t, .int y => t == 2 * y
  | .byte x, .flt t => 2 * (x : Int) == t
  | .flt t, .byte y => t == 2 * (y : Int)
  | .flt s, .flt t => s == t
  | .str x, .str y => x == y
  | .ref r, other =>
    match fuel with
    | 0 => false
    | f+1 =>
      match h.get r, other with
      | .iter _ _, .ref q => r == q          -- ListIter.Equals: identity
      | .bytes arr off len, .str s => bytesContent h arr off len == s
      | .list xs, .ref q =>
        match h.get q with
        | .list ys => xs.length == ys.length && (xs.zip ys).all (fun p => valEq h f p.1 p.2)
        | _ => false
      | .map xs, .ref q =>
        match h.get q with
        | .map ys =>
          xs.length == ys.length && xs.all (fun p => match lookupKV p.1 ys with
            | some w => valEq h f p.2 w
            | none => false)
        | _ => false
      | .set xs, .ref q =>
        match h.get q with
        | .set ys => xs.length == ys.length && xs.all (fun x => ys.any (keyEq x))
        | _ => false
      | .bytes a o l, .ref q =>
        match h.get q with
        | .bytes a2 o2 l2 => bytesContent h a o l == bytesContent h a2 o2 l2
        | _ => false
      | _, _ => false
  | _, _ => false

/-- three-way `Compare` result or a type error -/
inductive C3 where
  | ok (c : Int)
  | err
  deriving DecidableEq, Repr

def three (lt eq : Bool) : C3 := if eq then .ok 0 else if lt then .ok (-1) else .ok 1

/-- `a.Compare(b)` -/
def cmp3 (h : Heap) (fuel : Nat) (a b : Val) : C3 :=
  match a, b with
  | .int x, .int y => three (x < y) (x == y)
  | .int x, .byte y => three (x < (y : Int)) (x == (y : Int))
  | .byte x, .int y => three ((x : Int) < y) ((x : Int) == y)
  | .byte x, .byte y => three (x < y) (x == y)
  | .int x, .flt t => three (2 * x < t) (2 * x == t)
  | .flt t, .int y => three (t < 2 * y) (t == 2 * y)
  | .byte x, .flt t => three (2 * (x : Int) < t) (2 * (x : Int) == t)
  | .flt t, .byte y => three (t < 2 * (y : Int)) (t == 2 * (y : Int))
  | .flt s, .flt t => three (s < t) (s == t)
  | .str x, .str y => three (strLt x y) (x == y)
  | .bool x, .bool y => three (!x && y) (x == y)
  | .nil, .nil => .ok 0
  | .ref r, other =>
    match fuel with
    | 0 => .err
    | f+1 =>
      match h.get r, other with
      | .list xs, .ref q =>
        match h.get q with
        | .list ys =>
          if xs.length > ys.length then .ok 1 else if xs.length < ys.length then .ok (-1)
          else (xs.zip ys).foldl (fun acc p => match acc with
            | .ok 0 => cmp3 h f p.1 p.2
            | other => other) (.ok 0)
        | _ => .err
      | .bytes a o l, .str s =>
        three (strLt (bytesContent h a o l) s) (bytesContent h a o l == s)
      | .bytes a o l, .ref q =>
        match h.get q with
        | .bytes a2 o2 l2 =>
          three (strLt (bytesContent h a o l) (bytesContent h a2 o2 l2)) (bytesContent h a o l == bytesContent h a2 o2 l2)
        | _ => .err
      | _, _ => .err
  | _, _ => .err

inductive Cmp where
  | lt | ge | err | panic
  deriving DecidableEq, Repr

/-- outcome of the comparator `object.Sort` hands to `sort.SliceStable` for items (a, b):
    `a.Compare(b) == -1`, a recorded type error (treated as "not less"), or the nil-interface
    panic when `a` is not Comparable (map, set). -/
def cmpVal (h : Heap) (fuel : Nat) (a b : Val) : Cmp :=
  match a with
  | .ref r =>
    match h.get r with
    | .map _ => .panic
    | .set _ => .panic
    | _ => match cmp3 h fuel a b with
      | .ok c => if c = -1 then .lt else .ge
      | .err => .err
  | _ => match cmp3 h fuel a b with
    | .ok c => if c = -1 then .lt else .ge
    | .err => .err

/-! ### numbers of every magnitude: what "sorted" means for them

`Int.Compare(Int)` compares the int64 values themselves, so two ints are told apart however
large they are (2^53 and 2^53+1, MaxInt64-1 and MaxInt64 — pairs a float64 cannot tell apart).
`numKey` is TWICE the exact value of a number (an integer for ints, bytes and the half-integer
floats of the model); the reference reading of a sort of numbers is stated with it. -/

/-- twice the exact numeric value; `none` for anything that is no number -/
def numKey : Val → Option Int
  | .int i => some (2 * i)
  | .byte n => some (2 * (n : Int))
  | .flt t => some t
  | _ => none

def isNum (v : Val) : Bool := (numKey v).isSome

def keyOf (v : Val) : Int := (numKey v).getD 0

/-- the comparator "less by exact value" -/
def keyCmp (a b : Val) : Cmp := if keyOf a < keyOf b then .lt else .ge

/-- Spec: the items are in ascending order of their exact values -/
def Spec.ascending : List Val → Bool
  | a :: b :: rest => decide (keyOf a ≤ keyOf b) && Spec.ascending (b :: rest)
  | _ => true

/-- the items of `xs` whose value equals that of `v`, in the order they have in `xs` -/
def Spec.sameValue (v : Val) (xs : List Val) : List Val := xs.filter (fun x => keyOf x == keyOf v)

/-- Spec: "`ys` is `xs` sorted" for lists of numbers — ascending by exact value, and for every
    value the items having it are the same objects in the same (input) order: nothing lost,
    duplicated or invented, and the sort is stable (an ascending arrangement is pinned down by
    what it holds per value: `ascending_ints_unique` states it for ints). -/
def Spec.isSortOf (xs ys : List Val) : Bool :=
  Spec.ascending ys && (xs ++ ys).all (fun v => Spec.sameValue v ys == Spec.sameValue v xs)

/-- what a sort through float64 keys sees of an int: `float64(i)` (round to nearest, ties to
    even, 53 significant bits), as an exact integer. NOT what `Int.Compare` looks at; kept to
    state why sorting numbers through float keys is no sort (`C16_float_keys_do_not_sort`). -/
def f64OfInt (i : Int) : Int :=
  let a := i.natAbs
  if a < 9007199254740992 then i else
  let e := Nat.log2 a - 52
  let q := a / 2 ^ e
  let r := a % 2 ^ e
  let half := 2 ^ (e - 1)
  let q' := if r > half || (r == half && q % 2 == 1) then q + 1 else q
  (if i < 0 then -1 else 1) * ((q' * 2 ^ e : Nat) : Int)

/-- the comparator of a sort that precomputes float64 keys for ints -/
def f64KeyCmp (a b : Val) : Cmp :=
  match a, b with
  | .int x, .int y => if f64OfInt x < f64OfInt y then .lt else .ge
  | _, _ => keyCmp a b

/-! ### Impl: list contents, as the code computes -/
namespace Impl

def getItem(items : List Val) (i : Int) : Option Val :=
  match resolveIndex i items.length with
  | .ok k => items[k.toNat]?
  | .err => none

def setItem (items : List Val) (i : Int) (v : Val) : Option (List Val) :=
  match resolveIndex i items.length with
  | .ok k => some (items.set k.toNat v)
  | .err => none

/-- `append(items[:idx], items[idx+1:]...)` -/
def splice (items : List Val) (k : Nat) : List Val := items.take k ++ items.drop (k + 1)

def pop (items : List Val) (i : Int) : Option (Val × List Val) :=
  match resolveIndex i items.length with
  | .ok k =>
    match items[k.toNat]? with
    | some x => some (x, splice items k.toNat)
    | none => none
  | .err => none

def delItem (items : List Val) (i : Int) : Option (List Val) :=
  match resolveIndex i items.length with
  | .ok k => some (splice items k.toNat)
  | .err => none

/-- `List.Insert`: negative index relative to the end and clamped to 0; then the three cases
    of the code (prepend, append, shift) -/
def insert (items : List Val) (index : Int) (v : Val) : List Val :=
  let n : Int := items.length
  let index := if index < 0 then (if n + index < 0 then 0 else n + index) else index
  if index = 0 then v :: items
  else if index ≥ n then items ++ [v]
  else items.take index.toNat ++ v :: items.drop index.toNat

/-- `List.Index`: position of the first item with `eq needle item` -/
def indexOf (eq : Val → Val → Bool) (v : Val) : List Val → Option Nat
  | [] => none
  | x :: xs => if eq v x then some 0 else (indexOf eq v xs).map (· + 1)

def remove (eq : Val → Val → Bool) (items : List Val) (v : Val) : List Val :=
  match indexOf eq v items with
  | none => items
  | some k => splice items k

def count (eq : Val → Val → Bool) (items : List Val) (v : Val) : Nat :=
  items.foldl (fun c x => if eq v x then c + 1 else c) 0

def contains (eq : Val → Val → Bool) (items : List Val) (v : Val) : Bool :=
  items.any (fun x => eq x v)

def swapAt (a : List Val) (i j : Nat) : List Val :=
  match a[i]?, a[j]? with
  | some x, some y => (a.set i y).set j x
  | _, _ => a

/-- `for i, j := 0, len-1; i < j; i, j = i+1, j-1 { swap }` with the trip count as fuel -/
def revLoop : Nat → List Val → Nat → Nat → List Val
  | 0, a, _, _ => a
  | f+1, a, i, j => if i < j then revLoop f (swapAt a i j) (i + 1) (j - 1) else a

def reverse (a : List Val) : List Val := revLoop a.length a 0 (a.length - 1)

def slice (items : List Val) (start stop : Option Val) : Except ErrC (List Val) :=
  match resolveIntSlice start stop items.length with
  | .ok a b => .ok ((items.drop a).take (b - a))
  | .err c => .error c

/-- one inner loop of Go's `insertionSort` on the reversed sorted prefix: bubble `x` down
    while `less x y`; returns the new reversed prefix and whether a comparison failed -/
def ins (cmp : Val → Val → Cmp) (x : Val) : List Val → List Val × Cmp
  | [] => ([x], .ge)
  | y :: ys =>
    match cmp x y with
    | .lt => let (r, c) := ins cmp x ys; (y :: r, c)
    | .ge => (x :: y :: ys, .ge)
    | .err => (x :: y :: ys, .err)
    | .panic => (x :: y :: ys, .panic)

/-- `sort.SliceStable` for n ≤ 20 (pure insertion sort; for consistent comparators every
    stable sort gives the same result at any length). Returns the final arrangement and
    the worst event seen: `.ge` none, `.err` a recorded type error, `.panic` aborted. -/
def sortLoop (cmp : Val → Val → Cmp) : List Val → List Val → Cmp → List Val × Cmp
  | rp, [], flag => (rp.reverse, flag)
  | rp, x :: rest, flag =>
    match ins cmp x rp with
    | (rp', .panic) => (rp'.reverse ++ rest, .panic)
    | (rp', .err) => sortLoop cmp rp' rest .err
    | (rp', _) => sortLoop cmp rp' rest flag

def sort (cmp : Val → Val → Cmp) (items : List Val) : List Val × Cmp := sortLoop cmp [] items .ge

inductive Cb where
  | idx       -- func(i, x) { return i }
  | val       -- func(i, x) { return x }
  | idxPlus   -- func(i, x) { return i + 0 }   (a fresh Int)
  | one       -- func(x) { return x }
  deriving DecidableEq, Repr

/-- what callback `cb` returns when it is called with the index object `idx` and the item `x`
    (`i + 0` builds a new Int with the same value) -/
def callCb (cb : Cb) (idx : Val) (x : Val) : Val :=
  match cb with
  | .idx => idx
  | .val => x
  | .idxPlus => idx
  | .one => x

/-- the loop of `List.Map` (object/list.go) as it is written: for item number `i` the callback
    receives `NewInt(int64(i))` -- an index object of its own -- and its output is appended to
    `result` -/
def mapLoop (cb : Cb) : Nat → List Val → List Val → List Val
  | _, [], result => result
  | i, x :: xs, result => mapLoop cb (i + 1) xs (result ++ [callCb cb (.int i) x])

/-- `list.map(fn)`: the result list after the loop -/
def mapIdx (cb : Cb) (items : List Val) : List Val := mapLoop cb 0 items []

/-! HISTORICAL (before `fix: give every list.map callback its own index object`): ONE Int
    object `index` was allocated before the loop, overwritten on each iteration
    (`index.value = int64(i)`) and passed by pointer (`mapArgs[0] = &index`). A callback that
    returned (or stored) its index therefore returned that shared object. Kept so that the
    repaired defect stays documented (`C16_fixed_map_index_was_shared` in Props); no part of
    the machine uses these two definitions any more. -/

/-- pre-fix loop: `none` stands for the pointer to the one shared index object -/
def preFixMapPtrs (cb : Cb) : Nat → List Val → List (Option Val)
  | _, [] => []
  | i, x :: xs =>
    (match cb with
      | .idx => none
      | .val => some x
      | .idxPlus => some (.int i)
      | .one => some x) :: preFixMapPtrs cb (i + 1) xs

/-- pre-fix result: after the loop every pointer reads the last index written -/
def preFixMapIdx (cb : Cb) (items : List Val) : List Val :=
  (preFixMapPtrs cb 0 items).map (fun p => match p with
    | some v => v
    | none => .int ((items.length : Int) - 1))

/-! `sorted(x, f)`: `sort.SliceStable` driven by a script comparison function.

    The comparison is a call-numbered ORACLE (the type named `CmpOracle` in the section on the
    machine's builtins): the outcome of call number `n` (0-based, counted over the whole sort) on
    the pair `(a, b)` is `some true` (less), `some false` (not less) or `none` (the function
    RAISES). An abstract relation is the oracle that ignores `n`; an oracle list / "fails at
    step k" is the oracle that looks only at `n`. As in the Go code a raising call counts as
    "not less", the error is remembered, and the sort carries on to the end. -/

/-- one inner loop of Go's `insertionSort` on the reversed sorted prefix, threading the call
    counter; returns the new reversed prefix, the counter and whether a call raised -/
def insBy (f : Nat → Val → Val → Option Bool) (x : Val) : Nat → List Val → List Val × Nat × Bool
  | n, [] => ([x], n, false)
  | n, y :: ys =>
    match f n x y with
    | some true => let r := insBy f x (n + 1) ys; (y :: r.1, r.2.1, r.2.2)
    | some false => (x :: y :: ys, n + 1, false)
    | none => (x :: y :: ys, n + 1, true)

def sortByLoop (f : Nat → Val → Val → Option Bool) : List Val → List Val → Nat → Bool → List Val × Bool
  | rp, [], _, e => (rp.reverse, e)
  | rp, x :: rest, n, e =>
    let r := insBy f x n rp
    sortByLoop f r.1 rest r.2.1 (e || r.2.2)

/-- the arrangement `sort.SliceStable(items, less)` leaves behind (insertion sort: exact for
    n ≤ 20, and at any length for consistent comparison functions) and whether a call raised.
    When a call raised, the arrangement is the HALF-SORTED one the slice is left in. -/
def sortBy (f : Nat → Val → Val → Option Bool) (xs : List Val) : List Val × Bool :=
  sortByLoop f [] xs 0 false

/-- `chunk`: consecutive pieces of `n ≥ 1` items (the last one may be shorter); `fuel` bounds
    the number of pieces -/
def chunksOf (n : Nat) : Nat → List Val → List (List Val)
  | 0, _ => []
  | _, [] => []
  | f+1, x :: xs => (x :: xs).take n :: chunksOf n f ((x :: xs).drop n)

/-! maps: unordered association lists with unique keys -/

def mset (kvs : List (Str × Val)) (k : Str) (v : Val) : List (Str × Val) :=
  match kvs with
  | [] => [(k, v)]
  | (k', v') :: rest => if k' = k then (k, v) :: rest else (k', v') :: mset rest k v

def mdel (kvs : List (Str × Val)) (k : Str) : List (Str × Val) :=
  kvs.filter (fun p => p.1 ≠ k)

def mupdate (kvs other : List (Str × Val)) : List (Str × Val) :=
  other.foldl (fun acc p => mset acc p.1 p.2) kvs

def msetdefault (kvs : List (Str × Val)) (k : Str) (v : Val) : List (Str × Val) × Val :=
  match lookupKV k kvs with
  | some w => (kvs, w)
  | none => (mset kvs k v, v)

/-! sets: lists of hashable atoms with unique hash keys -/

def sadd (items : List Val) (v : Val) : List Val :=
  match items with
  | [] => [v]
  | x :: rest => if keyEq x v then v :: rest else x :: sadd rest v

def sremove (items : List Val) (v : Val) : List Val := items.filter (fun x => !keyEq x v)
def smem (items : List Val) (v : Val) : Bool := items.any (fun x => keyEq x v)
def sunion (a b : List Val) : List Val := b.foldl sadd a
def sinter (a b : List Val) : List Val := a.filter (fun x => smem b x)

/-! strings -/

def strGet (s : Str) (i : Int) : Option Str :=
  let rs := runes s
  match resolveIndex i rs.length with
  | .ok k => (rs[k.toNat]?).map encodeRune
  | .err => none

def strSlice (s : Str) (start stop : Option Val) : Except ErrC Str :=
  let rs := runes s
  match resolveIntSlice start stop rs.length with
  | .ok a b => .ok (encodeRunes ((rs.drop a).take (b - a)))
  | .err c => .error c

/-! list iterators (object/list_iter.go): a cursor into the LIVE list -/

/-- `ListIter.Next` as it is written, for an iterator that has yielded `k` items (Go's field
    `pos` is `k - 1`, `-1` in a new iterator): `items := iter.l.items` -- the list's items as
    they are NOW --; `if iter.pos >= int64(len(items)-1) { return nil, false }`;
    `iter.pos++; return items[iter.pos], true` -/
def iterNext (items : List Val) (k : Nat) : Option Val :=
  if (k : Int) - 1 ≥ (items.length : Int) - 1 then none else items[k]?

/-- the loop of `list(it)` (builtins.List): `for { val, ok := iter.Next(ctx); if !ok { break };
    items = append(items, val) }`; returns the collected items and the final count -/
def drainLoop : Nat → List Val → Nat → List Val → List Val × Nat
  | 0, _, k, acc => (acc, k)
  | f+1, xs, k, acc =>
    match iterNext xs k with
    | some v => drainLoop f xs (k + 1) (acc ++ [v])
    | none => (acc, k)

def drain (xs : List Val) (k : Nat) : List Val × Nat := drainLoop (xs.length + 1) xs k []

end Impl

/-! ### Spec: the reference container functions -/
namespace Spec

/-- Python-style index: valid exactly for `-n ≤ i < n` -/
def normIndex (n : Nat) (i : Int) : Option Nat :=
  if 0 ≤ i ∧ i < n then some i.toNat
  else if -(n : Int) ≤ i ∧ i < 0 then some (i + n).toNat
  else none

def getItem (items : List Val) (i : Int) : Option Val :=
  match normIndex items.length i with
  | some k => items[k]?
  | none => none

def setItem (items : List Val) (i : Int) (v : Val) : Option (List Val) :=
  match normIndex items.length i with
  | some k => some (items.set k v)
  | none => none

def pop (items : List Val) (i : Int) : Option (Val × List Val) :=
  match normIndex items.length i with
  | some k =>
    match items[k]? with
    | some x => some (x, items.eraseIdx k)
    | none => none
  | none => none

def delItem (items : List Val) (i : Int) : Option (List Val) :=
  match normIndex items.length i with
  | some k => some (items.eraseIdx k)
  | none => none

/-- insert before position `clamp(index)` -/
def insertPos (n : Nat) (index : Int) : Nat :=
  if index < 0 then (if (n : Int) + index < 0 then 0 else ((n : Int) + index).toNat)
  else if index ≥ n then n else index.toNat

def insert (items : List Val) (index : Int) (v : Val) : List Val :=
  let k := insertPos items.length index
  items.take k ++ v :: items.drop k

def remove (eq : Val → Val → Bool) (items : List Val) (v : Val) : List Val :=
  items.eraseP (fun x => eq v x)

def count (eq : Val → Val → Bool) (items : List Val) (v : Val) : Nat :=
  items.countP (fun x => eq v x)

def contains (eq : Val → Val → Bool) (items : List Val) (v : Val) : Bool :=
  items.any (fun x => eq x v)

/-- `l.index(v)`: the first position whose item equals `v` under the LANGUAGE's equality -/
def indexOf (eq : Val → Val → Bool) (v : Val) (items : List Val) : Option Nat :=
  items.findIdx? (fun x => eq v x)

/-- an iterator that has yielded `k` items yields item number `k` of the list as it is now;
    it is exhausted exactly when there is no such item -/
def iterNext (items : List Val) (k : Nat) : Option Val := items[k]?

/-- draining an iterator collects everything from the cursor on and leaves it at the end -/
def drain (items : List Val) (k : Nat) : List Val × Nat := (items.drop k, max k items.length)

def reverse (a : List Val) : List Val := a.reverse

/-- the slice positions the property's text allows a successful slice to use -/
def sliceNorm (n : Nat) (x : Int) : Int := if x < 0 then x + n else x

def slice (items : List Val) (start stop : Option Val) : Except ErrC (List Val) :=
  match boundOf start 0, boundOf stop items.length with
  | some st, some sp =>
    let a := sliceNorm items.length st
    let b := sliceNorm items.length sp
    if 0 ≤ a ∧ a ≤ b ∧ b ≤ items.length ∧ a < items.length then
      .ok ((items.drop a.toNat).take (b.toNat - a.toNat))
    else .error .slice
  | _, _ => .error .type

/-- what `list.map(func(i, x) …)` must produce: callback `cb` applied to (position, item) -/
def mapIdxFrom (cb : Impl.Cb) : Nat → List Val → List Val
  | _, [] => []
  | i, x :: xs =>
    (match cb with
      | .idx => .int i
      | .val => x
      | .idxPlus => .int i
      | .one => x) :: mapIdxFrom cb (i + 1) xs

def mapIdx (cb : Impl.Cb) (items : List Val) : List Val := mapIdxFrom cb 0 items

/-- finite maps as functions -/
abbrev FMap := Str → Option Val
def mset (f : FMap) (k : Str) (v : Val) : FMap := fun k' => if k' = k then some v else f k'
def mdel (f : FMap) (k : Str) : FMap := fun k' => if k' = k then none else f k'
def mupdate (f g : FMap) : FMap := fun k' => match g k' with | some v => some v | none => f k'

/-- sets as membership predicates on hash keys -/
abbrev FSet := Val → Bool

def strGet (s : Str) (i : Int) : Option Str :=
  match normIndex (runes s).length i with
  | some k => ((runes s)[k]?).map encodeRune
  | none => none

end Spec

/-! ### the heap machine -/

inductive Mode where
  | impl | spec
  deriving DecidableEq, Repr

/-- the comparison functions the scenarios hand to `sorted(x, f)` -/
inductive CmpFn where
  | lt        -- func(a, b) { return a < b }
  | gt        -- func(a, b) { return a > b }
  | le        -- func(a, b) { return a <= b }   (not a strict order)
  | ge        -- func(a, b) { return a >= b }
  | always    -- func(a, b) { return true }
  | never     -- func(a, b) { return false }
  deriving DecidableEq, Repr

/-- a comparison oracle: outcome of call number `n` on `(a, b)`; `none` = the call raises -/
abbrev CmpOracle := Nat → Val → Val → Option Bool

/-- the predicates the scenarios hand to `list.filter` -/
inductive Pred where
  | ne        -- func(x) { return x != v }
  | eq        -- func(x) { return x == v }
  | all       -- func(x) { return true }
  | nothing   -- func(x) { return false }
  deriving DecidableEq, Repr

/-- what the body of a generated `for` loop over list `l` does to `l` itself, after recording
    the (index,) item it was handed:
      for i, x := range l { rec.append(i); rec.append(x); BODY }     (withIdx)
      for x in l { rec.append(x); BODY }                             (without) -/
inductive Body where
  | none                     -- nothing
  | grow (n : Nat)           -- if len(l) < n { l.append(x) }          (work list)
  | popLast                  -- l.pop(-1)
  | removeCur                -- l.remove(x)
  | clear                    -- l.clear()
  | setNext (v : Val)        -- if k + 1 < len(l) { l[k+1] = v }       (k = iterations so far)
  | insertFront (n : Nat)    -- if len(l) < n { l.insert(0, x) }
  deriving DecidableEq, Repr

/-- builtins and methods that take a container, must leave it untouched and hand back an
    independent container (or nothing) -/
inductive BOp where
  | sortedBy (r : Nat) (f : CmpFn) (failAt : Option Nat)  -- sorted(x, f); call number `failAt` raises
  | sorted (r : Nat)                 -- sorted(x)    x : list | map | set | byte_slice
  | reversed (r : Nat)               -- reversed(x)  x : list | byte_slice
  | toList (r : Nat)                 -- list(x)      x : list | map | set
  | toSet (r : Nat)                  -- set(x)       x : list | map | set
  | keysOf (r : Nat)                 -- keys(x)      x : list | map | set
  | items (r : Nat)                  -- m.items()
  | filter (r : Nat) (p : Pred) (v : Val)   -- l.filter(p)
  | each (r : Nat)                   -- l.each(func(x) { x })
  | eachAcc (r : Nat) (acc : Nat)    -- l.each(func(x) { acc.append(x) })
  | chunk (r : Nat) (n : Val)        -- chunk(l, n)
  deriving DecidableEq, Repr

inductive Op where
  | lGet (r : Nat) (i : Val)
  | lSlice (r : Nat) (a b : Option Val)
  | lSet (r : Nat) (i v : Val)
  | lAddAssign (r : Nat) (i v : Val)
  | lAppend (r : Nat) (v : Val)
  | lInsert (r : Nat) (i v : Val)
  | lPop (r : Nat) (i : Val)
  | lRemove (r : Nat) (v : Val)
  | lExtend (r : Nat) (o : Val)
  | lReverse (r : Nat)
  | lSort (r : Nat)
  | lCopy (r : Nat)
  | lClear (r : Nat)
  | lIndex (r : Nat) (v : Val)
  | lCount (r : Nat) (v : Val)
  | lContains (r : Nat) (v : Val)
  | lLen (r : Nat)
  | lDel (r : Nat) (i : Val)
  | lConcat (r : Nat) (o : Val)
  | lSorted (r : Nat)
  | lReversed (r : Nat)
  | lKeys (r : Nat)
  | lMap (r : Nat) (cb : Impl.Cb)
  | lMapAcc (r : Nat) (acc : Nat)       -- a.map(func(i, x) { acc.append(i); return x })
  | iNew (r : Nat)                      -- iter(l)
  | iNext (it : Nat)                    -- it.next()
  | iRest (it : Nat)                    -- list(it)
  | lFor (r : Nat) (withIdx : Bool) (b : Body)   -- a for loop over l whose body changes l; see `Body`
  | mSet (r : Nat) (k v : Val)
  | mGet (r : Nat) (k : Val)
  | mGetDef (r : Nat) (k : Val) (d : Option Val)
  | mPop (r : Nat) (k : Val) (d : Option Val)
  | mDel (r : Nat) (k : Val)
  | mUpdate (r : Nat) (o : Val)
  | mSetDefault (r : Nat) (k v : Val)
  | mCopy (r : Nat)
  | mClear (r : Nat)
  | mKeys (r : Nat)
  | mValues (r : Nat)
  | mContains (r : Nat) (k : Val)
  | mLen (r : Nat)
  | mAddAssign (r : Nat) (k v : Val)
  | sAdd (r : Nat) (v : Val)
  | sRemove (r : Nat) (v : Val)
  | sUnion (r : Nat) (o : Val)
  | sInter (r : Nat) (o : Val)
  | sContains (r : Nat) (v : Val)
  | sGet (r : Nat) (v : Val)
  | sDel (r : Nat) (v : Val)
  | sLen (r : Nat)
  | sClear (r : Nat)
  | bGet (r : Nat) (i : Val)
  | bSet (r : Nat) (i v : Val)
  | bSlice (r : Nat) (a b : Option Val)
  | bClone (r : Nat)
  | bLen (r : Nat)
  | strGet (s : Val) (i : Val)
  | strSlice (s : Val) (a b : Option Val)
  | strLen (s : Val)
  | bi (b : BOp)
  deriving DecidableEq, Repr

def Heap.put (h : Heap) (r : Nat) (o : Obj) : Heap := { h with objs := h.objs.set r o }
def Heap.alloc (h : Heap) (o : Obj) : Heap × Nat := ({ h with objs := h.objs ++ [o] }, h.objs.length)

def fuelOf (h : Heap) : Nat := h.objs.length + 1

def heq (h : Heap) : Val → Val → Bool := valEq h (fuelOf h)
def hcmp (h : Heap) : Val → Val → Cmp := cmpVal h (fuelOf h)

/-- `AsInt`: int or byte -/
def asInt : Val → Option Int
  | .int i => some i
  | .byte n => some n
  | _ => none

/-- `AsString`: string or byte_slice -/
def asString (h : Heap) : Val → Option Str
  | .str s => some s
  | .ref r => match h.get r with
    | .bytes a o l => some (bytesContent h a o l)
    | _ => none
  | _ => none

def asList (h : Heap) : Val → Option (List Val)
  | .ref r => match h.get r with
    | .list xs => some xs
    | _ => none
  | _ => none

def asMap (h : Heap) : Val → Option (List (Str × Val))
  | .ref r => match h.get r with
    | .map xs => some xs
    | _ => none
  | _ => none

def asSet (h : Heap) : Val → Option (List Val)
  | .ref r => match h.get r with
    | .set xs => some xs
    | _ => none
  | _ => none

/-- `a + b` as `BinaryOp(Add)` computes it for the operand kinds the generator produces:
    int+int (wrapping), the numeric tower (byte+byte stays a byte modulo 256, byte+int is an
    int, anything with a float is a float; float sums are exact for the half-integers of small
    magnitude the generator keeps them to), string+string; anything else is a type error.
    Lists are excluded here (the generator never adds lists in a compound assignment). -/
def addVal : Val → Val → Option Val
  | .int a, .int b => some (.int (wrap64 (a + b)))
  | .int a, .byte b => some (.int (wrap64 (a + b)))
  | .byte a, .int b => some (.int (wrap64 (a + b)))
  | .byte a, .byte b => some (.byte ((a + b) % 256))
  | .int a, .flt t => some (.flt (2 * a + t))
  | .flt t, .int b => some (.flt (t + 2 * b))
  | .byte a, .flt t => some (.flt (2 * (a : Int) + t))
  | .flt t, .byte b => some (.flt (t + 2 * (b : Int)))
  | .flt s, .flt t => some (.flt (s + t))
  | .str a, .str b => some (.str (a ++ b))
  | _, _ => none

def insKey (k : Str) : List Str → List Str
  | [] => [k]
  | x :: xs => if strLt k x then k :: x :: xs else x :: insKey k xs

def sortKeys (ks : List Str) : List Str := ks.foldl (fun acc k => insKey k acc) []

def sortedKVs (kvs : List (Str × Val)) : List (Str × Val) :=
  (sortKeys (kvs.map (·.1))).filterMap (fun k => (lookupKV k kvs).map (fun v => (k, v)))

def newList (h : Heap) (xs : List Val) : Heap × Res :=
  let (h', r) := h.alloc (.list xs)
  (h', .val (.ref r))

/-! ### builtins that must leave their operand untouched -/

def insByKey (v : Val) : List Val → List Val
  | [] => [v]
  | x :: xs => if keyLt v x then v :: x :: xs else x :: insByKey v xs

/-- `Set.SortedItems`: the members ordered by hash key (type name, int value, string value) -/
def sortedItems (xs : List Val) : List Val := xs.foldl (fun acc v => insByKey v acc) []

def mapKeys (kvs : List (Str × Val)) : List Val := (sortedKVs kvs).map (fun p => Val.str p.1)

/-- what `list(x)` / `set(x)` iterate over: list items, sorted map keys, sorted set members -/
def iterItems (h : Heap) (r : Nat) : Option (List Val) :=
  match h.get r with
  | .list xs => some xs
  | .map kvs => some (mapKeys kvs)
  | .set xs => some (sortedItems xs)
  | .bytes _ _ _ => none
  | .iter _ _ => none

/-- what `sorted(x[, f])` sorts: `Value()` of a list, the keys of a map, the members of a
    set, the bytes of a byte_slice as ints -/
def sortItems (h : Heap) (r : Nat) : List Val :=
  match h.get r with
  | .list xs => xs
  | .map kvs => mapKeys kvs
  | .set xs => sortedItems xs
  | .bytes a o l => (bytesContent h a o l).map (fun (b : Nat) => Val.int (b : Int))
  | .iter _ _ => []

/-- one call of a script comparison function: `a < b` etc. through `object.Compare`
    (a type error raises), or a constant -/
def cmpFnOutcome (h : Heap) (f : CmpFn) (a b : Val) : Option Bool :=
  match f with
  | .always => some true
  | .never => some false
  | .lt => match cmp3 h (fuelOf h) a b with | .ok c => some (decide (c < 0)) | .err => none
  | .gt => match cmp3 h (fuelOf h) a b with | .ok c => some (decide (c > 0)) | .err => none
  | .le => match cmp3 h (fuelOf h) a b with | .ok c => some (decide (c ≤ 0)) | .err => none
  | .ge => match cmp3 h (fuelOf h) a b with | .ok c => some (decide (c ≥ 0)) | .err => none

/-- the oracle of a scenario: call number `failAt` raises, every other call compares -/
def oracleOf (h : Heap) (f : CmpFn) (failAt : Option Nat) : CmpOracle :=
  fun n a b => if failAt = some n then none else cmpFnOutcome h f a b

def predOf (h : Heap) (p : Pred) (v : Val) : Val → Bool :=
  match p with
  | .ne => fun x => !heq h x v
  | .eq => fun x => heq h x v
  | .all => fun _ => true
  | .nothing => fun _ => false

/-- append several new objects at once -/
def allocs (h : Heap) (os : List Obj) : Heap := { h with objs := h.objs ++ os }

/-- references to `n` consecutive objects starting at `base` -/
def refsFrom (base n : Nat) : List Val := (List.range n).map (fun i => Val.ref (base + i))

/-- the builtins of the class, as the code performs them. They are the same in both readings
    of the machine: the property demands exactly that the operand is only read and that the
    result is a new object. -/
def stepB (h : Heap) (b : BOp) : Heap × Res :=
  match b with
  | .sortedBy r f k =>
    -- `resultItems := copy(items)`; `sort.SliceStable(resultItems, f)`; an error of `f` is
    -- returned as a type error and the copy is dropped
    match Impl.sortBy (oracleOf h f k) (sortItems h r) with
    | (_, true) => (h, .err .type)
    | (ys, false) => newList h ys
  | .sorted r =>
    match Impl.sort (hcmp h) (sortItems h r) with
    | (_, .err) => (h, .err .type)
    | (_, .panic) => (h, .err .panic)
    | (ys, _) => newList h ys
  | .reversed r =>
    match h.get r with
    | .list xs => newList h xs.reverse
    | .bytes a o l =>
      ({ objs := h.objs ++ [.bytes h.arrs.length 0 l], arrs := h.arrs ++ [(bytesContent h a o l).reverse] },
        .val (.ref h.objs.length))
    | _ => (h, .err .type)
  | .toList r =>
    match iterItems h r with
    | some xs => newList h xs
    | none => (h, .err .type)
  | .toSet r =>
    match iterItems h r with
    | some xs =>
      if xs.all (fun x => (hashKey x).isSome) then
        (allocs h [.set (xs.foldl Impl.sadd [])], .val (.ref h.objs.length))
      else (h, .err .type)
    | none => (h, .err .type)
  | .keysOf r =>
    match h.get r with
    | .list xs => newList h ((List.range xs.length).map (fun (i : Nat) => Val.int (i : Int)))
    | .map kvs => newList h (mapKeys kvs)
    | .set xs => newList h (sortedItems xs)
    | .bytes _ _ _ => (h, .err .type)
    | .iter _ _ => (h, .err .type)
  | .items r =>
    match h.get r with
    | .map kvs =>
      let ps := sortedKVs kvs
      (allocs h (ps.map (fun p => Obj.list [.str p.1, p.2]) ++ [.list (refsFrom h.objs.length ps.length)]),
        .val (.ref (h.objs.length + ps.length)))
    | _ => (h, .err .type)
  | .filter r p v =>
    match h.get r with
    | .list xs => newList h (xs.filter (predOf h p v))
    | _ => (h, .err .type)
  | .each r =>
    match h.get r with
    | .list _ => (h, .val .nil)
    | _ => (h, .err .type)
  | .eachAcc r acc =>
    -- `for _, value := range ls.items`: the items as they were when the loop started
    match h.get r, h.get acc with
    | .list xs, .list as => (h.put acc (.list (as ++ xs)), .val .nil)
    | _, _ => (h, .err .type)
  | .chunk r n =>
    match h.get r, n with
    | .list xs, .int k =>
      if k ≤ 0 then (h, .err .value)
      else
        let cs := Impl.chunksOf k.toNat xs.length xs
        (allocs h (cs.map Obj.list ++ [.list (refsFrom h.objs.length cs.length)]),
          .val (.ref (h.objs.length + cs.length)))
    | _, _ => (h, .err .type)

/-! ### iteration over a list that changes meanwhile -/

/-- the length up to which a loop body lets its list grow -/
def Body.bound : Body → Nat
  | .grow n => n
  | .insertFront n => n
  | _ => 0

/-- one step of a list iterator in the reading `m` of the machine -/
def nextOf (m : Mode) (xs : List Val) (k : Nat) : Option Val :=
  match m with
  | .impl => Impl.iterNext xs k
  | .spec => Spec.iterNext xs k

/-- what one run of loop body `b` makes of the iterated list `xs`; `k` = iterations before this
    one, `x` = the item the iterator handed to it -/
def bodyList (m : Mode) (eq : Val → Val → Bool) (b : Body) (xs : List Val) (k : Nat) (x : Val) : List Val :=
  match b with
  | .none => xs
  | .grow n => if xs.length < n then xs ++ [x] else xs
  | .popLast =>
    match (match m with | .impl => Impl.pop xs (-1) | .spec => Spec.pop xs (-1)) with
    | some (_, ys) => ys
    | none => xs
  | .removeCur => (match m with | .impl => Impl.remove eq xs x | .spec => Spec.remove eq xs x)
  | .clear => []
  | .setNext v =>
    if k + 1 < xs.length then
      match (match m with | .impl => Impl.setItem xs ((k : Int) + 1) v | .spec => Spec.setItem xs ((k : Int) + 1) v) with
      | some ys => ys
      | none => xs
    else xs
  | .insertFront n =>
    if xs.length < n then (match m with | .impl => Impl.insert xs 0 x | .spec => Spec.insert xs 0 x) else xs

/-- the `for` loop of the VM (`GetIter`, then `ForIter` before every round: `iter.Next`, the
    names are bound from `iter.Entry()`, the body runs): every round reads the list object
    `r` AS IT IS THEN, records `(k, x)` (or `x`) and lets the body change the list. `fuel`
    bounds the number of rounds. Returns the heap and the record. -/
def forLoop (m : Mode) (r : Nat) (w : Bool) (b : Body) : Nat → Heap → Nat → List Val → Heap × List Val
  | 0, h, _, acc => (h, acc)
  | f+1, h, k, acc =>
    match h.get r with
    | .list xs =>
      match nextOf m xs k with
      | none => (h, acc)
      | some x =>
        forLoop m r w b f (h.put r (.list (bodyList m (heq h) b xs k x))) (k + 1)
          (acc ++ (if w then [.int k, x] else [x]))
    | _ => (h, acc)

/-- one operation on the heap, as the code performs it (`.impl`) or as the reference
    containers do (`.spec`). Target handles of the wrong kind give a type error. -/
def step (m : Mode) (h : Heap) (op : Op) : Heap × Res :=
  match op with
  | .lGet r i =>
    match h.get r, i with
    | .list xs, .int k =>
      match (match m with | .impl => Impl.getItem xs k | .spec => Spec.getItem xs k) with
      | some v => (h, .val v)
      | none => (h, .err .index)
    | _, _ => (h, .err .type)
  | .lSlice r a b =>
    match h.get r with
    | .list xs =>
      match (match m with | .impl => Impl.slice xs a b | .spec => Spec.slice xs a b) with
      | .ok ys => newList h ys
      | .error c => (h, .err c)
    | _ => (h, .err .type)
  | .lSet r i v =>
    match h.get r, i with
    | .list xs, .int k =>
      match (match m with | .impl => Impl.setItem xs k v | .spec => Spec.setItem xs k v) with
      | some ys => (h.put r (.list ys), .unit)
      | none => (h, .err .index)
    | _, _ => (h, .err .type)
  | .lAddAssign r i v =>
    match h.get r, i with
    | .list xs, .int k =>
      match (match m with | .impl => Impl.getItem xs k | .spec => Spec.getItem xs k) with
      | none => (h, .err .index)
      | some old =>
        match addVal old v with
        | none => (h, .err .type)
        | some nv =>
          match (match m with | .impl => Impl.setItem xs k nv | .spec => Spec.setItem xs k nv) with
          | some ys => (h.put r (.list ys), .unit)
          | none => (h, .err .index)
    | _, _ => (h, .err .type)
  | .lAppend r v =>
    match h.get r with
    | .list xs => (h.put r (.list (xs ++ [v])), .unit)
    | _ => (h, .err .type)
  | .lInsert r i v =>
    match h.get r, asInt i with
    | .list xs, some k =>
      (h.put r (.list (match m with | .impl => Impl.insert xs k v | .spec => Spec.insert xs k v)), .unit)
    | _, _ => (h, .err .type)
  | .lPop r i =>
    match h.get r, asInt i with
    | .list xs, some k =>
      match (match m with | .impl => Impl.pop xs k | .spec => Spec.pop xs k) with
      | some (x, ys) => (h.put r (.list ys), .val x)
      | none => (h, .err .index)
    | _, _ => (h, .err .type)
  | .lRemove r v =>
    match h.get r with
    | .list xs =>
      (h.put r (.list (match m with | .impl => Impl.remove (heq h) xs v | .spec => Spec.remove (heq h) xs v)), .unit)
    | _ => (h, .err .type)
  | .lExtend r o =>
    match h.get r, asList h o with
    | .list xs, some ys => (h.put r (.list (xs ++ ys)), .unit)
    | _, _ => (h, .err .type)
  | .lReverse r =>
    match h.get r with
    | .list xs => (h.put r (.list (match m with | .impl => Impl.reverse xs | .spec => Spec.reverse xs)), .unit)
    | _ => (h, .err .type)
  | .lSort r =>
    match h.get r with
    | .list xs =>
      match Impl.sort (hcmp h) xs with
      | (ys, .ge) => (h.put r (.list ys), .unit)
      | (ys, .lt) => (h.put r (.list ys), .unit)
      | (ys, .err) => (h.put r (.list ys), .err .type)
      | (ys, .panic) => (h.put r (.list ys), .err .panic)
    | _ => (h, .err .type)
  | .lCopy r =>
    match h.get r with
    | .list xs => newList h xs
    | _ => (h, .err .type)
  | .lClear r =>
    match h.get r with
    | .list _ => (h.put r (.list []), .unit)
    | _ => (h, .err .type)
  | .lIndex r v =>
    match h.get r with
    | .list xs =>
      match (match m with | .impl => Impl.indexOf (heq h) v xs | .spec => Spec.indexOf (heq h) v xs) with
      | some k => (h, .val (.int k))
      | none => (h, .val (.int (-1)))
    | _ => (h, .err .type)
  | .lCount r v =>
    match h.get r with
    | .list xs =>
      (h, .val (.int (match m with | .impl => Impl.count (heq h) xs v | .spec => Spec.count (heq h) xs v)))
    | _ => (h, .err .type)
  | .lContains r v =>
    match h.get r with
    | .list xs => (h, .val (.bool (Impl.contains (heq h) xs v)))
    | _ => (h, .err .type)
  | .lLen r =>
    match h.get r with
    | .list xs => (h, .val (.int xs.length))
    | _ => (h, .err .type)
  | .lDel r i =>
    match h.get r, i with
    | .list xs, .int k =>
      match (match m with | .impl => Impl.delItem xs k | .spec => Spec.delItem xs k) with
      | some ys => (h.put r (.list ys), .unit)
      | none => (h, .err .index)
    | _, _ => (h, .err .type)
  | .lConcat r o =>
    match h.get r, asList h o with
    | .list xs, some ys => newList h (xs ++ ys)
    | _, _ => (h, .err .type)
  | .lSorted r =>
    match h.get r with
    | .list xs =>
      match Impl.sort (hcmp h) xs with
      | (_, .err) => (h, .err .type)
      | (_, .panic) => (h, .err .panic)
      | (ys, _) => newList h ys
    | _ => (h, .err .type)
  | .lReversed r =>
    match h.get r with
    | .list xs => newList h xs.reverse
    | _ => (h, .err .type)
  | .lKeys r =>
    match h.get r with
    | .list xs => newList h ((List.range xs.length).map (fun (i : Nat) => Val.int (i : Int)))
    | _ => (h, .err .type)
  | .lMap r cb =>
    match h.get r with
    | .list xs => newList h (match m with | .impl => Impl.mapIdx cb xs | .spec => Spec.mapIdx cb xs)
    | _ => (h, .err .type)
  | .lMapAcc r acc =>
    match h.get r, h.get acc with
    | .list xs, .list as =>
      -- the callback appends its index object to `acc` and returns x
      let seen := match m with | .impl => Impl.mapIdx .idx xs | .spec => Spec.mapIdx .idx xs
      let h1 := h.put acc (.list (as ++ seen))
      -- the result list is built from the items as they were when the loop started
      newList h1 xs
    | _, _ => (h, .err .type)
  | .iNew r =>
    -- `iter(l)` = `NewListIter(l)`: a new cursor object that refers to the list object
    match h.get r with
    | .list _ =>
      let (h', q) := h.alloc (.iter r 0)
      (h', .val (.ref q))
    | _ => (h, .err .type)
  | .iNext it =>
    -- `it.next()`: the item at the cursor in the list AS IT IS NOW, or nil when there is none
    match h.get it with
    | .iter l k =>
      match h.get l with
      | .list xs =>
        match nextOf m xs k with
        | some v => (h.put it (.iter l (k + 1)), .val v)
        | none => (h, .val .nil)
      | _ => (h, .err .type)
    | _ => (h, .err .type)
  | .iRest it =>
    -- `list(it)`: everything from the cursor on, as a new list; the cursor ends at the end
    match h.get it with
    | .iter l k =>
      match h.get l with
      | .list xs =>
        let d := (match m with | .impl => Impl.drain xs k | .spec => Spec.drain xs k)
        newList (h.put it (.iter l d.2)) d.1
      | _ => (h, .err .type)
    | _ => (h, .err .type)
  | .lFor r w b =>
    match h.get r with
    | .list xs =>
      let res := forLoop m r w b (max xs.length b.bound + 1) h 0 []
      newList res.1 res.2
    | _ => (h, .err .type)
  | .mSet r k v =>
    match h.get r, k with
    | .map kvs, .str s => (h.put r (.map (Impl.mset kvs s v)), .unit)
    | _, _ => (h, .err .type)
  | .mGet r k =>
    match h.get r, k with
    | .map kvs, .str s =>
      match lookupKV s kvs with
      | some v => (h, .val v)
      | none => (h, .err .key)
    | _, _ => (h, .err .type)
  | .mGetDef r k d =>
    match h.get r, asString h k with
    | .map kvs, some s =>
      match lookupKV s kvs with
      | some v => (h, .val v)
      | none => (h, .val (d.getD .nil))
    | _, _ => (h, .err .type)
  | .mPop r k d =>
    match h.get r, asString h k with
    | .map kvs, some s =>
      match lookupKV s kvs with
      | some v => (h.put r (.map (Impl.mdel kvs s)), .val v)
      | none => (h, .val (d.getD .nil))
    | _, _ => (h, .err .type)
  | .mDel r k =>
    match h.get r, k with
    | .map kvs, .str s => (h.put r (.map (Impl.mdel kvs s)), .unit)
    | _, _ => (h, .err .type)
  | .mUpdate r o =>
    match h.get r, asMap h o with
    | .map kvs, some other => (h.put r (.map (Impl.mupdate kvs other)), .unit)
    | _, _ => (h, .err .type)
  | .mSetDefault r k v =>
    match h.get r, asString h k with
    | .map kvs, some s =>
      let (kvs', w) := Impl.msetdefault kvs s v
      (h.put r (.map kvs'), .val w)
    | _, _ => (h, .err .type)
  | .mCopy r =>
    match h.get r with
    | .map kvs =>
      let (h', q) := h.alloc (.map kvs)
      (h', .val (.ref q))
    | _ => (h, .err .type)
  | .mClear r =>
    match h.get r with
    | .map _ => (h.put r (.map []), .unit)
    | _ => (h, .err .type)
  | .mKeys r =>
    match h.get r with
    | .map kvs => newList h ((sortedKVs kvs).map (fun p => .str p.1))
    | _ => (h, .err .type)
  | .mValues r =>
    match h.get r with
    | .map kvs => newList h ((sortedKVs kvs).map (·.2))
    | _ => (h, .err .type)
  | .mContains r k =>
    match h.get r with
    | .map kvs =>
      match k with
      | .str s => (h, .val (.bool (lookupKV s kvs).isSome))
      | _ => (h, .val (.bool false))
    | _ => (h, .err .type)
  | .mLen r =>
    match h.get r with
    | .map kvs => (h, .val (.int kvs.length))
    | _ => (h, .err .type)
  | .mAddAssign r k v =>
    match h.get r, k with
    | .map kvs, .str s =>
      match lookupKV s kvs with
      | none => (h, .err .key)
      | some old =>
        match addVal old v with
        | none => (h, .err .type)
        | some nv => (h.put r (.map (Impl.mset kvs s nv)), .unit)
    | _, _ => (h, .err .type)
  | .sAdd r v =>
    match h.get r with
    | .set xs => if (hashKey v).isSome then (h.put r (.set (Impl.sadd xs v)), .unit) else (h, .err .type)
    | _ => (h, .err .type)
  | .sRemove r v =>
    match h.get r with
    | .set xs => if (hashKey v).isSome then (h.put r (.set (Impl.sremove xs v)), .unit) else (h, .err .type)
    | _ => (h, .err .type)
  | .sUnion r o =>
    match h.get r, asSet h o with
    | .set xs, some ys =>
      let (h', q) := h.alloc (.set (Impl.sunion xs ys))
      (h', .val (.ref q))
    | _, _ => (h, .err .type)
  | .sInter r o =>
    match h.get r, asSet h o with
    | .set xs, some ys =>
      let (h', q) := h.alloc (.set (Impl.sinter xs ys))
      (h', .val (.ref q))
    | _, _ => (h, .err .type)
  | .sContains r v =>
    match h.get r with
    | .set xs => (h, .val (.bool (Impl.smem xs v)))
    | _ => (h, .err .type)
  | .sGet r v =>
    match h.get r with
    | .set xs => if (hashKey v).isSome then (h, .val (.bool (Impl.smem xs v))) else (h, .err .type)
    | _ => (h, .err .type)
  | .sDel r v =>
    match h.get r with
    | .set xs => if (hashKey v).isSome then (h.put r (.set (Impl.sremove xs v)), .unit) else (h, .err .type)
    | _ => (h, .err .type)
  | .sLen r =>
    match h.get r with
    | .set xs => (h, .val (.int xs.length))
    | _ => (h, .err .type)
  | .sClear r =>
    match h.get r with
    | .set _ => (h.put r (.set []), .unit)
    | _ => (h, .err .type)
  | .bGet r i =>
    match h.get r, i with
    | .bytes a o l, .int k =>
      let bs : List Val := (bytesContent h a o l).map Val.byte
      match (match m with | .impl => Impl.getItem bs k | .spec => Spec.getItem bs k) with
      | some v => (h, .val v)
      | none => (h, .err .index)
    | _, _ => (h, .err .type)
  | .bSet r i v =>
    match h.get r, i with
    | .bytes a o l, .int k =>
      match resolveIndex k l with
      | .err => (h, .err .index)
      | .ok idx =>
        match asString h v with
        | none => (h, .err .type)
        | some [b] =>
          ({ h with arrs := h.arrs.set a ((h.arrs.getD a []).set (o + idx.toNat) b) }, .unit)
        | some _ => (h, .err .value)
    | _, _ => (h, .err .type)
  | .bSlice r a b =>
    match h.get r with
    | .bytes arr o l =>
      match resolveIntSlice a b l with
      | .err c => (h, .err c)
      | .ok s e =>
        match m with
        | .impl =>
          -- `NewByteSlice(b.value[start:stop])`: a view on the SAME array
          let (h', q) := h.alloc (.bytes arr (o + s) (e - s))
          (h', .val (.ref q))
        | .spec =>
          -- an independent copy
          let content := ((bytesContent h arr o l).drop s).take (e - s)
          let (h', q) := { h with arrs := h.arrs ++ [content] }.alloc (.bytes h.arrs.length 0 (e - s))
          (h', .val (.ref q))
    | _ => (h, .err .type)
  | .bClone r =>
    match h.get r with
    | .bytes arr o l =>
      let (h', q) := { h with arrs := h.arrs ++ [bytesContent h arr o l] }.alloc (.bytes h.arrs.length 0 l)
      (h', .val (.ref q))
    | _ => (h, .err .type)
  | .bLen r =>
    match h.get r with
    | .bytes _ _ l => (h, .val (.int l))
    | _ => (h, .err .type)
  | .strGet s i =>
    match s, i with
    | .str bs, .int k =>
      match (match m with | .impl => Impl.strGet bs k | .spec => Spec.strGet bs k) with
      | some c => (h, .val (.str c))
      | none => (h, .err .index)
    | _, _ => (h, .err .type)
  | .strSlice s a b =>
    match s with
    | .str bs =>
      match Impl.strSlice bs a b with
      | .ok r => (h, .val (.str r))
      | .error c => (h, .err c)
    | _ => (h, .err .type)
  | .strLen s =>
    match s with
    | .str bs => (h, .val (.int (runes bs).length))
    | _ => (h, .err .type)
  | .bi b => stepB h b

/-- run a whole operation sequence, collecting the results -/
def run (m : Mode) : Heap → List Op → Heap × List Res
  | h, [] => (h, [])
  | h, op :: ops =>
    let (h1, r) := step m h op
    let (h2, rs) := run m h1 ops
    (h2, r :: rs)

/-- operations on which today's code is known to leave the reference semantics:
    byte_slice slicing (the slice shares its bytes with the original).
    (Until `fix: give every list.map callback its own index object` this also held
    `.lMap _ .idx` and `.lMapAcc _ _`.) -/
def defectOp : Op → Bool
  | .bSlice _ _ _ => true
  | _ => false

/-- operations that only read -/
def readOnly : Op → Bool
  | .lGet .. | .lIndex .. | .lCount .. | .lContains .. | .lLen .. => true
  | .mGet .. | .mGetDef .. | .mContains .. | .mLen .. => true
  | .sContains .. | .sGet .. | .sLen .. => true
  | .bGet .. | .bLen .. => true
  | .strGet .. | .strSlice .. | .strLen .. => true
  | .bi (.each _) => true
  | _ => false

/-- read-only operations that build a NEW container from their operand -/
def producesNew : Op → Bool
  | .lSlice .. | .lCopy .. | .lConcat .. | .lSorted .. | .lReversed .. | .lKeys .. | .lMap .. => true
  | .iNew .. | .iRest .. | .lFor .. => true
  | .mCopy .. | .mKeys .. | .mValues .. => true
  | .sUnion .. | .sInter .. => true
  | .bSlice .. | .bClone .. => true
  | .bi (.each _) => false
  | .bi (.eachAcc _ _) => false
  | .bi _ => true
  | _ => false

/-- the object an operation may modify -/
def target : Op → Option Nat
  | .lSet r .. | .lAddAssign r .. | .lAppend r .. | .lInsert r .. | .lPop r .. | .lRemove r ..
  | .lExtend r .. | .lReverse r | .lSort r | .lClear r | .lDel r .. => some r
  | .lMapAcc _ acc => some acc
  | .iNext it | .iRest it => some it          -- only the cursor moves, never the list
  | .lFor _ _ .none => none
  | .lFor r _ _ => some r                     -- the loop body changes the list it iterates
  | .mSet r .. | .mPop r .. | .mDel r .. | .mUpdate r .. | .mSetDefault r .. | .mClear r | .mAddAssign r .. => some r
  | .sAdd r .. | .sRemove r .. | .sDel r .. | .sClear r => some r
  | .bSet r .. => some r
  | .bi (.eachAcc _ acc) => some acc
  | _ => none

end Risor.C16
