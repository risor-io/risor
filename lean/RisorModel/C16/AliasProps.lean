/-
C16 extension — `stepA` (Go slice headers, backing arrays, in-place `append`, arbitrary growth
policy) refines `stepC` (one `List Val` per list object, the functions of `Impl`), for the
operations append, setItem, pop, slice, copy, extend, concat (`+`), clear. `Insert` is not in
`AOp` and not covered.
-/
import RisorModel.C16.Alias
import RisorModel.C16.Lemmas

namespace Risor.C16.Alias
open Risor.C16

def WF (arrs : List (List Val)) (hd : Hdr) : Prop :=
  hd.off = 0 ∧ hd.len ≤ hd.cap ∧ ∃ a, arrs[hd.arr]? = some a ∧ hd.off + hd.cap ≤ a.length

/-- the heap invariant of the unchanged code: every list's header is well-formed (offset 0,
    len ≤ cap, cap cells exist in its array) and two DIFFERENT list objects never point into
    the same backing array -/
structure Inv (h : AHeap) : Prop where
  wf : ∀ (i : Nat) (hd : Hdr), h.lists[i]? = some hd → WF h.arrs hd
  distinct : ∀ (i j : Nat) (hi hj : Hdr), h.lists[i]? = some hi → h.lists[j]? = some hj → i ≠ j → hi.arr ≠ hj.arr

theorem read_of {h : AHeap} {hd : Hdr} {a : List Val} (ha : h.arrs[hd.arr]? = some a)
    (h0 : hd.off = 0) : read h hd = a.take hd.len := by
  simp [read, arrOf, ha, h0]

/-- a sub-slice `[x:y]` of a header at offset 0 shows that part of the header's own content -/
theorem read_sub {h : AHeap} {hd : Hdr} {a : List Val} (ha : h.arrs[hd.arr]? = some a) (h0 : hd.off = 0)
    {x y : Nat} (hy : y ≤ hd.len) : read h (sub hd x y) = ((a.take hd.len).drop x).take (y - x) := by
  simp only [read, sub, arrOf, ha, h0, Option.getD_some, Nat.zero_add, List.drop_take, List.take_take,
    Nat.min_eq_left (Nat.sub_le_sub_right hy x)]

/-- frame lemma: list `l` gets header `hd'` into an array `a'` that is its old array
    (rewritten) or a fresh one; all arrays of other lists are kept: the invariant holds and only
    entry `l` of the view changes -/
theorem frame {h : AHeap} {l : Nat} {hd : Hdr} (hI : Inv h) (hl : h.lists[l]? = some hd)
    (arrs' : List (List Val)) (hd' : Hdr) (a' : List Val)
    (hpres : ∀ k, k ≠ hd.arr → k < h.arrs.length → arrs'[k]? = h.arrs[k]?)
    (hfresh : hd'.arr = hd.arr ∨ h.arrs.length ≤ hd'.arr)
    (ha : arrs'[hd'.arr]? = some a') (hoff : hd'.off = 0) (hlen : hd'.len ≤ hd'.cap)
    (hcap : hd'.cap ≤ a'.length) :
    Inv ⟨arrs', h.lists.set l hd'⟩ ∧
      view ⟨arrs', h.lists.set l hd'⟩ = (view h).set l (a'.take hd'.len) := by
  have hlt : l < h.lists.length := by
    rcases List.getElem?_eq_some_iff.1 hl with ⟨h1, _⟩; exact h1
  -- facts about other lists
  have other : ∀ j hj, h.lists[j]? = some hj → j ≠ l →
      hj.arr ≠ hd.arr ∧ hj.arr < h.arrs.length ∧ arrs'[hj.arr]? = h.arrs[hj.arr]? := by
    intro j hj hjl hne
    have h1 := hI.distinct j l hj hd hjl hl hne
    obtain ⟨_, _, a, haj, _⟩ := hI.wf j hj hjl
    have h2 : hj.arr < h.arrs.length := by
      rcases List.getElem?_eq_some_iff.1 haj with ⟨h1, _⟩; exact h1
    exact ⟨h1, h2, hpres _ h1 h2⟩
  refine ⟨⟨?_, ?_⟩, ?_⟩
  · intro i hi hget
    simp only [List.getElem?_set] at hget
    split at hget
    · simp only [Option.some.injEq] at hget
      subst hget
      exact ⟨hoff, hlen, a', ha, by omega⟩
    · rename_i hne
      obtain ⟨h1, h2, h3⟩ := other i hi hget (fun e => hne e.symm)
      obtain ⟨w1, w2, a, haj, w3⟩ := hI.wf i hi hget
      exact ⟨w1, w2, a, by simp only [h3]; exact haj, w3⟩
  · intro i j hi hj gi gj hne
    simp only [List.getElem?_set] at gi gj
    split at gi <;> split at gj
    · omega
    · simp only [Option.some.injEq] at gi
      subst gi
      rename_i hne2
      obtain ⟨h1, h2, _⟩ := other j hj gj (fun e => hne2 e.symm)
      rcases hfresh with hf | hf <;> omega
    · simp only [Option.some.injEq] at gj
      subst gj
      rename_i hne2 _
      obtain ⟨h1, h2, _⟩ := other i hi gi (fun e => hne2 e.symm)
      rcases hfresh with hf | hf <;> omega
    · exact hI.distinct i j hi hj gi gj hne
  · apply List.ext_getElem?
    intro i
    simp only [view, List.getElem?_map, List.getElem?_set, List.length_map]
    by_cases hil : l = i
    · subst hil
      simp [hlt, read, arrOf, ha, hoff]
    · simp only [hil, if_false]
      cases hgi : h.lists[i]? with
      | none => rfl
      | some hi =>
        obtain ⟨h1, h2, h3⟩ := other i hi hgi (fun e => hil e.symm)
        simp [read, arrOf, h3]

/-- a new list object on a fresh exact-capacity array -/
theorem frame_alloc {h : AHeap} (hI : Inv h) (a' : List Val) :
    Inv ⟨h.arrs ++ [a'], h.lists ++ [⟨h.arrs.length, 0, a'.length, a'.length⟩]⟩ ∧
      view ⟨h.arrs ++ [a'], h.lists ++ [⟨h.arrs.length, 0, a'.length, a'.length⟩]⟩
        = view h ++ [a'] := by
  have old : ∀ (j : Nat) (hj : Hdr), h.lists[j]? = some hj →
      hj.arr < h.arrs.length ∧ (h.arrs ++ [a'])[hj.arr]? = h.arrs[hj.arr]? := by
    intro j hj hjl
    obtain ⟨_, _, a, haj, _⟩ := hI.wf j hj hjl
    have h2 : hj.arr < h.arrs.length := by
      rcases List.getElem?_eq_some_iff.1 haj with ⟨h1, _⟩; exact h1
    exact ⟨h2, by simp [List.getElem?_append, h2]⟩
  have new : ∀ (j : Nat) (hj : Hdr),
      (h.lists ++ [(⟨h.arrs.length, 0, a'.length, a'.length⟩ : Hdr)])[j]? = some hj →
      (j < h.lists.length ∧ h.lists[j]? = some hj) ∨
      (j = h.lists.length ∧ hj = ⟨h.arrs.length, 0, a'.length, a'.length⟩) := by
    intro j hj hg
    simp only [List.getElem?_append] at hg
    split at hg
    · rename_i hlt; exact .inl ⟨hlt, hg⟩
    · rename_i hnl
      right
      have : j - h.lists.length = 0 := by
        cases hc : j - h.lists.length with
        | zero => rfl
        | succ n => simp [hc] at hg
      simp [this] at hg
      exact ⟨by omega, hg.symm⟩
  refine ⟨⟨?_, ?_⟩, ?_⟩
  · intro i hi hget
    rcases new i hi hget with ⟨_, hg⟩ | ⟨_, rfl⟩
    · obtain ⟨w1, w2, a, haj, w3⟩ := hI.wf i hi hg
      exact ⟨w1, w2, a, by rw [(old i hi hg).2]; exact haj, w3⟩
    · exact ⟨rfl, Nat.le_refl _, a', by simp, by simp⟩
  · intro i j hi hj gi gj hne
    rcases new i hi gi with ⟨li, gi'⟩ | ⟨li, rfl⟩ <;> rcases new j hj gj with ⟨lj, gj'⟩ | ⟨lj, rfl⟩
    · exact hI.distinct i j hi hj gi' gj' hne
    · have := (old i hi gi').1; simp; omega
    · have := (old j hj gj').1; simp; omega
    · omega
  · simp only [view, List.map_append, List.map_cons, List.map_nil]
    congr 1
    · apply List.map_congr_left
      intro hd hmem
      obtain ⟨j, hlt, hj⟩ := List.getElem_of_mem hmem
      have hg : h.lists[j]? = some hd := by simp [hlt, hj]
      have := (old j hd hg).2
      simp [read, arrOf, this]
    · simp [read, arrOf]

/-! ### index helpers -/

theorem getElem?_lt {α} {xs : List α} {i : Nat} {x : α} (h : xs[i]? = some x) : i < xs.length := by
  rcases List.getElem?_eq_some_iff.1 h with ⟨h1, _⟩; exact h1

theorem writeVs_length (a : List Val) (p : Nat) (vs : List Val) : (writeVs a p vs).length = a.length := by
  unfold writeVs
  split
  · simp only [List.length_append, List.length_take, List.length_drop]; omega
  · rfl

theorem writeVs_take {a : List Val} {p : Nat} {vs : List Val} (h : p + vs.length ≤ a.length) :
    (writeVs a p vs).take (p + vs.length) = a.take p ++ vs := by
  unfold writeVs
  rw [if_pos h]
  exact List.take_left' (by rw [List.length_append, List.length_take]; omega)

/-- `append` on (a prefix header of) list `l`'s own slice: list `l` now shows prefix ++ vs,
    every other list is untouched -/
theorem goAppend_spec (grow : Nat → Nat → Nat) {h : AHeap} {l : Nat} {hd : Hdr} {a : List Val}
    (hI : Inv h) (hl : h.lists[l]? = some hd) (ha : h.arrs[hd.arr]? = some a)
    (hd0 : Hdr) (vs : List Val) (h0arr : hd0.arr = hd.arr) (h0off : hd0.off = 0)
    (h0len : hd0.len ≤ hd0.cap) (h0cap : hd0.cap ≤ a.length) :
    Inv (setHdr (goAppend grow h hd0 vs).1 l (goAppend grow h hd0 vs).2) ∧
    view (setHdr (goAppend grow h hd0 vs).1 l (goAppend grow h hd0 vs).2)
      = (view h).set l (a.take hd0.len ++ vs) := by
  have hal := getElem?_lt ha
  have ha0 : h.arrs[hd0.arr]? = some a := by rw [h0arr]; exact ha
  have hlen : (a.take hd0.len ++ vs).length = hd0.len + vs.length := by
    rw [List.length_append, List.length_take, Nat.min_eq_left (Nat.le_trans h0len h0cap)]
  unfold goAppend
  split
  · -- in place: the cells behind the prefix are overwritten
    rename_i hfit
    have ea : arrOf h hd0.arr = a := by rw [arrOf, ha0]; rfl
    rw [ea, h0off, Nat.zero_add]
    have := frame hI hl (h.arrs.set hd0.arr (writeVs a hd0.len vs)) ⟨hd0.arr, 0, hd0.len + vs.length, hd0.cap⟩
      (writeVs a hd0.len vs)
      (fun k hk _ => by rw [h0arr, List.getElem?_set_ne hk.symm]) (.inl h0arr)
      (by rw [h0arr]; exact List.getElem?_set_self hal) rfl hfit
      (by rw [writeVs_length]; exact h0cap)
    rw [writeVs_take (Nat.le_trans hfit h0cap)] at this
    exact this
  · -- a new array: old content, `vs`, padding
    simp only [read_of ha0 h0off, hlen]
    have hcge := Nat.le_max_left (hd0.len + vs.length) (grow hd0.cap (hd0.len + vs.length))
    generalize max (hd0.len + vs.length) (grow hd0.cap (hd0.len + vs.length)) = c at hcge ⊢
    have := frame hI hl
      (h.arrs ++ [a.take hd0.len ++ vs ++ List.replicate (c - (hd0.len + vs.length)) Val.nil])
      ⟨h.arrs.length, 0, hd0.len + vs.length, c⟩
      (a.take hd0.len ++ vs ++ List.replicate (c - (hd0.len + vs.length)) Val.nil)
      (fun k _ hk => List.getElem?_append_left hk)
      (.inr (Nat.le_refl _))
      List.getElem?_concat_length
      rfl hcge (by show c ≤ _; rw [List.length_append, hlen, List.length_replicate]; omega)
    rw [List.take_left' hlen] at this
    exact this
theorem view_get {h : AHeap} {l : Nat} {hd : Hdr} (hI : Inv h) (hl : h.lists[l]? = some hd) :
    ∃ a, h.arrs[hd.arr]? = some a ∧ hd.off = 0 ∧ hd.len ≤ hd.cap ∧ hd.cap ≤ a.length ∧
      (view h)[l]? = some (a.take hd.len) ∧ read h hd = a.take hd.len ∧
      (a.take hd.len).length = hd.len := by
  obtain ⟨w1, w2, a, ha, w3⟩ := hI.wf l hd hl
  refine ⟨a, ha, w1, w2, by omega, ?_, read_of ha w1, by simp; omega⟩
  simp [view, hl, read_of ha w1]

theorem view_none {h : AHeap} {l : Nat} (hl : h.lists[l]? = none) : (view h)[l]? = none := by
  simp [view, hl]

theorem set_self {α} {xs : List α} {l : Nat} {x : α} (h : xs[l]? = some x) : xs.set l x = xs := by
  apply List.ext_getElem?
  intro i
  rw [List.getElem?_set]
  split
  · subst_vars
    rcases List.getElem?_eq_some_iff.1 h with ⟨h1, h2⟩
    simp [h1, h2]
  · rfl

/-! ### one step of each operation keeps the invariant and shows the reference contents;
then any step, and sequences of steps -/

theorem step_append (grow : Nat → Nat → Nat) (h : AHeap) (hI : Inv h) (l : Nat) (v : Val) :
    Inv (stepA grow h (.append l v)).1 ∧
    view (stepA grow h (.append l v)).1 = (stepC (view h) (.append l v)).1 ∧
    (stepA grow h (.append l v)).2 = (stepC (view h) (.append l v)).2 := by
  cases hl : h.lists[l]? with
  | none => simp [stepA, stepA', stepC, hl, view_none hl, hI]
  | some hd =>
    obtain ⟨a, ha, ho, hle, hc, hv, hr, hn⟩ := view_get hI hl
    have := goAppend_spec grow hI hl ha hd [v] rfl ho hle hc
    simp only [stepA, stepA', stepC, hl, hv]
    exact ⟨this.1, this.2, trivial⟩

theorem step_setItem (grow : Nat → Nat → Nat) (h : AHeap) (hI : Inv h) (l : Nat) (i : Int) (v : Val) :
    Inv (stepA grow h (.setItem l i v)).1 ∧
    view (stepA grow h (.setItem l i v)).1 = (stepC (view h) (.setItem l i v)).1 ∧
    (stepA grow h (.setItem l i v)).2 = (stepC (view h) (.setItem l i v)).2 := by
  cases hl : h.lists[l]? with
  | none => simp [stepA, stepA', stepC, hl, view_none hl, hI]
  | some hd =>
    obtain ⟨a, ha, ho, hle, hc, hv, hr, hn⟩ := view_get hI hl
    simp only [stepA, stepA', stepC, hl, hv, Impl.setItem, hn]
    cases hk : resolveIndex i hd.len with
    | err => exact ⟨hI, rfl, rfl⟩
    | ok k =>
      have hb := resolveIndex_ok hk
      have := frame hI hl (h.arrs.set hd.arr (a.set k.toNat v)) hd (a.set k.toNat v)
        (by intro j hj _; rw [List.getElem?_set]; simp [Ne.symm hj])
        (.inl rfl) (by simp [getElem?_lt ha]) ho hle (by simp; omega)
      rw [set_self hl, List.take_set] at this
      simp only [writeAt, arrOf, ha, ho, Option.getD_some, Nat.zero_add]
      exact ⟨this.1, this.2, trivial⟩

theorem step_pop (grow : Nat → Nat → Nat) (h : AHeap) (hI : Inv h) (l : Nat) (i : Int) :
    Inv (stepA grow h (.pop l i)).1 ∧
    view (stepA grow h (.pop l i)).1 = (stepC (view h) (.pop l i)).1 ∧
    (stepA grow h (.pop l i)).2 = (stepC (view h) (.pop l i)).2 := by
  cases hl : h.lists[l]? with
  | none => simp [stepA, stepA', stepC, hl, view_none hl, hI]
  | some hd =>
    obtain ⟨a, ha, ho, hle, hc, hv, hr, hn⟩ := view_get hI hl
    simp only [stepA, stepA', stepC, hl, hv, Impl.pop, hn, hr]
    cases hk : resolveIndex i hd.len with
    | err => exact ⟨hI, rfl, rfl⟩
    | ok k =>
      have hb := resolveIndex_ok hk
      dsimp only
      cases hx : (a.take hd.len)[k.toNat]? with
      | none => exact ⟨hI, rfl, rfl⟩
      | some x =>
        dsimp only
        have hkl : k.toNat ≤ hd.len := by omega
        have hrd : read h (sub hd (k.toNat + 1) hd.len) = (a.take hd.len).drop (k.toNat + 1) := by
          rw [read_sub ha ho (Nat.le_refl _)]
          exact List.take_of_length_le (by rw [List.length_drop, hn]; exact Nat.le_refl _)
        have := goAppend_spec grow hI hl ha (sub hd 0 k.toNat) ((a.take hd.len).drop (k.toNat + 1)) rfl ho
          (Nat.sub_le_sub_right (Nat.le_trans hkl hle) 0) (Nat.le_trans (Nat.sub_le _ _) hc)
        rw [show a.take (sub hd 0 k.toNat).len = (a.take hd.len).take k.toNat by
          rw [List.take_take, Nat.min_eq_left hkl]; rfl] at this
        rw [hrd]
        exact ⟨this.1, this.2, rfl⟩

theorem alloc_spec {h : AHeap} (hI : Inv h) (vs : List Val) :
    Inv (newList (makeCopy h vs).1 (makeCopy h vs).2).1 ∧
    view (newList (makeCopy h vs).1 (makeCopy h vs).2).1 = view h ++ [vs] ∧
    (newList (makeCopy h vs).1 (makeCopy h vs).2).2 = .val (.ref (view h).length) := by
  have := frame_alloc hI vs
  refine ⟨this.1, this.2, ?_⟩
  simp [newList, makeCopy, view]

theorem step_slice (grow : Nat → Nat → Nat) (h : AHeap) (hI : Inv h) (l : Nat) (s t : Option Val) :
    Inv (stepA grow h (.slice l s t)).1 ∧
    view (stepA grow h (.slice l s t)).1 = (stepC (view h) (.slice l s t)).1 ∧
    (stepA grow h (.slice l s t)).2 = (stepC (view h) (.slice l s t)).2 := by
  cases hl : h.lists[l]? with
  | none => simp [stepA, stepA', stepC, hl, view_none hl, hI]
  | some hd =>
    obtain ⟨a, ha, ho, hle, hc, hv, hr, hn⟩ := view_get hI hl
    simp only [stepA, stepA', stepC, hl, hv, Impl.slice, hn, if_true]
    cases hk : resolveIntSlice s t hd.len with
    | err c => exact ⟨hI, rfl, rfl⟩
    | ok x y =>
      dsimp only
      rw [read_sub ha ho (resolveIntSlice_ok hk).2.1]
      exact alloc_spec hI _

theorem step_copy (grow : Nat → Nat → Nat) (h : AHeap) (hI : Inv h) (l : Nat) :
    Inv (stepA grow h (.copy l)).1 ∧
    view (stepA grow h (.copy l)).1 = (stepC (view h) (.copy l)).1 ∧
    (stepA grow h (.copy l)).2 = (stepC (view h) (.copy l)).2 := by
  cases hl : h.lists[l]? with
  | none => simp [stepA, stepA', stepC, hl, view_none hl, hI]
  | some hd =>
    obtain ⟨a, ha, ho, hle, hc, hv, hr, hn⟩ := view_get hI hl
    simp only [stepA, stepA', stepC, hl, hv, hr]
    exact alloc_spec hI _

theorem step_clear (grow : Nat → Nat → Nat) (h : AHeap) (hI : Inv h) (l : Nat) :
    Inv (stepA grow h (.clear l)).1 ∧
    view (stepA grow h (.clear l)).1 = (stepC (view h) (.clear l)).1 ∧
    (stepA grow h (.clear l)).2 = (stepC (view h) (.clear l)).2 := by
  cases hl : h.lists[l]? with
  | none => simp [stepA, stepA', stepC, hl, view_none hl, hI]
  | some hd =>
    obtain ⟨a, ha, ho, hle, hc, hv, hr, hn⟩ := view_get hI hl
    simp only [stepA, stepA', stepC, hl, hv]
    have := frame hI hl (h.arrs ++ [[]]) ⟨h.arrs.length, 0, 0, 0⟩ []
      (by intro k _ hk; simp [List.getElem?_append, hk])
      (.inr (Nat.le_refl _)) (by simp) rfl (Nat.le_refl _) (Nat.le_refl _)
    exact ⟨this.1, this.2, trivial⟩

theorem step_extend (grow : Nat → Nat → Nat) (h : AHeap) (hI : Inv h) (l o : Nat) :
    Inv (stepA grow h (.extend l o)).1 ∧
    view (stepA grow h (.extend l o)).1 = (stepC (view h) (.extend l o)).1 ∧
    (stepA grow h (.extend l o)).2 = (stepC (view h) (.extend l o)).2 := by
  cases hl : h.lists[l]? with
  | none => simp [stepA, stepA', stepC, hl, view_none hl, hI]
  | some hd =>
    cases hlo : h.lists[o]? with
    | none => simp [stepA, stepA', stepC, hl, hlo, view_none hlo, hI]
    | some ho' =>
      obtain ⟨a, ha, ho, hle, hc, hv, hr, hn⟩ := view_get hI hl
      obtain ⟨b, hb, -, -, -, hvo, hro, -⟩ := view_get hI hlo
      simp only [stepA, stepA', stepC, hl, hlo, hv, hvo, hro]
      have := goAppend_spec grow hI hl ha hd (b.take ho'.len) rfl ho hle hc
      exact ⟨this.1, this.2, trivial⟩

theorem step_concat (grow : Nat → Nat → Nat) (h : AHeap) (hI : Inv h) (l o : Nat) :
    Inv (stepA grow h (.concat l o)).1 ∧
    view (stepA grow h (.concat l o)).1 = (stepC (view h) (.concat l o)).1 ∧
    (stepA grow h (.concat l o)).2 = (stepC (view h) (.concat l o)).2 := by
  cases hl : h.lists[l]? with
  | none => simp [stepA, stepA', stepC, hl, view_none hl, hI]
  | some hd =>
    cases hlo : h.lists[o]? with
    | none => simp [stepA, stepA', stepC, hl, hlo, view_none hlo, hI]
    | some ho' =>
      obtain ⟨a, ha, ho, hle, hc, hv, hr, hn⟩ := view_get hI hl
      obtain ⟨b, hb, -, -, -, hvo, hro, -⟩ := view_get hI hlo
      simp only [stepA, stepA', stepC, hl, hlo, hv, hvo, hro, hr]
      exact alloc_spec hI _

/-- ONE step: with Go's slice headers, in-place `append` and an arbitrary growth policy, every
    operation of list.go covered by `AOp` (append, setItem, pop, slice, copy, extend, concat,
    clear) keeps the invariant and shows the script exactly what the contents-level model
    (`Impl.setItem`, `Impl.pop`, `Impl.slice`, `++`) says — on EVERY list object, not only the
    receiver — and returns the same result. -/
theorem alias_step_refines (grow : Nat → Nat → Nat) (h : AHeap) (op : AOp) (hI : Inv h) :
    Inv (stepA grow h op).1 ∧
    view (stepA grow h op).1 = (stepC (view h) op).1 ∧
    (stepA grow h op).2 = (stepC (view h) op).2 := by
  cases op with
  | append l v => exact step_append grow h hI l v
  | setItem l i v => exact step_setItem grow h hI l i v
  | pop l i => exact step_pop grow h hI l i
  | slice l s t => exact step_slice grow h hI l s t
  | copy l => exact step_copy grow h hI l
  | extend l o => exact step_extend grow h hI l o
  | concat l o => exact step_concat grow h hI l o
  | clear l => exact step_clear grow h hI l

theorem runA_inv (grow : Nat → Nat → Nat) (ops : List AOp) (h : AHeap) (hI : Inv h) :
    Inv (runA grow h ops) := by
  induction ops generalizing h with
  | nil => exact hI
  | cons op ops ih => exact ih _ (alias_step_refines grow h op hI).1

/-- ALL histories, ALL growth policies: what a script sees of its lists on a heap with Go
    backing-array sharing equals the abstract per-object contents. -/
theorem alias_refines_seq (grow : Nat → Nat → Nat) (ops : List AOp) (h : AHeap) (hI : Inv h) :
    view (runA grow h ops) = runC (view h) ops := by
  induction ops generalizing h with
  | nil => rfl
  | cons op ops ih =>
    have := alias_step_refines grow h op hI
    simp only [runA, runC]
    rw [ih _ this.1, this.2.1]

/-! ### the invariant is satisfiable -/

theorem inv_empty : Inv ⟨[], []⟩ :=
  ⟨by intro i hd hg; simp at hg, by intro i j hi hj gi; simp at gi⟩

theorem mk_aux (ls : List (List Val)) (h : AHeap) (hI : Inv h) :
    Inv (ls.foldl (fun h vs => (newList (makeCopy h vs).1 (makeCopy h vs).2).1) h) ∧
    view (ls.foldl (fun h vs => (newList (makeCopy h vs).1 (makeCopy h vs).2).1) h)
      = view h ++ ls := by
  induction ls generalizing h with
  | nil => simp [hI]
  | cons vs ls ih =>
    have := alloc_spec hI vs
    simp only [List.foldl_cons]
    refine ⟨(ih _ this.1).1, ?_⟩
    rw [(ih _ this.1).2, this.2.1]
    simp

/-- `mk ls` (one exact-capacity backing array per list) satisfies the invariant -/
theorem mk_inv (ls : List (List Val)) : Inv (mk ls) := (mk_aux ls _ inv_empty).1

/-- ... and shows exactly `ls` -/
theorem view_mk (ls : List (List Val)) : view (mk ls) = ls := by
  have := (mk_aux ls _ inv_empty).2
  have h0 : view ⟨[], []⟩ = [] := rfl
  rw [h0, List.nil_append] at this
  exact this

/-- from any given contents, all histories on the slice-header heap equal the abstract run -/
theorem alias_refines_from_mk (grow : Nat → Nat → Nat) (ls : List (List Val)) (ops : List AOp) :
    view (runA grow (mk ls) ops) = runC ls ops := by
  rw [alias_refines_seq grow ops _ (mk_inv ls), view_mk]

/-! ### no write-through -/

/-- appending to list object `j` never changes what any OTHER list object `l` shows,
    whatever arrays and capacities the history has left behind -/
theorem append_other_no_write_through (grow : Nat → Nat → Nat) (h : AHeap) (hI : Inv h)
    (l j : Nat) (v : Val) (hne : j ≠ l) :
    (view (stepA grow h (.append j v)).1)[l]? = (view h)[l]? := by
  rw [(alias_step_refines grow h (.append j v) hI).2.1]
  simp only [stepC]
  split
  · rfl
  · simp [hne]

/-- `a := l[start:stop]; a.append(v)` after ANY history (any `h` with `Inv h`, e.g.
    `runA grow (mk ls) ops`) and under any growth policy: list `l` shows what it showed before.
    (`h.lists.length` is the handle of the slice result.) -/
theorem slice_then_append_no_write_through (grow : Nat → Nat → Nat) (h : AHeap) (hI : Inv h)
    (l : Nat) (s t : Option Val) (v : Val) (hl : l < h.lists.length) :
    (view (runA grow h [.slice l s t, .append h.lists.length v]))[l]? = (view h)[l]? := by
  have h1 := alias_step_refines grow h (.slice l s t) hI
  have hl' : l < (view h).length := by simpa [view] using hl
  simp only [runA]
  rw [append_other_no_write_through grow _ h1.1 l _ v (by omega), h1.2.1]
  simp only [stepC]
  split
  · rfl
  · split
    · rfl
    · simp [List.getElem?_append, hl']

/-- the same for every history before the slice, starting from arbitrary contents -/
theorem slice_then_append_no_write_through_hist (grow : Nat → Nat → Nat) (ls : List (List Val))
    (ops : List AOp) (l : Nat) (s t : Option Val) (v : Val)
    (hl : l < (runA grow (mk ls) ops).lists.length) :
    (view (runA grow (runA grow (mk ls) ops)
        [.slice l s t, .append (runA grow (mk ls) ops).lists.length v]))[l]?
      = (runC ls ops)[l]? := by
  rw [slice_then_append_no_write_through grow _ (runA_inv grow ops _ (mk_inv ls)) l s t v hl,
    alias_refines_from_mk]

/-! ### the model CAN express write-through: `GetSlice` without the copy -/

def exHeap : AHeap := mk [[.int 1, .int 2, .int 3]]
def exOps : List AOp := [.slice 0 (some (.int 0)) (some (.int 2)), .append 1 (.int 9)]

/-- with the copy (the code as it is): `l` keeps `[1,2,3]`, the slice becomes `[1,2,9]` -/
theorem sliceCopy_example :
    view (runA (fun c _ => 2 * c) exHeap exOps)
      = [[.int 1, .int 2, .int 3], [.int 1, .int 2, .int 9]] := by decide +kernel

/-- without the copy: `l = [1,2,3]` (cap 3), `a := l[0:2]` (cap 3), `a.append(9)` writes cell 2
    of the shared array: `l` shows `[1,2,9]` -/
theorem sliceNoCopy_example :
    view (runA_sliceNoCopy (fun c _ => 2 * c) exHeap exOps)
      = [[.int 1, .int 2, .int 9], [.int 1, .int 2, .int 9]] := by decide +kernel

/-- the refinement theorem is FALSE for the variant whose `GetSlice` shares the array -/
theorem sliceNoCopy_writes_through :
    ¬ (∀ (grow : Nat → Nat → Nat) (ops : List AOp) (h : AHeap), Inv h →
        view (runA_sliceNoCopy grow h ops) = runC (view h) ops) := by
  intro H
  have := H (fun c _ => 2 * c) exOps exHeap (mk_inv _)
  revert this
  decide +kernel

end Risor.C16.Alias
