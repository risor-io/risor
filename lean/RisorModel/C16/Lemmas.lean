import RisorModel.C16.Model
/-! C16 — helper lemmas: index arithmetic and per-operation agreement of the code-shaped
    (`Impl`) and reference (`Spec`) container functions. -/
namespace Risor.C16

/-! ### index normalisation -/

/-- for `-n ≤ i < n` the position counted from the front lies in `[0, n)` -/
theorem inRange_pos {i : Int} {n : Nat} (h : -(n : Int) ≤ i ∧ i < n) :
    0 ≤ (if i < 0 then i + n else i) ∧ (if i < 0 then i + n else i) < n := by
  split <;> omega

theorem inRange_toNat_lt {i : Int} {n : Nat} (h : -(n : Int) ≤ i ∧ i < n) :
    (if i < 0 then i + n else i).toNat < n := by
  have := inRange_pos h
  omega

/-- what `ResolveIndex` computes: inside `-n ≤ i < n` the position counted from the front,
    outside it the error -/
theorem resolveIndex_eq (i : Int) (n : Nat) :
    resolveIndex i n =
      if -(n : Int) ≤ i ∧ i < n then .ok (if i < 0 then i + n else i) else .err := by
  unfold resolveIndex
  simp only [decide_eq_true_eq, Bool.or_eq_true]
  by_cases h0 : i < 0
  · rw [if_neg (by omega), if_neg (by omega), if_pos h0]
    by_cases h : -(n : Int) ≤ i
    · rw [if_neg (by omega), if_pos ⟨h, by omega⟩]
    · rw [if_pos (by omega), if_neg (fun c => h c.1)]
  · rw [if_neg h0]
    by_cases h : i < n
    · rw [if_neg (by omega), if_pos (by omega), if_pos ⟨by omega, h⟩]
    · rw [if_pos (by omega), if_neg (fun c => h c.2)]

/-- the reference index is the same function, with the position as a `Nat` -/
theorem normIndex_eq (n : Nat) (i : Int) :
    Spec.normIndex n i =
      if -(n : Int) ≤ i ∧ i < n then some (if i < 0 then i + n else i).toNat else none := by
  unfold Spec.normIndex
  by_cases h0 : i < 0
  · rw [if_neg (by omega), if_pos h0]
    by_cases h : -(n : Int) ≤ i
    · rw [if_pos ⟨h, h0⟩, if_pos ⟨h, by omega⟩]
    · rw [if_neg (fun c => h c.1), if_neg (fun c => h c.1)]
  · rw [if_neg h0]
    by_cases h : i < n
    · rw [if_pos ⟨by omega, h⟩, if_pos ⟨by omega, h⟩]
    · rw [if_neg (fun c => h c.2), if_neg (fun c => h0 c.2), if_neg (fun c => h c.2)]

theorem resolveIndex_eq_normIndex (i : Int) (n : Nat) :
    resolveIndex i n = (match Spec.normIndex n i with | some k => IdxRes.ok k | none => IdxRes.err) := by
  rw [resolveIndex_eq, normIndex_eq]
  by_cases h : -(n : Int) ≤ i ∧ i < n
  · rw [if_pos h, if_pos h]
    exact congrArg IdxRes.ok (Int.toNat_of_nonneg (inRange_pos h).1).symm
  · rw [if_neg h, if_neg h]

theorem normIndex_lt (n : Nat) (i : Int) (k : Nat) (h : Spec.normIndex n i = some k) : k < n := by
  rw [normIndex_eq] at h
  split at h
  · rename_i hc
    cases h
    exact inRange_toNat_lt hc
  · cases h

theorem resolveIndex_ok {i : Int} {n : Nat} {k : Int} (h : resolveIndex i n = .ok k) :
    0 ≤ k ∧ k < n := by
  rw [resolveIndex_eq] at h
  split at h
  · rename_i hc
    cases h
    exact inRange_pos hc
  · cases h

theorem ite_none_eq_none {α} {c : Prop} [Decidable c] {x : Option α} (hx : ¬c → x = none) :
    (if c then none else x) = none := by
  by_cases hc : c
  · exact if_pos hc
  · rw [if_neg hc]; exact hx hc

/-- `ResolveIntSlice`'s arithmetic accepts exactly the normalised pairs with
    `0 ≤ a ≤ b ≤ n` and `a < n`, and returns them unchanged -/
theorem sliceBounds_eq (st sp : Int) (n : Nat) :
    sliceBounds st sp n =
      (if 0 ≤ Spec.sliceNorm n st ∧ Spec.sliceNorm n st ≤ Spec.sliceNorm n sp ∧ Spec.sliceNorm n sp ≤ n ∧ Spec.sliceNorm n st < n
       then some (Spec.sliceNorm n st, Spec.sliceNorm n sp) else none) := by
  have norm : ∀ x : Int, (if x < 0 then (n : Int) + x else x) = Spec.sliceNorm n x :=
    fun x => by unfold Spec.sliceNorm; rw [Int.add_comm]
  unfold sliceBounds
  simp only [norm]
  -- with the normalised bounds as variables: five guards in a row against their conjunction
  generalize Spec.sliceNorm n st = a
  generalize Spec.sliceNorm n sp = b
  by_cases h : 0 ≤ a ∧ a ≤ b ∧ b ≤ n ∧ a < n
  · have ⟨h1, h2, h3, _⟩ := h
    rw [if_pos h, if_neg (Int.not_lt.2 h1), if_neg (Int.not_lt.2 (Int.le_trans h1 h2)),
      if_neg (Int.not_lt.2 h2), if_neg (by omega), if_neg (Int.not_lt.2 h3)]
  · rw [if_neg h]
    -- if no guard fires the four inequalities hold
    exact ite_none_eq_none fun g1 => ite_none_eq_none fun _ => ite_none_eq_none fun g3 =>
      ite_none_eq_none fun g4 => ite_none_eq_none fun g5 =>
        absurd ⟨Int.not_lt.1 g1, Int.not_lt.1 g3, Int.not_lt.1 g5, by omega⟩ h

theorem sliceBounds_some {st sp a b : Int} {n : Nat} (h : sliceBounds st sp n = some (a, b)) :
    a = Spec.sliceNorm n st ∧ b = Spec.sliceNorm n sp ∧ 0 ≤ a ∧ a ≤ b ∧ b ≤ n ∧ a < n := by
  rw [sliceBounds_eq] at h
  split at h
  · rename_i hc
    cases h
    exact ⟨rfl, rfl, hc⟩
  · cases h

theorem sliceNorm_of_nonneg (n : Nat) {x : Int} (h : 0 ≤ x) : Spec.sliceNorm n x = x :=
  if_neg (by omega)

theorem resolveIntSlice_ok {s t : Option Val} {n a b : Nat} (h : resolveIntSlice s t n = .ok a b) :
    a ≤ b ∧ b ≤ n ∧ a < n := by
  unfold resolveIntSlice at h
  split at h
  · cases h
  · split at h
    · cases h
    · split at h
      · cases h
      · rename_i hb
        cases h
        have := sliceBounds_some hb
        omega

namespace Impl

theorem slice_refines (xs : List Val) (a b : Option Val) : Impl.slice xs a b = Spec.slice xs a b := by
  unfold Impl.slice Spec.slice resolveIntSlice
  cases h1 : boundOf a 0 <;> cases h2 : boundOf b xs.length <;> simp only []
  rw [sliceBounds_eq]
  rename_i st sp
  by_cases hc : 0 ≤ Spec.sliceNorm xs.length st ∧ Spec.sliceNorm xs.length st ≤ Spec.sliceNorm xs.length sp ∧
      Spec.sliceNorm xs.length sp ≤ xs.length ∧ Spec.sliceNorm xs.length st < xs.length
  · rw [if_pos hc, if_pos hc]
  · rw [if_neg hc, if_neg hc]

theorem getItem_refines (xs : List Val) (i : Int) : Impl.getItem xs i = Spec.getItem xs i := by
  unfold Impl.getItem Spec.getItem
  rw [resolveIndex_eq_normIndex]
  cases h : Spec.normIndex xs.length i <;> simp

theorem setItem_refines (xs : List Val) (i : Int) (v : Val) : Impl.setItem xs i v = Spec.setItem xs i v := by
  unfold Impl.setItem Spec.setItem
  rw [resolveIndex_eq_normIndex]
  cases h : Spec.normIndex xs.length i <;> simp

theorem splice_eq_eraseIdx (xs : List Val) (k : Nat) : Impl.splice xs k = xs.eraseIdx k := by
  unfold Impl.splice
  rw [List.eraseIdx_eq_take_drop_succ]

theorem pop_refines (xs : List Val) (i : Int) : Impl.pop xs i = Spec.pop xs i := by
  unfold Impl.pop Spec.pop
  rw [resolveIndex_eq_normIndex]
  cases h : Spec.normIndex xs.length i <;> simp [splice_eq_eraseIdx]

theorem delItem_refines (xs : List Val) (i : Int) : Impl.delItem xs i = Spec.delItem xs i := by
  unfold Impl.delItem Spec.delItem
  rw [resolveIndex_eq_normIndex]
  cases h : Spec.normIndex xs.length i <;> simp [splice_eq_eraseIdx]

theorem insert_refines (xs : List Val) (i : Int) (v : Val) : Impl.insert xs i v = Spec.insert xs i v := by
  unfold Impl.insert Spec.insert Spec.insertPos
  simp only
  by_cases h0 : i < 0
  · simp only [h0, ↓reduceIte]
    by_cases h1 : (xs.length : Int) + i < 0
    · simp [h1]
    · simp only [h1, ↓reduceIte]
      by_cases h2 : (xs.length : Int) + i = 0
      · simp [h2]
      · have h3 : ¬ ((xs.length : Int) + i ≥ xs.length) := by omega
        simp [h2, h3]
  · simp only [h0, ↓reduceIte]
    by_cases h2 : i = 0
    · subst h2
      cases xs with
      | nil => simp
      | cons y ys =>
        have : ¬ ((ys.length : Int) + 1 ≤ 0) := by omega
        simp [this]
    · simp only [h2, ↓reduceIte]
      by_cases h3 : i ≥ xs.length
      · simp [h3]
      · simp [h3]

theorem indexOf_none (eq : Val → Val → Bool) (v : Val) (xs : List Val)
    (h : Impl.indexOf eq v xs = none) : ∀ x ∈ xs, eq v x = false := by
  induction xs with
  | nil => simp
  | cons y ys ih =>
    unfold Impl.indexOf at h
    split at h
    · cases h
    · rename_i hy
      simp only [Option.map_eq_none_iff] at h
      intro x hx
      simp only [List.mem_cons] at hx
      rcases hx with rfl | hx
      · simpa using hy
      · exact ih h x hx

theorem remove_refines (eq : Val → Val → Bool) (xs : List Val) (v : Val) :
    Impl.remove eq xs v = Spec.remove eq xs v := by
  unfold Impl.remove Spec.remove
  induction xs with
  | nil => simp [Impl.indexOf]
  | cons y ys ih =>
    unfold Impl.indexOf
    by_cases hy : eq v y = true
    · simp [hy, Impl.splice]
    · simp only [hy, Bool.false_eq_true, ↓reduceIte]
      have hy' : eq v y = false := by simpa using hy
      rw [List.eraseP_cons_of_neg (by simp [hy'])]
      cases hi : Impl.indexOf eq v ys with
      | none =>
        simp only [hi] at ih
        simp [← ih]
      | some k =>
        simp only [hi] at ih
        simp only [Option.map_some]
        rw [← ih]
        simp [Impl.splice]

theorem count_foldl (eq : Val → Val → Bool) (v : Val) (xs : List Val) (c : Nat) :
    xs.foldl (fun c x => if eq v x then c + 1 else c) c = c + xs.countP (fun x => eq v x) := by
  induction xs generalizing c with
  | nil => simp
  | cons y ys ih =>
    simp only [List.foldl_cons, List.countP_cons]
    rw [ih]
    by_cases hy : eq v y = true <;> simp [hy] <;> omega

theorem count_refines (eq : Val → Val → Bool) (xs : List Val) (v : Val) :
    Impl.count eq xs v = Spec.count eq xs v := by
  unfold Impl.count Spec.count
  rw [count_foldl]; simp

/-! ### the in-place swap loop of `List.Reverse` computes `List.reverse` -/

theorem swapAt_shape (p m s : List Val) (x y : Val) {i j : Nat} (hi : i = p.length)
    (hj : j = p.length + m.length + 1) :
    swapAt (p ++ x :: (m ++ y :: s)) i j = p ++ y :: (m ++ x :: s) := by
  subst hi hj
  -- `j` is the position just behind `p ++ x :: m`
  have e : p ++ x :: (m ++ y :: s) = (p ++ x :: m) ++ y :: s := by simp
  have hl : p.length + m.length + 1 = (p ++ x :: m).length := by simp; omega
  unfold swapAt
  rw [e, hl]
  simp

/-- with `i`, `j` the two ends of the middle part `m`, the loop reverses `m` where it stands;
    every round swaps the ends of `m` and moves them into `p` and `s` -/
theorem revLoop_spec (f : Nat) : ∀ (m p s : List Val) (i j : Nat), i = p.length → j + 1 = p.length + m.length →
    m.length ≤ f → revLoop f (p ++ (m ++ s)) i j = p ++ (m.reverse ++ s) := by
  induction f with
  | zero =>
    intro m p s i j _ _ hf
    rw [List.length_eq_zero_iff.1 (Nat.le_zero.1 hf)]
    rfl
  | succ f ih =>
    intro m p s i j hi hj hf
    unfold revLoop
    match m with
    | [] => rw [if_neg (by simp at hj; omega)]; rfl
    | [x] => rw [if_neg (by simp at hj; omega)]; rfl
    | x :: z :: m1 =>
      obtain ⟨m2, y, e⟩ : ∃ m2 y, z :: m1 = m2 ++ [y] :=
        ⟨_, _, (List.dropLast_concat_getLast (List.cons_ne_nil z m1)).symm⟩
      rw [e] at hj hf ⊢
      simp only [List.length_cons, List.length_append, List.length_nil] at hj hf
      rw [if_pos (by omega), List.cons_append, List.append_assoc, List.singleton_append,
        swapAt_shape p m2 s x y hi (by omega)]
      have := ih m2 (p ++ [y]) (x :: s) (i + 1) (j - 1) (by simp [hi]) (by simp; omega) (by omega)
      simpa using this

theorem reverse_refines (xs : List Val) : Impl.reverse xs = Spec.reverse xs := by
  unfold Impl.reverse Spec.reverse
  cases xs with
  | nil => rfl
  | cons x xs =>
    have := revLoop_spec (x :: xs).length (x :: xs) [] [] 0 xs.length rfl (by simp) (Nat.le_refl _)
    simpa using this

theorem strGet_refines (s : Str) (i : Int) : Impl.strGet s i = Spec.strGet s i := by
  unfold Impl.strGet Spec.strGet
  simp only
  rw [resolveIndex_eq_normIndex]
  cases h : Spec.normIndex (runes s).length i <;> simp

/-! ### list.map -/

/-- the loop appends, to what it has collected so far, the reference result of the rest -/
theorem mapLoop_eq (cb : Cb) (i : Nat) (xs acc : List Val) :
    mapLoop cb i xs acc = acc ++ Spec.mapIdxFrom cb i xs := by
  induction xs generalizing i acc with
  | nil => simp [mapLoop, Spec.mapIdxFrom]
  | cons x xs ih =>
    simp only [mapLoop, Spec.mapIdxFrom, ih, List.append_assoc, List.cons_append, List.nil_append]
    cases cb <;> rfl

/-- **`list.map` refines the reference map, for EVERY callback shape** (the index-returning
    one included: since the repair each call gets an index object of its own) -/
theorem mapIdx_refines (cb : Cb) (xs : List Val) : Impl.mapIdx cb xs = Spec.mapIdx cb xs := by
  unfold Impl.mapIdx Spec.mapIdx
  rw [mapLoop_eq]; rfl

/-! #### historical: the shared index object of the code before the repair -/

/-- callbacks that did not let the index object escape were right before the repair too -/
theorem preFixMapPtrs_no_ptr (cb : Cb) (hcb : cb ≠ .idx) (last : Int) (i : Nat) (xs : List Val) :
    (preFixMapPtrs cb i xs).map (fun p => match p with | some v => v | none => Val.int last) = Spec.mapIdxFrom cb i xs := by
  induction xs generalizing i with
  | nil => simp [preFixMapPtrs, Spec.mapIdxFrom]
  | cons x xs ih =>
    simp only [preFixMapPtrs, Spec.mapIdxFrom, List.map_cons, ih]
    cases cb <;> simp_all

theorem preFixMapIdx_refines (cb : Cb) (hcb : cb ≠ .idx) (xs : List Val) :
    Impl.preFixMapIdx cb xs = Spec.mapIdx cb xs := by
  unfold Impl.preFixMapIdx Spec.mapIdx
  exact preFixMapPtrs_no_ptr cb hcb _ 0 xs

theorem preFixMapPtrs_idx (last : Int) (i : Nat) (xs : List Val) :
    (preFixMapPtrs .idx i xs).map (fun p => match p with | some v => v | none => Val.int last)
      = List.replicate xs.length (Val.int last) := by
  induction xs generalizing i with
  | nil => simp [preFixMapPtrs]
  | cons x xs ih => simp [preFixMapPtrs, ih, List.replicate_succ]

/-- what the code before the repair returned for `xs.map(func(i, x) { return i })`:
    n copies of n-1 -/
theorem preFixMapIdx_idx (xs : List Val) :
    Impl.preFixMapIdx .idx xs = List.replicate xs.length (Val.int ((xs.length : Int) - 1)) := by
  unfold Impl.preFixMapIdx
  exact preFixMapPtrs_idx _ 0 xs

/-! ### sort keeps every element (also when a comparison fails or panics) -/

theorem ins_perm (cmp : Val → Val → Cmp) (x : Val) (rp : List Val) : (Impl.ins cmp x rp).1.Perm (x :: rp) := by
  induction rp with
  | nil => simp [Impl.ins]
  | cons y ys ih =>
    unfold Impl.ins
    cases cmp x y with
    | lt => exact (List.Perm.cons y ih).trans (List.Perm.swap x y ys)
    | ge => exact List.Perm.refl _
    | err => exact List.Perm.refl _
    | panic => exact List.Perm.refl _

theorem sortLoop_perm (cmp : Val → Val → Cmp) (rp rest : List Val) (flag : Cmp) :
    (Impl.sortLoop cmp rp rest flag).1.Perm (rp.reverse ++ rest) := by
  induction rest generalizing rp flag with
  | nil => simp [Impl.sortLoop]
  | cons x rest ih =>
    have hp := ins_perm cmp x rp
    have key : ∀ rp' : List Val, rp'.Perm (x :: rp) → (rp'.reverse ++ rest).Perm (rp.reverse ++ x :: rest) := by
      intro rp' h
      have h1 : rp'.reverse.Perm (x :: rp.reverse) :=
        (List.reverse_perm rp').trans (h.trans (List.Perm.cons x (List.reverse_perm rp).symm))
      exact (List.Perm.append_right rest h1).trans (by simpa using (List.perm_middle (a := x) (l₁ := rp.reverse) (l₂ := rest)).symm)
    unfold Impl.sortLoop
    cases hc : Impl.ins cmp x rp with
    | mk rp' c =>
      rw [hc] at hp
      cases c with
      | panic => exact key rp' hp
      | err => exact (ih rp' .err).trans (key rp' hp)
      | lt => exact (ih rp' flag).trans (key rp' hp)
      | ge => exact (ih rp' flag).trans (key rp' hp)

theorem sort_perm (cmp : Val → Val → Cmp) (xs : List Val) : (Impl.sort cmp xs).1.Perm xs := by
  simpa [Impl.sort] using sortLoop_perm cmp [] xs .ge

/-! ### sort sorts, for comparators that behave as a total order -/

/-- the comparator is a total, consistent "less than": it never fails, and "not less" is
    transitive and connected (what C15 proves for mutually comparable values) -/
structure GoodCmp (cmp : Val → Val → Cmp) : Prop where
  total : ∀ a b, cmp a b = .lt ∨ cmp a b = .ge
  asymm : ∀ a b, cmp a b = .lt → cmp b a = .ge
  trans : ∀ a b c, cmp a b = .ge → cmp b c = .ge → cmp a c = .ge

/-- reversed prefix is sorted: every earlier element (further right in the array) is not
    less than any later one -/
def RSorted (cmp : Val → Val → Cmp) (rp : List Val) : Prop := rp.Pairwise (fun a b => cmp a b = .ge)

theorem ins_flag (cmp : Val → Val → Cmp) (g : GoodCmp cmp) (x : Val) (rp : List Val) :
    (Impl.ins cmp x rp).2 = .ge := by
  induction rp with
  | nil => simp [Impl.ins]
  | cons y ys ih =>
    unfold Impl.ins
    rcases g.total x y with h | h <;> simp [h, ih]

theorem ins_sorted (cmp : Val → Val → Cmp) (g : GoodCmp cmp) (x : Val) (rp : List Val)
    (hs : RSorted cmp rp) : RSorted cmp (Impl.ins cmp x rp).1 := by
  induction rp with
  | nil => simp [Impl.ins, RSorted]
  | cons y ys ih =>
    unfold Impl.ins
    have hys : RSorted cmp ys := (List.pairwise_cons.1 hs).2
    have hy : ∀ z ∈ ys, cmp y z = .ge := (List.pairwise_cons.1 hs).1
    rcases g.total x y with h | h
    · simp only [h]
      refine List.pairwise_cons.2 ⟨?_, ih hys⟩
      intro z hz
      have hz' : z ∈ x :: ys := (ins_perm cmp x ys).mem_iff.1 hz
      simp only [List.mem_cons] at hz'
      rcases hz' with rfl | hz'
      · exact g.asymm _ _ h
      · exact hy z hz'
    · simp only [h]
      refine List.pairwise_cons.2 ⟨?_, hs⟩
      intro z hz
      simp only [List.mem_cons] at hz
      rcases hz with rfl | hz
      · exact h
      · exact g.trans x y z h (hy z hz)

theorem sortLoop_sorted (cmp : Val → Val → Cmp) (g : GoodCmp cmp) (rp rest : List Val)
    (hs : RSorted cmp rp) :
    (Impl.sortLoop cmp rp rest .ge).2 = .ge ∧
    (Impl.sortLoop cmp rp rest .ge).1.Pairwise (fun a b => cmp b a = .ge) := by
  induction rest generalizing rp with
  | nil =>
    simp only [Impl.sortLoop, true_and]
    exact List.pairwise_reverse.2 hs
  | cons x rest ih =>
    unfold Impl.sortLoop
    have hf := ins_flag cmp g x rp
    have hs' := ins_sorted cmp g x rp hs
    cases hc : Impl.ins cmp x rp with
    | mk rp' c =>
      rw [hc] at hf hs'
      simp only at hf hs'
      subst hf
      exact ih rp' hs'

/-- any comparator induced by an integer key is good (e.g. lists of ints) -/
theorem goodCmp_of_key (key : Val → Int) : GoodCmp (fun a b => if key a < key b then .lt else .ge) := by
  refine ⟨?_, ?_, ?_⟩
  · intro a b; by_cases h : key a < key b <;> simp [h]
  · intro a b h
    by_cases h1 : key a < key b
    · have : ¬ key b < key a := by omega
      simp [this]
    · simp [h1] at h
  · intro a b c h1 h2
    by_cases h3 : key a < key b
    · simp [h3] at h1
    · by_cases h4 : key b < key c
      · simp [h4] at h2
      · have : ¬ key a < key c := by omega
        simp [this]

/-! ### maps -/

def keys (kvs : List (Str × Val)) : List Str := kvs.map (·.1)

theorem lookup_mset (kvs : List (Str × Val)) (k : Str) (v : Val) (k' : Str) :
    lookupKV k' (Impl.mset kvs k v) = if k' = k then some v else lookupKV k' kvs := by
  induction kvs with
  | nil => simp [Impl.mset, lookupKV, eq_comm]
  | cons p rest ih =>
    obtain ⟨a, b⟩ := p
    unfold Impl.mset
    by_cases h : a = k
    · subst h
      by_cases h2 : k' = a <;> simp [lookupKV, h2, eq_comm]
    · simp only [h, ↓reduceIte, lookupKV, ih]
      by_cases h2 : a = k'
      · have : ¬ k' = k := fun e => h (h2.trans e)
        simp [h2, this]
      · simp [h2]

theorem lookup_mdel (kvs : List (Str × Val)) (k k' : Str) :
    lookupKV k' (Impl.mdel kvs k) = if k' = k then none else lookupKV k' kvs := by
  induction kvs with
  | nil => simp [Impl.mdel, lookupKV]
  | cons p rest ih =>
    obtain ⟨a, b⟩ := p
    have hstep : Impl.mdel ((a, b) :: rest) k = if a = k then Impl.mdel rest k else (a, b) :: Impl.mdel rest k := by
      unfold Impl.mdel
      by_cases h : a = k <;> simp [List.filter_cons, h]
    rw [hstep]
    by_cases h : a = k
    · subst h
      simp only [↓reduceIte, ih]
      by_cases h2 : k' = a
      · simp [h2]
      · have : ¬ a = k' := fun e => h2 e.symm
        simp [h2, lookupKV, this]
    · simp only [h, ↓reduceIte, lookupKV, ih]
      by_cases h2 : a = k'
      · have : ¬ k' = k := fun e => h (h2.trans e)
        simp [h2, this]
      · simp [h2]

theorem lookup_none_of_not_mem (kvs : List (Str × Val)) (k : Str) (h : k ∉ keys kvs) : lookupKV k kvs = none := by
  induction kvs with
  | nil => rfl
  | cons p rest ih =>
    obtain ⟨a, b⟩ := p
    simp only [keys, List.map_cons, List.mem_cons, not_or] at h
    have h1 : ¬ a = k := fun e => h.1 e.symm
    simp only [lookupKV, h1, ↓reduceIte]
    exact ih h.2

theorem lookup_mupdate (kvs other : List (Str × Val)) (hnd : (keys other).Nodup) (k' : Str) :
    lookupKV k' (Impl.mupdate kvs other) =
      (match lookupKV k' other with | some v => some v | none => lookupKV k' kvs) := by
  unfold Impl.mupdate
  induction other generalizing kvs with
  | nil => simp [lookupKV]
  | cons p rest ih =>
    obtain ⟨a, b⟩ := p
    simp only [keys, List.map_cons, List.nodup_cons] at hnd
    simp only [List.foldl_cons]
    rw [ih _ hnd.2, lookup_mset]
    by_cases h : a = k'
    · subst h
      have := lookup_none_of_not_mem rest a hnd.1
      simp [lookupKV, this]
    · have h' : ¬ k' = a := fun e => h e.symm
      simp [lookupKV, h, h']

theorem keys_mset (kvs : List (Str × Val)) (k : Str) (v : Val) :
    keys (Impl.mset kvs k v) = if k ∈ keys kvs then keys kvs else keys kvs ++ [k] := by
  induction kvs with
  | nil => simp [Impl.mset, keys]
  | cons p rest ih =>
    obtain ⟨a, b⟩ := p
    unfold Impl.mset
    by_cases h : a = k
    · subst h; simp [keys]
    · have h' : ¬ k = a := fun e => h e.symm
      simp only [h, ↓reduceIte, keys, List.map_cons, List.mem_cons, h', false_or] at ih ⊢
      rw [ih]
      split <;> simp_all

theorem nodup_mset (kvs : List (Str × Val)) (k : Str) (v : Val) (h : (keys kvs).Nodup) :
    (keys (Impl.mset kvs k v)).Nodup := by
  rw [keys_mset]
  split
  · exact h
  · rename_i hk
    exact List.nodup_append.2 ⟨h, by simp, by intro a ha b hb; simp at hb; subst hb; exact fun e => hk (e ▸ ha)⟩

theorem nodup_mdel (kvs : List (Str × Val)) (k : Str) (h : (keys kvs).Nodup) :
    (keys (Impl.mdel kvs k)).Nodup := by
  unfold Impl.mdel keys
  exact (List.Sublist.map _ List.filter_sublist).nodup h

/-! ### sets -/

theorem keyEq_iff (a b : Val) : keyEq a b = true ↔ ∃ k, hashKey a = some k ∧ hashKey b = some k := by
  unfold keyEq
  cases ha : hashKey a <;> cases hb : hashKey b <;> simp
  exact eq_comm

theorem keyEq_symm (a b : Val) : keyEq a b = keyEq b a := by
  cases h : keyEq b a
  · cases h2 : keyEq a b
    · rfl
    · obtain ⟨k, h3, h4⟩ := (keyEq_iff a b).1 h2
      have := (keyEq_iff b a).2 ⟨k, h4, h3⟩
      rw [h] at this; cases this
  · obtain ⟨k, h3, h4⟩ := (keyEq_iff b a).1 h
    exact (keyEq_iff a b).2 ⟨k, h4, h3⟩

theorem keyEq_trans (a b c : Val) (h1 : keyEq a b = true) (h2 : keyEq b c = true) : keyEq a c = true := by
  obtain ⟨k, h3, h4⟩ := (keyEq_iff a b).1 h1
  obtain ⟨k', h5, h6⟩ := (keyEq_iff b c).1 h2
  rw [h4] at h5
  cases h5
  exact (keyEq_iff a c).2 ⟨k, h3, h6⟩

theorem keyEq_congr_left (a b x : Val) (h : keyEq a b = true) : keyEq a x = keyEq b x := by
  cases h2 : keyEq b x
  · cases h3 : keyEq a x
    · rfl
    · have := keyEq_trans b a x (by rw [keyEq_symm]; exact h) h3
      rw [h2] at this; cases this
  · exact keyEq_trans a b x h h2

theorem smem_sadd (xs : List Val) (v x : Val) :
    Impl.smem (Impl.sadd xs v) x = (keyEq v x || Impl.smem xs x) := by
  induction xs with
  | nil => simp [Impl.sadd, Impl.smem]
  | cons y ys ih =>
    unfold Impl.sadd
    by_cases h : keyEq y v = true
    · simp only [h, ↓reduceIte]
      simp only [Impl.smem, List.any_cons]
      rw [keyEq_congr_left y v x h]
      cases keyEq v x <;> simp
    · simp only [h, Bool.false_eq_true, ↓reduceIte]
      simp only [Impl.smem, List.any_cons] at ih ⊢
      rw [ih]
      cases keyEq y x <;> cases keyEq v x <;> simp

theorem smem_sremove (xs : List Val) (v x : Val) :
    Impl.smem (Impl.sremove xs v) x = (!keyEq v x && Impl.smem xs x) := by
  induction xs with
  | nil => simp [Impl.sremove, Impl.smem]
  | cons y ys ih =>
    unfold Impl.sremove at ih ⊢
    simp only [Impl.smem] at ih ⊢
    by_cases h : keyEq y v = true
    · simp only [List.filter_cons, h, Bool.not_true, Bool.false_eq_true, ↓reduceIte, ih, List.any_cons]
      rw [keyEq_congr_left y v x h]
      cases keyEq v x <;> simp
    · have h' : keyEq y v = false := by simpa using h
      simp only [List.filter_cons, h', Bool.not_false, ↓reduceIte, List.any_cons, ih]
      cases hyx : keyEq y x
      · simp
      · -- y ~ x and v ~ x would give y ~ v
        cases hvx : keyEq v x
        · simp
        · have := keyEq_trans y x v hyx (by rw [keyEq_symm]; exact hvx)
          rw [h'] at this; cases this

theorem smem_sunion (a b : List Val) (x : Val) :
    Impl.smem (Impl.sunion a b) x = (Impl.smem a x || Impl.smem b x) := by
  unfold Impl.sunion
  induction b generalizing a with
  | nil => simp [Impl.smem]
  | cons y ys ih =>
    simp only [List.foldl_cons]
    rw [ih, smem_sadd]
    simp only [Impl.smem, List.any_cons]
    rw [keyEq_symm y x]
    cases keyEq x y <;> cases a.any (fun z => keyEq z x) <;> simp

theorem smem_sinter (a b : List Val) (x : Val) :
    Impl.smem (Impl.sinter a b) x = (Impl.smem a x && Impl.smem b x) := by
  unfold Impl.sinter
  induction a with
  | nil => simp [Impl.smem]
  | cons y ys ih =>
    simp only [Impl.smem] at ih ⊢
    by_cases h : b.any (fun z => keyEq z y) = true
    · simp only [List.filter_cons, Impl.smem, h, ↓reduceIte, List.any_cons, ih]
      cases hyx : keyEq y x
      · simp
      · -- y ∈ b and y ~ x, hence x ∈ b
        have : b.any (fun z => keyEq z x) = true := by
          simp only [List.any_eq_true] at h ⊢
          obtain ⟨z, hz, hzy⟩ := h
          exact ⟨z, hz, keyEq_trans z y x hzy hyx⟩
        simp [this]
    · have h' : b.any (fun z => keyEq z y) = false := by simpa using h
      simp only [List.filter_cons, Impl.smem, h', Bool.false_eq_true, ↓reduceIte, List.any_cons, ih]
      cases hyx : keyEq y x
      · simp
      · have : b.any (fun z => keyEq z x) = false := by
          cases hb : b.any (fun z => keyEq z x)
          · rfl
          · simp only [List.any_eq_true] at hb
            obtain ⟨z, hz, hzx⟩ := hb
            have : b.any (fun z => keyEq z y) = true := by
              simp only [List.any_eq_true]
              exact ⟨z, hz, keyEq_trans z x y hzx (by rw [keyEq_symm]; exact hyx)⟩
            rw [h'] at this; cases this
        simp [this]

/-! ### sorted(x, f): the sort driven by a call-numbered comparison oracle -/

theorem insBy_perm (f : Nat → Val → Val → Option Bool) (x : Val) (n : Nat) (rp : List Val) :
    (Impl.insBy f x n rp).1.Perm (x :: rp) := by
  induction rp generalizing n with
  | nil => simp [Impl.insBy]
  | cons y ys ih =>
    unfold Impl.insBy
    cases f n x y with
    | none => exact List.Perm.refl _
    | some b =>
      cases b with
      | true => exact (List.Perm.cons y (ih (n + 1))).trans (List.Perm.swap x y ys)
      | false => exact List.Perm.refl _

theorem sortByLoop_perm (f : Nat → Val → Val → Option Bool) (rp rest : List Val) (n : Nat) (e : Bool) :
    (Impl.sortByLoop f rp rest n e).1.Perm (rp.reverse ++ rest) := by
  induction rest generalizing rp n e with
  | nil => simp [Impl.sortByLoop]
  | cons x rest ih =>
    have hp := insBy_perm f x n rp
    unfold Impl.sortByLoop
    refine (ih _ _ _).trans ?_
    have h1 : (Impl.insBy f x n rp).1.reverse.Perm (x :: rp.reverse) :=
      (List.reverse_perm _).trans (hp.trans (List.Perm.cons x (List.reverse_perm rp).symm))
    exact (List.Perm.append_right rest h1).trans
      (by simpa using (List.perm_middle (a := x) (l₁ := rp.reverse) (l₂ := rest)).symm)

theorem sortBy_perm (f : Nat → Val → Val → Option Bool) (xs : List Val) : (Impl.sortBy f xs).1.Perm xs := by
  simpa [Impl.sortBy] using sortByLoop_perm f [] xs 0 false

/-- the `Cmp`-valued comparator of an abstract "less" relation -/
def relCmp (lt : Val → Val → Bool) : Val → Val → Cmp := fun a b => if lt a b then .lt else .ge

theorem insBy_of_rel (lt : Val → Val → Bool) (f : Nat → Val → Val → Option Bool)
    (hf : ∀ n a b, f n a b = some (lt a b)) (x : Val) (n : Nat) (rp : List Val) :
    (Impl.insBy f x n rp).1 = (Impl.ins (relCmp lt) x rp).1 ∧ (Impl.insBy f x n rp).2.2 = false ∧
    (Impl.ins (relCmp lt) x rp).2 = .ge := by
  induction rp generalizing n with
  | nil => simp [Impl.insBy, Impl.ins]
  | cons y ys ih =>
    unfold Impl.insBy Impl.ins
    rw [hf]
    have := ih (n + 1)
    cases hl : lt x y with
    | true => simp [relCmp, hl, this]
    | false => simp [relCmp, hl]

theorem sortByLoop_of_rel (lt : Val → Val → Bool) (f : Nat → Val → Val → Option Bool)
    (hf : ∀ n a b, f n a b = some (lt a b)) (rp rest : List Val) (n : Nat) :
    Impl.sortByLoop f rp rest n false = ((Impl.sortLoop (relCmp lt) rp rest .ge).1, false) := by
  induction rest generalizing rp n with
  | nil => simp [Impl.sortByLoop, Impl.sortLoop]
  | cons x rest ih =>
    have h3 := insBy_of_rel lt f hf x n rp
    unfold Impl.sortByLoop Impl.sortLoop
    cases hc : Impl.ins (relCmp lt) x rp with
    | mk rp' c =>
      rw [hc] at h3
      simp only at h3
      obtain ⟨h1, h2, rfl⟩ := h3
      simp only [h1, h2, Bool.or_false]
      exact ih rp' _

/-- **an abstract relation as comparison function**: when every call answers `lt a b` (no
    call raises, the call number is irrelevant) the oracle-driven sort is the sort by the
    comparator of `lt`, and reports no error -/
theorem sortBy_of_rel (lt : Val → Val → Bool) (f : Nat → Val → Val → Option Bool)
    (hf : ∀ n a b, f n a b = some (lt a b)) (xs : List Val) :
    Impl.sortBy f xs = ((Impl.sort (relCmp lt) xs).1, false) := by
  unfold Impl.sortBy Impl.sort
  exact sortByLoop_of_rel lt f hf [] xs 0

theorem insBy_no_raise (f : Nat → Val → Val → Option Bool) (hf : ∀ n a b, (f n a b).isSome = true)
    (x : Val) (n : Nat) (rp : List Val) : (Impl.insBy f x n rp).2.2 = false := by
  induction rp generalizing n with
  | nil => simp [Impl.insBy]
  | cons y ys ih =>
    unfold Impl.insBy
    have := hf n x y
    cases hv : f n x y with
    | none => simp [hv] at this
    | some b => cases b <;> simp [ih]

theorem sortByLoop_no_raise (f : Nat → Val → Val → Option Bool) (hf : ∀ n a b, (f n a b).isSome = true)
    (rp rest : List Val) (n : Nat) : (Impl.sortByLoop f rp rest n false).2 = false := by
  induction rest generalizing rp n with
  | nil => simp [Impl.sortByLoop]
  | cons x rest ih =>
    unfold Impl.sortByLoop
    simp only [insBy_no_raise f hf, Bool.or_false]
    exact ih _ _

theorem sortByLoop_raised (f : Nat → Val → Val → Option Bool) (rp rest : List Val) (n : Nat) :
    (Impl.sortByLoop f rp rest n true).2 = true := by
  induction rest generalizing rp n with
  | nil => simp [Impl.sortByLoop]
  | cons x rest ih =>
    unfold Impl.sortByLoop
    simp only [Bool.true_or]
    exact ih _ _

end Impl
open Impl

/-! ### searching: `List.Index`'s loop finds the first equal item -/

theorem indexOf_refines (eq : Val → Val → Bool) (v : Val) (xs : List Val) :
    Impl.indexOf eq v xs = Spec.indexOf eq v xs := by
  unfold Spec.indexOf
  induction xs with
  | nil => simp [Impl.indexOf]
  | cons y ys ih =>
    unfold Impl.indexOf
    rw [List.findIdx?_cons]
    by_cases hy : eq v y = true
    · simp [hy]
    · simp only [hy, Bool.false_eq_true, ↓reduceIte, ih]

/-! ### list iterators: Go's cursor arithmetic reads item number `k` of the live list -/

theorem iterNext_refines (xs : List Val) (k : Nat) : Impl.iterNext xs k = Spec.iterNext xs k := by
  unfold Impl.iterNext Spec.iterNext
  split
  · rename_i h
    have : xs.length ≤ k := by omega
    simp [List.getElem?_eq_none_iff.2 this]
  · rfl

theorem nextOf_refines (xs : List Val) (k : Nat) : nextOf .impl xs k = nextOf .spec xs k := by
  simp only [nextOf, iterNext_refines]

theorem nextOf_eq (m : Mode) (xs : List Val) (k : Nat) : nextOf m xs k = xs[k]? := by
  cases m
  · simp only [nextOf, iterNext_refines, Spec.iterNext]
  · simp only [nextOf, Spec.iterNext]

theorem drop_of_getElem? {α} {xs : List α} {k : Nat} {v : α} (h : xs[k]? = some v) :
    k < xs.length ∧ xs.drop k = v :: xs.drop (k + 1) := by
  obtain ⟨hlt, rfl⟩ := List.getElem?_eq_some_iff.1 h
  exact ⟨hlt, List.drop_eq_getElem_cons hlt⟩

theorem drainLoop_eq (f : Nat) (xs : List Val) (k : Nat) (acc : List Val) (hf : xs.length - k < f) :
    Impl.drainLoop f xs k acc = (acc ++ xs.drop k, max k xs.length) := by
  induction f generalizing k acc with
  | zero => omega
  | succ f ih =>
    unfold Impl.drainLoop
    rw [iterNext_refines]; unfold Spec.iterNext
    cases hk : xs[k]? with
    | none =>
      have : xs.length ≤ k := List.getElem?_eq_none_iff.1 hk
      simp only
      rw [List.drop_eq_nil_of_le this, List.append_nil, Nat.max_eq_left this]
    | some v =>
      obtain ⟨hlt, hd⟩ := drop_of_getElem? hk
      simp only
      rw [ih (k + 1) (acc ++ [v]) (by omega), hd, List.append_assoc]
      simp only [List.cons_append, List.nil_append]
      congr 1
      omega

theorem drain_refines (xs : List Val) (k : Nat) : Impl.drain xs k = Spec.drain xs k := by
  unfold Impl.drain Spec.drain
  rw [drainLoop_eq _ xs k [] (by omega)]
  simp

/-! ### `for` loops over a list that the body changes -/

theorem bodyList_refines (eq : Val → Val → Bool) (b : Body) (xs : List Val) (k : Nat) (x : Val) :
    bodyList .impl eq b xs k x = bodyList .spec eq b xs k x := by
  cases b <;> simp only [bodyList, pop_refines, remove_refines, setItem_refines, insert_refines]

theorem forLoop_refines (r : Nat) (w : Bool) (b : Body) (f : Nat) (h : Heap) (k : Nat) (acc : List Val) :
    forLoop .impl r w b f h k acc = forLoop .spec r w b f h k acc := by
  induction f generalizing h k acc with
  | zero => rfl
  | succ f ih =>
    unfold forLoop
    simp only [nextOf_refines, bodyList_refines, ih]

theorem Heap.get_of_getElem? {h : Heap} {r : Nat} {o : Obj} (hx : h.objs[r]? = some o) : h.get r = o := by
  unfold Heap.get
  rw [List.getD_eq_getElem?_getD, hx]
  rfl

theorem Heap.put_get_self (h : Heap) (r : Nat) : h.put r (h.get r) = h := by
  unfold Heap.put Heap.get
  rcases Nat.lt_or_ge r h.objs.length with hr | hr
  · have : h.objs.getD r (.list []) = h.objs[r] := by
      rw [List.getD_eq_getElem?_getD, List.getElem?_eq_getElem hr]; rfl
    rw [this, List.set_getElem_self]
  · rw [List.set_eq_of_length_le hr]

/-- what a loop records for the items `xs` from position `k` on (with the index when `w`) -/
def pairsFrom (w : Bool) : Nat → List Val → List Val
  | _, [] => []
  | k, x :: xs => (if w then [.int k, x] else [x]) ++ pairsFrom w (k + 1) xs

/-- a loop whose body does nothing to the list leaves the whole heap as it was and records
    the items from the cursor on -/
theorem forLoop_none (m : Mode) (r : Nat) (w : Bool) (xs : List Val) (f : Nat) (h : Heap) (k : Nat)
    (acc : List Val) (hg : h.get r = .list xs) (hf : xs.length - k < f) :
    forLoop m r w .none f h k acc = (h, acc ++ pairsFrom w k (xs.drop k)) := by
  induction f generalizing k acc with
  | zero => omega
  | succ f ih =>
    unfold forLoop
    simp only [hg, nextOf_eq, bodyList]
    cases hk : xs[k]? with
    | none =>
      have : xs.length ≤ k := List.getElem?_eq_none_iff.1 hk
      simp [List.drop_eq_nil_of_le this, pairsFrom]
    | some v =>
      obtain ⟨hlt, hd⟩ := drop_of_getElem? hk
      simp only
      rw [← hg, Heap.put_get_self, ih (k + 1) _ (by omega), hd]
      simp [pairsFrom, List.append_assoc]

/-- a loop changes no object but the list it iterates, and creates none -/
theorem forLoop_keeps (m : Mode) (r : Nat) (w : Bool) (b : Body) (f : Nat) (h : Heap) (k : Nat) (acc : List Val) :
    (forLoop m r w b f h k acc).1.objs.length = h.objs.length ∧
    (forLoop m r w b f h k acc).1.arrs = h.arrs ∧
    ∀ q, q ≠ r → (forLoop m r w b f h k acc).1.objs[q]? = h.objs[q]? := by
  induction f generalizing h k acc with
  | zero => simp [forLoop]
  | succ f ih =>
    unfold forLoop
    split
    · split
      · simp
      · rename_i xs _ _ x _
        have := ih (h.put r (.list (bodyList m (heq h) b xs k x))) (k + 1) (acc ++ (if w then [.int k, x] else [x]))
        refine ⟨?_, ?_, ?_⟩
        · rw [this.1]; simp [Heap.put]
        · rw [this.2.1]; simp [Heap.put]
        · intro q hq
          rw [this.2.2 q hq]
          simp only [Heap.put, List.getElem?_set]
          split
          · omega
          · rfl
    · simp

/-! ### the fuel of a `for` loop: `max (length, bound of the body)` rounds always suffice -/

theorem get_lt_of_ne_nil (h : Heap) (r : Nat) (xs : List Val) (hg : h.get r = .list xs) (hne : xs ≠ []) :
    r < h.objs.length := by
  rcases Nat.lt_or_ge r h.objs.length with hr | hr
  · exact hr
  · exfalso
    unfold Heap.get at hg
    rw [List.getD_eq_getElem?_getD, List.getElem?_eq_none_iff.2 hr] at hg
    simp only [Option.getD_none, Obj.list.injEq] at hg
    exact hne hg.symm

theorem get_put_same (h : Heap) (r : Nat) (o : Obj) (hr : r < h.objs.length) : (h.put r o).get r = o := by
  unfold Heap.put Heap.get
  rw [List.getD_eq_getElem?_getD]
  simp [List.getElem?_set_self hr]

/-- no body lets the list grow beyond `max (its length, the body's bound)` -/
theorem bodyList_length_le (m : Mode) (eq : Val → Val → Bool) (b : Body) (xs : List Val) (k : Nat) (x : Val) :
    (bodyList m eq b xs k x).length ≤ max xs.length b.bound := by
  have hspec : bodyList m eq b xs k x = bodyList .spec eq b xs k x := by
    cases m
    · exact bodyList_refines eq b xs k x
    · rfl
  rw [hspec]
  cases b with
  | none => simp [bodyList, Body.bound]
  | grow n =>
    simp only [bodyList, Body.bound]
    split
    · simp only [List.length_append, List.length_singleton]; omega
    · omega
  | popLast =>
    simp only [bodyList, Body.bound, Spec.pop]
    split
    · rename_i v ys hp
      split at hp
      · split at hp
        · simp only [Option.some.injEq, Prod.mk.injEq] at hp
          rw [← hp.2]
          exact Nat.le_trans (List.length_eraseIdx_le ..) (Nat.le_max_left ..)
        · cases hp
      · cases hp
    · omega
  | removeCur =>
    simp only [bodyList, Body.bound, Spec.remove]
    exact Nat.le_trans (List.length_eraseP_le ..) (Nat.le_max_left ..)
  | clear => simp [bodyList]
  | setNext v =>
    simp only [bodyList, Body.bound, Spec.setItem]
    split
    · split
      · rename_i ys hs
        split at hs
        · simp only [Option.some.injEq] at hs
          rw [← hs]; simp
        · cases hs
      · omega
    · omega
  | insertFront n =>
    simp only [bodyList, Body.bound]
    split
    · simp only [Spec.insert, List.length_append, List.length_take, List.length_cons, List.length_drop]
      omega
    · omega

/-- **one more unit of fuel changes nothing** once the fuel exceeds the rounds that can still
    come: `max (length, bound) - k` -/
theorem forLoop_fuel_succ (m : Mode) (r : Nat) (w : Bool) (b : Body) (f : Nat) (h : Heap) (k : Nat)
    (acc : List Val) (xs : List Val) (hg : h.get r = .list xs) (hf : max xs.length b.bound - k < f) :
    forLoop m r w b (f + 1) h k acc = forLoop m r w b f h k acc := by
  induction f generalizing h k acc xs with
  | zero => omega
  | succ f ih =>
    rw [forLoop, forLoop]
    simp only [hg, nextOf_eq]
    cases hk : xs[k]? with
    | none => rfl
    | some x =>
      have hlt := (drop_of_getElem? hk).1
      have hne : xs ≠ [] := by intro e; subst e; simp at hlt
      have hr := get_lt_of_ne_nil h r xs hg hne
      have hlen := bodyList_length_le m (heq h) b xs k x
      simp only
      exact ih _ (k + 1) _ _ (get_put_same h r _ hr) (by omega)

theorem forLoop_fuel_enough (m : Mode) (r : Nat) (w : Bool) (b : Body) (h : Heap) (k : Nat)
    (acc : List Val) (xs : List Val) (hg : h.get r = .list xs) (f d : Nat) (hf : max xs.length b.bound - k < f) :
    forLoop m r w b (f + d) h k acc = forLoop m r w b f h k acc := by
  induction d with
  | zero => rfl
  | succ d ih =>
    rw [← Nat.add_assoc, forLoop_fuel_succ m r w b (f + d) h k acc xs hg (by omega), ih]

/-! ### sorting numbers of every magnitude -/

theorem cmp_aux (p q : Int) (lt eq : Bool) (h1 : lt = true ↔ p < q) (h2 : eq = true ↔ p = q) :
    (match three lt eq with | .ok c => if c = -1 then Cmp.lt else Cmp.ge | .err => Cmp.err) = if p < q then Cmp.lt else Cmp.ge := by
  by_cases hlt : p < q
  · have e1 : lt = true := h1.2 hlt
    have e2 : eq = false := by
      cases eq
      · rfl
      · have := h2.1 rfl; omega
    subst e1; subst e2; simp [three, hlt]
  · have e1 : lt = false := by
      cases lt
      · rfl
      · exact absurd (h1.1 rfl) hlt
    subst e1
    cases eq <;> simp [three, hlt]

/-- on numbers the comparator `object.Sort` uses is "less by exact value", whatever the
    magnitude and whichever of the three numeric types the two items have -/
theorem cmpVal_num (h : Heap) (fuel : Nat) (a b : Val) (ha : isNum a = true) (hb : isNum b = true) :
    cmpVal h fuel a b = keyCmp a b := by
  unfold cmpVal cmp3 keyCmp
  -- `isNum` leaves the nine pairs of numbers
  cases a <;> try exact Bool.noConfusion ha
  all_goals cases b <;> try exact Bool.noConfusion hb
  all_goals
    refine cmp_aux _ _ _ _ ?_ ?_ <;>
    simp only [decide_eq_true_eq, beq_iff_eq, keyOf, numKey, Option.getD_some] <;> omega

theorem ins_congr (cmp cmp' : Val → Val → Cmp) (x : Val) (rp : List Val)
    (hc : ∀ y ∈ rp, cmp x y = cmp' x y) : Impl.ins cmp x rp = Impl.ins cmp' x rp := by
  induction rp with
  | nil => simp [Impl.ins]
  | cons y ys ih =>
    unfold Impl.ins
    rw [hc y (by simp), ih (fun z hz => hc z (by simp [hz]))]

theorem sortLoop_congr (cmp cmp' : Val → Val → Cmp) (rp rest : List Val) (flag : Cmp)
    (hc : ∀ a ∈ rp ++ rest, ∀ b ∈ rp ++ rest, cmp a b = cmp' a b) :
    Impl.sortLoop cmp rp rest flag = Impl.sortLoop cmp' rp rest flag := by
  induction rest generalizing rp flag with
  | nil => simp [Impl.sortLoop]
  | cons x rest ih =>
    unfold Impl.sortLoop
    have hi : Impl.ins cmp x rp = Impl.ins cmp' x rp :=
      ins_congr cmp cmp' x rp (fun y hy => hc x (by simp) y (by simp [hy]))
    rw [← hi]
    have hp := ins_perm cmp x rp
    cases hins : Impl.ins cmp x rp with
    | mk rp' c =>
      rw [hins] at hp
      have hc' : ∀ a ∈ rp' ++ rest, ∀ b ∈ rp' ++ rest, cmp a b = cmp' a b := by
        intro a ha b hb
        have mem : ∀ z, z ∈ rp' ++ rest → z ∈ rp ++ x :: rest := by
          intro z hz
          simp only [List.mem_append, List.mem_cons] at hz ⊢
          rcases hz with hz | hz
          · have := hp.mem_iff.1 hz
            simp only [List.mem_cons] at this
            rcases this with rfl | h1
            · exact Or.inr (Or.inl rfl)
            · exact Or.inl h1
          · exact Or.inr (Or.inr hz)
        exact hc a (mem a ha) b (mem b hb)
      cases c with
      | panic => rfl
      | err => exact ih rp' .err hc'
      | lt => exact ih rp' flag hc'
      | ge => exact ih rp' flag hc'

theorem sort_num_eq (h : Heap) (xs : List Val) (hn : xs.all isNum = true) :
    Impl.sort (hcmp h) xs = Impl.sort keyCmp xs := by
  unfold Impl.sort
  apply sortLoop_congr
  intro a ha b hb
  simp only [List.nil_append] at ha hb
  rw [List.all_eq_true] at hn
  exact cmpVal_num h _ a b (hn a ha) (hn b hb)

theorem keyCmp_good : GoodCmp keyCmp := goodCmp_of_key keyOf

/-- stability of one insertion: `x` only moves past items of another value -/
theorem ins_sameValue (v x : Val) (rp : List Val) :
    Spec.sameValue v (Impl.ins keyCmp x rp).1 = Spec.sameValue v (x :: rp) := by
  induction rp with
  | nil => simp [Impl.ins]
  | cons y ys ih =>
    unfold Impl.ins
    by_cases hlt : keyOf x < keyOf y
    · simp only [keyCmp, hlt, if_true]
      have ih' : Spec.sameValue v (Impl.ins keyCmp x ys).1 = Spec.sameValue v (x :: ys) := ih
      simp only [Spec.sameValue, List.filter_cons] at ih' ⊢
      rw [ih']
      by_cases h1 : keyOf x = keyOf v <;> by_cases h2 : keyOf y = keyOf v <;> simp [h1, h2]
      omega
    · simp [keyCmp, hlt]

theorem sameValue_append (v : Val) (a b : List Val) :
    Spec.sameValue v (a ++ b) = Spec.sameValue v a ++ Spec.sameValue v b := by
  simp [Spec.sameValue]

theorem sameValue_reverse (v : Val) (a : List Val) :
    Spec.sameValue v a.reverse = (Spec.sameValue v a).reverse := by
  simp [Spec.sameValue, List.filter_reverse]

theorem sortLoop_sameValue (v : Val) (rp rest : List Val) (flag : Cmp) :
    Spec.sameValue v (Impl.sortLoop keyCmp rp rest flag).1 = Spec.sameValue v (rp.reverse ++ rest) := by
  induction rest generalizing rp flag with
  | nil => simp [Impl.sortLoop]
  | cons x rest ih =>
    unfold Impl.sortLoop
    have hs := ins_sameValue v x rp
    cases hins : Impl.ins keyCmp x rp with
    | mk rp' c =>
      rw [hins] at hs
      simp only at hs
      have key : Spec.sameValue v (rp'.reverse ++ rest) = Spec.sameValue v (rp.reverse ++ x :: rest) := by
        rw [sameValue_append, sameValue_reverse, hs]
        simp [Spec.sameValue, List.filter_cons, List.filter_reverse]
        split <;> simp
      cases c with
      | panic => exact key
      | err => exact (ih rp' .err).trans key
      | lt => exact (ih rp' flag).trans key
      | ge => exact (ih rp' flag).trans key

theorem ascending_of_pairwise (ys : List Val) (hp : ys.Pairwise (fun a b => keyOf a ≤ keyOf b)) :
    Spec.ascending ys = true := by
  induction ys with
  | nil => rfl
  | cons a rest ih =>
    cases rest with
    | nil => rfl
    | cons b rest =>
      have h1 := List.pairwise_cons.1 hp
      simp only [Spec.ascending, Bool.and_eq_true, decide_eq_true_eq]
      exact ⟨h1.1 b (by simp), ih h1.2⟩

theorem sort_key_pairwise (xs : List Val) :
    (Impl.sort keyCmp xs).2 = .ge ∧ (Impl.sort keyCmp xs).1.Pairwise (fun a b => keyOf a ≤ keyOf b) := by
  have h := sortLoop_sorted keyCmp keyCmp_good [] xs (by simp [RSorted])
  refine ⟨h.1, List.Pairwise.imp ?_ h.2⟩
  intro a b hab
  unfold keyCmp at hab
  by_cases hlt : keyOf b < keyOf a
  · simp [hlt] at hab
  · omega

theorem sort_key_isSortOf (xs : List Val) : Spec.isSortOf xs (Impl.sort keyCmp xs).1 = true := by
  unfold Spec.isSortOf
  simp only [Bool.and_eq_true, List.all_eq_true, beq_iff_eq]
  refine ⟨ascending_of_pairwise _ (sort_key_pairwise xs).2, ?_⟩
  intro v _
  have := sortLoop_sameValue v [] xs .ge
  simpa [Impl.sort] using this

end Risor.C16
