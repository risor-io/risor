import RisorModel.C16.Lemmas
import RisorModel.Generated.C16
/-!
C16 — property theorems: lists, maps, sets, strings and byte slices behave as the abstract
containers they present.

Everything is for ALL container contents, ALL indices (any `Int`), ALL values and ALL
operation sequences (any length): no bound on sizes or on the number of operations.

Reading guide
* `Risor.Generated.C16.resolveIndex` is regenerated from object/list.go on every run.
* `Impl.*` are the container functions as the Go code computes them, `Spec.*` the reference
  containers (Model.lean); `step`/`run` is the heap machine over all objects of a scenario.
* The executable model is tied to the real code by the correspondence harness.
-/
namespace Risor.C16
open Impl

/-! ## 1. Index normalisation and bounds -/

/-- **ResolveIndex, as regenerated from the source**: for a container of `n` items and every
    integer `i`, the function succeeds exactly when `-n ≤ i < n`; the index it returns is `i`
    for `i ≥ 0` and `i + n` otherwise (so it always lies in `[0, n)`); in every other case it
    returns the error. -/
theorem resolveIndex_spec (i : Int) (n : Nat) :
    (∀ k, Risor.Generated.C16.resolveIndex i n = .ok k ↔
        (-(n : Int) ≤ i ∧ i < n ∧ k = if i < 0 then i + n else i)) ∧
    (Risor.Generated.C16.resolveIndex i n = .err ↔ ¬ (-(n : Int) ≤ i ∧ i < n)) := by
  rw [show Risor.Generated.C16.resolveIndex i n = _ from resolveIndex_eq i n]
  by_cases h : -(n : Int) ≤ i ∧ i < n
  · rw [if_pos h]
    exact ⟨fun k => ⟨fun e => ⟨h.1, h.2, (IdxRes.ok.inj e).symm⟩, fun e => congrArg IdxRes.ok e.2.2.symm⟩,
      (fun e => nomatch e), fun e => absurd h e⟩
  · rw [if_neg h]
    exact ⟨fun k => ⟨(fun e => nomatch e), fun e => absurd ⟨e.1, e.2.1⟩ h⟩, fun _ => h, fun _ => rfl⟩

/-- a successful ResolveIndex result is a valid position: `0 ≤ k < n` -/
theorem resolveIndex_inbounds (i : Int) (n : Nat) (k : Int)
    (h : Risor.Generated.C16.resolveIndex i n = .ok k) : 0 ≤ k ∧ k < n :=
  resolveIndex_ok h

/-- **ResolveIntSlice (arithmetic part, hand model of the Go code)**: for all integers
    `start`, `stop` and every size `n`, it succeeds exactly when the normalised bounds
    (`x + n` for negative `x`) satisfy `0 ≤ a ≤ b ≤ n` and `a < n`, and then returns exactly
    those bounds. -/
theorem resolveIntSlice_spec (st sp : Int) (n : Nat) (a b : Int) :
    sliceBounds st sp n = some (a, b) ↔
      (a = Spec.sliceNorm n st ∧ b = Spec.sliceNorm n sp ∧ 0 ≤ a ∧ a ≤ b ∧ b ≤ n ∧ a < n) := by
  refine ⟨sliceBounds_some, ?_⟩
  rintro ⟨rfl, rfl, h⟩
  rw [sliceBounds_eq, if_pos h]

/-- whatever `ResolveIntSlice` accepts is a valid sub-range of the container -/
theorem resolveIntSlice_inbounds (a b : Option Val) (n s e : Nat)
    (h : resolveIntSlice a b n = .ok s e) : s ≤ e ∧ e ≤ n ∧ s < n :=
  resolveIntSlice_ok h

/-! ## 2. Every list operation computes the reference result (per-operation refinement) -/

/-- **Lists, per operation**: for all contents, indices and values, the code-shaped
    functions (index through ResolveIndex, `Insert`'s three cases, `Remove` = `Index` + splice,
    `Pop`/`DelItem` = `append(items[:i], items[i+1:]...)`, the in-place swap loop of `Reverse`,
    `GetSlice` through ResolveIntSlice, `Count`'s loop) return exactly what the reference list
    functions return: Python-style indexing valid for `-n ≤ i < n`, `eraseIdx`, insertion
    before the clamped position, erase-first-equal, `List.reverse`, the sub-list, `countP`. -/
theorem refines_list_ops (eq : Val → Val → Bool) (xs : List Val) (i : Int) (v : Val) (a b : Option Val) :
    Impl.getItem xs i = Spec.getItem xs i ∧
    Impl.setItem xs i v = Spec.setItem xs i v ∧
    Impl.pop xs i = Spec.pop xs i ∧
    Impl.delItem xs i = Spec.delItem xs i ∧
    Impl.insert xs i v = Spec.insert xs i v ∧
    Impl.remove eq xs v = Spec.remove eq xs v ∧
    Impl.count eq xs v = Spec.count eq xs v ∧
    Impl.reverse xs = Spec.reverse xs ∧
    Impl.slice xs a b = Spec.slice xs a b :=
  ⟨getItem_refines xs i, setItem_refines xs i v, pop_refines xs i, delItem_refines xs i,
   insert_refines xs i v, remove_refines eq xs v, count_refines eq xs v, reverse_refines xs,
   slice_refines xs a b⟩

/-- **Out-of-range list accesses are errors, in-range ones return the right element**: for
    every list and every integer index, reading fails exactly outside `-n ≤ i < n`, and
    inside it returns the element at position `i` (or `i + n`). Same for `pop`, `set`, `del`. -/
theorem list_index_error_iff (xs : List Val) (i : Int) :
    (Impl.getItem xs i = none ↔ ¬ (-(xs.length : Int) ≤ i ∧ i < xs.length)) ∧
    (∀ v, Impl.getItem xs i = some v → xs[(if i < 0 then i + xs.length else i).toNat]? = some v) ∧
    (Impl.pop xs i = none ↔ ¬ (-(xs.length : Int) ≤ i ∧ i < xs.length)) ∧
    (∀ v, Impl.setItem xs i v = none ↔ ¬ (-(xs.length : Int) ≤ i ∧ i < xs.length)) ∧
    (Impl.delItem xs i = none ↔ ¬ (-(xs.length : Int) ≤ i ∧ i < xs.length)) := by
  unfold Impl.getItem Impl.pop Impl.setItem Impl.delItem
  rw [resolveIndex_eq]
  by_cases hc : -(xs.length : Int) ≤ i ∧ i < xs.length
  · -- the position exists, so each operation returns `some _`
    simp only [if_pos hc, List.getElem?_eq_getElem (inRange_toNat_lt hc)]
    have no : ∀ {α} {x : α}, (some x = none ↔ ¬ (-(xs.length : Int) ≤ i ∧ i < xs.length)) :=
      iff_of_false (fun e => nomatch e) (fun e => e hc)
    exact ⟨no, fun _ e => e, no, fun _ => no, no⟩
  · rw [if_neg hc]
    exact ⟨iff_of_true rfl hc, fun _ e => (nomatch e), iff_of_true rfl hc, fun _ => iff_of_true rfl hc,
      iff_of_true rfl hc⟩

/-- **Sorting never loses or duplicates an element**: for every comparator outcome function
    (including comparisons that fail with a type error or panic half-way, after which Go
    leaves the list partly sorted) the list after `sort` is a permutation of the list before. -/
theorem sort_keeps_elements (cmp : Val → Val → Cmp) (xs : List Val) : (Impl.sort cmp xs).1.Perm xs :=
  sort_perm cmp xs

/-- **Sorting sorts**: for a comparator that behaves as a total order on the items, `sort`
    reports no error and leaves the list ordered: no later item is less than an earlier one. -/
theorem sort_sorted (cmp : Val → Val → Cmp) (g : GoodCmp cmp) (xs : List Val) :
    (Impl.sort cmp xs).2 = .ge ∧ (Impl.sort cmp xs).1.Pairwise (fun a b => cmp b a = .ge) := by
  unfold Impl.sort
  exact sortLoop_sorted cmp g [] xs (by simp [RSorted])

/-! ### sorting numbers of every magnitude (ints beyond 2^53 included)

Strengthened after a missed seeded change (`object.Sort` sorting lists of numbers through
precomputed float64 keys, which cannot tell 2^53 from 2^53+1 or MaxInt64-1 from MaxInt64). -/

/-- **Numbers compare by their exact values**: for every heap and any two numbers — ints of
    ANY magnitude, bytes, (half-integer) floats, in any combination — the comparator
    `object.Sort` hands to `sort.SliceStable` is "less by exact value" (`keyOf` = twice the
    value): never an error, and two different ints are never treated as equal. -/
theorem compare_numbers_exact (h : Heap) (fuel : Nat) (a b : Val) (ha : isNum a = true) (hb : isNum b = true) :
    cmpVal h fuel a b = (if keyOf a < keyOf b then .lt else .ge) :=
  cmpVal_num h fuel a b ha hb

/-- **Sorting a list of numbers sorts it by exact value**, for every heap and every list of
    numbers of any length and any magnitude: `sort` reports no error; the result is ascending
    by exact value (so of two different ints the smaller one comes first, however close to
    ±2^63 they are); it is a permutation of the input; and it is stable — for every value the
    items having that value are the same, in input order (`2`, `2.0` and `byte(2)` keep their
    relative order). Together: the result satisfies the reference reading `Spec.isSortOf`. -/
theorem sort_numbers_exact (h : Heap) (xs : List Val) (hn : xs.all isNum = true) :
    (Impl.sort (hcmp h) xs).2 = .ge ∧
    (Impl.sort (hcmp h) xs).1.Pairwise (fun a b => keyOf a ≤ keyOf b) ∧
    (Impl.sort (hcmp h) xs).1.Perm xs ∧
    (∀ v, Spec.sameValue v (Impl.sort (hcmp h) xs).1 = Spec.sameValue v xs) ∧
    Spec.isSortOf xs (Impl.sort (hcmp h) xs).1 = true := by
  rw [sort_num_eq h xs hn]
  refine ⟨(sort_key_pairwise xs).1, (sort_key_pairwise xs).2, sort_perm _ xs, ?_, sort_key_isSortOf xs⟩
  intro v
  have := sortLoop_sameValue v [] xs .ge
  simpa [Impl.sort] using this

/-- **Neighbouring ints are told apart at every magnitude**: for EVERY integer `i` (no bound:
    2^53, MaxInt64-1, …) sorting `[i+1, i]` gives `[i, i+1]`. -/
theorem sort_tells_neighbours_apart (h : Heap) (i : Int) :
    Impl.sort (hcmp h) [.int (i + 1), .int i] = ([.int i, .int (i + 1)], .ge) := by
  rw [sort_num_eq h _ (by simp [isNum, numKey])]
  have hk : keyOf (.int i) < keyOf (.int (i + 1)) := by
    show 2 * i < 2 * (i + 1)
    omega
  have h1 : keyCmp (.int i) (.int (i + 1)) = .lt := by unfold keyCmp; rw [if_pos hk]
  simp [Impl.sort, Impl.sortLoop, Impl.ins, h1]

/-- the reference reading determines the result: ascending lists with the same items per
    value in the same order are equal — stated on the keys: two ascending arrangements of
    the same multiset of ints are the same list -/
theorem ascending_ints_unique (xs ys : List Int) (hx : xs.Pairwise (· ≤ ·)) (hy : ys.Pairwise (· ≤ ·))
    (hp : xs.Perm ys) : xs = ys :=
  List.Perm.eq_of_pairwise (le := (· ≤ ·)) (fun _ _ _ _ h1 h2 => Int.le_antisymm h1 h2) hx hy hp

/-- **`l.sort()` on the machine**: for every heap and every list object holding numbers only,
    in both readings of the machine, the step succeeds, changes no other object than `r`, and
    leaves in `r` the reference sort of its former content. -/
theorem lsort_numbers (m : Mode) (h : Heap) (r : Nat) (xs : List Val) (hg : h.get r = .list xs)
    (hn : xs.all isNum = true) :
    ∃ ys, step m h (.lSort r) = (h.put r (.list ys), .unit) ∧ Spec.isSortOf xs ys = true ∧ ys.Perm xs := by
  have hs := sort_numbers_exact h xs hn
  refine ⟨(Impl.sort (hcmp h) xs).1, ?_, hs.2.2.2.2, hs.2.2.1⟩
  dsimp only [step]
  simp only [hg]
  rw [show Impl.sort (hcmp h) xs = (_, .ge) from Prod.ext rfl hs.1]

/-- **`sorted(l)` / `l.sorted()` on the machine**: same for the two non-mutating forms — the
    heap only grows by one new list, which is the reference sort of the operand's content. -/
theorem sorted_numbers (m : Mode) (h : Heap) (r : Nat) (xs : List Val) (hg : h.get r = .list xs)
    (hn : xs.all isNum = true) :
    ∃ ys, step m h (.lSorted r) = newList h ys ∧ step m h (.bi (.sorted r)) = newList h ys ∧
      Spec.isSortOf xs ys = true ∧ ys.Perm xs := by
  have hs := sort_numbers_exact h xs hn
  refine ⟨(Impl.sort (hcmp h) xs).1, ?_, ?_, hs.2.2.2.2, hs.2.2.1⟩
  · dsimp only [step]
    simp only [hg]
    rw [show Impl.sort (hcmp h) xs = (_, .ge) from Prod.ext rfl hs.1]
  · dsimp only [step, stepB, sortItems]
    simp only [hg]
    rw [show Impl.sort (hcmp h) xs = (_, .ge) from Prod.ext rfl hs.1]

/-- what a float64 sees of large ints: 2^53+1 collapses onto 2^53, MaxInt64 and MaxInt64-1
    onto 2^63 (checked values of the rounding model `f64OfInt`) -/
theorem f64_collapses_large_ints :
    f64OfInt 9007199254740993 = f64OfInt 9007199254740992 ∧
    f64OfInt 9223372036854775807 = f64OfInt 9223372036854775806 ∧
    f64OfInt (-9007199254740993) = f64OfInt (-9007199254740992) := by decide +kernel

/-- **Sorting numbers through float64 keys is no sort**: the full statement "for every list
    of numbers the arrangement left by a sort whose comparator looks at `float64(int)` is the
    reference sort" is false — `[2^53+1, 2^53]` stays as it is. (`sort_numbers_exact` is this
    statement for the comparator the code has.) -/
def C16_full_float_key_sort : Prop :=
  ∀ xs : List Val, xs.all isNum = true → Spec.isSortOf xs (Impl.sort f64KeyCmp xs).1 = true

theorem C16_float_keys_do_not_sort : ¬ C16_full_float_key_sort := by
  intro hf
  have := hf [.int 9007199254740993, .int 9007199254740992] (by decide +kernel)
  revert this; decide +kernel

/-- on ints the machine's comparator is such a key comparator -/
theorem cmpVal_int (h : Heap) (f : Nat) (x y : Int) : cmpVal h f (.int x) (.int y) = if x < y then .lt else .ge := by
  simp only [cmpVal, cmp3, three]
  by_cases h1 : x = y
  · subst h1; simp
  · by_cases h2 : x < y <;> simp [h1, h2]

/-- **Strings are indexed by code point**: for every byte string `s` and integer `i`,
    `s[i]` is the UTF-8 encoding of the `i`-th rune of `[]rune(s)` (negative `i` from the end)
    exactly for `-n ≤ i < n` where `n` is the number of runes, and an error otherwise. -/
theorem string_index_by_rune (s : Str) (i : Int) :
    Impl.strGet s i = Spec.strGet s i ∧
    (Impl.strGet s i = none ↔ ¬ (-((runes s).length : Int) ≤ i ∧ i < (runes s).length)) := by
  refine ⟨strGet_refines s i, ?_⟩
  unfold Impl.strGet
  dsimp only
  rw [resolveIndex_eq]
  by_cases hc : -((runes s).length : Int) ≤ i ∧ i < (runes s).length
  · simp only [if_pos hc, List.getElem?_eq_getElem (inRange_toNat_lt hc)]
    exact iff_of_false (fun e => nomatch e) (fun e => e hc)
  · rw [if_neg hc]
    exact iff_of_true rfl hc

/-! ## 3. Maps and sets refine finite maps / membership predicates, for operation sequences -/

/-- abstraction of the association list the code's hash map is modelled by -/
def absMap (kvs : List (Str × Val)) : Spec.FMap := fun k => lookupKV k kvs

inductive MOp where
  | set (k : Str) (v : Val)
  | del (k : Str)
  | update (other : List (Str × Val))
  | setdefault (k : Str) (v : Val)
  | clear

def implM (kvs : List (Str × Val)) : MOp → List (Str × Val)
  | .set k v => Impl.mset kvs k v
  | .del k => Impl.mdel kvs k
  | .update o => Impl.mupdate kvs o
  | .setdefault k v => (Impl.msetdefault kvs k v).1
  | .clear => []

def specM (f : Spec.FMap) : MOp → Spec.FMap
  | .set k v => Spec.mset f k v
  | .del k => Spec.mdel f k
  | .update o => Spec.mupdate f (absMap o)
  | .setdefault k v => fun k' => if k' = k then (match f k with | some w => some w | none => some v) else f k'
  | .clear => fun _ => none

/-- the `update` arguments are maps (unique keys) -/
def MOp.wf : MOp → Prop
  | .update o => (keys o).Nodup
  | _ => True

/-- one map operation: lookups after the code's operation = the finite-map operation, for
    every map content, key and value -/
theorem map_refines_op (kvs : List (Str × Val)) (op : MOp) (hw : op.wf) :
    absMap (implM kvs op) = specM (absMap kvs) op := by
  funext k'
  cases op with
  | set k v => simp [absMap, implM, specM, Spec.mset, lookup_mset]
  | del k => simp [absMap, implM, specM, Spec.mdel, lookup_mdel]
  | update o => simp only [absMap, implM, specM, Spec.mupdate]; exact lookup_mupdate kvs o hw k'
  | setdefault k v =>
    simp only [absMap, implM, specM, Impl.msetdefault]
    cases h : lookupKV k kvs with
    | some w => by_cases hk : k' = k <;> simp [hk, h]
    | none => by_cases hk : k' = k <;> simp [hk, h, lookup_mset]
  | clear => simp [absMap, implM, specM, lookupKV]

/-- **Maps, any operation sequence**: after ANY sequence of set / delete (also `pop`) /
    update / setdefault / clear operations of ANY length, looking a key up in the code's
    map gives what the same operations give on a mathematical finite map. -/
theorem map_refines_seq (ops : List MOp) (kvs : List (Str × Val)) (hw : ∀ op ∈ ops, op.wf) :
    absMap (ops.foldl implM kvs) = ops.foldl specM (absMap kvs) := by
  induction ops generalizing kvs with
  | nil => rfl
  | cons op ops ih =>
    simp only [List.foldl_cons]
    rw [ih _ (fun o ho => hw o (by simp [ho])), map_refines_op kvs op (hw op (by simp))]

/-- the keys of a map stay unique under set and delete (so `len` counts keys) -/
theorem map_keys_unique (kvs : List (Str × Val)) (h : (keys kvs).Nodup) (k : Str) (v : Val) :
    (keys (Impl.mset kvs k v)).Nodup ∧ (keys (Impl.mdel kvs k)).Nodup :=
  ⟨nodup_mset kvs k v h, nodup_mdel kvs k h⟩

def absSet (xs : List Val) : Spec.FSet := fun x => Impl.smem xs x

inductive SOp where
  | add (v : Val)
  | remove (v : Val)
  | union (other : List Val)
  | inter (other : List Val)
  | clear

def implS (xs : List Val) : SOp → List Val
  | .add v => Impl.sadd xs v
  | .remove v => Impl.sremove xs v
  | .union o => Impl.sunion xs o
  | .inter o => Impl.sinter xs o
  | .clear => []

def specS (f : Spec.FSet) : SOp → Spec.FSet
  | .add v => fun x => keyEq v x || f x
  | .remove v => fun x => !keyEq v x && f x
  | .union o => fun x => f x || absSet o x
  | .inter o => fun x => f x && absSet o x
  | .clear => fun _ => false

/-- **Sets, any operation sequence**: after ANY sequence of add / remove / union /
    intersection / clear of ANY length, membership in the code's set is what the same
    operations give on a mathematical set of hash keys. -/
theorem set_refines_seq (ops : List SOp) (xs : List Val) :
    absSet (ops.foldl implS xs) = ops.foldl specS (absSet xs) := by
  induction ops generalizing xs with
  | nil => rfl
  | cons op ops ih =>
    simp only [List.foldl_cons]
    rw [ih]
    congr 1
    funext x
    cases op with
    | add v => simp [absSet, implS, specS, smem_sadd]
    | remove v => simp [absSet, implS, specS, smem_sremove]
    | union o => simp [absSet, implS, specS, smem_sunion]
    | inter o => simp [absSet, implS, specS, smem_sinter]
    | clear => simp [absSet, implS, specS, Impl.smem]

/-! ## 4. The heap machine: whole scenarios with object identity and aliasing -/

def noDefectOps (ops : List Op) : Bool := ops.all (fun o => !defectOp o)

/-- **Per-operation refinement on the heap**: for every heap and every operation other than
    the one excluded kind (byte_slice slicing), performing it as the code does gives the same
    heap and the same result (value or error class) as performing it on the reference
    containers. `list.map` is covered for every callback shape, the ones that return or store
    their index object included. -/
theorem refines_step (h : Heap) (op : Op) (hd : defectOp op = false) :
    step .impl h op = step .spec h op := by
  cases op
  case bSlice => cases hd
  all_goals
    dsimp only [step]
    try simp only [getItem_refines, setItem_refines, pop_refines, delItem_refines, insert_refines,
      remove_refines, count_refines, slice_refines, reverse_refines, strGet_refines,
      mapIdx_refines, indexOf_refines, nextOf_refines, drain_refines, forLoop_refines]

/-- The full statement of the refinement half of the property: EVERY operation sequence
    gives the reference results. -/
def C16_full_refines : Prop :=
  ∀ (h : Heap) (ops : List Op), run .impl h ops = run .spec h ops

/-- **Lifted to sequences (the strongest true part)**: for every heap and every operation
    sequence of any length that contains no byte_slice slicing (`list.map` with callbacks that
    keep their index is INCLUDED since its repair), running it as the code does gives the same final heap and the same
    list of results as the reference containers. -/
theorem C16_partial_refines_seq (h : Heap) (ops : List Op) (hg : noDefectOps ops = true) :
    run .impl h ops = run .spec h ops := by
  induction ops generalizing h with
  | nil => rfl
  | cons op ops ih =>
    simp only [noDefectOps, List.all_cons, Bool.and_eq_true, Bool.not_eq_true'] at hg
    simp only [run]
    rw [refines_step h op hg.1]
    rw [ih _ (by simpa [noDefectOps] using hg.2)]

/-- `["a","b","c"]` -/
def cexList : Heap := { objs := [.list [.str [97], .str [98], .str [99]]], arrs := [] }

/-- **`list.map` gives every callback its own index** (all heaps, all lists, all callback
    shapes; formerly the first counterexample to the full statement): a two-parameter
    callback that returns its index, and one that appends its index to another list (or to
    the mapped list itself), produce exactly what the reference map produces. -/
theorem C16_map_index_refines (h : Heap) (r acc : Nat) (cb : Impl.Cb) :
    step .impl h (.lMap r cb) = step .spec h (.lMap r cb) ∧
    step .impl h (.lMapAcc r acc) = step .spec h (.lMapAcc r acc) :=
  ⟨refines_step h _ rfl, refines_step h _ rfl⟩

/-- the result of `xs.map(func(i, x) { return i })` is `[0, 1, …, n-1]` for EVERY list -/
theorem map_index_positions (xs : List Val) :
    Impl.mapIdx .idx xs = (List.range xs.length).map (fun (i : Nat) => Val.int (i : Int)) := by
  rw [mapIdx_refines]
  have key : ∀ (ys : List Val) (i : Nat),
      Spec.mapIdxFrom .idx i ys = (List.range' i ys.length).map (fun (k : Nat) => Val.int (k : Int)) := by
    intro ys
    induction ys with
    | nil => intro i; simp [Spec.mapIdxFrom]
    | cons y ys ih => intro i; simp [Spec.mapIdxFrom, ih, List.range'_succ]
  rw [Spec.mapIdx, key, List.range_eq_range']

/-- the design-time probe, on the machine as it is now:
    `["a","b","c"].map(func(i, x) { return i })` yields `[0, 1, 2]` in both readings -/
theorem C16_map_index_values :
    (step .impl cexList (.lMap 0 .idx)).1.objs[1]? = some (.list [.int 0, .int 1, .int 2]) ∧
    (step .spec cexList (.lMap 0 .idx)).1.objs[1]? = some (.list [.int 0, .int 1, .int 2]) := by decide +kernel

/-- **HISTORICAL — the defect repaired by `fix: give every list.map callback its own index
    object`**: the code before the repair (`Impl.preFixMapIdx`: one reused index object)
    turned `["a","b","c"].map(func(i, x) { return i })` into `[2, 2, 2]`, the reference and
    the repaired code give `[0, 1, 2]`. -/
theorem C16_fixed_map_index_was_shared :
    Impl.preFixMapIdx .idx [.str [97], .str [98], .str [99]] = [.int 2, .int 2, .int 2] ∧
    Spec.mapIdx .idx [.str [97], .str [98], .str [99]] = [.int 0, .int 1, .int 2] ∧
    Impl.mapIdx .idx [.str [97], .str [98], .str [99]] = [.int 0, .int 1, .int 2] := by decide +kernel

/-- HISTORICAL — the repaired defect in general: for EVERY list of length ≥ 2 the result of
    the code before the repair differed from the reference result (it was `n` copies of
    `n-1`), while the repaired loop agrees with the reference; callbacks that did not let
    the index escape were right before the repair too. -/
theorem C16_fixed_map_index_defect_general (xs : List Val) (h : 2 ≤ xs.length) :
    Impl.preFixMapIdx .idx xs = List.replicate xs.length (.int ((xs.length : Int) - 1)) ∧
    Impl.preFixMapIdx .idx xs ≠ Spec.mapIdx .idx xs ∧
    Impl.mapIdx .idx xs = Spec.mapIdx .idx xs ∧
    (∀ cb, cb ≠ Impl.Cb.idx → Impl.preFixMapIdx cb xs = Spec.mapIdx cb xs) := by
  refine ⟨preFixMapIdx_idx xs, ?_, mapIdx_refines _ xs, fun cb hcb => preFixMapIdx_refines cb hcb xs⟩
  rw [preFixMapIdx_idx]
  cases xs with
  | nil => simp at h
  | cons x xs =>
    simp only [List.length_cons, List.replicate_succ, Spec.mapIdx, Spec.mapIdxFrom]
    intro e
    simp only [List.cons.injEq, Val.int.injEq] at e
    simp only [List.length_cons] at h
    omega

/-- `byte_slice([1,2,3,4])` -/
def cexBytes : Heap := { objs := [.bytes 0 0 4], arrs := [[1, 2, 3, 4]] }

/-- **The unchanged code violates the full statement**: `c := b[1:3]; c[0] = "z"`
    changes `b` as well: the slice is a view on the same bytes, not an independent copy. -/
theorem C16_counterexample_bytes_slice : ¬ C16_full_refines := by
  intro h
  have := h cexBytes [.bSlice 0 (some (.int 1)) (some (.int 3)), .bSet 1 (.int 0) (.str [122])]
  revert this
  decide +kernel

theorem C16_counterexample_bytes_slice_values :
    let ops := [Op.bSlice 0 (some (.int 1)) (some (.int 3)), .bSet 1 (.int 0) (.str [122])]
    bytesContent (run .impl cexBytes ops).1 0 0 4 = [1, 122, 3, 4] ∧
    bytesContent (run .spec cexBytes ops).1 0 0 4 = [1, 2, 3, 4] := by decide +kernel

/-- the guard excludes the byte_slice counterexample and nothing of `list.map` -/
theorem C16_counterexample_guards :
    noDefectOps [.lMap 0 .idx, .lMapAcc 0 1] = true ∧
    noDefectOps [.bSlice 0 (some (.int 1)) (some (.int 3)), .bSet 1 (.int 0) (.str [122])] = false := by decide +kernel

/-! ## 5. Read-only operations never mutate; copies and slices are independent -/

/-- **Read-only operations leave the whole heap unchanged** (every object, not only the
    operand), whether they succeed or raise an error, in both readings of the machine. -/
theorem readonly_preserves (m : Mode) (h : Heap) (op : Op) (hr : readOnly op = true) :
    (step m h op).1 = h := by
  cases op
  case bi b => cases b <;> first | exact Bool.noConfusion hr | (dsimp only [step, stepB]; split <;> rfl)
  all_goals first
    | exact Bool.noConfusion hr
    | (dsimp only [step]
       repeat' split
       all_goals rfl)

/-- any sequence of read-only operations of any length leaves the heap unchanged -/
theorem readonly_seq (m : Mode) (h : Heap) (ops : List Op) (hr : ∀ op ∈ ops, readOnly op = true) :
    (run m h ops).1 = h := by
  induction ops generalizing h with
  | nil => rfl
  | cons op ops ih =>
    simp only [run]
    have h1 := readonly_preserves m h op (hr op (by simp))
    rw [ih _ (fun o ho => hr o (by simp [ho]))]
    exact h1

/-- object `r` is untouched and no object disappears -/
def Keeps (r : Nat) (h h' : Heap) : Prop := h'.objs[r]? = h.objs[r]? ∧ h.objs.length ≤ h'.objs.length

theorem Keeps.of_objs_eq {r : Nat} {h h' : Heap} (e : h'.objs = h.objs) : Keeps r h h' := by
  unfold Keeps
  rw [e]
  exact ⟨rfl, Nat.le_refl _⟩

theorem Keeps.trans {r : Nat} {h h1 h2 : Heap} (k1 : Keeps r h h1) (k2 : Keeps r h1 h2) : Keeps r h h2 :=
  ⟨k2.1.trans k1.1, Nat.le_trans k1.2 k2.2⟩

/-- writing the target, when that is another object -/
theorem Keeps.put {r r' : Nat} {h : Heap} {o : Obj} (hne : some r' ≠ some r) : Keeps r h (h.put r' o) := by
  have : r' ≠ r := fun e => hne (congrArg some e)
  simp [Keeps, Heap.put, List.getElem?_set, this]

theorem Keeps.append {r : Nat} {h h1 h' : Heap} {os : List Obj} (k : Keeps r h h1) (hr : r < h.objs.length)
    (e : h'.objs = h1.objs ++ os) : Keeps r h h' := by
  refine k.trans ?_
  unfold Keeps
  rw [e, List.getElem?_append_left (Nat.lt_of_lt_of_le hr k.2), List.length_append]
  exact ⟨rfl, Nat.le_add_right _ _⟩

/-- the outcomes a builtin of the class (`BOp`) can have -/
inductive BOutcome (h : Heap) (b : BOp) : Heap × Res → Prop
  /-- it raises, and the heap is the one it started from -/
  | raised (c : ErrC) : BOutcome h b (h, .err c)
  /-- plain `each`: nothing changes, nothing is returned -/
  | nothing : BOutcome h b (h, .val .nil)
  /-- accumulating `each`: its target is written -/
  | wrote {acc : Nat} (o : Obj) : target (.bi b) = some acc → BOutcome h b (h.put acc o, .val .nil)
  /-- a container is returned: objects (and at most byte arrays) are appended, and the handle
      is one of the appended objects -/
  | fresh {h' : Heap} {os : List Obj} {as : List (List Nat)} {q : Nat} :
      h'.objs = h.objs ++ os → h'.arrs = h.arrs ++ as → h.objs.length ≤ q → q < h'.objs.length →
      BOutcome h b (h', .val (.ref q))

/-- `allocs`: the handle returned is the last of the appended objects -/
theorem BOutcome.allocs {h : Heap} {b : BOp} {os : List Obj} (o : Obj) {k : Nat} (hk : k = os.length) :
    BOutcome h b (allocs h (os ++ [o]), .val (.ref (h.objs.length + k))) :=
  .fresh (os := os ++ [o]) rfl (List.append_nil _).symm (Nat.le_add_right _ _)
    (by simp only [C16.allocs, List.length_append, List.length_cons, List.length_nil]; omega)

theorem BOutcome.newList {h : Heap} {b : BOp} {ys : List Val} : BOutcome h b (newList h ys) :=
  .allocs (os := []) _ rfl

theorem stepB_outcome (h : Heap) (b : BOp) : BOutcome h b (stepB h b) := by
  cases b
  all_goals
    dsimp only [stepB]
    repeat' split
  all_goals first
    | exact .raised _
    | exact .newList
    | exact .nothing
    | exact .wrote _ rfl
    | exact .allocs (os := []) _ rfl
    | exact .allocs _ (List.length_map _).symm
    -- `reversed` of a byte slice: one object and one byte array
    | exact .fresh (os := [_]) (as := [_]) rfl rfl (Nat.le_refl _) (by simp)

/-- frame for the builtins of the "operand untouched" class (`BOp`): none but
    `l.each(func(x) { acc.append(x) })` has a target at all -/
theorem keeps_stepB (h : Heap) (b : BOp) (r : Nat) (hr : r < h.objs.length)
    (ht : target (.bi b) ≠ some r) : Keeps r h (stepB h b).1 := by
  have o := stepB_outcome h b
  generalize stepB h b = x at o ⊢
  cases o with
  | raised | nothing => exact .of_objs_eq rfl
  | wrote _ ha => exact .put (ha ▸ ht)
  | fresh ho => exact .append (.of_objs_eq rfl) hr ho

/-- frame for `for` loops: a loop whose body leaves the list alone changes nothing at all, a
    loop whose body changes the list changes that list only; the record is a new object -/
theorem keeps_lFor (m : Mode) (h : Heap) (r' : Nat) (w : Bool) (b : Body) (r : Nat) (hr : r < h.objs.length)
    (ht : target (.lFor r' w b) ≠ some r) : Keeps r h (step m h (.lFor r' w b)).1 := by
  dsimp only [step]
  split
  · rename_i xs hg
    refine Keeps.append ?_ hr rfl
    by_cases hb : b = .none
    · subst hb
      rw [forLoop_none m r' w xs _ h 0 [] hg (by simp [Body.bound])]
      exact .of_objs_eq rfl
    · have hne : r ≠ r' := by
        intro e; subst e
        cases b <;> simp_all [target]
      have hk := forLoop_keeps m r' w b (max xs.length b.bound + 1) h 0 []
      exact ⟨hk.2.2 r hne, Nat.le_of_eq hk.1.symm⟩
  · exact .of_objs_eq rfl

/-- **Frame**: an operation changes no container object other than its target; operations
    that build a new container (slice, copy, sorted, reversed, keys, values, union, …) have
    no target and change no existing object. Every outcome of `step` is the heap itself, the
    heap with the target written, or one of these with new objects appended. -/
theorem keeps_step (m : Mode) (h : Heap) (op : Op) (r : Nat) (hr : r < h.objs.length)
    (ht : target op ≠ some r) : Keeps r h (step m h op).1 := by
  cases op
  case bi b => exact keeps_stepB h b r hr ht
  case lFor r' w b => exact keeps_lFor m h r' w b r hr ht
  all_goals
    dsimp only [step]
    repeat' split
  all_goals first
    | exact .of_objs_eq rfl
    | exact .put ht
    | exact .append (.of_objs_eq rfl) hr rfl
    | exact .append (.put ht) hr rfl

/-- **Independence for operation sequences**: for every heap, every object `r` in it and
    every operation sequence of any length none of whose operations targets `r`, object `r`
    (its item list / key-value pairs / members) is the same afterwards. Nested containers are
    references, as in the language: what is preserved is the object itself, its elements'
    identities included. For byte slices the preserved part is the slice header; see
    `C16_counterexample_bytes_slice` for their contents. -/
theorem keeps_seq (m : Mode) (h : Heap) (ops : List Op) (r : Nat) (hr : r < h.objs.length)
    (ht : ∀ op ∈ ops, target op ≠ some r) : Keeps r h (run m h ops).1 := by
  induction ops generalizing h with
  | nil => exact .of_objs_eq rfl
  | cons op ops ih =>
    have h1 := keeps_step m h op r hr (ht op (by simp))
    exact h1.trans (ih _ (Nat.lt_of_lt_of_le hr h1.2) (fun o ho => ht o (by simp [ho])))

/-- shared core of the copy theorems: an operation that only appends the new object `o` -/
theorem alloc_independent (m : Mode) (h : Heap) (r : Nat) (o o' : Obj) (hr : r < h.objs.length)
    (hx : h.objs[r]? = some o) :
    let h1 : Heap := { h with objs := h.objs ++ [o'] }
    let r' := h.objs.length
    h1.objs[r']? = some o' ∧ h1.objs[r]? = some o ∧
    (∀ ops, (∀ op ∈ ops, target op ≠ some r') → (run m h1 ops).1.objs[r']? = some o') ∧
    (∀ ops, (∀ op ∈ ops, target op ≠ some r) → (run m h1 ops).1.objs[r]? = some o) := by
  have e1 : (h.objs ++ [o'])[h.objs.length]? = some o' := by simp
  have e2 : (h.objs ++ [o'])[r]? = some o := by
    rw [List.getElem?_append_left hr]; exact hx
  refine ⟨e1, e2, ?_, ?_⟩
  · intro ops hops
    have := keeps_seq m { h with objs := h.objs ++ [o'] } ops h.objs.length (by simp) hops
    rw [this.1]; exact e1
  · intro ops hops
    have := keeps_seq m { h with objs := h.objs ++ [o'] } ops r (by simp; omega) hops
    rw [this.1]; exact e2

/-- **Slice then mutate**: if `a[x:y]` succeeds on list `r`, the result is a NEW object
    holding exactly the reference sub-list; the original is unchanged by slicing; afterwards
    any operation sequence that does not target the slice leaves the slice as it is — in
    particular every mutation of the original — and any sequence that does not target the
    original (every mutation of the slice) leaves the original as it is. -/
theorem slice_independent (m : Mode) (h : Heap) (r : Nat) (xs ys : List Val) (a b : Option Val)
    (hr : r < h.objs.length) (hx : h.objs[r]? = some (.list xs)) (hs : Spec.slice xs a b = .ok ys) :
    let h1 := (step m h (.lSlice r a b)).1
    let r' := h.objs.length
    h1.objs[r']? = some (.list ys) ∧ h1.objs[r]? = some (.list xs) ∧
    (∀ ops, (∀ op ∈ ops, target op ≠ some r') → (run m h1 ops).1.objs[r']? = some (.list ys)) ∧
    (∀ ops, (∀ op ∈ ops, target op ≠ some r) → (run m h1 ops).1.objs[r]? = some (.list xs)) := by
  have hstep : (step m h (.lSlice r a b)).1 = { h with objs := h.objs ++ [.list ys] } := by
    dsimp only [step]
    cases m <;> simp [Heap.get_of_getElem? hx, slice_refines, hs, newList, Heap.alloc]
  simp only [hstep]
  exact alloc_independent m h r (.list xs) (.list ys) hr hx

/-- **Copy then mutate (lists)**: `a.copy()` returns a NEW object with the same items;
    afterwards operation sequences that do not target the copy leave the copy unchanged
    (every mutation of the original included), and sequences that do not target the original
    (every mutation of the copy) leave the original unchanged. -/
theorem copy_independent_list (m : Mode) (h : Heap) (r : Nat) (xs : List Val) (hr : r < h.objs.length)
    (hx : h.objs[r]? = some (.list xs)) :
    let h1 := (step m h (.lCopy r)).1
    let r' := h.objs.length
    h1.objs[r']? = some (.list xs) ∧ h1.objs[r]? = some (.list xs) ∧
    (∀ ops, (∀ op ∈ ops, target op ≠ some r') → (run m h1 ops).1.objs[r']? = some (.list xs)) ∧
    (∀ ops, (∀ op ∈ ops, target op ≠ some r) → (run m h1 ops).1.objs[r]? = some (.list xs)) := by
  have hstep : (step m h (.lCopy r)).1 = { h with objs := h.objs ++ [.list xs] } := by
    dsimp only [step]
    simp [Heap.get_of_getElem? hx, newList, Heap.alloc]
  simp only [hstep]
  exact alloc_independent m h r (.list xs) (.list xs) hr hx

/-- **Copy then mutate (maps)**: the same for `m.copy()`. -/
theorem copy_independent_map (m : Mode) (h : Heap) (r : Nat) (kvs : List (Str × Val)) (hr : r < h.objs.length)
    (hx : h.objs[r]? = some (.map kvs)) :
    let h1 := (step m h (.mCopy r)).1
    let r' := h.objs.length
    h1.objs[r']? = some (.map kvs) ∧ h1.objs[r]? = some (.map kvs) ∧
    (∀ ops, (∀ op ∈ ops, target op ≠ some r') → (run m h1 ops).1.objs[r']? = some (.map kvs)) ∧
    (∀ ops, (∀ op ∈ ops, target op ≠ some r) → (run m h1 ops).1.objs[r]? = some (.map kvs)) := by
  have hstep : (step m h (.mCopy r)).1 = { h with objs := h.objs ++ [.map kvs] } := by
    dsimp only [step]
    simp [Heap.get_of_getElem? hx, Heap.alloc]
  simp only [hstep]
  exact alloc_independent m h r (.map kvs) (.map kvs) hr hx

/-! ## 6. Builtins that take a container must leave it untouched and return an independent one

`sorted(x)` / `sorted(x, f)`, `reversed`, `list()`, `set()`, `keys()`, `m.items()`,
`l.filter`, `l.each`, `chunk` (`BOp`, `stepB` in Model.lean), for EVERY heap, EVERY operand
kind, EVERY comparison function — given as an abstract relation or as a call-numbered oracle,
including oracles that raise at some call — and EVERY later operation sequence. -/

/-- `h'` is `h` plus appended objects / byte arrays: nothing that existed has changed -/
def Extends (h h' : Heap) : Prop := h.objs <+: h'.objs ∧ h.arrs <+: h'.arrs

theorem Extends.of_append {h h' : Heap} {os : List Obj} {as : List (List Nat)}
    (eo : h'.objs = h.objs ++ os) (ea : h'.arrs = h.arrs ++ as) : Extends h h' :=
  ⟨⟨os, eo.symm⟩, ⟨as, ea.symm⟩⟩

theorem Extends.obj {h h' : Heap} (e : Extends h h') (r : Nat) (hr : r < h.objs.length) :
    h'.objs[r]? = h.objs[r]? := by
  obtain ⟨t, ht⟩ := e.1
  rw [← ht, List.getElem?_append_left hr]

theorem Extends.arr {h h' : Heap} (e : Extends h h') (a : Nat) (ha : a < h.arrs.length) :
    h'.arrs[a]? = h.arrs[a]? := by
  obtain ⟨t, ht⟩ := e.2
  rw [← ht, List.getElem?_append_left ha]

/-- **Every builtin of the class only reads**: for every heap and every such builtin other
    than the accumulating `each`, on every operand kind, whether it succeeds or raises (a
    comparison function that raises at any call included), the heap afterwards is the heap
    before plus, at most, newly appended objects: every container object and every byte
    array that existed is exactly as it was. -/
theorem builtin_readonly (h : Heap) (b : BOp) (ht : target (.bi b) = none) : Extends h (stepB h b).1 := by
  have o := stepB_outcome h b
  generalize stepB h b = x at o ⊢
  cases o with
  | raised | nothing => exact .of_append (List.append_nil _).symm (List.append_nil _).symm
  | wrote _ ha => rw [ht] at ha; cases ha
  | fresh ho ha => exact .of_append ho ha

/-- **A builtin that raises has changed nothing** — not even partially: for every builtin of
    the class (all of them), an error result comes with exactly the heap it started from. -/
theorem builtin_error_leaves_heap (h : Heap) (b : BOp) (c : ErrC) (he : (stepB h b).2 = .err c) :
    (stepB h b).1 = h := by
  have o := stepB_outcome h b
  generalize stepB h b = x at o he ⊢
  cases o with
  | raised | nothing => rfl
  | wrote | fresh => cases he

/-- **The container a builtin returns is a NEW object**: its handle did not exist before
    the call and exists afterwards. -/
theorem builtin_result_fresh (h : Heap) (b : BOp) (q : Nat) (hq : (stepB h b).2 = .val (.ref q)) :
    h.objs.length ≤ q ∧ q < (stepB h b).1.objs.length := by
  have o := stepB_outcome h b
  generalize stepB h b = x at o hq ⊢
  cases o with
  | raised | nothing | wrote => cases hq
  | fresh _ _ h1 h2 => cases hq; exact ⟨h1, h2⟩

/-- **Read-only in operation sequences of any length**: any sequence made only of
    operations without a target — reads, slices, copies, `+`, `sorted` (1 and 2 arguments),
    `reversed`, `list()`, `set()`, `keys`, `values`, `items`, `filter`, `each`, `chunk`,
    `map`, union, intersection — leaves every object that existed at the start as it was. -/
theorem readonly_builtins_seq (m : Mode) (h : Heap) (ops : List Op) (hn : ∀ op ∈ ops, target op = none)
    (r : Nat) (hr : r < h.objs.length) : (run m h ops).1.objs[r]? = h.objs[r]? :=
  (keeps_seq m h ops r hr (fun op ho => by rw [hn op ho]; exact fun e => by cases e)).1

/-- **Independence of operand and result, for every builtin of the class and every later
    operation sequence**: if builtin `b` (without a target) returns container `q`, then the
    operand — and every other object `r` that existed — is unchanged by the call, `q` is new,
    and afterwards: every operation sequence of any length that does not target `q` (every
    mutation of the operand included) leaves `q` as it was returned, and every sequence that
    does not target `r` (every mutation of the result included) leaves `r` as it was. -/
theorem builtin_independent (m : Mode) (h : Heap) (b : BOp) (r q : Nat) (hr : r < h.objs.length)
    (ht : target (.bi b) = none) (hq : (step m h (.bi b)).2 = .val (.ref q)) :
    let h1 := (step m h (.bi b)).1
    h.objs.length ≤ q ∧ q < h1.objs.length ∧ h1.objs[r]? = h.objs[r]? ∧
    (∀ ops, (∀ op ∈ ops, target op ≠ some q) → (run m h1 ops).1.objs[q]? = h1.objs[q]?) ∧
    (∀ ops, (∀ op ∈ ops, target op ≠ some r) → (run m h1 ops).1.objs[r]? = h.objs[r]?) := by
  dsimp only [step] at hq ⊢
  have hf := builtin_result_fresh h b q hq
  have he := builtin_readonly h b ht
  have hlen : h.objs.length ≤ (stepB h b).1.objs.length := by omega
  refine ⟨hf.1, hf.2, he.obj r hr, ?_, ?_⟩
  · intro ops hops
    exact (keeps_seq m (stepB h b).1 ops q hf.2 hops).1
  · intro ops hops
    rw [(keeps_seq m (stepB h b).1 ops r (by omega) hops).1]
    exact he.obj r hr

/-- **`sorted(x, f)` never loses, duplicates or invents an element**, whatever the
    comparison function answers and wherever it raises: the arrangement is a permutation. -/
theorem sorted_by_keeps_elements (f : CmpOracle) (xs : List Val) : (Impl.sortBy f xs).1.Perm xs :=
  sortBy_perm f xs

/-- **`sorted(x, f)` sorts**: when the comparison function is an abstract relation `lt`
    (every call answers `lt a b`) that behaves as a strict total preorder on the items, no
    error is reported and in the result no later item is less than an earlier one; the
    result is what the one-argument sort gives for the comparator of `lt`. -/
theorem sorted_by_sorted (lt : Val → Val → Bool) (g : GoodCmp (relCmp lt)) (f : CmpOracle)
    (hf : ∀ n a b, f n a b = some (lt a b)) (xs : List Val) :
    Impl.sortBy f xs = ((Impl.sort (relCmp lt) xs).1, false) ∧
    (Impl.sortBy f xs).1.Pairwise (fun a b => lt b a = false) := by
  have h1 := sortBy_of_rel lt f hf xs
  refine ⟨h1, ?_⟩
  rw [h1]
  refine List.Pairwise.imp ?_ (sort_sorted (relCmp lt) g xs).2
  intro a b hab
  simp only [relCmp] at hab
  split at hab
  · cases hab
  · rename_i hn; simpa using hn

/-- a comparison function that never raises gives no error -/
theorem sorted_by_no_raise (f : CmpOracle) (hf : ∀ n a b, (f n a b).isSome = true) (xs : List Val) :
    (Impl.sortBy f xs).2 = false := by
  unfold Impl.sortBy; exact sortByLoop_no_raise f hf [] xs 0

/-- **`sorted(x, f)` is read-only on its operand**: for every heap, operand `r` of any kind,
    comparison function `f` and raising call number `k`, in both readings of the machine,
    every object (the operand included) and every byte array that existed before the call is
    exactly as it was afterwards — whether the call returns a list or raises. -/
theorem sorted_by_readonly (m : Mode) (h : Heap) (r : Nat) (f : CmpFn) (k : Option Nat) :
    Extends h (step m h (.bi (.sortedBy r f k))).1 :=
  builtin_readonly h (.sortedBy r f k) rfl

/-- **… in sequences of any length**: any number of `sorted(x, f)` calls in a row — any
    operands, comparison functions and raising call numbers, successful or not — leaves every
    object that existed at the start exactly as it was. (`readonly_builtins_seq` is the same
    for arbitrary mixes with the other target-less operations.) -/
theorem sorted_by_readonly_seq (m : Mode) (h : Heap) (calls : List (Nat × CmpFn × Option Nat))
    (r : Nat) (hr : r < h.objs.length) :
    (run m h (calls.map (fun c => Op.bi (.sortedBy c.1 c.2.1 c.2.2)))).1.objs[r]? = h.objs[r]? := by
  refine readonly_builtins_seq m h _ ?_ r hr
  intro op ho
  simp only [List.mem_map] at ho
  obtain ⟨c, _, rfl⟩ := ho
  rfl

/-- **`sorted(x, f)` when a comparison raises at some step**: the call returns a type error
    and the heap — the operand in particular — is exactly what it was before the call: no
    half-sorted operand. (`Impl.sortBy … .1` is the half-sorted arrangement of the private
    copy at that point; it is dropped.) -/
theorem sorted_by_error_leaves_operand (m : Mode) (h : Heap) (r : Nat) (f : CmpFn) (k : Option Nat)
    (he : (Impl.sortBy (oracleOf h f k) (sortItems h r)).2 = true) :
    step m h (.bi (.sortedBy r f k)) = (h, .err .type) := by
  dsimp only [step, stepB]
  split
  · rfl
  · rename_i heq; rw [heq] at he; cases he

/-- … and, conversely, an error of `sorted(x, f)` only ever comes from a raising comparison -/
theorem sorted_by_error_iff (m : Mode) (h : Heap) (r : Nat) (f : CmpFn) (k : Option Nat) :
    (∃ c, (step m h (.bi (.sortedBy r f k))).2 = .err c) ↔
      (Impl.sortBy (oracleOf h f k) (sortItems h r)).2 = true := by
  dsimp only [step, stepB]
  split
  · rename_i heq; simp [heq]
  · rename_i heq; simp [heq, newList, Heap.alloc]

/-- **`sorted(x, f)` returns an independent list**: when no comparison raises, the result is
    a NEW list object holding a permutation `ys` of the operand's items (the arrangement the
    oracle-driven sort computes); the operand is unchanged by the call; afterwards every
    operation sequence of any length that does not target the result (every mutation of the
    operand included) leaves the result `ys`, and every sequence that does not target the
    operand (every mutation of the result included) leaves the operand as it was. -/
theorem sorted_by_independent (m : Mode) (h : Heap) (r : Nat) (f : CmpFn) (k : Option Nat) (ys : List Val)
    (o : Obj) (hr : r < h.objs.length) (hx : h.objs[r]? = some o)
    (hs : Impl.sortBy (oracleOf h f k) (sortItems h r) = (ys, false)) :
    let h1 := (step m h (.bi (.sortedBy r f k))).1
    let r' := h.objs.length
    (step m h (.bi (.sortedBy r f k))).2 = .val (.ref r') ∧ ys.Perm (sortItems h r) ∧
    h1.objs[r']? = some (.list ys) ∧ h1.objs[r]? = some o ∧
    (∀ ops, (∀ op ∈ ops, target op ≠ some r') → (run m h1 ops).1.objs[r']? = some (.list ys)) ∧
    (∀ ops, (∀ op ∈ ops, target op ≠ some r) → (run m h1 ops).1.objs[r]? = some o) := by
  have hstep : step m h (.bi (.sortedBy r f k)) =
      ({ h with objs := h.objs ++ [.list ys] }, .val (.ref h.objs.length)) := by
    dsimp only [step, stepB]
    rw [hs]
    rfl
  have hp : ys.Perm (sortItems h r) := by
    have := sortBy_perm (oracleOf h f k) (sortItems h r)
    rw [hs] at this; exact this
  simp only [hstep]
  exact ⟨trivial, hp, alloc_independent m h r o (.list ys) hr hx⟩

/-- **`reversed(l)`, `list(x)`, `l.filter(p)`, one-argument `sorted(x)`**: same statement for
    the other list-returning builtins, with the content each must have. -/
theorem list_builtin_independent (m : Mode) (h : Heap) (b : BOp) (r : Nat) (ys : List Val) (o : Obj)
    (hr : r < h.objs.length) (hx : h.objs[r]? = some o)
    (hb : stepB h b = (({ h with objs := h.objs ++ [.list ys] } : Heap), .val (.ref h.objs.length))) :
    let h1 := (step m h (.bi b)).1
    let r' := h.objs.length
    h1.objs[r']? = some (.list ys) ∧ h1.objs[r]? = some o ∧
    (∀ ops, (∀ op ∈ ops, target op ≠ some r') → (run m h1 ops).1.objs[r']? = some (.list ys)) ∧
    (∀ ops, (∀ op ∈ ops, target op ≠ some r) → (run m h1 ops).1.objs[r]? = some o) := by
  dsimp only [step]
  rw [hb]
  exact alloc_independent m h r o (.list ys) hr hx

/-- `reversed(l)` is such a builtin and its content is the reversed item list -/
theorem reversed_result (h : Heap) (r : Nat) (xs : List Val) (hg : h.get r = .list xs) :
    stepB h (.reversed r) = (({ h with objs := h.objs ++ [.list xs.reverse] } : Heap), .val (.ref h.objs.length)) := by
  dsimp only [stepB]
  rw [hg]
  rfl

/-- `list(l)` is such a builtin and its content is the item list -/
theorem toList_result (h : Heap) (r : Nat) (xs : List Val) (hg : h.get r = .list xs) :
    stepB h (.toList r) = (({ h with objs := h.objs ++ [.list xs] } : Heap), .val (.ref h.objs.length)) := by
  dsimp only [stepB, iterItems]
  rw [hg]
  rfl

/-- `l.filter(p)` is such a builtin and its content is the sub-list of the items `p` accepts -/
theorem filter_result (h : Heap) (r : Nat) (xs : List Val) (p : Pred) (v : Val) (hg : h.get r = .list xs) :
    stepB h (.filter r p v) =
      (({ h with objs := h.objs ++ [.list (xs.filter (predOf h p v))] } : Heap), .val (.ref h.objs.length)) := by
  dsimp only [stepB]
  rw [hg]
  rfl

/-- **`chunk(l, n)` for n ≥ 1** cuts the items into consecutive pieces without losing or
    reordering anything: the pieces concatenated are the list. -/
theorem chunks_join (n : Nat) (hn : 1 ≤ n) (f : Nat) (xs : List Val) (hf : xs.length ≤ f) :
    (Impl.chunksOf n f xs).flatten = xs := by
  induction f generalizing xs with
  | zero =>
    have : xs = [] := List.length_eq_zero_iff.1 (by omega)
    subst this; simp [Impl.chunksOf]
  | succ f ih =>
    cases xs with
    | nil => simp [Impl.chunksOf]
    | cons x xs =>
      simp only [Impl.chunksOf, List.flatten_cons]
      rw [ih _ (by simp only [List.length_drop, List.length_cons] at hf ⊢; omega)]
      exact List.take_append_drop n (x :: xs)

/-! ## 7. Searching a list uses the LANGUAGE's equality — across the numeric types too

`l.index(v)`, `l.count(v)`, `l.remove(v)`, `v in l` for EVERY list, EVERY needle and EVERY
equality relation (`eq` is a parameter; the machine instantiates it with `heq`, the model of
`object.Equals`, under which `2 == 2.0 == byte(2)`). -/

/-- **`l.index(v)` returns the FIRST position whose item equals `v`, and −1 (`none`) exactly
    when no item equals `v`**: for every equality relation, needle and list, the loop of
    `List.Index` answers `k` iff item `k` equals the needle and no earlier item does; it
    answers "absent" iff every item differs from the needle. No item is skipped for any
    other reason (its type, for instance). -/
theorem index_finds_first (eq : Val → Val → Bool) (v : Val) (xs : List Val) :
    (∀ k, Impl.indexOf eq v xs = some k ↔
      ∃ hk : k < xs.length, eq v xs[k] = true ∧
        ∀ j (hj : j < k), ¬ (eq v (xs[j]'(Nat.lt_trans hj hk)) = true)) ∧
    (Impl.indexOf eq v xs = none ↔ ∀ x, x ∈ xs → eq v x = false) := by
  rw [indexOf_refines]; unfold Spec.indexOf
  exact ⟨fun k => List.findIdx?_eq_some_iff_getElem, List.findIdx?_eq_none_iff⟩

/-- **`index`, `count`, `remove` and `in` agree with one another**: for every equality
    relation, list and needle — `index` finds something iff some item equals the needle iff
    `count` is positive; `remove` shortens the list by exactly one in that case and leaves its
    length alone otherwise; `v in l` holds iff some item equals `v`. -/
theorem search_consistent (eq : Val → Val → Bool) (xs : List Val) (v : Val) :
    ((Impl.indexOf eq v xs).isSome = true ↔ ∃ x, x ∈ xs ∧ eq v x = true) ∧
    (0 < Impl.count eq xs v ↔ ∃ x, x ∈ xs ∧ eq v x = true) ∧
    ((Impl.remove eq xs v).length = xs.length - (if (Impl.indexOf eq v xs).isSome then 1 else 0)) ∧
    (Impl.contains eq xs v = true ↔ ∃ x, x ∈ xs ∧ eq x v = true) := by
  refine ⟨?_, ?_, ?_, ?_⟩
  · rw [indexOf_refines]; unfold Spec.indexOf
    rw [List.findIdx?_isSome]; simp
  · rw [count_refines]; unfold Spec.count; simp
  · rw [remove_refines, indexOf_refines]; unfold Spec.remove Spec.indexOf
    rw [List.length_eraseP, List.findIdx?_isSome]
    split <;> simp
  · unfold Impl.contains; simp

/-- **Numbers are equal by value, whatever their type**: for every heap, fuel, integer `x`
    and byte `n`, the model of `object.Equals` makes `x == float(x)`, `n == int(n)`,
    `n == float(n)`, in both argument orders (a float is `flt t` with value `t/2`). -/
theorem numeric_equal_by_value (h : Heap) (f : Nat) (x : Int) (n : Nat) :
    valEq h f (.int x) (.flt (2 * x)) = true ∧ valEq h f (.flt (2 * x)) (.int x) = true ∧
    valEq h f (.int n) (.byte n) = true ∧ valEq h f (.byte n) (.int n) = true ∧
    valEq h f (.byte n) (.flt (2 * n)) = true ∧ valEq h f (.flt (2 * n)) (.byte n) = true := by
  simp [valEq]

/-- equality of two atoms (neither is a container) does not depend on the argument order -/
theorem atom_eq_symm (h : Heap) (f : Nat) (a b : Val) (ha : ∀ r, a ≠ .ref r) (hb : ∀ r, b ≠ .ref r) :
    valEq h f a b = valEq h f b a := by
  unfold valEq
  cases a <;> cases b <;> first
    | exact absurd rfl (ha _)
    | exact absurd rfl (hb _)
    | rfl
    | exact BEq.comm

/-- **On the machine: an item that equals the needle is found whatever its type**: for every
    heap, list `r`, needle `v` and item `w` of the list with `v == w` under the language's
    equality (e.g. `v = 2`, `w = 2.0`), in both readings of the machine `l.index(v)` answers a
    position inside the list (not −1), `l.count(v)` is at least one, and `l.remove(v)` makes the
    list exactly one item shorter. -/
theorem search_crosses_numeric_types (m : Mode) (h : Heap) (r : Nat) (xs : List Val) (v w : Val)
    (hr : r < h.objs.length) (hg : h.get r = .list xs) (hw : w ∈ xs) (he : heq h v w = true) :
    (∃ k : Nat, (step m h (.lIndex r v)).2 = .val (.int k) ∧ k < xs.length) ∧
    (∃ c : Nat, (step m h (.lCount r v)).2 = .val (.int c) ∧ 1 ≤ c) ∧
    (∃ ys, (step m h (.lRemove r v)).1.get r = .list ys ∧ ys.length + 1 = xs.length) := by
  have hex : ∃ x, x ∈ xs ∧ heq h v x = true := ⟨w, hw, he⟩
  have hc := search_consistent (heq h) xs v
  have hidx : (Impl.indexOf (heq h) v xs).isSome = true := hc.1.2 hex
  have hpos : 0 < xs.length := List.length_pos_of_mem hw
  refine ⟨?_, ?_, ?_⟩
  · cases hk : Impl.indexOf (heq h) v xs with
    | none => rw [hk] at hidx; cases hidx
    | some k =>
      have hlt : k < xs.length := by
        obtain ⟨hlt, _⟩ := ((index_finds_first (heq h) v xs).1 k).1 hk
        exact hlt
      refine ⟨k, ?_, hlt⟩
      dsimp only [step]
      cases m <;> simp [hg, ← indexOf_refines, hk]
  · refine ⟨Impl.count (heq h) xs v, ?_, hc.2.1.2 hex⟩
    dsimp only [step]
    cases m <;> simp [hg, count_refines]
  · refine ⟨Impl.remove (heq h) xs v, ?_, ?_⟩
    · dsimp only [step]
      cases m <;> simp [hg, remove_refines, get_put_same h r _ hr]
    · rw [hc.2.2.1, hidx]; simp; omega

/-- the case the property's generator reaches through arithmetic: the list holds `2.0`
    (`flt 4`), the needle is the int `2` -/
theorem index_int_finds_float (m : Mode) (h : Heap) (r : Nat) (xs : List Val) (x : Int)
    (hr : r < h.objs.length) (hg : h.get r = .list xs) (hw : Val.flt (2 * x) ∈ xs) :
    ∃ k : Nat, (step m h (.lIndex r (.int x))).2 = .val (.int k) ∧ k < xs.length :=
  (search_crosses_numeric_types m h r xs (.int x) (.flt (2 * x)) hr hg hw
    (numeric_equal_by_value h (fuelOf h) x 0).1).1

/-! ## 8. Iterating a list that changes meanwhile: the iterator is a cursor into the LIVE list

`iter(l)`, `it.next()`, `list(it)` and `for` loops whose body changes the list they run over.
The reference reading: an iterator that has yielded `k` items yields item number `k` of the
list AS IT IS AT THAT MOMENT, and is exhausted exactly when the list has no such item. -/

/-- **Go's cursor arithmetic is the reference cursor**: for every list content and every
    number `k` of items already yielded, `ListIter.Next` (`pos >= len-1` on the live items,
    then `items[pos+1]`) yields `items[k]` exactly when it exists; draining (`list(it)`) collects
    exactly `items.drop k` and parks the cursor at the end. -/
theorem iter_refines (xs : List Val) (k : Nat) :
    Impl.iterNext xs k = Spec.iterNext xs k ∧ Impl.drain xs k = Spec.drain xs k :=
  ⟨iterNext_refines xs k, drain_refines xs k⟩

/-- **`it.next()` reads the live list**: for every heap in which `it` is a cursor on list
    object `l` with `k` items yielded and `l` holds `xs` NOW (however both got there), the
    step yields `xs[k]` and moves only the cursor, or yields nil and changes nothing when the
    list has no item `k`. In both readings of the machine. -/
theorem iter_next_live (m : Mode) (h : Heap) (it l k : Nat) (xs : List Val)
    (hi : h.get it = .iter l k) (hl : h.get l = .list xs) :
    step m h (.iNext it) = (match xs[k]? with
      | some v => (h.put it (.iter l (k + 1)), .val v)
      | none => (h, .val .nil)) := by
  dsimp only [step]
  simp only [hi, hl, nextOf_eq]
  cases xs[k]? <;> rfl

/-- **`list(it)` reads the live list**: the new list holds exactly the items from the cursor
    on, as the list is now; the cursor ends at the end of the list. -/
theorem iter_rest_live (m : Mode) (h : Heap) (it l k : Nat) (xs : List Val)
    (hi : h.get it = .iter l k) (hl : h.get l = .list xs) :
    step m h (.iRest it) = newList (h.put it (.iter l (max k xs.length))) (xs.drop k) := by
  dsimp only [step]
  cases m <;> simp [hi, hl, drain_refines, Spec.drain]

/-- **The cursor survives whatever is done to the list**: any operation sequence of any
    length without `next`/`list` on this iterator — every mutation of the list it runs over
    included — leaves the iterator object (its list, its count) as it was. -/
theorem iter_cursor_survives (m : Mode) (h : Heap) (ops : List Op) (it : Nat) (hit : it < h.objs.length)
    (hops : ∀ op ∈ ops, target op ≠ some it) : (run m h ops).1.objs[it]? = h.objs[it]? :=
  (keeps_seq m h ops it hit hops).1

/-- **`next`/`list(it)` never change the list**: they move the cursor only. -/
theorem iter_steps_keep_list (m : Mode) (h : Heap) (it r : Nat) (hr : r < h.objs.length) (hne : r ≠ it) :
    (step m h (.iNext it)).1.objs[r]? = h.objs[r]? ∧ (step m h (.iRest it)).1.objs[r]? = h.objs[r]? :=
  ⟨(keeps_step m h (.iNext it) r hr (by simp [target]; omega)).1,
   (keeps_step m h (.iRest it) r hr (by simp [target]; omega)).1⟩

/-- **Iterate after mutation**: `it := iter(l)`, then ANY operation sequence of any length
    that does not use `it` (appends, pops, removes, clears, assignments to `l` included), then
    `list(it)`: the result is exactly the content `l` has THEN (`ys`) — neither a snapshot taken
    when the iterator was made nor a view frozen at the old length — and `it.next()` in that
    place yields `ys[0]`. -/
theorem iter_sees_later_mutations (m : Mode) (h : Heap) (r : Nat) (xs ys : List Val) (ops : List Op)
    (hg : h.get r = .list xs) (hops : ∀ op ∈ ops, target op ≠ some h.objs.length)
    (hy : (run m (step m h (.iNew r)).1 ops).1.get r = .list ys) :
    (step m h (.iNew r)).2 = .val (.ref h.objs.length) ∧
    step m (run m (step m h (.iNew r)).1 ops).1 (.iRest h.objs.length) =
      newList ((run m (step m h (.iNew r)).1 ops).1.put h.objs.length (.iter r ys.length)) ys ∧
    step m (run m (step m h (.iNew r)).1 ops).1 (.iNext h.objs.length) =
      (match ys[0]? with
        | some v => ((run m (step m h (.iNew r)).1 ops).1.put h.objs.length (.iter r 1), .val v)
        | none => ((run m (step m h (.iNew r)).1 ops).1, .val .nil)) := by
  have hnew : step m h (.iNew r) = ({ h with objs := h.objs ++ [.iter r 0] }, .val (.ref h.objs.length)) := by
    dsimp only [step]
    rw [hg]
    rfl
  rw [hnew]
  simp only at hy ⊢
  rw [hnew] at hy
  simp only at hy
  have hk := keeps_seq m { h with objs := h.objs ++ [.iter r 0] } ops h.objs.length (by simp) hops
  have hit : (run m { h with objs := h.objs ++ [.iter r 0] } ops).1.get h.objs.length = .iter r 0 := by
    unfold Heap.get
    rw [List.getD_eq_getElem?_getD, hk.1]
    simp
  refine ⟨trivial, ?_, ?_⟩
  · rw [iter_rest_live m _ _ r 0 ys hit hy]; simp
  · rw [iter_next_live m _ _ r 0 ys hit hy]

/-- **A `for` loop computes the reference loop**, whatever its body does to the list: in
    every heap, for every list, both forms (`for i, x := range l`, `for x in l`) and every body
    shape, running the rounds with Go's cursor and the code-shaped list functions gives the
    same heap and the same record as running them with the reference cursor on the reference
    list. -/
theorem for_refines (h : Heap) (r : Nat) (w : Bool) (b : Body) :
    step .impl h (.lFor r w b) = step .spec h (.lFor r w b) := refines_step h _ rfl

/-- **A loop that leaves its list alone visits every item once, in order, with its index**:
    the heap is unchanged and the record is `[0, xs[0], 1, xs[1], …]` (or `xs` itself for
    `for x in l`), for every list. -/
theorem for_plain_visits_all (m : Mode) (h : Heap) (r : Nat) (w : Bool) (xs : List Val) (hg : h.get r = .list xs) :
    step m h (.lFor r w .none) = newList h (pairsFrom w 0 xs) ∧ pairsFrom false 0 xs = xs := by
  refine ⟨?_, ?_⟩
  · dsimp only [step]
    simp only [hg]
    rw [forLoop_none m r w xs _ h 0 [] hg (by simp [Body.bound])]
    simp
  · have key : ∀ (ys : List Val) (k : Nat), pairsFrom false k ys = ys := by
      intro ys
      induction ys with
      | nil => intro k; rfl
      | cons y ys ih => intro k; simp [pairsFrom, ih]
    exact key xs 0

/-- **A loop whose body clears the list stops after the first round**: on every non-empty
    list the body runs once (it sees item 0), the list is empty afterwards, and the loop ends —
    it does not run on over the items the list used to have. -/
theorem for_clear_stops (m : Mode) (h : Heap) (r : Nat) (w : Bool) (x : Val) (xs : List Val)
    (hr : r < h.objs.length) (hg : h.get r = .list (x :: xs)) :
    step m h (.lFor r w .clear) = newList (h.put r (.list [])) (if w then [.int 0, x] else [x]) := by
  dsimp only [step]
  simp only [hg]
  have hf : max (x :: xs).length Body.clear.bound + 1 = (xs.length + 0) + 2 := by
    simp [Body.bound]
  rw [hf]
  unfold forLoop
  simp only [hg, nextOf_eq, List.getElem?_cons_zero, bodyList]
  unfold forLoop
  simp [get_put_same h r _ hr, nextOf_eq]

/-- **The round budget never cuts a loop short**: the machine gives a loop over a list of
    length `n` whose body lets it grow to at most `b` items `max n b + 1` rounds; for EVERY
    larger budget the loop ends in the same heap with the same record — it has ended by
    itself (the cursor reached the end of the live list) before the budget is used up. -/
theorem for_fuel_irrelevant (m : Mode) (h : Heap) (r : Nat) (w : Bool) (b : Body) (xs : List Val)
    (hg : h.get r = .list xs) (d : Nat) :
    forLoop m r w b (max xs.length b.bound + 1 + d) h 0 [] =
      forLoop m r w b (max xs.length b.bound + 1) h 0 [] :=
  forLoop_fuel_enough m r w b h 0 [] xs hg _ d (by omega)

/-- no loop body lets the list grow beyond `max (its length, the body's bound)`; with the
    cursor advancing by one per round this is why every generated loop ends -/
theorem for_body_bounded (m : Mode) (eq : Val → Val → Bool) (b : Body) (xs : List Val) (k : Nat) (x : Val) :
    (bodyList m eq b xs k x).length ≤ max xs.length b.bound := bodyList_length_le m eq b xs k x

/-- **A loop changes no object but the list it runs over**, and a loop whose body leaves the
    list alone changes nothing at all (`target`); its record is a new object. With `keeps_seq`
    this puts loops into the independence theorems for arbitrary operation sequences. -/
theorem for_frame (m : Mode) (h : Heap) (r q : Nat) (w : Bool) (b : Body) (hq : q < h.objs.length)
    (hne : q ≠ r ∨ b = .none) : (step m h (.lFor r w b)).1.objs[q]? = h.objs[q]? := by
  refine (keeps_lFor m h r w b q hq ?_).1
  rcases hne with hne | hb
  · cases b <;> simp [target] <;> omega
  · subst hb; simp [target]

/-! ## 9. Non-vacuity: the hypotheses are satisfiable and the functions do something -/

example : Risor.Generated.C16.resolveIndex (-3) 3 = .ok 0 := by decide +kernel
example : Risor.Generated.C16.resolveIndex (-4) 3 = .err := by decide +kernel
example : Risor.Generated.C16.resolveIndex 3 3 = .err := by decide +kernel
example : sliceBounds (-2) 3 3 = some (1, 3) := by decide +kernel
example : sliceBounds 3 3 3 = none := by decide +kernel
example : Impl.insert [.int 1, .int 2, .int 3] (-1) (.int 9) = [.int 1, .int 2, .int 9, .int 3] := by decide +kernel
example : Impl.reverse [.int 1, .int 2, .int 3, .int 4] = [.int 4, .int 3, .int 2, .int 1] := by decide +kernel
example : Impl.strGet [104, 195, 169, 108] 1 = some [195, 169] := by decide +kernel
-- a guard-satisfying mixed sequence with aliasing: slice, mutate both, copy, pop
example : noDefectOps [.lSlice 0 (some (.int 0)) (some (.int 2)), .lSet 1 (.int 0) (.int 9), .lPop 0 (.int (-1)),
    .lCopy 0, .lMap 0 .idxPlus, .lMap 0 .idx, .lMapAcc 0 1, .lInsert 0 (.int (-9)) (.int 5)] = true := by decide +kernel
-- index-keeping callbacks: the returned indices, and the indices stored in another list
example : (run .impl { objs := [.list [.str [97], .str [98], .str [99]], .list []], arrs := [] }
    [.lMap 0 .idx, .lMapAcc 0 1]).1.objs
    = [.list [.str [97], .str [98], .str [99]], .list [.int 0, .int 1, .int 2], .list [.int 0, .int 1, .int 2],
       .list [.str [97], .str [98], .str [99]]] := by decide +kernel
example : (run .impl cexList [.lSlice 0 (some (.int 0)) (some (.int 2)), .lSet 1 (.int 0) (.int 9), .lPop 0 (.int (-1))]).1.objs
    = [.list [.str [97], .str [98]], .list [.int 9, .str [98]]] := by decide +kernel
-- comparators that satisfy `GoodCmp` exist (e.g. integer lists, `cmpVal_int`)
example (key : Val → Int) : GoodCmp (fun a b => if key a < key b then .lt else .ge) := goodCmp_of_key key
example : (Impl.sort (fun a b => if (match a with | .int i => i | _ => 0) < (match b with | .int i => i | _ => 0) then .lt else .ge)
    [.int 3, .int 1, .int 2]).1 = [.int 1, .int 2, .int 3] := by decide +kernel
example : MOp.wf (.update [([97], .int 1), ([98], .int 2)]) := by simp [MOp.wf, keys]
example : target (.lSet 1 (.int 0) (.int 9)) ≠ some 0 := by decide +kernel

-- sorted(l, f): a list operand, `a < b`, no raising call: new sorted list, operand untouched
example : (run .impl { objs := [.list [.int 3, .int 1, .int 2]], arrs := [] }
    [.bi (.sortedBy 0 .lt none), .lSet 1 (.int 0) (.int 100), .lAppend 0 (.int 7)]).1.objs
    = [.list [.int 3, .int 1, .int 2, .int 7], .list [.int 100, .int 2, .int 3]] := by decide +kernel
-- a comparison that raises at call 1: type error, and the heap is untouched although the
-- private copy ends half-sorted ([0, 1, 3, 2], next example)
example : step .impl { objs := [.list [.int 3, .int 1, .int 2, .int 0]], arrs := [] } (.bi (.sortedBy 0 .lt (some 1)))
    = ({ objs := [.list [.int 3, .int 1, .int 2, .int 0]], arrs := [] }, .err .type) := by decide +kernel
example : Impl.sortBy (fun n a b => if n = 1 then none else
      match a, b with | .int x, .int y => some (decide (x < y)) | _, _ => none)
    [.int 3, .int 1, .int 2, .int 0] = ([.int 0, .int 1, .int 3, .int 2], true) := by decide +kernel
-- a comparison that raises by itself (int against string) half-way
example : (step .impl { objs := [.list [.int 3, .int 1, .str [97], .int 0]], arrs := [] } (.bi (.sortedBy 0 .lt none))).2
    = .err .type := by decide +kernel
-- an oracle list (answers by call number only) is a comparison oracle too
example : Impl.sortBy (fun n _ _ => [true, false, true][n]?) [.int 1, .int 2, .int 3] = ([.int 2, .int 1, .int 3], false) := by decide +kernel
example : (Impl.sortBy (fun n _ _ => [true][n]?) [.int 1, .int 2, .int 3]).2 = true := by decide +kernel
-- the hypotheses of `sorted_by_sorted` are satisfiable: integer keys
example (key : Val → Int) : GoodCmp (relCmp (fun a b => decide (key a < key b))) := by
  have h := goodCmp_of_key key
  have e : relCmp (fun a b => decide (key a < key b)) = (fun a b => if key a < key b then Cmp.lt else Cmp.ge) := by
    funext a b; simp [relCmp]
  rw [e]; exact h
-- chunk / items build nested fresh lists; each(acc) on the list itself doubles it
example : (run .impl { objs := [.list [.int 1, .int 2, .int 3]], arrs := [] }
    [.bi (.chunk 0 (.int 2)), .lSet 1 (.int 0) (.int 9), .bi (.eachAcc 0 0)]).1.objs
    = [.list [.int 1, .int 2, .int 3, .int 1, .int 2, .int 3], .list [.int 9, .int 2], .list [.int 3], .list [.ref 1, .ref 2]] := by decide +kernel
example : target (.bi (.sortedBy 0 .lt (some 3))) = none ∧ target (.bi (.eachAcc 0 1)) = some 1 := by decide +kernel

-- searching across numeric types: [1, 2.0, 3] with the needles 2 (int) and byte(2)
example : (run .impl { objs := [.list [.int 1, .flt 4, .int 3]], arrs := [] }
    [.lIndex 0 (.int 2), .lCount 0 (.byte 2), .lContains 0 (.int 2), .lRemove 0 (.int 2)]).2
    = [.val (.int 1), .val (.int 1), .val (.bool true), .unit] := by decide +kernel
example : (run .impl { objs := [.list [.int 1, .flt 4, .int 3]], arrs := [] } [.lRemove 0 (.int 2)]).1.objs
    = [.list [.int 1, .int 3]] := by decide +kernel
-- 1.5 equals no integer
example : (step .impl { objs := [.list [.int 1, .flt 3]], arrs := [] } (.lIndex 0 (.int 1))).2 = .val (.int 0) ∧
    (step .impl { objs := [.list [.int 1, .flt 3]], arrs := [] } (.lIndex 0 (.int 2))).2 = .val (.int (-1)) := by decide +kernel
-- iterate after mutation: it := iter([1,2]); next; append 3; pop 0; list(it) sees the live list
example : (run .impl { objs := [.list [.int 1, .int 2]], arrs := [] }
    [.iNew 0, .iNext 1, .lAppend 0 (.int 3), .iNext 1, .iNext 1, .iNext 1, .lAppend 0 (.int 4), .iNext 1]).2
    = [.val (.ref 1), .val (.int 1), .unit, .val (.int 2), .val (.int 3), .val .nil, .unit, .val (.int 4)] := by decide +kernel
example : (run .impl { objs := [.list [.int 1, .int 2, .int 3]], arrs := [] }
    [.iNew 0, .iNext 1, .lClear 0, .lAppend 0 (.int 9), .lAppend 0 (.int 8), .iRest 1]).1.objs
    = [.list [.int 9, .int 8], .iter 0 2, .list [.int 8]] := by decide +kernel
-- work list: `for i, x := range l { if len(l) < 5 { l.append(x) } }` on [1, 2] visits five items
example : (step .impl { objs := [.list [.int 1, .int 2]], arrs := [] } (.lFor 0 true (.grow 5))).1.objs
    = [.list [.int 1, .int 2, .int 1, .int 2, .int 1],
       .list [.int 0, .int 1, .int 1, .int 2, .int 2, .int 1, .int 3, .int 2, .int 4, .int 1]] := by decide +kernel
-- popping inside the loop: the loop ends where the list ends NOW
example : (step .impl { objs := [.list [.int 1, .int 2, .int 3, .int 4]], arrs := [] } (.lFor 0 false .popLast)).1.objs
    = [.list [.int 1, .int 2], .list [.int 1, .int 2]] := by decide +kernel
-- removing the current item shifts the rest under the cursor: every second item is skipped
example : (step .impl { objs := [.list [.int 1, .int 2, .int 3, .int 4]], arrs := [] } (.lFor 0 false .removeCur)).1.objs
    = [.list [.int 2, .int 4], .list [.int 1, .int 3]] := by decide +kernel
example : target (.lFor 0 true .none) = none ∧ target (.lFor 0 true .popLast) = some 0 ∧ target (.iNext 3) = some 3 := by decide +kernel

end Risor.C16
