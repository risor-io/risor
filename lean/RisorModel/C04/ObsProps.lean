import RisorModel.C04.Obs
import RisorModel.C04.Props
/-!
C04 — round 5 theorems.

Part 1: a template string pushes exactly one value, for EVERY list of fragments — text, empty
interpolations `{}` and interpolations whose expression pushes one value, in any order and
number — under any number of pending operands; hence a statement holding one is neutral for any
number of executions.  The operand of BUILD_STRING must be exactly the number of fragments; the
variant that counts pushed values but skips the count for `{}` leaves one value per empty
interpolation and per execution.

Part 2: every observed run of a frame that is a run of the model machine, on a code object the
verified checker accepts, follows the certificate and is neutral (the Spec the harness
evaluates on the real heights).  FOR_ITER's exhaustion edge drops the iterator for every
number of loop variables.
-/
namespace Risor.C04.Obs
open Risor.C04
open Risor.C04.MV (runStraight)

/-! ### Part 1 -/

theorem runStraight_append (a b : List Ins) :
    ∀ h, runStraight (a ++ b) h = (runStraight a h).bind (runStraight b) := by
  induction a with
  | nil => intro h; simp [runStraight]
  | cons i r ih =>
    intro h
    simp only [List.cons_append, runStraight]
    split
    · split
      · exact ih _
      · rfl
    · split
      · exact ih _
      · rfl
    · rfl

theorem runStraight_fall (i : Ins) (p q h : Nat) (hk : i.kind = .fall p q) (hp : p ≤ h) :
    runStraight [i] h = some (h - p + q) := by
  simp [runStraight, hk, hp]

/-- a piece that ends at `h'`, then one straight-line instruction -/
theorem runStraight_snoc {c : List Ins} {i : Ins} {p q h h' : Nat} (hc : runStraight c h = some h')
    (hk : i.kind = .fall p q) : runStraight (c ++ [i]) h = if p ≤ h' then some (h' - p + q) else none := by
  simp only [runStraight_append, hc, Option.bind_some, runStraight, hk]

/-- a straight-line piece of code that pushes exactly one value, whatever lies below -/
def PushesOne (c : List Ins) : Prop := ∀ h, runStraight c h = some (h + 1)

/-- a fragment is well formed when its expression (if any) pushes one value -/
def Frag.ok : Frag → Prop
  | .hole c => PushesOne c
  | _ => True

theorem loadConst_pushes_one : PushesOne [⟨.loadConst, 0, 0⟩] := fun _ => rfl

/-- an operand and an instruction that replaces it by its result -/
theorem PushesOne.unary {a : List Ins} {i : Ins} (ha : PushesOne a) (hk : i.kind = .fall 1 1) :
    PushesOne (a ++ [i]) := by
  intro h
  rw [runStraight_snoc (ha h) hk, if_pos (Nat.le_add_left 1 h)]
  rfl

/-- two operands and an instruction that replaces them by its result -/
theorem PushesOne.binary {l r : List Ins} {i : Ins} (hl : PushesOne l) (hr : PushesOne r) (hk : i.kind = .fall 2 1) :
    PushesOne (l ++ r ++ [i]) := by
  intro h
  have : runStraight (l ++ r) h = some (h + 1 + 1) := by rw [runStraight_append, hl h, Option.bind_some, hr]
  rw [runStraight_snoc this hk, if_pos (Nat.le_add_left 2 h)]
  rfl

/-- every expression of the harness's interpolation grammar pushes exactly one value -/
theorem TE.code_pushes_one (e : TE) : PushesOne e.code := by
  induction e with
  | lit | glob | loc => exact fun _ => rfl
  | bin l r ihl ihr | idx l r ihl ihr | call1 l r ihl ihr => exact ihl.binary ihr rfl
  | neg a iha => exact iha.unary rfl

theorem Frag.code_pushes_one (f : Frag) (hf : f.ok) : PushesOne f.code := by
  cases f with
  | text => exact loadConst_pushes_one
  | empty => exact loadConst_pushes_one
  | hole c => exact hf

/-- the fragment loop of compileString pushes exactly one value per fragment — text, `{}` and
    `{e}` alike — for every list of well-formed fragments and any starting height -/
theorem pushCode_height (fs : List Frag) (hok : ∀ f ∈ fs, f.ok) :
    ∀ h, runStraight (pushCode fs) h = some (h + fs.length) := by
  induction fs with
  | nil => intro h; simp [pushCode, runStraight]
  | cons f r ih =>
    intro h
    have h1 := Frag.code_pushes_one f (hok f (by simp)) h
    have h2 := ih (fun g hg => hok g (by simp [hg])) (h + 1)
    simp only [pushCode, runStraight_append, h1, Option.bind_some, h2, List.length_cons]
    congr 1; omega

/-- the fragment loop followed by `BUILD_STRING n`, for ANY operand `n` -/
theorem pushCode_buildString (fs : List Frag) (hok : ∀ f ∈ fs, f.ok) (n h : Nat) :
    runStraight (pushCode fs ++ [buildString n]) h =
      if n ≤ h + fs.length then some (h + fs.length - n + 1) else none := by
  exact runStraight_snoc (pushCode_height fs hok h) rfl

/-- **A template string pushes exactly one value**: for every list of fragments (any number of
    text pieces, empty interpolations `{}` and interpolations, in any order) and under any
    number `h` of pending operands, compileString's code takes the height from `h` to `h + 1`. -/
theorem compileString_pushes_one (fs : List Frag) (hok : ∀ f ∈ fs, f.ok) :
    PushesOne (compileString fs) := by
  intro h
  rw [compileString, pushCode_buildString fs hok]
  simp

/-- **The operand of BUILD_STRING is forced**: with at most as many values requested as were
    pushed, the template pushes exactly one value if and only if the operand is the number of
    fragments. -/
theorem buildString_operand_exact (fs : List Frag) (hok : ∀ f ∈ fs, f.ok) (n h : Nat)
    (hn : n ≤ fs.length) :
    runStraight (pushCode fs ++ [buildString n]) h = some (h + 1) ↔ n = fs.length := by
  rw [pushCode_buildString fs hok]
  have : n ≤ h + fs.length := by omega
  simp only [this, if_true, Option.some.injEq]
  omega

theorem countedN_add_empties (fs : List Frag) : countedN fs + empties fs = fs.length := by
  induction fs with
  | nil => rfl
  | cons f r ih => cases f <;> simp [countedN, empties, Frag.counted] <;> omega

/-- **The forbidden shape leaks**: a compiler whose BUILD_STRING operand is a counter that the
    empty-interpolation branch skips leaves one extra value per `{}`: the template takes the
    height from `h` to `h + 1 + empties fs`. -/
theorem compileStringCounting_leaks (fs : List Frag) (hok : ∀ f ∈ fs, f.ok) (h : Nat) :
    runStraight (compileStringCounting fs) h = some (h + 1 + empties fs) := by
  rw [compileStringCounting, pushCode_buildString fs hok]
  have := countedN_add_empties fs
  have h1 : countedN fs ≤ h + fs.length := by omega
  simp only [h1, if_true, Option.some.injEq]
  omega

/-- the two compilers emit the same code exactly for templates without `{}` -/
theorem counting_agrees_iff (fs : List Frag) :
    compileStringCounting fs = compileString fs ↔ empties fs = 0 := by
  have := countedN_add_empties fs
  simp only [compileStringCounting, compileString, buildString, List.append_cancel_left_eq,
    List.cons.injEq, Ins.mk.injEq, and_true, true_and]
  omega

theorem repeatRun_const (c : List Ins) (d : Nat) (hc : ∀ h, runStraight c h = some (h + d)) :
    ∀ k h, repeatRun c k h = some (h + k * d) := by
  intro k
  induction k with
  | zero => intro h; simp [repeatRun]
  | succ k ih =>
    intro h
    simp only [repeatRun, hc h, Option.bind_some, ih]
    congr 1
    rw [Nat.succ_mul]; omega

theorem stmt_height (c : List Ins) (d : Nat) (hc : ∀ h, runStraight c h = some (h + 1 + d)) :
    ∀ h, runStraight (stmt c) h = some (h + d) := by
  intro h
  rw [stmt, runStraight_snoc (hc h) rfl, if_pos (by omega)]
  congr 1; omega

/-- an expression statement whose expression pushes one value leaves the height where it was, `k` times over -/
theorem PushesOne.stmt_neutral {c : List Ins} (hc : PushesOne c) (k h : Nat) : repeatRun (stmt c) k h = some h := by
  have := repeatRun_const (stmt c) 0 (stmt_height c 0 hc) k h
  rwa [Nat.mul_zero] at this

/-- **A statement holding a template is neutral for every number of executions**: `k`
    executions in one frame (a loop body run `k` times) leave the height where it was. -/
theorem template_stmt_neutral (fs : List Frag) (hok : ∀ f ∈ fs, f.ok) (k h : Nat) :
    repeatRun (stmt (compileString fs)) k h = some h :=
  (compileString_pushes_one fs hok).stmt_neutral k h

/-- under the forbidden shape `k` executions raise the height by `k * empties fs`: 1024
    executions of `'{}'` in one frame exhaust the VM's 1024 slots -/
theorem counting_stmt_grows (fs : List Frag) (hok : ∀ f ∈ fs, f.ok) (k h : Nat) :
    repeatRun (stmt (compileStringCounting fs)) k h = some (h + k * empties fs) :=
  repeatRun_const _ _ (stmt_height _ _ (compileStringCounting_leaks fs hok)) k h

/-- hypotheses are satisfiable and the leak is real: `'{}tail{x}'` -/
example : runStraight (compileString [.empty, .text, .hole TE.glob.code]) 3 = some 4 := by decide +kernel
example : runStraight (compileStringCounting [.empty, .text, .hole TE.glob.code]) 3 = some 5 := by decide +kernel

/-! ### Part 2 -/

theorem stepOk_step {c : Code} {a b : Nat × Nat} (h : stepOk c a b = true) :
    Step c ⟨a.1, a.2⟩ ⟨b.1, b.2⟩ := by
  unfold stepOk at h
  split at h
  · rename_i i hi
    split at h
    · rename_i l hl
      have hm : b ∈ l := by simpa using h
      exact Step.mk (s := ⟨a.1, a.2⟩) hi hl hm
    · cases h
  · cases h

theorem chain_reach {c : Code} (r : List (Nat × Nat)) :
    ∀ a, Reach c ⟨a.1, a.2⟩ → chainOk c (a :: r) = true → ∀ x ∈ a :: r, Reach c ⟨x.1, x.2⟩ := by
  induction r with
  | nil => intro a ha _ x hx; simp at hx; subst hx; exact ha
  | cons b r ih =>
    intro a ha hch x hx
    simp only [chainOk, Bool.and_eq_true] at hch
    rcases List.mem_cons.mp hx with hx | hx
    · subst hx; exact ha
    · exact ih b (Reach.step ha (stepOk_step hch.1)) hch.2 x hx

/-- every state of an observed run that is a run of the model machine is reachable -/
theorem trace_reach {c : Code} {t : List (Nat × Nat)} (ht : traceOk c t = true) :
    ∀ x ∈ t, Reach c ⟨x.1, x.2⟩ := by
  cases t with
  | nil => intro x hx; cases hx
  | cons a r =>
    simp only [traceOk, Bool.and_eq_true, beq_iff_eq] at ht
    have ha : Reach c ⟨a.1, a.2⟩ := by rw [ht.1]; exact Reach.init
    exact chain_reach r a ha ht.2

/-- **An observed run of accepted code follows the certificate**: if the verified checker
    accepts `cert` for the code object and the real heights read at the dispatched instructions
    form a run of the model machine, the height read at slot `pc` is `cert[pc]`, every time. -/
theorem observed_run_follows_cert (c : Code) (cert : Cert) (hc : check c cert = true)
    (t : List (Nat × Nat)) (ht : traceOk c t = true) : followsCert cert t = true := by
  simp only [followsCert, List.all_eq_true, beq_iff_eq]
  intro x hx
  exact (check_sound c cert hc ⟨x.1, x.2⟩ (trace_reach ht x hx)).2.1

/-- **An observed run of accepted code is neutral**: a slot is visited at one height only,
    however often and after however many iterations of whatever loops — the Spec the harness
    evaluates on the real VM's heights (`neutral`). -/
theorem observed_run_neutral (c : Code) (cert : Cert) (hc : check c cert = true)
    (t : List (Nat × Nat)) (ht : traceOk c t = true) : neutral t = true := by
  simp only [neutral, List.all_eq_true, Bool.or_eq_true, bne_iff_ne, beq_iff_eq]
  intro a ha b hb
  rcases Nat.decEq a.1 b.1 with hne | heq
  · exact Or.inl hne
  · exact Or.inr (loop_height_constant c cert hc ⟨a.1, a.2⟩ ⟨b.1, b.2⟩
      (trace_reach ht a ha) (trace_reach ht b hb) heq)

/-- **FOR_ITER's exhaustion edge drops the iterator** for every number of loop variables
    (`for range x`, `for i := range x`, `for i, v := range x`, `for v in x`): the state after
    the edge that leaves the loop has one value less, the state after the edge that enters the
    body has the loop values more. -/
theorem forIter_edges (i : Ins) (d n pc h : Nat) (l : List (Nat × Nat))
    (hk : i.kind = .forIter d n) (hs : succs i pc h = some l) :
    ∃ k, forIterPush n = some k ∧ 1 ≤ h ∧ l = [(pc + d, h - 1), (pc + i.size, h + k)] := by
  simp only [succs, hk] at hs
  split at hs
  · rename_i k hk'
    split at hs
    · rename_i h1
      exact ⟨k, hk', h1, (Option.some.inj hs).symm⟩
    · cases hs
  · cases hs

/-- a loop without loop variables pushes nothing when it enters its body -/
theorem forIter_nameless_pushes_nothing : forIterPush 0 = some 0 := rfl

/-- the nested nameless range loop is accepted, its real run is a model run and is neutral -/
example : check demoNested demoNestedCert = true := by decide +kernel
example : traceOk demoNested demoGoodRun = true := by decide +kernel
example : neutral demoGoodRun = true := by decide +kernel

/-- **The Spec discriminates**: the run of a VM whose FOR_ITER keeps the exhausted iterator of a
    loop without loop variables is not a run of the model machine and is not neutral. -/
theorem keep_iterator_run_rejected :
    traceOk demoNested demoKeepRun = false ∧ neutral demoKeepRun = false ∧
      firstDeparture demoNested demoKeepRun 0 = some 2 := by decide +kernel

end Risor.C04.Obs
