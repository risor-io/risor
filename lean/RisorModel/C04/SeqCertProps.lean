import RisorModel.C04.SeqCertLemmas
import RisorModel.C04.FragCertProps
import RisorModel.C01.SeqProps
/-!
C04 on C01's CONTAINER fragment F6 — property theorems.

`compile_balanced` (DESIGN.md C04: statements are stack-neutral, expressions push exactly one
value, every loop head has one height however many iterations) for all programs of the container
fragment at once: list literals, index reads, item assignment plain and compound (`a[i] op= e`),
deep equality, and the four range-loop forms `for k, v := range c`, `for k := range c`,
`for range c`, `for v in c` over lists and ints — loops that keep their ITERATOR in an operand-stack
slot for as long as they run.  `Seq.compSeq p` compiles a program of the fragment (`inSeq`) into one
code object; the verified checker `check` accepts it with the certificate `certSeq p`, computed from
the syntax tree alone (`SeqC.hts`):

  * the body of a range loop runs ONE ABOVE the height the loop was entered with (the iterator);
    nested range loops stack their iterators: a body nested in `k` range loops runs `k` above;
  * `ForIter d m` has two edges with DIFFERENT heights: on exhaustion the iterator is popped and
    control arrives after the loop with the entry height; otherwise the iterator stays and
    0 / 1 / 2 loop values are pushed (1 for `for v in`), which the `StoreGlobal`s of the names pop;
  * `break` out of a range loop is `PopTop; JumpForward`: the iterator is dropped BEFORE the jump,
    so both ways out of the loop arrive with the same height; `continue` jumps to the backward
    jump with the iterator still in place;
  * `BuildList n` pops its `n` items and pushes one list, `BinarySubscr` pops 2 and pushes 1,
    `StoreSubscr` pops 3 and pushes nothing; the compound form evaluates container and index twice.

The effect the checker's table (`Ins.kind`) gives these instructions is the effect of C01's machine
(`Seq.execIns`): `buildList_effect`, `binarySubscr_effect`, `storeSubscr_effect`, `getIter_effect`,
`forIter_effect` (both edges, every number of loop variables), `forIter_exhausted_drops`,
`forIter_next_keeps`, `break_popTop_effect`; `seq_execIns_step` says the same of EVERY instruction of
the fragment, and `seq_machine_heights` carries it to whole runs of `Seq.step` on `compSeq p`.

Combined with `check_sound`: `seq_heights`, `seq_no_underflow`, `seq_loop_heights` (every loop
head — range loops included — has ONE height in every reachable state: the iterator neither
accumulates nor is lost), `seq_finished_run_leaves_result`.

The one hypothesis besides membership in the fragment is `fitsSeq p`: the operand NESTING stays
within the frame's height limit; `SeqC.depth p ≤ maxHeight`, a bound by recursion on the syntax,
suffices (`seq_compile_balanced_of_depth`), and the guard cannot be dropped
(`seq_compile_balanced_needs_fits`; the full statement without it is `seq_compile_balanced_full`).

The object of the theorems, `SeqC.toC04 (compSeq p)`, is compared with the real compiler's bytecode
on every run (C01's link A; `eraseIdx real = SeqC.toC04 (compSeq p)` in `SeqCertOracle.lean`),
`certSeq p` is re-checked on the REAL instructions, and its entries are compared with the real VM's
operand-stack height at every dispatched instruction (harness/c04seq.go).
-/
namespace Risor.C04
open Risor.C01 Risor.C01.Seq

/-! ### the certificate computed from the syntax tree is accepted -/

theorem seq_shape_parts (p : N) (hin : inSeq p = true) : wf p = true ∧ escapes p = false ∧ ∃ s, p = .prog s := by
  cases p with
  | prog s =>
    simp only [inSeq, Bool.and_eq_true] at hin
    have h := hin.1
    simp only [wf, Bool.and_eq_true, Bool.not_eq_true'] at h
    exact ⟨hin.1, by simpa [escapes] using h.1.2, s, rfl⟩
  | _ => simp [inSeq] at hin

/-- the code object of a program of the fragment, with the certificate `certSeq p` -/
theorem seq_cert_accepted (p : N) (hin : inSeq p = true) (hfit : fitsSeq p = true) :
    check (SeqC.mainCode p) (certSeq p) = true := by
  obtain ⟨hw, hesc, s, hp⟩ := seq_shape_parts p hin
  let G := SeqC.progCtx p hfit
  have hC : SeqC.mainCode p = G.C := rfl
  have hcert : certSeq p = G.cert := rfl
  have hcode : G.code = comp 0 0 false p := rfl
  have hH : G.H = SeqC.hts false 0 p := rfl
  obtain ⟨i, c, t, e1, e2⟩ := SeqC.head_comp p hw false 0 0 0
  have hsize : G.code.length = size false p := by rw [hcode, comp_length]
  have h0 : G.code[0]? = some (some i) := by rw [hcode, e1]; rfl
  have hH0 : G.H[0]? = some 0 := by rw [hH, e2]; rfl
  have hat : G.At 0 (comp 0 0 false p) (SeqC.hts false 0 p) := ⟨Win.self _, Win.self _⟩
  have hex : SeqC.exitD p = 1 := by subst hp; simp [SeqC.exitD, isUnitNode]
  have hall := (SeqC.ok_all G p).1 hw false 0 0 0 0 hat
    (.inr ⟨by rw [hsize]; omega, by rw [hex]; rfl⟩) (by intro h; rw [hesc] at h; cases h)
  rw [hC, hcert]
  refine Ctx.check_of_okwin i h0 hH0 ?_ (.inr ⟨rfl, rfl⟩)
  rw [hsize]
  exact hall

/-! ### `compile_balanced` for the container fragment -/

/-- the full statement, WITHOUT the nesting guard: false (`seq_compile_balanced_full_false`) — an
    expression nested deeper than the frame's height limit overflows whatever the compiler does -/
def seq_compile_balanced_full : Prop :=
  ∀ p, inSeq p = true → check (SeqC.toC04 (compSeq p)) (certSeq p) = true

/-- **`compile_balanced` for the container fragment**: for every program of C01's fragment F6
    (lists with identity, index reads and writes incl. `a[i] op= e`, deep `==`, the four range-loop
    forms over lists and ints with the iterator kept in its stack slot, `break` / `continue` inside
    them, on top of everything of F1–F3) whose operand nesting fits the frame, the main code
    `compSeq p` carries the certificate `certSeq p` computes from the syntax tree — the height before
    every instruction slot, with the iterator slot of every enclosing range loop accounted for — and
    the verified checker accepts it. -/
theorem seq_compile_balanced (p : N) (hin : inSeq p = true) (hfit : fitsSeq p = true) :
    check (SeqC.toC04 (compSeq p)) (certSeq p) = true :=
  seq_cert_accepted p hin hfit

theorem seq_compile_balanced_exists (p : N) (hin : inSeq p = true) (hfit : fitsSeq p = true) :
    ∃ cert, check (SeqC.toC04 (compSeq p)) cert = true :=
  ⟨_, seq_compile_balanced p hin hfit⟩

/-- **The same with a purely syntactic guard**: `SeqC.depth p`, the operand nesting depth by
    recursion on the syntax (operators holding their left value, a `switch` its subject, a list
    literal its earlier items, an item assignment its right-hand side and container, a range loop
    its iterator and loop values), within the frame's limit.  The iteration count of loops and the
    lengths of the lists ranged over play no role. -/
theorem seq_compile_balanced_of_depth (p : N) (hin : inSeq p = true) (hd : SeqC.depth p ≤ maxHeight) :
    check (SeqC.toC04 (compSeq p)) (certSeq p) = true :=
  seq_compile_balanced p hin (SeqC.fitsSeq_of_depth p hd)

/-! ### corollaries: every execution of the code -/

/-- **Heights are those of the syntax tree**: in every execution (any number of steps, any branch
    outcomes, any number of loop iterations, any list lengths) the operand-stack height at an
    offset is the one `certSeq p` names -/
theorem seq_heights (p : N) (hin : inSeq p = true) (hfit : fitsSeq p = true) (s : St)
    (hr : Reach (SeqC.toC04 (compSeq p)) s) :
    s.pc ≤ (SeqC.toC04 (compSeq p)).size ∧ (certSeq p)[s.pc]? = some (some s.h) ∧ s.h ≤ maxHeight :=
  check_sound _ _ (seq_compile_balanced p hin hfit) s hr

/-- **No underflow**: no instruction ever pops below the frame's base (`BuildList n` always finds
    its `n` items, `StoreSubscr` its three operands, `ForIter` its iterator, the `PopTop` of a
    `break` the iterator it drops), control never lands on an operand slot, and the height never
    exceeds `maxHeight` -/
theorem seq_no_underflow (p : N) (hin : inSeq p = true) (hfit : fitsSeq p = true) (s : St)
    (hr : Reach (SeqC.toC04 (compSeq p)) s) :
    s.h ≤ maxHeight ∧
    (s.pc < (SeqC.toC04 (compSeq p)).size → ∃ i l, (SeqC.toC04 (compSeq p)).at s.pc = some i ∧ succs i s.pc s.h = some l) :=
  ⟨(check_sound _ _ (seq_compile_balanced p hin hfit) s hr).2.2,
    no_underflow _ _ (seq_compile_balanced p hin hfit) s hr⟩

/-- **Every loop head has one height**: in every execution of ANY program of the container
    fragment, two visits of one offset — the `ForIter` of a range loop on its first and on its
    ten-millionth round, the head of a loop nested in three range loops, after any number of
    `break`s and `continue`s — see the same operand-stack height: the iterator a range loop keeps on
    the stack neither accumulates nor is lost. -/
theorem seq_loop_heights (p : N) (hin : inSeq p = true) (hfit : fitsSeq p = true) (s t : St)
    (hs : Reach (SeqC.toC04 (compSeq p)) s) (ht : Reach (SeqC.toC04 (compSeq p)) t) (hpc : s.pc = t.pc) :
    s.h = t.h :=
  loop_height_constant _ _ (seq_compile_balanced p hin hfit) s t hs ht hpc

/-- **A finished run leaves exactly its result**: control reaches the end of the code with
    exactly one value on the stack — no iterator of any range loop, however it was left, is still
    there -/
theorem seq_finished_run_leaves_result (p : N) (hin : inSeq p = true) (hfit : fitsSeq p = true) (s : St)
    (hr : Reach (SeqC.toC04 (compSeq p)) s) (hend : s.pc = (SeqC.toC04 (compSeq p)).size) : s.h = 1 :=
  (finished_run_leaves_result _ _ (seq_compile_balanced p hin hfit) s hr hend).2

/-! ### the checker's effect table agrees with the machine of `Seq.lean` on the container and
    iteration instructions

`Ins.kind` gives `BUILD_LIST n` the effect `.fall n 1`, `BINARY_SUBSCR` `.fall 2 1`, `STORE_SUBSCR`
`.fall 3 0`, `GET_ITER` `.fall 1 1`, `POP_TOP` `.fall 1 0` and `FOR_ITER d m` the kind
`.forIter d m`: two successors, `(pc + d, h - 1)` and `(pc + 3, h + forIterPush m)`.  Each lemma
says: whenever `Seq.execIns` executes the instruction, the machine's next position and
operand-stack length are EXACTLY a successor the checker computes — and the machine executes the
instruction only where the checker sees no underflow. -/

/-- `BuildList n`: executes exactly when `n` values are there; pops them, pushes ONE (the list) -/
theorem buildList_effect (n : Nat) (c : Cfg) :
    (∀ c', execIns (.buildList n) c = .ok c' → n ≤ c.stk.length ∧ c'.stk.length = c.stk.length - n + 1 ∧
      succs (SeqC.insOf (.buildList n)) c.pc c.stk.length = some [(c'.pc, c'.stk.length)]) ∧
    ((∃ c', execIns (.buildList n) c = .ok c') ↔ succs (SeqC.insOf (.buildList n)) c.pc c.stk.length ≠ none) := by
  obtain ⟨pc, stk, σ⟩ := c
  have hex : execIns (.buildList n) ⟨pc, stk, σ⟩ =
      (if n ≤ stk.length then
        .ok { pc := pc + 2, stk := .ref (σ.alloc (stk.take n).reverse).1 :: stk.drop n, σ := (σ.alloc (stk.take n).reverse).2 }
       else .error (.err "panic")) := by
    cases stk <;> rfl
  by_cases hle : n ≤ stk.length
  · refine ⟨?_, ?_⟩
    · intro c' h
      rw [hex, if_pos hle] at h
      simp only [Except.ok.injEq] at h
      subst h
      refine ⟨hle, by simp only [List.length_cons, List.length_drop], ?_⟩
      simp [succs, SeqC.insOf, Ins.kind, Ins.size, Op.operands, hle]
    · rw [hex, if_pos hle]
      simp [succs, SeqC.insOf, Ins.kind, hle]
  · refine ⟨?_, ?_⟩
    · intro c' h
      rw [hex, if_neg hle] at h
      cases h
    · rw [hex, if_neg hle]
      simp [succs, SeqC.insOf, Ins.kind, hle]

/-- `BinarySubscr`: whenever it executes it popped the index and the container and pushed ONE
    value; with fewer than two values it does not execute -/
theorem binarySubscr_effect (c c' : Cfg) (h : execIns .binarySubscr c = .ok c') :
    2 ≤ c.stk.length ∧ c'.stk.length + 1 = c.stk.length ∧
      succs (SeqC.insOf .binarySubscr) c.pc c.stk.length = some [(c'.pc, c'.stk.length)] := by
  obtain ⟨pc, stk, σ⟩ := c
  rcases stk with _ | ⟨a, _ | ⟨b, s⟩⟩ <;> dsimp only [execIns] at h <;> try cases h
  split at h
  · simp only [Except.ok.injEq] at h
    subst h
    simp [succs, SeqC.insOf, Ins.kind, Ins.size, Op.operands]
  · cases h

/-- `StoreSubscr`: whenever it executes it popped index, container and right-hand side and pushed
    NOTHING; with fewer than three values it does not execute -/
theorem storeSubscr_effect (c c' : Cfg) (h : execIns .storeSubscr c = .ok c') :
    3 ≤ c.stk.length ∧ c'.stk.length + 3 = c.stk.length ∧
      succs (SeqC.insOf .storeSubscr) c.pc c.stk.length = some [(c'.pc, c'.stk.length)] := by
  obtain ⟨pc, stk, σ⟩ := c
  rcases stk with _ | ⟨a, _ | ⟨b, _ | ⟨r, s⟩⟩⟩ <;> dsimp only [execIns] at h <;> try cases h
  split at h
  · simp only [Except.ok.injEq] at h
    subst h
    simp [succs, SeqC.insOf, Ins.kind, Ins.size, Op.operands]
  · cases h

/-- `GetIter`: pops the container, pushes ONE value — the iterator that stays in this slot for
    the whole loop -/
theorem getIter_effect (c c' : Cfg) (h : execIns .getIter c = .ok c') :
    1 ≤ c.stk.length ∧ c'.stk.length = c.stk.length ∧ (∃ it s, c'.stk = it :: s ∧ isIter it = true) ∧
      succs (SeqC.insOf .getIter) c.pc c.stk.length = some [(c'.pc, c'.stk.length)] := by
  obtain ⟨pc, stk, σ⟩ := c
  rcases stk with _ | ⟨v, s⟩ <;> dsimp only [execIns] at h <;> try cases h
  cases hg : getIterS v with
  | error e => simp [hg] at h
  | ok it =>
    simp only [hg, Except.ok.injEq] at h
    subst h
    refine ⟨by simp, rfl, ⟨it, s, rfl, getIterS_isIter hg⟩, ?_⟩
    simp [succs, SeqC.insOf, Ins.kind, Ins.size, Op.operands]

/-- the number of values `ForIter d m` pushes in C01's machine (`pushKV`) is the checker's
    `forIterPush m`, for every number of loop variables: 0, 1, 2, and 3 = `for v in` (one value) -/
theorem pushKV_forIterPush (m : Nat) (key value : SVal) (vals : List SVal) (h : pushKV m key value = some vals) :
    forIterPush m = some vals.length := by
  unfold pushKV at h
  unfold forIterPush
  by_cases h0 : m = 0
  · subst h0; simp at h; subst h; rfl
  · by_cases h1 : m = 1
    · subst h1; simp at h; subst h; rfl
    · by_cases h2 : m = 2
      · subst h2; simp at h; subst h; rfl
      · by_cases h3 : m = 3
        · subst h3; simp at h; subst h; rfl
        · simp [h0, h1, h2, h3] at h

/-- **`ForIter` on exhaustion drops the iterator**: the machine arrives `d` slots further with the
    stack one SHORTER — the checker's first successor `(pc + d, h - 1)` — whatever `m` is -/
theorem forIter_exhausted_drops (d m pc : Nat) (it : SVal) (s : List SVal) (σ : Seq.St) (hi : isIter it = true)
    (hn : iterNext σ it = none) :
    execIns (.forIter d m) ⟨pc, it :: s, σ⟩ = .ok ⟨pc + d, s, σ⟩ := by
  simp [execIns, hi, hn]

/-- **`ForIter` on a further entry keeps the (advanced) iterator in its slot** and pushes the loop
    values above it: the stack is `forIterPush m` LONGER — the checker's second successor -/
theorem forIter_next_keeps (d m pc : Nat) (it it' key value : SVal) (vals s : List SVal) (σ : Seq.St) (hi : isIter it = true)
    (hn : iterNext σ it = some (it', key, value)) (hv : pushKV m key value = some vals) :
    execIns (.forIter d m) ⟨pc, it :: s, σ⟩ = .ok ⟨pc + 3, vals ++ it' :: s, σ⟩ ∧
      forIterPush m = some vals.length ∧ isIter it' = true :=
  ⟨by simp [execIns, hi, hn, hv], pushKV_forIterPush m key value vals hv, iterNext_isIter hn⟩

/-- `ForIter d m`, both edges, every number of loop variables the compiler emits (`m` = 0, 1, 2, or
    3 for `for v in`: `forIterPush m = some k`): whenever the machine executes it, the checker's
    `succs` is defined (an iterator was there) and the machine took ONE OF ITS TWO successors: the
    exhaustion edge `(pc + d, h - 1)` or the iteration edge `(pc + 3, h + k)` -/
theorem forIter_effect (d m k : Nat) (hp : forIterPush m = some k) (c c' : Cfg) (h : execIns (.forIter d m) c = .ok c') :
    1 ≤ c.stk.length ∧
      succs (SeqC.insOf (.forIter d m)) c.pc c.stk.length =
        some [(c.pc + d, c.stk.length - 1), (c.pc + 3, c.stk.length + k)] ∧
      ((c'.pc = c.pc + d ∧ c'.stk.length = c.stk.length - 1) ∨ (c'.pc = c.pc + 3 ∧ c'.stk.length = c.stk.length + k)) := by
  obtain ⟨pc, stk, σ⟩ := c
  rcases stk with _ | ⟨it, s⟩ <;> dsimp only [execIns] at h <;> try cases h
  by_cases hi : isIter it = true
  · simp only [hi, ↓reduceIte] at h
    cases hn : iterNext σ it with
    | none =>
      simp only [hn, Except.ok.injEq] at h
      subst h
      exact ⟨by simp, by simp [succs, SeqC.insOf, Ins.kind, Ins.size, Op.operands, hp], .inl ⟨rfl, by simp⟩⟩
    | some r =>
      obtain ⟨it', key, value⟩ := r
      simp only [hn] at h
      cases hv : pushKV m key value with
      | none => simp [hv] at h
      | some vals =>
        simp only [hv, Except.ok.injEq] at h
        subst h
        have hp' := pushKV_forIterPush m key value vals hv
        rw [hp] at hp'
        have hk : k = vals.length := Option.some.inj hp'
        refine ⟨by simp, by simp [succs, SeqC.insOf, Ins.kind, Ins.size, Op.operands, hp], .inr ⟨rfl, ?_⟩⟩
        simp only [List.length_append, List.length_cons]; omega
  · simp [hi] at h

/-- the `PopTop` a `break` out of a range loop executes first: it pops exactly ONE value — with
    the certified height of the loop body (`seq_heights`) that value is the loop's iterator -/
theorem break_popTop_effect (c c' : Cfg) (h : execIns .popTop c = .ok c') :
    1 ≤ c.stk.length ∧ c'.stk.length + 1 = c.stk.length ∧ c'.stk = c.stk.tail ∧
      succs (SeqC.insOf .popTop) c.pc c.stk.length = some [(c'.pc, c'.stk.length)] := by
  obtain ⟨pc, stk, σ⟩ := c
  rcases stk with _ | ⟨v, s⟩ <;> dsimp only [execIns] at h <;> try cases h
  simp [succs, SeqC.insOf, Ins.kind, Ins.size, Op.operands]

/-- **One step of C01's container machine is one step of the height abstraction**, for EVERY
    instruction of the fragment (a backward jump must stay inside the code and `ForIter`'s second
    operand must be one of 0..3 — both of which `check` verifies): the machine's next position and
    operand-stack length are among the successors `succs` computes from `Ins.kind` — so
    `check_sound`'s `Reach` covers every run of `Seq.step` on a code object. -/
theorem seq_execIns_step (i : Seq.FIns) (c c' : Cfg) (h : execIns i c = .ok c') (hjb : ∀ d, i = .jb d → d ≤ c.pc)
    (hfi : ∀ d m, i = .forIter d m → forIterPush m ≠ none) :
    ∃ l, succs (SeqC.insOf i) c.pc c.stk.length = some l ∧ (c'.pc, c'.stk.length) ∈ l := by
  obtain ⟨pc, stk, σ⟩ := c
  cases i with
  | buildList n => exact ⟨_, ((buildList_effect n _).1 c' h).2.2, by simp⟩
  | binarySubscr => exact ⟨_, (binarySubscr_effect _ c' h).2.2, by simp⟩
  | storeSubscr => exact ⟨_, (storeSubscr_effect _ c' h).2.2, by simp⟩
  | getIter => exact ⟨_, (getIter_effect _ c' h).2.2.2, by simp⟩
  | forIter d m =>
    cases hp : forIterPush m with
    | none => exact absurd hp (hfi d m rfl)
    | some k =>
      obtain ⟨_, h2, h3⟩ := forIter_effect d m k hp _ c' h
      refine ⟨_, h2, ?_⟩
      rcases h3 with ⟨e1, e2⟩ | ⟨e1, e2⟩ <;> simp [e1, e2]
  | jb d =>
    have hd : d ≤ pc := hjb d rfl
    cases h
    exact ⟨[(pc - d, stk.length)], by simp only [succs, SeqC.insOf, Ins.kind, hd, if_true], List.mem_singleton.2 rfl⟩
  | jf d => cases h; exact ⟨_, rfl, List.mem_singleton.2 rfl⟩
  | copy k =>
    dsimp only [execIns] at h
    cases hk : stk[k]? with
    | none => rw [hk] at h; cases h
    | some v =>
      rw [hk] at h; cases h
      obtain ⟨hlt, _⟩ := List.getElem?_eq_some_iff.1 hk
      exact succs_of_need (a := k + 1) rfl hlt rfl rfl
  | swap k =>
    cases stk with
    | nil => cases h
    | cons top s =>
      dsimp only [execIns] at h
      split at h
      · cases h; exact succs_of_need (a := k + 1) rfl (by simp_all) rfl rfl
      · cases hk : s[k - 1]? with
        | none => rw [hk] at h; cases h
        | some other =>
          rw [hk] at h; cases h
          obtain ⟨hlt, _⟩ := List.getElem?_eq_some_iff.1 hk
          have hk1 : k ≠ 0 := by rintro rfl; simp_all
          exact succs_of_need (a := k + 1) rfl (by simp only [List.length_cons]; omega) rfl (by simp)
  -- nothing is demanded of the stack
  | nop | nil_ | true_ | false_ | constInt _ | constStr _ | loadG _ =>
    cases h; exact succs_of_fall rfl (Nat.zero_le _) rfl rfl
  -- one operand
  | storeG _ | popTop | unaryNot =>
    cases stk with
    | nil => cases h
    | cons v s => cases h; exact succs_of_fall rfl (Nat.le_add_left 1 _) rfl rfl
  | unaryNeg =>
    cases stk with
    | nil => cases h
    | cons v s => cases v <;> cases h; exact succs_of_fall rfl (Nat.le_add_left 1 _) rfl rfl
  | pjf d =>
    cases stk with
    | nil => cases h
    | cons v s => cases h; exact succs_of_condF (d := d) rfl (by cases v.truthy σ; exact .inl rfl; exact .inr rfl)
  | pjt d =>
    cases stk with
    | nil => cases h
    | cons v s => cases h; exact succs_of_condF (d := d) rfl (by cases v.truthy σ; exact .inr rfl; exact .inl rfl)
  -- two operands; the operation may fail
  | binary k | compare k =>
    rcases stk with _ | ⟨y, _ | ⟨x, s⟩⟩
    · cases h
    · cases h
    · dsimp only [execIns] at h
      split at h
      · cases h; exact succs_of_fall rfl (Nat.le_add_left 2 _) rfl rfl
      · cases h

/-! ### every run of C01's container machine on `compSeq p`: the heights are the certified ones -/

/-- **The certified heights are the machine's**: in every configuration `Seq.step` reaches on
    `compSeq p` from the initial one — after any number of steps, rounds of any range loop, `break`s
    and `continue`s — the machine's (offset, operand count) is a `Reach` state of the code object;
    hence (`seq_heights`) its operand count is `certSeq p`'s entry for the offset, the instruction
    about to run finds its operands, and the iterator of every enclosing range loop is in place. -/
theorem seq_machine_heights (p : N) (hin : inSeq p = true) (hfit : fitsSeq p = true) (a b : Cfg)
    (hs : Steps (compSeq p) a b) (ha : Reach (SeqC.toC04 (compSeq p)) ⟨a.pc, a.stk.length⟩) :
    Reach (SeqC.toC04 (compSeq p)) ⟨b.pc, b.stk.length⟩ := by
  induction hs with
  | refl => exact ha
  | @cons a b c hst _ ih =>
    apply ih
    unfold step at hst
    split at hst
    · cases hst
    · split at hst
      · rename_i i hi
        have hat : (SeqC.toC04 (compSeq p)).at a.pc = some (SeqC.insOf i) := by
          simp [SeqC.toC04, Code.at, hi]
        have hlt : a.pc < (SeqC.toC04 (compSeq p)).size := by
          rcases Nat.lt_or_ge a.pc (SeqC.toC04 (compSeq p)).size with h1 | h1
          · exact h1
          · simp [Code.at, Array.getElem?_eq_none h1] at hat
        obtain ⟨j, l0, hj, hl0⟩ := (seq_no_underflow p hin hfit _ ha).2 hlt
        simp only at hj hl0
        rw [hat] at hj
        cases hj
        obtain ⟨l, hl, hmem⟩ := seq_execIns_step i a b hst
          (by
            intro d hd
            subst hd
            simp only [succs, SeqC.insOf, Ins.kind] at hl0
            split at hl0
            · assumption
            · cases hl0)
          (by
            intro d m hd hnone
            subst hd
            simp [succs, SeqC.insOf, Ins.kind, hnone] at hl0)
        exact .step ha (.mk hat hl hmem)
      · cases hst

/-- the machine's operand count at every configuration it reaches from the start is the height
    the syntax tree names for that offset -/
theorem seq_machine_cert (p : N) (hin : inSeq p = true) (hfit : fitsSeq p = true) (b : Cfg) (σ0 : Seq.St)
    (hs : Steps (compSeq p) ⟨0, [], σ0⟩ b) : (certSeq p)[b.pc]? = some (some b.stk.length) :=
  (seq_heights p hin hfit _ (seq_machine_heights p hin hfit _ b hs .init)).2.1

/-! ### the operands `SeqC.toC04` drops are irrelevant to the checker -/

/-- `SeqC.toC04` produces code whose `LOAD_CONST` / `LOAD_GLOBAL` / `STORE_GLOBAL` operands are
    erased: it is a fixed point of `eraseIdx` (and `check_eraseIdx`: erasing never changes what
    `check` accepts), so "the real bytecode, erased, IS `SeqC.toC04 (compSeq p)`" is the tie the
    oracle evaluates -/
theorem eraseIdx_seq_toC04 (code : Seq.Code) : eraseIdx (SeqC.toC04 code) = SeqC.toC04 code := by
  simp only [eraseIdx, SeqC.toC04, List.map_toArray, List.map_map]
  congr 2
  apply List.map_congr_left
  intro s _
  cases s with
  | none => rfl
  | some i => cases i <;> rfl

/-! ### the guard `fitsSeq` cannot be dropped -/

/-- **The nesting guard is necessary**: without `fitsSeq`, `compile_balanced` is false on the
    container fragment too — the program `1 + (1 + (… + 1))` with 1024 additions is in the fragment
    (`inSeq`), and NO certificate is accepted for its code, because an execution reaches height
    1025 > `maxHeight` (all operands pending at once; no loop is involved). -/
theorem seq_compile_balanced_needs_fits :
    ¬ ∀ p, inSeq p = true → ∃ cert, check (SeqC.toC04 (compSeq p)) cert = true := by
  intro h
  obtain ⟨cert, hc⟩ := h (deepProg 1024) (SeqC.deepProg_inSeq _)
  have hcode : compSeq (deepProg 1024) = comp 0 0 false (deep 1024) := by
    simp [compSeq, deepProg, comp, pre, Frag.postName, Frag.isNilL, Frag.leaves]
  have hw : Win (compSeq (deepProg 1024)) 0 (comp 0 0 false (deep 1024)) := by
    rw [hcode]; exact Win.self _
  have r := SeqC.deep_reach false _ 1024 0 0 hw .init
  have := (check_sound _ _ hc _ r).2.2
  simp only [maxHeight] at this
  omega

/-- the full statement (no nesting guard) is false -/
theorem seq_compile_balanced_full_false : ¬ seq_compile_balanced_full := by
  intro h
  apply seq_compile_balanced_needs_fits
  intro p hin
  exact ⟨_, h p hin⟩

/-! ### non-vacuity: concrete programs of the container fragment with their concrete certificates;
    the hypotheses hold and the statements evaluate -/

private def SL (xs : List N) : N := N.ofList xs

/-- `n := 0; for k := range 4 { for v in [1, 2, 3] { if v == 1 { continue }; if v == 3 { break }; n += v };
    if k == 2 { break } }; n` → 6: a range loop nested in a range loop, `continue` and `break` in
    the inner one, `break` in the outer one -/
def exSeqNestBC : N :=
  .prog (SL [.var "n" (.int 0),
    .forrange "k" "" (.int 4) (.block (SL [
      .forin "v" (.list (SL [.int 1, .int 2, .int 3])) (.block (SL [
        .expr (.if_ (.infix .eq (.id "v") (.int 1)) (.block (SL [.continue_])) .none_),
        .expr (.if_ (.infix .eq (.id "v") (.int 3)) (.block (SL [.break_])) .none_),
        .assign "n" .add (.id "v")])),
      .expr (.if_ (.infix .eq (.id "k") (.int 2)) (.block (SL [.break_])) .none_)])),
    .expr (.id "n")])

/-- `a := [1, 2, 3]; for i := range a { a[i] += 10 }; a[0]` → 11: a compound item assignment
    (container and index evaluated twice) inside a range loop -/
def exSeqCompound : N :=
  .prog (SL [.var "a" (.list (SL [.int 1, .int 2, .int 3])),
    .forrange "i" "" (.id "a") (.block (SL [.setitem .add (.id "a") (.id "i") (.int 10)])),
    .expr (.index (.id "a") (.int 0))])

/-- the theorem's conclusion, evaluated -/
def seqAccepted (p : N) : Bool := check (SeqC.toC04 (compSeq p)) (certSeq p)

example : inSeq exSum = true ∧ fitsSeq exSum = true ∧ SeqC.depth exSum ≤ 10 := by decide +kernel
example : inSeq exSeqNestBC = true ∧ fitsSeq exSeqNestBC = true := by decide +kernel
example : inSeq exSeqCompound = true ∧ fitsSeq exSeqCompound = true := by decide +kernel
example : (evalSeq 200 exSeqNestBC).1 = .val (.int 6) ∧ (evalSeq 200 exSeqCompound).1 = .val (.int 11) := by decide +kernel

set_option maxRecDepth 8000 in
/-- sum by range, `s := 0; for i, v := range [10, 20, 30] { s += v + i }; s` (C01's `exSum`), is
    accepted with its concrete certificate: the list literal holds 1, 2, 3 items (`BuildList 3` at
    3), `GetIter` and `ForIter d 2` at 1, the two loop values stored at 3 and 2, the BODY at 1 (one
    above the statement level 0: the iterator), its operands up to 4, the body's value popped at 2,
    the backward jump at 1; after the loop 0 again; the program ends with ONE value -/
example : seqAccepted exSum = true ∧ (certSeq exSum).toList =
    [some 0, none, some 1, none, some 0, none, some 1, none, some 2, none, some 3, none, some 1, some 1, none, none,
     some 3, none, some 2, none, some 1, none, some 2, none, some 3, none, some 4, none, some 3, none, some 2, none,
     some 1, some 2, some 1, none, some 0, none, some 1] := by decide +kernel

set_option maxRecDepth 16000 in
/-- the nested range loops with `continue` and `break`: the inner body runs at 2 (two iterators);
    the inner `break` is `PopTop` at 2, `JumpForward` at 1; the outer `break` `PopTop` at 1,
    `JumpForward` at 0; the `continue` jumps at 2 -/
example : seqAccepted exSeqNestBC = true ∧ (certSeq exSeqNestBC).toList =
    [some 0, none, some 1, none, some 0, none, some 1, some 1, none, none, some 2, none, some 1, none, some 2, none,
     some 3, none, some 4, none, some 2, some 2, none, none, some 3, none, some 2, none, some 3, none, some 4, none,
     some 3, none, some 2, none, some 2, some 3, none, some 2, some 3, some 2, none, some 3, none, some 4, none, some 3,
     none, some 2, some 1, none, some 2, some 3, none, some 2, some 3, some 2, none, some 3, none, some 4, none, some 3,
     none, some 2, some 3, some 2, none, some 1, none, some 2, none, some 3, none, some 2, none, some 1, some 0, none,
     some 1, some 2, none, some 1, some 2, some 1, none, some 0, none, some 1] := by decide +kernel

set_option maxRecDepth 8000 in
/-- `a[i] += 10` inside a range loop: container 1, index 2, `BinarySubscr` 3, right-hand side 2,
    `BinaryOp` 3, container and index again 2, 3, `StoreSubscr` 4 (its three operands on top of the
    iterator), back to 1 -/
example : seqAccepted exSeqCompound = true ∧ (certSeq exSeqCompound).toList =
    [some 0, none, some 1, none, some 2, none, some 3, none, some 1, none, some 0, none, some 1, some 1, none, none,
     some 2, none, some 1, none, some 2, none, some 3, some 2, none, some 3, none, some 2, none, some 3, none, some 4,
     some 1, some 2, some 1, none, some 0, none, some 1, none, some 2, some 1] := by decide +kernel

/-- C01's other range examples (break + continue in one loop, a body that writes to the list it
    ranges over, `break` in a `for v in` nested in `for k := range 4`) -/
example : seqAccepted exBreak = true ∧ seqAccepted exMutate = true ∧ seqAccepted exNest2 = true := by decide +kernel

example : check (SeqC.toC04 (compSeq exSeqNestBC)) (certSeq exSeqNestBC) = true :=
  seq_compile_balanced exSeqNestBC (by decide +kernel) (by decide +kernel)

/-- the execution theorems are not vacuous: the entry state is reachable -/
example : (certSeq exSeqCompound)[0]? = some (some 0) :=
  (seq_heights exSeqCompound (by decide +kernel) (by decide +kernel) ⟨0, 0⟩ .init).2.1

/-- outside the fragment the syntax-tree certificate is refused as it should be: a `break` under a
    pending operand inside a range loop (C01's `exUnder`, C04's known finding `C04-ctl-under-operands`) -/
example : inSeq exUnder = false ∧ seqAccepted exUnder = false := by decide +kernel

/-! ### a `break` that leaves the iterator on the stack is rejected -/

/-- `for v in xs { break }` as the fragment compiles it: … `ForIter 12 3; StoreGlobal v;
    PopTop; JumpForward 6; Nil; PopTop; JumpBackward 10; Nil` -/
def exSeqBreakOnly : N := .prog (SL [.forin "v" (.id "xs") (.block (SL [.break_]))])

/-- the same loop with the `PopTop` of the `break` LEFT OUT (and the three jump distances that
    span it shortened by one): the `break` jumps out of the loop with the iterator still on the
    stack -/
def keepIterAtBreak : Seq.Code :=
  [some (.loadG "xs"), none, some .getIter, some (.forIter 11 3), none, none, some (.storeG "v"), none,
   some (.jf 6), none, some .nil_, some .popTop, some (.jb 9), none, some .nil_]

example : seqAccepted exSeqBreakOnly = true ∧
    compSeq exSeqBreakOnly =
      [some (.loadG "xs"), none, some .getIter, some (.forIter 12 3), none, none, some (.storeG "v"), none,
       some .popTop, some (.jf 6), none, some .nil_, some .popTop, some (.jb 10), none, some .nil_] ∧
    (certSeq exSeqBreakOnly).toList =
      [some 0, none, some 1, some 1, none, none, some 2, none, some 1, some 0, none, some 1, some 2, some 1, none,
       some 0, some 1] := by decide +kernel

/-- the variant is rejected with the certificate of the correct code laid over it (whichever of
    the two heights, 0 or 1, the exit of the loop is given), and the inference finds the two paths -/
example :
    check (SeqC.toC04 keepIterAtBreak)
      #[some 0, none, some 1, some 1, none, none, some 2, none, some 1, none, some 1, some 2, some 1, none, some 0, some 1] = false ∧
    check (SeqC.toC04 keepIterAtBreak)
      #[some 0, none, some 1, some 1, none, none, some 2, none, some 1, none, some 1, some 2, some 1, none, some 1, some 2] = false ∧
    (match infer (SeqC.toC04 keepIterAtBreak) with | .ok _ => false | .error _ => true) = true := by decide +kernel

/-- **no certificate whatsoever** makes the checker accept the loop whose `break` keeps the
    iterator: the slot after the loop is reached with height 0 by `ForIter`'s exhaustion edge and
    with height 1 by the `break` -/
theorem seq_keep_iterator_at_break_rejected (cert : Cert) : check (SeqC.toC04 keepIterAtBreak) cert = false := by
  cases hc : check (SeqC.toC04 keepIterAtBreak) cert with
  | false => rfl
  | true =>
    exfalso
    have r0 : Reach (SeqC.toC04 keepIterAtBreak) ⟨0, 0⟩ := .init
    have r1 : Reach (SeqC.toC04 keepIterAtBreak) ⟨2, 1⟩ :=
      .step r0 (.mk (i := ⟨.loadGlobal, 0, 0⟩) (l := [(2, 1)]) rfl rfl (by simp))
    have r2 : Reach (SeqC.toC04 keepIterAtBreak) ⟨3, 1⟩ :=
      .step r1 (.mk (i := ⟨.getIter, 0, 0⟩) (l := [(3, 1)]) rfl rfl (by simp))
    have r3 : Reach (SeqC.toC04 keepIterAtBreak) ⟨14, 0⟩ :=
      .step r2 (.mk (i := ⟨.forIter, 11, 3⟩) (l := [(14, 0), (6, 2)]) rfl rfl (by simp))
    have r4 : Reach (SeqC.toC04 keepIterAtBreak) ⟨6, 2⟩ :=
      .step r2 (.mk (i := ⟨.forIter, 11, 3⟩) (l := [(14, 0), (6, 2)]) rfl rfl (by simp))
    have r5 : Reach (SeqC.toC04 keepIterAtBreak) ⟨8, 1⟩ :=
      .step r4 (.mk (i := ⟨.storeGlobal, 0, 0⟩) (l := [(8, 1)]) rfl rfl (by simp))
    have r6 : Reach (SeqC.toC04 keepIterAtBreak) ⟨14, 1⟩ :=
      .step r5 (.mk (i := ⟨.jumpForward, 6, 0⟩) (l := [(14, 1)]) rfl rfl (by simp))
    have := loop_height_constant _ cert hc _ _ r3 r6 rfl
    simp at this

end Risor.C04
