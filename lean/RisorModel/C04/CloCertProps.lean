import RisorModel.C04.CloCertLemmas
import RisorModel.C01.CloProps
/-!
C04 on C01's CLOSURE fragment F5 — property theorems.

`compile_balanced` (DESIGN.md C04: statements are stack-neutral, expressions push exactly one
value, the stack height of every code object is statically determined), for all programs of the
closure fragment at once.  `Clo.compClo p` compiles a program of the fragment (`inClo`; the theorems
need only its shape `inCloShape`: everything of F1–F4 in the main code AND in function bodies, plus
anonymous function literals as EXPRESSIONS anywhere in a function body — returned, stored, passed as
arguments, called immediately — whose bodies read and write the parameters and locals of the
enclosing function) into SEVERAL code objects: the main code, one per function of the main code and
one per literal nested in a function.  EVERY one of them is accepted by the verified checker
`check`, with the certificate `certClo p` computed from the syntax tree alone (`CloC.hts`,
`CloC.htsFn`):

  * a literal without captures is one `LoadConst`; a literal with `k` captures is `k` times
    `MakeCell` (each pushes one cell: heights `h, h+1, …, h+k-1`), then `LoadClosure fn k` at
    height `h + k`, which pops the `k` cells and pushes ONE closure: the literal ends at `h + 1`
    like every expression;
  * `LoadFree` pushes one value, `StoreFree` pops one, like the accesses to locals and globals;
  * a closure's body starts at height 0 whatever the caller (possibly a function that received the
    closure as an argument, long after the maker returned) has on its stack, and it leaves only
    through `ReturnValue` (`clo_body_returns_one`).

The effect the checker's table (`Ins.kind`) gives the four closure instructions is the effect of
C01's machine (`Clo.execIns`) — `makeCell_effect`, `loadClosure_effect`, `loadFree_effect`,
`storeFree_effect`; `execIns_step` says the same of EVERY instruction of the fragment: one step of
the machine inside an activation is one `Step` of the height abstraction `check_sound` is about.

Combined with `check_sound`: in every execution of every code object, of any length, the
operand-stack height at an offset is the one the syntax tree names (`clo_heights`), no instruction
underflows its frame (`clo_no_underflow`), no loop in the main code, in a function or in a closure
body can grow the stack (`clo_loop_heights`), and a finished run leaves exactly its result
(`clo_finished_run_leaves_result`).

`clo_machine_heights` / `clo_machine_no_underflow` carry this from one frame to WHOLE runs of C01's
machine (`Clo.mstep` on `compClo p`: activations, suspended callers, closures called after their
makers returned): in every state the machine reaches, the running activation and every suspended
caller are at `Reach` states of their code objects.

The one hypothesis besides membership in the fragment is `fitsClo p`: the operand NESTING of every
code object stays within the frame's height limit; `CloC.depthProg p ≤ maxHeight`, a bound by
recursion on the syntax, suffices (`clo_compile_balanced_of_depth`), and the guard cannot be dropped
(`clo_compile_balanced_needs_fits`; the full statement without it is `clo_compile_balanced_full`).

The objects of the theorems, `CloC.codes p`, are compared with the real compiler's bytecode on
every run: `compClo p` assembled = `compiler.Compile`, every code object (C01's link A), and
`eraseIdxC real = toC04 …` per code object together with acceptance of the syntax-tree
certificate by `check` on the REAL bytecode and the comparison of the certified heights with the
real VM's in every frame (`CloCertOracle.lean`, harness/c04clo.go).  `check_eraseIdxC` shows that
the erased operands are irrelevant to `check`.
-/
namespace Risor.C04
open Risor.C01 Risor.C01.Clo

/-! ### the code objects -/

/-- `CloC.codes p` IS the list of all code objects of `compClo p`: the main code, then the code
    of every compiled function (functions of the main code and nested literals), each as a C04
    code object -/
theorem clo_codes_eq (p : N) :
    CloC.codes p = CloC.toC04 true (compClo p).main :: (compClo p).funs.map (fun fc => CloC.toC04 false fc.code) := by
  simp only [CloC.codes, CloC.mainCode, compClo, List.map_map]
  rfl

theorem certClo_length (p : N) : (certClo p).length = (CloC.codes p).length := by
  simp [certClo, CloC.codes]

theorem clo_shape_parts (p : N) (hin : inCloShape p = true) :
    wf p = true ∧ escapes p = false ∧ bodiesWF p = true ∧ ∃ s, p = .prog s := by
  cases p with
  | prog s =>
    simp only [inCloShape, Bool.and_eq_true] at hin
    have h := hin.1
    simp only [wf, Bool.and_eq_true, Bool.not_eq_true'] at h
    exact ⟨hin.1, by simpa [escapes] using h.1.2, hin.2, s, rfl⟩
  | _ => simp [inCloShape] at hin

theorem fitsClo_parts (p : N) (hfit : fitsClo p = true) :
    (CloC.hts Sc.main 0 p).all (· ≤ maxHeight) = true ∧
      ∀ d, d ∈ funsOf p → (CloC.htsFn d.sc d.body).all (· ≤ maxHeight) = true := by
  simp only [fitsClo, Bool.and_eq_true] at hfit
  exact ⟨hfit.1, fun d hd => List.all_eq_true.mp hfit.2 d hd⟩

/-! ### the certificates computed from the syntax tree are accepted (on the shape of the fragment) -/

/-- the main code object with the certificate `CloC.mainCert p` -/
theorem clo_main_cert_accepted (p : N) (hin : inCloShape p = true) (hfit : fitsClo p = true) :
    check (CloC.mainCode p) (CloC.mainCert p) = true := by
  obtain ⟨hw, hesc, _, s, hp⟩ := clo_shape_parts p hin
  let G := CloC.mainCtx p (fitsClo_parts p hfit).1
  have hC : CloC.mainCode p = G.C := rfl
  have hcert : CloC.mainCert p = G.cert := rfl
  have hcode : G.code = comp Sc.main 0 0 p := rfl
  have hH : G.H = CloC.hts Sc.main 0 p := rfl
  obtain ⟨i, c, t, e1, e2⟩ := CloC.head_comp (ls := Sc.main) p hw 0 0 0
  have hsize : G.code.length = size Sc.main p := by rw [hcode, comp_length]
  have h0 : G.code[0]? = some (some i) := by rw [hcode, e1]; rfl
  have hH0 : G.H[0]? = some 0 := by rw [hH, e2]; rfl
  have hat : G.At 0 (comp Sc.main 0 0 p) (CloC.hts Sc.main 0 p) := ⟨Win.self _, Win.self _⟩
  have hex : CloC.exitD p = 1 := by subst hp; simp [CloC.exitD, isUnitNode]
  have hall := (CloC.ok_all (ls := Sc.main) G p).1 hw 0 0 0 0 hat
    (.inr ⟨by rw [hsize]; omega, by rw [hex]; rfl⟩) (by intro h; rw [hesc] at h; cases h)
  rw [hC, hcert]
  refine Ctx.check_of_okwin i h0 hH0 ?_ (.inr ⟨rfl, rfl⟩)
  rw [hsize]
  exact hall

/-- the code object of a function literal — a function of the main code or a literal nested in
    a function body, with or without captures — with the certificate `CloC.fnCert d` -/
theorem clo_fn_cert_accepted (p : N) (hin : inCloShape p = true) (hfit : fitsClo p = true)
    (d : FDecl) (hd : d ∈ funsOf p) : check (CloC.fnCode d) (CloC.fnCert d) = true := by
  obtain ⟨_, _, hb, _⟩ := clo_shape_parts p hin
  have hwb : wfBody d.body = true := by
    unfold bodiesWF at hb
    exact List.all_eq_true.mp hb d hd
  simp only [wfBody, Bool.and_eq_true, Bool.not_eq_true'] at hwb
  obtain ⟨⟨hl, hx⟩, hw⟩ := hwb
  let G := CloC.fnCtx d ((fitsClo_parts p hfit).2 d hd)
  have hC : CloC.fnCode d = G.C := rfl
  have hcert : CloC.fnCert d = G.cert := rfl
  have hcode : G.code = compFnStmts d.sc d.body := rfl
  have hH : G.H = CloC.htsFn d.sc d.body := rfl
  obtain ⟨i, c, t, e1, e2⟩ := CloC.head_fnStmts d.sc d.body hl hw
  have h0 : G.code[0]? = some (some i) := by rw [hcode, e1]; rfl
  have hH0 : G.H[0]? = some 0 := by rw [hH, e2]; rfl
  have hat : G.At 0 (compFnStmts d.sc d.body) (CloC.htsFn d.sc d.body) := ⟨Win.self _, Win.self _⟩
  rw [hC, hcert]
  exact Ctx.check_of_okwin i h0 hH0 (CloC.ok_fnStmts G d.sc d.body hl hw hx 0 hat) (.inl rfl)

theorem mem_zip_self {α : Type} : ∀ (l : List α) (a b : α), (a, b) ∈ l.zip l → a = b ∧ a ∈ l := by
  intro l
  induction l with
  | nil => intro a b h; cases h
  | cons y ys ih =>
    intro a b h
    simp only [List.zip_cons_cons, List.mem_cons, Prod.mk.injEq] at h
    rcases h with ⟨h1, h2⟩ | h
    · exact ⟨by rw [h1, h2], by rw [h1]; exact List.mem_cons_self ..⟩
    · exact ⟨(ih a b h).1, List.mem_cons_of_mem _ (ih a b h).2⟩

/-- every code object, paired with its certificate in `certClo p`, is accepted -/
theorem clo_certs_accepted (p : N) (hin : inCloShape p = true) (hfit : fitsClo p = true) :
    ∀ x, x ∈ (CloC.codes p).zip (certClo p) → check x.1 x.2 = true := by
  intro x hx
  simp only [CloC.codes, certClo, List.zip_cons_cons, List.mem_cons] at hx
  rcases hx with hx | hx
  · subst hx; exact clo_main_cert_accepted p hin hfit
  · rw [List.zip_map, List.mem_map] at hx
    obtain ⟨⟨d1, d2⟩, hmem, rfl⟩ := hx
    obtain ⟨rfl, hd⟩ := mem_zip_self _ _ _ hmem
    exact clo_fn_cert_accepted p hin hfit d1 hd

/-! ### `compile_balanced` for the closure fragment -/

/-- the full statement, WITHOUT the nesting guard: false (`clo_compile_balanced_needs_fits`) — an
    expression nested deeper than the frame's height limit overflows whatever the compiler does -/
def clo_compile_balanced_full : Prop :=
  ∀ p, inClo p = true → ∀ x, x ∈ (CloC.codes p).zip (certClo p) → check x.1 x.2 = true

/-- **`compile_balanced` for the closure fragment**: for every program of C01's closure fragment
    F5 whose operand nesting fits the frame, EVERY code object of `compClo p` — the main code, every
    function of the main code and every literal nested in a function body (`CloC.codes p`, which IS
    the list of code objects of `compClo p`: `clo_codes_eq`) — carries the certificate `certClo p`
    computes for it from the syntax tree (one per code object, in the same order), and the verified
    checker accepts it. -/
theorem clo_compile_balanced (p : N) (hin : inClo p = true) (hfit : fitsClo p = true) :
    (certClo p).length = (CloC.codes p).length ∧
    ∀ x, x ∈ (CloC.codes p).zip (certClo p) → check x.1 x.2 = true :=
  ⟨certClo_length p, clo_certs_accepted p (inClo_shape p hin) hfit⟩

/-- the same on the SHAPE of the fragment alone (no scoping condition is needed: the heights do
    not depend on which variable an instruction names) -/
theorem clo_compile_balanced_shape (p : N) (hin : inCloShape p = true) (hfit : fitsClo p = true) :
    ∀ c, c ∈ CloC.codes p → ∃ cert, check c cert = true := by
  intro c hc
  simp only [CloC.codes, List.mem_cons, List.mem_map] at hc
  rcases hc with hc | ⟨d, hd, hc⟩
  · subst hc; exact ⟨_, clo_main_cert_accepted p hin hfit⟩
  · subst hc; exact ⟨_, clo_fn_cert_accepted p hin hfit d hd⟩

/-- every code object has an accepted certificate -/
theorem clo_compile_balanced_exists (p : N) (hin : inClo p = true) (hfit : fitsClo p = true) :
    ∀ c, c ∈ CloC.codes p → ∃ cert, check c cert = true :=
  clo_compile_balanced_shape p (inClo_shape p hin) hfit

/-- the same, spelled on `compClo p` itself: its main code and the code of each of its compiled
    functions (top-level functions and nested literals alike) -/
theorem clo_compile_balanced_compClo (p : N) (hin : inClo p = true) (hfit : fitsClo p = true) :
    (∃ cert, check (CloC.toC04 true (compClo p).main) cert = true) ∧
    ∀ fc, fc ∈ (compClo p).funs → ∃ cert, check (CloC.toC04 false fc.code) cert = true := by
  have h := clo_compile_balanced_exists p hin hfit
  rw [clo_codes_eq] at h
  refine ⟨h _ (List.mem_cons_self ..), ?_⟩
  intro fc hfc
  exact h _ (List.mem_cons_of_mem _ (List.mem_map.mpr ⟨fc, hfc, rfl⟩))

/-- **The same with a purely syntactic guard**: `CloC.depthProg p`, the operand nesting depth of
    the main code and of every function body by recursion on the syntax (operators holding their
    left value, a `switch` holding its subject, a call holding its callee and earlier arguments,
    a literal holding the cells of its captures), within the frame's limit.  The iteration count of
    loops, the recursion depth of calls and the number of closures made play no role. -/
theorem clo_compile_balanced_of_depth (p : N) (hin : inClo p = true) (hd : CloC.depthProg p ≤ maxHeight) :
    ∀ x, x ∈ (CloC.codes p).zip (certClo p) → check x.1 x.2 = true :=
  (clo_compile_balanced p hin (CloC.fitsClo_of_depth p hd)).2

/-! ### corollaries: every execution of every code object -/

/-- **Heights are those of the syntax tree**: in every execution (any number of steps, any branch
    outcomes, any number of loop iterations) of any code object of the program, the operand-stack
    height at an offset is the one its certificate in `certClo p` names -/
theorem clo_heights (p : N) (hin : inClo p = true) (hfit : fitsClo p = true)
    (x : Code × Cert) (hx : x ∈ (CloC.codes p).zip (certClo p)) (s : St) (hr : Reach x.1 s) :
    s.pc ≤ x.1.size ∧ x.2[s.pc]? = some (some s.h) ∧ s.h ≤ maxHeight :=
  check_sound _ _ ((clo_compile_balanced p hin hfit).2 x hx) s hr

/-- **No underflow**: no instruction of any code object — main code, function, closure body — ever
    pops below its frame's base (`MakeCell` needs nothing, `LoadClosure fn k` always finds its `k`
    cells, `StoreFree` its value), control never lands on an operand slot, and the frame's height
    never exceeds `maxHeight` -/
theorem clo_no_underflow (p : N) (hin : inClo p = true) (hfit : fitsClo p = true)
    (c : Code) (hc : c ∈ CloC.codes p) (s : St) (hr : Reach c s) :
    s.h ≤ maxHeight ∧ (s.pc < c.size → ∃ i l, c.at s.pc = some i ∧ succs i s.pc s.h = some l) := by
  obtain ⟨cert, hcert⟩ := clo_compile_balanced_exists p hin hfit c hc
  exact ⟨(check_sound c cert hcert s hr).2.2, no_underflow c cert hcert s hr⟩

/-- **Every loop head has one height**: in every execution of ANY code object of ANY program of
    the closure fragment, two visits of one offset — the head of a loop in a closure's body on its
    first and on its ten-millionth iteration, however many closures the loop makes — see the same
    operand-stack height. -/
theorem clo_loop_heights (p : N) (hin : inClo p = true) (hfit : fitsClo p = true)
    (c : Code) (hc : c ∈ CloC.codes p) (s t : St) (hs : Reach c s) (ht : Reach c t) (hpc : s.pc = t.pc) :
    s.h = t.h := by
  obtain ⟨cert, hcert⟩ := clo_compile_balanced_exists p hin hfit c hc
  exact loop_height_constant c cert hcert s t hs ht hpc

/-- **A finished run leaves exactly its result**: control reaches the end of a code object only in
    the main code, and then with exactly one value on the stack; a function or closure body never
    falls off its end -/
theorem clo_finished_run_leaves_result (p : N) (hin : inClo p = true) (hfit : fitsClo p = true)
    (c : Code) (hc : c ∈ CloC.codes p) (s : St) (hr : Reach c s) (hend : s.pc = c.size) :
    c.isMain = true ∧ s.h = 1 := by
  obtain ⟨cert, hcert⟩ := clo_compile_balanced_exists p hin hfit c hc
  exact finished_run_leaves_result c cert hcert s hr hend

/-- the main code, with its certificate named -/
theorem clo_main_heights (p : N) (hin : inClo p = true) (hfit : fitsClo p = true) (s : St)
    (hr : Reach (CloC.mainCode p) s) :
    s.pc ≤ (CloC.mainCode p).size ∧ (CloC.mainCert p)[s.pc]? = some (some s.h) ∧ s.h ≤ maxHeight :=
  check_sound _ _ (clo_main_cert_accepted p (inClo_shape p hin) hfit) s hr

/-- function and closure bodies: whatever the caller's stack, the callee's own operand count at
    an offset is the one `CloC.htsFn` names -/
theorem clo_fn_heights (p : N) (hin : inClo p = true) (hfit : fitsClo p = true) (d : FDecl)
    (hd : d ∈ funsOf p) (s : St) (hr : Reach (CloC.fnCode d) s) :
    s.pc ≤ (CloC.fnCode d).size ∧ (CloC.fnCert d)[s.pc]? = some (some s.h) ∧ s.h ≤ maxHeight :=
  check_sound _ _ (clo_fn_cert_accepted p (inClo_shape p hin) hfit d hd) s hr

/-- a slot of a translated code object holds the translation of an instruction of the fragment -/
theorem clo_toC04_at {m : Bool} {code : Clo.Code} {pc : Nat} {i : Ins} (h : (CloC.toC04 m code).at pc = some i) :
    ∃ j, code[pc]? = some (some j) ∧ i = CloC.insOf j := by
  simp only [CloC.toC04, Code.at, List.getElem?_toArray, List.getElem?_map] at h
  cases hc : code[pc]? with
  | none => simp [hc] at h
  | some s =>
    cases s with
    | none => simp [hc] at h
    | some j => simp [hc] at h; exact ⟨j, rfl, h.symm⟩

/-- an instruction without successor is a `ReturnValue` (the fragment's code has no `Halt`) -/
theorem clo_no_succ_is_ret (j : Clo.FIns) (pc h : Nat) (hs : succs (CloC.insOf j) pc h = some []) :
    (CloC.insOf j).kind = .ret := by
  cases j <;> simp [succs, CloC.insOf, Ins.kind] at hs ⊢ <;> (try split at hs) <;> simp_all

/-- **A function or closure body returns exactly through `ReturnValue`, with its result on the
    stack**: control never falls off the end of the code; at every reachable state there is an
    instruction with enough operands; a state without successor is a `ReturnValue`, and every
    `ReturnValue` is executed with at least one value. -/
theorem clo_body_returns_one (p : N) (hin : inClo p = true) (hfit : fitsClo p = true) (d : FDecl)
    (hd : d ∈ funsOf p) (s : St) (hr : Reach (CloC.fnCode d) s) :
    s.pc < (CloC.fnCode d).size ∧
    ∃ i l, (CloC.fnCode d).at s.pc = some i ∧ succs i s.pc s.h = some l ∧
      (l = [] → i.kind = .ret) ∧ (i.kind = .ret → 1 ≤ s.h) := by
  have hc := clo_fn_cert_accepted p (inClo_shape p hin) hfit d hd
  have hle := (check_sound _ _ hc s hr).1
  have hlt : s.pc < (CloC.fnCode d).size := by
    rcases Nat.lt_or_ge s.pc (CloC.fnCode d).size with h | h
    · exact h
    · have := (finished_run_leaves_result _ _ hc s hr (by omega)).1
      cases this
  obtain ⟨i, l, hi, hl⟩ := no_underflow _ _ hc s hr hlt
  refine ⟨hlt, i, l, hi, hl, ?_, fun hk => return_has_value _ _ hc s hr i hi hk⟩
  intro hnil
  obtain ⟨j, _, rfl⟩ := clo_toC04_at hi
  rw [hnil] at hl
  exact clo_no_succ_is_ret j _ _ hl

/-! ### the checker's effect table agrees with the machine of `Clo.lean` on the closure instructions

`Ins.kind` gives `MAKE_CELL` the effect `.fall 0 1`, `LOAD_CLOSURE c n` the effect `.fall n 1`,
`LOAD_FREE` `.fall 0 1`, `STORE_FREE` `.fall 1 0`; `succs` turns a kind into the successor
`(pc', height')`.  Each lemma says: whenever `Clo.execIns` executes the instruction, the machine's
next position and operand-stack length are EXACTLY the checker's successor — and where the checker
sees an underflow (`succs = none`) the machine does not execute the instruction either. -/

theorem popCells_length : ∀ (n : Nat) (s : List V) (acc cs : List Cell) (rest : List V),
    popCells n s acc = some (cs, rest) → s.length = n + rest.length
  | 0, s, acc, cs, rest, h => by simp only [popCells, Option.some.injEq, Prod.mk.injEq] at h; rw [h.2]; omega
  | n + 1, [], acc, cs, rest, h => by simp [popCells] at h
  | n + 1, v :: s, acc, cs, rest, h => by
    cases v with
    | cell a x =>
      simp only [popCells] at h
      have := popCells_length n s _ cs rest h
      simp only [List.length_cons]; omega
    | _ => simp [popCells] at h

theorem popCells_short : ∀ (n : Nat) (s : List V) (acc : List Cell), s.length < n → popCells n s acc = none
  | 0, s, acc, h => by omega
  | n + 1, [], acc, _ => rfl
  | n + 1, v :: s, acc, h => by
    cases v with
    | cell a x =>
      simp only [popCells]
      exact popCells_short n s _ (by simp only [List.length_cons] at h; omega)
    | _ => rfl

/-- `MakeCell x 0`: always executes; pops nothing, pushes ONE value (the cell) -/
theorem makeCell_effect (x : String) (c : Cfg) :
    ∃ c', execIns (.makeCell x) c = .ok c' ∧ c'.stk.length = c.stk.length + 1 ∧
      succs (CloC.insOf (.makeCell x)) c.pc c.stk.length = some [(c'.pc, c'.stk.length)] := by
  refine ⟨{ c with pc := c.pc + 3, stk := .cell c.σ.act.id x :: c.stk }, ?_, rfl, ?_⟩
  · simp [execIns]
  · simp [succs, CloC.insOf, Ins.kind, Ins.size, Op.operands]

/-- `LoadFree x`: always executes; pops nothing, pushes ONE value -/
theorem loadFree_effect (x : String) (c : Cfg) :
    ∃ c', execIns (.loadFree x) c = .ok c' ∧ c'.stk.length = c.stk.length + 1 ∧
      succs (CloC.insOf (.loadFree x)) c.pc c.stk.length = some [(c'.pc, c'.stk.length)] := by
  refine ⟨{ c with pc := c.pc + 2, stk := c.σ.sh.cells.get (c.σ.act.cellOf x).1 (c.σ.act.cellOf x).2 :: c.stk }, ?_, rfl, ?_⟩
  · simp [execIns]
  · simp [succs, CloC.insOf, Ins.kind, Ins.size, Op.operands]

/-- `StoreFree x`: executes exactly when the checker sees no underflow; pops ONE value -/
theorem storeFree_effect (x : String) (c : Cfg) :
    (∀ c', execIns (.storeFree x) c = .ok c' → c'.stk.length + 1 = c.stk.length ∧
      succs (CloC.insOf (.storeFree x)) c.pc c.stk.length = some [(c'.pc, c'.stk.length)]) ∧
    ((∃ c', execIns (.storeFree x) c = .ok c') ↔ succs (CloC.insOf (.storeFree x)) c.pc c.stk.length ≠ none) := by
  obtain ⟨pc, stk, σ⟩ := c
  cases stk with
  | nil => simp [execIns, succs, CloC.insOf, Ins.kind]
  | cons v s =>
    simp [execIns, succs, CloC.insOf, Ins.kind, Ins.size, Op.operands]

/-- `LoadClosure fn n`: whenever it executes it popped `n` values (the cells) and pushed ONE (the
    closure); with fewer than `n` values — where the checker sees an underflow — it does not execute -/
theorem loadClosure_effect (k : FnId) (n : Nat) (c : Cfg) :
    (∀ c', execIns (.loadClosure k n) c = .ok c' → n ≤ c.stk.length ∧ c'.stk.length = c.stk.length - n + 1 ∧
      succs (CloC.insOf (.loadClosure k n)) c.pc c.stk.length = some [(c'.pc, c'.stk.length)]) ∧
    (succs (CloC.insOf (.loadClosure k n)) c.pc c.stk.length = none → ∀ c', execIns (.loadClosure k n) c ≠ .ok c') := by
  obtain ⟨pc, stk, σ⟩ := c
  have hex : execIns (.loadClosure k n) ⟨pc, stk, σ⟩ =
      (match popCells n stk [] with
       | some (cs, rest) =>
         .ok { pc := pc + 3, stk := .clo σ.sh.next k cs :: rest, σ := { σ with sh := { σ.sh with next := σ.sh.next + 1 } } }
       | none => .error (.err "eval")) := by
    cases stk <;> rfl
  refine ⟨?_, ?_⟩
  · intro c' h
    rw [hex] at h
    cases hp : popCells n stk [] with
    | none => simp [hp] at h
    | some r =>
      obtain ⟨cs, rest⟩ := r
      simp only [hp, Except.ok.injEq] at h
      subst h
      have hl := popCells_length n stk [] cs rest hp
      have hle : n ≤ stk.length := by omega
      refine ⟨hle, by simp only [List.length_cons]; omega, ?_⟩
      simp only [succs, CloC.insOf, Ins.kind, Ins.size, Op.operands, hle, ↓reduceIte, List.length_cons]
      have : stk.length - n + 1 = rest.length + 1 := by omega
      rw [this]
  · intro hs c' h
    have hlt : stk.length < n := by
      simp only [succs, CloC.insOf, Ins.kind] at hs
      split at hs
      · cases hs
      · omega
    rw [hex, popCells_short n stk [] hlt] at h
    cases h

/-- **One step of C01's machine inside an activation is one step of the height abstraction**, for
    EVERY instruction of the fragment (`Call` / `ReturnValue` are not executed by `execIns`: they
    switch activations; a backward jump must stay inside the code, which `check` verifies): the
    machine's next position and operand-stack length are among the successors `succs` computes from
    `Ins.kind` — so `check_sound`'s `Reach` covers every run of `Clo.step` on a code object. -/
theorem execIns_step (i : Clo.FIns) (c c' : Cfg) (h : execIns i c = .ok c') (hjb : ∀ d, i = .jb d → d ≤ c.pc) :
    ∃ l, succs (CloC.insOf i) c.pc c.stk.length = some l ∧ (c'.pc, c'.stk.length) ∈ l := by
  obtain ⟨pc, stk, σ⟩ := c
  cases i with
  | makeCell x =>
    obtain ⟨c2, h1, _, h3⟩ := makeCell_effect x ⟨pc, stk, σ⟩
    rw [h1] at h; cases h
    exact ⟨_, h3, by simp⟩
  | loadFree x =>
    obtain ⟨c2, h1, _, h3⟩ := loadFree_effect x ⟨pc, stk, σ⟩
    rw [h1] at h; cases h
    exact ⟨_, h3, by simp⟩
  | storeFree x =>
    exact ⟨_, ((storeFree_effect x ⟨pc, stk, σ⟩).1 c' h).2, by simp⟩
  | loadClosure k n =>
    exact ⟨_, ((loadClosure_effect k n ⟨pc, stk, σ⟩).1 c' h).2.2, by simp⟩
  | jb d =>
    have hd : d ≤ pc := hjb d rfl
    cases h
    exact ⟨[(pc - d, stk.length)], by simp only [succs, CloC.insOf, Ins.kind, hd, if_true], List.mem_singleton.2 rfl⟩
  | jf d => cases h; exact ⟨_, rfl, List.mem_singleton.2 rfl⟩
  | call n | ret => cases stk <;> cases h
  | copy k =>
    dsimp only [execIns] at h
    cases hk : stk[k]? with
    | none => rw [hk] at h; cases h
    | some v =>
      rw [hk] at h; cases h
      obtain ⟨hlt, _⟩ := List.getElem?_eq_some_iff.1 hk
      exact succs_of_need (a := k + 1) rfl hlt rfl rfl
  | swap k =>
    cases stk with
    | nil => cases h
    | cons top s =>
      dsimp only [execIns] at h
      split at h
      · cases h; exact succs_of_need (a := k + 1) rfl (by simp_all) rfl rfl
      · cases hk : s[k - 1]? with
        | none => rw [hk] at h; cases h
        | some other =>
          rw [hk] at h; cases h
          obtain ⟨hlt, _⟩ := List.getElem?_eq_some_iff.1 hk
          have hk1 : k ≠ 0 := by rintro rfl; simp_all
          exact succs_of_need (a := k + 1) rfl (by simp only [List.length_cons]; omega) rfl (by simp)
  -- nothing is demanded of the stack
  | nop | nil_ | true_ | false_ | constInt _ | constStr _ | constFn _ | loadG _ | loadF _ =>
    cases h; exact succs_of_fall rfl (Nat.zero_le _) rfl rfl
  -- one operand
  | storeG _ | storeF _ | popTop | unaryNot =>
    cases stk with
    | nil => cases h
    | cons v s => cases h; exact succs_of_fall rfl (Nat.le_add_left 1 _) rfl rfl
  | unaryNeg =>
    cases stk with
    | nil => cases h
    | cons v s => cases v <;> cases h; exact succs_of_fall rfl (Nat.le_add_left 1 _) rfl rfl
  | pjf d =>
    cases stk with
    | nil => cases h
    | cons v s => cases h; exact succs_of_condF (d := d) rfl (by cases v.truthy; exact .inl rfl; exact .inr rfl)
  | pjt d =>
    cases stk with
    | nil => cases h
    | cons v s => cases h; exact succs_of_condF (d := d) rfl (by cases v.truthy; exact .inr rfl; exact .inl rfl)
  -- two operands; the operation may fail
  | binary k | compare k =>
    rcases stk with _ | ⟨y, _ | ⟨x, s⟩⟩
    · cases h
    · cases h
    · dsimp only [execIns] at h
      split at h
      · cases h; exact succs_of_fall rfl (Nat.le_add_left 2 _) rfl rfl
      · cases h

/-! ### every run of C01's machine on `compClo p`: the heights of ALL activations are certified

`check_sound` is about the height abstraction of ONE frame (`Reach`).  C01's machine `Clo.mstep`
runs a whole program: activations, suspended callers, calls of closures long after their makers
returned.  `clo_machine_heights` carries the statement over: in every state the machine reaches
from `M.init` on `compClo p`, the running activation's (offset, operand count) is a `Reach` state of
ITS code object, and every suspended caller is — with the result it is waiting for — a `Reach` state
of its own code object.  So the certified heights are the machine's operand counts in every
activation, and no instruction the machine executes finds fewer operands than the checker's effect
table demands. -/

/-- the C04 code object the activation `fn` of the machine runs (`none` = the main code) -/
def CloC.codeOfFn (p : N) (fn : Option FnId) : Code := CloC.toC04 fn.isNone ((compClo p).codeOf fn)

/-- the states `Clo.mstep` reaches from the initial state -/
inductive MReach (P : Prog) : M → Prop where
  | init : MReach P M.init
  | step {m m' : M} : MReach P m → mstep P m = .ok m' → MReach P m'

/-- the running activation and every suspended caller are at `Reach` states of their code objects
    (a suspended caller: at its return address, with the result of the call pushed) -/
def CloInv (p : N) (m : M) : Prop :=
  Reach (CloC.codeOfFn p m.fn) ⟨m.cfg.pc, m.cfg.stk.length⟩ ∧
  ∀ fr, fr ∈ m.frames → Reach (CloC.codeOfFn p fr.fn) ⟨fr.pc, fr.stk.length + 1⟩

theorem codeOfFn_mem (p : N) (fn : Option FnId) :
    CloC.codeOfFn p fn ∈ CloC.codes p ∨ (compClo p).codeOf fn = [] := by
  cases fn with
  | none => exact .inl (List.mem_cons_self ..)
  | some g =>
    simp only [CloC.codeOfFn, Prog.codeOf, Option.isNone_some]
    cases hf : (compClo p).find g with
    | none => exact .inr rfl
    | some fc =>
      left
      rw [clo_codes_eq]
      refine List.mem_cons_of_mem _ (List.mem_map.mpr ⟨fc, ?_, rfl⟩)
      unfold Prog.find at hf
      exact List.mem_of_find?_eq_some hf

theorem codeOfFn_at (p : N) (fn : Option FnId) (pc : Nat) (i : Clo.FIns)
    (h : ((compClo p).codeOf fn)[pc]? = some (some i)) : (CloC.codeOfFn p fn).at pc = some (CloC.insOf i) := by
  simp [CloC.codeOfFn, CloC.toC04, Code.at, h]

/-- the instruction the machine is about to execute has its operands (the checker's `succs` is
    defined at the machine's operand count) -/
theorem clo_inv_succs (p : N) (hin : inClo p = true) (hfit : fitsClo p = true) (fn : Option FnId) (pc h : Nat)
    (i : Clo.FIns) (hr : Reach (CloC.codeOfFn p fn) ⟨pc, h⟩) (hi : ((compClo p).codeOf fn)[pc]? = some (some i)) :
    ∃ l, succs (CloC.insOf i) pc h = some l := by
  rcases codeOfFn_mem p fn with hm | hm
  · have hat := codeOfFn_at p fn pc i hi
    have hlt : pc < (CloC.codeOfFn p fn).size := by
      rcases Nat.lt_or_ge pc (CloC.codeOfFn p fn).size with h1 | h1
      · exact h1
      · simp [Code.at, Array.getElem?_eq_none h1] at hat
    obtain ⟨j, l, hj, hl⟩ := ((clo_no_underflow p hin hfit _ hm ⟨pc, h⟩ hr).2 hlt)
    simp only at hj hl
    rw [hat] at hj
    cases hj
    exact ⟨l, hl⟩
  · rw [hm] at hi; simp at hi

/-- one step of the machine keeps every activation at a `Reach` state of its code object -/
theorem clo_inv_step (p : N) (hin : inClo p = true) (hfit : fitsClo p = true) (m m' : M)
    (hinv : CloInv p m) (hs : mstep (compClo p) m = .ok m') : CloInv p m' := by
  obtain ⟨hcur, hfr⟩ := hinv
  unfold mstep at hs
  split at hs
  · -- `Call n`: the caller is suspended after its `Call` with callee and arguments gone; the
    -- callee starts at offset 0 with an empty stack
    rename_i n hc
    obtain ⟨l, hl⟩ := clo_inv_succs p hin hfit m.fn _ _ _ hcur hc
    have hat := codeOfFn_at p m.fn _ _ hc
    unfold doCall at hs
    cases hd : m.cfg.stk.drop n with
    | nil => simp [hd] at hs
    | cons fv rest =>
      have hlen : m.cfg.stk.length = n + 1 + rest.length := by
        have := congrArg List.length hd
        simp only [List.length_drop, List.length_cons] at this
        omega
      simp only [hd] at hs
      split at hs
      · split at hs
        · cases hs
        · split at hs
          · cases hs
          · simp only [Except.ok.injEq] at hs
            subst hs
            refine ⟨.init, ?_⟩
            intro fr hfrm
            simp only [List.mem_cons] at hfrm
            rcases hfrm with rfl | hfrm
            · refine .step hcur (.mk (l := [(m.cfg.pc + 2, rest.length + 1)]) hat ?_ (by simp))
              simp only [succs, CloC.insOf, Ins.kind, Ins.size, Op.operands]
              rw [if_pos (by omega)]
              congr 3
              omega
            · exact hfr fr hfrm
      · cases hs
  · -- `ReturnValue`: the caller resumes with the result pushed
    unfold doRet at hs
    split at hs
    · rename_i v rest fr fs hstk hfrs
      simp only [Except.ok.injEq] at hs
      subst hs
      refine ⟨?_, ?_⟩
      · have := hfr fr (by rw [hfrs]; exact List.mem_cons_self ..)
        simpa using this
      · intro fr' hm'
        exact hfr fr' (by rw [hfrs]; exact List.mem_cons_of_mem _ hm')
    · cases hs
    · cases hs
  · -- any other instruction: one step inside the running activation
    rename_i hnc hnr
    cases hst : step ((compClo p).codeOf m.fn) m.cfg with
    | error e =>
      rw [hst] at hs
      cases e with
      | done v => simp only at hs; split at hs <;> cases hs
      | err c => cases hs
      | nonlocal => cases hs
    | ok c =>
      rw [hst] at hs
      simp only [Except.ok.injEq] at hs
      subst hs
      unfold step at hst
      split at hst
      · cases hst
      · split at hst
        · rename_i i hi
          obtain ⟨l0, hl0⟩ := clo_inv_succs p hin hfit m.fn _ _ _ hcur hi
          have hat := codeOfFn_at p m.fn _ _ hi
          obtain ⟨l, hl, hmem⟩ := execIns_step i m.cfg c hst (by
            intro d hd
            subst hd
            simp only [succs, CloC.insOf, Ins.kind] at hl0
            split at hl0
            · assumption
            · cases hl0)
          exact ⟨.step hcur (.mk hat hl hmem), hfr⟩
        · cases hst

/-- **The certified heights are the machine's, in every activation**: in every state C01's machine
    reaches on `compClo p` — after any number of steps, calls, returns, closures made and called —
    the running activation is at a `Reach` state of its code object and so is every suspended
    caller -/
theorem clo_machine_heights (p : N) (hin : inClo p = true) (hfit : fitsClo p = true) (m : M)
    (hr : MReach (compClo p) m) : CloInv p m := by
  induction hr with
  | init => exact ⟨.init, by intro fr h; cases h⟩
  | step _ hs ih => exact clo_inv_step p hin hfit _ _ ih hs

/-- **No run of the machine underflows**: in every state the machine reaches on `compClo p`, the
    operand count of the running activation is the height EVERY accepted certificate of its code
    object names for the current offset — `certClo p`'s —, it is within the frame's limit, and the
    instruction about to run finds the operands the effect table demands (`succs` is defined) -/
theorem clo_machine_no_underflow (p : N) (hin : inClo p = true) (hfit : fitsClo p = true) (m : M)
    (hr : MReach (compClo p) m) :
    (∀ cert, check (CloC.codeOfFn p m.fn) cert = true → cert[m.cfg.pc]? = some (some m.cfg.stk.length)) ∧
    (CloC.codeOfFn p m.fn ∈ CloC.codes p → m.cfg.stk.length ≤ maxHeight) ∧
    (∀ i, ((compClo p).codeOf m.fn)[m.cfg.pc]? = some (some i) →
      ∃ l, succs (CloC.insOf i) m.cfg.pc m.cfg.stk.length = some l) := by
  have hinv := (clo_machine_heights p hin hfit m hr).1
  refine ⟨fun cert hc => (check_sound _ cert hc _ hinv).2.1, ?_, ?_⟩
  · intro hm
    exact (clo_no_underflow p hin hfit _ hm _ hinv).1
  · intro i hi
    exact clo_inv_succs p hin hfit m.fn _ _ i hinv hi

/-! ### the operands `toC04` drops are irrelevant to the checker -/

theorem eraseInsC_kind (i : Ins) : (eraseInsC i).kind = i.kind ∧ (eraseInsC i).size = i.size := by
  obtain ⟨op, a, b⟩ := i
  cases op <;> exact ⟨rfl, rfl⟩

/-- erasing the pool / table / slot / free indices of `LOAD_CONST`, `LOAD_GLOBAL`, `STORE_GLOBAL`,
    `LOAD_FAST`, `STORE_FAST`, `LOAD_FREE`, `STORE_FREE` and the first operand of `MAKE_CELL` (local
    index) and of `LOAD_CLOSURE` (pool index; its cell count is kept) from a code object does not
    change what `check` accepts -/
theorem check_eraseIdxC (c : Code) (cert : Cert) : check (eraseIdxC c) cert = check c cert :=
  check_mapIns eraseInsC eraseInsC_kind c cert

/-- `CloC.toC04` produces erased code -/
theorem eraseIdxC_toC04 (m : Bool) (code : Clo.Code) : eraseIdxC (CloC.toC04 m code) = CloC.toC04 m code := by
  simp only [eraseIdxC, CloC.toC04, List.map_toArray, List.map_map]
  congr 2
  apply List.map_congr_left
  intro s _
  cases s with
  | none => rfl
  | some i => cases i <;> rfl

/-! ### the guard `fitsClo` cannot be dropped -/

/-- **The nesting guard is necessary**: without `fitsClo`, `compile_balanced` is false on the
    closure fragment too — the program `1 + (1 + (… + 1))` with 1024 additions is in the fragment
    (`inClo`), and NO certificate is accepted for its main code object, because an execution
    reaches height 1025 > `maxHeight` (all operands pending at once; no loop, call or closure is
    involved). -/
theorem clo_compile_balanced_needs_fits :
    ¬ ∀ p, inClo p = true → ∀ c, c ∈ CloC.codes p → ∃ cert, check c cert = true := by
  intro h
  obtain ⟨cert, hc⟩ := h (deepProg 1024) (CloC.deepProg_inClo _) (CloC.mainCode (deepProg 1024))
    (List.mem_cons_self ..)
  have hcode : (compClo (deepProg 1024)).main = comp Sc.main 0 0 (deep 1024) := by
    simp [compClo, deepProg, comp, pre, Frag.postName, Frag.isNilL, leaves, CloC.deep_not_named]
  have hw : Win (compClo (deepProg 1024)).main 0 (comp Sc.main 0 0 (deep 1024)) := by
    rw [hcode]; exact Win.self _
  have r := CloC.deep_reach (ls := Sc.main) true _ 1024 0 0 hw .init
  have := (check_sound _ _ hc _ r).2.2
  simp only [maxHeight] at this
  omega

/-- the full statement (no nesting guard) is false -/
theorem clo_compile_balanced_full_false : ¬ clo_compile_balanced_full := by
  intro h
  apply clo_compile_balanced_needs_fits
  intro p hin c hc
  have hlen := certClo_length p
  obtain ⟨k, hk, rfl⟩ := List.mem_iff_getElem.mp hc
  have hk2 : k < (certClo p).length := by omega
  refine ⟨(certClo p)[k], h p hin ((CloC.codes p)[k], (certClo p)[k]) ?_⟩
  rw [List.mem_iff_getElem]
  exact ⟨k, by simp [List.length_zip]; omega, by simp⟩

/-! ### non-vacuity: concrete programs of the closure fragment (C01's examples): the counter
    factory, the adder factory (a captured parameter), two closures sharing a variable, a maker that
    writes after the capture, a closure passed to another function; the hypotheses hold and the
    statements evaluate -/

example : inClo exCounter = true ∧ fitsClo exCounter = true := by decide +kernel
example : inClo exAdder = true ∧ fitsClo exAdder = true := by decide +kernel
example : inClo exShared = true ∧ fitsClo exShared = true := by decide +kernel
example : inClo exWriteAfter = true ∧ fitsClo exWriteAfter = true ∧ CloC.depthProg exWriteAfter ≤ 20 := by decide +kernel
example : inClo exPassed = true ∧ fitsClo exPassed = true := by decide +kernel

/-- evaluate the theorem's conclusion: every code object with its certificate in `certClo p` -/
def cloAllAccepted (p : N) : Bool := ((CloC.codes p).zip (certClo p)).all fun x => check x.1 x.2

/-- the certificates, readable: heights per slot, `none` on operand slots, the end-of-code entry last -/
def cloCerts (p : N) : List (List (Option Nat)) := (certClo p).map Array.toList

-- the counter factory: main + `counter` + the closure `func() { n++; return n }` (3 code objects)
set_option maxRecDepth 8000 in
example : (CloC.codes exCounter).length = 3 ∧ cloAllAccepted exCounter = true := by decide +kernel

set_option maxRecDepth 8000 in
/-- the counter factory with its concrete certificates.
    main: `func counter…` as a statement (`LoadConst; Copy 0; StoreGlobal; PopTop`: 0,1,2,1),
    `c := counter()`, `c()` popped, `c()` kept: ends with ONE value.
    `counter`: `n := 0`, then `return func() {…}`: the literal refers to `n` THREE times (`n++` is
    `n; n++` to the parser, and `return n`), so `MakeCell n 0` three times at heights 0, 1, 2 (three
    slots each), `LoadClosure fn 3` at height 3 (it pops the three cells, pushes the closure),
    `ReturnValue` at 1.
    the closure: `n++` = `LoadFree n; PopTop; LoadFree n; LoadConst 1; BinaryOp +; StoreFree n`
    (0,1,0,1,2,1), `return n` = `LoadFree n; ReturnValue` (0,1); end-of-code unreachable. -/
example : cloCerts exCounter =
    [[some 0, none, some 1, none, some 2, none, some 1, some 0, none, some 1, none, some 1, none, some 0, none, some 1, none,
        some 1, some 0, none, some 1, none, some 1],
     [some 0, none, some 1, none, some 0, none, none, some 1, none, none, some 2, none, none, some 3, none, none, some 1, none],
     [some 0, none, some 1, some 0, none, some 1, none, some 2, none, some 1, none, some 0, none, some 1, none]] := by
  decide +kernel

-- the adder factory: a captured PARAMETER
set_option maxRecDepth 8000 in
example : (CloC.codes exAdder).length = 3 ∧ cloAllAccepted exAdder = true := by decide +kernel

set_option maxRecDepth 8000 in
/-- the adder factory: `adder` is `MakeCell n 0` (0), `LoadClosure fn 1` (1), `ReturnValue` (1);
    the closure `func(x) { return x + n }` is `LoadFast x` (0), `LoadFree n` (1), `BinaryOp +` (2),
    `ReturnValue` (1) -/
example : (cloCerts exAdder).drop 1 =
    [[some 0, none, none, some 1, none, none, some 1, none],
     [some 0, none, some 1, none, some 2, none, some 1, none]] := by
  decide +kernel

-- a closure passed to another function (`twice(c, 1)`) and called there, keeping its state
set_option maxRecDepth 8000 in
example : (CloC.codes exPassed).length = 4 ∧ cloAllAccepted exPassed = true := by decide +kernel

set_option maxRecDepth 8000 in
/-- `twice(fn, x) { fn(fn(x)) }` calls the closure it received twice: `LoadFast fn` (0),
    `LoadFast fn` (1), `LoadFast x` (2), `Call 1` (3), `Call 1` (2), `ReturnValue` (1) — the body of
    the closure runs in its own frame from height 0 (third certificate), whatever `twice` holds -/
example : ((cloCerts exPassed).drop 1).take 1 =
    [[some 0, none, some 1, none, some 2, none, some 3, none, some 2, none, some 1, none]] ∧
    ((cloCerts exPassed).drop 3).map (·.head?) = [some (some 0)] := by
  decide +kernel

-- two closures sharing one variable; a maker that writes after the capture
set_option maxRecDepth 8000 in
example : cloAllAccepted exShared = true ∧ cloAllAccepted exWriteAfter = true := by decide +kernel

example : ∀ x, x ∈ (CloC.codes exCounter).zip (certClo exCounter) → check x.1 x.2 = true :=
  (clo_compile_balanced exCounter (by decide +kernel) (by decide +kernel)).2

/-- the entry state of a closure's body is reachable, so the execution theorems are not vacuous -/
example : ∀ d, d ∈ funsOf exCounter → (CloC.fnCert d)[0]? = some (some 0) :=
  fun d hd => (clo_fn_heights exCounter (by decide +kernel) (by decide +kernel) d hd ⟨0, 0⟩ .init).2.1

/-- a literal with TWO captures holds two cells when `LoadClosure fn 2` runs:
    `func f(a, b) { return func() { return a + b } }`: `MakeCell a` (0), `MakeCell b` (1),
    `LoadClosure fn 2` (2), `ReturnValue` (1) -/
def exTwoCaptures : N :=
  .prog (.cons (.expr (.func "f" (.cons (.param "a" .none_) (.cons (.param "b" .none_) .nilL))
      (.block (.cons (.return_ (.func "" .nilL (.block (.cons (.return_ (.infix .add (.id "a") (.id "b"))) .nilL)))) .nilL))))
    (.cons (.expr (.call (.call (.id "f") (.cons (.int 1) (.cons (.int 2) .nilL))) .nilL)) .nilL))

set_option maxRecDepth 8000 in
example : inClo exTwoCaptures = true ∧ cloAllAccepted exTwoCaptures = true ∧
    ((cloCerts exTwoCaptures).drop 1).take 1 =
      [[some 0, none, none, some 1, none, none, some 2, none, none, some 1, none]] := by decide +kernel

/-- `k` steps of the machine (`none`: it stopped earlier) -/
def mstepN (P : Prog) : Nat → M → Option M
  | 0, m => some m
  | k + 1, m =>
    match mstep P m with
    | .ok m' => mstepN P k m'
    | .error _ => none

theorem mreach_stepN (P : Prog) : ∀ (k : Nat) (m m' : M), MReach P m → mstepN P k m = some m' → MReach P m'
  | 0, m, m', h, hs => by simp only [mstepN, Option.some.injEq] at hs; exact hs ▸ h
  | k + 1, m, m', h, hs => by
    simp only [mstepN] at hs
    cases hm : mstep P m with
    | ok m1 => rw [hm] at hs; exact mreach_stepN P k m1 m' (.step h hm) hs
    | error e => rw [hm] at hs; cases hs

set_option maxRecDepth 8000 in
/-- the machine theorem is not vacuous: on the counter factory, after 11 steps the machine is in
    the activation of `counter` (one suspended caller) at its `LoadClosure fn 3` (offset 13) with the
    three cells on the stack; after 20 steps in the activation of the CLOSURE `c()` at its `BinaryOp`
    (offset 7) with two operands — the heights the certificates name (`cloCerts exCounter`: entries 13
    of the second and 7 of the third certificate) -/
example : ((mstepN (compClo exCounter) 11 M.init).map fun m => (m.fn.isSome, m.frames.length, m.cfg.pc, m.cfg.stk.length))
      = some (true, 1, 13, 3) ∧
    ((mstepN (compClo exCounter) 20 M.init).map fun m => (m.fn.isSome, m.frames.length, m.cfg.pc, m.cfg.stk.length))
      = some (true, 1, 7, 2) ∧
    (((cloCerts exCounter).drop 1).take 1).map (·[13]?) = [some (some 3)] ∧
    ((cloCerts exCounter).drop 2).map (·[7]?) = [some (some 2)] := by decide +kernel

example (m : M) (h : mstepN (compClo exCounter) 20 M.init = some m) : CloInv exCounter m :=
  clo_machine_heights exCounter (by decide +kernel) (by decide +kernel) m (mreach_stepN _ 20 _ _ .init h)

/-- outside the fragment the syntax-tree certificate is refused as it should be: a `break` under
    a pending operand inside a closure's body (`func f() { return func() { for { x := 1 + if true { break } } } }`,
    C04's known finding `C04-ctl-under-operands`) -/
def exCloBreakUnder : N :=
  .prog (.cons (.expr (.func "f" .nilL (.block (.cons (.return_ (.func "" .nilL (.block (.cons (.forever (.block (.cons
    (.var "x" (.infix .add (.int 1) (.if_ (.bool true) (.block (.cons .break_ .nilL)) .none_))) .nilL))) .nilL)))) .nilL)))) .nilL)

set_option maxRecDepth 8000 in
example : inClo exCloBreakUnder = false ∧ cloAllAccepted exCloBreakUnder = false := by decide +kernel

end Risor.C04
