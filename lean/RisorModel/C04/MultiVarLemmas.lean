import RisorModel.C04.CertCore
import RisorModel.C04.MultiVar
import RisorModel.C04.Props
/-!
C04 — multi-variable statements: helper lemmas for MultiVarProps.lean (sizes of the pieces,
the sinks inside a code object's certificate (`sinks_tgt`, `sinks_ok`) and along an execution
(`sinks_run`), `runStraight` over the sinks, windows of `loopCode`).  No statement of the
property lives here.
-/
namespace Risor.C04.MV
open Risor.C04 Risor.C04.Ctx

variable {G : Ctx Ins id}

theorem Sink.hts_length (h : Nat) (s : Sink) : (s.hts h).length = s.slots.length := by
  cases s <;> rfl

theorem sinksHts_length : ∀ (l : List Sink) (h : Nat), (sinksHts h l).length = (sinksSlots l).length
  | [], _ => rfl
  | s :: r, h => by
    simp only [sinksHts, sinksSlots, List.length_append, Sink.hts_length, sinksHts_length r]

theorem takers_le : ∀ (l : List Sink), takers l ≤ l.length
  | [] => Nat.le_refl _
  | s :: r => by
    have := takers_le r
    simp only [takers, List.length_cons]
    split <;> omega

theorem mvSlots_length (sinks : List Sink) : (mvSlots sinks).length = 2 + (sinksSlots sinks).length := by
  simp [mvSlots]; omega

theorem mvHts_length (x : Nat) (sinks : List Sink) : (mvHts x sinks).length = (mvSlots sinks).length := by
  simp [mvHts, mvSlots, sinksHts_length, r2]

/-- every height of the sinks is at most the height they start with -/
theorem sinksHts_le : ∀ (l : List Sink) (h y : Nat), y ∈ sinksHts h l → y ≤ h
  | [], _, _, hy => by cases hy
  | s :: r, h, y, hy => by
    simp only [sinksHts, List.mem_append] at hy
    rcases hy with hy | hy
    · cases s with
      | store sc => simp [Sink.hts, r2] at hy; omega
      | pop => simp [Sink.hts, r1] at hy; omega
      | skip => simp [Sink.hts] at hy
    · have := sinksHts_le r _ y hy
      have : s.after h ≤ h := by unfold Sink.after; split <;> omega
      omega

theorem storeIns_kind (sc : Scope) : (storeIns sc).kind = .fall 1 0 := by cases sc <;> rfl

theorem storeIns_size (sc : Scope) : (storeIns sc).size = 2 := by cases sc <;> rfl

theorem takers_cons (s : Sink) (r : List Sink) : takers (s :: r) = (if s.takes then 1 else 0) + takers r := rfl

theorem Sink.after_sub (s : Sink) (r : List Sink) (h : Nat) : s.after h - takers r = h - takers (s :: r) := by
  rw [takers_cons]; unfold Sink.after; split <;> omega

/-- there is a value for each taker of `s :: r`: one for `s` if it takes one, and the rest for `r` -/
theorem takers_cons_le {s : Sink} {r : List Sink} {h : Nat} (hle : takers (s :: r) ≤ h) :
    (s.takes = true → 1 ≤ h) ∧ takers r ≤ s.after h := by
  rw [takers_cons] at hle; unfold Sink.after
  by_cases ht : s.takes = true
  · rw [if_pos ht] at hle ⊢; exact ⟨fun _ => by omega, by omega⟩
  · rw [if_neg ht] at hle ⊢; exact ⟨fun h => absurd h ht, by omega⟩

/-- one sink passes the checker when it finds its value and the offset after it is entered with what is left -/
theorem Sink.ok {s : Sink} {h pc : Nat} (hat : G.At pc s.slots (s.hts h)) (hle : s.takes = true → 1 ≤ h)
    (ht : G.Tgt (pc + s.slots.length) (s.after h)) : G.OkWin pc s.slots.length := by
  cases s with
  | store sc => exact okwin_fall2 hat (storeIns_kind sc) (storeIns_size sc) (hle rfl) ht
  | pop => exact okwin_fall1 (i := ⟨.popTop, 0, 0⟩) hat rfl rfl (hle rfl) ht
  | skip => exact OkWin.zero G pc

/-- the place of a sink is a legal target: of its instruction, or (`skip`) what follows it -/
theorem Sink.tgt {s : Sink} {h pc : Nat} (hat : G.At pc s.slots (s.hts h))
    (ht : G.Tgt (pc + s.slots.length) (s.after h)) : G.Tgt pc h := by
  cases s with
  | store sc => exact At.tgt_two hat
  | pop => exact At.tgt_one hat
  | skip => exact ht

/-- the sinks as a first sink and the rest -/
theorem At.sinks_cons {s : Sink} {r : List Sink} {h pc : Nat} (hat : G.At pc (sinksSlots (s :: r)) (sinksHts h (s :: r))) :
    G.At pc s.slots (s.hts h) ∧ G.At (pc + s.slots.length) (sinksSlots r) (sinksHts (s.after h) r) :=
  At.split (c1 := s.slots) (h1 := s.hts h) hat rfl (s.hts_length h)

theorem Tgt.sinks_cons {s : Sink} {r : List Sink} {h pc : Nat}
    (ht : G.Tgt (pc + (sinksSlots (s :: r)).length) (h - takers (s :: r))) :
    G.Tgt (pc + s.slots.length + (sinksSlots r).length) (s.after h - takers r) :=
  ht.cast (by rw [Nat.add_assoc, ← List.length_append]; rfl) (s.after_sub r h).symm

/-- the place where the sinks start is a legal target for the height they start with -/
theorem sinks_tgt : ∀ (l : List Sink) (h pc : Nat), G.At pc (sinksSlots l) (sinksHts h l) →
    G.Tgt (pc + (sinksSlots l).length) (h - takers l) → G.Tgt pc h
  | [], _, _, _, ht => ht
  | _ :: r, _, _, hat, ht =>
    have ⟨h1, h2⟩ := At.sinks_cons hat
    Sink.tgt h1 (sinks_tgt r _ _ h2 (Tgt.sinks_cons ht))

/-- the sinks pass the checker when there is a value for each one that takes one and the
    offset after them is entered with what is left -/
theorem sinks_ok : ∀ (l : List Sink) (h pc : Nat), G.At pc (sinksSlots l) (sinksHts h l) → takers l ≤ h →
    G.Tgt (pc + (sinksSlots l).length) (h - takers l) → G.OkWin pc (sinksSlots l).length
  | [], _, pc, _, _, _ => OkWin.zero G pc
  | _ :: r, _, _, hat, hle, ht =>
    have ⟨h1, h2⟩ := At.sinks_cons hat
    have ⟨hs, hle'⟩ := takers_cons_le hle
    have ht' := Tgt.sinks_cons ht
    ((Sink.ok h1 hs (sinks_tgt r _ _ h2 ht')).append (sinks_ok r _ _ h2 hle' ht')).cast List.length_append.symm

/-- the slots `w` sit at offset `pc` of the code object -/
def HasWin (c : Code) (pc : Nat) (w : List (Option Ins)) : Prop := Win c.slots.toList pc w

theorem HasWin.at_head {c : Code} {pc : Nat} {i : Ins} {rest : List (Option Ins)}
    (h : HasWin c pc (some i :: rest)) : c.at pc = some i := by
  have := Win.head h
  simp only [Array.getElem?_toList] at this
  simp [Code.at, this]

theorem reach_fall {c : Code} {pc h a b : Nat} {i : Ins} (hi : c.at pc = some i) (hk : i.kind = .fall a b)
    (ha : a ≤ h) (hr : Reach c ⟨pc, h⟩) : Reach c ⟨pc + i.size, h - a + b⟩ := by
  have hs : succs i pc h = some [(pc + i.size, h - a + b)] := by simp only [succs, hk, ha, if_true]
  exact .step hr (.mk hi hs (by simp))

theorem _root_.Risor.C04.Reach.cast {c : Code} {p q h k : Nat} (hr : Reach c ⟨p, h⟩) (e1 : p = q) (e2 : h = k) : Reach c ⟨q, k⟩ := by
  subst e1; subst e2; exact hr

/-- an execution that reaches a sink with its value there reaches the offset after it -/
theorem Sink.run {c : Code} {s : Sink} {h pc : Nat} (hw : HasWin c pc s.slots) (hle : s.takes = true → 1 ≤ h)
    (hr : Reach c ⟨pc, h⟩) : Reach c ⟨pc + s.slots.length, s.after h⟩ := by
  cases s with
  | store sc =>
    exact (reach_fall (HasWin.at_head hw) (storeIns_kind sc) (hle rfl) hr).cast (by rw [storeIns_size]; rfl) rfl
  | pop => exact reach_fall (i := ⟨.popTop, 0, 0⟩) (HasWin.at_head hw) rfl (hle rfl) hr
  | skip => exact hr

theorem sinks_run (c : Code) : ∀ (l : List Sink) (h pc : Nat), HasWin c pc (sinksSlots l) → takers l ≤ h →
    Reach c ⟨pc, h⟩ → Reach c ⟨pc + (sinksSlots l).length, h - takers l⟩
  | [], _, _, _, _, hr => hr
  | s :: r, h, pc, hw, hle, hr => by
    have hw' : HasWin c pc (s.slots ++ sinksSlots r) := hw
    obtain ⟨hs, hle'⟩ := takers_cons_le hle
    exact (sinks_run c r _ _ (Win.right hw') hle' (Sink.run (Win.left hw') hs hr)).cast
      (by rw [Nat.add_assoc, ← List.length_append]; rfl) (s.after_sub r h)

theorem leak_of_all_take : ∀ (l : List Sink), (∀ s, s ∈ l → s.takes = true) → leak l = 0
  | [], _ => rfl
  | s :: r, h => by
    have h1 : s.takes = true := h s (by simp)
    have h2 := leak_of_all_take r (fun t ht => h t (by simp [ht]))
    have := takers_le r
    unfold leak at h2 ⊢
    simp only [takers, h1, if_true, List.length_cons]
    omega

theorem takers_append : ∀ (a b : List Sink), takers (a ++ b) = takers a + takers b
  | [], b => by simp [takers]
  | s :: r, b => by simp only [List.cons_append, takers, takers_append r b]; omega

theorem takers_replicate_skip : ∀ (k : Nat), takers (List.replicate k Sink.skip) = 0
  | 0 => rfl
  | k + 1 => by simp [List.replicate_succ, takers, Sink.takes, takers_replicate_skip k]

theorem implSinks_length (walrus inFn : Bool) (names : List Name) :
    (implSinks walrus inFn names).length = names.length := by simp [implSinks]

theorem runStraight_cons_fall {i : Ins} {p q h : Nat} (r : List Ins) (hk : i.kind = .fall p q) (hp : p ≤ h) :
    runStraight (i :: r) h = runStraight r (h - p + q) := by
  simp only [runStraight, hk, hp, if_true]

theorem runStraight_sinks : ∀ (l : List Sink) (h : Nat), takers l ≤ h →
    runStraight (insOfSlots (sinksSlots l)) h = some (h - takers l)
  | [], _, _ => rfl
  | s :: r, h, hle => by
    obtain ⟨hs, hle'⟩ := takers_cons_le hle
    rw [← s.after_sub r h, ← runStraight_sinks r _ hle']
    cases s with
    | store sc => exact runStraight_cons_fall _ (storeIns_kind sc) (hs rfl)
    | pop => exact runStraight_cons_fall (i := ⟨.popTop, 0, 0⟩) _ rfl (hs rfl)
    | skip => rfl

theorem HasWin.cast {c : Code} {p q : Nat} {w : List (Option Ins)} (h : HasWin c p w) (e : p = q) : HasWin c q w := e ▸ h

theorem HasWin.tail {c : Code} {pc : Nat} {x : Option Ins} {rest : List (Option Ins)}
    (h : HasWin c pc (x :: rest)) : HasWin c (pc + 1) rest :=
  Win.right (a := [x]) (b := rest) h

theorem loop_hasWin (sinks : List Sink) : HasWin (loopCode sinks) 0 (loopSlots sinks) := by
  unfold HasWin loopCode
  exact Win.self _

/-- the tail of the loop's code sits right after the statement -/
theorem loop_tail_win (sinks : List Sink) :
    HasWin (loopCode sinks) (4 + (sinksSlots sinks).length)
      [some ⟨.nil_, 0, 0⟩, some ⟨.popTop, 0, 0⟩, some ⟨.jumpBackward, 6 + (sinksSlots sinks).length, 0⟩, none,
       some ⟨.nop, 0, 0⟩, some ⟨.nil_, 0, 0⟩] := by
  have h := loop_hasWin sinks
  unfold loopSlots at h
  exact HasWin.cast (Win.right h) (by simp [mvSlots]; omega)

theorem loop_mv_win (sinks : List Sink) : HasWin (loopCode sinks) 2 (mvSlots sinks) := by
  have h := loop_hasWin sinks
  unfold loopSlots at h
  exact HasWin.cast (Win.right (Win.left h)) (by simp)

theorem mvHts_le (x : Nat) (sinks : List Sink) (y : Nat) (hy : y ∈ mvHts x sinks) : y ≤ x + 1 + sinks.length := by
  simp only [mvHts, List.mem_append] at hy
  rcases hy with hy | hy
  · simp [r2] at hy; omega
  · have := sinksHts_le sinks _ y hy; omega

theorem map_id_slots (l : List (Option Ins)) : l.map (Option.map id) = l := by
  induction l with
  | nil => rfl
  | cons x r ih =>
    simp only [List.map_cons, ih]
    cases x <;> rfl

end Risor.C04.MV
