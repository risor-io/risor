import RisorModel.C04.SeqCert
import RisorModel.C04.CertCore
import RisorModel.C04.Props
import RisorModel.C04.FragCertLemmas
import RisorModel.C04.CloCertLemmas
import RisorModel.C01.SeqLemmas
/-!
C04 on C01's container fragment F6 — helper lemmas.

The generic development of `CertCore.lean` (`Ctx α io`: one code object with the heights of its
slots; `G.Ok`, `G.Tgt`, `G.At`, the per-instruction lemmas `okwin_*`, `Piece.*` per shape of
code; three-slot instructions in `CloCertLemmas.lean`) at the instruction type of `Seq.lean` (`SCtx`).  `okwin_forIter` is the one
new instruction KIND: `ForIter d m` has TWO successors with DIFFERENT heights — the exhaustion edge
`(pc + d, x - 1)` (the iterator is dropped) and the iteration edge `(pc + 3, x + m')` (the iterator
stays, `m'` loop values are pushed).  The lemmas per construct (`ok_*`) follow the shape of
`Seq.comp` (operators with operands no `break` escapes through CertCore's `Piece.*`, the others by
composing the instruction lemmas); `ok_all` is the structural induction.  The statement of the
induction (`PComp`) carries the flag `rng` of `Seq.comp`: a `break` that escapes a node entered at
height `x` arrives at its target with `x - rngD rng` (the iterator popped), a `continue` with `x`.
-/
namespace Risor.C04.SeqC
open Risor.C01 Risor.C01.Seq
open Risor.C01.Frag (isNilL leaves isBlock isElse isL isInit isPost opOK postName isDefault countDefault
  assignK preLen)

/-! ### lengths of the height lists: those of the code pieces -/

@[simp] theorem storesH_length (y : Nat) (xs : List String) : (storesH y xs).length = 2 * xs.length := by
  induction xs with
  | nil => rfl
  | cons x xs ih => simp only [storesH, List.length_append, r2_length, ih, List.length_cons]; omega

theorem not_wf_of_plain {n : N} (hp : plain n = true) : wfVals n = false ∧ wfCase n = false ∧ wfCases n = false := by
  cases n <;> first | exact ⟨rfl, rfl, rfl⟩ | cases hp

/-- by the functional induction of `hts`: unfold both sides, rewrite with the hypotheses about the sub-nodes -/
theorem hts_lengths :
    (∀ rng x n, (hts rng x n).length = size rng n) ∧ (∀ rng s n, (htsItems rng s n).length = itemsLen rng n) ∧
    (∀ rng s n, (htsDflt rng s n).length = defLen rng n) ∧ (∀ rng s n, (htsDfltBody rng s n).length = dfltBodyLen rng n) ∧
    (∀ rng s n, (htsBodies rng s n).length = bodiesLen rng n) ∧ (∀ rng s n, (htsBody rng s n).length = caseBodyLen rng n) ∧
    (∀ rng s n, (htsCmp rng s n).length = cmpLen rng n) ∧ (∀ rng s n, (htsCmpCase rng s n).length = caseCmpLen rng n) ∧
    (∀ rng s n, (htsVals rng s n).length = valsLen rng n) := by
  apply hts.mutual_induct
  all_goals
    intros
    simp only [hts, htsItems, htsDflt, htsDfltBody, htsBodies, htsBody, htsCmp, htsCmpCase, htsVals, size, itemsLen, defLen,
      dfltBodyLen, bodiesLen, caseBodyLen, cmpLen, caseCmpLen, valsLen, ↓reduceIte, reduceCtorEq, or_self, true_or,
      or_true, *]
    repeat' split
    all_goals simp only [List.length_append, List.length_nil, List.length_cons, r1_length, r2_length, CloC.r3_length,
      storesH_length, preH_length, *]
    all_goals try omega

theorem hts_length (n : N) (rng : Bool) (x : Nat) : (hts rng x n).length = size rng n := hts_lengths.1 rng x n
theorem htsVals_length (n : N) (rng : Bool) (s : Nat) : (htsVals rng s n).length = valsLen rng n := hts_lengths.2.2.2.2.2.2.2.2 rng s n
theorem htsCmpCase_length (n : N) (rng : Bool) (s : Nat) : (htsCmpCase rng s n).length = caseCmpLen rng n := hts_lengths.2.2.2.2.2.2.2.1 rng s n
theorem htsCmp_length (n : N) (rng : Bool) (s : Nat) : (htsCmp rng s n).length = cmpLen rng n := hts_lengths.2.2.2.2.2.2.1 rng s n
theorem htsBody_length (n : N) (rng : Bool) (s : Nat) : (htsBody rng s n).length = caseBodyLen rng n := hts_lengths.2.2.2.2.2.1 rng s n
theorem htsBodies_length (n : N) (rng : Bool) (s : Nat) : (htsBodies rng s n).length = bodiesLen rng n := hts_lengths.2.2.2.2.1 rng s n
theorem htsDflt_length (n : N) (rng : Bool) (s : Nat) : (htsDflt rng s n).length = defLen rng n := hts_lengths.2.2.1 rng s n
theorem htsItems_length (n : N) (rng : Bool) (s : Nat) : (htsItems rng s n).length = itemsLen rng n := hts_lengths.2.1 rng s n
theorem compCmpCase_length (n : N) (k : Nat) (rng : Bool) : (compCmpCase rng k n).length = caseCmpLen rng n := (comp_lengths n).2.2.1 rng k

/-- the items of a list literal: their code begins with an instruction and their heights with the
    entry height, or there is none -/
def HeadItems (n : N) : Prop :=
  wfVals n = true → ∀ rng x, (∃ i c t, compItems rng n = some i :: c ∧ htsItems rng x n = x :: t) ∨
    (compItems rng n = [] ∧ htsItems rng x n = [] ∧ countItems n = 0)

def HeadComp (n : N) : Prop :=
  wf n = true → ∀ rng kb kc x, ∃ i c t, comp kb kc rng n = some i :: c ∧ hts rng x n = x :: t

theorem head_of_plain {n : N} (hp : plain n = true) (h : HeadComp n) : HeadComp n ∧ HeadItems n :=
  ⟨h, vac (not_wf_of_plain hp).1⟩

/-- a node whose code starts with the code of its first sub-node -/
theorem head_of_first {n s : N} {rng rng' : Bool} {kb kc kb' kc' x : Nat} {c2 : Seq.Code} {h2 : List Nat}
    (hc : comp kb kc rng n = comp kb' kc' rng' s ++ c2) (hh : hts rng x n = hts rng' x s ++ h2)
    (ih : ∃ i c t, comp kb' kc' rng' s = some i :: c ∧ hts rng' x s = x :: t) :
    ∃ i c t, comp kb kc rng n = some i :: c ∧ hts rng x n = x :: t := by
  obtain ⟨i, c, t, e1, e2⟩ := ih
  exact ⟨i, c ++ c2, t ++ h2, by rw [hc, e1]; rfl, by rw [hh, e2]; rfl⟩

theorem head_comp_all (n : N) : HeadComp n ∧ HeadItems n := by
  induction n with
  | nilL => exact ⟨fun _ rng kb kc x => ⟨_, _, _, rfl, rfl⟩, fun _ rng x => .inr ⟨rfl, rfl, rfl⟩⟩
  | nilLit | none_ | bool _ | int _ | str _ | id _ | continue_ | «postfix» _ _ =>
    exact head_of_plain rfl fun _ rng kb kc x => ⟨_, _, _, rfl, rfl⟩
  | break_ => exact head_of_plain rfl fun _ rng kb kc x => by cases rng <;> exact ⟨_, _, _, rfl, rfl⟩
  | «infix» op l r ihl _ =>
    refine head_of_plain rfl fun hw rng kb kc x => ?_
    simp only [wf, Bool.and_eq_true] at hw
    have ih := ihl.1 hw.1.2 rng 0 0 x
    by_cases h1 : op = .and
    · subst h1
      exact head_of_first (by simp only [comp, ↓reduceIte, List.append_assoc] <;> rfl) (by simp only [hts, ↓reduceIte, List.append_assoc] <;> rfl) ih
    · by_cases h2 : op = .or
      · subst h2
        exact head_of_first (by simp only [comp, reduceCtorEq, ↓reduceIte, List.append_assoc] <;> rfl)
          (by simp only [hts, reduceCtorEq, ↓reduceIte, List.append_assoc] <;> rfl) ih
      · exact head_of_first (by simp only [comp, h1, h2, ↓reduceIte, List.append_assoc] <;> rfl)
          (by simp only [hts, h1, h2, ↓reduceIte, List.append_assoc] <;> rfl) ih
  | neg e ih | not e ih | var _ e ih =>
    refine head_of_plain rfl fun hw rng kb kc x => ?_
    simp only [wf, Bool.and_eq_true] at hw
    exact head_of_first (by dsimp only [comp] <;> rfl) (by dsimp only [hts] <;> rfl) (ih.1 hw.2 rng 0 0 x)
  | tern c a b ihc _ _ | if_ c a b ihc _ _ | switch c _ ihc _ =>
    refine head_of_plain rfl fun hw rng kb kc x => ?_
    simp only [wf, Bool.and_eq_true] at hw
    exact head_of_first (by dsimp only [comp] <;> simp only [List.append_assoc] <;> rfl) (by dsimp only [hts] <;> simp only [List.append_assoc] <;> rfl) (ihc.1 hw.1.1.2 rng 0 0 x)
  | block s ih | prog s ih | expr s ih =>
    refine head_of_plain rfl fun hw rng kb kc x => ?_
    simp only [wf, Bool.and_eq_true] at hw
    obtain ⟨i, c, t, e1, e2⟩ := ih.1 hw.2 rng kb kc x
    exact ⟨i, c, t, by simp only [comp, e1], by simp only [hts, e2]⟩
  | assign y op e ih =>
    refine head_of_plain rfl fun hw rng kb kc x => ?_
    simp only [wf, Bool.and_eq_true] at hw
    by_cases h1 : op = .set
    · exact head_of_first (by simp only [comp, h1, ↓reduceIte] <;> rfl) (by simp only [hts, h1, ↓reduceIte] <;> rfl) (ih.1 hw.2 rng 0 0 x)
    · exact ⟨_, _, _, by simp only [comp, h1, ↓reduceIte, two, List.cons_append]; rfl, by simp only [hts, h1, ↓reduceIte, r2, List.cons_append]; rfl⟩
  | forcond c b ihc _ =>
    refine head_of_plain rfl fun hw rng kb kc x => ?_
    simp only [wf, Bool.and_eq_true] at hw
    exact head_of_first (by dsimp only [comp] <;> simp only [List.append_assoc] <;> rfl) (by dsimp only [hts] <;> simp only [List.append_assoc] <;> rfl) (ihc.1 hw.1.2 false 0 0 x)
  | forever b ihb =>
    refine head_of_plain rfl fun hw rng kb kc x => ?_
    simp only [wf, Bool.and_eq_true] at hw
    exact head_of_first (by dsimp only [comp] <;> simp only [List.append_assoc] <;> rfl) (by dsimp only [hts] <;> simp only [List.append_assoc] <;> rfl) (ihb.1 hw.2 false 3 1 x)
  | for3 i0 c p b ihi _ _ _ =>
    refine head_of_plain rfl fun hw rng kb kc x => ?_
    simp only [wf, Bool.and_eq_true] at hw
    exact head_of_first (by dsimp only [comp] <;> simp only [List.append_assoc] <;> rfl) (by dsimp only [hts] <;> simp only [List.append_assoc] <;> rfl) (ihi.1 hw.1.1.1.2 false 0 0 x)
  | index c _ ihc _ | forrange _ _ c _ ihc _ | forin _ c _ ihc _ =>
    refine head_of_plain rfl fun hw rng kb kc x => ?_
    simp only [wf, Bool.and_eq_true] at hw
    exact head_of_first (by dsimp only [comp] <;> simp only [List.append_assoc] <;> rfl) (by dsimp only [hts] <;> simp only [List.append_assoc] <;> rfl) (ihc.1 hw.1.2 rng 0 0 x)
  | setitem op o i v iho _ ihv =>
    refine head_of_plain rfl fun hw rng kb kc x => ?_
    simp only [wf, Bool.and_eq_true] at hw
    by_cases h1 : op = .set
    · exact head_of_first (by simp only [comp, h1, ↓reduceIte, List.append_assoc] <;> rfl) (by simp only [hts, h1, ↓reduceIte, List.append_assoc] <;> rfl)
        (ihv.1 hw.2 rng 0 0 x)
    · exact head_of_first (by simp only [comp, h1, ↓reduceIte, List.append_assoc] <;> rfl) (by simp only [hts, h1, ↓reduceIte, List.append_assoc] <;> rfl)
        (iho.1 hw.1.1.2 rng 0 0 x)
  | list items ih =>
    refine head_of_plain rfl fun hw rng kb kc x => ?_
    simp only [wf] at hw
    rcases ih.2 hw rng x with ⟨i, c, t, e1, e2⟩ | ⟨e1, e2, e3⟩
    · exact ⟨i, _, _, by simp only [comp, e1, List.cons_append]; rfl, by simp only [hts, e2, List.cons_append]; rfl⟩
    · exact ⟨_, _, _, by simp only [comp, e1, two, List.nil_append]; rfl, by simp only [hts, e2, e3, r2, List.nil_append]; rfl⟩
  | cons h t ihh _ =>
    refine ⟨?_, ?_⟩
    · intro hw rng kb kc x
      simp only [wf, Bool.and_eq_true] at hw
      cases hp : postName h with
      | some y =>
        exact ⟨_, _, _, by simp only [comp, pre, hp, two, List.cons_append]; rfl, by simp only [hts, preH, hp, r2, List.cons_append]; rfl⟩
      | none =>
        by_cases hn : isNilL t = true
        · obtain ⟨i, c, t', e1, e2⟩ := ihh.1 hw.1.2 rng (kb + (if leaves h then 0 else 1)) (kc + (if leaves h then 0 else 1)) x
          exact ⟨i, _, _, by simp only [comp, pre, hp, hn, ↓reduceIte, e1, List.nil_append, List.cons_append]; rfl,
            by simp only [hts, preH, hp, hn, ↓reduceIte, e2, List.nil_append, List.cons_append]; rfl⟩
        · obtain ⟨i, c, t', e1, e2⟩ := ihh.1 hw.1.2 rng (kb + ((if leaves h then 1 else 0) + size rng t)) (kc + ((if leaves h then 1 else 0) + size rng t)) x
          exact ⟨i, _, _, by simp only [comp, pre, hp, hn, e1, List.nil_append, List.cons_append]; rfl,
            by simp only [hts, preH, hp, hn, e2, List.nil_append, List.cons_append]; rfl⟩
    · intro hw rng x
      simp only [wfVals, Bool.and_eq_true] at hw
      obtain ⟨i, c, t', e1, e2⟩ := ihh.1 hw.1.2 rng 0 0 x
      exact .inl ⟨i, _, _, by simp only [compItems, e1, List.cons_append]; rfl, by simp only [htsItems, e2, List.cons_append]; rfl⟩
  | _ => exact ⟨fun hw => (nomatch hw), fun hw => (nomatch hw)⟩

theorem head_comp (n : N) (hw : wf n = true) (rng : Bool) (kb kc x : Nat) :
    ∃ i c t, comp kb kc rng n = some i :: c ∧ hts rng x n = x :: t := (head_comp_all n).1 hw rng kb kc x

/-- a code of the container fragment (a main code object) with its heights -/
abbrev SCtx := Ctx Seq.FIns insOf

end Risor.C04.SeqC

/-! ### `ForIter d m`: the one instruction kind with two successors of DIFFERENT heights -/
namespace Risor.C04.Ctx

section foriter
variable {α : Type} {io : α → Ins} {G : Ctx α io}

/-- `ForIter d m` at height `x` (the iterator on top): the exhaustion edge arrives `d` slots
    further with the iterator DROPPED (`x - 1`), the iteration edge falls through with the iterator
    kept and `k` loop values pushed (`x + k`; `k = forIterPush m`) -/
theorem okwin_forIter {pc x d m k : Nat} {i : α} (h : G.At pc [some i, none, none] (r3 x))
    (hk : (io i).kind = .forIter d m) (hsz : (io i).size = 3) (hp : forIterPush m = some k) (hx : 1 ≤ x)
    (hexit : G.Tgt (pc + d) (x - 1)) (hnext : G.Tgt (pc + 3) (x + k)) : G.OkWin pc 3 := by
  intro j hj
  have hj3 : j = 0 ∨ j = 1 ∨ j = 2 := by omega
  rcases hj3 with rfl | rfl | rfl
  · refine ok_ins (l := [(pc + d, x - 1), (pc + 3, x + k)]) h.insAt_three ?_ ?_
    · simp only [succs, hk, hp, hsz, hx, if_true, Nat.add_zero]
    · intro q hq
      simp only [List.mem_cons, List.not_mem_nil, or_false] at hq
      rcases hq with hq | hq
      · subst hq; exact hexit
      · subst hq; exact hnext
  · exact ok_operand (Win.second h.1) (Win.second h.2)
  · exact ok_operand (Win.third h.1) (Win.third h.2)

end foriter

open Risor.C01 Risor.C01.Seq Risor.C04.SeqC
open Risor.C01.Frag (preLen)

variable {G : SCtx}

theorem At.scomp_cons {pc kb kc x : Nat} {rng : Bool} {n : N} {c2 : Seq.Code} {h2 : List Nat}
    (h : G.At pc (comp kb kc rng n ++ c2) (SeqC.hts rng x n ++ h2)) :
    G.At pc (comp kb kc rng n) (SeqC.hts rng x n) ∧ G.At (pc + size rng n) c2 h2 :=
  h.split (comp_length n kb kc rng) (SeqC.hts_length n rng x)

/-- a sub-node's code is a legal target at its entry height -/
theorem At.stgt_comp {pc kb kc x : Nat} {rng : Bool} {n : N} (hw : wf n = true)
    (h : G.At pc (comp kb kc rng n) (SeqC.hts rng x n)) : G.Tgt pc x := by
  obtain ⟨i, c, t, e1, e2⟩ := SeqC.head_comp n hw rng kb kc x
  rw [e1, e2] at h
  exact .inl ⟨i, Win.head h.1, Win.head h.2⟩

/-- `LoadGlobal x; PopTop` before a statement `x++` -/
theorem At.spre_cons {h : N} {pc x : Nat} {c2 : Seq.Code} {h2 : List Nat}
    (hat : G.At pc (pre h ++ c2) (preH x h ++ h2)) :
    G.At pc (pre h) (preH x h) ∧ G.At (pc + preLen h) c2 h2 :=
  hat.split (pre_length h) (preH_length x h)

end Risor.C04.Ctx

namespace Risor.C04.SeqC
open Risor.C01 Risor.C01.Seq
open Risor.C01.Frag (isNilL leaves isBlock isElse isL isInit isPost opOK postName isDefault countDefault
  assignK preLen)
open Risor.C04.Ctx

variable {G : SCtx}

theorem okwin_jf {pc x d : Nat} (h : G.At pc (two (.jf d)) (r2 x)) (ht : G.Tgt (pc + d) x) : G.OkWin pc 2 :=
  okwin_jumpF h rfl ht

theorem okwin_jb {pc x d : Nat} (h : G.At pc (two (.jb d)) (r2 x)) (hd : d ≤ pc) (ht : G.Tgt (pc - d) x) :
    G.OkWin pc 2 :=
  okwin_jumpB h rfl hd ht

/-! ### the statements of the structural induction, one per mutual function of `comp` -/

/-- a node: entered at `x`, left at `x + exitD n`; a `continue` that escapes it jumps with the
    height `x` the node itself was entered with, a `break` with `x - rngD rng`: inside a range loop
    (`rng`) the node sits on top of the loop's iterator (`rngD rng ≤ x`), which `break` pops first -/
def PComp (G : SCtx) (n : N) : Prop :=
  wf n = true → ∀ rng kb kc x pc, G.At pc (comp kb kc rng n) (hts rng x n) →
    G.Tgt (pc + size rng n) (x + exitD n) →
    (escapes n = true → rngD rng ≤ x ∧ G.Tgt (pc + size rng n + kb) (x - rngD rng) ∧ G.Tgt (pc + size rng n + kc) x) →
    G.OkWin pc (size rng n)

/-- comparisons of one case with the subject on the stack (height `s + 1`): fall through and
    match both at `s + 1`; also: the piece (or what follows it) is a legal target at `s + 1` -/
def PVals (G : SCtx) (n : N) : Prop :=
  wfVals n = true → ∀ rng k s pc, G.At pc (compVals rng k n) (htsVals rng (s + 1) n) →
    G.Tgt (pc + valsLen rng n) (s + 1) → G.Tgt (pc + valsLen rng n + k) (s + 1) →
    G.OkWin pc (valsLen rng n) ∧ G.Tgt pc (s + 1)

/-- the comparisons of one case; its body sits `k` slots after them -/
def PCmpCase (G : SCtx) (n : N) : Prop :=
  wfCase n = true → ∀ rng k a s pc, G.At pc (compCmpCase rng k n) (htsCmpCase rng (s + 1) n) →
    G.Tgt (pc + caseCmpLen rng n) (s + 1) →
    G.At (pc + caseCmpLen rng n + k) (compBody rng a n) (htsBody rng (s + 1) n) →
    G.OkWin pc (caseCmpLen rng n) ∧ G.Tgt pc (s + 1)

/-- the comparison section; the bodies of the same cases sit `2 + before` slots after it -/
def PCmp (G : SCtx) (n : N) : Prop :=
  wfCases n = true → ∀ rng before d s pc, G.At pc (compCmp rng before n) (htsCmp rng (s + 1) n) →
    G.Tgt (pc + cmpLen rng n) (s + 1) →
    G.At (pc + cmpLen rng n + 2 + before) (compBodies rng d n) (htsBodies rng (s + 1) n) →
    G.OkWin pc (cmpLen rng n) ∧ G.Tgt pc (s + 1)

/-- one case body and its jump to the `Swap` -/
def PBody (G : SCtx) (n : N) : Prop :=
  wfCase n = true → ∀ rng a s pc, G.At pc (compBody rng a n) (htsBody rng s n) →
    G.Tgt (pc + caseBodyLen rng n + a) (s + 1) → G.OkWin pc (caseBodyLen rng n)

def PBodies (G : SCtx) (n : N) : Prop :=
  wfCases n = true → ∀ rng d s pc, G.At pc (compBodies rng d n) (htsBodies rng s n) →
    G.Tgt (pc + bodiesLen rng n + d) (s + 1) → G.OkWin pc (bodiesLen rng n)

def PDfltBody (G : SCtx) (n : N) : Prop :=
  wfCase n = true → ∀ rng s pc, G.At pc (compDfltBody rng n) (htsDfltBody rng s n) →
    G.Tgt (pc + dfltBodyLen rng n) (s + 1) → G.OkWin pc (dfltBodyLen rng n)

def PDflt (G : SCtx) (n : N) : Prop :=
  wfCases n = true → ∀ rng s pc, G.At pc (compDflt rng n) (htsDflt rng s n) →
    G.Tgt (pc + defLen rng n) (s + 1) → G.OkWin pc (defLen rng n) ∧ G.Tgt pc s

/-- the items of a list literal, the first entered at `s`: after them `countItems n` more values
    are on the stack; also: the piece (or what follows it) is a legal target at `s` -/
def PItems (G : SCtx) (n : N) : Prop :=
  wfVals n = true → ∀ rng s pc, G.At pc (compItems rng n) (htsItems rng s n) →
    G.Tgt (pc + itemsLen rng n) (s + countItems n) → G.OkWin pc (itemsLen rng n) ∧ G.Tgt pc s

theorem exitD_of_not_unit {n : N} (h : isUnitNode n = false) : exitD n = 1 := by simp [exitD, h]
theorem exitD_of_unit {n : N} (h : isUnitNode n = true) : exitD n = 0 := by simp [exitD, h]

/-- an operand (no break/continue escapes it) through its induction hypothesis -/
theorem use_operand {n : N} (ih : PComp G n) (hw : wf n = true) (hx : escapes n = false) {rng : Bool} {pc x : Nat}
    (hat : G.At pc (comp 0 0 rng n) (hts rng x n)) (ht : G.Tgt (pc + size rng n) (x + exitD n)) :
    G.OkWin pc (size rng n) :=
  ih hw rng 0 0 x pc hat ht (by intro h; rw [hx] at h; cases h)

/-- an expression operand: it leaves one value -/
theorem use_expr {n : N} (ih : PComp G n) (hw : wf n = true) (hx : escapes n = false) (he : isE n = true)
    {rng : Bool} {pc x : Nat} (hat : G.At pc (comp 0 0 rng n) (hts rng x n)) (ht : G.Tgt (pc + size rng n) (x + 1)) :
    G.OkWin pc (size rng n) := by
  refine use_operand ih hw hx hat ?_
  rw [exitD_of_not_unit (isE_not_unit he)]; exact ht

/-- a sub-node with its induction hypothesis, as the lemmas about one construct take it: an operand, or (outside a
    range loop, where `break` pops nothing) a piece that a `break` / `continue` may escape -/
theorem PComp.piece {n : N} (ih : PComp G n) (hw : wf n = true) {rng : Bool} {d : Nat} {e : Bool} (hd : exitD n = d)
    (he : escapes n = e) (hr : e = true → rng = false) :
    Piece G (fun kb kc => comp kb kc rng n) (fun x => hts rng x n) (size rng n) d e := by
  subst hd he
  refine ⟨fun kb kc => comp_length n kb kc rng, hts_length n rng, fun h => h.stgt_comp hw,
    fun h ht hx => ih hw _ _ _ _ _ h ht fun hesc => ?_⟩
  cases hr hesc
  exact ⟨Nat.zero_le _, (hx hesc).1, (hx hesc).2⟩

/-- an expression as an operand: it leaves its value, nothing escapes it -/
theorem PComp.expr {n : N} (ih : PComp G n) (hw : wf n = true) (he : isE n = true) (hx : escapes n = false) {rng : Bool} :
    Piece G (fun kb kc => comp kb kc rng n) (fun x => hts rng x n) (size rng n) 1 false :=
  ih.piece hw (exitD_of_not_unit (isE_not_unit he)) hx nofun

/-! ### leaves -/

/-- `PopTop` at height `x + 1` -/
theorem ok_pop {pc x : Nat} (h : G.At pc (one .popTop) (r1 (x + 1))) (ht : G.Tgt (pc + 1) x) : G.OkWin pc 1 :=
  ok_pop1 h rfl rfl ht

/-- `StoreGlobal` at height `x + 1` -/
theorem ok_store {pc x : Nat} {y : String} (h : G.At pc (two (.storeG y)) (r2 (x + 1))) (ht : G.Tgt (pc + 2) x) :
    G.OkWin pc 2 :=
  ok_pop2 h rfl rfl ht

theorem opIns_kind (op : BinOp) : (insOf (opIns op)).kind = .fall 2 1 ∧ (insOf (opIns op)).size = 2 := by
  cases op <;> exact ⟨rfl, rfl⟩

/-! ### expressions -/

/-- the two operands of a binary expression -/
theorem infix_operands {op : BinOp} {l r : N} (ihl : PComp G l) (ihr : PComp G r) (hw : wf (.infix op l r) = true)
    (rng : Bool) :
    Piece G (fun kb kc => comp kb kc rng l) (fun x => hts rng x l) (size rng l) 1 false ∧
      Piece G (fun kb kc => comp kb kc rng r) (fun x => hts rng x r) (size rng r) 1 false := by
  dsimp only [wf] at hw
  simp only [Bool.and_eq_true, Bool.not_eq_true'] at hw
  obtain ⟨⟨⟨⟨⟨⟨_, hel⟩, her⟩, hxl⟩, hxr⟩, hwl⟩, hwr⟩ := hw
  exact ⟨ihl.expr hwl hel hxl, ihr.expr hwr her hxr⟩

theorem ok_infix (op : BinOp) (l r : N) (ihl : PComp G l) (ihr : PComp G r) (hand : op ≠ .and) (hor : op ≠ .or) :
    PComp G (.infix op l r) := by
  intro hw rng kb kc x pc hat hexit _
  obtain ⟨L, R⟩ := infix_operands ihl ihr hw rng
  dsimp only [comp, hts] at hat
  simp only [hand, hor, ↓reduceIte, List.append_assoc] at hat
  exact L.binop R (by simp [size, hand, hor]) hat hexit (opIns_kind op)

theorem ok_and (l r : N) (ihl : PComp G l) (ihr : PComp G r) : PComp G (.infix .and l r) := by
  intro hw rng kb kc x pc hat hexit _
  obtain ⟨L, R⟩ := infix_operands ihl ihr hw rng
  dsimp only [comp, hts] at hat
  simp only [↓reduceIte, List.append_assoc] at hat
  exact L.sc R (by simp [size]) hat hexit ⟨rfl, rfl⟩ ⟨rfl, rfl⟩ ⟨rfl, rfl⟩ ⟨rfl, rfl⟩

theorem ok_or (l r : N) (ihl : PComp G l) (ihr : PComp G r) : PComp G (.infix .or l r) := by
  intro hw rng kb kc x pc hat hexit _
  obtain ⟨L, R⟩ := infix_operands ihl ihr hw rng
  dsimp only [comp, hts] at hat
  simp only [reduceCtorEq, ↓reduceIte, List.append_assoc] at hat
  exact L.sc R (by simp [size]) hat hexit ⟨rfl, rfl⟩ ⟨rfl, rfl⟩ ⟨rfl, rfl⟩ ⟨rfl, rfl⟩

/-- `c ? a : b` and `if c { a } else b`: both branches are entered at the node's own height,
    so a break/continue inside them jumps from that height -/
theorem ok_cond (c a b : N) (ihc : PComp G c) (iha : PComp G a) (ihb : PComp G b)
    (hwc : wf c = true) (hwa : wf a = true) (hwb : wf b = true) (hxc : escapes c = false)
    (huc : isUnitNode c = false) (hua : isUnitNode a = false) (hub : isUnitNode b = false) {rng : Bool} {pc x kb kc : Nat}
    (hat : G.At pc (comp 0 0 rng c ++ (two (.pjf (size rng a + 4)) ++ (comp (kb + (size rng b + 2)) (kc + (size rng b + 2)) rng a
        ++ (two (.jf (size rng b + 2)) ++ comp kb kc rng b))))
      (hts rng x c ++ (r2 (x + 1) ++ (hts rng x a ++ (r2 (x + 1) ++ hts rng x b)))))
    (hexit : G.Tgt (pc + (size rng c + (2 + (size rng a + (2 + size rng b))))) (x + 1))
    (hesc : (escapes a = true ∨ escapes b = true) → rngD rng ≤ x ∧
      G.Tgt (pc + (size rng c + (2 + (size rng a + (2 + size rng b)))) + kb) (x - rngD rng) ∧
      G.Tgt (pc + (size rng c + (2 + (size rng a + (2 + size rng b)))) + kc) x) :
    G.OkWin pc (size rng c + (2 + (size rng a + (2 + size rng b)))) := by
  obtain ⟨ac, hat⟩ := hat.scomp_cons
  obtain ⟨aj, hat⟩ := hat.two_cons
  obtain ⟨aa, hat⟩ := hat.scomp_cons
  obtain ⟨af, ab⟩ := hat.two_cons
  refine (use_operand ihc hwc hxc ac ?_).append ((okwin_cond aj (i := .pjf (size rng a + 4)) (d := size rng a + 4) rfl rfl (by omega) ?_ ?_).append
    ((iha hwa rng _ _ x _ aa ?_ ?_).append ((okwin_jf af ?_).append (ihb hwb rng kb kc x _ ab ?_ ?_))))
  · rw [exitD_of_not_unit huc]; exact aj.tgt_two
  · exact (ab.stgt_comp hwb).cast (by omega) (by omega)
  · exact (aa.stgt_comp hwa).cast (by omega) (by omega)
  · rw [exitD_of_not_unit hua]; exact af.tgt_two
  · intro h
    obtain ⟨t0, t1, t2⟩ := hesc (.inl h)
    exact ⟨t0, t1.cast (by omega) rfl, t2.cast (by omega) rfl⟩
  · exact hexit.cast (by omega) (by omega)
  · rw [exitD_of_not_unit hub]; exact hexit.cast (by omega) (by omega)
  · intro h
    obtain ⟨t0, t1, t2⟩ := hesc (.inr h)
    exact ⟨t0, t1.cast (by omega) rfl, t2.cast (by omega) rfl⟩

/-! ### statements -/

theorem unit_of_isS {n : N} (h : isS n = true) (hl : leaves n = false) : isUnitNode n = true := by
  simp only [isS, Bool.or_eq_true] at h
  rcases h with h | h
  · exact h
  · rw [hl] at h; cases h

theorem not_unit_of_leaves {n : N} (hl : leaves n = true) : isUnitNode n = false := by
  cases n <;> simp_all [leaves, isUnitNode]

theorem unit_of_isPost {n : N} (h : isPost n = true) (hl : leaves n = false) : isUnitNode n = true := by
  cases n <;> simp_all [isPost, leaves, isUnitNode]

theorem ok_pre (h : N) {pc x : Nat} (hat : G.At pc (pre h) (preH x h))
    (ht : G.Tgt (pc + preLen h) x) : G.OkWin pc (preLen h) := by
  unfold pre preH at hat
  unfold preLen at ht ⊢
  cases hp : postName h with
  | none => exact OkWin.zero G pc
  | some y =>
    simp only [hp] at hat ht
    obtain ⟨a1, a2⟩ := hat.two_cons
    exact (ok_push2 a1 rfl rfl a2.tgt_one).append (ok_pop a2 (ht.cast (by omega) rfl))

/-- a statement whose value, if it leaves one, is dropped: `n`, then `PopTop` iff `leaves n` -/
theorem ok_discard {n : N} (ih : PComp G n) (hw : wf n = true) (hu : leaves n = false → isUnitNode n = true)
    {rng : Bool} {kb kc pc x : Nat} {c2 : Seq.Code} {h2 : List Nat}
    (hat : G.At pc (comp kb kc rng n ++ ((if leaves n then one .popTop else []) ++ c2))
      (hts rng x n ++ ((if leaves n then r1 (x + 1) else []) ++ h2)))
    (hnext : ∀ {q}, G.At q c2 h2 → G.Tgt q x)
    (hesc : escapes n = true → rngD rng ≤ x ∧ G.Tgt (pc + size rng n + kb) (x - rngD rng) ∧ G.Tgt (pc + size rng n + kc) x) :
    G.OkWin pc (size rng n + (if leaves n then 1 else 0)) ∧
      G.At (pc + (size rng n + (if leaves n then 1 else 0))) c2 h2 := by
  obtain ⟨an, hat⟩ := hat.scomp_cons
  cases hl : leaves n
  · simp only [hl, Bool.false_eq_true, ↓reduceIte, List.nil_append, Nat.add_zero] at hat ⊢
    refine ⟨ih hw rng kb kc x pc an ?_ hesc, hat⟩
    rw [exitD_of_unit (hu hl)]; exact hnext hat
  · simp only [hl, ↓reduceIte] at hat ⊢
    obtain ⟨ap, hat⟩ := hat.one_cons
    refine ⟨(ih hw rng kb kc x pc an ?_ hesc).append (ok_pop ap (hnext hat)), hat.cast (by omega)⟩
    rw [exitD_of_not_unit (not_unit_of_leaves hl)]; exact ap.tgt_one

theorem ok_cons (h t : N) (ihh : PComp G h) (iht : PComp G t) : PComp G (.cons h t) := by
  intro hw rng kb kc x pc hat hexit hesc
  dsimp only [wf] at hw
  simp only [Bool.and_eq_true] at hw
  obtain ⟨⟨⟨hsh, hlt⟩, hwh⟩, hwt⟩ := hw
  have hex : exitD (.cons h t) = 1 := rfl
  have hext : exitD t = 1 := exitD_of_not_unit (isL_not_unit hlt)
  rw [hex] at hexit
  simp only [escapes, Bool.or_eq_true] at hesc
  cases hn : isNilL t
  · -- more statements follow: the value of `h`, if it leaves one, is popped
    have hsz : size rng (.cons h t) = preLen h + ((size rng h + (if leaves h then 1 else 0)) + size rng t) := by
      simp only [size, hn, Bool.false_eq_true, ↓reduceIte]; omega
    rw [hsz] at hexit hesc ⊢
    dsimp only [comp, hts] at hat
    simp only [hn, Bool.false_eq_true, ↓reduceIte] at hat
    obtain ⟨ap, hat⟩ := hat.spre_cons
    have th := hat.scomp_cons.1.stgt_comp hwh
    obtain ⟨okh, at_⟩ := ok_discard ihh hwh (unit_of_isS hsh) hat (fun a => a.stgt_comp hwt) (by
      intro he
      obtain ⟨t0, t1, t2⟩ := hesc (.inl he)
      exact ⟨t0, t1.cast (by omega) rfl, t2.cast (by omega) rfl⟩)
    refine (ok_pre h ap th).append (okh.append (iht hwt rng kb kc x _ at_ ?_ ?_))
    · rw [hext]; exact hexit.cast (by omega) rfl
    · intro he
      obtain ⟨t0, t1, t2⟩ := hesc (.inr he)
      exact ⟨t0, t1.cast (by omega) rfl, t2.cast (by omega) rfl⟩
  · cases hl : leaves h
    · -- last statement, not an expression: `Nil` is the block's value
      have hsz : size rng (.cons h t) = preLen h + (size rng h + 1) := by simp [size, hn, hl]; omega
      rw [hsz] at hexit hesc ⊢
      dsimp only [comp, hts] at hat
      simp only [hn, hl, Bool.false_eq_true, ↓reduceIte] at hat
      have hu := unit_of_isS hsh hl
      obtain ⟨ap, hat⟩ := hat.spre_cons
      obtain ⟨ah, an⟩ := hat.scomp_cons
      refine (ok_pre h ap (ah.stgt_comp hwh)).append ((ihh hwh rng _ _ x _ ah ?_ ?_).append (ok_push1 an rfl rfl ?_))
      · rw [exitD_of_unit hu]; exact an.tgt_one
      · intro he
        obtain ⟨t0, t1, t2⟩ := hesc (.inl he)
        exact ⟨t0, t1.cast (by omega) rfl, t2.cast (by omega) rfl⟩
      · exact hexit.cast (by omega) rfl
    · -- last statement, an expression: its value is the block's value
      have hsz : size rng (.cons h t) = preLen h + size rng h := by simp [size, hn, hl]
      rw [hsz] at hexit hesc ⊢
      dsimp only [comp, hts] at hat
      simp only [hn, hl, ↓reduceIte, List.append_nil, Nat.add_zero] at hat
      have hu := not_unit_of_leaves hl
      obtain ⟨ap, ah⟩ := hat.spre_cons
      refine (ok_pre h ap (ah.stgt_comp hwh)).append (ihh hwh rng _ _ x _ ah ?_ ?_)
      · rw [exitD_of_not_unit hu]; exact hexit.cast (by omega) rfl
      · intro he
        obtain ⟨t0, t1, t2⟩ := hesc (.inl he)
        exact ⟨t0, t1.cast (by omega) rfl, t2.cast (by omega) rfl⟩

theorem ok_var (y : String) (e : N) (ih : PComp G e) : PComp G (.var y e) := by
  intro hw rng kb kc x pc hat hexit _
  dsimp only [wf] at hw
  simp only [Bool.and_eq_true, Bool.not_eq_true'] at hw
  dsimp only [comp, hts] at hat
  exact (ih.expr hw.2 hw.1.1 hw.1.2).store rfl hat hexit ⟨rfl, rfl⟩

theorem ok_assign (y : String) (op : AssignOp) (e : N) (ih : PComp G e) : PComp G (.assign y op e) := by
  intro hw rng kb kc x pc hat hexit _
  dsimp only [wf] at hw
  simp only [Bool.and_eq_true, Bool.not_eq_true'] at hw
  have hex : exitD (.assign y op e) = 0 := rfl
  rw [hex] at hexit
  by_cases h1 : op = .set
  · dsimp only [comp, hts] at hat
    simp only [h1, ↓reduceIte] at hat
    exact (ih.expr hw.2 hw.1.1 hw.1.2).store (by simp [size, h1]) hat hexit ⟨rfl, rfl⟩
  · have hsz : size rng (.assign y op e) = 2 + (size rng e + (2 + 2)) := by simp [size, h1]; omega
    rw [hsz] at hexit ⊢
    dsimp only [comp, hts] at hat
    simp only [h1, ↓reduceIte, List.append_assoc] at hat
    obtain ⟨al, hat⟩ := hat.two_cons
    obtain ⟨ae, hat⟩ := hat.scomp_cons
    obtain ⟨ab, as⟩ := hat.two_cons
    refine (ok_push2 al rfl rfl (ae.stgt_comp hw.2)).append ((use_expr ih hw.2 hw.1.2 hw.1.1 ae ?_).append
      ((ok_bin ab (i := .binary (assignK op)) rfl rfl ?_).append (ok_store as (hexit.cast (by omega) (by omega)))))
    · exact ab.tgt_two.cast (by omega) (by omega)
    · exact as.tgt_two

theorem ok_postfix (y : String) (inc : Bool) : PComp G (.postfix y inc) := by
  intro _ rng kb kc x pc hat hexit _
  have hex : exitD (.postfix y inc) = 0 := rfl
  have hsz : size rng (.postfix y inc) = 2 + (2 + (2 + 2)) := rfl
  rw [hsz, hex] at hexit
  dsimp only [comp, hts] at hat
  simp only [List.append_assoc] at hat
  rw [hsz]
  obtain ⟨al, hat⟩ := hat.two_cons
  obtain ⟨ac, hat⟩ := hat.two_cons
  obtain ⟨ab, as⟩ := hat.two_cons
  exact (ok_push2 al rfl rfl ac.tgt_two).append ((ok_push2 ac rfl rfl (ab.tgt_two.cast rfl (by omega))).append
    ((ok_bin ab (i := .binary 1) rfl rfl as.tgt_two).append (ok_store as (hexit.cast (by omega) (by omega)))))

/-- `break`: a forward jump to the enclosing loop's exit; when that loop is a range loop, `PopTop`
    drops its iterator first, so the jump leaves with the height the LOOP was entered with -/
theorem ok_break : PComp G .break_ := by
  intro _ rng kb kc x pc hat _ hesc
  obtain ⟨t0, t1, _⟩ := hesc rfl
  cases rng
  · simp only [comp, hts, Bool.false_eq_true, ↓reduceIte, List.nil_append] at hat
    have hsz : size false .break_ = 2 := rfl
    rw [hsz] at t1 ⊢
    exact okwin_jf hat (t1.cast (by omega) (by simp [rngD]))
  · simp only [comp, hts, ↓reduceIte] at hat
    have hsz : size true .break_ = 1 + 2 := rfl
    rw [hsz] at t1 ⊢
    simp only [rngD, ↓reduceIte] at t0 t1
    obtain ⟨ap, aj⟩ := hat.one_cons
    exact (okwin_fall1 ap (a := 1) (b := 0) rfl rfl t0 (aj.tgt_two.cast rfl (by omega))).append
      (okwin_jf aj (t1.cast (by omega) rfl))

/-- `continue`: a forward jump to the backward jump of the enclosing loop, with the height the
    statement was entered with (in a range loop: the iterator stays) -/
theorem ok_continue : PComp G .continue_ := by
  intro _ rng kb kc x pc hat _ hesc
  dsimp only [comp, hts] at hat
  obtain ⟨_, _, t2⟩ := hesc rfl
  exact okwin_jf hat (t2.cast (by simp [size]; omega) rfl)

/-! ### loops without iterator: the body's value is popped, the backward jump returns to the
    height the loop was entered with; `break` and `continue` arrive with that same height -/

theorem ok_forcond (c b : N) (ihc : PComp G c) (ihb : PComp G b) : PComp G (.forcond c b) := by
  intro hw rng kb kc x pc hat hexit _
  dsimp only [wf] at hw
  simp only [Bool.and_eq_true, Bool.not_eq_true'] at hw
  obtain ⟨⟨⟨⟨hec, hbb⟩, hxc⟩, hwc⟩, hwb⟩ := hw
  dsimp only [comp, hts] at hat
  simp only [List.append_assoc] at hat
  exact (ihc.expr hwc hec hxc).forcond (ihb.piece hwb (exitD_of_not_unit (isBlock_not_unit hbb)) rfl fun _ => rfl) rfl
    hat hexit ⟨rfl, rfl⟩ ⟨rfl, rfl⟩ rfl ⟨rfl, rfl⟩

theorem ok_forever (b : N) (ihb : PComp G b) : PComp G (.forever b) := by
  intro hw rng kb kc x pc hat hexit _
  dsimp only [wf] at hw
  simp only [Bool.and_eq_true] at hw
  dsimp only [comp, hts] at hat
  simp only [List.append_assoc] at hat
  exact (ihb.piece hw.2 (exitD_of_not_unit (isBlock_not_unit hw.1)) rfl fun _ => rfl).forever rfl hat hexit
    ⟨rfl, rfl⟩ rfl ⟨rfl, rfl⟩

theorem exitD_of_leaves {n : N} (hu : leaves n = false → isUnitNode n = true) :
    exitD n = if leaves n then 1 else 0 := by
  cases hl : leaves n
  · exact exitD_of_unit (hu hl)
  · exact exitD_of_not_unit (not_unit_of_leaves hl)

theorem ok_for3 (i c p b : N) (ihi : PComp G i) (ihc : PComp G c) (ihp : PComp G p) (ihb : PComp G b) :
    PComp G (.for3 i c p b) := by
  intro hw rng kb kc x pc hat hexit _
  dsimp only [wf] at hw
  simp only [Bool.and_eq_true, Bool.not_eq_true'] at hw
  obtain ⟨⟨⟨⟨⟨⟨⟨⟨⟨⟨hii, hec⟩, hpp⟩, hbb⟩, hxi⟩, hxc⟩, hxp⟩, hwi⟩, hwc⟩, hwp⟩, hwb⟩ := hw
  dsimp only [comp, hts] at hat
  simp only [List.append_assoc] at hat
  exact (ihi.piece hwi (exitD_of_unit (isInit_unit hii)) hxi nofun).for3 (ihc.expr hwc hec hxc)
    (ihp.piece hwp (exitD_of_leaves (unit_of_isPost hpp)) hxp nofun)
    (ihb.piece hwb (exitD_of_not_unit (isBlock_not_unit hbb)) rfl fun _ => rfl)
    rfl rfl hat hexit ⟨rfl, rfl⟩ ⟨rfl, rfl⟩ ⟨rfl, rfl⟩ rfl

/-! ### switch: the subject stays below everything (height `x + 1`) until `Swap 1; PopTop` -/

theorem ok_vals_cons (v vs : N) (ihv : PComp G v) (ihvs : PVals G vs) : PVals G (.cons v vs) := by
  intro hw rng k s pc hat hfall hmatch
  dsimp only [wfVals] at hw
  simp only [Bool.and_eq_true, Bool.not_eq_true'] at hw
  obtain ⟨⟨⟨hev, hxv⟩, hwv⟩, hwvs⟩ := hw
  have hsz : valsLen rng (.cons v vs) = 2 + (size rng v + (2 + (2 + valsLen rng vs))) := by simp [valsLen]; omega
  rw [hsz] at hfall hmatch ⊢
  simp only [compVals, htsVals, List.append_assoc] at hat
  obtain ⟨acp, hat⟩ := hat.two_cons
  obtain ⟨av, hat⟩ := hat.scomp_cons
  obtain ⟨acm, hat⟩ := hat.two_cons
  obtain ⟨aj, avs⟩ := hat.two_cons
  obtain ⟨okvs, tvs⟩ := ihvs hwvs rng k s _ avs (hfall.cast (by omega) rfl) (hmatch.cast (by omega) rfl)
  refine ⟨(okwin_need2 acp (a := 1) (b := 1) rfl rfl (by omega) ?_).append ((use_expr ihv hwv hxv hev av ?_).append
    ((ok_bin acm (i := .compare 3) rfl rfl ?_).append
      ((okwin_cond aj (i := .pjt (valsLen rng vs + k + 2)) (d := valsLen rng vs + k + 2) rfl rfl (by omega) ?_ ?_).append okvs))),
    acp.tgt_two⟩
  · exact (av.stgt_comp hwv).cast rfl (by omega)
  · exact acm.tgt_two.cast rfl (by omega)
  · exact aj.tgt_two
  · exact hmatch.cast (by omega) (by omega)
  · exact tvs.cast (by omega) (by omega)

/-- an empty piece: nothing to check, and the place is what follows it -/
theorem ok_vals_empty (n : N) (hl : ∀ rng, valsLen rng n = 0) : PVals G n := by
  intro _ rng k s pc _ hfall _
  rw [hl] at hfall ⊢
  exact ⟨OkWin.zero G pc, hfall.cast (by omega) rfl⟩

theorem ok_cmpcase_case (vals body : N) (ihv : PVals G vals) : PCmpCase G (.case_ vals body) := by
  intro hw rng k a s pc hat hfall hbody
  dsimp only [wfCase] at hw
  simp only [Bool.and_eq_true, Bool.not_eq_true'] at hw
  obtain ⟨⟨⟨hwv, _⟩, _⟩, hwb⟩ := hw
  simp only [compCmpCase, htsCmpCase, caseCmpLen, compBody, htsBody] at hat hfall hbody ⊢
  have ab : G.At (pc + valsLen rng vals + k) (comp 0 0 rng body) (hts rng (s + 1) body) := ⟨hbody.1.left, hbody.2.left⟩
  exact ihv hwv rng k s pc hat hfall (ab.stgt_comp hwb)

theorem ok_cmpcase_empty (n : N) (hl : ∀ rng, caseCmpLen rng n = 0) : PCmpCase G n := by
  intro _ rng k a s pc _ hfall _
  rw [hl] at hfall ⊢
  exact ⟨OkWin.zero G pc, hfall.cast (by omega) rfl⟩

theorem ok_cmp_cons (h t : N) (ihh : PCmpCase G h) (iht : PCmp G t) : PCmp G (.cons h t) := by
  intro hw rng before d s pc hat hfall hbodies
  dsimp only [wfCases] at hw
  simp only [Bool.and_eq_true] at hw
  have hsz : cmpLen rng (.cons h t) = caseCmpLen rng h + cmpLen rng t := by simp [cmpLen]
  rw [hsz] at hfall hbodies ⊢
  simp only [compCmp, htsCmp, compBodies, htsBodies] at hat hbodies
  obtain ⟨ah, at_⟩ := hat.split (compCmpCase_length h _ rng) (htsCmpCase_length h rng _)
  obtain ⟨bh, bt⟩ := hbodies.split (compBody_length h _ rng) (htsBody_length h rng _)
  obtain ⟨okt, tt⟩ := iht hw.2 rng (before + caseBodyLen rng h) d s _ at_ (hfall.cast (by omega) rfl) (bt.cast (by omega))
  obtain ⟨okh, th⟩ := ihh hw.1 rng (cmpLen rng t + 2 + before) _ s pc ah tt (bh.cast (by omega))
  exact ⟨okh.append okt, th⟩

theorem ok_cmp_empty (n : N) (hl : ∀ rng, cmpLen rng n = 0) : PCmp G n := by
  intro _ rng before d s pc _ hfall _
  rw [hl] at hfall ⊢
  exact ⟨OkWin.zero G pc, hfall.cast (by omega) rfl⟩

theorem ok_body_case (vals body : N) (ihb : PComp G body) : PBody G (.case_ vals body) := by
  intro hw rng a s pc hat hexit
  dsimp only [wfCase] at hw
  simp only [Bool.and_eq_true, Bool.not_eq_true'] at hw
  obtain ⟨⟨⟨_, hbb⟩, hxb⟩, hwb⟩ := hw
  have hsz : caseBodyLen rng (.case_ vals body) = size rng body + 2 := by simp [caseBodyLen]
  rw [hsz] at hexit ⊢
  simp only [compBody, htsBody] at hat
  obtain ⟨ab, aj⟩ := hat.scomp_cons
  refine (use_operand ihb hwb hxb ab ?_).append (okwin_jf aj (hexit.cast (by omega) rfl))
  rw [exitD_of_not_unit (isBlock_not_unit hbb)]; exact aj.tgt_two

theorem ok_bodies_cons (h t : N) (ihh : PBody G h) (iht : PBodies G t) : PBodies G (.cons h t) := by
  intro hw rng d s pc hat hexit
  dsimp only [wfCases] at hw
  simp only [Bool.and_eq_true] at hw
  have hsz : bodiesLen rng (.cons h t) = caseBodyLen rng h + bodiesLen rng t := by simp [bodiesLen]
  rw [hsz] at hexit ⊢
  simp only [compBodies, htsBodies] at hat
  obtain ⟨ah, at_⟩ := hat.split (compBody_length h _ rng) (htsBody_length h rng _)
  exact (ihh hw.1 rng _ s pc ah (hexit.cast (by omega) rfl)).append (iht hw.2 rng d s _ at_ (hexit.cast (by omega) rfl))

theorem ok_dfltbody_default (body : N) (ihb : PComp G body) : PDfltBody G (.default_ body) := by
  intro hw rng s pc hat hexit
  dsimp only [wfCase] at hw
  simp only [Bool.and_eq_true, Bool.not_eq_true'] at hw
  obtain ⟨⟨hbb, hxb⟩, hwb⟩ := hw
  simp only [compDfltBody, htsDfltBody, dfltBodyLen] at hat hexit ⊢
  refine use_operand ihb hwb hxb hat ?_
  rw [exitD_of_not_unit (isBlock_not_unit hbb)]; exact hexit

theorem ok_dflt_cons (h t : N) (ihh : PDfltBody G h) (iht : PDflt G t) : PDflt G (.cons h t) := by
  intro hw rng s pc hat hexit
  dsimp only [wfCases] at hw
  simp only [Bool.and_eq_true] at hw
  simp only [compDflt, htsDflt, defLen] at hat hexit ⊢
  cases hd : isDefault h
  · simp only [hd, Bool.false_eq_true, ↓reduceIte] at hat hexit ⊢
    exact iht hw.2 rng s pc hat hexit
  · simp only [hd, ↓reduceIte] at hat hexit ⊢
    refine ⟨ihh hw.1 rng s pc hat hexit, ?_⟩
    cases h <;> simp [isDefault] at hd
    rename_i body
    dsimp only [wfCase] at hw
    simp only [Bool.and_eq_true] at hw
    simp only [compDfltBody, htsDfltBody] at hat
    exact hat.stgt_comp hw.1.2

theorem ok_dflt_nil : PDflt G .nilL := by
  intro _ rng s pc hat hexit
  simp only [compDflt, htsDflt, defLen] at hat hexit ⊢
  exact ⟨ok_push1 hat rfl rfl hexit, hat.tgt_one⟩

theorem ok_switch (subj cases : N) (ihs : PComp G subj) (ihc : PCmp G cases) (ihb : PBodies G cases)
    (ihd : PDflt G cases) : PComp G (.switch subj cases) := by
  intro hw rng kb kc x pc hat hexit _
  dsimp only [wf] at hw
  simp only [Bool.and_eq_true, Bool.not_eq_true'] at hw
  obtain ⟨⟨⟨⟨hes, hxs⟩, hws⟩, hwc⟩, _⟩ := hw
  have hex : exitD (.switch subj cases) = 1 := rfl
  have hsz : size rng (.switch subj cases) =
      size rng subj + (cmpLen rng cases + (2 + (bodiesLen rng cases + (defLen rng cases + (2 + 1))))) := by dsimp only [size]; omega
  rw [hsz, hex] at hexit
  dsimp only [comp, hts] at hat
  simp only [List.append_assoc] at hat
  rw [hsz]
  obtain ⟨as, hat⟩ := hat.scomp_cons
  obtain ⟨ac, hat⟩ := hat.split (compCmp_length cases _ rng) (htsCmp_length cases rng _)
  obtain ⟨aj, hat⟩ := hat.two_cons
  obtain ⟨ab, hat⟩ := hat.split (compBodies_length cases _ rng) (htsBodies_length cases rng _)
  obtain ⟨ad, hat⟩ := hat.split (compDflt_length cases rng) (htsDflt_length cases rng _)
  obtain ⟨asw, apop⟩ := hat.two_cons
  obtain ⟨okc, tc⟩ := ihc hwc rng 0 (defLen rng cases) x _ ac aj.tgt_two (ab.cast (by omega))
  obtain ⟨okd, td⟩ := ihd hwc rng (x + 1) _ ad (asw.tgt_two.cast rfl (by omega))
  refine (use_expr ihs hws hxs hes as tc).append (okc.append ((okwin_jf aj ?_).append
    ((ihb hwc rng (defLen rng cases) (x + 1) _ ab ?_).append (okd.append
      ((okwin_need2 asw (a := 2) (b := 0) rfl rfl (by omega) ?_).append
        (okwin_fall1 apop (a := 1) (b := 0) rfl rfl (by omega) ?_))))))
  · exact td.cast (by omega) rfl
  · exact asw.tgt_two.cast (by omega) (by omega)
  · exact apop.tgt_one.cast rfl (by omega)
  · exact hexit.cast (by omega) (by omega)

/-! ### F6: list literals, index reads, item assignment -/

theorem ok_items_cons (v vs : N) (ihv : PComp G v) (ihvs : PItems G vs) : PItems G (.cons v vs) := by
  intro hw rng s pc hat hexit
  dsimp only [wfVals] at hw
  simp only [Bool.and_eq_true, Bool.not_eq_true'] at hw
  obtain ⟨⟨⟨hev, hxv⟩, hwv⟩, hwvs⟩ := hw
  have hsz : itemsLen rng (.cons v vs) = size rng v + itemsLen rng vs := by simp [itemsLen]
  have hcn : countItems (.cons v vs) = countItems vs + 1 := rfl
  rw [hsz, hcn] at hexit
  rw [hsz]
  simp only [compItems, htsItems] at hat
  obtain ⟨av, avs⟩ := hat.scomp_cons
  obtain ⟨okvs, tvs⟩ := ihvs hwvs rng (s + 1) _ avs (hexit.cast (by omega) (by omega))
  exact ⟨(use_expr ihv hwv hxv hev av tvs).append okvs, av.stgt_comp hwv⟩

theorem ok_items_empty (n : N) (hl : ∀ rng, itemsLen rng n = 0) (hc : countItems n = 0) : PItems G n := by
  intro _ rng s pc _ hexit
  rw [hl, hc] at hexit
  rw [hl]
  exact ⟨OkWin.zero G pc, hexit⟩

/-- `[e1, …, en]`: the items one above the other, `BuildList n` pops all of them and pushes the list -/
theorem ok_list (items : N) (ihi : PItems G items) : PComp G (.list items) := by
  intro hw rng kb kc x pc hat hexit _
  dsimp only [wf] at hw
  have hex : exitD (.list items) = 1 := rfl
  have hsz : size rng (.list items) = itemsLen rng items + 2 := rfl
  rw [hsz, hex] at hexit
  dsimp only [comp, hts] at hat
  rw [hsz]
  obtain ⟨ai, ab⟩ := hat.split (compItems_length items rng) (htsItems_length items rng x)
  obtain ⟨oki, _⟩ := ihi hw rng x pc ai ab.tgt_two
  exact oki.append (okwin_fall2 ab (i := .buildList (countItems items)) (a := countItems items) (b := 1) rfl rfl (by omega)
    (hexit.cast (by omega) (by omega)))

/-- `e[i]`: `BinarySubscr` pops the index and the container, pushes the item -/
theorem ok_index (e i : N) (ihe : PComp G e) (ihi : PComp G i) : PComp G (.index e i) := by
  intro hw rng kb kc x pc hat hexit _
  dsimp only [wf] at hw
  simp only [Bool.and_eq_true, Bool.not_eq_true'] at hw
  obtain ⟨⟨⟨⟨⟨hee, hei⟩, hxe⟩, hxi⟩, hwe⟩, hwi⟩ := hw
  have hex : exitD (.index e i) = 1 := rfl
  have hsz : size rng (.index e i) = size rng e + (size rng i + 1) := by dsimp only [size]; omega
  rw [hsz, hex] at hexit
  dsimp only [comp, hts] at hat
  simp only [List.append_assoc] at hat
  rw [hsz]
  obtain ⟨ae, hat⟩ := hat.scomp_cons
  obtain ⟨ai, ab⟩ := hat.scomp_cons
  exact (use_expr ihe hwe hxe hee ae (ai.stgt_comp hwi)).append
    ((use_expr ihi hwi hxi hei ai (ab.tgt_one.cast rfl (by omega))).append
      (okwin_fall1 ab (i := .binarySubscr) (a := 2) (b := 1) rfl rfl (by omega) (hexit.cast (by omega) (by omega))))

/-- `o[i] = v`: `StoreSubscr` pops index, container and right-hand side, pushes nothing -/
theorem ok_setitem_set (o i v : N) (iho : PComp G o) (ihi : PComp G i) (ihv : PComp G v) :
    PComp G (.setitem .set o i v) := by
  intro hw rng kb kc x pc hat hexit _
  dsimp only [wf] at hw
  simp only [Bool.and_eq_true, Bool.not_eq_true'] at hw
  obtain ⟨⟨⟨⟨⟨⟨⟨⟨heo, hei⟩, hev⟩, hxo⟩, hxi⟩, hxv⟩, hwo⟩, hwi⟩, hwv⟩ := hw
  have hex : exitD (.setitem .set o i v) = 0 := rfl
  have hsz : size rng (.setitem .set o i v) = size rng v + (size rng o + (size rng i + 1)) := by simp [size]; omega
  rw [hsz, hex] at hexit
  dsimp only [comp, hts] at hat
  simp only [↓reduceIte, List.append_assoc] at hat
  rw [hsz]
  obtain ⟨av, hat⟩ := hat.scomp_cons
  obtain ⟨ao, hat⟩ := hat.scomp_cons
  obtain ⟨ai, ast⟩ := hat.scomp_cons
  exact (use_expr ihv hwv hxv hev av (ao.stgt_comp hwo)).append
    ((use_expr iho hwo hxo heo ao ((ai.stgt_comp hwi).cast rfl (by omega))).append
      ((use_expr ihi hwi hxi hei ai (ast.tgt_one.cast rfl (by omega))).append
        (okwin_fall1 ast (i := .storeSubscr) (a := 3) (b := 0) rfl rfl (by omega) (hexit.cast (by omega) (by omega)))))

/-- `o[i] op= v`: container, index, the current item, the right-hand side, the operation, then
    container and index AGAIN, then `StoreSubscr` -/
theorem ok_setitem_op (op : AssignOp) (hop : op ≠ .set) (o i v : N) (iho : PComp G o) (ihi : PComp G i) (ihv : PComp G v) :
    PComp G (.setitem op o i v) := by
  intro hw rng kb kc x pc hat hexit _
  dsimp only [wf] at hw
  simp only [Bool.and_eq_true, Bool.not_eq_true'] at hw
  obtain ⟨⟨⟨⟨⟨⟨⟨⟨heo, hei⟩, hev⟩, hxo⟩, hxi⟩, hxv⟩, hwo⟩, hwi⟩, hwv⟩ := hw
  have hex : exitD (.setitem op o i v) = 0 := rfl
  have hsz : size rng (.setitem op o i v) =
      size rng o + (size rng i + (1 + (size rng v + (2 + (size rng o + (size rng i + 1)))))) := by simp [size, hop]; omega
  rw [hsz, hex] at hexit
  dsimp only [comp, hts] at hat
  simp only [hop, ↓reduceIte, List.append_assoc] at hat
  rw [hsz]
  obtain ⟨ao, hat⟩ := hat.scomp_cons
  obtain ⟨ai, hat⟩ := hat.scomp_cons
  obtain ⟨asb, hat⟩ := hat.one_cons
  obtain ⟨av, hat⟩ := hat.scomp_cons
  obtain ⟨abn, hat⟩ := hat.two_cons
  obtain ⟨ao2, hat⟩ := hat.scomp_cons
  obtain ⟨ai2, ast⟩ := hat.scomp_cons
  exact (use_expr iho hwo hxo heo ao (ai.stgt_comp hwi)).append
    ((use_expr ihi hwi hxi hei ai (asb.tgt_one.cast rfl (by omega))).append
      ((okwin_fall1 asb (i := .binarySubscr) (a := 2) (b := 1) rfl rfl (by omega) ((av.stgt_comp hwv).cast rfl (by omega))).append
        ((use_expr ihv hwv hxv hev av (abn.tgt_two.cast rfl (by omega))).append
          ((ok_bin abn (i := .binary (assignK op)) rfl rfl (ao2.stgt_comp hwo)).append
            ((use_expr iho hwo hxo heo ao2 ((ai2.stgt_comp hwi).cast rfl (by omega))).append
              ((use_expr ihi hwi hxi hei ai2 (ast.tgt_one.cast rfl (by omega))).append
                (okwin_fall1 ast (i := .storeSubscr) (a := 3) (b := 0) rfl rfl (by omega) (hexit.cast (by omega) (by omega)))))))))

/-! ### F6: range loops.  The iterator sits in the loop's stack slot: the body runs ONE ABOVE the
    height the loop was entered with; `ForIter`'s exhaustion edge and `break` (`PopTop` first) both
    arrive after the loop with the entry height, `continue` and the end of the body at the backward
    jump with the iterator still there -/

/-- the `StoreGlobal`s of the loop names: each pops one of the values `ForIter` pushed -/
theorem ok_stores (xs : List String) : ∀ {pc y : Nat}, G.At pc (stores xs) (storesH y xs) →
    G.Tgt (pc + 2 * xs.length) y → G.OkWin pc (2 * xs.length) ∧ G.Tgt pc (y + xs.length) := by
  induction xs with
  | nil =>
    intro pc y _ ht
    exact ⟨OkWin.zero G pc, ht.cast (by simp) (by simp)⟩
  | cons x xs ih =>
    intro pc y hat ht
    simp only [stores, storesH] at hat
    obtain ⟨a1, a2⟩ := hat.two_cons
    obtain ⟨ok2, t2⟩ := ih a2 (ht.cast (by simp only [List.length_cons]; omega) rfl)
    exact ⟨((ok_store a1 t2).append ok2).cast (by simp only [List.length_cons]; omega),
      a1.tgt_two.cast rfl (by simp only [List.length_cons]; omega)⟩

/-- the four range-loop forms (`m` = `ForIter`'s second operand, `k` = the number of loop values
    it pushes = the number of `StoreGlobal`s) -/
theorem ok_rangeloop (c b : N) (names : List String) (m D1 D2 : Nat) (rng : Bool)
    (hp : forIterPush m = some names.length)
    (hD1 : D1 = 3 + 2 * names.length + size true b + 3) (hD2 : D2 = 3 + 2 * names.length + size true b + 1)
    (ihc : PComp G c) (ihb : PComp G b) (hwc : wf c = true) (hwb : wf b = true) (hxc : escapes c = false)
    (hec : isE c = true) (hbb : isBlock b = true) {pc x : Nat}
    (hat : G.At pc (comp 0 0 rng c ++ (one .getIter ++ (three (.forIter D1 m) ++ (stores names ++
        (comp 3 1 true b ++ (one .popTop ++ two (.jb D2)))))))
      (hts rng x c ++ (r1 (x + 1) ++ (r3 (x + 1) ++ (storesH (x + 1) names ++
        (hts true (x + 1) b ++ (r1 (x + 2) ++ r2 (x + 1))))))))
    (hexit : G.Tgt (pc + (size rng c + (1 + (3 + (2 * names.length + (size true b + (1 + 2))))))) x) :
    G.OkWin pc (size rng c + (1 + (3 + (2 * names.length + (size true b + (1 + 2)))))) := by
  subst hD1 hD2
  obtain ⟨ac, hat⟩ := hat.scomp_cons
  obtain ⟨ag, hat⟩ := hat.one_cons
  obtain ⟨af, hat⟩ := hat.three_cons
  obtain ⟨as, hat⟩ := hat.split (stores_length names) (storesH_length (x + 1) names)
  obtain ⟨ab, hat⟩ := hat.scomp_cons
  obtain ⟨ap, ajb⟩ := hat.one_cons
  obtain ⟨oks, ts⟩ := ok_stores names as (ab.stgt_comp hwb)
  refine (use_expr ihc hwc hxc hec ac ag.tgt_one).append
    ((okwin_fall1 ag (i := .getIter) (a := 1) (b := 1) rfl rfl (by omega) (af.tgt_three.cast rfl (by omega))).append
      ((okwin_forIter af (i := .forIter (3 + 2 * names.length + size true b + 3) m)
        (d := 3 + 2 * names.length + size true b + 3) (m := m) rfl rfl hp (by omega) ?_ ts).append
        (oks.append ((ihb hwb true 3 1 (x + 1) _ ab ?_ ?_).append ((ok_pop ap ajb.tgt_two).append
          (okwin_jb ajb (by omega) ?_))))))
  · exact hexit.cast (by omega) (by omega)
  · rw [exitD_of_not_unit (isBlock_not_unit hbb)]; exact ap.tgt_one
  · intro _
    exact ⟨by simp [rngD], hexit.cast (by omega) (by simp [rngD]), ajb.tgt_two.cast (by omega) rfl⟩
  · exact af.tgt_three.cast (by omega) rfl

theorem forIterPush_rngNames (k v : String) : forIterPush (rngNames k v).length = some (rngNames k v).length := by
  unfold rngNames
  by_cases h1 : (k == "") = true <;> by_cases h2 : (v == "") = true <;> simp [h1, h2, forIterPush]

theorem ok_forrange (k v : String) (c b : N) (ihc : PComp G c) (ihb : PComp G b) : PComp G (.forrange k v c b) := by
  intro hw rng kb kc x pc hat hexit _
  dsimp only [wf] at hw
  simp only [Bool.and_eq_true, Bool.not_eq_true'] at hw
  obtain ⟨⟨⟨⟨hec, hbb⟩, hxc⟩, hwc⟩, hwb⟩ := hw
  have hex : exitD (.forrange k v c b) = 0 := rfl
  have hsz : size rng (.forrange k v c b) =
      size rng c + (1 + (3 + (2 * (rngNames k v).length + (size true b + (1 + 2))))) := by dsimp only [size]; omega
  rw [hsz, hex] at hexit
  dsimp only [comp, hts] at hat
  simp only [List.append_assoc] at hat
  rw [hsz]
  exact ok_rangeloop c b (rngNames k v) _ _ _ rng (forIterPush_rngNames k v) rfl rfl ihc ihb hwc hwb hxc hec hbb hat hexit

theorem ok_forin (v : String) (c b : N) (ihc : PComp G c) (ihb : PComp G b) : PComp G (.forin v c b) := by
  intro hw rng kb kc x pc hat hexit _
  dsimp only [wf] at hw
  simp only [Bool.and_eq_true, Bool.not_eq_true'] at hw
  obtain ⟨⟨⟨⟨hec, hbb⟩, hxc⟩, hwc⟩, hwb⟩ := hw
  have hex : exitD (.forin v c b) = 0 := rfl
  have hsz : size rng (.forin v c b) =
      size rng c + (1 + (3 + (2 * [v].length + (size true b + (1 + 2))))) := by simp [size]; omega
  rw [hsz, hex] at hexit
  dsimp only [comp, hts] at hat
  simp only [List.append_assoc] at hat
  rw [hsz]
  exact ok_rangeloop c b [v] 3 _ _ rng rfl (by simp) (by simp) ihc ihb hwc hwb hxc hec hbb hat hexit

/-! ### the structural induction -/

theorem ok_leaf1 (n : N) (i : FIns) (hc : ∀ rng kb kc, comp kb kc rng n = one i) (hh : ∀ rng x, hts rng x n = r1 x)
    (hk : (insOf i).kind = .fall 0 1) (hs : (insOf i).size = 1) (hsz : ∀ rng, size rng n = 1) (hu : isUnitNode n = false) :
    PComp G n := by
  intro _ rng kb kc x pc hat hexit _
  rw [hc, hh] at hat
  rw [hsz, exitD_of_not_unit hu] at hexit
  rw [hsz]
  exact ok_push1 hat hk hs hexit

theorem ok_leaf2 (n : N) (i : FIns) (hc : ∀ rng kb kc, comp kb kc rng n = two i) (hh : ∀ rng x, hts rng x n = r2 x)
    (hk : (insOf i).kind = .fall 0 1) (hs : (insOf i).size = 2) (hsz : ∀ rng, size rng n = 2) (hu : isUnitNode n = false) :
    PComp G n := by
  intro _ rng kb kc x pc hat hexit _
  rw [hc, hh] at hat
  rw [hsz, exitD_of_not_unit hu] at hexit
  rw [hsz]
  exact ok_push2 hat hk hs hexit

/-- `block`, `prog`, `expr`: the code of the wrapped node -/
theorem ok_wrap (n s : N) (ih : PComp G s) (hc : ∀ rng kb kc, comp kb kc rng n = comp kb kc rng s)
    (hh : ∀ rng x, hts rng x n = hts rng x s)
    (hsz : ∀ rng, size rng n = size rng s) (hw : wf n = true → wf s = true ∧ isUnitNode s = false) (hu : isUnitNode n = false)
    (he : escapes n = escapes s) : PComp G n := by
  intro hwn rng kb kc x pc hat hexit hesc
  rw [hc, hh] at hat
  rw [hsz, exitD_of_not_unit hu] at hexit
  rw [hsz, he] at hesc
  rw [hsz]
  refine ih (hw hwn).1 rng kb kc x pc hat ?_ hesc
  rw [exitD_of_not_unit (hw hwn).2]; exact hexit

/-- the eight list-shaped statements are vacuous on a node that is neither a list nor a case -/
theorem ok_of_plain {n : N} (hp : plain n = true) (h : PComp G n) :
    PComp G n ∧ PVals G n ∧ PCmpCase G n ∧ PCmp G n ∧ PBody G n ∧ PBodies G n ∧ PDfltBody G n ∧ PDflt G n ∧ PItems G n := by
  obtain ⟨e1, e2, e3⟩ := not_wf_of_plain hp
  exact ⟨h, vac e1, vac e2, vac e3, vac e2, vac e3, vac e2, vac e3, vac e1⟩

/-- every piece of the code of every node of the fragment passes `check`'s per-offset test,
    wherever it sits, provided its exits are legal targets with the right heights -/
theorem ok_all (G : SCtx) (n : N) :
    PComp G n ∧ PVals G n ∧ PCmpCase G n ∧ PCmp G n ∧ PBody G n ∧ PBodies G n ∧ PDfltBody G n ∧ PDflt G n ∧ PItems G n := by
  induction n with
  | cons h t ihh iht =>
    exact ⟨ok_cons h t ihh.1 iht.1, ok_vals_cons h t ihh.1 iht.2.1, by intro hw; simp [wfCase] at hw,
      ok_cmp_cons h t ihh.2.2.1 iht.2.2.2.1, by intro hw; simp [wfCase] at hw,
      ok_bodies_cons h t ihh.2.2.2.2.1 iht.2.2.2.2.2.1, by intro hw; simp [wfCase] at hw,
      ok_dflt_cons h t ihh.2.2.2.2.2.2.1 iht.2.2.2.2.2.2.2.1, ok_items_cons h t ihh.1 iht.2.2.2.2.2.2.2.2⟩
  | nilL =>
    refine ⟨ok_leaf1 _ .nil_ (fun _ _ _ => rfl) (fun _ _ => rfl) rfl rfl (fun _ => rfl) rfl, ok_vals_empty _ (fun _ => rfl),
      by intro hw; simp [wfCase] at hw, ok_cmp_empty _ (fun _ => rfl), by intro hw; simp [wfCase] at hw, ?_,
      by intro hw; simp [wfCase] at hw, ok_dflt_nil, ok_items_empty _ (fun _ => rfl) rfl⟩
    intro _ rng d s pc _ _
    exact OkWin.zero G pc
  | case_ vals body ihv ihb =>
    refine ⟨by intro hw; simp [wf] at hw, by intro hw; simp [wfVals] at hw, ok_cmpcase_case vals body ihv.2.1,
      by intro hw; simp [wfCases] at hw, ok_body_case vals body ihb.1, by intro hw; simp [wfCases] at hw, ?_,
      by intro hw; simp [wfCases] at hw, by intro hw; simp [wfVals] at hw⟩
    intro _ rng s pc _ _
    exact OkWin.zero G pc
  | default_ body ihb =>
    refine ⟨by intro hw; simp [wf] at hw, by intro hw; simp [wfVals] at hw, ok_cmpcase_empty _ (fun _ => rfl),
      by intro hw; simp [wfCases] at hw, ?_, by intro hw; simp [wfCases] at hw, ok_dfltbody_default body ihb.1,
      by intro hw; simp [wfCases] at hw, by intro hw; simp [wfVals] at hw⟩
    intro _ rng a s pc _ _
    exact OkWin.zero G pc
  | nilLit => exact ok_of_plain rfl (ok_leaf1 _ .nil_ (fun _ _ _ => rfl) (fun _ _ => rfl) rfl rfl (fun _ => rfl) rfl)
  | none_ => exact ok_of_plain rfl (ok_leaf1 _ .nil_ (fun _ _ _ => rfl) (fun _ _ => rfl) rfl rfl (fun _ => rfl) rfl)
  | bool b =>
    refine ok_of_plain rfl ?_
    cases b
    · exact ok_leaf1 _ .false_ (fun _ _ _ => rfl) (fun _ _ => rfl) rfl rfl (fun _ => rfl) rfl
    · exact ok_leaf1 _ .true_ (fun _ _ _ => rfl) (fun _ _ => rfl) rfl rfl (fun _ => rfl) rfl
  | int i => exact ok_of_plain rfl (ok_leaf2 _ (.constInt i) (fun _ _ _ => rfl) (fun _ _ => rfl) rfl rfl (fun _ => rfl) rfl)
  | str s => exact ok_of_plain rfl (ok_leaf2 _ (.constStr s) (fun _ _ _ => rfl) (fun _ _ => rfl) rfl rfl (fun _ => rfl) rfl)
  | id y => exact ok_of_plain rfl (ok_leaf2 _ (.loadG y) (fun _ _ _ => rfl) (fun _ _ => rfl) rfl rfl (fun _ => rfl) rfl)
  | «infix» op l r ihl ihr =>
    refine ok_of_plain rfl ?_
    by_cases hand : op = .and
    · subst hand; exact ok_and l r ihl.1 ihr.1
    · by_cases hor : op = .or
      · subst hor; exact ok_or l r ihl.1 ihr.1
      · exact ok_infix op l r ihl.1 ihr.1 hand hor
  | neg e ih =>
    refine ok_of_plain rfl ?_
    intro hw rng kb kc x pc hat hexit _
    dsimp only [wf] at hw
    simp only [Bool.and_eq_true, Bool.not_eq_true'] at hw
    dsimp only [comp, hts] at hat
    exact (ih.1.expr hw.2 hw.1.1 hw.1.2).unary rfl hat hexit ⟨rfl, rfl⟩
  | not e ih =>
    refine ok_of_plain rfl ?_
    intro hw rng kb kc x pc hat hexit _
    dsimp only [wf] at hw
    simp only [Bool.and_eq_true, Bool.not_eq_true'] at hw
    dsimp only [comp, hts] at hat
    exact (ih.1.expr hw.2 hw.1.1 hw.1.2).unary rfl hat hexit ⟨rfl, rfl⟩
  | tern c a b ihc iha ihb =>
    refine ok_of_plain rfl ?_
    intro hw rng kb kc x pc hat hexit hesc
    dsimp only [wf] at hw
    simp only [Bool.and_eq_true, Bool.not_eq_true'] at hw
    obtain ⟨⟨⟨⟨⟨⟨⟨⟨hec, hea⟩, heb⟩, hxc⟩, _⟩, _⟩, hwc⟩, hwa⟩, hwb⟩ := hw
    have hsz : size rng (.tern c a b) = size rng c + (2 + (size rng a + (2 + size rng b))) := by dsimp only [size]; omega
    have hex : exitD (.tern c a b) = 1 := rfl
    rw [hsz, hex] at hexit
    rw [hsz] at hesc
    dsimp only [comp, hts] at hat
    simp only [List.append_assoc] at hat
    rw [hsz]
    refine ok_cond c a b ihc.1 iha.1 ihb.1 hwc hwa hwb hxc (isE_not_unit hec) (isE_not_unit hea) (isE_not_unit heb)
      hat hexit ?_
    intro h
    exact hesc (by simp only [escapes, Bool.or_eq_true]; rcases h with h | h <;> simp [h])
  | if_ c a b ihc iha ihb =>
    refine ok_of_plain rfl ?_
    intro hw rng kb kc x pc hat hexit hesc
    dsimp only [wf] at hw
    simp only [Bool.and_eq_true, Bool.not_eq_true'] at hw
    obtain ⟨⟨⟨⟨⟨⟨hec, hba⟩, heb⟩, hxc⟩, hwc⟩, hwa⟩, hwb⟩ := hw
    have hsz : size rng (.if_ c a b) = size rng c + (2 + (size rng a + (2 + size rng b))) := by dsimp only [size]; omega
    have hex : exitD (.if_ c a b) = 1 := rfl
    rw [hsz, hex] at hexit
    rw [hsz] at hesc
    dsimp only [comp, hts] at hat
    simp only [List.append_assoc] at hat
    rw [hsz]
    refine ok_cond c a b ihc.1 iha.1 ihb.1 hwc hwa hwb hxc (isE_not_unit hec) (isBlock_not_unit hba)
      (isElse_not_unit heb) hat hexit ?_
    intro h
    exact hesc (by simp only [escapes, Bool.or_eq_true]; rcases h with h | h <;> simp [h])
  | block s ih =>
    refine ok_of_plain rfl ?_
    refine ok_wrap _ s ih.1 (fun _ _ _ => by simp only [comp]) (fun _ _ => by simp only [hts]) (by simp [size]) ?_ rfl
      (by simp [escapes])
    intro hw
    dsimp only [wf] at hw
    simp only [Bool.and_eq_true] at hw
    exact ⟨hw.2, isL_not_unit hw.1⟩
  | prog s ih =>
    refine ok_of_plain rfl ?_
    refine ok_wrap _ s ih.1 (fun _ _ _ => by simp only [comp]) (fun _ _ => by simp only [hts]) (by simp [size]) ?_ rfl
      (by simp [escapes])
    intro hw
    dsimp only [wf] at hw
    simp only [Bool.and_eq_true] at hw
    exact ⟨hw.2, isL_not_unit hw.1.1⟩
  | expr e ih =>
    refine ok_of_plain rfl ?_
    refine ok_wrap _ e ih.1 (fun _ _ _ => by simp only [comp]) (fun _ _ => by simp only [hts]) (by simp [size]) ?_ rfl
      (by simp [escapes])
    intro hw
    dsimp only [wf] at hw
    simp only [Bool.and_eq_true] at hw
    exact ⟨hw.2, isE_not_unit hw.1⟩
  | var y e ih => exact ok_of_plain rfl (ok_var y e ih.1)
  | assign y op e ih => exact ok_of_plain rfl (ok_assign y op e ih.1)
  | «postfix» y inc => exact ok_of_plain rfl (ok_postfix y inc)
  | break_ => exact ok_of_plain rfl (ok_break)
  | continue_ => exact ok_of_plain rfl (ok_continue)
  | forcond c b ihc ihb => exact ok_of_plain rfl (ok_forcond c b ihc.1 ihb.1)
  | forever b ihb => exact ok_of_plain rfl (ok_forever b ihb.1)
  | for3 i c p b ihi ihc ihp ihb => exact ok_of_plain rfl (ok_for3 i c p b ihi.1 ihc.1 ihp.1 ihb.1)
  | switch subj cases ihs ihc =>
    exact ok_of_plain rfl <| ok_switch subj cases ihs.1 ihc.2.2.2.1 ihc.2.2.2.2.2.1 ihc.2.2.2.2.2.2.2.1
  | list items ih => exact ok_of_plain rfl (ok_list items ih.2.2.2.2.2.2.2.2)
  | index e i ihe ihi => exact ok_of_plain rfl (ok_index e i ihe.1 ihi.1)
  | setitem op o i v iho ihi ihv =>
    refine ok_of_plain rfl ?_
    by_cases hop : op = .set
    · subst hop; exact ok_setitem_set o i v iho.1 ihi.1 ihv.1
    · exact ok_setitem_op op hop o i v iho.1 ihi.1 ihv.1
  | forrange k v c b ihc ihb => exact ok_of_plain rfl (ok_forrange k v c b ihc.1 ihb.1)
  | forin v c b ihc ihb => exact ok_of_plain rfl (ok_forin v c b ihc.1 ihb.1)
  | _ => exact ok_of_plain rfl (fun hw => nomatch hw)

/-! ### a whole program -/

/-- the context of a whole program: its code, the heights of all its slots, one value at the end -/
def progCtx (p : N) (hfit : fitsSeq p = true) : SCtx where
  code := compSeq p
  H := hts false 0 p
  hend := some 1
  isMain := true
  hlen := by rw [hts_length, compSeq, comp_length]
  hmax := by
    intro x hx
    have := List.all_eq_true.mp hfit x hx
    simpa using this
  hendmax := by intro x h; cases h; simp [maxHeight]

/-! ### the heights stay within the syntactic nesting depth -/

theorem Bd_r3 (h k : Nat) : Bd (r3 h) k ↔ h ≤ k := by simp [Bd, r3]

theorem Bd_storesH (xs : List String) (y k : Nat) (hk : y + xs.length ≤ k) : Bd (storesH y xs) k := by
  induction xs with
  | nil => simp [storesH, Bd]
  | cons x xs ih =>
    simp only [storesH, Bd_append, Bd_r2]
    simp only [List.length_cons] at hk
    exact ⟨by omega, ih (by omega)⟩

theorem rngNames_length_le (k v : String) : (rngNames k v).length ≤ 2 := by
  unfold rngNames
  split <;> split <;> simp

theorem Bd_storesH_rng (kn vn : String) (y k : Nat) (hk : y + 2 ≤ k) : Bd (storesH y (rngNames kn vn)) k :=
  Bd_storesH _ _ _ (Nat.le_trans (Nat.add_le_add_left (rngNames_length_le kn vn) y) hk)

theorem Bd_storesH_one (v : String) (y k : Nat) (hk : y + 1 ≤ k) : Bd (storesH y [v]) k := Bd_storesH _ _ _ hk

theorem countItems_le_depthItems (n : N) : countItems n ≤ depthItems n := by
  fun_induction countItems n <;> simp only [depthItems] <;> omega

/-- `BuildList` sees all the items at once -/
theorem add_countItems_le {s b : Nat} {n : N} (h : s + depthItems n ≤ b) : s + countItems n ≤ b :=
  Nat.le_trans (Nat.add_le_add_left (countItems_le_depthItems n) s) h

/-- The nine height lists of a node entered at `x` stay within any `b ≥ x + depth n`.  By the functional
    induction of `hts`: `add_max_le` splits the `max`es of `depth` into one linear bound per sub-node, which is
    the premise of that sub-node's hypothesis at the height it is entered with, for the same `b`; the heights
    of the single instructions are linear arithmetic (a list literal's `BuildList` sees `countItems` values,
    at most `depthItems`; a range loop stores at most two names). -/
theorem hts_le_depth :
    (∀ rng x n b, x + depth n ≤ b → Bd (hts rng x n) b) ∧ (∀ rng s n b, s + depthItems n ≤ b → Bd (htsItems rng s n) b) ∧
    (∀ rng s n b, s + depth n ≤ b → Bd (htsDflt rng s n) b) ∧ (∀ rng s n b, s + depth n ≤ b → Bd (htsDfltBody rng s n) b) ∧
    (∀ rng s n b, s + depth n ≤ b → Bd (htsBodies rng s n) b) ∧ (∀ rng s n b, s + depth n + 1 ≤ b → Bd (htsBody rng s n) b) ∧
    (∀ rng s n b, s + depth n ≤ b → Bd (htsCmp rng s n) b) ∧ (∀ rng s n b, s + depth n ≤ b → Bd (htsCmpCase rng s n) b) ∧
    (∀ rng s n b, s + depth n ≤ b → Bd (htsVals rng s n) b) := by
  apply hts.mutual_induct
  all_goals
    intros
    rename_i hb
    try simp only [depth, depthItems, add_max_le] at hb
    simp only [hts, htsItems, htsVals, htsCmpCase, htsCmp, htsBody, htsBodies, htsDfltBody, htsDflt, ↓reduceIte,
      reduceCtorEq, *]
    repeat' split
    all_goals simp (disch := omega) only [Bd_append, Bd_r1, Bd_r2, Bd_r3, Bd_nil, Bd_preH, Bd_storesH_rng, Bd_storesH_one,
      add_countItems_le, true_and, and_true, *]
    all_goals try omega

/-- a program whose syntactic nesting depth is within the frame's limit fits it -/
theorem fitsSeq_of_depth (p : N) (h : depth p ≤ maxHeight) : fitsSeq p = true := by
  simp only [fitsSeq, List.all_eq_true, decide_eq_true_eq]
  intro x hx
  have := hts_le_depth.1 false 0 p _ (Nat.le_refl _) x hx
  omega

/-! ### deeply nested operands (the witness of `seq_compile_balanced_needs_fits`; `deep`,
    `deepProg` of `FragCert.lean` read as a program of the container fragment) -/

theorem deep_isE (k : Nat) : isE (deep k) = true := by cases k <;> rfl

theorem deep_facts (k : Nat) : wf (deep k) = true ∧ escapes (deep k) = false ∧
    (∀ env, scopeOK env (deep k) = true) ∧ decls (deep k) = [] := by
  induction k with
  | zero => simp [deep, wf, escapes, scopeOK, decls]
  | succ k ih =>
    obtain ⟨h1, h3, h4, h5⟩ := ih
    have hi : isE (.int 1) = true := rfl
    simp [deep, wf, escapes, scopeOK, decls, opOK, hi, deep_isE, h1, h3, h4, h5]

theorem deepProg_inSeq (k : Nat) : inSeq (deepProg k) = true := by
  obtain ⟨h1, h3, h4, h5⟩ := deep_facts k
  simp [deepProg, inSeq, wf, isL, isS, leaves, isUnitNode, escapes, wellScoped, scopeOK, decls, Frag.nodup, deep_isE, h1,
    h3, h4, h5]

/-- running the code of `deep k` from height `h` loads its `k + 1` constants one after the
    other: the stack then holds all of them at once -/
theorem deep_reach (rng : Bool) (code : Seq.Code) : ∀ (k pc h : Nat), Win code pc (comp 0 0 rng (deep k)) →
    Reach (toC04 code) ⟨pc, h⟩ → Reach (toC04 code) ⟨pc + 2 * (k + 1), h + (k + 1)⟩ := by
  have hstep : ∀ pc h rest, Win code pc (two (.constInt 1) ++ rest) → Reach (toC04 code) ⟨pc, h⟩ →
      Reach (toC04 code) ⟨pc + 2, h + 1⟩ := by
    intro pc h rest hw hr
    have hat : (toC04 code).at pc = some ⟨.loadConst, 0, 0⟩ := by
      have := Win.head hw.left
      simp [toC04, Code.at, this, insOf]
    exact .step hr (.mk (l := [(pc + 2, h + 1)]) hat (by simp [succs, Ins.kind, Ins.size, Op.operands]) (by simp))
  intro k
  induction k with
  | zero =>
    intro pc h hw hr
    have := hstep pc h [] (by simpa [deep, comp] using hw) hr
    simpa using this
  | succ k ih =>
    intro pc h hw hr
    simp only [deep, comp, reduceCtorEq, ↓reduceIte, List.append_assoc] at hw
    have r1 := hstep pc h _ hw hr
    have hw2 : Win code (pc + 2) (comp 0 0 rng (deep k)) := by
      have := hw.right.left
      simpa using this
    have r2 := ih (pc + 2) (h + 1) hw2 r1
    have e1 : pc + 2 + 2 * (k + 1) = pc + 2 * (k + 1 + 1) := by omega
    have e2 : h + 1 + (k + 1) = h + (k + 1 + 1) := by omega
    rw [e1, e2] at r2
    exact r2

end Risor.C04.SeqC
