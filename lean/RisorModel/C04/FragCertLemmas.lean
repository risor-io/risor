import RisorModel.C04.FragCert
import RisorModel.C04.CertCore
import RisorModel.C04.Props
import RisorModel.C01.FragLemmas
/-!
C04 on the proved fragment — helper lemmas.

The generic development of `CertCore.lean` (`Ctx`, windows, masking, `okwin_*` per instruction
KIND, `Piece.*` per shape of code) at the fragment's instruction type (`FCtx`).  The
lemmas per construct (`ok_*`) unfold `Frag.comp` and `hts` on the construct and hand the induction
hypotheses (`PComp.piece`) to the lemma of `CertCore.lean` about that shape of code, or compose the
per-instruction lemmas themselves; `ok_all` is the structural induction.
-/
namespace Risor.C04
open Risor.C01 Risor.C01.Frag

/-! ### lengths of the height lists: those of the code pieces -/

theorem preH_length (x : Nat) (h : N) : (preH x h).length = preLen h := by
  unfold preH preLen
  cases postName h <;> rfl

/-- by the functional induction of `hts`: unfold both sides, rewrite with the hypotheses about the sub-nodes -/
theorem hts_lengths :
    (∀ x n, (hts x n).length = size n) ∧ (∀ s n, (htsDflt s n).length = defLen n) ∧
    (∀ s n, (htsDfltBody s n).length = dfltBodyLen n) ∧ (∀ s n, (htsBodies s n).length = bodiesLen n) ∧
    (∀ s n, (htsBody s n).length = caseBodyLen n) ∧ (∀ s n, (htsCmp s n).length = cmpLen n) ∧
    (∀ s n, (htsCmpCase s n).length = caseCmpLen n) ∧ (∀ s n, (htsVals s n).length = valsLen n) := by
  apply hts.mutual_induct
  all_goals
    intros
    simp only [hts, htsDflt, htsDfltBody, htsBodies, htsBody, htsCmp, htsCmpCase, htsVals, size, defLen, dfltBodyLen,
      bodiesLen, caseBodyLen, cmpLen, caseCmpLen, valsLen, ↓reduceIte, reduceCtorEq, or_self, true_or, or_true, *]
    repeat' split
    all_goals simp only [List.length_append, List.length_nil, r1_length, r2_length, preH_length, *]
    all_goals try omega

theorem hts_length (n : N) (x : Nat) : (hts x n).length = size n := hts_lengths.1 x n
theorem htsDflt_length (n : N) (s : Nat) : (htsDflt s n).length = defLen n := hts_lengths.2.1 s n
theorem htsBodies_length (n : N) (s : Nat) : (htsBodies s n).length = bodiesLen n := hts_lengths.2.2.2.1 s n
theorem htsBody_length (n : N) (s : Nat) : (htsBody s n).length = caseBodyLen n := hts_lengths.2.2.2.2.1 s n
theorem htsCmp_length (n : N) (s : Nat) : (htsCmp s n).length = cmpLen n := hts_lengths.2.2.2.2.2.1 s n
theorem htsCmpCase_length (n : N) (s : Nat) : (htsCmpCase s n).length = caseCmpLen n := hts_lengths.2.2.2.2.2.2.1 s n
theorem htsVals_length (n : N) (s : Nat) : (htsVals s n).length = valsLen n := hts_lengths.2.2.2.2.2.2.2 s n

/-- the code of a node of the fragment begins with an instruction, and its heights with the
    entry height -/
theorem head_comp (n : N) : wf n = true → ∀ kb kc x,
    ∃ i c t, comp kb kc n = some i :: c ∧ hts x n = x :: t := by
  induction n with
  | nilLit => intro _ kb kc x; exact ⟨_, _, _, rfl, rfl⟩
  | none_ => intro _ kb kc x; exact ⟨_, _, _, rfl, rfl⟩
  | nilL => intro _ kb kc x; exact ⟨_, _, _, rfl, rfl⟩
  | bool b => intro _ kb kc x; exact ⟨_, _, _, rfl, rfl⟩
  | int i => intro _ kb kc x; exact ⟨_, _, _, rfl, rfl⟩
  | str s => intro _ kb kc x; exact ⟨_, _, _, rfl, rfl⟩
  | id s => intro _ kb kc x; exact ⟨_, _, _, rfl, rfl⟩
  | break_ => intro _ kb kc x; exact ⟨_, _, _, rfl, rfl⟩
  | continue_ => intro _ kb kc x; exact ⟨_, _, _, rfl, rfl⟩
  | «postfix» s inc => intro _ kb kc x; exact ⟨_, _, _, rfl, rfl⟩
  | «infix» op l r ihl _ =>
    intro hw kb kc x
    simp only [wf, Bool.and_eq_true] at hw
    obtain ⟨i, c, t, e1, e2⟩ := ihl hw.1.2 0 0 x
    by_cases h1 : op = .and
    · subst h1; exact ⟨i, _, _, by simp only [comp, ↓reduceIte, e1, List.cons_append]; rfl, by simp only [hts, ↓reduceIte, e2, List.cons_append]; rfl⟩
    · by_cases h2 : op = .or
      · subst h2; exact ⟨i, _, _, by simp only [comp, reduceCtorEq, ↓reduceIte, e1, List.cons_append]; rfl, by simp only [hts, reduceCtorEq, ↓reduceIte, e2, List.cons_append]; rfl⟩
      · exact ⟨i, _, _, by simp only [comp, h1, h2, ↓reduceIte, e1, List.cons_append]; rfl, by simp only [hts, h1, h2, ↓reduceIte, e2, List.cons_append]; rfl⟩
  | neg e ih =>
    intro hw kb kc x
    simp only [wf, Bool.and_eq_true] at hw
    obtain ⟨i, c, t, e1, e2⟩ := ih hw.2 0 0 x
    exact ⟨i, _, _, by simp only [comp, e1, List.cons_append]; rfl, by simp only [hts, e2, List.cons_append]; rfl⟩
  | not e ih =>
    intro hw kb kc x
    simp only [wf, Bool.and_eq_true] at hw
    obtain ⟨i, c, t, e1, e2⟩ := ih hw.2 0 0 x
    exact ⟨i, _, _, by simp only [comp, e1, List.cons_append]; rfl, by simp only [hts, e2, List.cons_append]; rfl⟩
  | tern c a b ihc _ _ =>
    intro hw kb kc x
    simp only [wf, Bool.and_eq_true] at hw
    obtain ⟨i, c, t, e1, e2⟩ := ihc hw.1.1.2 0 0 x
    exact ⟨i, _, _, by simp only [comp, e1, List.cons_append]; rfl, by simp only [hts, e2, List.cons_append]; rfl⟩
  | if_ c a b ihc _ _ =>
    intro hw kb kc x
    simp only [wf, Bool.and_eq_true] at hw
    obtain ⟨i, c, t, e1, e2⟩ := ihc hw.1.1.2 0 0 x
    exact ⟨i, _, _, by simp only [comp, e1, List.cons_append]; rfl, by simp only [hts, e2, List.cons_append]; rfl⟩
  | block s ih =>
    intro hw kb kc x
    simp only [wf, Bool.and_eq_true] at hw
    obtain ⟨i, c, t, e1, e2⟩ := ih hw.2 kb kc x
    exact ⟨i, c, t, by simp only [comp, e1], by simp only [hts, e2]⟩
  | prog s ih =>
    intro hw kb kc x
    simp only [wf, Bool.and_eq_true] at hw
    obtain ⟨i, c, t, e1, e2⟩ := ih hw.2 kb kc x
    exact ⟨i, c, t, by simp only [comp, e1], by simp only [hts, e2]⟩
  | expr s ih =>
    intro hw kb kc x
    simp only [wf, Bool.and_eq_true] at hw
    obtain ⟨i, c, t, e1, e2⟩ := ih hw.2 kb kc x
    exact ⟨i, c, t, by simp only [comp, e1], by simp only [hts, e2]⟩
  | var y e ih =>
    intro hw kb kc x
    simp only [wf, Bool.and_eq_true] at hw
    obtain ⟨i, c, t, e1, e2⟩ := ih hw.2 0 0 x
    exact ⟨i, _, _, by simp only [comp, e1, List.cons_append]; rfl, by simp only [hts, e2, List.cons_append]; rfl⟩
  | assign y op e ih =>
    intro hw kb kc x
    simp only [wf, Bool.and_eq_true] at hw
    by_cases h1 : op = .set
    · obtain ⟨i, c, t, e1, e2⟩ := ih hw.2 0 0 x
      exact ⟨i, _, _, by simp only [comp, h1, ↓reduceIte, e1, List.cons_append]; rfl, by simp only [hts, h1, ↓reduceIte, e2, List.cons_append]; rfl⟩
    · exact ⟨_, _, _, by simp only [comp, h1, ↓reduceIte, two, List.cons_append]; rfl, by simp only [hts, h1, ↓reduceIte, r2, List.cons_append]; rfl⟩
  | forcond c b ihc _ =>
    intro hw kb kc x
    simp only [wf, Bool.and_eq_true] at hw
    obtain ⟨i, c, t, e1, e2⟩ := ihc hw.1.2 0 0 x
    exact ⟨i, _, _, by simp only [comp, e1, List.cons_append]; rfl, by simp only [hts, e2, List.cons_append]; rfl⟩
  | forever b ihb =>
    intro hw kb kc x
    simp only [wf, Bool.and_eq_true] at hw
    obtain ⟨i, c, t, e1, e2⟩ := ihb hw.2 3 1 x
    exact ⟨i, _, _, by simp only [comp, e1, List.cons_append]; rfl, by simp only [hts, e2, List.cons_append]; rfl⟩
  | for3 i0 c p b ihi _ _ _ =>
    intro hw kb kc x
    simp only [wf, Bool.and_eq_true] at hw
    obtain ⟨i, c, t, e1, e2⟩ := ihi hw.1.1.1.2 0 0 x
    exact ⟨i, _, _, by simp only [comp, e1, List.cons_append]; rfl, by simp only [hts, e2, List.cons_append]; rfl⟩
  | switch subj cases ihs _ =>
    intro hw kb kc x
    simp only [wf, Bool.and_eq_true] at hw
    obtain ⟨i, c, t, e1, e2⟩ := ihs hw.1.1.2 0 0 x
    exact ⟨i, _, _, by simp only [comp, e1, List.cons_append]; rfl, by simp only [hts, e2, List.cons_append]; rfl⟩
  | cons h t ihh _ =>
    intro hw kb kc x
    simp only [wf, Bool.and_eq_true] at hw
    cases hp : postName h with
    | some y =>
      exact ⟨_, _, _, by simp only [comp, pre, hp, two, List.cons_append]; rfl, by simp only [hts, preH, hp, r2, List.cons_append]; rfl⟩
    | none =>
      by_cases hn : isNilL t = true
      · obtain ⟨i, c, t', e1, e2⟩ := ihh hw.1.2 (kb + (if leaves h then 0 else 1)) (kc + (if leaves h then 0 else 1)) x
        exact ⟨i, _, _, by simp only [comp, pre, hp, hn, ↓reduceIte, e1, List.nil_append, List.cons_append]; rfl,
          by simp only [hts, preH, hp, hn, ↓reduceIte, e2, List.nil_append, List.cons_append]; rfl⟩
      · obtain ⟨i, c, t', e1, e2⟩ := ihh hw.1.2 (kb + ((if leaves h then 1 else 0) + size t)) (kc + ((if leaves h then 1 else 0) + size t)) x
        exact ⟨i, _, _, by simp only [comp, pre, hp, hn, e1, List.nil_append, List.cons_append]; rfl,
          by simp only [hts, preH, hp, hn, e2, List.nil_append, List.cons_append]; rfl⟩
  | _ => intro hw; simp [wf] at hw

/-! ### one code with its heights: the generic development (`CertCore.lean`: `Ctx`, windows,
    `okwin_*`) at the fragment's instruction type -/

/-- a code of the fragment (a main code object) with its heights -/
abbrev FCtx := Ctx Frag.FIns insOf

namespace Ctx

variable {G : FCtx}

theorem At.comp_cons {pc kb kc x : Nat} {n : N} {c2 : Frag.Code} {h2 : List Nat}
    (h : G.At pc (comp kb kc n ++ c2) (hts x n ++ h2)) :
    G.At pc (comp kb kc n) (hts x n) ∧ G.At (pc + size n) c2 h2 :=
  h.split (comp_length n kb kc) (hts_length n x)

theorem okwin_jf {pc x d : Nat} (h : G.At pc (two (.jf d)) (r2 x)) (ht : G.Tgt (pc + d) x) : G.OkWin pc 2 :=
  okwin_jumpF h rfl ht

theorem okwin_jb {pc x d : Nat} (h : G.At pc (two (.jb d)) (r2 x)) (hd : d ≤ pc) (ht : G.Tgt (pc - d) x) :
    G.OkWin pc 2 :=
  okwin_jumpB h rfl hd ht


/-! ### the statements of the structural induction, one per mutual function of `comp` -/

/-- a node: entered at `x`, left at `x + exitD n`; a `break` / `continue` that escapes it
    jumps with the height `x` the node itself was entered with -/
def PComp (G : FCtx) (n : N) : Prop :=
  wf n = true → ∀ kb kc x pc, G.At pc (comp kb kc n) (hts x n) →
    G.Tgt (pc + size n) (x + exitD n) →
    (escapes n = true → G.Tgt (pc + size n + kb) x ∧ G.Tgt (pc + size n + kc) x) →
    G.OkWin pc (size n)

/-- comparisons of one case with the subject on the stack (height `s + 1`): fall through and
    match both at `s + 1`; also: the piece (or what follows it) is a legal target at `s + 1` -/
def PVals (G : FCtx) (n : N) : Prop :=
  wfVals n = true → ∀ k s pc, G.At pc (compVals k n) (htsVals (s + 1) n) →
    G.Tgt (pc + valsLen n) (s + 1) → G.Tgt (pc + valsLen n + k) (s + 1) →
    G.OkWin pc (valsLen n) ∧ G.Tgt pc (s + 1)

/-- the comparisons of one case; its body sits `k` slots after them -/
def PCmpCase (G : FCtx) (n : N) : Prop :=
  wfCase n = true → ∀ k a s pc, G.At pc (compCmpCase k n) (htsCmpCase (s + 1) n) →
    G.Tgt (pc + caseCmpLen n) (s + 1) →
    G.At (pc + caseCmpLen n + k) (compBody a n) (htsBody (s + 1) n) →
    G.OkWin pc (caseCmpLen n) ∧ G.Tgt pc (s + 1)

/-- the comparison section; the bodies of the same cases sit `2 + before` slots after it -/
def PCmp (G : FCtx) (n : N) : Prop :=
  wfCases n = true → ∀ before d s pc, G.At pc (compCmp before n) (htsCmp (s + 1) n) →
    G.Tgt (pc + cmpLen n) (s + 1) →
    G.At (pc + cmpLen n + 2 + before) (compBodies d n) (htsBodies (s + 1) n) →
    G.OkWin pc (cmpLen n) ∧ G.Tgt pc (s + 1)

/-- one case body and its jump to the `Swap` -/
def PBody (G : FCtx) (n : N) : Prop :=
  wfCase n = true → ∀ a s pc, G.At pc (compBody a n) (htsBody s n) →
    G.Tgt (pc + caseBodyLen n + a) (s + 1) → G.OkWin pc (caseBodyLen n)

def PBodies (G : FCtx) (n : N) : Prop :=
  wfCases n = true → ∀ d s pc, G.At pc (compBodies d n) (htsBodies s n) →
    G.Tgt (pc + bodiesLen n + d) (s + 1) → G.OkWin pc (bodiesLen n)

def PDfltBody (G : FCtx) (n : N) : Prop :=
  wfCase n = true → ∀ s pc, G.At pc (compDfltBody n) (htsDfltBody s n) →
    G.Tgt (pc + dfltBodyLen n) (s + 1) → G.OkWin pc (dfltBodyLen n)

def PDflt (G : FCtx) (n : N) : Prop :=
  wfCases n = true → ∀ s pc, G.At pc (compDflt n) (htsDflt s n) →
    G.Tgt (pc + defLen n) (s + 1) → G.OkWin pc (defLen n) ∧ G.Tgt pc s

/-- a sub-node's code is a legal target at its entry height -/
theorem At.tgt_comp {pc kb kc x : Nat} {n : N} (hw : wf n = true) (h : G.At pc (comp kb kc n) (hts x n)) :
    G.Tgt pc x := by
  obtain ⟨i, c, t, e1, e2⟩ := head_comp n hw kb kc x
  rw [e1, e2] at h
  exact .inl ⟨i, Win.head h.1, Win.head h.2⟩

theorem exitD_of_not_unit {n : N} (h : isUnitNode n = false) : exitD n = 1 := by simp [exitD, h]
theorem exitD_of_unit {n : N} (h : isUnitNode n = true) : exitD n = 0 := by simp [exitD, h]

/-- an operand (no break/continue escapes it) through its induction hypothesis -/
theorem use_operand {n : N} (ih : PComp G n) (hw : wf n = true) (hx : escapes n = false) {pc x : Nat}
    (hat : G.At pc (comp 0 0 n) (hts x n)) (ht : G.Tgt (pc + size n) (x + exitD n)) : G.OkWin pc (size n) :=
  ih hw 0 0 x pc hat ht (by intro h; rw [hx] at h; cases h)

/-- a sub-node with its induction hypothesis, as the lemmas about one construct (`CertCore.lean`) take it -/
theorem PComp.piece {n : N} (ih : PComp G n) (hw : wf n = true) {d : Nat} {e : Bool} (hd : exitD n = d)
    (he : escapes n = e) : Piece G (fun kb kc => comp kb kc n) (fun x => hts x n) (size n) d e := by
  subst hd he
  exact ⟨comp_length n, hts_length n, fun h => h.tgt_comp hw, fun h ht hx => ih hw _ _ _ _ h ht hx⟩

/-- an expression as an operand: it leaves its value, nothing escapes it -/
theorem PComp.expr {n : N} (ih : PComp G n) (hw : wf n = true) (he : isE n = true) (hx : escapes n = false) :
    Piece G (fun kb kc => comp kb kc n) (fun x => hts x n) (size n) 1 false :=
  ih.piece hw (exitD_of_not_unit (isE_not_unit he)) hx

/-! ### leaves -/

/-- `PopTop` at height `x + 1` -/
theorem ok_pop {pc x : Nat} (h : G.At pc (one .popTop) (r1 (x + 1))) (ht : G.Tgt (pc + 1) x) : G.OkWin pc 1 :=
  ok_pop1 h rfl rfl ht

/-- `StoreGlobal` at height `x + 1` -/
theorem ok_store {pc x : Nat} {y : String} (h : G.At pc (two (.storeG y)) (r2 (x + 1))) (ht : G.Tgt (pc + 2) x) :
    G.OkWin pc 2 :=
  ok_pop2 h rfl rfl ht


theorem opIns_kind (op : BinOp) : (insOf (opIns op)).kind = .fall 2 1 ∧ (insOf (opIns op)).size = 2 := by
  cases op <;> exact ⟨rfl, rfl⟩

/-! ### expressions -/

/-- the two operands of a binary expression -/
theorem infix_operands {op : BinOp} {l r : N} (ihl : PComp G l) (ihr : PComp G r) (hw : wf (.infix op l r) = true) :
    Piece G (fun kb kc => comp kb kc l) (fun x => hts x l) (size l) 1 false ∧
      Piece G (fun kb kc => comp kb kc r) (fun x => hts x r) (size r) 1 false := by
  simp only [wf, Bool.and_eq_true, Bool.not_eq_true'] at hw
  obtain ⟨⟨⟨⟨⟨⟨_, hel⟩, her⟩, hxl⟩, hxr⟩, hwl⟩, hwr⟩ := hw
  exact ⟨ihl.expr hwl hel hxl, ihr.expr hwr her hxr⟩

theorem ok_infix (op : BinOp) (l r : N) (ihl : PComp G l) (ihr : PComp G r) (hand : op ≠ .and) (hor : op ≠ .or) :
    PComp G (.infix op l r) := by
  intro hw kb kc x pc hat hexit _
  obtain ⟨L, R⟩ := infix_operands ihl ihr hw
  simp only [comp, hts, hand, hor, ↓reduceIte, List.append_assoc] at hat
  exact L.binop R (by simp [size, hand, hor]) hat hexit (opIns_kind op)

theorem ok_and (l r : N) (ihl : PComp G l) (ihr : PComp G r) : PComp G (.infix .and l r) := by
  intro hw kb kc x pc hat hexit _
  obtain ⟨L, R⟩ := infix_operands ihl ihr hw
  simp only [comp, hts, ↓reduceIte, List.append_assoc] at hat
  exact L.sc R (by simp [size]) hat hexit ⟨rfl, rfl⟩ ⟨rfl, rfl⟩ ⟨rfl, rfl⟩ ⟨rfl, rfl⟩

theorem ok_or (l r : N) (ihl : PComp G l) (ihr : PComp G r) : PComp G (.infix .or l r) := by
  intro hw kb kc x pc hat hexit _
  obtain ⟨L, R⟩ := infix_operands ihl ihr hw
  simp only [comp, hts, reduceCtorEq, ↓reduceIte, List.append_assoc] at hat
  exact L.sc R (by simp [size]) hat hexit ⟨rfl, rfl⟩ ⟨rfl, rfl⟩ ⟨rfl, rfl⟩ ⟨rfl, rfl⟩

/-! ### statements -/

theorem unit_of_isS {n : N} (h : isS n = true) (hl : leaves n = false) : isUnitNode n = true := by
  simp only [isS, Bool.or_eq_true] at h
  rcases h with h | h
  · exact h
  · rw [hl] at h; cases h

theorem not_unit_of_leaves {n : N} (hl : leaves n = true) : isUnitNode n = false := by
  cases n <;> simp_all [leaves, isUnitNode]

theorem unit_of_isPost {n : N} (h : isPost n = true) (hl : leaves n = false) : isUnitNode n = true := by
  cases n <;> simp_all [isPost, leaves, isUnitNode]

theorem exitD_of_leaves {n : N} (hu : leaves n = false → isUnitNode n = true) :
    exitD n = if leaves n then 1 else 0 := by
  cases hl : leaves n
  · exact exitD_of_unit (hu hl)
  · exact exitD_of_not_unit (not_unit_of_leaves hl)

/-- `LoadGlobal x; PopTop` before a statement `x++` -/
theorem At.pre_cons {h : N} {pc x : Nat} {c2 : Frag.Code} {h2 : List Nat} (hat : G.At pc (pre h ++ c2) (preH x h ++ h2)) :
    G.At pc (pre h) (preH x h) ∧ G.At (pc + preLen h) c2 h2 :=
  hat.split (pre_length h) (preH_length x h)

theorem ok_pre (h : N) {pc x : Nat} (hat : G.At pc (pre h) (preH x h))
    (ht : G.Tgt (pc + preLen h) x) : G.OkWin pc (preLen h) := by
  unfold pre preH at hat
  unfold preLen at ht ⊢
  cases hp : postName h with
  | none => exact OkWin.zero G pc
  | some y =>
    simp only [hp] at hat ht
    obtain ⟨a1, a2⟩ := hat.two_cons
    exact (ok_push2 a1 rfl rfl a2.tgt_one).append (ok_pop a2 (ht.cast (by omega) rfl))

theorem ok_cons (h t : N) (ihh : PComp G h) (iht : PComp G t) : PComp G (.cons h t) := by
  intro hw kb kc x pc hat hexit hesc
  simp only [wf, Bool.and_eq_true] at hw
  obtain ⟨⟨⟨hsh, hlt⟩, hwh⟩, hwt⟩ := hw
  have hex : exitD (.cons h t) = 1 := rfl
  have hext : exitD t = 1 := exitD_of_not_unit (isL_not_unit hlt)
  rw [hex] at hexit
  simp only [escapes, Bool.or_eq_true] at hesc
  cases hn : isNilL t
  · -- more statements follow: `h` is a piece of `size h + k` slots that leaves nothing
    simp only [comp, hts, size, hn, Bool.false_eq_true, ↓reduceIte] at hat hexit hesc ⊢
    have hk1 : (if leaves h = true then one FIns.popTop else []).length = if leaves h = true then 1 else 0 := by
      split <;> rfl
    have hk2 : (if leaves h = true then r1 (x + 1) else []).length = if leaves h = true then 1 else 0 := by
      split <;> rfl
    generalize hk : (if leaves h = true then 1 else 0) = k at hat hexit hesc hk1 hk2 ⊢
    obtain ⟨ap, hat⟩ := hat.pre_cons
    rw [← List.append_assoc, ← List.append_assoc] at hat
    obtain ⟨ah, at_⟩ := hat.split (k := size h + k) (by rw [List.length_append, comp_length, hk1])
      (by rw [List.length_append, hts_length, hk2])
    have th := (show G.At _ (comp _ _ h) (hts x h) from ⟨ah.1.left, ah.2.left⟩).tgt_comp hwh
    have e : preLen h + size h + (k + size t) = preLen h + ((size h + k) + size t) := by omega
    rw [e] at hexit hesc ⊢
    refine (ok_pre h ap th).append (((ihh.piece hwh (exitD_of_leaves (unit_of_isS hsh)) rfl).stmt hk ah (at_.tgt_comp hwt) ?_ ⟨rfl, rfl⟩).append
      (iht hwt kb kc x _ at_ ?_ ?_))
    · intro he
      obtain ⟨t1, t2⟩ := hesc (.inl he)
      exact ⟨t1.cast (by omega) rfl, t2.cast (by omega) rfl⟩
    · rw [hext]; exact hexit.cast (by omega) rfl
    · intro he
      obtain ⟨t1, t2⟩ := hesc (.inr he)
      exact ⟨t1.cast (by omega) rfl, t2.cast (by omega) rfl⟩
  cases hl : leaves h
  · -- last statement, not an expression: `Nil` is the block's value
    have hsz : size (.cons h t) = preLen h + (size h + 1) := by simp [size, hn, hl]; omega
    rw [hsz] at hexit hesc ⊢
    simp only [comp, hts, hn, hl, Bool.false_eq_true, ↓reduceIte] at hat
    have hu := unit_of_isS hsh hl
    obtain ⟨ap, hat⟩ := hat.pre_cons
    obtain ⟨ah, an⟩ := hat.comp_cons
    refine (ok_pre h ap (ah.tgt_comp hwh)).append ((ihh hwh _ _ x _ ah ?_ ?_).append (ok_push1 an rfl rfl ?_))
    · rw [exitD_of_unit hu]; exact an.tgt_one
    · intro he
      obtain ⟨t1, t2⟩ := hesc (.inl he)
      exact ⟨t1.cast (by omega) rfl, t2.cast (by omega) rfl⟩
    · exact hexit.cast (by omega) rfl
  · -- last statement, an expression: its value is the block's value
    have hsz : size (.cons h t) = preLen h + size h := by simp [size, hn, hl]
    rw [hsz] at hexit hesc ⊢
    simp only [comp, hts, hn, hl, ↓reduceIte, List.append_nil, Nat.add_zero] at hat
    have hu := not_unit_of_leaves hl
    obtain ⟨ap, ah⟩ := hat.pre_cons
    refine (ok_pre h ap (ah.tgt_comp hwh)).append (ihh hwh _ _ x _ ah ?_ ?_)
    · rw [exitD_of_not_unit hu]; exact hexit.cast (by omega) rfl
    · intro he
      obtain ⟨t1, t2⟩ := hesc (.inl he)
      exact ⟨t1.cast (by omega) rfl, t2.cast (by omega) rfl⟩

theorem ok_var (y : String) (e : N) (ih : PComp G e) : PComp G (.var y e) := by
  intro hw kb kc x pc hat hexit _
  simp only [wf, Bool.and_eq_true, Bool.not_eq_true'] at hw
  simp only [comp, hts] at hat
  exact (ih.expr hw.2 hw.1.1 hw.1.2).store rfl hat hexit ⟨rfl, rfl⟩

theorem ok_assign (y : String) (op : AssignOp) (e : N) (ih : PComp G e) : PComp G (.assign y op e) := by
  intro hw kb kc x pc hat hexit _
  simp only [wf, Bool.and_eq_true, Bool.not_eq_true'] at hw
  have hex : exitD (.assign y op e) = 0 := rfl
  rw [hex] at hexit
  by_cases h1 : op = .set
  · simp only [comp, hts, h1, ↓reduceIte] at hat
    exact (ih.expr hw.2 hw.1.1 hw.1.2).store (by simp [size, h1]) hat hexit ⟨rfl, rfl⟩
  · have hsz : size (.assign y op e) = 2 + (size e + (2 + 2)) := by simp [size, h1]; omega
    rw [hsz] at hexit ⊢
    simp only [comp, hts, h1, ↓reduceIte, List.append_assoc] at hat
    obtain ⟨al, hat⟩ := hat.two_cons
    obtain ⟨ae, hat⟩ := hat.comp_cons
    obtain ⟨ab, as⟩ := hat.two_cons
    refine (ok_push2 al rfl rfl (ae.tgt_comp hw.2)).append ((use_operand ih hw.2 hw.1.2 ae ?_).append
      ((ok_bin ab (i := .binary (assignK op)) rfl rfl ?_).append (ok_store as (hexit.cast (by omega) (by omega)))))
    · rw [exitD_of_not_unit (isE_not_unit hw.1.1)]; exact ab.tgt_two.cast (by omega) (by omega)
    · exact as.tgt_two

theorem ok_postfix (y : String) (inc : Bool) : PComp G (.postfix y inc) := by
  intro _ kb kc x pc hat hexit _
  have hex : exitD (.postfix y inc) = 0 := rfl
  have hsz : size (.postfix y inc) = 2 + (2 + (2 + 2)) := rfl
  rw [hsz, hex] at hexit
  simp only [comp, hts, List.append_assoc] at hat
  rw [hsz]
  obtain ⟨al, hat⟩ := hat.two_cons
  obtain ⟨ac, hat⟩ := hat.two_cons
  obtain ⟨ab, as⟩ := hat.two_cons
  exact (ok_push2 al rfl rfl ac.tgt_two).append ((ok_push2 ac rfl rfl (ab.tgt_two.cast rfl (by omega))).append
    ((ok_bin ab (i := .binary 1) rfl rfl as.tgt_two).append (ok_store as (hexit.cast (by omega) (by omega)))))

/-- `break` / `continue`: a forward jump to the enclosing loop's target, with the height the
    statement was entered with -/
theorem ok_break : PComp G .break_ := by
  intro _ kb kc x pc hat _ hesc
  simp only [comp, hts] at hat
  obtain ⟨t1, _⟩ := hesc rfl
  exact okwin_jf hat (t1.cast (by simp [size]; omega) rfl)

theorem ok_continue : PComp G .continue_ := by
  intro _ kb kc x pc hat _ hesc
  simp only [comp, hts] at hat
  obtain ⟨_, t2⟩ := hesc rfl
  exact okwin_jf hat (t2.cast (by simp [size]; omega) rfl)

/-! ### loops: the body's value is popped, the backward jump returns to the height the loop
    was entered with; `break` and `continue` arrive with that same height -/

theorem ok_forcond (c b : N) (ihc : PComp G c) (ihb : PComp G b) : PComp G (.forcond c b) := by
  intro hw kb kc x pc hat hexit _
  simp only [wf, Bool.and_eq_true, Bool.not_eq_true'] at hw
  obtain ⟨⟨⟨⟨hec, hbb⟩, hxc⟩, hwc⟩, hwb⟩ := hw
  simp only [comp, hts, List.append_assoc] at hat
  exact (ihc.expr hwc hec hxc).forcond (ihb.piece hwb (exitD_of_not_unit (isBlock_not_unit hbb)) rfl) (by simp [size])
    hat hexit ⟨rfl, rfl⟩ ⟨rfl, rfl⟩ rfl ⟨rfl, rfl⟩

theorem ok_forever (b : N) (ihb : PComp G b) : PComp G (.forever b) := by
  intro hw kb kc x pc hat hexit _
  simp only [wf, Bool.and_eq_true] at hw
  simp only [comp, hts, List.append_assoc] at hat
  exact (ihb.piece hw.2 (exitD_of_not_unit (isBlock_not_unit hw.1)) rfl).forever rfl hat hexit ⟨rfl, rfl⟩ rfl ⟨rfl, rfl⟩

theorem ok_for3 (i c p b : N) (ihi : PComp G i) (ihc : PComp G c) (ihp : PComp G p) (ihb : PComp G b) :
    PComp G (.for3 i c p b) := by
  intro hw kb kc x pc hat hexit _
  simp only [wf, Bool.and_eq_true, Bool.not_eq_true'] at hw
  obtain ⟨⟨⟨⟨⟨⟨⟨⟨⟨⟨hii, hec⟩, hpp⟩, hbb⟩, hxi⟩, hxc⟩, hxp⟩, hwi⟩, hwc⟩, hwp⟩, hwb⟩ := hw
  simp only [comp, hts, List.append_assoc] at hat
  exact (ihi.piece hwi (exitD_of_unit (isInit_unit hii)) hxi).for3 (ihc.expr hwc hec hxc)
    (ihp.piece hwp (exitD_of_leaves (unit_of_isPost hpp)) hxp) (ihb.piece hwb (exitD_of_not_unit (isBlock_not_unit hbb)) rfl)
    rfl (by simp [size]) hat hexit ⟨rfl, rfl⟩ ⟨rfl, rfl⟩ ⟨rfl, rfl⟩ rfl

/-! ### switch: the subject stays below everything (height `x + 1`) until `Swap 1; PopTop` -/

theorem compCmpCase_length (n : N) (k : Nat) : (compCmpCase k n).length = caseCmpLen n := (comp_lengths n).2.2.1 k

theorem ok_vals_cons (v vs : N) (ihv : PComp G v) (ihvs : PVals G vs) : PVals G (.cons v vs) := by
  intro hw k s pc hat hfall hmatch
  simp only [wfVals, Bool.and_eq_true, Bool.not_eq_true'] at hw
  obtain ⟨⟨⟨hev, hxv⟩, hwv⟩, hwvs⟩ := hw
  have hsz : valsLen (.cons v vs) = 2 + (size v + (2 + (2 + valsLen vs))) := by simp [valsLen]; omega
  rw [hsz] at hfall hmatch ⊢
  simp only [compVals, htsVals, List.append_assoc] at hat
  obtain ⟨acp, hat⟩ := hat.two_cons
  obtain ⟨av, hat⟩ := hat.comp_cons
  obtain ⟨acm, hat⟩ := hat.two_cons
  obtain ⟨aj, avs⟩ := hat.two_cons
  obtain ⟨okvs, tvs⟩ := ihvs hwvs k s _ avs (hfall.cast (by omega) rfl) (hmatch.cast (by omega) rfl)
  refine ⟨(okwin_need2 acp (a := 1) (b := 1) rfl rfl (by omega) ?_).append ((use_operand ihv hwv hxv av ?_).append
    ((ok_bin acm (i := .compare 3) rfl rfl ?_).append
      ((okwin_cond aj (i := .pjt (valsLen vs + k + 2)) (d := valsLen vs + k + 2) rfl rfl (by omega) ?_ ?_).append okvs))),
    acp.tgt_two⟩
  · exact (av.tgt_comp hwv).cast rfl (by omega)
  · rw [exitD_of_not_unit (isE_not_unit hev)]; exact acm.tgt_two.cast rfl (by omega)
  · exact aj.tgt_two
  · exact hmatch.cast (by omega) (by omega)
  · exact tvs.cast (by omega) (by omega)

/-- an empty piece: nothing to check, and the place is what follows it -/
theorem ok_vals_empty (n : N) (hl : valsLen n = 0) : PVals G n := by
  intro _ k s pc _ hfall _
  rw [hl] at hfall ⊢
  exact ⟨OkWin.zero G pc, hfall.cast (by omega) rfl⟩

theorem ok_cmpcase_case (vals body : N) (ihv : PVals G vals) : PCmpCase G (.case_ vals body) := by
  intro hw k a s pc hat hfall hbody
  simp only [wfCase, Bool.and_eq_true, Bool.not_eq_true'] at hw
  obtain ⟨⟨⟨hwv, _⟩, _⟩, hwb⟩ := hw
  simp only [compCmpCase, htsCmpCase, caseCmpLen, compBody, htsBody] at hat hfall hbody ⊢
  have ab : G.At (pc + valsLen vals + k) (comp 0 0 body) (hts (s + 1) body) := ⟨hbody.1.left, hbody.2.left⟩
  exact ihv hwv k s pc hat hfall (ab.tgt_comp hwb)

theorem ok_cmpcase_empty (n : N) (hl : caseCmpLen n = 0) : PCmpCase G n := by
  intro _ k a s pc _ hfall _
  rw [hl] at hfall ⊢
  exact ⟨OkWin.zero G pc, hfall.cast (by omega) rfl⟩

theorem ok_cmp_cons (h t : N) (ihh : PCmpCase G h) (iht : PCmp G t) : PCmp G (.cons h t) := by
  intro hw before d s pc hat hfall hbodies
  simp only [wfCases, Bool.and_eq_true] at hw
  have hsz : cmpLen (.cons h t) = caseCmpLen h + cmpLen t := by simp [cmpLen]
  rw [hsz] at hfall hbodies ⊢
  simp only [compCmp, htsCmp, compBodies, htsBodies] at hat hbodies
  obtain ⟨ah, at_⟩ := hat.split (compCmpCase_length h _) (htsCmpCase_length h _)
  obtain ⟨bh, bt⟩ := hbodies.split (compBody_length h _) (htsBody_length h _)
  obtain ⟨okt, tt⟩ := iht hw.2 (before + caseBodyLen h) d s _ at_ (hfall.cast (by omega) rfl) (bt.cast (by omega))
  obtain ⟨okh, th⟩ := ihh hw.1 (cmpLen t + 2 + before) _ s pc ah tt (bh.cast (by omega))
  exact ⟨okh.append okt, th⟩

theorem ok_cmp_empty (n : N) (hl : cmpLen n = 0) : PCmp G n := by
  intro _ before d s pc _ hfall _
  rw [hl] at hfall ⊢
  exact ⟨OkWin.zero G pc, hfall.cast (by omega) rfl⟩

theorem ok_body_case (vals body : N) (ihb : PComp G body) : PBody G (.case_ vals body) := by
  intro hw a s pc hat hexit
  simp only [wfCase, Bool.and_eq_true, Bool.not_eq_true'] at hw
  obtain ⟨⟨⟨_, hbb⟩, hxb⟩, hwb⟩ := hw
  have hsz : caseBodyLen (.case_ vals body) = size body + 2 := by simp [caseBodyLen]
  rw [hsz] at hexit ⊢
  simp only [compBody, htsBody] at hat
  obtain ⟨ab, aj⟩ := hat.comp_cons
  refine (use_operand ihb hwb hxb ab ?_).append (okwin_jf aj (hexit.cast (by omega) rfl))
  rw [exitD_of_not_unit (isBlock_not_unit hbb)]; exact aj.tgt_two

theorem ok_bodies_cons (h t : N) (ihh : PBody G h) (iht : PBodies G t) : PBodies G (.cons h t) := by
  intro hw d s pc hat hexit
  simp only [wfCases, Bool.and_eq_true] at hw
  have hsz : bodiesLen (.cons h t) = caseBodyLen h + bodiesLen t := by simp [bodiesLen]
  rw [hsz] at hexit ⊢
  simp only [compBodies, htsBodies] at hat
  obtain ⟨ah, at_⟩ := hat.split (compBody_length h _) (htsBody_length h _)
  exact (ihh hw.1 _ s pc ah (hexit.cast (by omega) rfl)).append (iht hw.2 d s _ at_ (hexit.cast (by omega) rfl))

theorem ok_dfltbody_default (body : N) (ihb : PComp G body) : PDfltBody G (.default_ body) := by
  intro hw s pc hat hexit
  simp only [wfCase, Bool.and_eq_true, Bool.not_eq_true'] at hw
  obtain ⟨⟨hbb, hxb⟩, hwb⟩ := hw
  simp only [compDfltBody, htsDfltBody, dfltBodyLen] at hat hexit ⊢
  refine use_operand ihb hwb hxb hat ?_
  rw [exitD_of_not_unit (isBlock_not_unit hbb)]; exact hexit

theorem ok_dflt_cons (h t : N) (ihh : PDfltBody G h) (iht : PDflt G t) : PDflt G (.cons h t) := by
  intro hw s pc hat hexit
  simp only [wfCases, Bool.and_eq_true] at hw
  simp only [compDflt, htsDflt, defLen] at hat hexit ⊢
  cases hd : isDefault h
  · simp only [hd, Bool.false_eq_true, ↓reduceIte] at hat hexit ⊢
    exact iht hw.2 s pc hat hexit
  · simp only [hd, ↓reduceIte] at hat hexit ⊢
    refine ⟨ihh hw.1 s pc hat hexit, ?_⟩
    cases h <;> simp [isDefault] at hd
    rename_i body
    simp only [wfCase, Bool.and_eq_true] at hw
    simp only [compDfltBody, htsDfltBody] at hat
    exact hat.tgt_comp hw.1.2

theorem ok_dflt_nil : PDflt G .nilL := by
  intro _ s pc hat hexit
  simp only [compDflt, htsDflt, defLen] at hat hexit ⊢
  exact ⟨ok_push1 hat rfl rfl hexit, hat.tgt_one⟩

theorem ok_switch (subj cases : N) (ihs : PComp G subj) (ihc : PCmp G cases) (ihb : PBodies G cases)
    (ihd : PDflt G cases) : PComp G (.switch subj cases) := by
  intro hw kb kc x pc hat hexit _
  simp only [wf, Bool.and_eq_true, Bool.not_eq_true'] at hw
  obtain ⟨⟨⟨⟨hes, hxs⟩, hws⟩, hwc⟩, _⟩ := hw
  have hex : exitD (.switch subj cases) = 1 := rfl
  have hsz : size (.switch subj cases) =
      size subj + (cmpLen cases + (2 + (bodiesLen cases + (defLen cases + (2 + 1))))) := by simp [size]; omega
  rw [hsz, hex] at hexit
  simp only [comp, hts, List.append_assoc] at hat
  rw [hsz]
  obtain ⟨as, hat⟩ := hat.comp_cons
  obtain ⟨ac, hat⟩ := hat.split (compCmp_length cases _) (htsCmp_length cases _)
  obtain ⟨aj, hat⟩ := hat.two_cons
  obtain ⟨ab, hat⟩ := hat.split (compBodies_length cases _) (htsBodies_length cases _)
  obtain ⟨ad, hat⟩ := hat.split (compDflt_length cases) (htsDflt_length cases _)
  obtain ⟨asw, apop⟩ := hat.two_cons
  obtain ⟨okc, tc⟩ := ihc hwc 0 (defLen cases) x _ ac aj.tgt_two (ab.cast (by omega))
  obtain ⟨okd, td⟩ := ihd hwc (x + 1) _ ad (asw.tgt_two.cast rfl (by omega))
  refine (use_operand ihs hws hxs as ?_).append (okc.append ((okwin_jf aj ?_).append
    ((ihb hwc (defLen cases) (x + 1) _ ab ?_).append (okd.append
      ((okwin_need2 asw (a := 2) (b := 0) rfl rfl (by omega) ?_).append
        (okwin_fall1 apop (a := 1) (b := 0) rfl rfl (by omega) ?_))))))
  · rw [exitD_of_not_unit (isE_not_unit hes)]; exact tc
  · exact td.cast (by omega) rfl
  · exact asw.tgt_two.cast (by omega) (by omega)
  · exact apop.tgt_one.cast rfl (by omega)
  · exact hexit.cast (by omega) (by omega)

/-! ### the structural induction -/

theorem ok_leaf1 (n : N) (i : FIns) (hc : ∀ kb kc, comp kb kc n = one i) (hh : ∀ x, hts x n = r1 x)
    (hk : (insOf i).kind = .fall 0 1) (hs : (insOf i).size = 1) (hsz : size n = 1) (hu : isUnitNode n = false) :
    PComp G n := by
  intro _ kb kc x pc hat hexit _
  rw [hc, hh] at hat
  rw [hsz, exitD_of_not_unit hu] at hexit
  rw [hsz]
  exact ok_push1 hat hk hs hexit

theorem ok_leaf2 (n : N) (i : FIns) (hc : ∀ kb kc, comp kb kc n = two i) (hh : ∀ x, hts x n = r2 x)
    (hk : (insOf i).kind = .fall 0 1) (hs : (insOf i).size = 2) (hsz : size n = 2) (hu : isUnitNode n = false) :
    PComp G n := by
  intro _ kb kc x pc hat hexit _
  rw [hc, hh] at hat
  rw [hsz, exitD_of_not_unit hu] at hexit
  rw [hsz]
  exact ok_push2 hat hk hs hexit

/-- `block`, `prog`, `expr`: the code of the wrapped node -/
theorem ok_wrap (n s : N) (ih : PComp G s) (hc : ∀ kb kc, comp kb kc n = comp kb kc s) (hh : ∀ x, hts x n = hts x s)
    (hsz : size n = size s) (hw : wf n = true → wf s = true ∧ isUnitNode s = false) (hu : isUnitNode n = false)
    (he : escapes n = escapes s) : PComp G n := by
  intro hwn kb kc x pc hat hexit hesc
  rw [hc, hh] at hat
  rw [hsz, exitD_of_not_unit hu] at hexit
  rw [hsz, he] at hesc
  rw [hsz]
  refine ih (hw hwn).1 kb kc x pc hat ?_ hesc
  rw [exitD_of_not_unit (hw hwn).2]; exact hexit

/-- the seven list-shaped statements are vacuous on a node that is neither a list nor a case -/
theorem ok_plain {n : N} (h : PComp G n) (hv : wfVals n = false) (hc : wfCase n = false) (hcs : wfCases n = false) :
    PComp G n ∧ PVals G n ∧ PCmpCase G n ∧ PCmp G n ∧ PBody G n ∧ PBodies G n ∧ PDfltBody G n ∧ PDflt G n :=
  ⟨h, vac hv, vac hc, vac hcs, vac hc, vac hcs, vac hc, vac hcs⟩

/-- every piece of the code of every node of the fragment passes `check`'s per-offset test,
    wherever it sits, provided its exits are legal targets with the right heights -/
theorem ok_all (G : FCtx) (n : N) :
    PComp G n ∧ PVals G n ∧ PCmpCase G n ∧ PCmp G n ∧ PBody G n ∧ PBodies G n ∧ PDfltBody G n ∧ PDflt G n := by
  induction n with
  | cons h t ihh iht =>
    exact ⟨ok_cons h t ihh.1 iht.1, ok_vals_cons h t ihh.1 iht.2.1, vac rfl,
      ok_cmp_cons h t ihh.2.2.1 iht.2.2.2.1, vac rfl,
      ok_bodies_cons h t ihh.2.2.2.2.1 iht.2.2.2.2.2.1, vac rfl,
      ok_dflt_cons h t ihh.2.2.2.2.2.2.1 iht.2.2.2.2.2.2.2⟩
  | nilL =>
    refine ⟨ok_leaf1 _ .nil_ (fun _ _ => rfl) (fun _ => rfl) rfl rfl rfl rfl, ok_vals_empty _ rfl,
      vac rfl, ok_cmp_empty _ rfl, vac rfl, ?_,
      vac rfl, ok_dflt_nil⟩
    intro _ d s pc _ _
    exact OkWin.zero G pc
  | case_ vals body ihv ihb =>
    refine ⟨vac rfl, vac rfl, ok_cmpcase_case vals body ihv.2.1,
      vac rfl, ok_body_case vals body ihb.1, vac rfl, ?_,
      vac rfl⟩
    intro _ s pc _ _
    exact OkWin.zero G pc
  | default_ body ihb =>
    refine ⟨vac rfl, vac rfl, ok_cmpcase_empty _ rfl,
      vac rfl, ?_, vac rfl, ok_dfltbody_default body ihb.1,
      vac rfl⟩
    intro _ a s pc _ _
    exact OkWin.zero G pc
  | nilLit => exact ok_plain (ok_leaf1 _ .nil_ (fun _ _ => rfl) (fun _ => rfl) rfl rfl rfl rfl) rfl rfl rfl
  | none_ => exact ok_plain (ok_leaf1 _ .nil_ (fun _ _ => rfl) (fun _ => rfl) rfl rfl rfl rfl) rfl rfl rfl
  | bool b =>
    refine ok_plain ?_ rfl rfl rfl
    cases b
    · exact ok_leaf1 _ .false_ (fun _ _ => rfl) (fun _ => rfl) rfl rfl rfl rfl
    · exact ok_leaf1 _ .true_ (fun _ _ => rfl) (fun _ => rfl) rfl rfl rfl rfl
  | int i => exact ok_plain (ok_leaf2 _ (.constInt i) (fun _ _ => rfl) (fun _ => rfl) rfl rfl rfl rfl) rfl rfl rfl
  | str s => exact ok_plain (ok_leaf2 _ (.constStr s) (fun _ _ => rfl) (fun _ => rfl) rfl rfl rfl rfl) rfl rfl rfl
  | id y => exact ok_plain (ok_leaf2 _ (.loadG y) (fun _ _ => rfl) (fun _ => rfl) rfl rfl rfl rfl) rfl rfl rfl
  | «infix» op l r ihl ihr =>
    refine ok_plain ?_ rfl rfl rfl
    by_cases hand : op = .and
    · subst hand; exact ok_and l r ihl.1 ihr.1
    · by_cases hor : op = .or
      · subst hor; exact ok_or l r ihl.1 ihr.1
      · exact ok_infix op l r ihl.1 ihr.1 hand hor
  | neg e ih =>
    refine ok_plain ?_ rfl rfl rfl
    intro hw kb kc x pc hat hexit _
    simp only [wf, Bool.and_eq_true, Bool.not_eq_true'] at hw
    simp only [comp, hts] at hat
    exact (ih.1.expr hw.2 hw.1.1 hw.1.2).unary rfl hat hexit ⟨rfl, rfl⟩
  | not e ih =>
    refine ok_plain ?_ rfl rfl rfl
    intro hw kb kc x pc hat hexit _
    simp only [wf, Bool.and_eq_true, Bool.not_eq_true'] at hw
    simp only [comp, hts] at hat
    exact (ih.1.expr hw.2 hw.1.1 hw.1.2).unary rfl hat hexit ⟨rfl, rfl⟩
  | tern c a b ihc iha ihb =>
    refine ok_plain ?_ rfl rfl rfl
    intro hw kb kc x pc hat hexit hesc
    simp only [wf, Bool.and_eq_true, Bool.not_eq_true'] at hw
    obtain ⟨⟨⟨⟨⟨⟨⟨⟨hec, hea⟩, heb⟩, hxc⟩, _⟩, _⟩, hwc⟩, hwa⟩, hwb⟩ := hw
    simp only [comp, hts, List.append_assoc] at hat
    refine (ihc.1.expr hwc hec hxc).cond (iha.1.piece hwa (exitD_of_not_unit (isE_not_unit hea)) rfl)
      (ihb.1.piece hwb (exitD_of_not_unit (isE_not_unit heb)) rfl) (by simp [size]) hat hexit ?_ ⟨rfl, rfl⟩ rfl
    intro h
    exact hesc (by simp only [escapes, Bool.or_eq_true]; rcases h with h | h <;> simp [h])
  | if_ c a b ihc iha ihb =>
    refine ok_plain ?_ rfl rfl rfl
    intro hw kb kc x pc hat hexit hesc
    simp only [wf, Bool.and_eq_true, Bool.not_eq_true'] at hw
    obtain ⟨⟨⟨⟨⟨⟨hec, hba⟩, heb⟩, hxc⟩, hwc⟩, hwa⟩, hwb⟩ := hw
    simp only [comp, hts, List.append_assoc] at hat
    refine (ihc.1.expr hwc hec hxc).cond (iha.1.piece hwa (exitD_of_not_unit (isBlock_not_unit hba)) rfl)
      (ihb.1.piece hwb (exitD_of_not_unit (isElse_not_unit heb)) rfl) (by simp [size]) hat hexit ?_ ⟨rfl, rfl⟩ rfl
    intro h
    exact hesc (by simp only [escapes, Bool.or_eq_true]; rcases h with h | h <;> simp [h])
  | block s ih =>
    refine ok_plain ?_ rfl rfl rfl
    refine ok_wrap _ s ih.1 (fun _ _ => by simp only [comp]) (fun _ => by simp only [hts]) (by simp [size]) ?_ rfl
      (by simp [escapes])
    intro hw
    simp only [wf, Bool.and_eq_true] at hw
    exact ⟨hw.2, isL_not_unit hw.1⟩
  | prog s ih =>
    refine ok_plain ?_ rfl rfl rfl
    refine ok_wrap _ s ih.1 (fun _ _ => by simp only [comp]) (fun _ => by simp only [hts]) (by simp [size]) ?_ rfl
      (by simp [escapes])
    intro hw
    simp only [wf, Bool.and_eq_true] at hw
    exact ⟨hw.2, isL_not_unit hw.1.1⟩
  | expr e ih =>
    refine ok_plain ?_ rfl rfl rfl
    refine ok_wrap _ e ih.1 (fun _ _ => by simp only [comp]) (fun _ => by simp only [hts]) (by simp [size]) ?_ rfl
      (by simp [escapes])
    intro hw
    simp only [wf, Bool.and_eq_true] at hw
    exact ⟨hw.2, isE_not_unit hw.1⟩
  | var y e ih => exact ok_plain (ok_var y e ih.1) rfl rfl rfl
  | assign y op e ih => exact ok_plain (ok_assign y op e ih.1) rfl rfl rfl
  | «postfix» y inc => exact ok_plain (ok_postfix y inc) rfl rfl rfl
  | break_ => exact ok_plain (ok_break) rfl rfl rfl
  | continue_ => exact ok_plain (ok_continue) rfl rfl rfl
  | forcond c b ihc ihb => exact ok_plain (ok_forcond c b ihc.1 ihb.1) rfl rfl rfl
  | forever b ihb => exact ok_plain (ok_forever b ihb.1) rfl rfl rfl
  | for3 i c p b ihi ihc ihp ihb => exact ok_plain (ok_for3 i c p b ihi.1 ihc.1 ihp.1 ihb.1) rfl rfl rfl
  | switch subj cases ihs ihc => exact ok_plain (ok_switch subj cases ihs.1 ihc.2.2.2.1 ihc.2.2.2.2.2.1 ihc.2.2.2.2.2.2.2) rfl rfl rfl
  | _ => exact ok_plain (vac rfl) rfl rfl rfl

end Ctx

/-! ### the heights stay within the syntactic nesting depth -/

theorem Bd_preH (x : Nat) (h : N) (k : Nat) (hk : x + 1 ≤ k) : Bd (preH x h) k := by
  unfold preH
  cases postName h with
  | none => simp [Bd]
  | some y => simp only [Bd_append, Bd_r1, Bd_r2]; omega

/-- The eight height lists of a node entered at `x` stay within any `b ≥ x + depth n`.  By the functional
    induction of `hts`: `add_max_le` splits the `max`es of `depth` into one linear bound per sub-node, which is
    the premise of that sub-node's hypothesis at the height it is entered with, for the same `b`; the heights
    of the single instructions are linear arithmetic. -/
theorem hts_le_depth :
    (∀ x n b, x + depth n ≤ b → Bd (hts x n) b) ∧ (∀ s n b, s + depth n ≤ b → Bd (htsDflt s n) b) ∧
    (∀ s n b, s + depth n ≤ b → Bd (htsDfltBody s n) b) ∧ (∀ s n b, s + depth n ≤ b → Bd (htsBodies s n) b) ∧
    (∀ s n b, s + depth n + 1 ≤ b → Bd (htsBody s n) b) ∧ (∀ s n b, s + depth n ≤ b → Bd (htsCmp s n) b) ∧
    (∀ s n b, s + depth n ≤ b → Bd (htsCmpCase s n) b) ∧ (∀ s n b, s + depth n ≤ b → Bd (htsVals s n) b) := by
  apply hts.mutual_induct
  all_goals
    intros
    rename_i hb
    try simp only [depth, add_max_le] at hb
    simp only [hts, htsDflt, htsDfltBody, htsBodies, htsBody, htsCmp, htsCmpCase, htsVals, ↓reduceIte, reduceCtorEq, *]
    repeat' split
    all_goals simp (disch := omega) only [Bd_append, Bd_r1, Bd_r2, Bd_nil, Bd_preH, true_and, and_true, *]
    all_goals try omega

/-- a program whose syntactic nesting depth is within the frame's limit fits it -/
theorem fits_of_depth (p : N) (h : depth p ≤ maxHeight) : fits p = true := by
  simp only [fits, List.all_eq_true, decide_eq_true_eq]
  intro x hx
  exact hts_le_depth.1 0 p _ (by omega) x hx

/-! ### a whole program -/

/-- the context of a whole program: its code, the heights of all its slots, one value at the end -/
def progCtx (p : N) (hfit : fits p = true) : FCtx where
  code := compF p
  H := hts 0 p
  hend := some 1
  isMain := true
  hlen := by rw [hts_length, compF, comp_length]
  hmax := by
    intro x hx
    have := List.all_eq_true.mp hfit x hx
    simpa using this
  hendmax := by intro x h; cases h; simp [maxHeight]

/-! ### erased operands -/

theorem eraseIns_kind (i : Ins) : (eraseIns i).kind = i.kind ∧ (eraseIns i).size = i.size := by
  obtain ⟨op, a, b⟩ := i
  cases op <;> exact ⟨rfl, rfl⟩

/-! ### deeply nested operands -/

theorem deep_isE (k : Nat) : isE (deep k) = true := by cases k <;> rfl

theorem deep_facts (k : Nat) : wf (deep k) = true ∧ escapes (deep k) = false ∧
    (∀ env, scopeOK env (deep k) = true) ∧ decls (deep k) = [] := by
  induction k with
  | zero => simp [deep, wf, escapes, scopeOK, decls]
  | succ k ih =>
    obtain ⟨h1, h3, h4, h5⟩ := ih
    have hi : isE (.int 1) = true := rfl
    simp [deep, wf, escapes, scopeOK, decls, opOK, hi, deep_isE, h1, h3, h4, h5]

theorem deepProg_inFrag (k : Nat) : inFrag (deepProg k) = true := by
  obtain ⟨h1, h3, h4, h5⟩ := deep_facts k
  simp [deepProg, inFrag, wf, isL, isS, leaves, isUnitNode, escapes, wellScoped, scopeOK, decls, nodup, deep_isE, h1,
    h3, h4, h5]

/-- running the code of `deep k` from height `h` loads its `k + 1` constants one after the
    other: the stack then holds all of them at once -/
theorem deep_reach (code : Frag.Code) : ∀ (k pc h : Nat), Win code pc (comp 0 0 (deep k)) →
    Reach (toC04 code) ⟨pc, h⟩ → Reach (toC04 code) ⟨pc + 2 * (k + 1), h + (k + 1)⟩ := by
  have hstep : ∀ pc h rest, Win code pc (two (.constInt 1) ++ rest) → Reach (toC04 code) ⟨pc, h⟩ →
      Reach (toC04 code) ⟨pc + 2, h + 1⟩ := by
    intro pc h rest hw hr
    have hat : (toC04 code).at pc = some ⟨.loadConst, 0, 0⟩ := by
      have := Win.head hw.left
      simp [toC04, Code.at, this, insOf]
    exact .step hr (.mk (l := [(pc + 2, h + 1)]) hat (by simp [succs, Ins.kind, Ins.size, Op.operands]) (by simp))
  intro k
  induction k with
  | zero =>
    intro pc h hw hr
    have := hstep pc h [] (by simpa [deep, comp] using hw) hr
    simpa using this
  | succ k ih =>
    intro pc h hw hr
    simp only [deep, comp, reduceCtorEq, ↓reduceIte, List.append_assoc] at hw
    have r1 := hstep pc h _ hw hr
    have hw2 : Win code (pc + 2) (comp 0 0 (deep k)) := by
      have := hw.right.left
      simpa using this
    have r2 := ih (pc + 2) (h + 1) hw2 r1
    have e1 : pc + 2 + 2 * (k + 1) = pc + 2 * (k + 1 + 1) := by omega
    have e2 : h + 1 + (k + 1) = h + (k + 1 + 1) := by omega
    rw [e1, e2] at r2
    exact r2

end Risor.C04
