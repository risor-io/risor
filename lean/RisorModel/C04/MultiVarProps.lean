import RisorModel.C04.MultiVarLemmas
/-!
C04 — multi-variable statements are stack-neutral: property theorems.

The statement `n₁, …, nₖ := e` (or `=`) is `e; UNPACK k; sinks` (MultiVar.lean).  What the
property demands of it is stated three ways, each for ALL name lists of any length, all
positions of `_` in them, all storage classes and both `:=` and `=`:

* on executions (`mv_stmt_effect`, `compileMultiVar_neutral`): in any code object that contains
  the statement's tail, an execution that reaches `UNPACK` with the right side's value on top of
  `x` pending operands reaches the instruction after the statement with `x + leak` operands,
  where `leak` = the number of names for which nothing takes the value off the stack.  For the
  compiler as it is (`implSinks`) and for a blank-aware compiler that drops the value of `_`
  (`blankSinks`) `leak = 0`: the statement is neutral with any number `x` of operands pending
  below it (loop iterators, switch subjects, a half-built call).  For the shape that emits
  nothing for blank names at the front of the list (`skipLeadingSinks`) `leak` is the number of
  those names (`skipLeading_leaks`).
* on certificates (`mv_window_ok`): the statement's tail passes the verified checker's per-offset
  test wherever it sits in whatever code object, provided the offset after it is entered with
  `x + leak` — with `leak = 0`, the height the statement started with.
* on whole code objects: the main code of `for { names… := g }` is accepted by the checker when
  `leak = 0` (`mv_loop_accepted`, `compileMultiVar_loop_balanced`) and rejected for EVERY
  certificate when `leak ≠ 0` (`mv_loop_rejected`, `skipLeading_loop_rejected`: one slot per
  iteration); whereas the body of `func() { names… := g; return g }` is accepted even when the
  statement leaks (`mv_fn_accepted_despite_leak`): `RETURN_VALUE` discards the frame, so the
  checker of a code object cannot be the test for one statement — the harness therefore
  evaluates `runStraight` on the real instructions of every statement (`mv_runStraight` ties
  that function to the heights above).
-/
namespace Risor.C04.MV
open Risor.C04 Risor.C04.Ctx

variable {G : Ctx Ins id}

/-- **The statement's tail passes the checker wherever it sits**: in any code object, at any
    offset, with any number `x` of operands pending below the statement, `UNPACK n` and the
    sinks pass `check`'s per-offset test provided the offset after the statement is entered with
    `x + leak sinks`.  With `leak sinks = 0` that is the height the statement started with. -/
theorem mv_window_ok (sinks : List Sink) (x pc : Nat) (hat : G.At pc (mvSlots sinks) (mvHts x sinks))
    (ht : G.Tgt (pc + (mvSlots sinks).length) (x + leak sinks)) : G.OkWin pc (mvSlots sinks).length := by
  have hat' : G.At pc ([some ⟨.unpack, sinks.length, 0⟩, none] ++ sinksSlots sinks)
      (r2 (x + 1) ++ sinksHts (x + sinks.length) sinks) := hat
  obtain ⟨h1, h2⟩ := hat'.two_cons
  have hle := takers_le sinks
  have ht' : G.Tgt (pc + 2 + (sinksSlots sinks).length) (x + sinks.length - takers sinks) :=
    ht.cast (by rw [mvSlots_length]; omega) (by unfold leak; omega)
  have hnext : G.Tgt (pc + 2) (x + sinks.length) := sinks_tgt sinks _ _ h2 ht'
  have w1 : G.OkWin pc 2 :=
    okwin_fall2 (a := 1) (b := sinks.length) h1 rfl rfl (by omega) (hnext.cast rfl (by omega))
  have w2 := sinks_ok sinks _ _ h2 (by omega) ht'
  exact (w1.append w2).cast (by rw [mvSlots_length])

/-- **What the statement does to the operand stack**, in ANY code object that contains its
    tail (`UNPACK n` and the sinks) at offset `pc`: an execution that reaches `UNPACK` with the
    value of the right side on top of `x` pending operands reaches the offset after the statement
    with `x + leak sinks` operands — one more than it started with for every name whose value
    nothing takes off the stack. -/
theorem mv_stmt_effect (c : Code) (sinks : List Sink) (x pc : Nat) (hw : HasWin c pc (mvSlots sinks))
    (hr : Reach c ⟨pc, x + 1⟩) : Reach c ⟨pc + (mvSlots sinks).length, x + leak sinks⟩ := by
  have hw' : HasWin c pc ([some ⟨.unpack, sinks.length, 0⟩, none] ++ sinksSlots sinks) := hw
  have hr' : Reach c ⟨pc + 2, x + 1 - 1 + sinks.length⟩ :=
    reach_fall (i := ⟨.unpack, sinks.length, 0⟩) (HasWin.at_head (Win.left hw')) rfl (Nat.le_add_left 1 x) hr
  have hle := takers_le sinks
  exact (sinks_run c sinks _ (pc + 2) (Win.right hw') (by omega) hr').cast (by rw [mvSlots_length]; omega)
    (by unfold leak; omega)

/-- the compiler as it is emits a store for every name, `_` included -/
theorem leak_implSinks (walrus inFn : Bool) (names : List Name) : leak (implSinks walrus inFn names) = 0 := by
  apply leak_of_all_take
  intro s hs
  simp only [implSinks, List.mem_map] at hs
  obtain ⟨_, _, rfl⟩ := hs
  rfl

/-- a compiler that drops the value of every blank name is neutral as well -/
theorem leak_blankSinks (walrus inFn : Bool) (names : List Name) : leak (blankSinks walrus inFn names) = 0 := by
  apply leak_of_all_take
  intro s hs
  simp only [blankSinks, List.mem_map] at hs
  obtain ⟨nm, _, rfl⟩ := hs
  split <;> rfl

/-- **the forbidden shape leaks**: emitting nothing for the blank names at the front of the
    list leaves exactly that many values behind, whatever the rest of the list is -/
theorem skipLeading_leaks (walrus inFn : Bool) (names : List Name) :
    leak (skipLeadingSinks walrus inFn names) = leadingBlanks names := by
  have h0 := leak_blankSinks walrus inFn (names.drop (leadingBlanks names))
  have hle := takers_le (blankSinks walrus inFn (names.drop (leadingBlanks names)))
  unfold leak at h0 ⊢
  simp only [skipLeadingSinks, takers_append, takers_replicate_skip, List.length_append, List.length_replicate]
  omega

/-- **`compileMultiVar` as it is emits a stack-neutral statement**: for every name list (any
    length, `_` anywhere, any storage classes), `:=` or `=`, in the main code or in a function,
    in any code object and under any number `x` of pending operands, an execution that reaches
    `UNPACK` with the right side's value on top reaches the offset after the statement with
    exactly the `x` operands the statement started with. -/
theorem compileMultiVar_neutral (c : Code) (walrus inFn : Bool) (names : List Name) (x pc : Nat)
    (hw : HasWin c pc (mvSlots (implSinks walrus inFn names))) (hr : Reach c ⟨pc, x + 1⟩) :
    Reach c ⟨pc + (mvSlots (implSinks walrus inFn names)).length, x⟩ := by
  have := mv_stmt_effect c _ x pc hw hr
  rwa [leak_implSinks, Nat.add_zero] at this

/-- the same for a compiler that knows the blank identifier and drops its value with `POP_TOP` -/
theorem blankAware_neutral (c : Code) (walrus inFn : Bool) (names : List Name) (x pc : Nat)
    (hw : HasWin c pc (mvSlots (blankSinks walrus inFn names))) (hr : Reach c ⟨pc, x + 1⟩) :
    Reach c ⟨pc + (mvSlots (blankSinks walrus inFn names)).length, x⟩ := by
  have := mv_stmt_effect c _ x pc hw hr
  rwa [leak_blankSinks, Nat.add_zero] at this

/-- the shape that skips leading blank names leaves one operand per such name after EVERY
    execution of the statement -/
theorem skipLeading_effect (c : Code) (walrus inFn : Bool) (names : List Name) (x pc : Nat)
    (hw : HasWin c pc (mvSlots (skipLeadingSinks walrus inFn names))) (hr : Reach c ⟨pc, x + 1⟩) :
    Reach c ⟨pc + (mvSlots (skipLeadingSinks walrus inFn names)).length, x + leadingBlanks names⟩ := by
  have := mv_stmt_effect c _ x pc hw hr
  rwa [skipLeading_leaks] at this

/-- `runStraight` over the statement's tail computes the height `mv_stmt_effect` names: run
    from `x + 1` it ends at `x + leak sinks`.  (The oracle evaluates `runStraight` on the
    instructions the REAL compiler emitted for the statement; the Spec is "ends at `x`".) -/
theorem mv_runStraight (sinks : List Sink) (x : Nat) :
    runStraight (insOfSlots (mvSlots sinks)) (x + 1) = some (x + leak sinks) := by
  have hle := takers_le sinks
  have e : x + leak sinks = x + 1 - 1 + sinks.length - takers sinks := by unfold leak; omega
  rw [e, ← runStraight_sinks sinks _ (by omega)]
  exact runStraight_cons_fall (i := ⟨.unpack, sinks.length, 0⟩) _ rfl (Nat.le_add_left 1 x)

/-- one trip round the loop `for { names… := g }`: from the loop head with `h` operands back to
    the loop head with `h + leak sinks` -/
theorem loop_round (sinks : List Sink) (h : Nat) (hr : Reach (loopCode sinks) ⟨0, h⟩) :
    Reach (loopCode sinks) ⟨0, h + leak sinks⟩ := by
  let L := (sinksSlots sinks).length
  have h0 := loop_hasWin sinks
  unfold loopSlots at h0
  -- LOAD_GLOBAL g
  have r1' : Reach (loopCode sinks) ⟨2, h + 1⟩ :=
    reach_fall (i := ⟨.loadGlobal, 0, 0⟩) (HasWin.at_head (rest := [none]) (Win.left (Win.left h0))) rfl
      (Nat.zero_le _) hr
  -- the statement
  have r2' : Reach (loopCode sinks) ⟨4 + L, h + leak sinks⟩ :=
    (mv_stmt_effect _ sinks h 2 (loop_mv_win sinks) r1').cast (by rw [mvSlots_length]; omega) rfl
  have ht := loop_tail_win sinks
  -- NIL
  have r3 : Reach (loopCode sinks) ⟨4 + L + 1, h + leak sinks + 1⟩ :=
    reach_fall (i := ⟨.nil_, 0, 0⟩) (HasWin.at_head ht) rfl (Nat.zero_le _) r2'
  -- POP_TOP
  have r4 : Reach (loopCode sinks) ⟨4 + L + 1 + 1, h + leak sinks⟩ :=
    reach_fall (i := ⟨.popTop, 0, 0⟩) (HasWin.at_head ht.tail) rfl (Nat.le_add_left 1 _) r3
  -- JUMP_BACKWARD to the head
  have hjb : (loopCode sinks).at (4 + L + 1 + 1) = some ⟨.jumpBackward, 6 + L, 0⟩ := HasWin.at_head ht.tail.tail
  have hs : succs ⟨.jumpBackward, 6 + L, 0⟩ (4 + L + 1 + 1) (h + leak sinks) = some [(0, h + leak sinks)] := by
    have hd : 6 + L ≤ 4 + L + 1 + 1 := by omega
    have e : 4 + L + 1 + 1 - (6 + L) = 0 := by omega
    simp only [succs, Ins.kind, hd, if_true, e]
  exact .step r4 (.mk hjb hs (by simp))

/-- **A leaking statement in a loop is rejected for every certificate**: if the sinks leave
    even one value behind (`leak sinks ≠ 0`), no certificate whatsoever makes the verified
    checker accept the code of `for { names… := g }` — the loop head is reached with `0` and
    with `leak sinks` operands. -/
theorem mv_loop_rejected (sinks : List Sink) (hk : leak sinks ≠ 0) (cert : Cert) :
    check (loopCode sinks) cert = false := by
  cases hc : check (loopCode sinks) cert with
  | false => rfl
  | true =>
    exfalso
    have r0 : Reach (loopCode sinks) ⟨0, 0⟩ := .init
    have r1' := loop_round sinks 0 r0
    have := loop_height_constant _ cert hc _ _ r0 r1' rfl
    simp at this
    exact hk this.symm

/-- after `k` trips round the loop the loop head holds `k * leak sinks` operands: the stack
    grows with the iteration count (the overflow at 1024 slots is a matter of time) -/
theorem loop_rounds (sinks : List Sink) : ∀ k : Nat, Reach (loopCode sinks) ⟨0, k * leak sinks⟩
  | 0 => by simpa using Reach.init
  | k + 1 => by
    have := loop_round sinks _ (loop_rounds sinks k)
    rw [Nat.succ_mul]; exact this

/-- the forbidden shape in a loop: rejected for every certificate as soon as the list starts
    with a blank name -/
theorem skipLeading_loop_rejected (walrus inFn : Bool) (names : List Name) (hb : leadingBlanks names ≠ 0)
    (cert : Cert) : check (loopCode (skipLeadingSinks walrus inFn names)) cert = false :=
  mv_loop_rejected _ (by rw [skipLeading_leaks]; exact hb) cert

/-- the context of the loop's code object with the heights of `loopHts` -/
def loopCtx (sinks : List Sink) (hn : sinks.length + 1 ≤ maxHeight) (hk : leak sinks = 0) : Ctx Ins id where
  code := loopSlots sinks
  H := loopHts sinks
  hend := some 1
  isMain := true
  hlen := by
    simp only [loopSlots, loopHts, List.length_append, mvHts_length, r2]
    rfl
  hmax := by
    intro y hy
    simp only [loopHts, hk, List.mem_append] at hy
    rcases hy with (hy | hy) | hy
    · simp [r2] at hy; subst hy; exact Nat.zero_le _
    · have := mvHts_le 0 sinks y hy; omega
    · simp at hy; rcases hy with hy | hy | hy <;> subst hy <;> simp [maxHeight]
  hendmax := by intro y hy; cases hy; simp [maxHeight]

/-- **A neutral statement in a loop is accepted**: when every value meets a sink
    (`leak sinks = 0`) the code of `for { names… := g }` has a certificate the verified checker
    accepts (for name lists that fit the frame), so by `loop_height_constant` no number of
    iterations grows the stack. -/
theorem mv_loop_cert_accepted (sinks : List Sink) (hn : sinks.length + 1 ≤ maxHeight) (hk : leak sinks = 0) :
    check (loopCode sinks) (loopCert sinks) = true := by
  let G := loopCtx sinks hn hk
  have hC : loopCode sinks = G.C := by
    show loopCode sinks = { slots := ((loopSlots sinks).map (Option.map id)).toArray, isMain := true }
    rw [map_id_slots]; rfl
  have hcert : loopCert sinks = G.cert := rfl
  rw [hC, hcert]
  let L := (sinksSlots sinks).length
  have hat : G.At 0 (loopSlots sinks) (loopHts sinks) := ⟨Win.self _, Win.self _⟩
  -- split the code object into its pieces
  have hat1 : G.At 0 (([some ⟨.loadGlobal, 0, 0⟩, none] ++ mvSlots sinks) ++
      ([some ⟨.nil_, 0, 0⟩] ++ ([some ⟨.popTop, 0, 0⟩] ++ ([some ⟨.jumpBackward, 6 + L, 0⟩, none] ++
        ([some ⟨.nop, 0, 0⟩] ++ [some ⟨.nil_, 0, 0⟩])))))
      ((r2 0 ++ mvHts 0 sinks) ++ (r1 (leak sinks) ++ (r1 (leak sinks + 1) ++ (r2 (leak sinks) ++ (r1 0 ++ r1 0))))) := hat
  obtain ⟨hA, hB⟩ := hat1.split (k := 4 + L) (by simp [mvSlots]; omega) (by simp [mvHts_length, mvSlots, r2]; omega)
  obtain ⟨hlg, hmv⟩ := hA.two_cons
  obtain ⟨hnil, hB1⟩ := hB.one_cons
  obtain ⟨hpop, hB2⟩ := hB1.one_cons
  obtain ⟨hjb, hB3⟩ := hB2.two_cons
  obtain ⟨hnop, hnil2⟩ := hB3.one_cons
  rw [hk] at hnil hpop hjb
  have e0 : (0 : Nat) + 2 = 2 := rfl
  -- targets
  have tmv : G.Tgt (0 + 2) (0 + 1) := by
    have hmv' : G.At (0 + 2) ([some ⟨.unpack, sinks.length, 0⟩, none] ++ sinksSlots sinks)
        (r2 (0 + 1) ++ sinksHts (0 + sinks.length) sinks) := hmv
    exact hmv'.two_cons.1.tgt_two
  have w0 : G.OkWin 0 2 := ok_push2 hlg rfl rfl (tmv.cast rfl rfl)
  have w1 : G.OkWin (0 + 2) (mvSlots sinks).length :=
    mv_window_ok sinks 0 (0 + 2) hmv (hnil.tgt_one.cast (by rw [mvSlots_length]; omega) (by rw [hk]))
  have w2 : G.OkWin (0 + (4 + L)) 1 := ok_push1 hnil rfl rfl (hpop.tgt_one.cast rfl rfl)
  have w3 : G.OkWin (0 + (4 + L) + 1) 1 := ok_pop1 hpop rfl rfl (hjb.tgt_two.cast rfl rfl)
  have w4 : G.OkWin (0 + (4 + L) + 1 + 1) 2 :=
    okwin_jumpB (d := 6 + L) hjb rfl (by omega) (hlg.tgt_two.cast (by omega) rfl)
  have w5 : G.OkWin (0 + (4 + L) + 1 + 1 + 2) 1 :=
    okwin_fall1 (a := 0) (b := 0) hnop rfl rfl (Nat.zero_le _) (hnil2.tgt_one.cast rfl rfl)
  have hlen : G.code.length = 4 + L + 6 := by
    show (loopSlots sinks).length = _
    simp [loopSlots, mvSlots]; omega
  have w6 : G.OkWin (0 + (4 + L) + 1 + 1 + 2 + 1) 1 :=
    ok_push1 hnil2 rfl rfl (.inr ⟨by rw [hlen]; omega, rfl⟩)
  have hall : G.OkWin 0 G.code.length := by
    have a1 := w0.append w1
    rw [mvSlots_length] at a1
    have a2 := (a1.cast (show 2 + (2 + (sinksSlots sinks).length) = 4 + L by omega)).append w2
    have a3 := a2.append (w3.cast rfl)
    have a4 := a3.append (w4.cast rfl)
    have a5 := a4.append (w5.cast rfl)
    have a6 := a5.append (w6.cast rfl)
    exact a6.cast (by rw [hlen])
  have h0 : G.code[0]? = some (some ⟨.loadGlobal, 0, 0⟩) := Win.head hlg.1
  have hH0 : G.H[0]? = some 0 := Win.head hlg.2
  exact check_of_okwin _ h0 hH0 hall (.inr ⟨rfl, rfl⟩)

/-- existential form of `mv_loop_cert_accepted`: a neutral statement in a loop has an accepted certificate -/
theorem mv_loop_accepted (sinks : List Sink) (hn : sinks.length + 1 ≤ maxHeight) (hk : leak sinks = 0) :
    ∃ cert, check (loopCode sinks) cert = true := ⟨_, mv_loop_cert_accepted sinks hn hk⟩

/-- **`compileMultiVar` as it is, in a loop, for all name lists**: the code of
    `for { n₁, …, nₖ := g }` (and of the `=` form; in the main code or in a function) is accepted
    by the verified checker, whatever the names — `_` in any position — and their storage
    classes are: the statement cannot grow the stack however often it runs. -/
theorem compileMultiVar_loop_balanced (walrus inFn : Bool) (names : List Name) (hn : names.length + 1 ≤ maxHeight) :
    ∃ cert, check (loopCode (implSinks walrus inFn names)) cert = true :=
  mv_loop_accepted _ (by rw [implSinks_length]; exact hn) (leak_implSinks walrus inFn names)

/-- the same for a compiler that drops the value of blank names with `POP_TOP` -/
theorem blankAware_loop_balanced (walrus inFn : Bool) (names : List Name) (hn : names.length + 1 ≤ maxHeight) :
    ∃ cert, check (loopCode (blankSinks walrus inFn names)) cert = true :=
  mv_loop_accepted _ (by simp [blankSinks]; exact hn) (leak_blankSinks walrus inFn names)

/-- in a loop the checker decides exactly whether the statement is neutral -/
theorem mv_loop_balanced_iff (sinks : List Sink) (hn : sinks.length + 1 ≤ maxHeight) :
    (∃ cert, check (loopCode sinks) cert = true) ↔ leak sinks = 0 := by
  constructor
  · intro ⟨cert, hc⟩
    rcases Nat.eq_zero_or_pos (leak sinks) with h | h
    · exact h
    · have := mv_loop_rejected sinks (by omega) cert
      rw [hc] at this; cases this
  · exact mv_loop_accepted sinks hn

/-- the context of the function body `func() { names… := g; return g }` -/
def fnCtx (sinks : List Sink) (hn : sinks.length + 1 ≤ maxHeight) : Ctx Ins id where
  code := fnSlots sinks
  H := fnHts sinks
  hend := none
  isMain := false
  hlen := by
    simp only [fnSlots, fnHts, List.length_append, mvHts_length, r2]
    rfl
  hmax := by
    intro y hy
    have hl : leak sinks ≤ sinks.length := by unfold leak; omega
    simp only [fnHts, List.mem_append] at hy
    rcases hy with (hy | hy) | hy
    · simp [r2] at hy; subst hy; exact Nat.zero_le _
    · have := mvHts_le 0 sinks y hy; omega
    · simp at hy; rcases hy with hy | hy | hy <;> omega
  hendmax := by intro y hy; cases hy

/-- **The checker of a whole code object cannot be the test for one statement**: the body of
    `func() { names… := g; return g }` is accepted by the verified checker for EVERY list of
    sinks — also when the statement leaves values behind (`leak sinks ≠ 0`): `RETURN_VALUE` needs
    one value and has no successor, and leaving the frame discards the rest.  A leaking
    multi-variable statement that runs once per call is therefore invisible to `check` (and to
    every run: the frame's stack is reset at return); the harness tests every statement's own
    instructions with `runStraight` (`mv_runStraight`) instead. -/
theorem mv_fn_cert_accepted_despite_leak (sinks : List Sink) (hn : sinks.length + 1 ≤ maxHeight) :
    check (fnCode sinks) (fnCert sinks) = true := by
  let G := fnCtx sinks hn
  have hC : fnCode sinks = G.C := by
    show fnCode sinks = { slots := ((fnSlots sinks).map (Option.map id)).toArray, isMain := false }
    rw [map_id_slots]; rfl
  have hcert : fnCert sinks = G.cert := rfl
  rw [hC, hcert]
  let L := (sinksSlots sinks).length
  have hat : G.At 0 (fnSlots sinks) (fnHts sinks) := ⟨Win.self _, Win.self _⟩
  have hat1 : G.At 0 (([some ⟨.loadGlobal, 0, 0⟩, none] ++ mvSlots sinks) ++
      ([some ⟨.loadGlobal, 0, 0⟩, none] ++ [some ⟨.returnValue, 0, 0⟩]))
      ((r2 0 ++ mvHts 0 sinks) ++ (r2 (leak sinks) ++ r1 (leak sinks + 1))) := hat
  obtain ⟨hA, hB⟩ := hat1.split (k := 4 + L) (by simp [mvSlots]; omega) (by simp [mvHts_length, mvSlots, r2]; omega)
  obtain ⟨hlg, hmv⟩ := hA.two_cons
  obtain ⟨hlg2, hret⟩ := hB.two_cons
  have tmv : G.Tgt (0 + 2) (0 + 1) := by
    have hmv' : G.At (0 + 2) ([some ⟨.unpack, sinks.length, 0⟩, none] ++ sinksSlots sinks)
        (r2 (0 + 1) ++ sinksHts (0 + sinks.length) sinks) := hmv
    exact hmv'.two_cons.1.tgt_two
  have w0 : G.OkWin 0 2 := ok_push2 hlg rfl rfl (tmv.cast rfl rfl)
  have w1 : G.OkWin (0 + 2) (mvSlots sinks).length :=
    mv_window_ok sinks 0 (0 + 2) hmv (hlg2.tgt_two.cast (by rw [mvSlots_length]; omega) (by omega))
  have w2 : G.OkWin (0 + (4 + L)) 2 := ok_push2 hlg2 rfl rfl (hret.tgt_one.cast rfl rfl)
  have w3 : G.OkWin (0 + (4 + L) + 2) 1 := okwin_ret hret rfl (by omega)
  have hlen : G.code.length = 4 + L + 3 := by
    show (fnSlots sinks).length = _
    simp [fnSlots, mvSlots]; omega
  have hall : G.OkWin 0 G.code.length := by
    have a1 := w0.append w1
    rw [mvSlots_length] at a1
    have a2 := (a1.cast (show 2 + (2 + (sinksSlots sinks).length) = 4 + L by omega)).append w2
    have a3 := a2.append (w3.cast rfl)
    exact a3.cast (by rw [hlen])
  have h0 : G.code[0]? = some (some ⟨.loadGlobal, 0, 0⟩) := Win.head hlg.1
  have hH0 : G.H[0]? = some 0 := Win.head hlg.2
  exact check_of_okwin _ h0 hH0 hall (.inl rfl)

/-- existential form of `mv_fn_cert_accepted_despite_leak`: for every list of sinks, leaking or not, the
    function body that runs the statement once has an accepted certificate -/
theorem mv_fn_accepted_despite_leak (sinks : List Sink) (hn : sinks.length + 1 ≤ maxHeight) :
    ∃ cert, check (fnCode sinks) cert = true := ⟨_, mv_fn_cert_accepted_despite_leak sinks hn⟩

/-- `_, v := g` -/
def exBlankFirst : List Name := [⟨true, .glob⟩, ⟨false, .glob⟩]

example : implSinks true false exBlankFirst = [.store .glob, .store .glob] := rfl

example : blankSinks true false exBlankFirst = [.store .glob, .pop] := rfl

example : skipLeadingSinks true false exBlankFirst = [.store .glob, .skip] := rfl

example : leak (skipLeadingSinks true false exBlankFirst) = 1 := by decide +kernel

/-- `v, _ := g` is compiled correctly by the forbidden shape too: only LEADING blanks leak -/
example : leak (skipLeadingSinks true false [⟨false, .glob⟩, ⟨true, .glob⟩]) = 0 := by decide +kernel

example : ∀ cert, check (loopCode (skipLeadingSinks true false exBlankFirst)) cert = false :=
  skipLeading_loop_rejected true false exBlankFirst (by decide +kernel)

example : ∃ cert, check (fnCode (skipLeadingSinks true false exBlankFirst)) cert = true :=
  mv_fn_accepted_despite_leak _ (by decide +kernel)

example : ∃ cert, check (loopCode (implSinks true false exBlankFirst)) cert = true :=
  compileMultiVar_loop_balanced true false exBlankFirst (by decide +kernel)

end Risor.C04.MV
