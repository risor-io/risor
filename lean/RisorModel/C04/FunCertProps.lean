import RisorModel.C04.FunCertLemmas
import RisorModel.C01.FunProps
/-!
C04 on C01's FUNCTION fragment F4 — property theorems.

`compile_balanced` (DESIGN.md C04), statically, for all programs of the function fragment at
once.  `Fun.compFun p` compiles a program of the fragment's shape (`inFunShape`: everything of
F1–F3 in the main code AND in function bodies, named function declarations and function literals
bound by `:=`, parameters and locals through `LoadFast` / `StoreFast`, calls in every expression
position, `return e` / bare `return` anywhere a statement may stand, the implicit return of
`normalizeFunctionBlock`) into SEVERAL code objects.  EVERY one of them is accepted by the
verified checker `check`, with a certificate computed from the syntax tree alone (`FunC.hts`,
`FunC.htsFn`):

  * a call is atomic in the caller's frame: it pops the callee and its `n` arguments and pushes
    one result (C04's `Ins.kind` of `Call n`; C01's `call_returns_one` proves that of the machine);
  * a function body starts at height 0 whatever the caller has on its stack, and the
    certificate of a function marks the end-of-code position unreachable: every path through a
    body ends in `ReturnValue`;
  * `return` under pending operands — inside an operand position of an expression statement,
    inside a loop, inside a `switch` whose subject is still on the stack — is accepted:
    `check`'s condition at `ReturnValue` is exactly "at least one value" (`return_condition`);
    the operands below the result have no successor state to be inconsistent with, because
    `ReturnValue` has no successor in its code object (the frame is left; `resumeFrame` resets
    `sp`).  So the statement is TRUE as posed for every construct of F4; no construct had to be
    excluded beyond C01's own fragment conditions (`break` / `continue` not under pending
    operands, as in F1–F3).

Combined with `check_sound`: in every execution of every code object, of any length, the
operand-stack height at an offset is the one the syntax tree names — no loop in the main code
or in any function body can grow the stack, for any iteration count (`fun_loop_height_constant`).

The one hypothesis besides the shape is `fitsFun p`: the operand NESTING of every code object
stays within the frame's height limit; `FunC.depthProg p ≤ maxHeight`, a bound by recursion on
the syntax, suffices (`fun_compile_balanced_of_depth`).

The objects of the theorems, `FunC.codes p`, are compared with the real compiler's bytecode on
every run: `compFun p` assembled = `compiler.Compile`, every code object (C01's link A), and
`eraseIdxF real = toC04 …` per code object together with acceptance of the syntax-tree
certificate by `check` on the REAL bytecode (`FunCertOracle.lean`, harness/c04fun.go).
`check_eraseIdxF` shows that the erased operands are irrelevant to `check`.
-/
namespace Risor.C04
open Risor.C01 Risor.C01.Fun

/-! ### the code objects -/

/-- `FunC.codes p` IS the list of all code objects of `compFun p`: the main code, then the code
    of every compiled function, each as a C04 code object -/
theorem fun_codes_eq (p : N) :
    FunC.codes p = FunC.toC04 true (compFun p).main :: (compFun p).funs.map (fun fc => FunC.toC04 false fc.code) := by
  simp only [FunC.codes, FunC.mainCode, compFun, List.map_map]
  rfl

theorem fun_shape_parts (p : N) (hin : inFunShape p = true) :
    wf p = true ∧ escapes p = false ∧ bodiesWF p = true ∧ ∃ s, p = .prog s := by
  cases p with
  | prog s =>
    simp only [inFunShape, Bool.and_eq_true] at hin
    have h := hin.1
    simp only [wf, Bool.and_eq_true, Bool.not_eq_true'] at h
    exact ⟨hin.1, by simpa [escapes] using h.1.2, hin.2, s, rfl⟩
  | _ => simp [inFunShape] at hin

theorem fitsFun_parts (p : N) (hfit : fitsFun p = true) :
    (FunC.hts 0 p).all (· ≤ maxHeight) = true ∧
      ∀ d, d ∈ funsOf p → (FunC.htsFn d.body).all (· ≤ maxHeight) = true := by
  simp only [fitsFun, Bool.and_eq_true] at hfit
  exact ⟨hfit.1, fun d hd => List.all_eq_true.mp hfit.2 d hd⟩

/-! ### the certificates computed from the syntax tree are accepted -/

/-- the main code object with the certificate `FunC.mainCert p` -/
theorem fun_main_cert_accepted (p : N) (hin : inFunShape p = true) (hfit : fitsFun p = true) :
    check (FunC.mainCode p) (FunC.mainCert p) = true := by
  obtain ⟨hw, hesc, _, s, hp⟩ := fun_shape_parts p hin
  let G := FunC.mainCtx p (fitsFun_parts p hfit).1
  have hC : FunC.mainCode p = G.C := rfl
  have hcert : FunC.mainCert p = G.cert := rfl
  have hcode : G.code = comp [] 0 0 p := rfl
  have hH : G.H = FunC.hts 0 p := rfl
  obtain ⟨i, c, t, e1, e2⟩ := FunC.head_comp (ls := []) p hw 0 0 0
  have hsize : G.code.length = size p := by rw [hcode, comp_length]
  have h0 : G.code[0]? = some (some i) := by rw [hcode, e1]; rfl
  have hH0 : G.H[0]? = some 0 := by rw [hH, e2]; rfl
  have hat : G.At 0 (comp [] 0 0 p) (FunC.hts 0 p) := ⟨Win.self _, Win.self _⟩
  have hex : FunC.exitD p = 1 := by subst hp; simp [FunC.exitD, isUnitNode]
  have hall := (FunC.ok_all (ls := []) G p).1 hw 0 0 0 0 hat
    (.inr ⟨by rw [hsize]; omega, by rw [hex]; rfl⟩) (by intro h; rw [hesc] at h; cases h)
  rw [hC, hcert]
  refine Ctx.check_of_okwin i h0 hH0 ?_ (.inr ⟨rfl, rfl⟩)
  rw [hsize]
  exact hall

/-- the code object of a declared function with the certificate `FunC.fnCert d` -/
theorem fun_fn_cert_accepted (p : N) (hin : inFunShape p = true) (hfit : fitsFun p = true)
    (d : FDecl) (hd : d ∈ funsOf p) : check (FunC.fnCode d) (FunC.fnCert d) = true := by
  obtain ⟨_, _, hb, _⟩ := fun_shape_parts p hin
  have hwb : wfBody d.body = true := by
    unfold bodiesWF at hb
    exact List.all_eq_true.mp hb d hd
  simp only [wfBody, Bool.and_eq_true, Bool.not_eq_true'] at hwb
  obtain ⟨⟨hl, hx⟩, hw⟩ := hwb
  let G := FunC.fnCtx d ((fitsFun_parts p hfit).2 d hd)
  have hC : FunC.fnCode d = G.C := rfl
  have hcert : FunC.fnCert d = G.cert := rfl
  have hcode : G.code = compFnStmts d.ls d.body := rfl
  have hH : G.H = FunC.htsFn d.body := rfl
  obtain ⟨i, c, t, e1, e2⟩ := FunC.head_fnStmts d.ls d.body hl hw
  have h0 : G.code[0]? = some (some i) := by rw [hcode, e1]; rfl
  have hH0 : G.H[0]? = some 0 := by rw [hH, e2]; rfl
  have hat : G.At 0 (compFnStmts d.ls d.body) (FunC.htsFn d.body) := ⟨Win.self _, Win.self _⟩
  rw [hC, hcert]
  exact Ctx.check_of_okwin i h0 hH0 (FunC.ok_fnStmts G d.ls d.body hl hw hx 0 hat) (.inl rfl)

/-- every code object, paired with its syntax-tree certificate, is accepted -/
theorem fun_certs_accepted (p : N) (hin : inFunShape p = true) (hfit : fitsFun p = true) :
    ∀ x, x ∈ (FunC.codes p).zip (FunC.certs p) → check x.1 x.2 = true := by
  intro x hx
  simp only [FunC.codes, FunC.certs, List.zip_cons_cons, List.mem_cons] at hx
  rcases hx with hx | hx
  · subst hx; exact fun_main_cert_accepted p hin hfit
  · rw [List.zip_map, List.mem_map] at hx
    obtain ⟨⟨d1, d2⟩, hmem, rfl⟩ := hx
    have hd : d1 = d2 ∧ d1 ∈ funsOf p := by
      have := List.of_mem_zip hmem
      have h2 : ∀ (l : List FDecl) (a b : FDecl), (a, b) ∈ l.zip l → a = b := by
        intro l
        induction l with
        | nil => intro a b h; cases h
        | cons y ys ih =>
          intro a b h
          simp only [List.zip_cons_cons, List.mem_cons, Prod.mk.injEq] at h
          rcases h with ⟨h1, h2⟩ | h
          · rw [h1, h2]
          · exact ih a b h
      exact ⟨h2 _ _ _ hmem, this.1⟩
    obtain ⟨rfl, hd⟩ := hd
    exact fun_fn_cert_accepted p hin hfit d1 hd

/-- **`compile_balanced` for the function fragment**: for every program of the shape of C01's
    function fragment F4 whose operand nesting fits the frame, EVERY code object the functional
    compiler produces — the main code and the body of every declared function — is accepted by
    the verified checker. -/
theorem fun_compile_balanced (p : N) (hin : inFunShape p = true) (hfit : fitsFun p = true) :
    ∀ c, c ∈ FunC.codes p → ∃ cert, check c cert = true := by
  intro c hc
  simp only [FunC.codes, List.mem_cons, List.mem_map] at hc
  rcases hc with hc | ⟨d, hd, hc⟩
  · subst hc; exact ⟨_, fun_main_cert_accepted p hin hfit⟩
  · subst hc; exact ⟨_, fun_fn_cert_accepted p hin hfit d hd⟩

/-- the same, spelled on `compFun p` itself: its main code and the code of each of its compiled
    functions -/
theorem fun_compile_balanced_compFun (p : N) (hin : inFunShape p = true) (hfit : fitsFun p = true) :
    (∃ cert, check (FunC.toC04 true (compFun p).main) cert = true) ∧
    ∀ fc, fc ∈ (compFun p).funs → ∃ cert, check (FunC.toC04 false fc.code) cert = true := by
  have h := fun_compile_balanced p hin hfit
  rw [fun_codes_eq] at h
  refine ⟨h _ (List.mem_cons_self ..), ?_⟩
  intro fc hfc
  exact h _ (List.mem_cons_of_mem _ (List.mem_map.mpr ⟨fc, hfc, rfl⟩))

/-- on the programs of the fragment proper (`inFun`: the shape plus the scoping conditions under
    which `compFun` IS `compiler.go`, checked on every run) -/
theorem fun_compile_balanced_inFun (p : N) (hin : inFun p = true) (hfit : fitsFun p = true) :
    ∀ c, c ∈ FunC.codes p → ∃ cert, check c cert = true :=
  fun_compile_balanced p (inFun_shape p hin) hfit

/-- **The same with a purely syntactic guard**: `FunC.depthProg p`, the operand nesting depth of
    the main code and of every function body by recursion on the syntax (operators holding their
    left value, a `switch` holding its subject, a call holding its callee and earlier arguments),
    within the frame's limit.  The iteration count of loops and the recursion depth of calls
    play no role. -/
theorem fun_compile_balanced_of_depth (p : N) (hin : inFunShape p = true) (hd : FunC.depthProg p ≤ maxHeight) :
    ∀ c, c ∈ FunC.codes p → ∃ cert, check c cert = true :=
  fun_compile_balanced p hin (FunC.fitsFun_of_depth p hd)

/-! ### corollaries: every execution of every code object -/

/-- **No loop can grow the stack, in the main code or in any function body**: in every
    execution (any number of steps, any branch outcomes, any number of loop iterations) of ANY
    code object of ANY program of the function fragment, two visits of one offset — the head of
    a loop in a function body on its first and on its ten-millionth iteration — see the same
    operand-stack height. -/
theorem fun_loop_height_constant (p : N) (hin : inFunShape p = true) (hfit : fitsFun p = true)
    (c : Code) (hc : c ∈ FunC.codes p) (s t : St) (hs : Reach c s) (ht : Reach c t) (hpc : s.pc = t.pc) :
    s.h = t.h := by
  obtain ⟨cert, hcert⟩ := fun_compile_balanced p hin hfit c hc
  exact loop_height_constant c cert hcert s t hs ht hpc

/-- no instruction of any code object ever pops below its frame's base, control never lands on
    an operand slot, and the frame's height never exceeds `maxHeight` -/
theorem fun_no_underflow (p : N) (hin : inFunShape p = true) (hfit : fitsFun p = true)
    (c : Code) (hc : c ∈ FunC.codes p) (s : St) (hr : Reach c s) :
    s.h ≤ maxHeight ∧ (s.pc < c.size → ∃ i l, c.at s.pc = some i ∧ succs i s.pc s.h = some l) := by
  obtain ⟨cert, hcert⟩ := fun_compile_balanced p hin hfit c hc
  exact ⟨(check_sound c cert hcert s hr).2.2, no_underflow c cert hcert s hr⟩

/-- **Heights are those of the syntax tree** — main code -/
theorem fun_main_heights (p : N) (hin : inFunShape p = true) (hfit : fitsFun p = true) (s : St)
    (hr : Reach (FunC.mainCode p) s) :
    s.pc ≤ (FunC.mainCode p).size ∧ (FunC.mainCert p)[s.pc]? = some (some s.h) ∧ s.h ≤ maxHeight :=
  check_sound _ _ (fun_main_cert_accepted p hin hfit) s hr

/-- **Heights are those of the syntax tree** — function bodies: whatever the caller's stack, the
    callee's own operand count at an offset is the one `FunC.htsFn` names -/
theorem fun_fn_heights (p : N) (hin : inFunShape p = true) (hfit : fitsFun p = true) (d : FDecl)
    (hd : d ∈ funsOf p) (s : St) (hr : Reach (FunC.fnCode d) s) :
    s.pc ≤ (FunC.fnCode d).size ∧ (FunC.fnCert d)[s.pc]? = some (some s.h) ∧ s.h ≤ maxHeight :=
  check_sound _ _ (fun_fn_cert_accepted p hin hfit d hd) s hr

/-- **A finished run of the main code leaves exactly its result** -/
theorem fun_finished_run_leaves_result (p : N) (hin : inFunShape p = true) (hfit : fitsFun p = true) (s : St)
    (hr : Reach (FunC.mainCode p) s) (hend : s.pc = (FunC.mainCode p).size) : s.h = 1 :=
  (finished_run_leaves_result _ _ (fun_main_cert_accepted p hin hfit) s hr hend).2

/-- a slot of a translated code object holds the translation of an instruction of the fragment -/
theorem toC04_at {m : Bool} {code : Fun.Code} {pc : Nat} {i : Ins} (h : (FunC.toC04 m code).at pc = some i) :
    ∃ j, i = FunC.insOf j := by
  simp only [FunC.toC04, Code.at, List.getElem?_toArray, List.getElem?_map] at h
  cases hc : code[pc]? with
  | none => simp [hc] at h
  | some s =>
    cases s with
    | none => simp [hc] at h
    | some j => simp [hc] at h; exact ⟨j, h.symm⟩

/-- an instruction without successor is a `ReturnValue` (the fragment's code has no `Halt`) -/
theorem no_succ_is_ret (j : FIns) (pc h : Nat) (hs : succs (FunC.insOf j) pc h = some []) :
    (FunC.insOf j).kind = .ret := by
  cases j <;> simp [succs, FunC.insOf, Ins.kind] at hs ⊢ <;> (try split at hs) <;> simp_all

/-- **A function body returns exactly through `ReturnValue`, with its result on the stack**: in
    every execution of the code object of any declared function, control never falls off the end
    of the code; at every reachable state there is an instruction with enough operands; a state
    without successor (the activation ends there) is a `ReturnValue`, and every `ReturnValue`
    is executed with at least one value — the result the caller receives (`Call` pushes exactly
    that one; the rest of the frame is dropped). -/
theorem fun_body_returns_one (p : N) (hin : inFunShape p = true) (hfit : fitsFun p = true) (d : FDecl)
    (hd : d ∈ funsOf p) (s : St) (hr : Reach (FunC.fnCode d) s) :
    s.pc < (FunC.fnCode d).size ∧
    ∃ i l, (FunC.fnCode d).at s.pc = some i ∧ succs i s.pc s.h = some l ∧
      (l = [] → i.kind = .ret) ∧ (i.kind = .ret → 1 ≤ s.h) := by
  have hc := fun_fn_cert_accepted p hin hfit d hd
  have hle := (check_sound _ _ hc s hr).1
  have hlt : s.pc < (FunC.fnCode d).size := by
    rcases Nat.lt_or_ge s.pc (FunC.fnCode d).size with h | h
    · exact h
    · have := (finished_run_leaves_result _ _ hc s hr (by omega)).1
      cases this
  obtain ⟨i, l, hi, hl⟩ := no_underflow _ _ hc s hr hlt
  refine ⟨hlt, i, l, hi, hl, ?_, fun hk => return_has_value _ _ hc s hr i hi hk⟩
  intro hnil
  obtain ⟨j, rfl⟩ := toC04_at hi
  rw [hnil] at hl
  exact no_succ_is_ret j _ _ hl

/-- **`check`'s condition at `ReturnValue`, precisely**: the instruction passes at height `h`
    iff `h ≥ 1`, and then it has NO successor whose height would have to match — so a `return`
    with `h - 1` operands pending below its value (an operand position, a loop, a `switch`
    subject) is accepted for every `h ≥ 1`, while a `ReturnValue` on an empty frame is refused. -/
theorem return_condition (pc h : Nat) :
    succs ⟨.returnValue, 0, 0⟩ pc h = (if 1 ≤ h then some [] else none) := rfl

/-! ### the operands `toC04` drops are irrelevant to the checker -/

theorem eraseInsF_kind (i : Ins) : (eraseInsF i).kind = i.kind ∧ (eraseInsF i).size = i.size := by
  obtain ⟨op, a, b⟩ := i
  cases op <;> exact ⟨rfl, rfl⟩

/-- erasing the pool / table / slot indices of `LOAD_CONST`, `LOAD_GLOBAL`, `STORE_GLOBAL`,
    `LOAD_FAST`, `STORE_FAST` from a code object does not change what `check` accepts -/
theorem check_eraseIdxF (c : Code) (cert : Cert) : check (eraseIdxF c) cert = check c cert :=
  check_mapIns eraseInsF eraseInsF_kind c cert

/-- `FunC.toC04` produces erased code -/
theorem eraseIdxF_toC04 (m : Bool) (code : Fun.Code) : eraseIdxF (FunC.toC04 m code) = FunC.toC04 m code := by
  simp only [eraseIdxF, FunC.toC04, List.map_toArray, List.map_map]
  congr 2
  apply List.map_congr_left
  intro s _
  cases s with
  | none => rfl
  | some i => cases i <;> rfl

/-! ### the guard `fitsFun` cannot be dropped -/

/-- **The nesting guard is necessary**: without `fitsFun`, `compile_balanced` is false on the
    function fragment too — for the program `1 + (1 + (… + 1))` with 1024 additions NO
    certificate is accepted for its main code object, because an execution reaches height
    1025 > `maxHeight` (all operands pending at once; no loop and no call is involved). -/
theorem fun_compile_balanced_needs_fits :
    ¬ ∀ p, inFunShape p = true → ∀ c, c ∈ FunC.codes p → ∃ cert, check c cert = true := by
  intro h
  obtain ⟨cert, hc⟩ := h (deepProg 1024) (FunC.deepProg_inFunShape _) (FunC.mainCode (deepProg 1024))
    (List.mem_cons_self ..)
  have hcode : (compFun (deepProg 1024)).main = comp [] 0 0 (deep 1024) := by
    simp [compFun, deepProg, comp, pre, Frag.postName, Frag.isNilL, leaves, FunC.deep_not_func]
  have hw : Win (compFun (deepProg 1024)).main 0 (comp [] 0 0 (deep 1024)) := by
    rw [hcode]; exact Win.self _
  have r := FunC.deep_reach (ls := []) true _ 1024 0 0 hw .init
  have := (check_sound _ _ hc _ r).2.2
  simp only [maxHeight] at this
  omega

/-! ### non-vacuity: concrete programs of the function fragment (C01's examples): recursion, a
    loop with an early return, a `return` under a pending `switch` subject and a pending operand,
    mutual recursion; the hypotheses hold, so the conclusions do -/

example : inFunShape exFact = true ∧ fitsFun exFact = true := by decide +kernel
example : inFunShape exFib = true ∧ fitsFun exFib = true := by decide +kernel
example : inFunShape exLoopRet = true ∧ fitsFun exLoopRet = true ∧ FunC.depthProg exLoopRet ≤ 20 := by decide +kernel
example : inFunShape exRetUnder = true ∧ fitsFun exRetUnder = true := by decide +kernel
example : inFunShape exMutual = true ∧ fitsFun exMutual = true := by decide +kernel

/-- the theorem's conclusion as a Boolean: every code object with its syntax-tree certificate -/
def allAccepted (p : N) : Bool := ((FunC.codes p).zip (FunC.certs p)).all fun x => check x.1 x.2

theorem allAccepted_of_fits (p : N) (hin : inFunShape p = true) (hfit : fitsFun p = true) : allAccepted p = true :=
  List.all_eq_true.mpr (fun_certs_accepted p hin hfit)

-- recursion (`fact`: main + 1 function), two recursive calls with implicit return (`fib`)
example : (FunC.codes exFact).length = 2 ∧ allAccepted exFact = true :=
  ⟨by decide +kernel, allAccepted_of_fits exFact (by decide +kernel) (by decide +kernel)⟩
set_option maxRecDepth 8000 in
example : allAccepted exFib = true := allAccepted_of_fits exFib (by decide +kernel) (by decide +kernel)
-- a loop with an early return, locals, a default argument
set_option maxRecDepth 8000 in
example : allAccepted exLoopRet = true := allAccepted_of_fits exLoopRet (by decide +kernel) (by decide +kernel)
-- `return` under a pending switch subject and a pending left operand
example : allAccepted exRetUnder = true := allAccepted_of_fits exRetUnder (by decide +kernel) (by decide +kernel)
-- mutual recursion: main + 2 functions
set_option maxRecDepth 8000 in
example : (FunC.codes exMutual).length = 3 ∧ allAccepted exMutual = true :=
  ⟨by decide +kernel, allAccepted_of_fits exMutual (by decide +kernel) (by decide +kernel)⟩

/-- `func f(a) { 1 + switch a { case 1: return 10  default: 2 } }`: the `ReturnValue` of
    `return 10` (offset 16 of the function's code) is certified at height 3 — the constant `1`
    and the switch subject are still below the result —, the implicit return at the end (offset
    27) at height 1; the end-of-code position is unreachable -/
example : ((funsOf exRetUnder).map fun d => ((FunC.fnCode d).at 16, (FunC.fnCode d).at 27, (FunC.fnCode d).size))
      = [(some ⟨.returnValue, 0, 0⟩, some ⟨.returnValue, 0, 0⟩, 28)] ∧
    (funsOf exRetUnder).map (fun d => ((FunC.fnCert d)[16]?, (FunC.fnCert d)[27]?, (FunC.fnCert d)[28]?))
      = [(some (some 3), some (some 1), some none)] := by decide +kernel

set_option maxRecDepth 8000 in
/-- the body of `first` (`exLoopRet`: a loop with an early `return i`) never holds more than two
    operands, for any number of iterations -/
example : (funsOf exLoopRet).map (fun d => (FunC.htsFn d.body).foldl max 0) = [2] := by decide +kernel

example : ∀ c, c ∈ FunC.codes exLoopRet → ∃ cert, check c cert = true :=
  fun_compile_balanced exLoopRet (by decide +kernel) (by decide +kernel)

/-- the entry state of a function body is reachable, so the execution theorems are not vacuous -/
example : ∀ d, d ∈ funsOf exFact → (FunC.fnCert d)[0]? = some (some 0) :=
  fun d hd => (fun_fn_heights exFact (by decide +kernel) (by decide +kernel) d hd ⟨0, 0⟩ .init).2.1

/-- outside the fragment the syntax-tree certificate is refused as it should be: a `break` under
    a pending operand inside a function body (`func f() { for { x := 1 + if true { break } } }`,
    C04's known finding `C04-ctl-under-operands`) -/
def exBreakUnder : N :=
  .prog (.cons (.expr (.func "f" .nilL (.block (.cons (.forever (.block (.cons
    (.var "x" (.infix .add (.int 1) (.if_ (.bool true) (.block (.cons .break_ .nilL)) .none_))) .nilL))) .nilL)))) .nilL)

example : inFunShape exBreakUnder = false ∧ allAccepted exBreakUnder = false := by decide +kernel

end Risor.C04
