import RisorModel.C04.Model
import RisorModel.Generated.C04
import RisorModel.C04.Host
import RisorModel.Generated.C04Host
/-!
C04 ties: facts regenerated from op/op.go and vm/vm.go on this run against the reviewed
tables the model was written from.  `specOpTable`/`specVmShapes` were frozen from the tree
at the pinned commit and read side by side with `Ins.kind`; a source edit that changes an
opcode's operand count or the pop/push/fetch structure of an arm of `eval` breaks exactly
one of the lemmas below.
-/
namespace Risor.C04

def specOpTable : List (String × Nat) := [
  ("BINARY_OP", 1),
  ("BINARY_SUBSCR", 0),
  ("BUILD_LIST", 1),
  ("BUILD_MAP", 1),
  ("BUILD_SET", 1),
  ("BUILD_STRING", 1),
  ("CALL", 1),
  ("COMPARE_OP", 1),
  ("CONTAINS_OP", 1),
  ("COPY", 1),
  ("DEFER", 0),
  ("FALSE", 0),
  ("FOR_ITER", 2),
  ("FROM_IMPORT", 2),
  ("GET_ITER", 0),
  ("GO", 0),
  ("HALT", 0),
  ("IMPORT", 0),
  ("JUMP_BACKWARD", 1),
  ("JUMP_FORWARD", 1),
  ("LENGTH", 0),
  ("LOAD_ATTR", 1),
  ("LOAD_CLOSURE", 2),
  ("LOAD_CONST", 1),
  ("LOAD_FAST", 1),
  ("LOAD_FREE", 1),
  ("LOAD_GLOBAL", 1),
  ("MAKE_CELL", 2),
  ("NIL", 0),
  ("NOP", 0),
  ("PARTIAL", 1),
  ("POP_JUMP_FORWARD_IF_FALSE", 1),
  ("POP_JUMP_FORWARD_IF_TRUE", 1),
  ("POP_TOP", 0),
  ("RANGE", 0),
  ("RECEIVE", 0),
  ("RETURN_VALUE", 0),
  ("SEND", 0),
  ("SLICE", 0),
  ("STORE_ATTR", 1),
  ("STORE_FAST", 1),
  ("STORE_FREE", 1),
  ("STORE_GLOBAL", 1),
  ("STORE_SUBSCR", 0),
  ("SWAP", 1),
  ("TRUE", 0),
  ("UNARY_NEGATIVE", 0),
  ("UNARY_NOT", 0),
  ("UNPACK", 1)
]

def specVmShapes : List (String × String) := [
  ("BINARY_OP", "fetch pop pop push"),
  ("BINARY_SUBSCR", "pop pop push"),
  ("BUILD_LIST", "fetch loop[i := uint16(0); i < count]{pop} push"),
  ("BUILD_MAP", "fetch loop[i := uint16(0); i < count]{pop pop} push"),
  ("BUILD_SET", "fetch loop[i := uint16(0); i < count]{pop} push"),
  ("BUILD_STRING", "fetch loop[i := uint16(0); i < count]{pop} push"),
  ("CALL", "fetch loop[argIndex := argc - 1; argIndex >= 0]{pop} pop callObject"),
  ("COMPARE_OP", "fetch pop pop push"),
  ("CONTAINS_OP", "pop pop fetch push"),
  ("COPY", "fetch push"),
  ("DEFER", "pop"),
  ("FALSE", "push"),
  ("FOR_ITER", "fetch fetch pop alt{ | push alt{push | alt{push push | alt{push | }}}}"),
  ("FROM_IMPORT", "fetch fetch loop[i := uint16(0); i < importsCount]{pop} loop[i := int(parentLen - 1); i >= 0]{pop} loop[range names]{importModule alt{push | importModule push}}"),
  ("GET_ITER", "pop push"),
  ("GO", "pop"),
  ("HALT", "ret"),
  ("IMPORT", "pop importModule push"),
  ("JUMP_BACKWARD", "fetch"),
  ("JUMP_FORWARD", "fetch"),
  ("LENGTH", "pop push"),
  ("LOAD_ATTR", "pop fetch push"),
  ("LOAD_CLOSURE", "fetch fetch loop[i := uint16(0); i < freeCount]{pop} push"),
  ("LOAD_CONST", "fetch push"),
  ("LOAD_FAST", "fetch push"),
  ("LOAD_FREE", "fetch push"),
  ("LOAD_GLOBAL", "fetch push"),
  ("MAKE_CELL", "fetch fetch push"),
  ("NIL", "push"),
  ("NOP", ""),
  ("PARTIAL", "fetch loop[i := argc - 1; i >= 0]{pop} pop push"),
  ("POP_JUMP_FORWARD_IF_FALSE", "pop fetch"),
  ("POP_JUMP_FORWARD_IF_TRUE", "pop fetch"),
  ("POP_TOP", "pop"),
  ("RANGE", "pop push"),
  ("RECEIVE", "pop push"),
  ("RETURN_VALUE", "resumeFrame alt{ret | }"),
  ("SEND", "pop pop"),
  ("SLICE", "pop pop pop push"),
  ("STORE_ATTR", "fetch pop pop"),
  ("STORE_FAST", "fetch pop"),
  ("STORE_FREE", "fetch pop"),
  ("STORE_GLOBAL", "fetch pop"),
  ("STORE_SUBSCR", "pop pop pop"),
  ("SWAP", "fetch swap"),
  ("TRUE", "push"),
  ("UNARY_NEGATIVE", "pop push"),
  ("UNARY_NOT", "pop push"),
  ("UNPACK", "pop fetch loop[]{alt{break | } push}")
]

/-- the opcode table of op/op.go is the reviewed one -/
theorem opTable_matches : Risor.Generated.C04.opTable = specOpTable := rfl

/-- every registered opcode is known to the model with the same operand count -/
theorem opTable_modelled :
    specOpTable.all (fun (n, c) => (Op.ofName n).map Op.operands == some c) = true := by decide +kernel

/-- the stack traffic of every arm of `vm.eval` is the reviewed one -/
theorem vmShapes_match : Risor.Generated.C04.vmShapes = specVmShapes := rfl

/-- every opcode registered in op/op.go is handled by `eval` -/
theorem every_op_has_an_arm : specVmShapes.map (·.1) = specOpTable.map (·.1) := rfl

/-- opcodes whose effect is not a fixed (pops, pushes), or whose control effect is not
    fall-through: reviewed by hand against `Ins.kind` (their shapes are pinned by
    `vmShapes_match`) -/
def special : List String :=
  ["COPY", "SWAP", "HALT", "JUMP_BACKWARD", "JUMP_FORWARD", "POP_JUMP_FORWARD_IF_FALSE", "POP_JUMP_FORWARD_IF_TRUE"]

/-- for every straight-line arm of `eval` the model's `kind` is exactly `fall pops pushes`
    with the numbers counted from the source on this run, and for every arm the operand
    count equals the number of `vm.fetch()` calls -/
theorem straight_line_effects_agree :
    Risor.Generated.C04.vmEffects.all (fun (n, eff, f) =>
      match Op.ofName n with
      | none => false
      | some o =>
        o.operands == f &&
        (special.contains n ||
          match eff with
          | some (p, q) => decide (Ins.kind ⟨o, 0, 0⟩ = .fall p q)
          | none => true)) = true := by decide +kernel

/-- which arms are not straight-line is itself pinned -/
theorem irregular_arms :
    (Risor.Generated.C04.vmEffects.filter (fun (_, eff, _) => eff.isNone)).map (·.1) =
      ["BUILD_LIST", "BUILD_MAP", "BUILD_SET", "BUILD_STRING", "CALL", "FOR_ITER", "FROM_IMPORT", "HALT",
       "IMPORT", "LOAD_CLOSURE", "PARTIAL", "RETURN_VALUE", "SWAP", "UNPACK"] := rfl

/-! ### host entry points (Host.lean): the facts of vm/vm.go the entry-point machine assumes,
regenerated by extract/c04host.go on this run -/

/-- vm.sp is written in exactly four places: resetForNewCode (`= -1`), pop, push and resumeFrame;
    in particular neither start, stop nor activateCode restores it -/
theorem host_spWrites_match : Risor.Generated.C04Host.spWrites = Host.reviewedSpWrites := rfl

/-- runCodeInternal calls resetForNewCode under the single guard `resetState && vm.startCount > 1`,
    with the bare call as the guard's body: on every start after the first, unconditionally -/
theorem host_resetGuards_match :
    Risor.Generated.C04Host.resetGuards = Host.reviewedResetGuards ∧ Risor.Generated.C04Host.resetUnguarded = 0 :=
  ⟨rfl, rfl⟩

/-- the Run path drops what the previous run left before it activates the main code -/
theorem host_runDrops_match : Risor.Generated.C04Host.runLoops.contains Host.reviewedDropLoop = true := by decide +kernel

/-- Run enters runCodeInternal without, RunCode with resetState; Call enters callFunction between
    start and stop; runCodeInternal activates frame 0 and evaluates -/
theorem host_entryCalls_match : Risor.Generated.C04Host.entryCalls = Host.reviewedEntryCalls := rfl

/-- callFunction saves sp once, restores it in its deferred function (resumeFrame, then the pop
    loop down to baseSP on EVERY exit — since the repair of C04-call-panic-leaks-slot no longer
    under `if resultErr != nil`) and pops the result it returns; resumeFrame as reviewed -/
theorem host_call_match :
    Risor.Generated.C04Host.callSaves = Host.reviewedCallSaves ∧
    Risor.Generated.C04Host.callRestore = Host.reviewedCallRestore ∧
    Risor.Generated.C04Host.callReturns = Host.reviewedCallReturns ∧
    Risor.Generated.C04Host.resumeFrameBody = Host.reviewedResumeFrame := ⟨rfl, rfl, rfl, rfl⟩

/-- the constants of the entry-point machine ARE what the regenerated facts say: reset
    unconditional, sp reset to -1, Run drops, Call cleans up on every exit -/
theorem implCfg_tie :
    Host.cfgOfFacts Risor.Generated.C04Host.resetGuards Risor.Generated.C04Host.resetUnguarded
      Risor.Generated.C04Host.resetSp Risor.Generated.C04Host.runLoops
      Risor.Generated.C04Host.callRestore = Host.implCfg := by decide +kernel

/-- HISTORICAL: read with the deferred function as it was before the repair, the same facts give the
    pre-fix machine (the one `C04_fixed_call_panic_leaked_slot` is about) -/
theorem preFixCallCfg_tie :
    Host.cfgOfFacts Risor.Generated.C04Host.resetGuards Risor.Generated.C04Host.resetUnguarded
      Risor.Generated.C04Host.resetSp Risor.Generated.C04Host.runLoops Host.preFixCallRestore = Host.preFixCallCfg := by decide +kernel


end Risor.C04
