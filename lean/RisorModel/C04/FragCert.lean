import RisorModel.C04.Model
import RisorModel.C01.Frag
/-
C04 on the proved fragment of C01 — definitions.

`toC04` turns the code the functional compiler `Frag.comp` produces (slots `some ins` /
`none`, relative jumps, constants inline, globals by name) into C04's `Code`, slot for slot.
The only information it drops is which constant / which global an instruction refers to
(operand 0 instead of the pool index): `Ins.kind`, hence `check`, never reads the operand of
`LOAD_CONST`, `LOAD_GLOBAL`, `STORE_GLOBAL`.  `eraseIdx` drops the same operands from a
decoded REAL code object, so that "the real bytecode is `toC04 (compF p)`" is a literal
equality the oracle evaluates on every run (`FragCertOracle.lean`), and
`FragCertProps.check_eraseIdx` proves that erasing does not change what `check` accepts.

`hts h n` is the operand-stack height before every SLOT of `comp kb kc n` (independent of
`kb`, `kc`) when the node starts at height `h`; it mirrors `comp` piece by piece.  An
expression ends at `h + 1`, a unit statement at `h`; `break` / `continue` jump with the height
the enclosing loop started with.  `mkCert` masks the operand slots (`none`) and adds the
end-of-code entry; `fragCert` is `mkCert` on the program's code and heights, ending with exactly
one value.
Core Lean only.
-/
namespace Risor.C04
open Risor.C01 Risor.C01.Frag

/-- one fragment instruction as a C04 instruction (pool / table indices erased) -/
def insOf : FIns → Ins
  | .nop => ⟨.nop, 0, 0⟩
  | .nil_ => ⟨.nil_, 0, 0⟩
  | .true_ => ⟨.true_, 0, 0⟩
  | .false_ => ⟨.false_, 0, 0⟩
  | .popTop => ⟨.popTop, 0, 0⟩
  | .unaryNeg => ⟨.unaryNegative, 0, 0⟩
  | .unaryNot => ⟨.unaryNot, 0, 0⟩
  | .constInt _ => ⟨.loadConst, 0, 0⟩
  | .constStr _ => ⟨.loadConst, 0, 0⟩
  | .loadG _ => ⟨.loadGlobal, 0, 0⟩
  | .storeG _ => ⟨.storeGlobal, 0, 0⟩
  | .binary k => ⟨.binaryOp, k, 0⟩
  | .compare k => ⟨.compareOp, k, 0⟩
  | .copy k => ⟨.copy, k, 0⟩
  | .swap k => ⟨.swap, k, 0⟩
  | .jf d => ⟨.jumpForward, d, 0⟩
  | .jb d => ⟨.jumpBackward, d, 0⟩
  | .pjf d => ⟨.popJumpForwardIfFalse, d, 0⟩
  | .pjt d => ⟨.popJumpForwardIfTrue, d, 0⟩

/-- the fragment's code as a C04 code object (the main code object of a program) -/
def toC04 (code : Frag.Code) : Code :=
  { slots := (code.map (Option.map insOf)).toArray, isMain := true }

/-- operands `check` never reads: the pool index of `LOAD_CONST`, the table index of
    `LOAD_GLOBAL` / `STORE_GLOBAL` -/
def eraseIns (i : Ins) : Ins :=
  match i.op with
  | .loadConst | .loadGlobal | .storeGlobal => { i with a := 0 }
  | _ => i

def eraseIdx (c : Code) : Code := { c with slots := c.slots.map (Option.map eraseIns) }

/-! ### heights -/

/-- height of a one-slot instruction -/
def r1 (h : Nat) : List Nat := [h]
/-- height of an instruction with one operand (the operand slot repeats it; it is masked) -/
def r2 (h : Nat) : List Nat := [h, h]

/-- `x++` in a statement list: `LoadGlobal x; PopTop` first (`Frag.pre`) -/
def preH (h : Nat) (n : N) : List Nat :=
  match postName n with
  | some _ => r2 h ++ r1 (h + 1)
  | none => []

/-- what a node leaves on the stack when control falls out of its end: a unit statement
    nothing, everything else one value -/
def exitD (n : N) : Nat := if isUnitNode n then 0 else 1

mutual
/-- heights before every slot of `comp kb kc n` for a node entered at height `h` -/
def hts (h : Nat) : N → List Nat
  | .nilLit | .none_ | .nilL | .bool _ => r1 h
  | .int _ | .str _ | .id _ | .break_ | .continue_ => r2 h
  | .infix op l r =>
    if op = .and then
      hts h l ++ r2 (h + 1) ++ r2 (h + 2) ++ hts (h + 1) r ++ r2 (h + 2) ++ r1 (h + 1)
    else if op = .or then
      hts h l ++ r2 (h + 1) ++ r2 (h + 2) ++ hts (h + 1) r ++ r2 (h + 2) ++ r1 (h + 1)
    else hts h l ++ hts (h + 1) r ++ r2 (h + 2)
  | .neg e | .not e => hts h e ++ r1 (h + 1)
  | .tern c a b | .if_ c a b => hts h c ++ r2 (h + 1) ++ hts h a ++ r2 (h + 1) ++ hts h b
  | .block s | .prog s | .expr s => hts h s
  | .cons hd t =>
    preH h hd ++
      (if isNilL t then hts h hd ++ (if leaves hd then [] else r1 h)
       else hts h hd ++ ((if leaves hd then r1 (h + 1) else []) ++ hts h t))
  | .var _ e => hts h e ++ r2 (h + 1)
  | .assign _ op e =>
    if op = .set then hts h e ++ r2 (h + 1)
    else r2 h ++ hts (h + 1) e ++ r2 (h + 2) ++ r2 (h + 1)
  | .postfix _ _ => r2 h ++ r2 (h + 1) ++ r2 (h + 2) ++ r2 (h + 1)
  | .forcond c b => hts h c ++ r2 (h + 1) ++ hts h b ++ r1 (h + 1) ++ r2 h ++ r1 h
  | .forever b => hts h b ++ r1 (h + 1) ++ r2 h ++ r1 h
  | .for3 i c p b =>
    hts h i ++ hts h c ++ r2 (h + 1) ++ hts h b ++ r1 (h + 1)
      ++ hts h p ++ (if leaves p then r1 (h + 1) else []) ++ r2 h
  | .switch subj cases =>
    -- the subject stays below everything until `Swap 1; PopTop` drops it
    hts h subj ++ htsCmp (h + 1) cases ++ r2 (h + 1) ++ htsBodies (h + 1) cases
      ++ htsDflt (h + 1) cases ++ r2 (h + 2) ++ r1 (h + 2)
  | _ => []
/-- `Copy 0; v; CompareOp ==; PopJumpForwardIfTrue` at subject height `s` -/
def htsVals (s : Nat) : N → List Nat
  | .cons v vs => r2 s ++ hts (s + 1) v ++ r2 (s + 2) ++ r2 (s + 1) ++ htsVals s vs
  | _ => []
def htsCmpCase (s : Nat) : N → List Nat
  | .case_ vals _ => htsVals s vals
  | _ => []
def htsCmp (s : Nat) : N → List Nat
  | .cons hd t => htsCmpCase s hd ++ htsCmp s t
  | _ => []
def htsBody (s : Nat) : N → List Nat
  | .case_ _ body => hts s body ++ r2 (s + 1)
  | _ => []
def htsBodies (s : Nat) : N → List Nat
  | .cons hd t => htsBody s hd ++ htsBodies s t
  | _ => []
def htsDfltBody (s : Nat) : N → List Nat
  | .default_ body => hts s body
  | _ => []
def htsDflt (s : Nat) : N → List Nat
  | .cons hd t => if isDefault hd then htsDfltBody s hd else htsDflt s t
  | _ => r1 s
end

/-- keep the heights of opcode slots only -/
def mask {α : Type} : List (Option α) → List Nat → List (Option Nat)
  | s :: c, x :: hs => (s.map fun _ => x) :: mask c hs
  | _, _ => []

/-- a certificate from the heights of every slot and the height at the end of the code -/
def mkCert {α : Type} (code : List (Option α)) (H : List Nat) (hend : Nat) : Cert :=
  (mask code H ++ [some hend]).toArray

/-- the certificate of a node's code when it is entered at height `h` (operand slots `none`) -/
def certOf (h : Nat) (n : N) : List (Option Nat) := mask (comp 0 0 n) (hts h n)

/-- the certificate of a whole program: entered with an empty operand stack, finished with
    exactly its result -/
def fragCert (p : N) : Cert := mkCert (compF p) (hts 0 p) 1

/-- the certificate `hts` gives for a program, laid over the slot structure of ANY code
    object (used on the real compiler's bytecode by the oracle) -/
def fragCertFor (c : Code) (p : N) : Cert := mkCert c.slots.toList (hts 0 p) 1

/-- the largest number of operands any slot of the program's code sees -/
def peak (p : N) : Nat := (hts 0 p).foldl max 0

/-- the guard of `frag_compile_balanced`: the program's operand nesting fits the frame's
    height limit (`maxHeight`; deeper NESTING of expressions overflows regardless of loops) -/
def fits (p : N) : Bool := (hts 0 p).all (· ≤ maxHeight)

/-- operand nesting depth, by recursion on the syntax: an upper bound of how far above its
    entry height the code of a node takes the operand stack (`hts_le_depth`).  A binary
    operator holds its left value while the right operand runs; a `switch` holds its subject;
    a list element is charged 2 for the values its neighbours may hold (`Copy`, comparison). -/
def depth : N → Nat
  | .infix _ l r => max (depth l) (max (depth r + 1) 2)
  | .neg e | .not e => max (depth e) 1
  | .tern c a b | .if_ c a b => max (depth c) (max 1 (max (depth a) (depth b)))
  | .block s | .prog s | .expr s => depth s
  | .cons h t => max (depth h + 2) (depth t)
  | .var _ e => max (depth e) 1
  | .assign _ _ e => max (depth e + 1) 2
  | .postfix _ _ => 2
  | .forcond c b => max (depth c) (max 1 (depth b))
  | .forever b => max 1 (depth b)
  | .for3 i c p b => max (depth i) (max (depth c) (max 1 (max (depth p) (depth b))))
  | .switch subj cases => max (depth subj) (max (depth cases + 1) 2)
  | .case_ vals body => max (depth vals) (depth body)
  | .default_ body => depth body
  | _ => 0

/-! ### the witness of `frag_compile_balanced_needs_fits` -/

/-- `1 + (1 + (… + 1))` with `k` additions -/
def deep : Nat → N
  | 0 => .int 1
  | k + 1 => .infix .add (.int 1) (deep k)

def deepProg (k : Nat) : N := .prog (.cons (.expr (deep k)) .nilL)

end Risor.C04
