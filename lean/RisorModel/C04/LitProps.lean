import RisorModel.C04.Lit
import RisorModel.C04.ObsProps
/-!
C04 — round 6 theorems.

Part 1: a list literal pushes exactly one value for EVERY number of items (257, 300, 65535 …)
whose code pushes one value each, under any number of pending operands; the operand of
BUILD_LIST is forced; a statement holding one is neutral for any number of executions.  The
forbidden chunked shape leaves one value per further chunk and execution.

Part 2: `l in r` / `l not in r` push exactly one value for every pair of operands that push one
value each — computed subjects and literal lists of constants included; the forbidden chain
that keeps the subject on the stack leaves TWO values on the path of an early hit.
-/
namespace Risor.C04.Lit
open Risor.C04
open Risor.C04.MV (runStraight)
open Risor.C04.Obs (PushesOne runStraight_append runStraight_snoc repeatRun repeatRun_const stmt_height)

/-! ### Part 1 -/

/-- the item loop of compileList pushes exactly one value per item, for every item list -/
theorem flat_height (items : List (List Ins)) (hok : ∀ c ∈ items, PushesOne c) :
    ∀ h, runStraight (flat items) h = some (h + items.length) := by
  induction items with
  | nil => intro h; simp [flat, runStraight]
  | cons c r ih =>
    intro h
    have h1 := hok c (by simp) h
    have h2 := ih (fun g hg => hok g (by simp [hg])) (h + 1)
    simp only [flat, runStraight_append, h1, Option.bind_some, h2, List.length_cons]
    congr 1; omega

/-- the item loop followed by `BUILD_LIST n`, for ANY operand `n` -/
theorem flat_buildList (items : List (List Ins)) (hok : ∀ c ∈ items, PushesOne c) (n h : Nat) :
    runStraight (flat items ++ [buildList n]) h =
      if n ≤ h + items.length then some (h + items.length - n + 1) else none := by
  exact runStraight_snoc (flat_height items hok h) rfl

/-- **A list literal pushes exactly one value**, for every number of items (no bound: 257, 300,
    65535 items alike) and under any number `h` of pending operands. -/
theorem compileList_pushes_one (items : List (List Ins)) (hok : ∀ c ∈ items, PushesOne c) :
    PushesOne (compileList items) := by
  intro h
  rw [compileList, flat_buildList items hok]
  simp

/-- **The operand of BUILD_LIST is forced**: the literal pushes exactly one value if and only
    if ONE BUILD_LIST collects all the items. -/
theorem buildList_operand_exact (items : List (List Ins)) (hok : ∀ c ∈ items, PushesOne c)
    (n h : Nat) (hn : n ≤ items.length) :
    runStraight (flat items ++ [buildList n]) h = some (h + 1) ↔ n = items.length := by
  rw [flat_buildList items hok]
  have : n ≤ h + items.length := by omega
  simp only [this, if_true, Option.some.injEq]
  omega

/-- **A statement holding a list literal is neutral for every number of executions.** -/
theorem list_stmt_neutral (items : List (List Ins)) (hok : ∀ c ∈ items, PushesOne c) (k h : Nat) :
    repeatRun (stmt (compileList items)) k h = some h :=
  (compileList_pushes_one items hok).stmt_neutral k h

/-- one further chunk of the forbidden shape: the list is on top before, and after it there is
    the stale copy with the result of `extend` on top of it -/
theorem extendChunk_leaks (items : List (List Ins)) (hok : ∀ c ∈ items, PushesOne c) (h : Nat) :
    runStraight (extendChunk items) (h + 1) = some (h + 2) := by
  have hf := flat_height items hok (h + 2)
  simp only [extendChunk, runStraight_append]
  have h0 : runStraight [(⟨.copy, 0, 0⟩ : Ins), ⟨.loadAttr, 0, 0⟩] (h + 1) = some (h + 2) := rfl
  rw [h0, Option.bind_some, runStraight_append, hf, Option.bind_some]
  simp [runStraight, buildList, Ins.kind]

theorem chunksCode_leaks (rest : List (List (List Ins)))
    (hok : ∀ ch ∈ rest, ∀ c ∈ ch, PushesOne c) :
    ∀ h, runStraight (chunksCode rest) (h + 1) = some (h + 1 + rest.length) := by
  induction rest with
  | nil => intro h; simp [chunksCode, runStraight]
  | cons ch r ih =>
    intro h
    have h1 := extendChunk_leaks ch (hok ch (by simp)) h
    have h2 := ih (fun g hg => hok g (by simp [hg])) (h + 1)
    simp only [chunksCode, runStraight_append, h1, Option.bind_some, List.length_cons]
    rw [h2]; congr 1; omega

/-- **The forbidden chunked shape leaks**: the literal takes the height from `h` to
    `h + 1 + (number of further chunks)` — the list on top and one stale reference per chunk. -/
theorem compileListChunked_leaks (first : List (List Ins)) (rest : List (List (List Ins)))
    (hf : ∀ c ∈ first, PushesOne c) (hr : ∀ ch ∈ rest, ∀ c ∈ ch, PushesOne c) (h : Nat) :
    runStraight (compileListChunked first rest) h = some (h + 1 + rest.length) := by
  simp only [compileListChunked, runStraight_append, compileList_pushes_one first hf h,
    Option.bind_some]
  exact chunksCode_leaks rest hr h

/-- `k` executions of a statement holding a chunked literal raise the height by
    `k * (number of further chunks)` -/
theorem chunked_stmt_grows (first : List (List Ins)) (rest : List (List (List Ins)))
    (hf : ∀ c ∈ first, PushesOne c) (hr : ∀ ch ∈ rest, ∀ c ∈ ch, PushesOne c) (k h : Nat) :
    repeatRun (stmt (compileListChunked first rest)) k h = some (h + k * rest.length) :=
  repeatRun_const _ _ (stmt_height _ _ (compileListChunked_leaks first rest hf hr)) k h

/-! ### Part 2 -/

theorem inTail_effect (h : Nat) : runStraight inTail (h + 2) = some (h + 1) := rfl

/-- **A membership test pushes exactly one value** for every left and right operand that push
    one value each (computed subjects, literal lists of constants: `compileList_pushes_one`). -/
theorem compileIn_pushes_one (l r : List Ins) (hl : PushesOne l) (hr : PushesOne r) :
    PushesOne (compileIn l r) := by
  intro h
  simp only [compileIn, runStraight_append, hl h, hr (h + 1), Option.bind_some]
  exact inTail_effect h

theorem compileNotIn_pushes_one (l r : List Ins) (hl : PushesOne l) (hr : PushesOne r) :
    PushesOne (compileNotIn l r) :=
  (compileIn_pushes_one l r hl hr).unary rfl

/-- membership against a literal list of any length of one-value items -/
theorem in_literal_pushes_one (l : List Ins) (items : List (List Ins)) (hl : PushesOne l)
    (hok : ∀ c ∈ items, PushesOne c) : PushesOne (compileIn l (compileList items)) :=
  compileIn_pushes_one l _ hl (compileList_pushes_one items hok)

/-- **A statement holding a membership test is neutral for every number of executions**, whatever
    the outcome of each test. -/
theorem in_stmt_neutral (l r : List Ins) (hl : PushesOne l) (hr : PushesOne r) (k h : Nat) :
    repeatRun (stmt (compileIn l r)) k h = some h :=
  (compileIn_pushes_one l r hl hr).stmt_neutral k h

theorem notIn_stmt_neutral (l r : List Ins) (hl : PushesOne l) (hr : PushesOne r) (k h : Nat) :
    repeatRun (stmt (compileNotIn l r)) k h = some h :=
  (compileNotIn_pushes_one l r hl hr).stmt_neutral k h

theorem missRound_effect (h : Nat) : runStraight missRound (h + 1) = some (h + 1) := rfl

theorem missRounds_effect (k h : Nat) : runStraight (missRounds k) (h + 1) = some (h + 1) := by
  induction k with
  | zero => simp [missRounds, runStraight]
  | succ k ih => simp only [missRounds, runStraight_append, missRound_effect, Option.bind_some, ih]

/-- **The forbidden chain leaks on an early hit**: with the subject kept on the stack, the path
    on which an item other than the last is the hit ends with TWO values (the subject and the
    boolean), after any number of earlier misses — while the path of the last item ends with
    one: the expression has no single stack effect. -/
theorem keptSubjectHitPath_leaks (subject : List Ins) (hs : PushesOne subject) (misses h : Nat) :
    runStraight (keptSubjectHitPath subject misses) h = some (h + 2) := by
  simp only [keptSubjectHitPath, runStraight_append, hs h, Option.bind_some, missRounds_effect,
    missRound_effect]
  simp [runStraight, Ins.kind]

/-- hypotheses are satisfiable and the leak is real: a literal of 20 constants, alone and in
    chunks of 8 + 8 + 4 (the theorems above hold for every length); `(g % c) in [c, c, c]` -/
example : runStraight (compileList (List.replicate 20 [⟨.loadConst, 0, 0⟩])) 2 = some 3 := by
  decide +kernel
example : runStraight (compileListChunked (List.replicate 8 [⟨.loadConst, 0, 0⟩])
    [List.replicate 8 [⟨.loadConst, 0, 0⟩], List.replicate 4 [⟨.loadConst, 0, 0⟩]]) 2 = some 5 := by
  decide +kernel
example : runStraight (compileIn (Obs.TE.bin .glob .lit).code
    (compileList (List.replicate 3 [⟨.loadConst, 0, 0⟩]))) 0 = some 1 := by decide +kernel

end Risor.C04.Lit
