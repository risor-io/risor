import RisorModel.C04.Host
/-!
C04 over HISTORIES of host invocations on one VM (model: Host.lean).  Every theorem quantifies
over all histories (any length, any mix of Run / RunCode / Call, any outcomes) unless it names
a particular one as a witness.
-/
namespace Risor.C04.Host

theorem runHist_append (cfg : Cfg) (st : St) (h1 h2 : List Inv) :
    runHist cfg st (h1 ++ h2) = runHist cfg (runHist cfg st h1) h2 := by
  simp [runHist, List.foldl_append]

theorem runHist_cons (cfg : Cfg) (st : St) (i : Inv) (h : List Inv) :
    runHist cfg st (i :: h) = runHist cfg (step cfg st i) h := rfl

theorem starts_step (cfg : Cfg) (st : St) (i : Inv) : (step cfg st i).starts = st.starts + 1 := by
  cases i <;> rfl

/-- the reachable-state invariant: sp never goes below the empty stack, and a VM that was never
    started is empty -/
def Good (st : St) : Prop := -1 ≤ st.sp ∧ (st.starts = 0 → st.sp = -1)

theorem good_init : Good init := by simp [Good, init]

theorem callSp_ge (st : St) (o : Outcome) : st.sp ≤ (step cfg st (.call o)).sp := by
  cases o with
  | ok => simp [step]
  | err k => simp [step]
  | panic k => cases k <;> simp only [step] <;> (try split) <;> omega

theorem good_step (cfg : Cfg) (hc : cfg.resetSp = -1) (st : St) (i : Inv) (hg : Good st) :
    Good (step cfg st i) := by
  obtain ⟨h1, _⟩ := hg
  refine ⟨?_, fun h => by rw [starts_step] at h; omega⟩
  cases i with
  | runCode c o =>
    simp only [step]
    have : (0 : Int) ≤ (o.left : Int) := Int.natCast_nonneg _
    split <;> omega
  | run f o =>
    simp only [step]
    have : (0 : Int) ≤ (o.left : Int) := Int.natCast_nonneg _
    cases f <;> simp <;> split <;> omega
  | call o =>
    have := callSp_ge (cfg := cfg) st o
    omega

theorem good_runHist (cfg : Cfg) (hc : cfg.resetSp = -1) :
    ∀ (h : List Inv) (st : St), Good st → Good (runHist cfg st h) := by
  intro h
  induction h with
  | nil => intro st hg; exact hg
  | cons i h ih => intro st hg; exact ih _ (good_step cfg hc st i hg)

/-- RunCode on a reachable state, the code as it is: the stack holds exactly what THIS
    evaluation leaves above an empty stack; fp is 0 -/
theorem runCode_step_exact (st : St) (hg : Good st) (c : Nat) (o : Outcome) :
    (step implCfg st (.runCode c o)).sp = -1 + o.left ∧ (step implCfg st (.runCode c o)).fp = 0 := by
  obtain ⟨_, h0⟩ := hg
  refine ⟨?_, rfl⟩
  simp only [step, implCfg, Bool.true_or, Bool.and_true]
  split
  · rfl
  · rename_i hn
    have : st.starts = 0 := by
      simp at hn; omega
    rw [h0 this]

/-- Run on a reachable state, the code as it is -/
theorem run_step_exact (st : St) (hg : Good st) (f : Bool) (o : Outcome) :
    (step implCfg st (.run f o)).sp = -1 + (if f then (o.left : Int) else 0) ∧
      (step implCfg st (.run f o)).fp = 0 := by
  obtain ⟨h1, _⟩ := hg
  refine ⟨?_, rfl⟩
  simp only [step, implCfg, Bool.true_and]
  split
  · rfl
  · rename_i hn
    have : st.sp = -1 := by
      simp at hn; omega
    rw [this]

/-- **invocation_leaves_result_only** — after ANY history of invocations on a fresh VM (any
    length, any outcomes, panicking Calls included) a finished RunCode of any
    code object — the same as before, another one, the main code — leaves sp = 0 and fp = 0:
    exactly its result; so does a Run that had code to run; a Run with nothing new leaves the
    stack empty. -/
theorem invocation_leaves_result_only (h : List Inv) :
    (∀ c, (runHist implCfg init (h ++ [.runCode c .ok])).sp = 0 ∧
          (runHist implCfg init (h ++ [.runCode c .ok])).fp = 0) ∧
    ((runHist implCfg init (h ++ [.run true .ok])).sp = 0) ∧
    ((runHist implCfg init (h ++ [.run false .ok])).sp = -1) := by
  have hg := good_runHist implCfg rfl h init good_init
  refine ⟨fun c => ?_, ?_, ?_⟩
  · rw [runHist_append]
    exact runCode_step_exact _ hg c .ok
  · rw [runHist_append]
    exact (run_step_exact _ hg true .ok).1
  · rw [runHist_append]
    exact (run_step_exact _ hg false .ok).1

/-- an abandoned evaluation (error, cancelled context, recovered panic) leaves its own k operands
    and nothing of the history; the next RunCode / Run starts from the empty stack again -/
theorem failed_invocation_leaves_own_operands (h : List Inv) (c : Nat) (o : Outcome) :
    (runHist implCfg init (h ++ [.runCode c o])).sp = -1 + o.left := by
  rw [runHist_append]
  exact (runCode_step_exact _ (good_runHist implCfg rfl h init good_init) c o).1

/-- Call hands its result to the host: whatever its outcome — finished, error, cancelled, a
    recovered panic with any number of operands pending — it leaves sp and fp as they were
    (every configuration whose callFunction cleans up on every exit; the code as it is: implCfg) -/
theorem call_neutral (cfg : Cfg) (hc : cfg.callCleans = true) (st : St) (o : Outcome) :
    (step cfg st (.call o)).sp = st.sp ∧ (step cfg st (.call o)).fp = st.fp := by
  refine ⟨?_, rfl⟩
  cases o with
  | ok => rfl
  | err k => rfl
  | panic k =>
    cases k with
    | zero => rfl
    | succ k => simp [step, hc]

/-- the code as it is meets the Spec at every step of every history, whatever the invocation and
    its outcome: same sp, same fp (no guard since the repair of C04-call-panic-leaks-slot) -/
theorem impl_meets_spec (st : St) (hg : Good st) (i : Inv) :
    (step implCfg st i).sp = (specStep st i).sp ∧ (step implCfg st i).fp = (specStep st i).fp := by
  cases i with
  | runCode c o => exact ⟨(runCode_step_exact st hg c o).1, rfl⟩
  | run f o => exact ⟨(run_step_exact st hg f o).1, rfl⟩
  | call o => exact call_neutral implCfg rfl st o

def maxPending (h : List Inv) : Nat := h.foldl (fun m i => max m i.pending) 0

/-- the full claim: whatever the history, the stack never holds more than one result or the
    operands ONE failed invocation abandoned -/
def Host_fullFor (cfg : Cfg) : Prop :=
  ∀ (h : List Inv) (B : Nat), 1 ≤ B → (∀ i ∈ h, i.pending ≤ B) → (runHist cfg init h).sp + 1 ≤ B

/-- the full claim about the code as it is -/
def Host_full : Prop := Host_fullFor implCfg

theorem bounded_step (st : St) (B : Nat) (hB : 1 ≤ B) (hg : Good st) (hs : st.sp + 1 ≤ B)
    (i : Inv) (hp : i.pending ≤ B) : (step implCfg st i).sp + 1 ≤ B := by
  cases i with
  | runCode c o =>
    rw [(runCode_step_exact st hg c o).1]
    cases o <;> simp only [Outcome.left, Inv.pending] at * <;> omega
  | run f o =>
    rw [(run_step_exact st hg f o).1]
    cases f <;> cases o <;> simp only [Outcome.left, Inv.pending, if_true, if_false, Bool.false_eq_true] at * <;> omega
  | call o =>
    rw [(call_neutral implCfg rfl st o).1]; exact hs

/-- **sp_bounded_over_histories** — for EVERY history (no guard: panicking Calls included since
    the repair of C04-call-panic-leaks-slot): sp + 1 ≤ max 1 (the most operands one failed
    invocation abandoned).  The NUMBER of invocations does not occur in the bound: capacity is
    never exhausted by repetition. -/
theorem sp_bounded_over_histories (h : List Inv) (B : Nat) (hB : 1 ≤ B)
    (hp : ∀ i ∈ h, i.pending ≤ B) :
    (runHist implCfg init h).sp + 1 ≤ B := by
  suffices ∀ (h : List Inv) (st : St), Good st → st.sp + 1 ≤ B → (∀ i ∈ h, i.pending ≤ B) →
      (runHist implCfg st h).sp + 1 ≤ B by
    exact this h init good_init (by simp [init]) hp
  intro h
  induction h with
  | nil => intro st _ hs _; exact hs
  | cons i h ih =>
    intro st hg hs hp
    rw [runHist_cons]
    apply ih _ (good_step implCfg rfl st i hg)
    · exact bounded_step st B hB hg hs i (hp i (List.mem_cons_self ..))
    · intro j hj; exact hp j (List.mem_cons_of_mem _ hj)

/-- finished invocations only: sp ≤ 0 after every history — at most the one result -/
theorem sp_le_zero_finished (h : List Inv) (hp : ∀ i ∈ h, i.pending = 0) :
    (runHist implCfg init h).sp ≤ 0 := by
  have := sp_bounded_over_histories h 1 (Nat.le_refl 1) (fun i hi => by rw [hp i hi]; omega)
  omega

/-! ### the contrasts: what grows with the number of invocations -/

theorem skip_step_loaded (st : St) (c : Nat) (hl : c ∈ st.loaded) :
    step skipResetCfg st (.runCode c .ok) = ⟨st.sp + 1, 0, st.starts + 1, st.loaded⟩ := by
  simp [step, skipResetCfg, hl, insertCode, Outcome.left]

theorem skip_loaded_grows (c : Nat) : ∀ (n : Nat) (st : St), c ∈ st.loaded →
    (runHist skipResetCfg st (List.replicate n (.runCode c .ok))).sp = st.sp + n := by
  intro n
  induction n with
  | zero => intro st _; simp [runHist]
  | succ n ih =>
    intro st hl
    rw [List.replicate_succ, runHist_cons, skip_step_loaded st c hl, ih _ (by exact hl)]
    simp only [Int.natCast_add, Int.natCast_one]; omega

/-- **skip_reset_grows** — the variant that skips resetForNewCode when the code object is loaded
    already: after n RunCodes of the SAME code object on a fresh VM, n values are on the stack
    (sp = n - 1): one slot per invocation, for every n and every code object. -/
theorem skip_reset_grows (c : Nat) (n : Nat) :
    (runHist skipResetCfg init (List.replicate (n + 1) (.runCode c .ok))).sp = n := by
  rw [List.replicate_succ, runHist_cons]
  have h1 : step skipResetCfg init (.runCode c .ok) = ⟨0, 0, 1, [c]⟩ := by
    simp [step, skipResetCfg, init, insertCode, Outcome.left]
  rw [h1, skip_loaded_grows c n _ (by simp)]
  simp

/-- the same variant exhausts ANY capacity: no bound holds over histories of finished invocations -/
theorem skip_reset_unbounded (B : Nat) :
    ∃ h : List Inv, (∀ i ∈ h, i.pending = 0) ∧ ¬ (runHist skipResetCfg init h).sp + 1 ≤ B := by
  refine ⟨List.replicate (B + 1) (.runCode 7 .ok), ?_, ?_⟩
  · intro i hi; rw [List.eq_of_mem_replicate hi]; rfl
  · rw [skip_reset_grows]; omega

/-- the repaired defect of Run (a Run that keeps the previous result): n fresh Runs leave n values -/
theorem keep_result_grows : ∀ (n : Nat) (st : St),
    (runHist keepResultCfg st (List.replicate n (.run true .ok))).sp = st.sp + n := by
  intro n
  induction n with
  | zero => intro st; simp [runHist]
  | succ n ih =>
    intro st
    rw [List.replicate_succ, runHist_cons, ih]
    simp [step, keepResultCfg, Outcome.left]; omega

/-- **call_panic_grows** — HISTORICAL, the code before the repair (preFixCallCfg, fixed finding
    C04-call-panic-leaks-slot): n Calls of a function that panics with an operand pending leave n
    slots, from every state -/
theorem call_panic_grows (k : Nat) : ∀ (n : Nat) (st : St),
    (runHist preFixCallCfg st (List.replicate n (.call (.panic (k + 1))))).sp = st.sp + n := by
  intro n
  induction n with
  | zero => intro st; simp [runHist]
  | succ n ih =>
    intro st
    rw [List.replicate_succ, runHist_cons, ih]
    simp [step, preFixCallCfg]; omega

/-- **C04_fixed_call_panic_leaked_slot** — HISTORICAL: for callFunction as it was before the
    repair the full claim was false: three panicking Calls that abandon one operand each left
    three slots -/
theorem C04_fixed_call_panic_leaked_slot : ¬ Host_fullFor preFixCallCfg := by
  intro hf
  have h := hf (List.replicate 3 (.call (.panic 1))) 1 (Nat.le_refl 1)
    (fun i hi => by rw [List.eq_of_mem_replicate hi]; simp [Inv.pending])
  rw [call_panic_grows 0 3 init] at h
  simp [init] at h

/-- the full claim holds for the code as it is, for every history, without a guard -/
theorem C04_host_full : Host_full := fun h B hB hp => sp_bounded_over_histories h B hB hp

/-- one invocation keeps the Spec's bound -/
theorem specStep_bounded {B : Nat} (hB : 1 ≤ B) (st : St) (i : Inv) (hs : st.sp + 1 ≤ B) (hpi : i.pending ≤ B) :
    (specStep st i).sp + 1 ≤ B := by
  cases i with
  | runCode c o => cases o <;> simp [specStep, Outcome.left, Inv.pending] at hpi ⊢ <;> omega
  | run f o => cases f <;> cases o <;> simp [specStep, Outcome.left, Inv.pending] at hpi ⊢ <;> omega
  | call o => exact hs

/-- the Spec itself never grows: after every history sp + 1 ≤ max 1 (pending), panicking Calls included -/
theorem spec_bounded (B : Nat) (hB : 1 ≤ B) : ∀ (h : List Inv) (st : St), st.sp + 1 ≤ B →
    (∀ i ∈ h, i.pending ≤ B) → (specHist st h).sp + 1 ≤ B := by
  intro h
  induction h with
  | nil => intro st hs _; exact hs
  | cons i h ih =>
    intro st hs hp
    exact ih (specStep st i) (specStep_bounded hB st i hs (hp i (List.mem_cons_self ..)))
      fun j hj => hp j (List.mem_cons_of_mem _ hj)

/-- `trace` lists exactly the states of the prefixes (what the harness compares step by step) -/
theorem trace_length (f : St → Inv → St) : ∀ (h : List Inv) (st : St), (trace f st h).length = h.length := by
  intro h
  induction h with
  | nil => intro st; rfl
  | cons i h ih => intro st; simp [trace, ih]

theorem trace_last (f : St → Inv → St) : ∀ (h : List Inv) (st : St) (i : Inv),
    (trace f st (h ++ [i])).getLast? = some (f (h.foldl f st) i) := by
  intro h
  induction h with
  | nil => intro st i; simp [trace]
  | cons j h ih =>
    intro st i
    have := ih (f st j) i
    simp only [List.cons_append, trace, List.foldl_cons]
    rw [List.getLast?_cons, this]; rfl

/-! non-vacuity: the hypotheses are satisfiable and the machine computes -/
example : guardHist [.runCode 1 .ok, .call .ok, .runCode 1 (.err 2), .call (.panic 0), .run true .ok] = true := by decide +kernel
example : (runHist implCfg init [.runCode 1 .ok, .runCode 1 .ok, .call .ok, .runCode 1 (.err 2), .runCode 2 .ok]).sp = 0 := by decide +kernel
example : (runHist skipResetCfg init [.runCode 1 .ok, .runCode 1 .ok, .runCode 1 .ok]).sp = 2 := by decide +kernel
example : (runHist skipResetCfg init [.runCode 1 .ok, .runCode 2 .ok, .runCode 1 .ok]).sp = 0 := by decide +kernel
example : (runHist implCfg init [.run true .ok, .call (.panic 1), .call (.panic 1)]).sp = 0 := by decide +kernel
example : (runHist preFixCallCfg init [.run true .ok, .call (.panic 1), .call (.panic 1)]).sp = 2 := by decide +kernel

end Risor.C04.Host
